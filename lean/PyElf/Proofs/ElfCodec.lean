/-
  The section and program header structures of `Spec.elfStructs` as closed terms (`shdrFields`, `phdrFields`; size,
  fixed shape) and as codecs in closed form: what `decodeRaw` reports for a record of numbers (both structures, both
  classes) and what `encodeRaw` writes for it (section headers; program headers of class 32).  Then the compression
  header parsed from its twelve or twenty-four bytes (`chdr_parse`) and `_get_string` as the first NUL from an
  offset (`getString_at`).
-/
import PyElf.Spec.ElfStructs
import PyElf.Model.ElfFile
import PyElf.Proofs.Fixed
import PyElf.Proofs.Engine
import PyElf.Proofs.Reads
namespace PyElf.Proofs
open PyElf PyElf.Spec PyElf.Model PyElf.Proofs.Engine

def shdrFields (c : ElfCfg) : ConFields :=
  let le := c.le
  let w := c.cls / 8
  let word := Con.uint 4 le
  let addr := Con.uint w le
  mkFields [f "sh_name" word, f "sh_type" (enumOf word (shTypeTable c.mclass)), f "sh_flags" addr,
            f "sh_addr" addr, f "sh_offset" addr, f "sh_size" addr, f "sh_link" word, f "sh_info" word,
            f "sh_addralign" addr, f "sh_entsize" addr]

theorem shdr_eq (c : ElfCfg) : (elfStructs c).Elf_Shdr = .struct (shdrFields c) := rfl

theorem shdr_sizeof (c : ElfCfg) : (elfStructs c).Elf_Shdr.sizeof = some (16 + 6 * (c.cls / 8)) := by
  rw [shdr_eq]
  simp [shdrFields, mkFields, f, Con.sizeof, ConFields.sizeof, enumOf]
  omega

theorem shdr_fixed (c : ElfCfg) : (elfStructs c).Elf_Shdr.fixed = true := rfl

def phdrFields (c : ElfCfg) : ConFields :=
  let le := c.le
  let w := c.cls / 8
  let word := Con.uint 4 le
  let addr := Con.uint w le
  if c.cls = 32 then
    mkFields [f "p_type" (enumOf word (pTypeTable c.mclass)), f "p_offset" addr, f "p_vaddr" addr, f "p_paddr" addr,
        f "p_filesz" word, f "p_memsz" word, f "p_flags" word, f "p_align" word]
  else
    mkFields [f "p_type" (enumOf word (pTypeTable c.mclass)), f "p_flags" word, f "p_offset" addr, f "p_vaddr" addr,
        f "p_paddr" addr, f "p_filesz" addr, f "p_memsz" addr, f "p_align" addr]

theorem phdr_eq (c : ElfCfg) : (elfStructs c).Elf_Phdr = .struct (phdrFields c) := by
  simp only [elfStructs, phdrFields, st]
  split <;> rfl

theorem phdr_fixed (c : ElfCfg) : (elfStructs c).Elf_Phdr.fixed = true := by
  obtain ⟨le, cls, m, sol, core⟩ := c
  by_cases h : cls = 32
  · subst h; rfl
  · simp only [elfStructs, h]; rfl

theorem phdr_sizeof (c : ElfCfg) :
    (elfStructs c).Elf_Phdr.sizeof = some (if c.cls = 32 then 20 + 3 * (c.cls / 8) else 8 + 6 * (c.cls / 8)) := by
  rw [phdr_eq, Con.sizeof, phdrFields]
  split
  · simp [mkFields, f, enumOf, Con.sizeof, ConFields.sizeof]; omega
  · simp [mkFields, f, enumOf, Con.sizeof, ConFields.sizeof]; omega

theorem encodeRaw_uint_nat (n : Nat) (le : Bool) {v : Nat} (h : v < 256 ^ n) :
    (Con.uint n le).encodeRaw (.int v) = some (encNat le n v) := by
  have h1 : ((v : Nat) : Int) < ((256 ^ n : Nat) : Int) := Int.ofNat_lt.2 h
  rw [Int.natCast_pow] at h1
  have h0 : (0 : Int) ≤ v := Int.natCast_nonneg v
  rw [Con.encodeRaw, if_pos ⟨h0, h1⟩, Int.toNat_natCast]

theorem decodeRaw_enum_pass (env : Env) (sub : Con) (t : String) (ctx : Fields) (k : Nat) :
    Con.decodeRaw env (.enum sub t true) ctx (.int (k : Int)) = .ok (enumVal env.enumDecode t k) := by
  rw [Con.decodeRaw]; unfold enumVal
  cases env.enumDecode t (k : Int) <;> rfl

def shdrRaw (nm ty fl ad off sz ln inf al es : Nat) : Fields :=
  [("sh_name", .int nm), ("sh_type", .int ty), ("sh_flags", .int fl), ("sh_addr", .int ad), ("sh_offset", .int off),
   ("sh_size", .int sz), ("sh_link", .int ln), ("sh_info", .int inf), ("sh_addralign", .int al), ("sh_entsize", .int es)]

theorem shdr_decodeRaw (env : Env) (c : ElfCfg) (ctx : Fields) (nm ty fl ad off sz ln inf al es : Nat) :
    (elfStructs c).Elf_Shdr.decodeRaw env ctx (.record (shdrRaw nm ty fl ad off sz ln inf al es))
      = .ok (.record [("sh_name", .int nm), ("sh_type", enumVal env.enumDecode (shTypeTable c.mclass) ty),
          ("sh_flags", .int fl), ("sh_addr", .int ad), ("sh_offset", .int off), ("sh_size", .int sz),
          ("sh_link", .int ln), ("sh_info", .int inf), ("sh_addralign", .int al), ("sh_entsize", .int es)]) := by
  simp [elfStructs, st, f, mkFields, enumOf, decodeRaw_enum_pass, Con.decodeRaw, ConFields.decodeRaw, shdrRaw,
    Fields.get?, Fields.set, bind, Except.bind, pure, Except.pure]

theorem shdr_encodeRaw (c : ElfCfg) {nm ty fl ad off sz ln inf al es : Nat}
    (h4 : nm < 256 ^ 4 ∧ ty < 256 ^ 4 ∧ ln < 256 ^ 4 ∧ inf < 256 ^ 4)
    (hw : fl < 256 ^ (c.cls / 8) ∧ ad < 256 ^ (c.cls / 8) ∧ off < 256 ^ (c.cls / 8) ∧ sz < 256 ^ (c.cls / 8) ∧
      al < 256 ^ (c.cls / 8) ∧ es < 256 ^ (c.cls / 8)) :
    (elfStructs c).Elf_Shdr.encodeRaw (.record (shdrRaw nm ty fl ad off sz ln inf al es))
      = some (encNat c.le 4 nm ++ (encNat c.le 4 ty ++ (encNat c.le (c.cls / 8) fl ++ (encNat c.le (c.cls / 8) ad ++
          (encNat c.le (c.cls / 8) off ++ (encNat c.le (c.cls / 8) sz ++ (encNat c.le 4 ln ++ (encNat c.le 4 inf ++
          (encNat c.le (c.cls / 8) al ++ (encNat c.le (c.cls / 8) es ++ [])))))))))) := by
  obtain ⟨a1, a2, a3, a4⟩ := h4
  obtain ⟨b1, b2, b3, b4, b5, b6⟩ := hw
  simp [elfStructs, st, f, mkFields, enumOf, Con.encodeRaw, ConFields.encodeRaw, shdrRaw, Fields.get?,
    encodeRaw_uint_nat, a1, a2, a3, a4, b1, b2, b3, b4, b5, b6]

/-- `encodeRaw` / `decodeRaw` look fields up by key, so this one record is the raw form under both classes; only the
    decoded record has the class's field order (`phdrRaw64` is the same record in `Elf64_Phdr`'s) -/
def phdrRaw (ty off va pa fsz msz fl al : Nat) : Fields :=
  [("p_type", .int ty), ("p_offset", .int off), ("p_vaddr", .int va), ("p_paddr", .int pa), ("p_filesz", .int fsz),
   ("p_memsz", .int msz), ("p_flags", .int fl), ("p_align", .int al)]

theorem phdr_decodeRaw32 (env : Env) (c : ElfCfg) (hc : c.cls = 32) (ctx : Fields) (ty off va pa fsz msz fl al : Nat) :
    (elfStructs c).Elf_Phdr.decodeRaw env ctx (.record (phdrRaw ty off va pa fsz msz fl al))
      = .ok (.record [("p_type", enumVal env.enumDecode (pTypeTable c.mclass) ty), ("p_offset", .int off),
          ("p_vaddr", .int va), ("p_paddr", .int pa), ("p_filesz", .int fsz), ("p_memsz", .int msz),
          ("p_flags", .int fl), ("p_align", .int al)]) := by
  simp [elfStructs, hc, st, f, mkFields, enumOf, decodeRaw_enum_pass, Con.decodeRaw, ConFields.decodeRaw, phdrRaw,
    Fields.get?, Fields.set, bind, Except.bind, pure, Except.pure]

def phdrRaw64 (ty fl off va pa fsz msz al : Nat) : Fields :=
  [("p_type", .int ty), ("p_flags", .int fl), ("p_offset", .int off), ("p_vaddr", .int va), ("p_paddr", .int pa),
   ("p_filesz", .int fsz), ("p_memsz", .int msz), ("p_align", .int al)]

theorem phdr_decodeRaw64 (env : Env) (c : ElfCfg) (hc : c.cls = 64) (ctx : Fields) (ty fl off va pa fsz msz al : Nat) :
    (elfStructs c).Elf_Phdr.decodeRaw env ctx (.record (phdrRaw64 ty fl off va pa fsz msz al))
      = .ok (.record [("p_type", enumVal env.enumDecode (pTypeTable c.mclass) ty), ("p_flags", .int fl),
          ("p_offset", .int off), ("p_vaddr", .int va), ("p_paddr", .int pa), ("p_filesz", .int fsz),
          ("p_memsz", .int msz), ("p_align", .int al)]) := by
  simp [elfStructs, hc, st, f, mkFields, enumOf, decodeRaw_enum_pass, Con.decodeRaw, ConFields.decodeRaw, phdrRaw64,
    Fields.get?, Fields.set, bind, Except.bind, pure, Except.pure]

theorem phdr_encodeRaw32 (c : ElfCfg) (hc : c.cls = 32) {ty off va pa fsz msz fl al : Nat}
    (h : ty < 256 ^ 4 ∧ off < 256 ^ 4 ∧ va < 256 ^ 4 ∧ pa < 256 ^ 4 ∧ fsz < 256 ^ 4 ∧ msz < 256 ^ 4 ∧ fl < 256 ^ 4 ∧
      al < 256 ^ 4) :
    (elfStructs c).Elf_Phdr.encodeRaw (.record (phdrRaw ty off va pa fsz msz fl al))
      = some (encNat c.le 4 ty ++ (encNat c.le 4 off ++ (encNat c.le 4 va ++ (encNat c.le 4 pa ++
          (encNat c.le 4 fsz ++ (encNat c.le 4 msz ++ (encNat c.le 4 fl ++ (encNat c.le 4 al ++ [])))))))) := by
  obtain ⟨a1, a2, a3, a4, a5, a6, a7, a8⟩ := h
  simp [elfStructs, hc, st, f, mkFields, enumOf, Con.encodeRaw, ConFields.encodeRaw, phdrRaw, Fields.get?,
    encodeRaw_uint_nat, a1, a2, a3, a4, a5, a6, a7, a8]

theorem chdr_parse (env : Env) (c : ElfCfg) (hc : c.cls = 32 ∨ c.cls = 64) {data rest : Bytes} {pos t sz al : Nat}
    (ht : t < 2 ^ 32) (hs : sz < 2 ^ c.cls) (ha : al < 2 ^ c.cls)
    (hd : data.drop pos
      = (if c.cls = 64 then encNat c.le 4 t ++ encNat c.le 4 0 ++ encNat c.le 8 sz ++ encNat c.le 8 al
         else encNat c.le 4 t ++ encNat c.le 4 sz ++ encNat c.le 4 al) ++ rest) :
    ∃ v, structParse env (elfStructs c).Elf_Chdr data pos = .ok (v, pos + (if c.cls = 64 then 24 else 12)) ∧
      v.getField "ch_type" = .ok (enumVal env.enumDecode "ENUM_ELFCOMPRESS_TYPE" t) ∧
      v.getField "ch_size" = .ok (.int sz) ∧ v.getField "ch_addralign" = .ok (.int al) ∧
      (elfStructs c).Elf_Chdr.sizeof = some (if c.cls = 64 then 24 else 12) := by
  obtain ⟨le, cls, m, sol, core⟩ := c
  simp only at hc hs ha hd ⊢
  rcases hc with rfl | rfl
  · have hS : (elfStructs ⟨le, 32, m, sol, core⟩).Elf_Chdr
        = .struct (.cons (some "ch_type") false (.enum (.uint 4 le) "ENUM_ELFCOMPRESS_TYPE" true)
            (.cons (some "ch_size") false (.uint 4 le) (.cons (some "ch_addralign") false (.uint 4 le) .nil))) := by
      simp [elfStructs, st, f, mkFields, enumOf]
    have h0 : data.drop pos = encNat le 4 t ++ (encNat le 4 sz ++ (encNat le 4 al ++ rest)) := by
      rw [hd]; simp [List.append_assoc]
    refine ⟨.record [("ch_type", enumVal env.enumDecode "ENUM_ELFCOMPRESS_TYPE" t), ("ch_size", .int sz),
      ("ch_addralign", .int al)], ?_, rfl, rfl, rfl, by rw [hS]; rfl⟩
    rw [hS]
    exact (ReadsF.struct (.named (Reads.enum_pass (Reads.uint (by omega))) <| .named (Reads.uint (by omega)) <|
      .named (Reads.uint (by omega)) .nil) (by simp [Fields.set])).structParse h0
  · have hS : (elfStructs ⟨le, 64, m, sol, core⟩).Elf_Chdr
        = .struct (.cons (some "ch_type") false (.enum (.uint 4 le) "ENUM_ELFCOMPRESS_TYPE" true)
            (.cons (some "ch_reserved") false (.uint 4 le)
            (.cons (some "ch_size") false (.uint 8 le) (.cons (some "ch_addralign") false (.uint 8 le) .nil)))) := by
      simp [elfStructs, st, f, mkFields, enumOf]
    have h0 : data.drop pos = encNat le 4 t ++ (encNat le 4 0 ++ (encNat le 8 sz ++ (encNat le 8 al ++ rest))) := by
      rw [hd]; simp [List.append_assoc]
    refine ⟨.record [("ch_type", enumVal env.enumDecode "ENUM_ELFCOMPRESS_TYPE" t), ("ch_reserved", .int (0 : Nat)),
      ("ch_size", .int sz), ("ch_addralign", .int al)], ?_, rfl, rfl, rfl, by rw [hS]; rfl⟩
    rw [hS]
    exact (ReadsF.struct (.named (Reads.enum_pass (Reads.uint (by omega))) <| .named (Reads.uint (by omega)) <|
      .named (Reads.uint (by omega)) <| .named (Reads.uint (by omega)) .nil) (by simp [Fields.set])).structParse h0

/-- `get_string(off)` answers `''` both for an empty string and when no NUL follows -/
theorem getString_at (file : Bytes) {st : Val} {toff : Nat} (off : Nat) (h : st.getNat "sh_offset" = .ok toff) :
    Model.getString file st off =
      if 2 ^ 63 ≤ toff + off then .error .overflowError else .ok ((firstNul (file.drop (toff + off))).getD []) := by
  unfold Model.getString
  simp only [h, bind, Except.bind]
  by_cases hp : 2 ^ 63 ≤ toff + off
  · rw [if_pos hp, parseCStringAt_big hp]
  · rw [if_neg hp, parseCStringAt_eq (by omega)]
    cases firstNul (file.drop (toff + off)) <;> rfl

end PyElf.Proofs
