/-
  Python's `&`, `>>` with a contiguous mask on a natural number: the field of `j` bits at bit `k` of `w` is
  `w / 2^k % 2^j`.
-/
import PyElf.Proofs.Values
namespace PyElf.Proofs.BitFields
open PyElf PyElf.Proofs.Engine

theorem and_shl_mask (w j k : Nat) : w &&& ((2 ^ j - 1) <<< k) = (w / 2 ^ k % 2 ^ j) * 2 ^ k := by
  rw [← Nat.and_two_pow_sub_one_eq_mod, ← Nat.shiftLeft_eq, ← Nat.shiftRight_eq_div_pow]
  apply Nat.eq_of_testBit_eq
  intro i
  simp only [Nat.testBit_and, Nat.testBit_shiftLeft, Nat.testBit_shiftRight]
  by_cases h : k ≤ i
  · simp [h, Nat.add_sub_cancel' h]
  · simp [h]

/-- `w & (ones(j) << k)` -/
theorem land_field (w j k : Nat) :
    PyInt.land (w : Int) (((2 ^ j - 1) <<< k : Nat) : Int) = ((w / 2 ^ k % 2 ^ j * 2 ^ k : Nat) : Int) := by
  rw [land_nat, and_shl_mask]

/-- `w & ones(j)` -/
theorem land_low (w j : Nat) : PyInt.land (w : Int) ((2 ^ j - 1 : Nat) : Int) = ((w % 2 ^ j : Nat) : Int) := by
  rw [land_nat, Nat.and_two_pow_sub_one_eq_mod]

/-- `(w & (ones(j) << k)) >> k` -/
theorem shr_land_field (w j k : Nat) :
    PyInt.shr (PyInt.land (w : Int) (((2 ^ j - 1) <<< k : Nat) : Int)) k = ((w / 2 ^ k % 2 ^ j : Nat) : Int) := by
  rw [land_field, shr_nat, Nat.mul_div_cancel _ (Nat.two_pow_pos k)]

/-- `(w >> k) & ones(j)` -/
theorem land_shr_field (w j k : Nat) :
    PyInt.land (PyInt.shr (w : Int) k) ((2 ^ j - 1 : Nat) : Int) = ((w / 2 ^ k % 2 ^ j : Nat) : Int) := by
  rw [shr_nat, land_low]

theorem field_add_hi {hi lo k : Nat} (hlo : lo < 2 ^ k) (i j : Nat) :
    (hi * 2 ^ k + lo) / 2 ^ (k + i) % 2 ^ j = hi / 2 ^ i % 2 ^ j := by
  rw [Nat.pow_add, ← Nat.div_div_eq_div_mul, Nat.add_comm, Nat.add_mul_div_right _ _ (Nat.two_pow_pos k),
    Nat.div_eq_of_lt hlo, Nat.zero_add]

theorem field_add_lo {hi lo k i j : Nat} (h : i + j ≤ k) :
    (hi * 2 ^ k + lo) / 2 ^ i % 2 ^ j = lo / 2 ^ i % 2 ^ j := by
  have e : hi * 2 ^ k = 2 ^ i * 2 ^ j * (hi * 2 ^ (k - (i + j))) := by
    rw [← Nat.pow_add, Nat.mul_left_comm, ← Nat.pow_add, Nat.add_sub_cancel' h]
  rw [← Nat.mod_mul_right_div_self, ← Nat.mod_mul_right_div_self lo, e, Nat.mul_add_mod]

theorem word_bytes {a b c d : Nat} (ha : a < 256) (hb : b < 256) (hc : c < 256) (hd : d < 256) :
    (a * 2 ^ 24 + b * 2 ^ 16 + c * 2 ^ 8 + d) / 2 ^ 24 % 2 ^ 8 = a ∧
    (a * 2 ^ 24 + b * 2 ^ 16 + c * 2 ^ 8 + d) / 2 ^ 16 % 2 ^ 8 = b ∧
    (a * 2 ^ 24 + b * 2 ^ 16 + c * 2 ^ 8 + d) / 2 ^ 8 % 2 ^ 8 = c ∧
    (a * 2 ^ 24 + b * 2 ^ 16 + c * 2 ^ 8 + d) / 2 ^ 0 % 2 ^ 8 = d := by
  rw [Nat.add_assoc, Nat.add_assoc]
  refine ⟨?_, ?_, ?_, ?_⟩
  · rw [field_add_hi (lo := b * 2 ^ 16 + (c * 2 ^ 8 + d)) (by omega) 0 8, Nat.pow_zero, Nat.div_one, Nat.mod_eq_of_lt ha]
  · rw [field_add_lo (by decide : 16 + 8 ≤ 24), field_add_hi (lo := c * 2 ^ 8 + d) (by omega) 0 8, Nat.pow_zero, Nat.div_one, Nat.mod_eq_of_lt hb]
  · rw [field_add_lo (by decide : 8 + 8 ≤ 24), field_add_lo (by decide : 8 + 8 ≤ 16), field_add_hi (lo := d) hd 0 8, Nat.pow_zero,
      Nat.div_one, Nat.mod_eq_of_lt hc]
  · rw [field_add_lo (by decide : 0 + 8 ≤ 24), field_add_lo (by decide : 0 + 8 ≤ 16), field_add_lo (by decide : 0 + 8 ≤ 8),
      Nat.pow_zero, Nat.div_one, Nat.mod_eq_of_lt hd]

end PyElf.Proofs.BitFields
