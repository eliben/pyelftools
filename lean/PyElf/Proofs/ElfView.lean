/-
  The door from C01 to the whole-file forms of the other properties: what is known, once and for all, of
  `ELFFile(BytesIO(bytes))` when `bytes` carries a well-formed description `d` (`d.wfZ env`, `Layout d bytes`).

  `Setup env d bytes hdr st` (Proofs/ElfSections.lean, where `_make_section` first needs it) is the standing hypothesis
  about the file object `fileOf d bytes hdr st`.  A whole-file theorem is proved by

      obtain ⟨hdr, st, X, -, hopen⟩ := opened hwf hl      -- the file opens as `fileOf d bytes hdr st`; `X : Setup …`
      obtain ⟨h, V⟩ := X.secAt_lt hi                       -- `V : SecAt … i d.sections[i] h`, `h` the decoded header
      V.get / V.get_named / V.offset … / V.drop_body       -- `get_section(i)`, its type, header fields, bytes at `sh_offset`

  after which the section-level theorem applies.  Where a step has no `SecAt` at hand (the file is opened inside a lemma it
  cites), `body_drop hl` is `V.drop_body` from the layout alone.  `SecAt`, the counts `X.numSections` / `X.numSegments` and
  the enumerations `X.iterSections` / `X.iterSegments` are stated in Proofs/ElfFile.lean, where `get_section` is proved.
  Here: the opening; program headers (`X.segAt`, `SegAt`: `wfZ` says nothing of them, so that one decodes is a hypothesis,
  which an observation supplies — `X.segAt_obs`, and conversely `X.observe_ok`); the observation (`X.obs_mem`);
  `get_section_by_name` (`X.byName`).

  The hypothesis about the description is a Boolean of the Spec, taken apart before the recipe starts: its `wfZ` conjunct
  is what `opened` asks for, and the predicate "section `i` is …" becomes facts about `d` (`…_unpack`, through
  `secDec_cases` / `sec_cases` of Proofs/ImageOpeners.lean) or, once the file is open, `V` itself (`X.secAt_cases`, there).
  The type-specific clause of `wfZ` for the section (`V.cond`) is read with `secCond_*` of Proofs/ElfSections.lean.  To
  state a theorem through another struct factory than `specSF` / `specMC`, see `Props.C11.opened_of_wfZ` and
  `Props.C01.opened`.
-/
import PyElf.Proofs.ElfFile
import PyElf.Proofs.ElfNameMap
import PyElf.Proofs.ElfCodec
namespace PyElf.Proofs
open PyElf PyElf.Spec PyElf.Model PyElf.Proofs.Engine

theorem body_drop {d : ElfDesc} {bytes : Bytes} (hl : Layout d bytes) {s : SecDesc} (hm : s ∈ d.sections)
    {b : Bytes} (hb : s.body = some b) :
    bytes.drop (getNatD s.hdr "sh_offset") = b ++ bytes.drop (getNatD s.hdr "sh_offset" + b.length) :=
  bodyOf_some hb ▸ body_read_drop (layout_facts hl) hm

namespace C15
/-- the `ElfFile` that `ELFFile(stream)` leaves behind; `st` is its name table, `none` when `e_shstrndx` = SHN_UNDEF -/
def fileOf (d : ElfDesc) (bytes : Bytes) (hdr : Val) (st : Option Val) : ElfFile :=
  { data := bytes, cls := d.cls, le := d.le, S := d.S, header := hdr, shstr := st }
end C15
open C15 (fileOf)

section
variable {env : Env} {d : ElfDesc} {bytes : Bytes} {hdr : Val} {st : Option Val}

theorem opened (hwf : d.wfZ env = true) (hl : Layout d bytes) :
    ∃ hdr st, Setup env d bytes hdr st ∧ d.S.Elf_Ehdr.decodeRaw env [] d.ehdrRaw = .ok hdr ∧
      openElf env specSF specMC bytes = .ok (fileOf d bytes hdr st) := by
  have hw := wfZ_facts hwf
  have hL := layout_facts hl
  obtain ⟨hdr, hd⟩ := ehdr_decodes_of_cfgOk hw.cfg
  obtain ⟨eh, he, -⟩ := hL.ehdr
  obtain ⟨st, hst, ho⟩ := openElf_of hw.cls hw.cfg hw.tab (fun hz => by
    rcases hw.shpos with h | h
    · exact absurd (hw.noshstr h) hz
    · exact hw.secs _ h.2) hL hd
  exact ⟨hdr, st, ⟨hw, hL, hdr_facts he hd, hst⟩, hd, ho⟩

theorem opened_obs {obs : ElfObs} (hwf : d.wfZ env = true) (hl : Layout d bytes) (ho : d.observe env = .ok obs) :
    ∃ st, Setup env d bytes obs.header st ∧ openElf env specSF specMC bytes = .ok (fileOf d bytes obs.header st) := by
  obtain ⟨hdr, st, X, hd, hopen⟩ := opened hwf hl
  rw [(observe_inv ho).1] at hd
  cases hd
  exact ⟨st, X, hopen⟩

theorem opened_eq {f : ElfFile} (hwf : d.wfZ env = true) (hl : Layout d bytes)
    (hf : openElf env specSF specMC bytes = .ok f) :
    ∃ hdr st, Setup env d bytes hdr st ∧ f = fileOf d bytes hdr st := by
  obtain ⟨hdr, st, X, -, ho⟩ := opened hwf hl
  rw [ho] at hf
  cases hf
  exact ⟨hdr, st, X, rfl⟩

structure SegAt (env : Env) (d : ElfDesc) (bytes : Bytes) (hdr : Val) (st : Option Val) (j : Nat) (p : Fields) (ph : Val) :
    Prop where
  mem : d.segments[j]? = some p
  dec : d.S.Elf_Phdr.decodeRaw env [] (.record p) = .ok ph
  fld : ∀ k ∈ phdrNatKeys, ph.getField k = .ok (.int (getNatD p k))
  ty : ph.getField "p_type" = .ok (enumVal env.enumDecode (pTypeTable d.mclass) (getNatD p "p_type"))
  get : getSegment env d.S bytes hdr st j
      = .ok (segKindOf (enumVal env.enumDecode (pTypeTable d.mclass) (getNatD p "p_type")), ph)

theorem Setup.segAt (X : Setup env d bytes hdr st) {j : Nat} {p : Fields} (hp : d.segments[j]? = some p) {ph : Val}
    (hdec : d.S.Elf_Phdr.decodeRaw env [] (.record p) = .ok ph) : SegAt env d bytes hdr st j p ph := by
  obtain ⟨hj, rfl⟩ := List.getElem?_eq_some_iff.1 hp
  obtain ⟨b, hb, -⟩ := X.hL.phdr j hj
  have F := seg_facts hb hdec
  exact ⟨hp, hdec, F.fld, F.ty, getSegment_of X.hw.phent X.hw.phbound X.hL X.hf hj hdec F.ty X.numSections X.find⟩

theorem Setup.segAt_obs (X : Setup env d bytes hdr st) {obs : ElfObs} (ho : d.observe env = .ok obs) {j : Nat} {p : Fields}
    (hp : d.segments[j]? = some p) :
    ∃ ph, SegAt env d bytes hdr st j p ph ∧
      obs.segments[j]? = some (segKindOf (enumVal env.enumDecode (pTypeTable d.mclass) (getNatD p "p_type")), ph) := by
  obtain ⟨hj, rfl⟩ := List.getElem?_eq_some_iff.1 hp
  obtain ⟨hlen, hall⟩ := mapM_ok_inv _ _ _ (observe_inv ho).2.2
  have hj' : j < obs.segments.length := by omega
  obtain ⟨ph, ty, hdec, hty, hr⟩ := obsSeg_eq (hall j hj hj')
  have V := X.segAt hp hdec
  rw [V.ty] at hty
  cases hty
  exact ⟨ph, V, by rw [List.getElem?_eq_getElem hj', hr]⟩

theorem SegAt.nat {j : Nat} {p : Fields} {ph : Val} (V : SegAt env d bytes hdr st j p ph) {k : String} (hk : k ∈ phdrNatKeys) :
    ph.getNat k = .ok (getNatD p k) := Val.getNat_of_getField (V.fld k hk)

theorem SegAt.get_named {j : Nat} {p : Fields} {ph : Val} (V : SegAt env d bytes hdr st j p ph) {v : Nat} {name : String}
    (hraw : Fields.get? p "p_type" = some (.int v))
    (henv : env.enumDecode (pTypeTable d.mclass) v = some name) :
    getSegment env d.S bytes hdr st j = .ok (segKindOf (.str name), ph) := by
  have hv : getNatD p "p_type" = v := by simp [getNatD, hraw]
  rw [V.get, enumVal, hv, henv]

theorem SegAt.offset {j : Nat} {p : Fields} {ph : Val} (V : SegAt env d bytes hdr st j p ph) :
    ph.getNat "p_offset" = .ok (getNatD p "p_offset") := V.nat (by simp [phdrNatKeys])
theorem SegAt.vaddr {j : Nat} {p : Fields} {ph : Val} (V : SegAt env d bytes hdr st j p ph) :
    ph.getNat "p_vaddr" = .ok (getNatD p "p_vaddr") := V.nat (by simp [phdrNatKeys])
theorem SegAt.filesz {j : Nat} {p : Fields} {ph : Val} (V : SegAt env d bytes hdr st j p ph) :
    ph.getNat "p_filesz" = .ok (getNatD p "p_filesz") := V.nat (by simp [phdrNatKeys])

theorem Setup.cls (X : Setup env d bytes hdr st) : d.cls = 32 ∨ d.cls = 64 := X.hw.cls

end

theorem Setup.observe_ok {env : Env} {d : ElfDesc} {bytes : Bytes} {hdr : Val} {st : Option Val}
    (X : Setup env d bytes hdr st) (hd : d.S.Elf_Ehdr.decodeRaw env [] d.ehdrRaw = .ok hdr)
    (hseg : ∀ p ∈ d.segments, ∃ ph, d.S.Elf_Phdr.decodeRaw env [] (.record p) = .ok ph) :
    ∃ obs, d.observe env = .ok obs := by
  refine Proofs.observe_ok ⟨hdr, hd⟩ (fun s hs => ?_) (fun p hp => ?_)
  · obtain ⟨i, hi, rfl⟩ := List.getElem_of_mem hs
    obtain ⟨h, V⟩ := X.secAt_lt hi
    exact ⟨h, _, (decHdr_some V.dec).2, V.ty⟩
  · obtain ⟨j, hj, rfl⟩ := List.getElem_of_mem hp
    obtain ⟨ph, hdec⟩ := hseg _ hp
    exact ⟨ph, _, hdec, (X.segAt (List.getElem?_eq_getElem hj) hdec).ty⟩

theorem Setup.obs_mem {env : Env} {d : ElfDesc} {bytes : Bytes} {hdr : Val} {st : Option Val} {obs : ElfObs}
    (X : Setup env d bytes hdr st) (ho : d.observe env = .ok obs) {r : String × Bytes × Val} (hr : r ∈ obs.sections) :
    ∃ i s h, SecAt env d bytes hdr st i s h ∧
      r = (kindOf (enumVal env.enumDecode (shTypeTable d.mclass) (getNatD s.hdr "sh_type")) s.name, s.name, h) := by
  obtain ⟨i, hi, rfl⟩ := List.getElem_of_mem hr
  have hi' : i < d.sections.length := (observe_lengths ho).1 ▸ hi
  obtain ⟨h, V⟩ := X.secAt_lt hi'
  exact ⟨i, _, h, V, Except.ok.inj ((getSection_obs X ho hi' hi).symm.trans V.get)⟩

/-- The left side is the shape of the Model's `…ByName` readers, `G` what they do with the section number; a reader
    whose `match` has the alternatives in the other order is not an instance (cf. `sec_cases`). -/
theorem Setup.byName {env : Env} {d : ElfDesc} {bytes : Bytes} {hdr : Val} {st : Option Val} {obs : ElfObs}
    (X : Setup env d bytes hdr st) (ho : d.observe env = .ok obs) (name : Bytes) {α : Type} (G : Nat → R α) :
    (do
      let secs ← Model.iterSections env d.S bytes hdr st
      match (sectionNameMap secs).find? (fun (p : Bytes × Nat) => p.1 == name) with
      | none => return none
      | some (_, i) => return some (← G i)) =
      match d.indexOfName name with
      | none => .ok none
      | some i => (G i).map some := by
  simp only [X.iterSections ho, bind, Except.bind, ← lookup_exact_aux ho name]
  cases (sectionNameMap obs.sections).find? (fun (p : Bytes × Nat) => p.1 == name) with
  | none => rfl
  | some p => dsimp only [Option.map]; cases G p.2 <;> rfl

end PyElf.Proofs
