/-
  `DecodedCallFrameTable.reg_order` (the model's `Decoded.regOrder`) is the Spec's `regOrder`:
  the registers named by register-rule instructions, in order of first appearance (CIE's instructions first).
-/
import PyElf.Proofs.CfiTable
namespace PyElf.Proofs.Cfi
open PyElf PyElf.Spec PyElf.Model PyElf.Proofs PyElf.Proofs.Engine

def ordStep (order : List Nat) (i : Cfa) : List Nat :=
  match i.ruleReg with
  | some r => addToOrder order r
  | none => order

def Eff.ruleReg : Eff → Option Nat
  | .reg r _ | .restore r => some r
  | _ => none

theorem ruleReg_eff (caf daf : Int) (i : Cfa) : i.ruleReg = (eff caf daf i).ruleReg := by cases i <;> rfl

theorem lib_order {isFde : Bool} {last : List (Nat × RuleV)} {s s' : DState} (e : Eff) (h : e.lib isFde last s = .ok s') :
    s'.order = match e.ruleReg with | some r => addToOrder s.order r | none => s.order := by
  cases e with
  | restore r =>
    simp only [Eff.lib] at h
    split at h
    · cases h
    · split at h <;> (cases h; rfl)
  | recall => simp only [Eff.lib] at h; split at h <;> cases h; rfl
  | _ => cases h; rfl

theorem step_order (asz : Nat) (caf daf : Int) (cieH : Fields)
    (hcaf : Fields.getR cieH "code_alignment_factor" = .ok (.int caf))
    (hdaf : Fields.getR cieH "data_alignment_factor" = .ok (.int daf))
    (isFde : Bool) (last : List (Nat × RuleV)) (s s' : DState) (i : Cfa) (hwf : i.wf asz = true)
    (h : decodeStep Spec.cfiTables isFde last cieH s (toInstr i) = .ok s') : s'.order = ordStep s.order i := by
  rw [decodeStep_eq asz caf daf cieH hcaf hdaf isFde last s i hwf] at h
  rw [ordStep, ruleReg_eff caf daf]
  exact lib_order _ h

theorem loop_order (asz : Nat) (caf daf : Int) (cieH : Fields)
    (hcaf : Fields.getR cieH "code_alignment_factor" = .ok (.int caf))
    (hdaf : Fields.getR cieH "data_alignment_factor" = .ok (.int daf))
    (isFde : Bool) (last : List (Nat × RuleV)) (is : List Cfa) : ∀ (s s' : DState), (∀ i ∈ is, i.wf asz = true) →
    decodeLoop Spec.cfiTables isFde last cieH s (is.map toInstr) = .ok s' → s'.order = is.foldl ordStep s.order := by
  induction is with
  | nil =>
    intro s s' _ h
    simp only [List.map_nil, decodeLoop, Except.ok.injEq] at h
    subst h; rfl
  | cons i is ih =>
    intro s s' hwf h
    simp only [List.map_cons, decodeLoop, bind, Except.bind] at h
    cases h1 : decodeStep Spec.cfiTables isFde last cieH s (toInstr i) with
    | error e => rw [h1] at h; cases h
    | ok s1 =>
      rw [h1] at h
      have := step_order asz caf daf cieH hcaf hdaf isFde last s s1 i (hwf i (List.mem_cons_self ..)) h1
      rw [List.foldl_cons, ← this]
      exact ih s1 s' (fun j hj => hwf j (List.mem_cons_of_mem _ hj)) h

theorem foldl_ordStep (is : List Cfa) : ∀ seen : List Nat,
    is.foldl ordStep seen = (is.filterMap Cfa.ruleReg).foldl addToOrder seen := by
  induction is with
  | nil => intro seen; rfl
  | cons i is ih =>
    intro seen
    rw [List.foldl_cons, ih, List.filterMap_cons]
    unfold ordStep
    cases Cfa.ruleReg i <;> rfl

theorem foldl_addToOrder (rs : List Nat) : ∀ seen : List Nat,
    rs.foldl addToOrder seen = seen ++ (firstOccurrences rs).filter (fun x => !seen.contains x) := by
  -- generalised over what has been seen: the fold appends the first occurrences that are new; at each step the two
  -- filters (not seen before, not the head) are one
  induction rs with
  | nil => intro seen; simp [firstOccurrences]
  | cons r rs ih =>
    intro seen
    rw [List.foldl_cons, ih, firstOccurrences]
    unfold addToOrder
    by_cases hr : seen.contains r = true
    · simp only [hr, if_true, List.filter_cons, Bool.not_true, Bool.false_eq_true, if_false, List.filter_filter]
      congr 1
      apply List.filter_congr
      intro x _
      by_cases hx : x = r
      · subst hx; simp; exact List.contains_iff_mem.mp hr
      · simp [hx]
    · simp only [hr, Bool.false_eq_true, if_false, List.filter_cons, Bool.not_false, if_true, List.filter_filter,
        List.append_assoc, List.singleton_append]
      congr 2
      apply List.filter_congr
      intro x _
      by_cases hx : x = r
      · subst hx; simp
      · simp [hx, Bool.and_comm]

theorem regOrder_eq_foldl (is : List Cfa) : regOrder is = is.foldl ordStep [] := by
  rw [foldl_ordStep, foldl_addToOrder]
  simp only [regOrder, List.nil_append, List.contains_nil, Bool.not_false]
  exact (List.filter_eq_self.mpr (fun _ _ => rfl)).symm

theorem order_cie (asz : Nat) (caf daf : Int) (h : Fields)
    (hcaf : Fields.getR h "code_alignment_factor" = .ok (.int caf))
    (hdaf : Fields.getR h "data_alignment_factor" = .ok (.int daf))
    (is : List Cfa) (hwf : ∀ i ∈ is, i.wf asz = true) (off : Nat) (ad : Fields) (ab : Bytes) (fmt : Nat) (d : Decoded)
    (hd : decodeTable Spec.cfiTables (.cie h (is.map toInstr) off ad ab fmt) = .ok d) : d.regOrder = regOrder is := by
  simp only [decodeTable, bind, Except.bind, pure, Except.pure] at hd
  split at hd
  · cases hd
  · rename_i s hs
    injection hd with hd; subst hd
    rw [regOrder_eq_foldl, ← loop_order asz caf daf h hcaf hdaf false [] is _ s hwf hs]
    rfl

theorem order_fde (asz : Nat) (caf daf : Int) (hc hf : Fields)
    (hcaf : Fields.getR hc "code_alignment_factor" = .ok (.int caf))
    (hdaf : Fields.getR hc "data_alignment_factor" = .ok (.int daf))
    (cis fis : List Cfa) (hwfc : ∀ i ∈ cis, i.wf asz = true) (hwff : ∀ i ∈ fis, i.wf asz = true)
    (off coff : Nat) (ad : Fields) (ab fab : Bytes) (lsda : Option Int) (fmt cfmt : Nat) (d : Decoded)
    (hd : decodeTable Spec.cfiTables
          (.fde hf (fis.map toInstr) off (.cie hc (cis.map toInstr) coff ad ab cfmt) fab lsda fmt) = .ok d) :
    d.regOrder = regOrder (cis ++ fis) := by
  rw [decodeTable] at hd
  cases hcd : decodeTable Spec.cfiTables (.cie hc (cis.map toInstr) coff ad ab cfmt) with
  | error e => rw [hcd] at hd; cases hd
  | ok cd =>
    have hc1 := order_cie asz caf daf hc hcaf hdaf cis hwfc coff ad ab cfmt cd hcd
    rw [hcd] at hd
    simp only [bind, Except.bind, pure, Except.pure, Entry.header] at hd
    split at hd
    · cases hd
    · split at hd
      · cases hd
      · rename_i s hs
        injection hd with hd; subst hd
        have := loop_order asz caf daf hc hcaf hdaf true _ fis _ s hwff hs
        rw [regOrder_eq_foldl, List.foldl_append, ← regOrder_eq_foldl, ← hc1]
        exact this

theorem mem_firstOccurrences (l : List Nat) (x : Nat) : x ∈ firstOccurrences l ↔ x ∈ l := by
  induction l with
  | nil => simp [firstOccurrences]
  | cons r rs ih =>
    by_cases hx : x = r
    · simp [firstOccurrences, hx]
    · simp [firstOccurrences, hx, ih]

theorem firstOccurrences_nodup (l : List Nat) : (firstOccurrences l).Nodup := by
  induction l with
  | nil => simp [firstOccurrences]
  | cons r rs ih =>
    rw [firstOccurrences, List.nodup_cons]
    exact ⟨by simp, List.Pairwise.filter _ ih⟩

end PyElf.Proofs.Cfi
