/-
  `find_relocations_for_section` over a LIST OF SECTION HEADERS (`Model.Reloc.findRelocations`, the mirror of
  relocation.py taken by itself, with the headers as given values): what it is for headers to be what descriptions
  say (`SecDescribes`, `AllDescribe`) and one step of the lookup against the test of `Spec.RelocDyn.relocSectionFor`.
  It is the header-list twin of `RelocFile.fileFind_spec` (the same loop as the whole-file reader runs it).
  The file continues `namespace PyElf.Proofs.RelocDyn`, where `SecDescribes` and `AllDescribe` have their names from.
-/
import PyElf.Proofs.Reloc
namespace PyElf.Proofs.RelocDyn
open PyElf PyElf.Spec PyElf.Spec.RelocDyn PyElf.Model PyElf.Model.Reloc PyElf.Proofs PyElf.Proofs.Reloc PyElf.Proofs.Engine

def SecDescribes (c : RelCfg) (h : Reloc.SecHdr) (s : RelSecDesc) : Prop :=
  h.name = s.name ∧ h.shOffset = s.offset ∧ h.shSize = s.size ∧ h.shLink = s.link ∧
  match s.rela with
  | some r => h.shType = .str (if r then "SHT_RELA" else "SHT_REL") ∧ h.shEntsize = relEntSize c r
  | none => (h.shType == Val.str "SHT_REL") = false ∧ (h.shType == Val.str "SHT_RELA") = false

theorem SecDescribes.link {c : RelCfg} {h : Reloc.SecHdr} {s : RelSecDesc} (hd : SecDescribes c h s) :
    h.shLink = s.link := hd.2.2.2.1

inductive AllDescribe (c : RelCfg) : List Reloc.SecHdr → List RelSecDesc → Prop
  | nil : AllDescribe c [] []
  | cons {h : Reloc.SecHdr} {s : RelSecDesc} {hs : List Reloc.SecHdr} {ss : List RelSecDesc} :
      SecDescribes c h s → AllDescribe c hs ss → AllDescribe c (h :: hs) (s :: ss)

/-- one step of the lookup; the test is the one `Spec.RelocDyn.relocSectionFor` applies to `s` -/
theorem findRelocations_cons (cfg : ElfCfg) (hcls : cfg.cls = 32 ∨ cfg.cls = 64) (target : String)
    {h : Reloc.SecHdr} {s : RelSecDesc} (hd : SecDescribes (relCfgOf cfg) h s) (rest : List Reloc.SecHdr) :
    findRelocations (Spec.elfStructs cfg) target (h :: rest) =
      if s.rela.isSome && (s.name == ".rel" ++ target || s.name == ".rela" ++ target) then
        .ok (some (h, specTable cfg (some s.offset) s.size (s.rela.getD false)))
      else findRelocations (Spec.elfStructs cfg) target rest := by
  obtain ⟨hn, ho, hsz, -, hty⟩ := hd
  rw [findRelocations]
  cases hr : s.rela with
  | none =>
    rw [hr] at hty
    simp only [hty.1, hty.2, Bool.or_false, Bool.false_eq_true, ↓reduceIte, Option.isSome_none, Bool.false_and]
  | some r =>
    rw [hr] at hty
    have hte : (h.shType == Val.str "SHT_REL" || h.shType == Val.str "SHT_RELA") = true := by
      rw [hty.1, (relTypeName_beq r).1, (relTypeName_beq r).2, Bool.not_or_self]
    rw [if_pos hte, hty.1, ho, hsz, hty.2, relocSectionInit_ok cfg hcls r, hn]
    simp only [bind, Except.bind, Option.isSome_some, Bool.true_and, Bool.or_eq_true, beq_iff_eq, decide_eq_true_eq,
      Option.getD_some]
    rfl

end PyElf.Proofs.RelocDyn
