/-
  `line_program_for_CU` on the units of a whole `.debug_info`.

  The `DWARFInfo` is C04's (`Props.C04.forestDInfo`: the encoded sections of a forest description, regenerated
  registry and struct bundles), `.debug_line` is the encoding of a list of placed line-number programs
  (Spec/LineSection).  C04's end-to-end theorem gives the unit objects with their contexts
  (`debug_info_units`) and the top entry of each (`forest_getTopDIE`, with `infoCtx_S` / `infoCtx_env` at the end of
  Props/C04.lean); from the top entry's attributes the DW_AT_stmt_list value is read off (`lastNamed_attrObs`), the
  program at that offset is parsed with the unit's bundle (`parseFreshX_all`), cached by offset (`LCacheOK`), and
  decoded (`decode_lpOfX`).
-/
import PyElf.Spec.LineSection
import PyElf.Model.LineInfo
import PyElf.Props.C04
import PyElf.Proofs.LineUnit
import PyElf.Proofs.LineDecode
namespace PyElf.Proofs.LineInfo
open PyElf PyElf.Spec PyElf.Spec.Line PyElf.Spec.LineSec PyElf.Model.Line PyElf.Model.LineInfo PyElf.Proofs.Line
open PyElf.Spec.C04 (Forest UnitDesc AttrObs DieObs AttrSpec AttrV Node Names placeInfo infoSec infoUnitOf infoDieOff
  wfForestB attrObs flattenUnit)
open PyElf.Model.C04 (UnitCtx getTopDIE sectionUnits)
open PyElf.Props.C04 (forestDInfo genBundles genNames unitRho infoCtx)
open PyElf.Proofs.Lookup (cuOf forest_getTopDIE infoCtx_S infoCtx_env)

theorem encLineSec_cons (d : LineUnitDesc) (ds : List LineUnitDesc) (tail : Bytes) :
    encLineSec (d :: ds) tail = encLineUnit d ++ encLineSec ds tail := by
  simp [encLineSec, List.append_assoc]

theorem lineSec_split : ∀ (L : List LineUnitDesc) (i : Nat) (d : LineUnitDesc) (tail : Bytes), L[i]? = some d →
    ∃ pre rest, encLineSec L tail = pre ++ d.enc ++ rest ∧ pre.length = lineOff L i := by
  intro L
  induction L with
  | nil => intro i d tail h; simp at h
  | cons d0 ds ih =>
    intro i d tail h
    cases i with
    | zero =>
      simp only [List.getElem?_cons_zero, Option.some.injEq] at h
      subst h
      exact ⟨d0.gap, encLineSec ds tail, by rw [encLineSec_cons, encLineUnit], rfl⟩
    | succ i =>
      simp only [List.getElem?_cons_succ] at h
      obtain ⟨pre, rest, he, hl⟩ := ih i d tail h
      refine ⟨encLineUnit d0 ++ pre, rest, ?_, ?_⟩
      · rw [encLineSec_cons, he]; simp [List.append_assoc]
      · rw [List.length_append, hl, lineOff]

theorem enc_pos (d : LineUnitDesc) : 0 < d.enc.length := by
  rw [LineUnitDesc.enc, encodeUnitX_length, headerSizeX, initLenSize]
  split <;> omega

theorem lineOff_lt : ∀ (L : List LineUnitDesc) (i j : Nat) (d : LineUnitDesc), L[i]? = some d → i < j →
    lineOff L i < lineOff L j := by
  intro L
  induction L with
  | nil => intro i j d h; simp at h
  | cons d0 ds ih =>
    intro i j d h hij
    cases j with
    | zero => omega
    | succ j =>
      cases i with
      | zero =>
        have := enc_pos d0
        simp only [lineOff, encLineUnit, List.length_append]; omega
      | succ i =>
        simp only [List.getElem?_cons_succ] at h
        have := ih i j d h (by omega)
        simp only [lineOff]; omega

theorem lineOff_inj {L : List LineUnitDesc} {i j : Nat} {d d' : LineUnitDesc} (hi : L[i]? = some d)
    (hj : L[j]? = some d') (h : lineOff L i = lineOff L j) : i = j ∧ d = d' := by
  have hij : i = j := by
    rcases Nat.lt_trichotomy i j with hlt | heq | hgt
    · have := lineOff_lt L i j d hi hlt; omega
    · exact heq
    · have := lineOff_lt L j i d' hj hgt; omega
  subst hij
  rw [hi] at hj
  injection hj with hj
  exact ⟨rfl, hj⟩

/-- the described reference against what the dict lookup finds -/
def StmtRel : StmtRef → Option AttrObs → Prop
  | .absent, none => True
  | .at v, some a => a.value = .int (v : Int)
  | .other, some _ => True
  | _, _ => False

/-- the dict lookup against the description, by induction over the attribute specs with both accumulators related
    by `StmtRel`: an attribute named DW_AT_stmt_list replaces the accumulator on both sides (a later one wins, as
    in the dict), any other leaves both alone; a value of a lineptr form is the number read (`hforms`) -/
theorem lastNamed_attrObs (nm : Names) (c : DwarfCfg) (ρ : Val → Val → Val)
    (hname : ∀ k, (nm.at_ k == Val.str "DW_AT_stmt_list") = (k == 0x10))
    (hforms : ∀ k ∈ lineptrForms, ∀ v : Nat, ρ (nm.form k) (.int v) = .int v) :
    ∀ (specs : List AttrSpec) (attrs : List AttrV) (off : Nat) (acc : StmtRef) (acc' : Option AttrObs),
      StmtRel acc acc' →
      StmtRel (stmtRefGo specs attrs acc) (lastNamed (.str "DW_AT_stmt_list") (attrObs nm c ρ off specs attrs) acc') := by
  intro specs
  induction specs with
  | nil => intro attrs off acc acc' h; simpa [stmtRefGo, attrObs, lastNamed] using h
  | cons s ss ih =>
    intro attrs off acc acc' h
    cases attrs with
    | nil => simpa [stmtRefGo, attrObs, lastNamed] using h
    | cons a as =>
      simp only [stmtRefGo, attrObs, lastNamed]
      apply ih
      rw [hname]
      by_cases hk : s.name = 0x10
      · have hb : (s.name == 0x10) = true := by simpa using hk
        rw [if_pos (show s.name = AT_stmt_list from hk)]
        simp only [hb, ↓reduceIte]
        unfold stmtClass
        cases hop : a.op with
        | nat v =>
          simp only
          split
          · rename_i hcond
            simp only [StmtRel, if_neg hcond.1, Spec.C04.rawVal]
            exact hforms _ hcond.2 v
          · trivial
        | _ => trivial
      · have hb : (s.name == 0x10) = false := by simpa using hk
        rw [if_neg (show ¬ s.name = AT_stmt_list from hk)]
        simp only [hb, Bool.false_eq_true, ↓reduceIte]
        exact h

theorem resolve_lineptr (c : DwarfCfg) (secs : Spec.C04.Sections) (b : Spec.C04.Bases) (f : String)
    (hf : f = "DW_FORM_sec_offset" ∨ f = "DW_FORM_data4" ∨ f = "DW_FORM_data8") (v : Int) :
    Spec.C04.resolve c secs b (.str f) (.int v) = some (.int v) := by
  rcases hf with rfl | rfl | rfl <;>
    exact Proofs.C04.resolve_plain c secs b _ v (by decide +kernel) (by decide +kernel) (by decide +kernel)

theorem gen_lineptr_forms (F : Forest) (u : UnitDesc) :
    ∀ k ∈ lineptrForms, ∀ v : Nat, unitRho F u (genNames.form k) (.int v) = .int v := by
  intro k hk v
  have key : ∀ (k : Nat) (f : String), k ∈ Spec.C04.formCodes → Spec.C04.formName k = some f →
      (f = "DW_FORM_sec_offset" ∨ f = "DW_FORM_data4" ∨ f = "DW_FORM_data8") →
      unitRho F u (genNames.form k) (.int v) = .int v := by
    intro k f hmem hfn hf
    -- (for a variable decoder: with the regenerated one in place the unifier would search its tables)
    have hform : ∀ ed, (Proofs.C04.namesOf ed).form k = Proofs.Engine.enumVal ed "ENUM_DW_FORM" k := fun _ => rfl
    rw [hform, Proofs.Engine.enumVal, Props.C04.registry_gen.forms k hmem, hfn]
    simp only [Proofs.C04.rho, resolve_lineptr _ _ _ f hf, Option.getD_some]
  simp only [lineptrForms, List.mem_cons, List.not_mem_nil, or_false] at hk
  rcases hk with rfl | rfl | rfl
  · exact key 0x17 _ (by decide) rfl (Or.inl rfl)
  · exact key 0x06 _ (by decide) rfl (Or.inr (Or.inl rfl))
  · exact key 0x07 _ (by decide) rfl (Or.inr (Or.inr rfl))

theorem forest_stmt_attr (F : Forest) (u : UnitDesc) (off : Nat)
    (hname : ∀ k, (genNames.at_ k == Val.str "DW_AT_stmt_list") = (k == 0x10)) :
    StmtRel (stmtRef u.tree.root)
      (lastNamed (.str "DW_AT_stmt_list")
        (Spec.C04.entryObs genNames (u.cfg F.le) (unitRho F u) off u.tree.root).attrs none) :=
  lastNamed_attrObs genNames (u.cfg F.le) (unitRho F u) hname (gen_lineptr_forms F u) _ _ _ .absent none trivial

/-- what `lineUnitOKB` says of a program of the description (it also asks for `stdLensOK`, the standard's operand
    counts; no proof needs that) -/
structure LineUnitOK (F : Forest) (sup : Option Bytes) (d : LineUnitDesc) : Prop where
  unit : unitWFX d.h (strSecsOf F sup) d.ext d.body = true
  prog : progOK d.h.p d.h.version d.is = true
  le : d.h.p.le = F.le
  /-- a version 5 program finds its string sections -/
  strs : d.h.version < 5 ∨ (F.secs.lineStr.isSome = true ∧ F.secs.str.isSome = true)

structure LinesOK (F : Forest) (L : List LineUnitDesc) (tail : Bytes) (sup : Option Bytes) : Prop where
  unit : ∀ d ∈ L, LineUnitOK F sup d
  refs : ∀ u ∈ F.units, unitLineOKB L u = true
  len : (encLineSec L tail).length < 2 ^ 63
  sup : ∀ b, sup = some b → b.length < 2 ^ 63

theorem LinesOK.of {F : Forest} {L : List LineUnitDesc} {tail : Bytes} {sup : Option Bytes}
    (h : linesOKB F L tail sup = true) : LinesOK F L tail sup := by
  simp only [linesOKB, Bool.and_eq_true, List.all_eq_true, decide_eq_true_eq] at h
  obtain ⟨⟨⟨hL, hU⟩, hlen⟩, hsup⟩ := h
  refine ⟨fun d hd => ?_, hU, hlen, fun b hb => ?_⟩
  · have hd := hL d hd
    simp only [lineUnitOKB, Bool.and_eq_true, Bool.or_eq_true, decide_eq_true_eq] at hd
    obtain ⟨⟨⟨⟨hwfX, _⟩, hprog⟩, hle⟩, hv5⟩ := hd
    exact ⟨hwfX, hprog, hle, hv5⟩
  · rw [hb] at hsup
    simpa using hsup

theorem linesOK_at_ex {F : Forest} {L : List LineUnitDesc} {tail : Bytes} {sup : Option Bytes}
    (h : linesOKB F L tail sup = true) (u : UnitDesc) (hu : u ∈ F.units) (v : Nat) (hst : stmtRef u.tree.root = .at v) :
    ∃ i d, L[i]? = some d ∧ v = lineOff L i ∧ d.h.fmt64 = u.fmt64 ∧ d.h.p.asz = u.asz := by
  have hU := (LinesOK.of h).refs u hu
  unfold unitLineOKB at hU
  rw [hst] at hU
  simp only [List.any_eq_true, List.mem_range] at hU
  obtain ⟨i', _, hi'⟩ := hU
  cases hd' : L[i']? with
  | none => rw [hd'] at hi'; cases hi'
  | some d' =>
    rw [hd'] at hi'
    simp only [Bool.and_eq_true, decide_eq_true_eq] at hi'
    exact ⟨i', d', hd', hi'.1.1, hi'.1.2, hi'.2⟩

theorem linesOK_at {F : Forest} {L : List LineUnitDesc} {tail : Bytes} {sup : Option Bytes}
    (h : linesOKB F L tail sup = true) (u : UnitDesc) (hu : u ∈ F.units) (v : Nat) (hst : stmtRef u.tree.root = .at v)
    (i : Nat) (d : LineUnitDesc) (hd : L[i]? = some d) (hv : v = lineOff L i) :
    d.h.fmt64 = u.fmt64 ∧ d.h.p.asz = u.asz := by
  obtain ⟨i', d', hd', hv', hf⟩ := linesOK_at_ex h u hu v hst
  obtain ⟨rfl, rfl⟩ := lineOff_inj hd' hd (by rw [← hv', hv])
  exact hf

theorem linesOK_not_other {F : Forest} {L : List LineUnitDesc} {tail : Bytes} {sup : Option Bytes}
    (h : linesOKB F L tail sup = true) (u : UnitDesc) (hu : u ∈ F.units) : stmtRef u.tree.root ≠ .other := by
  have hU := (LinesOK.of h).refs u hu
  unfold unitLineOKB at hU
  intro e
  rw [e] at hU
  cases hU

theorem secsView_of (F : Forest) (sup : Option Bytes) (hW : Proofs.C04.WfForest genNames F)
    (hls : F.secs.lineStr.isSome = true) (hs : F.secs.str.isSome = true) (hsup : ∀ b, sup = some b → b.length < 2 ^ 63) :
    SecsView (lineSecsOf F.secs (sup.map some)) (strSecsOf F sup) := by
  cases h1 : F.secs.lineStr with
  | none => rw [h1] at hls; cases hls
  | some a =>
    cases h2 : F.secs.str with
    | none => rw [h2] at hs; cases hs
    | some b =>
      have ha := hW.secsSmall a (Or.inr (Or.inl h1))
      have hb := hW.secsSmall b (Or.inl h2)
      refine ⟨?_, ?_, ?_, ?_, ?_, ?_⟩
      · simp [lineSecsOf, strSecsOf, h1]
      · simp [lineSecsOf, strSecsOf, h2]
      · intro x hx
        have : sup = some x := hx
        simp [lineSecsOf, this]
      · simp only [strSecsOf, h1, Option.getD_some, ssizeMax]; omega
      · simp only [strSecsOf, h2, Option.getD_some, ssizeMax]; omega
      · intro x hx
        have := hsup x hx
        simp only [ssizeMax]; omega

theorem parseAt_int (L : LineWorld) (U : UnitCtx) (cache : LCache) (v : Nat) :
    parseAt L U cache (.int (v : Int)) = parseAtNat L U cache v := by
  have : ¬ ((v : Int) < 0) := by omega
  simp [parseAt, Val.asInt, this]

/-- the line-program side of the `DWARFInfo` on the encoded `.debug_line`; `sup`: the `.debug_str` of an attached
    supplementary object -/
def lineWorld (L : List LineUnitDesc) (tail : Bytes) (sup : Option Bytes) : LineWorld :=
  { line := some (encLineSec L tail), sup := sup.map some }

/-- `x` is the `LineProgram` object of program `i` (= `d`) of the section: header, extent, and the `structs` of
    a unit the program fits -/
def LPIs (F : Forest) (L : List LineUnitDesc) (sup : Option Bytes) (i : Nat) (d : LineUnitDesc) (x : LP) : Prop :=
  x.lp = lpOfX d.h (strSecsOf F sup) d.ext d.body (lineOff L i)
    ∧ ∃ c : DwarfCfg, x.S = Spec.dwarfStructs c ∧ d.h.p.le = c.le ∧ d.h.p.asz = c.asz

/-- invariant of `_linetable_cache`: under an offset lies the object of the program at that offset -/
def LCacheOK (F : Forest) (L : List LineUnitDesc) (sup : Option Bytes) (cache : LCache) : Prop :=
  ∀ o x, (o, x) ∈ cache → ∃ i d, L[i]? = some d ∧ o = lineOff L i ∧ LPIs F L sup i d x

theorem lcacheOK_nil (F : Forest) (L : List LineUnitDesc) (sup : Option Bytes) : LCacheOK F L sup [] := by
  intro o x h; cases h

section
variable (hfull : ∀ c ∈ Spec.allDwarfCfgs, Model.dwarfStructsFor c = some (Spec.dwarfStructs c))
variable (henv : ∀ S, EnvOK (Model.dwarfEnv S))
variable (hname : ∀ k, (genNames.at_ k == Val.str "DW_AT_stmt_list") = (k == 0x10))
include hname

theorem unit_absent (F : Forest) (dasz : Nat) (hdasz : dasz = 4 ∨ dasz = 8) (hwf : wfForestB genNames F = true)
    (W : LineWorld) (p : Nat × UnitDesc) (hp : p ∈ placeInfo F 0 F.units) (hst : stmtRef p.2.tree.root = .absent)
    (cache : LCache) :
    lineProgramForUnit W (infoCtx F dasz p) cache = .ok (none, cache) := by
  have hattr := forest_stmt_attr F p.2 (infoDieOff F p.1 p.2) hname
  rw [hst] at hattr
  unfold lineProgramForUnit
  simp only [forest_getTopDIE F dasz hdasz hwf p hp, bind, Except.bind]
  cases hl : lastNamed (.str "DW_AT_stmt_list")
      (Spec.C04.entryObs genNames (p.2.cfg F.le) (unitRho F p.2) (infoDieOff F p.1 p.2) p.2.tree.root).attrs none with
  | none => rfl
  | some a => rw [hl] at hattr; exact absurd hattr (by simp [StmtRel])

theorem unit_at_eq (F : Forest) (dasz : Nat) (hdasz : dasz = 4 ∨ dasz = 8) (hwf : wfForestB genNames F = true)
    (W : LineWorld) (p : Nat × UnitDesc) (hp : p ∈ placeInfo F 0 F.units) (v : Nat) (hst : stmtRef p.2.tree.root = .at v)
    (cache : LCache) :
    lineProgramForUnit W (infoCtx F dasz p) cache
      = (match parseAtNat W (infoCtx F dasz p) cache v with
         | .error e => .error e
         | .ok (x, c) => .ok (some x, c)) := by
  have hattr := forest_stmt_attr F p.2 (infoDieOff F p.1 p.2) hname
  rw [hst] at hattr
  unfold lineProgramForUnit
  simp only [forest_getTopDIE F dasz hdasz hwf p hp, bind, Except.bind]
  cases hl' : lastNamed (.str "DW_AT_stmt_list")
      (Spec.C04.entryObs genNames (p.2.cfg F.le) (unitRho F p.2) (infoDieOff F p.1 p.2) p.2.tree.root).attrs none with
  | none => rw [hl'] at hattr; exact absurd hattr (by simp [StmtRel])
  | some a =>
    rw [hl'] at hattr
    simp only [StmtRel] at hattr
    simp only [hattr, parseAt_int]
    cases parseAtNat W (infoCtx F dasz p) cache v <;> rfl

theorem unit_cached (F : Forest) (dasz : Nat) (hdasz : dasz = 4 ∨ dasz = 8) (hwf : wfForestB genNames F = true)
    (W : LineWorld) (p : Nat × UnitDesc) (hp : p ∈ placeInfo F 0 F.units) (v : Nat) (hst : stmtRef p.2.tree.root = .at v)
    (cache : LCache) (o : Nat) (x : LP) (hf : cache.find? (·.1 == v) = some (o, x)) :
    lineProgramForUnit W (infoCtx F dasz p) cache = .ok (some x, cache) := by
  rw [unit_at_eq hname F dasz hdasz hwf W p hp v hst cache]
  simp only [parseAtNat, hf]

include hfull henv

/-- on a hit the invariant says which program lies under the offset, and offsets designate at most one
    (`lineOff_inj`); on a miss the section splits at the program (`lineSec_split`), the unit's bundle and
    environment are the Spec's (`infoCtx_S/_env`), and `parseFreshX_all` gives the object, which is appended -/
theorem unit_at (F : Forest) (dasz : Nat) (hdasz : dasz = 4 ∨ dasz = 8) (hwf : wfForestB genNames F = true)
    (L : List LineUnitDesc) (tail : Bytes) (sup : Option Bytes) (hlines : linesOKB F L tail sup = true)
    (p : Nat × UnitDesc) (hp : p ∈ placeInfo F 0 F.units) (v : Nat) (hst : stmtRef p.2.tree.root = .at v)
    (i : Nat) (d : LineUnitDesc) (hd : L[i]? = some d) (hv : v = lineOff L i)
    (cache : LCache) (hc : LCacheOK F L sup cache) :
    ∃ x cache', lineProgramForUnit (lineWorld L tail sup) (infoCtx F dasz p) cache = .ok (some x, cache')
      ∧ LPIs F L sup i d x ∧ LCacheOK F L sup cache' ∧ cache'.find? (·.1 == v) = some (v, x) := by
  have hW := Proofs.C04.wfForest_of_B genNames F hwf
  have hu : p.2 ∈ F.units := Proofs.C04.mem_placeInfo F _ _ p hp
  have hcfg := Proofs.C04.wfUnit_cfg_mem (hW.infoHdr p.2 hu)
  obtain ⟨hfmt, hasz⟩ := linesOK_at hlines p.2 hu v hst i d hd hv
  have all := LinesOK.of hlines
  have ok := all.unit d (List.mem_of_getElem? hd)
  rw [unit_at_eq hname F dasz hdasz hwf (lineWorld L tail sup) p hp v hst cache]
  unfold parseAtNat
  cases hf : cache.find? (·.1 == v) with
  | some ox =>
    obtain ⟨o, x⟩ := ox
    obtain ⟨rfl, hmem⟩ := cache_hit hf
    obtain ⟨i', d', hd', ho, hx⟩ := hc _ _ hmem
    obtain ⟨rfl, rfl⟩ := lineOff_inj hd' hd (by rw [← ho, hv])
    exact ⟨x, cache, rfl, hx, hc, hf⟩
  | none =>
    obtain ⟨pre, rest, hsplit, hpre⟩ := lineSec_split L i d tail hd
    have hS := infoCtx_S hfull F dasz p hcfg
    have hE := infoCtx_env hfull F dasz p hcfg
    have hparse := parseFreshX_all (env := Model.dwarfEnv (Spec.dwarfStructs (p.2.cfg F.le))) (cfg := p.2.cfg F.le)
      (lineSecsOf F.secs (sup.map some)) d.h (strSecsOf F sup) d.ext d.body pre rest ok.unit ok.le
      (by show (if p.2.fmt64 = true then 64 else 32) = _; rw [hfmt])
      (fun _ => henv _)
      (fun h5 => by
        rcases ok.strs with h | h
        · omega
        · exact secsView_of F sup hW h.1 h.2 all.sup)
    have hfm : (infoCtx F dasz p).fmt = (p.2.cfg F.le).fmt := rfl
    have hsec : (infoCtx F dasz p).secs = F.secs := rfl
    simp only [lineWorld, hS, hE, hfm, hsec, hsplit, hv, ← hpre]
    rw [show LineUnitDesc.enc d = encodeUnitX d.h d.ext d.body from rfl, hparse]
    have hx : LPIs F L sup i d ⟨lpOfX d.h (strSecsOf F sup) d.ext d.body pre.length, Spec.dwarfStructs (p.2.cfg F.le)⟩ :=
      ⟨by rw [hpre], p.2.cfg F.le, rfl, ok.le, hasz⟩
    refine ⟨_, _, rfl, hx, cache_append hc ⟨i, d, hd, hpre, hx⟩, ?_⟩
    · rw [List.find?_append, show pre.length = v by rw [hpre, hv], hf]
      simp

end

/-- `get_entries()` gives the standard's rows whichever unit's bundle the object was created with -/
theorem decode_LPIs (F : Forest) (L : List LineUnitDesc) (tail : Bytes) (sup : Option Bytes)
    (hlines : linesOKB F L tail sup = true) (ed : String → Int → Option String)
    (i : Nat) (d : LineUnitDesc) (hd : L[i]? = some d) (x : LP) (hx : LPIs F L sup i d x) :
    ∃ entries,
      decodeLP ed specConsts (encLineSec L tail) x
        = .ok (entries, x.lp.fileEntry.map (· ++ (definedFiles d.is).map FileEntry.obs), lineOff L i + d.enc.length)
      ∧ rowsOf entries = stdRun d.h.p d.is := by
  obtain ⟨hlp, c, hS, hcle, hasz⟩ := hx
  have all := LinesOK.of hlines
  have ok := all.unit d (List.mem_of_getElem? hd)
  obtain ⟨pre, rest, hsplit, hpre⟩ := lineSec_split L i d tail hd
  have hlen := all.len
  have hsz : pre.length + (encodeUnitX d.h d.ext (encodeProgram d.h.p d.is)).length ≤ ssizeMax := by
    have : (encLineSec L tail).length = pre.length + d.enc.length + rest.length := by
      rw [hsplit]; simp only [List.length_append]
    have e : d.enc = encodeUnitX d.h d.ext (encodeProgram d.h.p d.is) := rfl
    rw [← e]; simp only [ssizeMax]; omega
  obtain ⟨es, hrun, hrows⟩ := decode_lpOfX (env := envOf ed (Spec.dwarfStructs c)) (cfg := c) d.h (strSecsOf F sup) d.ext d.is pre rest
    ok.unit ok.prog hcle hasz hsz
  refine ⟨es, ?_, hrows⟩
  unfold decodeLP
  rw [hS, hlp, hsplit, ← hpre]
  exact hrun

theorem answers_cons {α β : Type} {P : α → β → Prop} {a : α} {as : List α} {b : β} {bs : List β} (h : P a b)
    (ih : bs.length = as.length ∧ ∀ (k : Nat) (x : α), as[k]? = some x → ∃ y, bs[k]? = some y ∧ P x y) :
    (b :: bs).length = (a :: as).length ∧ ∀ (k : Nat) (x : α), (a :: as)[k]? = some x → ∃ y, (b :: bs)[k]? = some y ∧ P x y := by
  refine ⟨by simp [ih.1], fun k x hx => ?_⟩
  cases k with
  | zero =>
    simp only [List.getElem?_cons_zero, Option.some.injEq] at hx
    subst hx
    exact ⟨b, rfl, h⟩
  | succ k =>
    simp only [List.getElem?_cons_succ] at hx ⊢
    exact ih.2 k x hx

/-- what `line_program_for_CU` must return for the unit `u`: nothing without DW_AT_stmt_list; the object of the
    program lying at the offset the attribute holds -/
def UnitResult (F : Forest) (L : List LineUnitDesc) (sup : Option Bytes) (u : UnitDesc) (r : R (Option LP)) : Prop :=
  match stmtRef u.tree.root with
  | .absent => r = .ok none
  | .at v => ∃ i d, L[i]? = some d ∧ v = lineOff L i ∧ ∃ x, r = .ok (some x) ∧ LPIs F L sup i d x
  | .other => False

section
variable (hfull : ∀ c ∈ Spec.allDwarfCfgs, Model.dwarfStructsFor c = some (Spec.dwarfStructs c))
variable (henv : ∀ S, EnvOK (Model.dwarfEnv S))
variable (hname : ∀ k, (genNames.at_ k == Val.str "DW_AT_stmt_list") = (k == 0x10))
include hfull henv hname

/-- by induction over the units with the cache general: a unit without DW_AT_stmt_list leaves the cache alone
    (`unit_absent`), one that names a program gets its object and leaves a coherent cache (`unit_at`); a reference
    of another kind is excluded by `linesOKB` -/
theorem loop_forest (F : Forest) (dasz : Nat) (hdasz : dasz = 4 ∨ dasz = 8) (hwf : wfForestB genNames F = true)
    (L : List LineUnitDesc) (tail : Bytes) (sup : Option Bytes) (hlines : linesOKB F L tail sup = true) :
    ∀ (ps : List (Nat × UnitDesc)), (∀ p ∈ ps, p ∈ placeInfo F 0 F.units) → ∀ cache, LCacheOK F L sup cache →
      (lineProgramsLoop (lineWorld L tail sup)
          (ps.map fun p => (cuOf F.le p.1 (infoUnitOf F p.2), (.ok (infoCtx F dasz p) : R UnitCtx))) cache).length
        = ps.length
      ∧ ∀ (k : Nat) (p : Nat × UnitDesc), ps[k]? = some p →
          ∃ r, (lineProgramsLoop (lineWorld L tail sup)
              (ps.map fun p => (cuOf F.le p.1 (infoUnitOf F p.2), (.ok (infoCtx F dasz p) : R UnitCtx))) cache)[k]? = some r
            ∧ r.1 = cuOf F.le p.1 (infoUnitOf F p.2) ∧ UnitResult F L sup p.2 r.2 := by
  intro ps
  induction ps with
  | nil => intro _ cache _; exact ⟨rfl, fun k p h => by simp at h⟩
  | cons p ps ih =>
    intro hps cache hc
    have hp := hps p List.mem_cons_self
    have hu : p.2 ∈ F.units := Proofs.C04.mem_placeInfo F _ _ p hp
    have hrest : ∀ q ∈ ps, q ∈ placeInfo F 0 F.units := fun q hq => hps q (List.mem_cons_of_mem _ hq)
    simp only [List.map_cons, lineProgramsLoop, bind, Except.bind]
    cases hst : stmtRef p.2.tree.root with
    | absent =>
      rw [unit_absent hname F dasz hdasz hwf _ p hp hst cache]
      refine answers_cons (P := fun (p : Nat × UnitDesc) (r : Model.Lookup.CU × R (Option LP)) =>
          r.1 = cuOf F.le p.1 (infoUnitOf F p.2) ∧ UnitResult F L sup p.2 r.2) ⟨rfl, ?_⟩
        (ih hrest cache hc)
      simp only [UnitResult, hst]
    | «at» v =>
      obtain ⟨i, d, hd, hv, -⟩ := linesOK_at_ex hlines p.2 hu v hst
      obtain ⟨x, cache', hrun, hx, hc', _⟩ := unit_at hfull henv hname F dasz hdasz hwf L tail sup hlines p hp v hst i d hd hv
        cache hc
      rw [hrun]
      refine answers_cons (P := fun (p : Nat × UnitDesc) (r : Model.Lookup.CU × R (Option LP)) =>
          r.1 = cuOf F.le p.1 (infoUnitOf F p.2) ∧ UnitResult F L sup p.2 r.2) ⟨rfl, ?_⟩
        (ih hrest cache' hc')
      simp only [UnitResult, hst]
      exact ⟨i, d, hd, hv, x, rfl, hx⟩
    | other => exact absurd hst (linesOK_not_other hlines p.2 hu)

theorem infoLinePrograms_forest (F : Forest) (dasz : Nat) (hdasz : dasz = 4 ∨ dasz = 8) (hwf : wfForestB genNames F = true)
    (L : List LineUnitDesc) (tail : Bytes) (sup : Option Bytes) (hlines : linesOKB F L tail sup = true) :
    ∃ res, infoLinePrograms (forestDInfo F dasz) (genBundles F.le dasz).S0 (lineWorld L tail sup) = (res, none)
      ∧ res.length = (placeInfo F 0 F.units).length
      ∧ ∀ (k : Nat) (p : Nat × UnitDesc), (placeInfo F 0 F.units)[k]? = some p →
          ∃ r, res[k]? = some r ∧ r.1 = cuOf F.le p.1 (infoUnitOf F p.2) ∧ UnitResult F L sup p.2 r.2 := by
  refine ⟨_, ?_, loop_forest hfull henv hname F dasz hdasz hwf L tail sup hlines _ (fun _ h => h) [] (lcacheOK_nil F L sup)⟩
  unfold infoLinePrograms
  rw [show (forestDInfo F dasz).info = some (infoSec F) from rfl, Props.C04.debug_info_units F dasz hdasz hwf]

end

section
variable (hfull : ∀ c ∈ Spec.allDwarfCfgs, Model.dwarfStructsFor c = some (Spec.dwarfStructs c))
variable (hname : ∀ k, (genNames.at_ k == Val.str "DW_AT_stmt_list") = (k == 0x10))
include hname

theorem unit_no_section (F : Forest) (dasz : Nat) (hdasz : dasz = 4 ∨ dasz = 8) (hwf : wfForestB genNames F = true)
    (W : LineWorld) (hW : W.line = none) (p : Nat × UnitDesc) (hp : p ∈ placeInfo F 0 F.units) (v : Nat)
    (hst : stmtRef p.2.tree.root = .at v) (cache : LCache) (hf : cache.find? (·.1 == v) = none) :
    lineProgramForUnit W (infoCtx F dasz p) cache = .error .attributeError := by
  rw [unit_at_eq hname F dasz hdasz hwf W p hp v hst cache]
  simp only [parseAtNat, hf, hW]

include hfull

theorem unit_beyond (F : Forest) (dasz : Nat) (hdasz : dasz = 4 ∨ dasz = 8) (hwf : wfForestB genNames F = true)
    (W : LineWorld) (data : Bytes) (hW : W.line = some data) (p : Nat × UnitDesc) (hp : p ∈ placeInfo F 0 F.units)
    (v : Nat) (hst : stmtRef p.2.tree.root = .at v) (hlt : data.length < v + 4)
    (cache : LCache) (hf : cache.find? (·.1 == v) = none) :
    lineProgramForUnit W (infoCtx F dasz p) cache = .error .elfParseError := by
  have hWf := Proofs.C04.wfForest_of_B genNames F hwf
  have hu : p.2 ∈ F.units := Proofs.C04.mem_placeInfo F _ _ p hp
  have hcfg := Proofs.C04.wfUnit_cfg_mem (hWf.infoHdr p.2 hu)
  rw [unit_at_eq hname F dasz hdasz hwf W p hp v hst cache]
  simp only [parseAtNat, hf, hW, infoCtx_S hfull F dasz p hcfg, parseFresh_truncated _ _ _ _ _ _ hlt, bind, Except.bind]

end

end PyElf.Proofs.LineInfo
