/-
  C10, the whole object: with the tree-shaped layout (`TreeWF`) every operation keeps the strengthened
  invariant `InvT` (exact DIE caches, `_parent` / `_terminator` links that are the tree's, every suspended generator
  knows exactly what it still has to produce), and every answer has a closed form in the file alone.
-/
import PyElf.Proofs.HistoryTree
namespace PyElf.Proofs.C10
open PyElf PyElf.Model.Lookup PyElf.Model.C10 PyElf.Proofs.Lookup

/-- `T` assigns to every unit (by its offset) the tree of its entries, laid out from the unit's first DIE offset and
    ending inside the unit; the parse at every entry's offset returns that entry -/
structure TreeWF (F : File) (cs : List CU) (T : Nat → DTree) : Prop where
  tree : ∀ c ∈ cs, ∃ e sz, c.size = .ok sz ∧ Lay c.cuDieOffset (T c.cuOffset) e ∧ e ≤ c.cuOffset + sz ∧
    ∀ x ∈ ents none (T c.cuOffset), F.parseDIE c.cuOffset x.1.d.offset = .ok x.1.d

/-- what a suspended generator still has to produce (offsets) -/
def IterRem (F : File) (cs : List CU) (T : Nat → DTree) : Iter → List Nat → Prop
  | .cus o done, rem =>
    (done = true ∧ rem = []) ∨
    (done = false ∧ ∃ suf, Chain F.parseCU F.size o suf ∧ (∀ y ∈ suf, y ∈ cs) ∧ rem = suf.map (·.cuOffset))
  | .children cu ci, rem => ∃ r, ChildRem (T cu) ci r ∧ rem = r.map (·.offset)
  | .dies cu st done, rem =>
    (done = true ∧ rem = []) ∨ (done = false ∧ ∃ r, StackOK (T cu) st r ∧ rem = r.map (·.offset))
  | .siblings cu self ci done, rem =>
    (done = true ∧ rem = []) ∨ (done = false ∧ ∃ r, SibRem (T cu) self ci r ∧ rem = r.map (·.offset))

/-- the `CompileUnit` object a generator holds is the cached one -/
def IterCached (cache : CUCache) : Iter → Prop
  | .cus _ _ => True
  | .children cu _ => ∃ c ∈ cache.cus, c.cuOffset = cu
  | .dies cu _ _ => ∃ c ∈ cache.cus, c.cuOffset = cu
  | .siblings cu _ _ _ => ∃ c ∈ cache.cus, c.cuOffset = cu

theorem iterCached_grows {a b : CUCache} (h : Grows a b) {it : Iter} (hi : IterCached a it) : IterCached b it := by
  cases it with
  | cus o d => trivial
  | children cu ci => obtain ⟨c, hc, h'⟩ := hi; exact ⟨c, h c hc, h'⟩
  | dies cu s d => obtain ⟨c, hc, h'⟩ := hi; exact ⟨c, h c hc, h'⟩
  | siblings cu sf ci d => obtain ⟨c, hc, h'⟩ := hi; exact ⟨c, h c hc, h'⟩

/-- bookkeeping for the statement about suspended generators (not part of the object): for every handle, the
    kind the generator was created with and how many items it has been asked for so far -/
abbrev Ghost := List (IterKind × Nat)

/-- the stateless enumeration a generator kind stands for -/
def KindEnum (cs : List CU) (T : Nat → DTree) : IterKind → List Nat → Prop
  | .cus, l => l = cs.map (·.cuOffset)
  | .dies cu, l => (∃ c ∈ cs, c.cuOffset = cu) ∧ l = (flatT (T cu)).map (·.offset)
  | .children cu off, l => (∃ c ∈ cs, c.cuOffset = cu) ∧
      ∃ x ∈ ents none (T cu), x.1.d.offset = off ∧ l = (kidsOut x.1.kids).map (·.offset)
  /- `die.iter_siblings()` of an entry that has an owner: the other non-null entries of the owner's sibling list
     (for the top entry the generator raises at its first `next()`: see `step_siblings_T`) -/
  | .siblings cu off, l => (∃ c ∈ cs, c.cuOffset = cu) ∧
      ∃ x ∈ ents none (T cu), x.1.d.offset = off ∧ ∃ n q, (n, q) ∈ ents none (T cu) ∧ x.2 = some n.d ∧
        l = (sibFilter off (kidsOut n.kids)).map (·.offset)

structure InvT (F : File) (cs : List CU) (T : Nat → DTree) (g : Ghost) (st : State) : Prop where
  base : Inv F cs st
  unitsT : ∀ k u, assocGet? st.units k = some u → ∀ c ∈ cs, c.cuOffset = k →
    UT (F.parseDIE k) c.cuDieOffset (T k) u
  /-- the generator behind handle `i`, created with kind `k` and asked `n` times, still has to produce exactly
      the stateless enumeration of `k` from its `n`-th item on -/
  itersG : st.iters.length = g.length ∧ ∀ (i : Nat) (it : Iter), st.iters[i]? = some it →
    ∃ k n l, g[i]? = some (k, n) ∧ KindEnum cs T k l ∧ IterRem F cs T it (l.drop n) ∧ IterCached st.cus it

theorem invT_init (F : File) (cs : List CU) (T : Nat → DTree) : InvT F cs T [] State.init :=
  { base := inv_init F cs, unitsT := fun k u h => by simp [State.init, assocGet?] at h,
    itersG := ⟨rfl, fun i it h => by simp [State.init] at h⟩ }

def ghostStep (g : Ghost) : Op → Ghost
  | .itNew k => g ++ [(k, 0)]
  | .itNext h =>
    match g[h % g.length]? with
    | some (k, n) => g.set (h % g.length) (k, n + 1)
    | none => g
  | _ => g

def ghost (ops : List Op) : Ghost := ops.foldl ghostStep []

/-- operations whose arguments name units of the file and, for navigation, entries of the unit's tree (a
    `children` / `parent` call on an offset that is NOT an entry hangs `_parent` links of real entries on a
    garbage DIE object: out of scope, as an invalid `get_CU_at` offset is) -/
def OpValidT (F : File) (cs : List CU) (T : Nat → DTree) : Op → Prop
  | .children cu off => ∃ c ∈ cs, c.cuOffset = cu ∧ ∃ x ∈ ents none (T cu), x.1.d.offset = off
  | .parent cu off => ∃ c ∈ cs, c.cuOffset = cu ∧ ∃ x ∈ ents none (T cu), x.1.d.offset = off
  | .take k _ => ∃ l, KindEnum cs T k l
  | .all k => ∃ l, KindEnum cs T k l
  | .itNew k => ∃ l, KindEnum cs T k l
  | .siblings cu off => ∃ c ∈ cs, c.cuOffset = cu ∧ ∃ x ∈ ents none (T cu), x.1.d.offset = off
  | op => OpValid F cs op

/-- the queries whose answers are PROVED independent of the state: everything but creating / resuming a handle -/
def Query : Op → Prop
  | .itNew _ | .itNext _ => False
  | _ => True

def nthAns (l : List Nat) (n : Nat) : Ans := match l[n]? with | some x => .nat x | none => .str "stop"

section state
variable {F : File} {cs : List CU} {T : Nat → DTree} {st : State} {g : Ghost}

theorem kindEnum_valid {k : IterKind} {l : List Nat} (hl : KindEnum cs T k l) : KindValid cs k := by
  cases k with
  | cus => trivial
  | dies cu => exact hl.1
  | children cu off => exact hl.1
  | siblings cu off => exact hl.1

theorem opValidT_valid {op : Op} (h : OpValidT F cs T op) : OpValid F cs op := by
  cases op with
  | children cu off | parent cu off | siblings cu off => obtain ⟨c, hc, rfl, _⟩ := h; exact ⟨c, hc, rfl⟩
  | take k n | all k | itNew k => obtain ⟨l, hl⟩ := h; exact kindEnum_valid hl
  | seek _ | cuAt _ | cuCont _ | top _ | die _ _ | refaddr _ | lp _ _ | itNext _ | secIdx _ | symByName _ | ref _ _ _
  | pubname _ => exact h

theorem treeWF_tw (wf : FileWF F cs) (tw : TreeWF F cs T) {c : CU} (hc : c ∈ cs) :
    TW (F.parseDIE c.cuOffset) c.cuDieOffset (T c.cuOffset) := by
  obtain ⟨e, sz, _, h2, _, h4⟩ := tw.tree c hc
  exact { hPo := wf.dieOff _, lay := ⟨e, h2⟩, cov := h4 }

theorem treeWF_fuel (wf : FileWF F cs) (tw : TreeWF F cs T) {c : CU} (hc : c ∈ cs) :
    ∃ e sz, c.size = .ok sz ∧ Lay c.cuDieOffset (T c.cuOffset) e ∧ e ≤ c.cuOffset + sz ∧
      2 * (e - c.cuDieOffset) + 4 ≤ fuelOf F := by
  obtain ⟨e, sz, h1, h2, h3, _⟩ := tw.tree c hc
  obtain ⟨sz', h1', _, h5⟩ := mem_size wf hc
  rw [h1] at h1'; injection h1' with h1'; subst h1'
  exact ⟨e, sz, h1, h2, h3, by unfold fuelOf; omega⟩

theorem unitOf_T (hinv : InvT F cs T g st) {c : CU} (hc : c ∈ cs) :
    UT (F.parseDIE c.cuOffset) c.cuDieOffset (T c.cuOffset) (unitOf st c.cuOffset) := by
  rcases unitOf_eq st c.cuOffset with ⟨u, hg, e⟩ | ⟨_, e⟩ <;> rw [e]
  · have := hinv.unitsT _ u hg c hc rfl
    exact ut_congr this (ucore_congr this.core rfl rfl) rfl rfl
  · exact ut_empty _ _ _ _

theorem putUnit_invT (wf : FileWF F cs) (hinv : InvT F cs T g st) {c : CU} (hc : c ∈ cs) {u : UnitCache}
    (hu : UT (F.parseDIE c.cuOffset) c.cuDieOffset (T c.cuOffset) u) : InvT F cs T g (putUnit st c.cuOffset u) :=
  { base := putUnit_inv wf hinv.base hc hu.core
    unitsT := assocSet_forall (P := fun k u => ∀ c' ∈ cs, c'.cuOffset = k → UT (F.parseDIE k) c'.cuDieOffset (T k) u)
      hinv.unitsT (fun c' hc' hk => by rw [unit_unique wf hc hc' hk]; exact hu)
    itersG := hinv.itersG }

/-- what is known of the links and of the suspended generators survives a lookup -/
theorem Fills.invT {st' : State} (h : Fills F cs st st') (hinv : InvT F cs T g st) : InvT F cs T g st' :=
  { base := h.inv
    unitsT := by
      intro k u' hg c hc hk
      have core := h.inv.units k u' hg c hc hk
      have hl := h.links k
      rcases unitOf_eq st' k with ⟨_, hg', e'⟩ | ⟨hg', _⟩ <;> rw [hg] at hg'
      · injection hg' with hg'
        subst hg'
        rw [e'] at hl
        rcases unitOf_eq st k with ⟨u, hs, e⟩ | ⟨_, e⟩ <;> rw [e] at hl
        · exact ut_congr (hinv.unitsT k u hs c hc hk) core hl.1 hl.2
        · exact ut_congr (ut_empty _ _ _ st.pos) core hl.1 hl.2
      · cases hg'
    itersG := by
      rw [h.iters]
      exact ⟨hinv.itersG.1, fun i it hi =>
        let ⟨k, n, l, a, b, c, d⟩ := hinv.itersG.2 i it hi
        ⟨k, n, l, a, b, c, iterCached_grows h.cus d⟩⟩ }

theorem dieAt_ok (wf : FileWF F cs) (tw : TreeWF F cs T) (hinv : InvT F cs T g st) {c : CU} (hc : c ∈ cs)
    {x : DTree × Option DIE} (hx : x ∈ ents none (T c.cuOffset)) :
    ∃ st', dieAt F st c.cuOffset x.1.d.offset = (.ok (c, x.1.d), st') ∧ InvT F cs T g st' ∧ c ∈ st'.cus.cus := by
  obtain ⟨e, sz, hsz, hlay, hle, _⟩ := treeWF_fuel wf tw hc
  have htw := treeWF_tw wf tw hc
  have hb := ents_bounds _ none _ _ hlay x hx
  obtain ⟨st', h1, h2, h3⟩ := dieAt_spec wf hinv.base hc hsz x.1.d.offset
  refine ⟨st', ?_, h2.invT hinv, h3⟩
  have : c.cuDieOffset ≤ x.1.d.offset ∧ x.1.d.offset < c.cuOffset + sz := ⟨hb.1, by omega⟩
  rw [h1, pureRefaddr, if_pos this, pureDIE, tw_top htw, htw.cov x hx]
  rfl

theorem kindEnum_unique (wf : FileWF F cs) (tw : TreeWF F cs T) {k : IterKind} {l l' : List Nat}
    (h : KindEnum cs T k l) (h' : KindEnum cs T k l') : l = l' := by
  cases k with
  | cus => rw [h, h']
  | dies cu => rw [h.2, h'.2]
  | children cu off =>
    obtain ⟨⟨c, hc, rfl⟩, x, hx, hxo, rfl⟩ := h
    obtain ⟨_, x', hx', hxo', rfl⟩ := h'
    have := tw_unique (treeWF_tw wf tw hc) hx hx' (by rw [hxo, hxo'])
    rw [this]
  | siblings cu off =>
    obtain ⟨⟨c, hc, rfl⟩, x, hx, hxo, n, q, hn, hp, rfl⟩ := h
    obtain ⟨_, x', hx', hxo', n', q', hn', hp', rfl⟩ := h'
    have htw := treeWF_tw wf tw hc
    have hxx := tw_unique htw hx hx' (by rw [hxo, hxo'])
    subst hxx
    have := owner_unique htw hn hn' hp hp'
    subst this
    rfl

theorem newIter_T (wf : FileWF F cs) (tw : TreeWF F cs T) (hinv : InvT F cs T g st) {k : IterKind} {l : List Nat}
    (hk : KindEnum cs T k l) :
    ∃ it st', newIter F st k = (.ok it, st') ∧ InvT F cs T g st' ∧ IterRem F cs T it l ∧ IterCached st'.cus it := by
  cases k with
  | cus =>
    refine ⟨.cus 0 false, st, rfl, hinv, ?_, trivial⟩
    exact Or.inr ⟨rfl, cs, wf.chain, fun y h => h, hk⟩
  | dies cu =>
    obtain ⟨⟨c, hc, rfl⟩, rfl⟩ := hk
    obtain ⟨st1, h1, hf, h3⟩ := getCUAt'_valid wf hinv.base hc
    have h2 := hf.invT hinv
    have htw := treeWF_tw wf tw hc
    obtain ⟨u', h4, hu'⟩ := getTopDIE_tw htw (unitOf_T h2 hc)
    refine ⟨.dies c.cuOffset [⟨(T c.cuOffset).d, 0, ChildIter.new (T c.cuOffset).d⟩] false,
      putUnit st1 c.cuOffset u', ?_, putUnit_invT wf h2 hc hu', ?_, (show ∃ c' ∈ _, _ from ⟨c, h3, rfl⟩)⟩
    · simp only [newIter]
      rw [h1]
      simp only
      rw [inUnit_eq h4]
    · exact Or.inr ⟨rfl, flatT (T c.cuOffset), Or.inr (Or.inr ⟨rfl, rfl⟩), rfl⟩
  | children cu off =>
    obtain ⟨⟨c, hc, rfl⟩, x, hx, rfl, rfl⟩ := hk
    obtain ⟨st1, h1, h2, h3⟩ := dieAt_ok wf tw hinv hc hx
    refine ⟨.children c.cuOffset (ChildIter.new x.1.d), st1, ?_, h2, ?_, (show ∃ c' ∈ _, _ from ⟨c, h3, rfl⟩)⟩
    · simp only [newIter]
      rw [h1]
    · exact ⟨_, childRem_new (treeWF_tw wf tw hc) hx, rfl⟩
  | siblings cu off =>
    obtain ⟨⟨c, hc, rfl⟩, x, hx, rfl, n, q, hn, hp, rfl⟩ := hk
    obtain ⟨st1, h1, h2, h3⟩ := dieAt_ok wf tw hinv hc hx
    refine ⟨.siblings c.cuOffset x.1.d none false, st1, ?_, h2, ?_, (show ∃ c' ∈ _, _ from ⟨c, h3, rfl⟩)⟩
    · simp only [newIter]
      rw [h1]
    · exact Or.inr ⟨rfl, _, ⟨x, hx, rfl, n, q, hn, hp, Or.inl ⟨rfl, rfl⟩⟩, rfl⟩

theorem iterRem_ok (wf : FileWF F cs) {it : Iter} {rem : List Nat} (h : IterRem F cs T it rem) : IterOK F cs it := by
  cases it with
  | cus o done =>
    rcases h with ⟨rfl, _⟩ | ⟨_, suf, hch, hsub, _⟩
    · exact Or.inl rfl
    · cases suf with
      | nil => exact Or.inr (Or.inl (by simpa [Chain] using hch))
      | cons c suf' => exact Or.inr (Or.inr ⟨c, hsub c List.mem_cons_self, wf.cuOff _ _ hch.2.1⟩)
  | children _ _ | dies _ _ _ | siblings _ _ _ _ => trivial

theorem find_cached (hinv : Inv F cs st) {cu : Nat} (h : ∃ c ∈ st.cus.cus, c.cuOffset = cu) :
    ∃ c, st.cus.cus.find? (·.cuOffset == cu) = some c ∧ c ∈ cs ∧ c.cuOffset = cu := by
  obtain ⟨c, hc, hcu⟩ := h
  cases hf : st.cus.cus.find? (·.cuOffset == cu) with
  | none =>
    have := List.find?_eq_none.mp hf c hc
    simp [hcu] at this
  | some c' =>
    obtain ⟨h1, h2⟩ := find_unit hinv hf
    exact ⟨c', rfl, h1, h2⟩

theorem nextIter_T (wf : FileWF F cs) (tw : TreeWF F cs T) (hinv : InvT F cs T g st) {it : Iter} {rem : List Nat}
    (hr : IterRem F cs T it rem) (hcache : IterCached st.cus it) :
    ∃ it' st', nextIter F st it = (.ok rem.head?, it', st') ∧ InvT F cs T g st' ∧ IterRem F cs T it' rem.tail ∧
      IterCached st'.cus it' ∧ st'.iters = st.iters := by
  -- `iter_CUs` is a lookup (`fills_withCU`); the other kinds run their unit-level step (`childNext_rem`, `subNext_ok`,
  -- `sibNext_rem`) inside the cached unit (`find_cached`, `unitOf_T`, `putUnit_invT`); a generator that has ended
  -- stays ended
  cases it with
  | cus o done =>
    rcases hr with ⟨rfl, rfl⟩ | ⟨rfl, suf, hch, hsub, rfl⟩
    · exact ⟨.cus o true, st, by simp [nextIter], hinv, Or.inl ⟨rfl, rfl⟩, trivial, rfl⟩
    · cases suf with
      | nil =>
        have : o = F.size := by simpa [Chain] using hch
        subst this
        refine ⟨.cus F.size true, st, ?_, hinv, Or.inl ⟨rfl, rfl⟩, trivial, rfl⟩
        simp [nextIter]
      | cons c suf' =>
        obtain ⟨hos, hP, sz, hsz, hpos, hrest⟩ := hch
        have hc : c ∈ cs := hsub c List.mem_cons_self
        obtain ⟨st1, hcache1, hinv1, g1, _⟩ := cachedCUAtOffset_spec wf.cuOff hinv.base.cu hc hP
        have hf := fills_withCU hinv.base (cachedCUAtOffset F.parseCU st.cus o) (by rw [hcache1]; exact hinv1)
          (by rw [hcache1]; exact g1)
        have hco : c.cuOffset = o := wf.cuOff _ _ hP
        refine ⟨.cus (o + sz) false, (withCU st (cachedCUAtOffset F.parseCU st.cus o)).2, ?_, hf.invT hinv, ?_, trivial, rfl⟩
        · simp only [nextIter, Bool.false_eq_true, if_false, hos, if_true]
          simp only [withCU, hcache1, hsz, List.map_cons, List.head?_cons, hco]
        · exact Or.inr ⟨rfl, suf', hrest, fun y hy => hsub y (List.mem_cons_of_mem _ hy), rfl⟩
  | children cu ci =>
    obtain ⟨r, hr, rfl⟩ := hr
    obtain ⟨c, hfind, hc, rfl⟩ := find_cached hinv.base hcache
    obtain ⟨e, sz, _, hlay, _, hfuel⟩ := treeWF_fuel wf tw hc
    obtain ⟨ci', u', h1, h2, hu'⟩ := childNext_rem (treeWF_tw wf tw hc) hlay hr (fuel := fuelOf F) (by omega)
      (unitOf_T hinv hc)
    refine ⟨.children c.cuOffset ci', putUnit st c.cuOffset u', ?_, putUnit_invT wf hinv hc hu', ⟨_, h2, ?_⟩, hcache,
      rfl⟩
    · simp only [nextIter, hfind, h1]
      cases r <;> rfl
    · cases r <;> rfl
  | dies cu stack done =>
    rcases hr with ⟨rfl, rfl⟩ | ⟨rfl, r, hr, rfl⟩
    · exact ⟨.dies cu [] true, st, by simp [nextIter], hinv, Or.inl ⟨rfl, rfl⟩, hcache, rfl⟩
    · obtain ⟨c, hfind, hc, rfl⟩ := find_cached hinv.base hcache
      obtain ⟨e, sz, _, hlay, _, hfuel⟩ := treeWF_fuel wf tw hc
      obtain ⟨st', u', h1, h2, hu'⟩ := subNext_ok (treeWF_tw wf tw hc) hlay hr (fuel := fuelOf F) (by omega)
        (unitOf_T hinv hc)
      cases r with
      | nil =>
        refine ⟨.dies c.cuOffset st' true, putUnit st c.cuOffset u', ?_, putUnit_invT wf hinv hc hu',
          Or.inl ⟨rfl, rfl⟩, hcache, rfl⟩
        simp only [nextIter, Bool.false_eq_true, if_false, hfind, h1]
        rfl
      | cons x r' =>
        refine ⟨.dies c.cuOffset st' false, putUnit st c.cuOffset u', ?_, putUnit_invT wf hinv hc hu',
          Or.inr ⟨rfl, r', h2, rfl⟩, hcache, rfl⟩
        simp only [nextIter, Bool.false_eq_true, if_false, hfind, h1]
        rfl
  | siblings cu self ci done =>
    rcases hr with ⟨rfl, rfl⟩ | ⟨rfl, r, hr, rfl⟩
    · exact ⟨.siblings cu self ci true, st, by simp [nextIter], hinv, Or.inl ⟨rfl, rfl⟩, hcache, rfl⟩
    · obtain ⟨c, hfind, hc, rfl⟩ := find_cached hinv.base hcache
      obtain ⟨e, sz, _, hlay, _, hfuel⟩ := treeWF_fuel wf tw hc
      obtain ⟨ci', u', h1, h2, hu'⟩ := sibNext_rem (treeWF_tw wf tw hc) hlay hr (fuel := fuelOf F) (by omega)
        (unitOf_T hinv hc)
      cases r with
      | nil =>
        refine ⟨.siblings c.cuOffset self ci' true, putUnit st c.cuOffset u', ?_, putUnit_invT wf hinv hc hu',
          Or.inl ⟨rfl, rfl⟩, hcache, rfl⟩
        simp only [nextIter, Bool.false_eq_true, if_false, hfind, h1]
        rfl
      | cons x r' =>
        refine ⟨.siblings c.cuOffset self ci' false, putUnit st c.cuOffset u', ?_, putUnit_invT wf hinv hc hu',
          Or.inr ⟨rfl, r', h2, rfl⟩, hcache, rfl⟩
        simp only [nextIter, Bool.false_eq_true, if_false, hfind, h1]
        rfl

theorem takeIter_T (wf : FileWF F cs) (tw : TreeWF F cs T) : ∀ (n : Nat) (it : Iter) (st : State) (acc rem : List Nat),
    InvT F cs T g st → IterRem F cs T it rem → IterCached st.cus it →
    ∃ it' st', takeIter F n it st acc = (.ok (acc ++ rem.take n), it', st') ∧ InvT F cs T g st' ∧
      IterRem F cs T it' (rem.drop n) ∧ IterCached st'.cus it' := by
  intro n
  induction n with
  | zero => intro it st acc rem hinv hr hc; exact ⟨it, st, by simp [takeIter], hinv, by simpa using hr, hc⟩
  | succ n ih =>
    intro it st acc rem hinv hr hc
    obtain ⟨it1, st1, h1, hinv1, hr1, hc1, _⟩ := nextIter_T wf tw hinv hr hc
    rw [takeIter, h1]
    cases rem with
    | nil => exact ⟨it1, st1, by simp, hinv1, by simpa using hr1, hc1⟩
    | cons x rem' =>
      simp only [List.head?_cons]
      obtain ⟨it2, st2, h2, r⟩ := ih it1 st1 (acc ++ [x]) rem' hinv1 (by simpa using hr1) hc1
      exact ⟨it2, st2, by rw [h2]; simp, r⟩

/-- the fuel of `list(...)` suffices -/
theorem kindEnum_length (wf : FileWF F cs) (tw : TreeWF F cs T) {k : IterKind} {l : List Nat}
    (h : KindEnum cs T k l) : l.length ≤ fuelOf F := by
  cases k with
  | cus =>
    rw [h, List.length_map]
    have := chain_length cs 0 wf.chain
    unfold fuelOf; omega
  | dies cu =>
    obtain ⟨⟨c, hc, rfl⟩, rfl⟩ := h
    obtain ⟨e, sz, _, hlay, _, hfuel⟩ := treeWF_fuel wf tw hc
    have := tw_cnt (ents_self none _) hlay
    rw [List.length_map, flatT, List.length_map, subs_length]; omega
  | children cu off =>
    obtain ⟨⟨c, hc, rfl⟩, x, hx, rfl, rfl⟩ := h
    obtain ⟨e, sz, _, hlay, _, hfuel⟩ := treeWF_fuel wf tw hc
    have := tw_cnt hx hlay
    have h1 := kidsOut_length_le x.1.kids
    have h2 := kids_length_le x.1.kids
    have h3 := cnt_def x.1
    rw [List.length_map]; omega
  | siblings cu off =>
    obtain ⟨⟨c, hc, rfl⟩, x, hx, rfl, n, q, hn, hp, rfl⟩ := h
    obtain ⟨e, sz, _, hlay, _, hfuel⟩ := treeWF_fuel wf tw hc
    have := tw_cnt hn hlay
    have h0 : (sibFilter x.1.d.offset (kidsOut n.kids)).length ≤ (kidsOut n.kids).length := List.length_filter_le _ _
    have h1 := kidsOut_length_le n.kids
    have h2 := kids_length_le n.kids
    have h3 := cnt_def n
    rw [List.length_map]; omega

theorem step_children_T (wf : FileWF F cs) (tw : TreeWF F cs T) (hinv : InvT F cs T g st) {c : CU} (hc : c ∈ cs)
    {x : DTree × Option DIE} (hx : x ∈ ents none (T c.cuOffset)) :
    (step F st (.children c.cuOffset x.1.d.offset)).1 = .ok (.list ((kidsOut x.1.kids).map (·.offset))) ∧
      InvT F cs T g (step F st (.children c.cuOffset x.1.d.offset)).2 := by
  obtain ⟨st1, h1, h2, _⟩ := dieAt_ok wf tw hinv hc hx
  obtain ⟨e, sz, _, hlay, _, hfuel⟩ := treeWF_fuel wf tw hc
  have htw := treeWF_tw wf tw hc
  have hcnt := tw_cnt hx hlay
  obtain ⟨u', h3, hu', _⟩ := drain_tree htw hx (fuelOf F) (unitOf st1 c.cuOffset) (by omega) (unitOf_T h2 hc)
  simp only [step, h1]
  rw [inUnit_eq (f := fun u => drain (F.parseDIE c.cuOffset) c.cuDieOffset (fuelOf F) (ChildIter.new x.1.d) u []) h3]
  exact ⟨rfl, putUnit_invT wf h2 hc hu'⟩

theorem step_parent_T (wf : FileWF F cs) (tw : TreeWF F cs T) (hinv : InvT F cs T g st) {c : CU} (hc : c ∈ cs)
    {x : DTree × Option DIE} (hx : x ∈ ents none (T c.cuOffset)) :
    (step F st (.parent c.cuOffset x.1.d.offset)).1 = .ok (.opt (x.2.map (·.offset))) ∧
      InvT F cs T g (step F st (.parent c.cuOffset x.1.d.offset)).2 := by
  obtain ⟨st1, h1, h2, _⟩ := dieAt_ok wf tw hinv hc hx
  obtain ⟨e, sz, _, hlay, _, hfuel⟩ := treeWF_fuel wf tw hc
  have htw := treeWF_tw wf tw hc
  obtain ⟨u', h3, hu'⟩ := getParent_spec htw hx hlay (fuel := fuelOf F) (by omega) (unitOf_T h2 hc)
  simp only [step, h1]
  rw [inUnit_eq (f := getParent (F.parseDIE c.cuOffset) c.cuDieOffset (fuelOf F) x.1.d) h3]
  exact ⟨rfl, putUnit_invT wf h2 hc hu'⟩

theorem step_siblings_T (wf : FileWF F cs) (tw : TreeWF F cs T) (hinv : InvT F cs T g st) {c : CU} (hc : c ∈ cs)
    {x : DTree × Option DIE} (hx : x ∈ ents none (T c.cuOffset)) :
    ((x.2 = none ∧ (step F st (.siblings c.cuOffset x.1.d.offset)).1 = .error .stopIteration) ∨
     (∃ n q, (n, q) ∈ ents none (T c.cuOffset) ∧ x.2 = some n.d ∧ x.1 ∈ n.kids ∧
        (step F st (.siblings c.cuOffset x.1.d.offset)).1
          = .ok (.list ((sibFilter x.1.d.offset (kidsOut n.kids)).map (·.offset))))) ∧
      InvT F cs T g (step F st (.siblings c.cuOffset x.1.d.offset)).2 := by
  obtain ⟨st1, h1, h2, _⟩ := dieAt_ok wf tw hinv hc hx
  obtain ⟨e, sz, _, hlay, _, hfuel⟩ := treeWF_fuel wf tw hc
  have htw := treeWF_tw wf tw hc
  obtain ⟨u', h3, hu'⟩ := getParent_spec htw hx hlay (fuel := fuelOf F) (by omega) (unitOf_T h2 hc)
  have h4 := putUnit_invT wf h2 hc hu'
  simp only [step, h1]
  rw [inUnit_eq (f := getParent (F.parseDIE c.cuOffset) c.cuDieOffset (fuelOf F) x.1.d) h3]
  rcases ents_parent _ none x hx with hroot | ⟨n, q, hn, hp, hk⟩
  · have : x.2 = none := by rw [hroot]
    rw [this]
    exact ⟨Or.inl ⟨rfl, rfl⟩, h4⟩
  · rw [hp]
    simp only
    have hcnt := tw_cnt hn hlay
    obtain ⟨u'', h5, hu'', _⟩ := drain_tree htw hn (fuelOf F) (unitOf (putUnit st1 c.cuOffset u') c.cuOffset) (by omega)
      (unitOf_T h4 hc)
    rw [inUnit_eq (f := fun u => drain (F.parseDIE c.cuOffset) c.cuDieOffset (fuelOf F) (ChildIter.new n.d) u []) h5]
    exact ⟨Or.inr ⟨n, q, hn, rfl, hk, rfl⟩, putUnit_invT wf h4 hc hu''⟩

theorem step_take_T (wf : FileWF F cs) (tw : TreeWF F cs T) (hinv : InvT F cs T g st) {k : IterKind} {l : List Nat}
    (hk : KindEnum cs T k l) (n : Nat) :
    (step F st (.take k n)).1 = .ok (.list (l.take n)) ∧ InvT F cs T g (step F st (.take k n)).2 := by
  obtain ⟨it, st1, h1, h2, h3, h4⟩ := newIter_T wf tw hinv hk
  obtain ⟨it', st2, h5, h6, _, _⟩ := takeIter_T wf tw n it st1 [] l h2 h3 h4
  simp only [step, h1, h5]
  exact ⟨by simp, h6⟩

theorem step_all_T (wf : FileWF F cs) (tw : TreeWF F cs T) (hinv : InvT F cs T g st) {k : IterKind} {l : List Nat}
    (hk : KindEnum cs T k l) :
    (step F st (.all k)).1 = .ok (.list l) ∧ InvT F cs T g (step F st (.all k)).2 := by
  obtain ⟨it, st1, h1, h2, h3, h4⟩ := newIter_T wf tw hinv hk
  obtain ⟨it', st2, h5, h6, _, _⟩ := takeIter_T wf tw (fuelOf F) it st1 [] l h2 h3 h4
  simp only [step, h1, h5]
  exact ⟨by simp [List.take_of_length_le (kindEnum_length wf tw hk)], h6⟩

theorem listSet_eq_set {α} (l : List α) (i : Nat) (x : α) (h : i < l.length) : listSet l i x = l.set i x := by
  unfold listSet; rw [List.set_eq_take_append_cons_drop]; simp [h]

theorem mem_listSet_iff_sub {α} {l : List α} {i : Nat} {x y : α} (h : y ∈ listSet l i x) : y = x ∨ y ∈ l := mem_listSet h

/-- EVERY operation keeps the strengthened invariant: the lookups because they only fill caches (`step_fills`), the
    navigation because it answers, and links, what the tree prescribes -/
theorem step_invT (wf : FileWF F cs) (tw : TreeWF F cs T) (hinv : InvT F cs T g st) {op : Op}
    (hv : OpValidT F cs T op) : InvT F cs T (ghostStep g op) (step F st op).2 := by
  cases op with
  | children cu off =>
    obtain ⟨c, hc, rfl, x, hx, rfl⟩ := hv
    exact (step_children_T wf tw hinv hc hx).2
  | parent cu off =>
    obtain ⟨c, hc, rfl, x, hx, rfl⟩ := hv
    exact (step_parent_T wf tw hinv hc hx).2
  | take k n => obtain ⟨l, hl⟩ := hv; exact (step_take_T wf tw hinv hl n).2
  | all k => obtain ⟨l, hl⟩ := hv; exact (step_all_T wf tw hinv hl).2
  | itNew k =>
    obtain ⟨l, hl⟩ := hv
    obtain ⟨it, st1, h1, h2, h3, h4⟩ := newIter_T wf tw hinv hl
    show InvT F cs T (g ++ [(k, 0)]) _
    simp only [step, h1]
    have hb := step_inv wf hinv.base (op := .itNew k) (kindEnum_valid hl)
    simp only [step, h1] at hb
    exact { base := hb
            unitsT := h2.unitsT
            itersG := by
              obtain ⟨hlen, hent⟩ := h2.itersG
              refine ⟨by simp [hlen], ?_⟩
              intro i it' hi
              by_cases hlt : i < st1.iters.length
              · rw [List.getElem?_append_left hlt] at hi
                obtain ⟨k', n, l', a, b, c, d⟩ := hent i it' hi
                exact ⟨k', n, l', by rw [List.getElem?_append_left (by omega)]; exact a, b, c, d⟩
              · have hi' := (List.getElem?_eq_some_iff.mp hi).1
                simp only [List.length_append, List.length_cons, List.length_nil] at hi'
                have : i = st1.iters.length := by omega
                subst this
                simp at hi
                subst hi
                exact ⟨k, 0, l, by rw [hlen]; simp, hl, by simpa using h3, h4⟩ }
  | itNext h =>
    -- the generator behind the handle advances by one item (`nextIter_T`), its ghost count by one; the table of
    -- generators and the ghost list change at the same index, every other handle keeps what was known of it
    show InvT F cs T (ghostStep g (.itNext h)) _
    obtain ⟨hlen, hent⟩ := hinv.itersG
    simp only [step]
    split
    · rename_i h0
      have hg0 : g = [] := List.length_eq_zero_iff.mp (by rw [← hlen]; exact h0)
      have hg : ghostStep g (.itNext h) = g := by subst hg0; simp [ghostStep]
      rw [hg]; exact hinv
    · rename_i hne
      have hi : h % st.iters.length < st.iters.length := Nat.mod_lt _ (by omega)
      split
      · rename_i hnone
        rw [List.getElem?_eq_none_iff] at hnone; omega
      · rename_i it hget
        obtain ⟨k, n, l, hg1, hk, hrem, hcache⟩ := hent _ it hget
        obtain ⟨it', st', h1, h2, h3, h4, h6⟩ := nextIter_T wf tw hinv hrem hcache
        have hok := iterRem_ok wf h3
        rw [h1]
        have hg : ghostStep g (.itNext h) = g.set (h % st.iters.length) (k, n + 1) := by
          simp only [ghostStep]; rw [← hlen, hg1]
        rw [hg]
        have key : InvT F cs T (g.set (h % st.iters.length) (k, n + 1))
            { st' with iters := listSet st'.iters (h % st.iters.length) it' } :=
          { base := h2.base.setIters fun x hx => by
              rcases mem_listSet hx with rfl | hx
              · exact hok
              · exact h2.base.iters x hx,
            unitsT := h2.unitsT,
            itersG := by
              obtain ⟨hlen', hent'⟩ := h2.itersG
              show (listSet st'.iters (h % st.iters.length) it').length = _ ∧ ∀ i it'', (listSet st'.iters (h % st.iters.length) it')[i]? = some it'' → _
              rw [listSet_eq_set _ _ _ (by rw [h6]; exact hi)]
              refine ⟨by simp [hlen'], ?_⟩
              intro j x hx
              by_cases hj : h % st.iters.length = j
              · subst hj
                rw [List.getElem?_set_self (by rw [h6]; exact hi)] at hx
                injection hx with hx; subst hx
                refine ⟨k, n + 1, l, by rw [List.getElem?_set_self (by rw [← hlen]; exact hi)], hk, ?_, h4⟩
                rw [← List.tail_drop]; exact h3
              · rw [List.getElem?_set_ne hj] at hx
                obtain ⟨k', n', l', a, b, c, d⟩ := hent' j x hx
                exact ⟨k', n', l', by rw [List.getElem?_set_ne hj]; exact a, b, c, d⟩ }
        cases (l.drop n).head? <;> exact key
  | siblings cu off =>
    obtain ⟨c, hc, rfl, x, hx, rfl⟩ := hv
    exact (step_siblings_T wf tw hinv hc hx).2
  | seek _ | cuAt _ | cuCont _ | top _ | die _ _ | refaddr _ | lp _ _ | secIdx _ | symByName _ | ref _ _ _ | pubname _ =>
    exact (step_fills wf hinv.base (opValidT_valid hv) trivial).invT hinv

theorem run_invT (wf : FileWF F cs) (tw : TreeWF F cs T) : ∀ (ops : List Op) (st : State) (g : Ghost), InvT F cs T g st →
    (∀ op ∈ ops, OpValidT F cs T op) → InvT F cs T (ops.foldl ghostStep g) (run F st ops) := by
  intro ops
  induction ops with
  | nil => intro st g h _; exact h
  | cons op ops ih =>
    intro st g h hv
    exact ih _ _ (step_invT wf tw h (hv op (by simp))) (fun o ho => hv o (List.mem_cons_of_mem _ ho))

theorem step_answer_eqT (wf : FileWF F cs) (tw : TreeWF F cs T) {st st' : State} {g' : Ghost} (hinv : InvT F cs T g st)
    (hinv' : InvT F cs T g' st') {op : Op} (hv : OpValidT F cs T op) (hq : Query op) :
    (step F st op).1 = (step F st' op).1 := by
  cases op with
  | children cu off =>
    obtain ⟨c, hc, rfl, x, hx, rfl⟩ := hv
    rw [(step_children_T wf tw hinv hc hx).1, (step_children_T wf tw hinv' hc hx).1]
  | parent cu off =>
    obtain ⟨c, hc, rfl, x, hx, rfl⟩ := hv
    rw [(step_parent_T wf tw hinv hc hx).1, (step_parent_T wf tw hinv' hc hx).1]
  | take k n => obtain ⟨l, hl⟩ := hv; rw [(step_take_T wf tw hinv hl n).1, (step_take_T wf tw hinv' hl n).1]
  | all k => obtain ⟨l, hl⟩ := hv; rw [(step_all_T wf tw hinv hl).1, (step_all_T wf tw hinv' hl).1]
  | itNew k => exact absurd hq (by simp [Query])
  | itNext h => exact absurd hq (by simp [Query])
  | siblings cu off =>
    obtain ⟨c, hc, rfl, x, hx, rfl⟩ := hv
    have htw := treeWF_tw wf tw hc
    rcases (step_siblings_T wf tw hinv hc hx).1 with ⟨hp, h1⟩ | ⟨n, q, hn, hp, _, h1⟩ <;>
    rcases (step_siblings_T wf tw hinv' hc hx).1 with ⟨hp', h1'⟩ | ⟨n', q', hn', hp', _, h1'⟩
    · rw [h1, h1']
    · rw [hp] at hp'; cases hp'
    · rw [hp] at hp'; cases hp'
    · have := owner_unique htw hn hn' hp hp'
      subst this
      rw [h1, h1']
  | seek _ | cuAt _ | cuCont _ | top _ | die _ _ | refaddr _ | lp _ _ | secIdx _ | symByName _ | ref _ _ _ | pubname _ =>
    exact step_lookup_eq wf hinv.base hinv'.base (opValidT_valid hv) trivial

theorem step_itNew_T (wf : FileWF F cs) (tw : TreeWF F cs T) (hinv : InvT F cs T g st) {k : IterKind} {l : List Nat}
    (hk : KindEnum cs T k l) : (step F st (.itNew k)).1 = .ok (.nat g.length) := by
  obtain ⟨it, st1, h1, h2, _, _⟩ := newIter_T wf tw hinv hk
  simp only [step, h1]
  rw [h2.itersG.1]

theorem step_itNext_T (wf : FileWF F cs) (tw : TreeWF F cs T) (hinv : InvT F cs T g st) (h : Nat) {k : IterKind} {n : Nat}
    (hg : g[h % g.length]? = some (k, n)) :
    ∃ l, KindEnum cs T k l ∧ (step F st (.itNext h)).1 = .ok (nthAns l n) := by
  obtain ⟨hlen, hent⟩ := hinv.itersG
  have hi : h % g.length < g.length := (List.getElem?_eq_some_iff.mp hg).1
  have hne : ¬ st.iters.length = 0 := by omega
  have hi' : h % st.iters.length < st.iters.length := by rw [hlen]; exact hi
  obtain ⟨k', n', l, hg', hk, hrem, hcache⟩ := hent _ _ (List.getElem?_eq_getElem hi')
  rw [hlen, hg] at hg'
  injection hg' with hg'; injection hg' with e1 e2; subst e1 e2
  obtain ⟨it', st', h1, _⟩ := nextIter_T wf tw hinv hrem hcache
  refine ⟨l, hk, ?_⟩
  simp only [step, hne, if_false, List.getElem?_eq_getElem hi', h1, List.head?_drop, nthAns]
  cases hl : l[n]? <;> simp only []

end state
end PyElf.Proofs.C10
