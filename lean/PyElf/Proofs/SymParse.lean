/-
  `Elf_Sym` parses back what `encSym` wrote (`sym_roundtrip`).  `symCon`, the `st_info` / `st_other` readers and
  `reads_enum_uint` also serve SymTable and GnuVersions.
-/
import PyElf.Proofs.Reads
import PyElf.Spec.ElfStructs
import PyElf.Spec.Symbols
import PyElf.Model.Symbols
namespace PyElf.Proofs
open PyElf PyElf.Spec PyElf.Model

open Engine (Reads ReadsF pr)

theorem encSym_length (le : Bool) (cls : Nat) (e : SymE) : (encSym le cls e).length = symSize cls := by
  unfold encSym symSize
  split <;> simp [encNat_length]

theorem symSize_pos (cls : Nat) : 0 < symSize cls := by unfold symSize; split <;> omega

theorem splitBits_named (env : Env) (v total w : Nat) (nm tbl : String) (rest : List BitFld) (acc : Fields) :
    splitBits env v total (⟨some nm, w, some (tbl, true)⟩ :: rest) acc
      = splitBits env v (total - w) rest (acc ++ [(nm, nameOr env.enumDecode tbl ((v >>> (total - w)) % 2 ^ w))]) := by
  rw [splitBits]
  simp only [nameOr]
  cases env.enumDecode tbl ((v >>> (total - w) % 2 ^ w : Nat) : Int) <;> simp

theorem splitBits_pad (env : Env) (v total w : Nat) (rest : List BitFld) (acc : Fields) :
    splitBits env v total (⟨none, w, none⟩ :: rest) acc = splitBits env v (total - w) rest acc := by
  rw [splitBits]

def stInfoCon : Con := .bits [⟨some "bind", 4, some ("ENUM_ST_INFO_BIND", true)⟩, ⟨some "type", 4, some ("ENUM_ST_INFO_TYPE", true)⟩]
def stOtherCon : Con := .bits [⟨some "local", 3, some ("ENUM_ST_LOCAL", true)⟩, ⟨none, 2, none⟩,
                               ⟨some "visibility", 3, some ("ENUM_ST_VISIBILITY", true)⟩]

theorem beNat_encNat_one (le : Bool) {v : Nat} (hv : v < 256) : beNat (encNat le 1 v) = v := by
  rw [encNat_one]
  simp [beNat, leNat]; omega

section reads
variable {env : Env} {ctx : Fields} {pos : Nat} {out : Bytes} {le : Bool}

theorem reads_st_info {v : Nat} (hv : v < 256) :
    Reads (pr env stInfoCon) ctx pos (encNat le 1 v ++ out)
      (.record [("bind", nameOr env.enumDecode "ENUM_ST_INFO_BIND" (v / 16 % 16)),
                ("type", nameOr env.enumDecode "ENUM_ST_INFO_TYPE" (v % 16))]) (pos + 1) out ctx :=
  Reads.bits (n := 1) rfl (encNat_length le 1 v) (by
    rw [beNat_encNat_one le hv, splitBits_named, splitBits_named, splitBits]
    simp [Nat.shiftRight_eq_div_pow])

/-- bits 7..5 are the PPC64 local-entry field, bits 4..3 unused -/
theorem reads_st_other {v : Nat} (hv : v < 256) :
    Reads (pr env stOtherCon) ctx pos (encNat le 1 v ++ out)
      (.record [("local", nameOr env.enumDecode "ENUM_ST_LOCAL" (v / 32 % 8)),
                ("visibility", nameOr env.enumDecode "ENUM_ST_VISIBILITY" (v % 8))]) (pos + 1) out ctx :=
  Reads.bits (n := 1) rfl (encNat_length le 1 v) (by
    rw [beNat_encNat_one le hv, splitBits_named, splitBits_pad, splitBits_named, splitBits]
    simp [Nat.shiftRight_eq_div_pow])

/-- `Enum(…, default=Pass)` over an unsigned integer -/
theorem reads_enum_uint {n v : Nat} {tbl : String} (hv : v < 256 ^ n) :
    Reads (pr env (.enum (.uint n le) tbl true)) ctx pos (encNat le n v ++ out) (nameOr env.enumDecode tbl v) (pos + n) out ctx :=
  Reads.enum_pass (Reads.uint hv)

end reads

/-- Elf32 has value and size before the flag bytes, Elf64 after them; `st_value` is an address (`cls / 8` bytes),
    `st_size` a word in Elf32 and an xword in Elf64 -/
def symCon (le : Bool) (cls : Nat) : Con :=
  if cls = 32 then
    .struct (.cons (some "st_name") false (.uint 4 le) (.cons (some "st_value") false (.uint (cls / 8) le)
      (.cons (some "st_size") false (.uint 4 le) (.cons (some "st_info") false stInfoCon
      (.cons (some "st_other") false stOtherCon
      (.cons (some "st_shndx") false (.enum (.uint 2 le) "ENUM_ST_SHNDX" true) .nil))))))
  else
    .struct (.cons (some "st_name") false (.uint 4 le) (.cons (some "st_info") false stInfoCon
      (.cons (some "st_other") false stOtherCon
      (.cons (some "st_shndx") false (.enum (.uint 2 le) "ENUM_ST_SHNDX" true)
      (.cons (some "st_value") false (.uint (cls / 8) le)
      (.cons (some "st_size") false (.uint (cls / 8) le) .nil))))))

theorem spec_sym (c : ElfCfg) : (Spec.elfStructs c).Elf_Sym = symCon c.le c.cls := rfl

theorem symCon_32 (le : Bool) : symCon le 32
    = .struct (.cons (some "st_name") false (.uint 4 le) (.cons (some "st_value") false (.uint 4 le)
        (.cons (some "st_size") false (.uint 4 le) (.cons (some "st_info") false stInfoCon
        (.cons (some "st_other") false stOtherCon
        (.cons (some "st_shndx") false (.enum (.uint 2 le) "ENUM_ST_SHNDX" true) .nil)))))) := by
  simp [symCon]

theorem symCon_64 (le : Bool) : symCon le 64
    = .struct (.cons (some "st_name") false (.uint 4 le) (.cons (some "st_info") false stInfoCon
        (.cons (some "st_other") false stOtherCon
        (.cons (some "st_shndx") false (.enum (.uint 2 le) "ENUM_ST_SHNDX" true)
        (.cons (some "st_value") false (.uint 8 le) (.cons (some "st_size") false (.uint 8 le) .nil)))))) := by
  simp [symCon]

theorem SymE.WF_facts {cls : Nat} {e : SymE} (h : e.WF cls = true) :
    e.stName < 2 ^ 32 ∧ e.value < 2 ^ cls ∧ e.size < 2 ^ cls ∧ e.info < 256 ∧ e.other < 256 ∧ e.shndx < 65536 := by
  simp only [SymE.WF, Bool.and_eq_true, decide_eq_true_eq] at h
  obtain ⟨⟨⟨⟨⟨a, b⟩, c⟩, d⟩, e'⟩, f'⟩ := h
  exact ⟨a, b, c, d, e', f'⟩

theorem sym_parse32 (env : Env) (le : Bool) (e : SymE) (hwf : e.WF 32 = true)
    (data : Bytes) (pos : Nat) (rest : Bytes) (hd : data.drop pos = encSym le 32 e ++ rest) :
    structParse env (symCon le 32) data pos = .ok (obsEntry env.enumDecode 32 e, pos + 16) := by
  obtain ⟨w1, w2, w3, w4, w5, w6⟩ := SymE.WF_facts hwf
  have hd' : data.drop pos = encNat le 4 e.stName ++ (encNat le 4 e.value ++ (encNat le 4 e.size ++
      (encNat le 1 e.info ++ (encNat le 1 e.other ++ (encNat le 2 e.shndx ++ rest))))) := by
    rw [hd]; simp [encSym, List.append_assoc]
  rw [symCon_32]
  exact (ReadsF.struct
    (.named (Reads.uint (by omega : e.stName < 256 ^ 4)) <| .named (Reads.uint (by omega : e.value < 256 ^ 4)) <|
     .named (Reads.uint (by omega : e.size < 256 ^ 4)) <| .named (reads_st_info w4) <| .named (reads_st_other w5) <|
     .named (reads_enum_uint (by omega : e.shndx < 256 ^ 2)) .nil)
    (by simp [Fields.set])).structParse hd'

theorem sym_parse64 (env : Env) (le : Bool) (e : SymE) (hwf : e.WF 64 = true)
    (data : Bytes) (pos : Nat) (rest : Bytes) (hd : data.drop pos = encSym le 64 e ++ rest) :
    structParse env (symCon le 64) data pos = .ok (obsEntry env.enumDecode 64 e, pos + 24) := by
  obtain ⟨w1, w2, w3, w4, w5, w6⟩ := SymE.WF_facts hwf
  have hd' : data.drop pos = encNat le 4 e.stName ++ (encNat le 1 e.info ++ (encNat le 1 e.other ++
      (encNat le 2 e.shndx ++ (encNat le 8 e.value ++ (encNat le 8 e.size ++ rest))))) := by
    rw [hd]; simp [encSym, List.append_assoc]
  rw [symCon_64]
  exact (ReadsF.struct
    (.named (Reads.uint (by omega : e.stName < 256 ^ 4)) <| .named (reads_st_info w4) <| .named (reads_st_other w5) <|
     .named (reads_enum_uint (by omega : e.shndx < 256 ^ 2)) <| .named (Reads.uint (by omega : e.value < 256 ^ 8)) <|
     .named (Reads.uint (by omega : e.size < 256 ^ 8)) .nil)
    (by simp [Fields.set])).structParse hd'

theorem sym_roundtrip (env : Env) {S : ElfStructs} {le : Bool} {cls : Nat} (hS : S.Elf_Sym = symCon le cls)
    (hcls : cls = 32 ∨ cls = 64) (e : SymE) (hwf : e.WF cls = true) (data : Bytes) (pos : Nat) (rest : Bytes)
    (hd : data.drop pos = encSym le cls e ++ rest) :
    structParse env S.Elf_Sym data pos = .ok (obsEntry env.enumDecode cls e, pos + symSize cls) := by
  rw [hS]
  rcases hcls with rfl | rfl
  · exact sym_parse32 env le e hwf data pos rest hd
  · exact sym_parse64 env le e hwf data pos rest hd

end PyElf.Proofs
