/-
  The construct engine never reports the models' `outOfFuel` on a construct without `RepeatUntil` (`Con.loopFree`),
  whatever the bytes: its only fuel-bounded loop is `RepeatUntilExcluding`; the LEB128 and string loops run on a fuel
  of their own that ends in ELFParseError.  `nf_parse`, `nf_structParse`, `nf_structParseAt` (namespace
  `PyElf.Proofs.ElfLoops`, which Proofs/ElfLoops.lean continues for the loops of the models).
-/
import PyElf.Proofs.Good
namespace PyElf.Proofs.ElfLoops
open PyElf PyElf.Spec PyElf.Model PyElf.Proofs PyElf.Proofs.ElfErrors

mutual
/-- no `RepeatUntilExcluding` anywhere inside -/
def Con.loopFree : Con → Bool
  | .enum sub _ _ => Con.loopFree sub
  | .struct fs => ConFields.loopFree fs
  | .array _ sub => Con.loopFree sub
  | .prefixed len sub => Con.loopFree len && Con.loopFree sub
  | .repeatUntilExcl _ _ => false
  | .ifThenElse _ t e => Con.loopFree t && Con.loopFree e
  | .switch _ cases dflt => ConCases.loopFree cases && Con.loopFree dflt
  | _ => true
def ConFields.loopFree : ConFields → Bool
  | .nil => true
  | .cons _ _ c rest => Con.loopFree c && ConFields.loopFree rest
def ConCases.loopFree : ConCases → Bool
  | .nil => true
  | .cons _ c rest => Con.loopFree c && ConCases.loopFree rest
end

theorem nfe_of_ne {e : Err} (h : e ≠ .outOfFuel) : NFE e := h

theorem nf_arith (f : Int → Int → R Int) (hf : ∀ a b, NF (f a b)) (x y : Val) : NF (Expr.arith f x y) := by
  unfold Expr.arith
  refine Only.bind (nf_asInt _) (fun a _ => Only.bind (nf_asInt _) (fun b _ => Only.bind (hf a b) (fun _ _ => Only.pure _)))

theorem nf_cmp (f : Int → Int → Bool) (x y : Val) : NF (Expr.cmp f x y) :=
  Only.bind (nf_asInt _) (fun _ _ => Only.bind (nf_asInt _) (fun _ _ => Only.pure _))

theorem nf_eval (ctx : Fields) (o : Val) : ∀ e : Expr, NF (e.eval ctx o) := by
  intro e
  induction e with
  | lit | str | bytesLit | none | bool | obj | tnil => exact Only.ok _
  | ctx k => exact nf_getR _ _
  | objFld k => exact nf_getField _ _
  | add a b iha ihb | sub a b iha ihb | mul a b iha ihb | band a b iha ihb | bor a b iha ihb | bxor a b iha ihb =>
    exact Only.bind iha (fun _ _ => Only.bind ihb (fun _ _ => nf_arith _ (fun _ _ => Only.ok _) _ _))
  | fdiv a b iha ihb | fmod a b iha ihb | shl a b iha ihb | shr a b iha ihb =>
    exact Only.bind iha (fun _ _ => Only.bind ihb (fun _ _ => nf_arith _
      (fun _ _ => Only.ite (fun _ => Only.error (by decide)) (fun _ => Only.ok _)) _ _))
  | eq a b iha ihb | ne a b iha ihb =>
    exact Only.bind iha (fun _ _ => Only.bind ihb (fun _ _ => Only.pure _))
  | lt a b iha ihb | le a b iha ihb | gt a b iha ihb | ge a b iha ihb =>
    exact Only.bind iha (fun _ _ => Only.bind ihb (fun _ _ => nf_cmp _ _ _))
  | and a b iha ihb =>
    exact Only.bind iha (fun _ _ => Only.ite (fun _ => ihb) (fun _ => Only.pure _))
  | or a b iha ihb =>
    exact Only.bind iha (fun _ _ => Only.ite (fun _ => Only.pure _) (fun _ => ihb))
  | not a iha | truthy a iha => exact Only.bind iha (fun _ _ => Only.pure _)
  | len a iha | isStr a iha | startsWith a p iha =>
    refine Only.bind iha (fun v _ => ?_)
    cases v <;> first | exact Only.pure _ | exact Only.error (by decide)
  | ite c t e ihc iht ihe =>
    exact Only.bind ihc (fun _ _ => Only.ite (fun _ => iht) (fun _ => ihe))
  | tcons a b iha ihb =>
    refine Only.bind iha (fun _ _ => Only.bind ihb (fun v _ => ?_))
    cases v <;> first | exact Only.pure _ | exact Only.error (by decide)

theorem nf_readExact (data : Bytes) (pos n : Nat) : NF (readExact data pos n) :=
  (readExact_only false data pos n).mono fun _ h => tameErr_false h ▸ by decide

theorem nf_cstringLoop (data : Bytes) : ∀ fuel pos acc, NF (cstringLoop data fuel pos acc) := by
  intro fuel
  induction fuel with
  | zero => intro _ _; rw [cstringLoop]; exact Only.error (by decide)
  | succ fuel ih =>
    intro pos acc
    rw [cstringLoop]
    split
    · exact Only.error (by decide)
    · split
      · exact Only.ok _
      · exact ih _ _

theorem nf_splitBits (env : Env) (v : Nat) : ∀ (fs : List BitFld) (total : Nat) (acc : Fields),
    NF (splitBits env v total fs acc) := by
  intro fs
  induction fs with
  | nil => intro _ _; rw [splitBits]; exact Only.ok _
  | cons f rest ih =>
    intro total acc
    rw [splitBits]
    split
    · exact ih _ _
    · split
      · exact ih _ _
      · split
        · exact ih _ _
        · split
          · exact ih _ _
          · exact Only.error (by decide)

mutual
theorem nf_parse (env : Env) (data : Bytes) :
    ∀ (c : Con), Con.loopFree c = true → ∀ ctx pos, NF (Con.parse env data c ctx pos)
  | .uint n le, _, ctx, pos => by
      exact Only.bind (nf_readExact data pos n) (fun _ _ => Only.pure _)
  | .sint n le, _, ctx, pos => by
      exact Only.bind (nf_readExact data pos n) (fun _ _ => Only.pure _)
  | .u24 le, _, ctx, pos => by
      refine Only.bind (nf_readExact data pos 3) (fun _ _ => ?_)
      cases le <;> exact Only.pure _
  | .uleb, _, ctx, pos => by
      exact Only.bind (ulebLoop_good data _ _ _ _).only (fun _ _ => Only.pure _)
  | .sleb, _, ctx, pos => by
      exact Only.bind (slebLoop_good data _ _ _ _).only (fun _ _ => Only.pure _)
  | .cstring, _, ctx, pos => by
      exact Only.bind (nf_cstringLoop data _ _ _) (fun _ _ => Only.pure _)
  | .bytesN len, _, ctx, pos => by
      exact Only.bind (nf_eval ctx .none len) (fun _ _ => Only.bind (nf_asNat _) (fun _ _ =>
        Only.bind (nf_readExact data pos _) (fun _ _ => Only.pure _)))
  | .padding len strict, _, ctx, pos => by
      exact Only.bind (nf_eval ctx .none len) (fun _ _ => Only.bind (nf_asNat _) (fun _ _ =>
        Only.bind (nf_readExact data pos _) (fun _ _ =>
          Only.ite (fun _ => Only.error (by decide)) (fun _ => Only.pure _))))
  | .enum sub t pass, hc, ctx, pos =>
      Only.enum (by decide) (nf_parse env data sub (by simpa [Con.loopFree] using hc) ctx pos)
  | .struct fs, hc, ctx, pos =>
      Only.struct (nf_parseFields env data fs (by simpa [Con.loopFree] using hc) [] [] pos)
  | .array e sub, hc, ctx, pos => by
      exact Only.bind (nf_eval ctx .none e) (fun _ _ => Only.bind (nf_asInt _) (fun n _ =>
        arrayLoop_only (fun p c => nf_parse env data sub (by simpa [Con.loopFree] using hc) c p) _ _ _ _))
  | .prefixed len sub, hc, ctx, pos => by
      have h : Con.loopFree len = true ∧ Con.loopFree sub = true := by simpa [Con.loopFree] using hc
      refine Only.bind (nf_parse env data len h.1 ctx pos) ?_
      rintro ⟨n, p, ctx'⟩ _
      exact Only.bind (nf_asInt _) (fun n _ =>
        arrayLoop_only (fun p c => nf_parse env data sub h.2 c p) _ _ _ _)
  | .repeatUntilExcl _ _, hc, _, _ => by simp [Con.loopFree] at hc
  | .value e, _, ctx, pos => by
      exact Only.bind (nf_eval ctx .none e) (fun _ _ => Only.pure _)
  | .ifThenElse c t e, hc, ctx, pos => by
      have h : Con.loopFree t = true ∧ Con.loopFree e = true := by simpa [Con.loopFree] using hc
      exact Only.bind (nf_eval ctx .none c) (fun _ _ =>
        Only.ite (fun _ => nf_parse env data t h.1 ctx pos) (fun _ => nf_parse env data e h.2 ctx pos))
  | .switch key cases dflt, hc, ctx, pos => by
      have h : ConCases.loopFree cases = true ∧ Con.loopFree dflt = true := by simpa [Con.loopFree] using hc
      refine Only.bind (nf_eval ctx .none key) (fun k _ => ?_)
      cases hr : Con.parseCase env data k cases ctx pos with
      | some r => exact nf_parseCase env data k cases h.1 ctx pos r hr
      | none => exact nf_parse env data dflt h.2 ctx pos
  | .noDefault, _, _, _ => by exact Only.error (by decide)
  | .bits fs, _, ctx, pos => by
      exact Only.bind (nf_readExact data pos _) (fun _ _ => Only.bind (nf_splitBits env _ _ _ _) (fun _ _ => Only.pure _))
  | .streamOffset, _, _, _ => by exact Only.ok _
  | .initialLength le, _, ctx, pos => by
      exact Only.bind (nf_readExact data pos 4) (fun _ _ =>
        Only.ite (fun _ => Only.pure _) (fun _ =>
          Only.ite (fun _ => Only.bind (nf_readExact data _ 8) (fun _ _ => Only.pure _))
            (fun _ => Only.error (by decide))))
  | .formatted _, _, _, _ => by exact Only.error (by decide)
  | .unsupported _, _, _, _ => by exact Only.error (by decide)
theorem nf_parseFields (env : Env) (data : Bytes) :
    ∀ (fs : ConFields), ConFields.loopFree fs = true →
      ∀ obj ctx pos, NF (Con.parseFields env data fs obj ctx pos)
  | .nil, _, obj, ctx, pos => by exact Only.ok _
  | .cons name embed c rest, hc, obj, ctx, pos => by
      have h : Con.loopFree c = true ∧ ConFields.loopFree rest = true := by simpa [ConFields.loopFree] using hc
      cases embed with
      | true =>
        exact Only.bind (nf_parseEmb env data c h.1 obj ctx pos) (fun _ _ => nf_parseFields env data rest h.2 _ _ _)
      | false =>
        cases name with
        | none => exact Only.anon (nf_parse env data c h.1 ctx pos) fun _ _ _ _ => nf_parseFields env data rest h.2 _ _ _
        | some nm => exact Only.named (nf_parse env data c h.1 ctx pos) fun _ _ _ _ => nf_parseFields env data rest h.2 _ _ _
theorem nf_parseEmb (env : Env) (data : Bytes) :
    ∀ (c : Con), Con.loopFree c = true → ∀ obj ctx pos, NF (Con.parseEmb env data c obj ctx pos)
  | .struct fs, hc, obj, ctx, pos => by
      exact nf_parseFields env data fs (by simpa [Con.loopFree] using hc) obj ctx pos
  | .ifThenElse c t e, hc, obj, ctx, pos => by
      have h : Con.loopFree t = true ∧ Con.loopFree e = true := by simpa [Con.loopFree] using hc
      exact Only.bind (nf_eval ctx .none c) (fun _ _ =>
        Only.ite (fun _ => nf_parseEmb env data t h.1 obj ctx pos) (fun _ => nf_parseEmb env data e h.2 obj ctx pos))
  | .switch key cases dflt, hc, obj, ctx, pos => by
      have h : ConCases.loopFree cases = true ∧ Con.loopFree dflt = true := by simpa [Con.loopFree] using hc
      refine Only.bind (nf_eval ctx .none key) (fun k _ => ?_)
      cases hr : Con.parseCaseEmb env data k cases obj ctx pos with
      | some r => exact nf_parseCaseEmb env data k cases h.1 obj ctx pos r hr
      | none => exact nf_parseEmb env data dflt h.2 obj ctx pos
  | .value _, _, obj, ctx, pos => by exact Only.ok _
  -- every other construct is not embeddable: `parseEmb` is `.error .notImplemented` (`.elfParseError` for `noDefault`)
  | .noDefault, _, _, _, _ => Only.error (by decide)
  | .uint _ _, _, _, _, _ => Only.error (by decide)
  | .sint _ _, _, _, _, _ => Only.error (by decide)
  | .u24 _, _, _, _, _ => Only.error (by decide)
  | .uleb, _, _, _, _ => Only.error (by decide)
  | .sleb, _, _, _, _ => Only.error (by decide)
  | .cstring, _, _, _, _ => Only.error (by decide)
  | .bytesN _, _, _, _, _ => Only.error (by decide)
  | .padding _ _, _, _, _, _ => Only.error (by decide)
  | .enum _ _ _, _, _, _, _ => Only.error (by decide)
  | .array _ _, _, _, _, _ => Only.error (by decide)
  | .prefixed _ _, _, _, _, _ => Only.error (by decide)
  | .repeatUntilExcl _ _, _, _, _, _ => Only.error (by decide)
  | .bits _, _, _, _, _ => Only.error (by decide)
  | .streamOffset, _, _, _, _ => Only.error (by decide)
  | .initialLength _, _, _, _, _ => Only.error (by decide)
  | .formatted _, _, _, _, _ => Only.error (by decide)
  | .unsupported _, _, _, _, _ => Only.error (by decide)
theorem nf_parseCase (env : Env) (data : Bytes) (k : Val) :
    ∀ (cs : ConCases), ConCases.loopFree cs = true → ∀ ctx pos r,
      Con.parseCase env data k cs ctx pos = some r → NF r
  | .nil, _, ctx, pos, r, hr => by rw [Con.parseCase] at hr; cases hr
  | .cons k' c rest, hc, ctx, pos, r, hr => by
      have h : Con.loopFree c = true ∧ ConCases.loopFree rest = true := by simpa [ConCases.loopFree] using hc
      rw [Con.parseCase] at hr
      split at hr
      · cases hr; exact nf_parse env data c h.1 ctx pos
      · exact nf_parseCase env data k rest h.2 ctx pos r hr
theorem nf_parseCaseEmb (env : Env) (data : Bytes) (k : Val) :
    ∀ (cs : ConCases), ConCases.loopFree cs = true → ∀ obj ctx pos r,
      Con.parseCaseEmb env data k cs obj ctx pos = some r → NF r
  | .nil, _, obj, ctx, pos, r, hr => by rw [Con.parseCaseEmb] at hr; cases hr
  | .cons k' c rest, hc, obj, ctx, pos, r, hr => by
      have h : Con.loopFree c = true ∧ ConCases.loopFree rest = true := by simpa [ConCases.loopFree] using hc
      rw [Con.parseCaseEmb] at hr
      split at hr
      · cases hr; exact nf_parseEmb env data c h.1 obj ctx pos
      · exact nf_parseCaseEmb env data k rest h.2 obj ctx pos r hr
end

theorem nf_structParse {env : Env} {c : Con} (hc : Con.loopFree c = true) (data : Bytes) (pos : Nat) (ctx : Fields := []) :
    NF (structParse env c data pos ctx) :=
  Only.structParse (nf_parse env data c hc ctx pos)

theorem nf_structParseAt {env : Env} {c : Con} (hc : Con.loopFree c = true) (data : Bytes) (pos : Nat) :
    NF (structParseAt env c data pos) :=
  Only.structParseAt (by decide) (nf_parse env data c hc [] pos)

end PyElf.Proofs.ElfLoops
