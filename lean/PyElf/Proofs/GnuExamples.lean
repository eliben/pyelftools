/-
  A small builder of concrete abstract ELF images (`Spec.ElfDesc`) for the non-vacuity checks of the whole-file
  theorems (`Props/C15.lean`, `Props/C03.lean`, Proofs/RelocExamples.lean).  Definitions only.
-/
import PyElf.Spec.ElfImage
namespace PyElf.Proofs.C15
open PyElf PyElf.Spec

structure ExSec where
  name : Bytes
  nameOff : Nat
  ty : Nat
  link : Nat := 0
  info : Nat := 0
  entsize : Nat := 0
  body : Option Bytes := none

/-- an image of class `cls`: file header, section header table, then the bodies three bytes apart; no
    program headers; `e_machine = 21` (EM_PPC64, of the default machine class), `ET_DYN` -/
def exImage (cls : Nat) (le : Bool) (secs : List ExSec) (shstrndx : Nat) : ElfDesc :=
  let ehsize := if cls = 32 then 52 else 64
  let shsz := if cls = 32 then 40 else 64
  let start := ehsize + shsz * secs.length
  let placed := (secs.foldl (fun (acc : List (ExSec × Nat) × Nat) s =>
    (acc.1 ++ [(s, acc.2)], acc.2 + (s.body.getD []).length + 3)) ([], start)).1
  { cls := cls, le := le, mclass := "default", solaris := false, core := false,
    ehdr := [("EI_VERSION", .int 1), ("EI_OSABI", .int 0), ("EI_ABIVERSION", .int 0), ("e_type", .int 3),
             ("e_machine", .int 21), ("e_version", .int 1), ("e_entry", .int 0), ("e_flags", .int 0),
             ("e_ehsize", .int ehsize)],
    shoff := ehsize, phoff := 0, shentsize := shsz, phentsize := 0,
    sections := placed.map fun (s, off) =>
      { name := s.name, nameOff := s.nameOff, body := s.body,
        hdr := [("sh_type", .int s.ty), ("sh_flags", .int 0), ("sh_addr", .int 0), ("sh_offset", .int off),
                ("sh_size", .int (s.body.getD []).length), ("sh_link", .int s.link), ("sh_info", .int s.info),
                ("sh_addralign", .int 1), ("sh_entsize", .int s.entsize)] },
    segments := [], shstrndx := shstrndx }

/-- ".dynstr", ".v", ".s", ".dynsym" and a section-name table holding them at 1, 9, 12, 15 -/
def nDynstr : Bytes := [0x2e, 0x64, 0x79, 0x6e, 0x73, 0x74, 0x72]
def nVer : Bytes := [0x2e, 0x76]
def nShstr : Bytes := [0x2e, 0x73]
def nDynsym : Bytes := [0x2e, 0x64, 0x79, 0x6e, 0x73, 0x79, 0x6d]
def exNames : Bytes := [0] ++ nDynstr ++ [0] ++ nVer ++ [0] ++ nShstr ++ [0] ++ nDynsym ++ [0]

end PyElf.Proofs.C15
