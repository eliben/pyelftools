/-
  The file, section and program header structures of `Spec.elfStructs`: a named field of a decoded struct is the
  decoding of the raw value encoded for it (`fieldCon`, `uint_field`, `enum_field`); from that, what the decoded
  headers of a description carry (`HdrFacts`, `SecFacts`, `SegFacts`), the bytes of `e_ident` (`ehdr_bytes`,
  `identify_ok`) and the sizes the section constructors consult.
-/
import PyElf.Proofs.ElfLayout
import PyElf.Proofs.ElfCodec
namespace PyElf.Proofs
open PyElf PyElf.Spec PyElf.Model PyElf.Proofs.Engine

def fieldNames : ConFields → List String
  | .nil => []
  | .cons (some nm) _ _ rest => nm :: fieldNames rest
  | .cons none _ _ rest => fieldNames rest

/-- the construct of the field named `k`, when exactly one field bears that name -/
def fieldCon : ConFields → String → Option Con
  | .nil, _ => none
  | .cons (some nm) _ c rest, k =>
      if nm = k then (if k ∈ fieldNames rest then none else some c) else fieldCon rest k
  | .cons none _ _ rest, k => fieldCon rest k

theorem decodeRaw_get_notin (env : Env) (k : String) :
    ∀ (fs : ConFields) (raw obj ctx obj' ctx' : Fields), k ∉ fieldNames fs →
      ConFields.decodeRaw env fs raw obj ctx = .ok (obj', ctx') → Fields.get? obj' k = Fields.get? obj k
  | .nil, raw, obj, ctx, obj', ctx', _, h => by
    simp [ConFields.decodeRaw] at h
    rw [h.1]
  | .cons name embed c rest, raw, obj, ctx, obj', ctx', hk, h => by
    have ih := decodeRaw_get_notin env k rest
    cases name with
    | none =>
      rw [ConFields.decodeRaw] at h
      simp only [fieldNames] at hk
      obtain ⟨v, -, h⟩ := ElfErrors.bind_ok.1 h
      exact ih _ _ _ _ _ hk h
    | some nm =>
      rw [ConFields.decodeRaw] at h
      simp only [fieldNames, List.mem_cons, not_or] at hk
      obtain ⟨v, -, h⟩ := ElfErrors.bind_ok.1 h
      rw [ih _ _ _ _ _ hk.2 h, Fields.get?_set_other _ _ (Ne.symm hk.1)]

theorem decodeRaw_get (env : Env) (k : String) (c : Con) :
    ∀ (fs : ConFields) (raw obj ctx obj' ctx' : Fields), fieldCon fs k = some c →
      ConFields.decodeRaw env fs raw obj ctx = .ok (obj', ctx') →
      ∃ ctx0 v, Con.decodeRaw env c ctx0 ((Fields.get? raw k).getD .none) = .ok v ∧
        Fields.get? obj' k = some v
  | .nil, raw, obj, ctx, obj', ctx', hf, _ => by simp [fieldCon] at hf
  | .cons name embed c' rest, raw, obj, ctx, obj', ctx', hf, h => by
    -- down the field list: at the first field named `k` its decoding is stored under `k`, and no later field bears
    -- that name again (`fieldCon` takes the first only if the rest has none: `decodeRaw_get_notin`); before it, `ih`
    have ih := decodeRaw_get env k c rest
    cases name with
    | none =>
      rw [ConFields.decodeRaw] at h
      simp only [fieldCon] at hf
      obtain ⟨v, -, h⟩ := ElfErrors.bind_ok.1 h
      exact ih _ _ _ _ _ hf h
    | some nm =>
      rw [ConFields.decodeRaw] at h
      simp only [fieldCon] at hf
      obtain ⟨v, hv, hrest⟩ := ElfErrors.bind_ok.1 h
      by_cases hnm : nm = k
      · subst hnm
        simp only [if_true] at hf
        split at hf
        · cases hf
        · rename_i hnot
          cases hf
          refine ⟨ctx, v, hv, ?_⟩
          rw [decodeRaw_get_notin env nm _ _ _ _ _ _ hnot hrest, Fields.get?_set_same]
      · simp only [hnm, if_false] at hf
        exact ih _ _ _ _ _ hf hrest

theorem encodeRaw_field (k : String) (c : Con) :
    ∀ (fs : ConFields) (raw : Fields) (bs : Bytes), fieldCon fs k = some c →
      ConFields.encodeRaw fs raw = some bs →
      ∃ b, c.encodeRaw ((Fields.get? raw k).getD .none) = some b
  | .nil, raw, bs, hf, _ => by simp [fieldCon] at hf
  | .cons name embed c' rest, raw, bs, hf, h => by
    have ih := encodeRaw_field k c rest
    cases name with
    | none =>
      rw [ConFields.encodeRaw] at h
      obtain ⟨a, b, ha, hb, -⟩ := bind2_eq_some h
      simp only [fieldCon] at hf
      exact ih _ _ hf hb
    | some nm =>
      rw [ConFields.encodeRaw] at h
      obtain ⟨a, b, ha, hb, -⟩ := bind2_eq_some h
      simp only [fieldCon] at hf
      by_cases hnm : nm = k
      · subst hnm
        simp only [if_true] at hf
        split at hf
        · cases hf
        · cases hf; exact ⟨a, ha⟩
      · simp only [hnm, if_false] at hf
        exact ih _ _ hf hb

theorem struct_field_exists {env : Env} {fs : ConFields} {k : String} {c : Con}
    (hf : fieldCon fs k = some c) {raw : Fields} {v : Val} {ctx : Fields}
    (hd : (Con.struct fs).decodeRaw env ctx (.record raw) = .ok v) :
    ∃ ctx0 x, c.decodeRaw env ctx0 ((Fields.get? raw k).getD .none) = .ok x ∧ v.getField k = .ok x := by
  rw [Con.decodeRaw] at hd
  obtain ⟨⟨obj', ctx'⟩, hd', hd⟩ := ElfErrors.bind_ok.1 hd
  cases hd
  obtain ⟨ctx0, x, hx, hg⟩ := decodeRaw_get env k _ fs raw [] [] obj' ctx' hf hd'
  exact ⟨ctx0, x, hx, by simp [Val.getField, Fields.getR, hg]⟩

theorem uint_field {env : Env} {fs : ConFields} {k : String} {n : Nat} {le : Bool}
    (hf : fieldCon fs k = some (.uint n le)) {raw : Fields} {bs : Bytes}
    (he : (Con.struct fs).encodeRaw (.record raw) = some bs) {v : Val} {ctx : Fields}
    (hd : (Con.struct fs).decodeRaw env ctx (.record raw) = .ok v) :
    ∃ z : Nat, z < 256 ^ n ∧ Fields.get? raw k = some (.int z) ∧ v.getField k = .ok (.int z) := by
  rw [Con.encodeRaw] at he
  obtain ⟨b, hb⟩ := encodeRaw_field k _ fs raw bs hf he
  obtain ⟨ctx0, x, hx, hg⟩ := struct_field_exists hf hd
  cases hr : Fields.get? raw k with
  | none => simp [hr, Con.encodeRaw] at hb
  | some y =>
    rw [hr] at hb hx
    simp only [Option.getD_some] at hb hx
    cases y <;> simp only [Con.encodeRaw, reduceCtorEq] at hb
    rename_i z
    split at hb
    · rename_i hz
      refine ⟨z.toNat, toNat_lt_pow hz.1 hz.2, ?_, ?_⟩
      · rw [Int.toNat_of_nonneg hz.1]
      · simp only [Con.decodeRaw] at hx
        cases hx
        simp [hg, Int.toNat_of_nonneg hz.1]
    · cases hb

theorem shdr_field_type (c : ElfCfg) :
    fieldCon (shdrFields c) "sh_type" = some (.enum (.uint 4 c.le) (shTypeTable c.mclass) true) := by
  simp [shdrFields, mkFields, f, fieldCon, fieldNames, enumOf]

theorem fieldNat_of_getField {v : Val} {k : String} {z : Nat} (h : v.getField k = .ok (.int (z : Int))) :
    fieldNat v k = z := by
  simp [fieldNat, h]

def shdrNatKeys : List String :=
  ["sh_name", "sh_link", "sh_info", "sh_flags", "sh_addr", "sh_offset", "sh_size", "sh_addralign", "sh_entsize"]

theorem shdr_field_nat (c : ElfCfg) (k : String) (hk : k ∈ shdrNatKeys) :
    ∃ n, fieldCon (shdrFields c) k = some (.uint n c.le) := by
  simp only [shdrNatKeys, List.mem_cons, List.not_mem_nil, or_false] at hk
  rcases hk with rfl | rfl | rfl | rfl | rfl | rfl | rfl | rfl | rfl <;>
    exact ⟨_, by simp [shdrFields, mkFields, f, fieldCon, fieldNames]; rfl⟩

theorem enum_field {env : Env} {fs : ConFields} {k : String} {n : Nat} {le : Bool} {t : String}
    (hf : fieldCon fs k = some (.enum (.uint n le) t true)) {raw : Fields} {bs : Bytes}
    (he : (Con.struct fs).encodeRaw (.record raw) = some bs) {v : Val} {ctx : Fields}
    (hd : (Con.struct fs).decodeRaw env ctx (.record raw) = .ok v) :
    Fields.get? raw k = some (.int (getNatD raw k)) ∧ v.getField k = .ok (enumVal env.enumDecode t (getNatD raw k)) := by
  rw [Con.encodeRaw] at he
  obtain ⟨b, hb⟩ := encodeRaw_field k _ fs raw bs hf he
  obtain ⟨ctx0, x, hx, hg⟩ := struct_field_exists hf hd
  cases hr : Fields.get? raw k with
  | none => simp [hr, Con.encodeRaw] at hb
  | some y =>
    rw [hr] at hb hx
    simp only [Option.getD_some] at hb hx
    cases y <;> simp only [Con.encodeRaw, reduceCtorEq] at hb
    rename_i z
    split at hb
    · rename_i hz
      have hzz : z = ((z.toNat : Nat) : Int) := (Int.toNat_of_nonneg hz.1).symm
      have hn : getNatD raw k = z.toNat := by simp [getNatD, hr]
      rw [hn, ← hzz]
      rw [hzz, decodeRaw_enum_pass] at hx
      cases hx
      exact ⟨rfl, hzz ▸ hg⟩
    · cases hb

theorem getNatD_cons_ne {k k' : String} (v : Val) (fs : Fields) (h : k' ≠ k) : getNatD ((k', v) :: fs) k = getNatD fs k := by
  simp [getNatD, Fields.get?, h]

structure SecFacts (env : Env) (d : ElfDesc) (s : SecDesc) (h : Val) : Prop where
  fld : ∀ k ∈ shdrNatKeys, k ≠ "sh_name" → h.getField k = .ok (.int (getNatD s.hdr k))
  nameFld : h.getField "sh_name" = .ok (.int s.nameOff)
  rawTy : Fields.get? s.hdr "sh_type" = some (.int (getNatD s.hdr "sh_type"))
  ty : h.getField "sh_type" = .ok (enumVal env.enumDecode (shTypeTable d.mclass) (getNatD s.hdr "sh_type"))

theorem sec_facts {env : Env} {d : ElfDesc} {s : SecDesc} {b : Bytes} {h : Val}
    (he : d.S.Elf_Shdr.encodeRaw s.raw = some b) (hd : d.S.Elf_Shdr.decodeRaw env [] s.raw = .ok h) :
    SecFacts env d s h := by
  have hS : d.S.Elf_Shdr = .struct (shdrFields d.cfg) := rfl
  rw [hS] at he hd
  unfold SecDesc.raw at he hd
  have key : ∀ k ∈ shdrNatKeys, ∃ z : Nat,
      Fields.get? (("sh_name", Val.int s.nameOff) :: s.hdr) k = some (.int z) ∧ h.getField k = .ok (.int z) := by
    intro k hk
    obtain ⟨n, hn⟩ := shdr_field_nat d.cfg k hk
    obtain ⟨z, -, h1, h2⟩ := uint_field hn he hd
    exact ⟨z, h1, h2⟩
  obtain ⟨t1, t2⟩ := enum_field (shdr_field_type d.cfg) he hd
  rw [getNatD_cons_ne _ _ (by decide)] at t1 t2
  refine ⟨fun k hk hne => ?_, ?_, by simpa [Fields.get?] using t1, t2⟩
  · obtain ⟨z, h1, h2⟩ := key k hk
    have : Fields.get? s.hdr k = some (.int z) := by
      simpa [Fields.get?, Ne.symm hne] using h1
    rw [h2]
    simp [getNatD, this]
  · obtain ⟨z, h1, h2⟩ := key "sh_name" (by simp [shdrNatKeys])
    rw [h2]
    simpa [Fields.get?] using h1.symm

section projections
variable {env : Env} {d : ElfDesc} {s : SecDesc} {h : Val}

theorem SecFacts.getNat (F : SecFacts env d s h) {k : String} (hk : k ∈ shdrNatKeys) (hne : k ≠ "sh_name") :
    h.getNat k = .ok (getNatD s.hdr k) :=
  Val.getNat_of_getField (F.fld k hk hne)

/-! The description's well-formedness (`ElfDesc.secOkZ`, Spec/ElfImage.lean) speaks of the header through `Spec.fieldNat`:
    `nat` reads a field of `h` as `fieldNat h`, `raw` / `name` say what `fieldNat h` is in the description. -/

theorem SecFacts.raw (F : SecFacts env d s h) (k : String) (hk : k ∈ shdrNatKeys) (hne : k ≠ "sh_name") :
    fieldNat h k = getNatD s.hdr k :=
  fieldNat_of_getField (F.fld k hk hne)

theorem SecFacts.name (F : SecFacts env d s h) : fieldNat h "sh_name" = s.nameOff :=
  fieldNat_of_getField F.nameFld

theorem SecFacts.nat (F : SecFacts env d s h) (k : String) (hk : k ∈ shdrNatKeys) : h.getNat k = .ok (fieldNat h k) := by
  by_cases hne : k = "sh_name"
  · subst hne; rw [F.name]; exact Val.getNat_of_getField F.nameFld
  · rw [F.raw k hk hne]; exact F.getNat hk hne

theorem SecFacts.link (F : SecFacts env d s h) : h.getNat "sh_link" = .ok (getNatD s.hdr "sh_link") :=
  F.getNat (by simp [shdrNatKeys]) (by decide)
theorem SecFacts.info (F : SecFacts env d s h) : h.getNat "sh_info" = .ok (getNatD s.hdr "sh_info") :=
  F.getNat (by simp [shdrNatKeys]) (by decide)
theorem SecFacts.offset (F : SecFacts env d s h) : h.getNat "sh_offset" = .ok (getNatD s.hdr "sh_offset") :=
  F.getNat (by simp [shdrNatKeys]) (by decide)
theorem SecFacts.size (F : SecFacts env d s h) : h.getNat "sh_size" = .ok (getNatD s.hdr "sh_size") :=
  F.getNat (by simp [shdrNatKeys]) (by decide)

end projections

def identFields (le : Bool) : ConFields :=
  let byte := Con.uint 1 le
  mkFields [f "EI_MAG" (.array (lit 4) byte),
            f "EI_CLASS" (enumOf byte "ENUM_EI_CLASS" false),
            f "EI_DATA" (enumOf byte "ENUM_EI_DATA" false),
            f "EI_VERSION" (enumOf byte "ENUM_E_VERSION"),
            f "EI_OSABI" (enumOf byte "ENUM_EI_OSABI"),
            f "EI_ABIVERSION" byte,
            anon (.padding (lit 7) false)]

def ehdrFields (c : ElfCfg) : ConFields :=
  let le := c.le
  let w := c.cls / 8
  let half := Con.uint 2 le
  let word := Con.uint 4 le
  let addr := Con.uint w le
  mkFields [
      f "e_ident" (.struct (identFields le)),
      f "e_type" (enumOf half "ENUM_E_TYPE"), f "e_machine" (enumOf half "ENUM_E_MACHINE"),
      f "e_version" (enumOf word "ENUM_E_VERSION"), f "e_entry" addr, f "e_phoff" addr, f "e_shoff" addr,
      f "e_flags" word, f "e_ehsize" half, f "e_phentsize" half, f "e_phnum" half, f "e_shentsize" half,
      f "e_shnum" half, f "e_shstrndx" half]

theorem ehdr_eq (c : ElfCfg) : (elfStructs c).Elf_Ehdr = .struct (ehdrFields c) := rfl

def identRawFields (d : ElfDesc) : Fields :=
  let g (k : String) : Val := (Fields.get? d.ehdr k).getD (.int 0)
  [("EI_MAG", .list [.int 0x7f, .int 0x45, .int 0x4c, .int 0x46]),
   ("EI_CLASS", .int (if d.cls = 32 then 1 else 2)),
   ("EI_DATA", .int (if d.le then 1 else 2)),
   ("EI_VERSION", g "EI_VERSION"), ("EI_OSABI", g "EI_OSABI"), ("EI_ABIVERSION", g "EI_ABIVERSION")]

def ehdrRawFields (d : ElfDesc) : Fields :=
  let n := d.sections.length
  let m := d.segments.length
  let g (k : String) : Val := (Fields.get? d.ehdr k).getD (.int 0)
  [ ("e_ident", .record (identRawFields d)),
    ("e_type", g "e_type"), ("e_machine", g "e_machine"), ("e_version", g "e_version"),
    ("e_entry", g "e_entry"),
    ("e_phoff", .int (if m = 0 then 0 else d.phoff)),
    ("e_shoff", .int (if n = 0 then 0 else d.shoff)),
    ("e_flags", g "e_flags"), ("e_ehsize", g "e_ehsize"),
    ("e_phentsize", .int d.phentsize),
    ("e_phnum", .int (if d.xPhnum || m ≥ 0xffff then 0xffff else m)),
    ("e_shentsize", .int d.shentsize),
    ("e_shnum", .int (if d.xShnum || n ≥ 0xff00 then 0 else n)),
    ("e_shstrndx", .int (if d.xShstrndx || d.shstrndx ≥ 0xff00 then 0xffff else d.shstrndx))]

theorem ehdrRaw_eq (d : ElfDesc) : d.ehdrRaw = .record (ehdrRawFields d) := rfl

def ehdrHalfKeys : List String := ["e_ehsize", "e_phentsize", "e_phnum", "e_shentsize", "e_shnum", "e_shstrndx"]

theorem ehdr_field_half (c : ElfCfg) (k : String) (hk : k ∈ ehdrHalfKeys) :
    fieldCon (ehdrFields c) k = some (.uint 2 c.le) := by
  simp only [ehdrHalfKeys, List.mem_cons, List.not_mem_nil, or_false] at hk
  rcases hk with rfl | rfl | rfl | rfl | rfl | rfl <;>
    simp [ehdrFields, mkFields, f, fieldCon, fieldNames]

theorem ehdr_field_addr (c : ElfCfg) (k : String) (hk : k ∈ ["e_entry", "e_phoff", "e_shoff"]) :
    fieldCon (ehdrFields c) k = some (.uint (c.cls / 8) c.le) := by
  simp only [List.mem_cons, List.not_mem_nil, or_false] at hk
  rcases hk with rfl | rfl | rfl <;> simp [ehdrFields, mkFields, f, fieldCon, fieldNames]

theorem ehdr_field_type (c : ElfCfg) :
    fieldCon (ehdrFields c) "e_type" = some (.enum (.uint 2 c.le) "ENUM_E_TYPE" true) := by
  simp [ehdrFields, mkFields, f, fieldCon, fieldNames, enumOf]

theorem ehdr_field_machine (c : ElfCfg) :
    fieldCon (ehdrFields c) "e_machine" = some (.enum (.uint 2 c.le) "ENUM_E_MACHINE" true) := by
  simp [ehdrFields, mkFields, f, fieldCon, fieldNames, enumOf]

theorem ehdr_field_ident (c : ElfCfg) :
    fieldCon (ehdrFields c) "e_ident" = some (.struct (identFields c.le)) := by
  simp [ehdrFields, mkFields, f, fieldCon, fieldNames]

theorem ident_field_osabi (le : Bool) :
    fieldCon (identFields le) "EI_OSABI" = some (.enum (.uint 1 le) "ENUM_EI_OSABI" true) := by
  simp [identFields, mkFields, f, anon, fieldCon, fieldNames, enumOf]

structure HdrFacts (d : ElfDesc) (hdr : Val) : Prop where
  shentsize : hdr.getNat "e_shentsize" = .ok d.shentsize
  shoff : hdr.getNat "e_shoff" = .ok (if d.sections.length = 0 then 0 else d.shoff)
  shnum : hdr.getNat "e_shnum" = .ok (if d.xShnum || d.sections.length ≥ 0xff00 then 0 else d.sections.length)
  shstrndx : hdr.getNat "e_shstrndx" = .ok (if d.xShstrndx || d.shstrndx ≥ 0xff00 then 0xffff else d.shstrndx)
  phentsize : hdr.getNat "e_phentsize" = .ok d.phentsize
  phoff : hdr.getNat "e_phoff" = .ok (if d.segments.length = 0 then 0 else d.phoff)
  phnum : hdr.getNat "e_phnum" = .ok (if d.xPhnum || d.segments.length ≥ 0xffff then 0xffff else d.segments.length)
  ety : ∃ t, hdr.getField "e_type" = .ok t
  emach : ∃ t, hdr.getField "e_machine" = .ok t
  osabi : ∃ idt t, hdr.getField "e_ident" = .ok idt ∧ idt.getField "EI_OSABI" = .ok t

theorem hdr_nat_aux {env : Env} {d : ElfDesc} {eh : Bytes} {hdr : Val}
    (he : (Con.struct (ehdrFields d.cfg)).encodeRaw (.record (ehdrRawFields d)) = some eh)
    (hd : (Con.struct (ehdrFields d.cfg)).decodeRaw env [] (.record (ehdrRawFields d)) = .ok hdr)
    (k : String) (n : Nat) (hf : fieldCon (ehdrFields d.cfg) k = some (.uint n d.cfg.le)) (x : Nat)
    (hx : Fields.get? (ehdrRawFields d) k = some (.int x)) : hdr.getNat k = .ok x := by
  obtain ⟨z, -, h1, h2⟩ := uint_field hf he hd
  rw [hx] at h1
  have : (x : Int) = z := by simpa using h1
  have : x = z := by omega
  subst this
  exact Val.getNat_of_getField h2

theorem hdr_facts {env : Env} {d : ElfDesc} {eh : Bytes} {hdr : Val}
    (he : d.S.Elf_Ehdr.encodeRaw d.ehdrRaw = some eh)
    (hd : d.S.Elf_Ehdr.decodeRaw env [] d.ehdrRaw = .ok hdr) : HdrFacts d hdr := by
  have hS : d.S.Elf_Ehdr = .struct (ehdrFields d.cfg) := rfl
  rw [hS, ehdrRaw_eq] at he hd
  have half := fun k hk x hx => hdr_nat_aux he hd k 2 (ehdr_field_half d.cfg k hk) x hx
  have addr := fun k hk x hx => hdr_nat_aux he hd k _ (ehdr_field_addr d.cfg k hk) x hx
  refine ⟨?_, ?_, ?_, ?_, ?_, ?_, ?_, ?_, ?_, ?_⟩
  · exact half "e_shentsize" (by simp [ehdrHalfKeys]) _ (by simp only [ehdrRawFields, Fields.get?, String.reduceEq, ↓reduceIte])
  · exact addr "e_shoff" (by simp) _ (by simp only [ehdrRawFields, Fields.get?, String.reduceEq, ↓reduceIte]; split <;> rfl)
  · exact half "e_shnum" (by simp [ehdrHalfKeys]) _ (by simp only [ehdrRawFields, Fields.get?, String.reduceEq, ↓reduceIte]; split <;> rfl)
  · exact half "e_shstrndx" (by simp [ehdrHalfKeys]) _ (by simp only [ehdrRawFields, Fields.get?, String.reduceEq, ↓reduceIte]; split <;> rfl)
  · exact half "e_phentsize" (by simp [ehdrHalfKeys]) _ (by simp only [ehdrRawFields, Fields.get?, String.reduceEq, ↓reduceIte])
  · exact addr "e_phoff" (by simp) _ (by simp only [ehdrRawFields, Fields.get?, String.reduceEq, ↓reduceIte]; split <;> rfl)
  · exact half "e_phnum" (by simp [ehdrHalfKeys]) _ (by simp only [ehdrRawFields, Fields.get?, String.reduceEq, ↓reduceIte]; split <;> rfl)
  · obtain ⟨_, x, _, hx⟩ := struct_field_exists (ehdr_field_type d.cfg) hd
    exact ⟨x, hx⟩
  · obtain ⟨_, x, _, hx⟩ := struct_field_exists (ehdr_field_machine d.cfg) hd
    exact ⟨x, hx⟩
  · obtain ⟨_, idt, h1, hx⟩ := struct_field_exists (ehdr_field_ident d.cfg) hd
    have : Fields.get? (ehdrRawFields d) "e_ident" = some (.record (identRawFields d)) := by
      simp [ehdrRawFields, Fields.get?]
    rw [this] at h1
    simp only [Option.getD_some] at h1
    obtain ⟨_, t, _, ht⟩ := struct_field_exists (ident_field_osabi d.cfg.le) h1
    exact ⟨idt, t, hx, ht⟩

theorem encodeRaw_byte_lit (le : Bool) (v : Nat) (hv : v < 256) :
    (Con.uint 1 le).encodeRaw (.int (v : Int)) = some [UInt8.ofNat v] := by
  have h1 : (0 : Int) ≤ (v : Int) := by omega
  have h2 : (v : Int) < 256 ^ 1 := by omega
  simp only [Con.encodeRaw, h1, h2, and_self, if_true, encNat_one]
  simp [Nat.mod_eq_of_lt hv]

theorem encodeRaw_byte_ite (le : Bool) (c : Prop) [Decidable c] :
    (Con.uint 1 le).encodeRaw (.int (if c then 1 else 2)) = some [if c then 1 else 2] := by
  split
  · exact encodeRaw_byte_lit le 1 (by omega)
  · exact encodeRaw_byte_lit le 2 (by omega)

theorem enc_len_one {le : Bool} {c : Con} (hc : c = .uint 1 le ∨ ∃ t p, c = .enum (.uint 1 le) t p)
    {v : Val} {a : Bytes} (h : c.encodeRaw v = some a) : ∃ b, a = [b] := by
  have hl : a.length = 1 := by
    rcases hc with rfl | ⟨t, p, rfl⟩
    · have := el_uint 1 le v a h
      simp [Con.sizeof] at this; omega
    · rw [Con.encodeRaw] at h
      have := el_uint 1 le v a h
      simp [Con.sizeof] at this; omega
  match a, hl with
  | [b], _ => exact ⟨b, rfl⟩

theorem ident_enc {d : ElfDesc} {a : Bytes}
    (ha : ConFields.encodeRaw (identFields d.le) (identRawFields d) = some a) :
    ∃ v o b : UInt8, a = [0x7f, 0x45, 0x4c, 0x46, if d.cls = 32 then 1 else 2, if d.le then 1 else 2, v, o, b]
      ++ List.replicate 7 0 := by
  have g1 : Fields.get? (identRawFields d) "EI_MAG" = some (.list [.int 0x7f, .int 0x45, .int 0x4c, .int 0x46]) := rfl
  have g2 : Fields.get? (identRawFields d) "EI_CLASS" = some (.int (if d.cls = 32 then 1 else 2)) := rfl
  have g3 : Fields.get? (identRawFields d) "EI_DATA" = some (.int (if d.le then 1 else 2)) := rfl
  simp only [identFields, mkFields, f, anon, enumOf] at ha
  -- the seven fields of `e_ident` one after the other (`a1` … `a7` are what each writes), then each `aᵢ` evaluated
  rw [ConFields.encodeRaw] at ha
  obtain ⟨a1, b1, ha1, hb1, rfl⟩ := bind2_eq_some ha
  rw [ConFields.encodeRaw] at hb1
  obtain ⟨a2, b2, ha2, hb2, rfl⟩ := bind2_eq_some hb1
  rw [ConFields.encodeRaw] at hb2
  obtain ⟨a3, b3, ha3, hb3, rfl⟩ := bind2_eq_some hb2
  rw [ConFields.encodeRaw] at hb3
  obtain ⟨a4, b4, ha4, hb4, rfl⟩ := bind2_eq_some hb3
  rw [ConFields.encodeRaw] at hb4
  obtain ⟨a5, b5, ha5, hb5, rfl⟩ := bind2_eq_some hb4
  rw [ConFields.encodeRaw] at hb5
  obtain ⟨a6, b6, ha6, hb6, rfl⟩ := bind2_eq_some hb5
  rw [ConFields.encodeRaw] at hb6
  obtain ⟨a7, b7, ha7, hb7, rfl⟩ := bind2_eq_some hb6
  have e1 : a1 = [0x7f, 0x45, 0x4c, 0x46] := by
    simp only [g1, Option.getD_some] at ha1
    simpa [Con.encodeRaw, lit, Expr.litNat?, Con.encodeRawList, encNat_one] using ha1.symm
  have e2 : a2 = [if d.cls = 32 then 1 else 2] := by
    simp only [g2, Option.getD_some] at ha2
    rw [Con.encodeRaw, encodeRaw_byte_ite] at ha2
    exact (Option.some.inj ha2).symm
  have e3 : a3 = [if d.le then 1 else 2] := by
    simp only [g3, Option.getD_some] at ha3
    rw [Con.encodeRaw, encodeRaw_byte_ite] at ha3
    exact (Option.some.inj ha3).symm
  obtain ⟨x4, rfl⟩ := enc_len_one (Or.inr ⟨_, _, rfl⟩) ha4
  obtain ⟨x5, rfl⟩ := enc_len_one (Or.inr ⟨_, _, rfl⟩) ha5
  obtain ⟨x6, rfl⟩ := enc_len_one (Or.inl rfl) ha6
  have e7 : a7 = List.replicate 7 0 := by
    simp [Con.encodeRaw, lit, Expr.litNat?] at ha7; exact ha7.symm
  have e8 : b7 = [] := by simp [ConFields.encodeRaw] at hb7; exact hb7
  subst e1 e2 e3 e7 e8
  exact ⟨x4, x5, x6, by simp⟩

theorem ehdr_sizeof (c : ElfCfg) : (elfStructs c).Elf_Ehdr.sizeof = some (40 + 3 * (c.cls / 8)) := by
  rw [ehdr_eq]
  simp [ehdrFields, identFields, mkFields, f, anon, Con.sizeof, ConFields.sizeof, enumOf, lit, Expr.litNat?]
  omega

theorem ehdr_bytes {d : ElfDesc} {eh : Bytes} (he : d.S.Elf_Ehdr.encodeRaw d.ehdrRaw = some eh) :
    eh.length = 40 + 3 * (d.cls / 8) ∧
    ∃ (v o b : UInt8) (t : Bytes),
      eh = [0x7f, 0x45, 0x4c, 0x46, if d.cls = 32 then 1 else 2, if d.le then 1 else 2, v, o, b]
        ++ List.replicate 7 0 ++ t := by
  constructor
  · have := encodeRaw_length _ (rfl : d.S.Elf_Ehdr.fixed = true) _ _ he
    rw [show d.S.Elf_Ehdr.sizeof = _ from ehdr_sizeof d.cfg] at this
    exact (Option.some.inj this).symm
  · have hS : d.S.Elf_Ehdr = .struct (ehdrFields d.cfg) := rfl
    rw [hS, ehdrRaw_eq, Con.encodeRaw] at he
    simp only [ehdrFields, mkFields, f] at he
    rw [ConFields.encodeRaw] at he
    obtain ⟨a, t, ha, -, rfl⟩ := bind2_eq_some he
    have : Fields.get? (ehdrRawFields d) "e_ident" = some (.record (identRawFields d)) := rfl
    rw [this] at ha
    simp only [Option.getD_some, Con.encodeRaw] at ha
    obtain ⟨v, o, b, rfl⟩ := ident_enc ha
    exact ⟨v, o, b, t, rfl⟩

theorem identify_ok {d : ElfDesc} {bytes eh : Bytes} (hcls : d.cls = 32 ∨ d.cls = 64)
    (he : d.S.Elf_Ehdr.encodeRaw d.ehdrRaw = some eh) (hr : readN bytes 0 eh.length = eh) :
    identify bytes = .ok (d.cls, d.le) := by
  obtain ⟨-, v, o, b, t, rfl⟩ := ehdr_bytes he
  have hb := drop_of_readN hr
  simp only [List.drop_zero] at hb
  rw [hb]
  rcases hcls with h | h <;> cases hle : d.le <;>
    simp [identify, readN, h, bind, Except.bind, pure, Except.pure]

theorem ehdr_fixed (c : ElfCfg) : (elfStructs c).Elf_Ehdr.fixed = true := rfl

theorem dS_shdr_sizeof (d : ElfDesc) : d.S.Elf_Shdr.sizeof = some (16 + 6 * (d.cls / 8)) := shdr_sizeof d.cfg
theorem dS_shdr_fixed (d : ElfDesc) : d.S.Elf_Shdr.fixed = true := rfl

theorem rel_sizeof (c : ElfCfg) (hc : c.cls = 32 ∨ c.cls = 64) :
    (elfStructs c).Elf_Rel.sizeof = some (2 * (c.cls / 8)) ∧
    (elfStructs c).Elf_Rela.sizeof = some (3 * (c.cls / 8)) := by
  obtain ⟨le, cls, m, sol, core⟩ := c
  simp only at hc
  -- unfold the bundle once; the three shapes of `r_info` are then sized separately
  simp only [elfStructs]
  rcases hc with rfl | rfl
  · simp [st, mkFields, f, Con.sizeof, ConFields.sizeof]
  · by_cases hm : m = "EM_MIPS"
    · subst hm
      simp [st, mkFields, f, Con.sizeof, ConFields.sizeof]
    · simp [st, mkFields, f, Con.sizeof, ConFields.sizeof, hm]

theorem relr_sizeof (c : ElfCfg) : (elfStructs c).Elf_Relr.sizeof = some (c.cls / 8) := by
  simp [elfStructs, st, mkFields, f, Con.sizeof, ConFields.sizeof]

theorem dyn_sizeof (c : ElfCfg) : ∃ n, (elfStructs c).Elf_Dyn.sizeof = some n := by
  exact ⟨_, by simp [elfStructs, st, mkFields, f, Con.sizeof, ConFields.sizeof, enumOf]; rfl⟩

theorem word_sizeof (c : ElfCfg) : (elfStructs c).Elf_word.sizeof = some 4 := rfl
theorem xword_sizeof (c : ElfCfg) : (elfStructs c).Elf_xword.sizeof = some (c.cls / 8) := rfl

theorem sym_sizeof_eq (c : ElfCfg) :
    (elfStructs c).Elf_Sym.sizeof = some (if c.cls = 32 then 12 + c.cls / 8 else 8 + 2 * (c.cls / 8)) := by
  by_cases h : c.cls = 32
  · simp [elfStructs, h, st, mkFields, f, enumOf, Con.sizeof, ConFields.sizeof, bind, Option.bind]
  · simp [elfStructs, h, st, mkFields, f, enumOf, Con.sizeof, ConFields.sizeof, bind, Option.bind]
    omega

theorem sym_sizeof (c : ElfCfg) : ∃ n, (elfStructs c).Elf_Sym.sizeof = some n := ⟨_, sym_sizeof_eq c⟩

theorem phdr_field_type (c : ElfCfg) :
    fieldCon (phdrFields c) "p_type" = some (.enum (.uint 4 c.le) (pTypeTable c.mclass) true) := by
  unfold phdrFields
  split <;> simp [mkFields, f, fieldCon, fieldNames, enumOf]

def phdrNatKeys : List String := ["p_offset", "p_vaddr", "p_filesz", "p_memsz"]

theorem phdr_field_nat (c : ElfCfg) (k : String) (hk : k ∈ phdrNatKeys) :
    ∃ n, fieldCon (phdrFields c) k = some (.uint n c.le) := by
  simp only [phdrNatKeys, List.mem_cons, List.not_mem_nil, or_false] at hk
  unfold phdrFields
  rcases hk with rfl | rfl | rfl | rfl <;> split <;>
    first
    | exact ⟨_, by simp [mkFields, f, fieldCon, fieldNames]; rfl⟩
    | exact ⟨4, by simp [mkFields, f, fieldCon, fieldNames]⟩

theorem dS_phdr_fixed (d : ElfDesc) : d.S.Elf_Phdr.fixed = true := phdr_fixed d.cfg

/-- what the decoded program header of a description carries: `SecFacts` for segments -/
structure SegFacts (env : Env) (d : ElfDesc) (p : Fields) (ph : Val) : Prop where
  fld : ∀ k ∈ phdrNatKeys, ph.getField k = .ok (.int (getNatD p k))
  ty : ph.getField "p_type" = .ok (enumVal env.enumDecode (pTypeTable d.mclass) (getNatD p "p_type"))

theorem seg_facts {env : Env} {d : ElfDesc} {p : Fields} {b : Bytes} {ph : Val}
    (he : d.S.Elf_Phdr.encodeRaw (.record p) = some b) (hd : d.S.Elf_Phdr.decodeRaw env [] (.record p) = .ok ph) :
    SegFacts env d p ph := by
  have hS : d.S.Elf_Phdr = .struct (phdrFields d.cfg) := phdr_eq d.cfg
  rw [hS] at he hd
  refine ⟨?_, (enum_field (phdr_field_type d.cfg) he hd).2⟩
  intro k hk
  obtain ⟨n, hn⟩ := phdr_field_nat d.cfg k hk
  obtain ⟨z, -, h1, h2⟩ := uint_field hn he hd
  rw [h2]
  simp [getNatD, h1]

/-- all `_make_segment` asks of the decoded header -/
theorem seg_offset {env : Env} {d : ElfDesc} {p : Fields} {b : Bytes} {ph : Val}
    (he : d.S.Elf_Phdr.encodeRaw (.record p) = some b) (hd : d.S.Elf_Phdr.decodeRaw env [] (.record p) = .ok ph) :
    ∃ z : Nat, ph.getNat "p_offset" = .ok z :=
  ⟨_, Val.getNat_of_getField ((seg_facts he hd).fld "p_offset" (by simp [phdrNatKeys]))⟩

end PyElf.Proofs
