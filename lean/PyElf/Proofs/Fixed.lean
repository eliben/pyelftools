/-
  The fixed-shape fragment of `Con` (Core/Fixed.lean): parsing the raw encoding of such a construct, placed
  anywhere in any byte string, consumes exactly the encoding and returns `decodeRaw` of the raw values
  (`rt_con`); its encoding has the length `sizeof` reports (`encodeRaw_length`); its parse depends on its own
  bytes only (`loc_con`) and fails when they do not fit (`parse_fixed_truncated'`).  Each of these, and
  `fixed_sizeof`, is an instance of `FixedCases`, the induction principle of the fragment.
-/
import PyElf.Core.Fixed
import PyElf.Proofs.Engine
namespace PyElf.Proofs
open PyElf PyElf.Proofs.Engine

theorem bind2_eq_some {α β γ : Type} {f : α → β → γ} {x : Option α} {y : Option β} {c : γ}
    (h : (do let a ← x; let b ← y; pure (f a b)) = some c) : ∃ a b, x = some a ∧ y = some b ∧ c = f a b := by
  cases x <;> cases y <;> simp at h ⊢
  exact h.symm

theorem litNat?_eq_some {e : Expr} {n : Nat} (h : e.litNat? = some n) :
    ∃ z : Int, e = .lit z ∧ 0 ≤ z ∧ z.toNat = n := by
  cases e <;> simp [Expr.litNat?] at h
  rename_i z
  exact ⟨z, rfl, h.1, h.2⟩

theorem litNat?_isSome {e : Expr} (h : e.litNat?.isSome = true) : ∃ n, e.litNat? = some n := by
  cases h' : e.litNat? with
  | none => simp [h'] at h
  | some n => exact ⟨n, rfl⟩

/-- what a proof by induction over the constructs with `Con.fixed` has to supply: one case per way
    `Con.fixed` / `ConFields.fixed` can be true -/
structure FixedCases (P : Con → Prop) (Q : ConFields → Prop) : Prop where
  uint : ∀ n le, P (.uint n le)
  sint : ∀ n le, 1 ≤ n → P (.sint n le)
  u24 : ∀ le, P (.u24 le)
  bytesN : ∀ e n, e.litNat? = some n → P (.bytesN e)
  padding : ∀ e n, e.litNat? = some n → P (.padding e false)
  enum : ∀ sub t p, (Con.enum sub t p).fixed = true → P (.enum sub t p)
  struct : ∀ fs, Q fs → P (.struct fs)
  array : ∀ e n sub, e.litNat? = some n → sub.fixed = true → P sub → P (.array e sub)
  value : ∀ e, P (.value e)
  bits : ∀ fs, P (.bits fs)
  nil : Q .nil
  cons : ∀ name c rest, c.fixed = true → P c → Q rest → Q (.cons name false c rest)

mutual
theorem fixed_con {P : Con → Prop} {Q : ConFields → Prop} (H : FixedCases P Q) :
    ∀ (c : Con), c.fixed = true → P c
  | .uint n le, _ => H.uint n le
  | .sint n le, hc => H.sint n le (by simpa [Con.fixed] using hc)
  | .u24 le, _ => H.u24 le
  | .bytesN e, hc => by
      obtain ⟨n, hn⟩ := litNat?_isSome (e := e) (by simpa [Con.fixed] using hc)
      exact H.bytesN e n hn
  | .padding e strict, hc => by
      have h : e.litNat?.isSome = true ∧ strict = false := by simpa [Con.fixed] using hc
      obtain ⟨n, hn⟩ := litNat?_isSome h.1
      obtain ⟨-, rfl⟩ := h
      exact H.padding e n hn
  | .enum sub t p, hc => H.enum sub t p hc
  | .struct fs, hc => H.struct fs (fixed_fields H fs (by simpa [Con.fixed] using hc))
  | .array e sub, hc => by
      have h : e.litNat?.isSome = true ∧ sub.fixed = true := by simpa [Con.fixed] using hc
      obtain ⟨n, hn⟩ := litNat?_isSome h.1
      exact H.array e n sub hn h.2 (fixed_con H sub h.2)
  | .value e, _ => H.value e
  | .bits fs, _ => H.bits fs
  | .uleb, hc => by simp [Con.fixed] at hc
  | .sleb, hc => by simp [Con.fixed] at hc
  | .cstring, hc => by simp [Con.fixed] at hc
  | .prefixed _ _, hc => by simp [Con.fixed] at hc
  | .repeatUntilExcl _ _, hc => by simp [Con.fixed] at hc
  | .ifThenElse _ _ _, hc => by simp [Con.fixed] at hc
  | .switch _ _ _, hc => by simp [Con.fixed] at hc
  | .noDefault, hc => by simp [Con.fixed] at hc
  | .streamOffset, hc => by simp [Con.fixed] at hc
  | .initialLength _, hc => by simp [Con.fixed] at hc
  | .formatted _, hc => by simp [Con.fixed] at hc
  | .unsupported _, hc => by simp [Con.fixed] at hc
theorem fixed_fields {P : Con → Prop} {Q : ConFields → Prop} (H : FixedCases P Q) :
    ∀ (fs : ConFields), fs.fixed = true → Q fs
  | .nil, _ => H.nil
  | .cons name embed c rest, hc => by
      have h : (embed = false ∧ c.fixed = true) ∧ rest.fixed = true := by
        simpa [ConFields.fixed] using hc
      obtain ⟨⟨rfl, h2⟩, h3⟩ := h
      exact H.cons name c rest h2 (fixed_con H c h2) (fixed_fields H rest h3)
end

theorem eval_asNat_of_litNat? {e : Expr} {n : Nat} (h : e.litNat? = some n) (ctx : Fields) :
    (do let v ← e.eval ctx .none; v.asNat : R Nat) = .ok n := by
  obtain ⟨z, rfl, hz, rfl⟩ := litNat?_eq_some h
  simp [Expr.eval, bind, Except.bind, Val.asNat, Val.asInt, Int.not_lt.2 hz]

theorem eval_asInt_of_litNat? {e : Expr} {n : Nat} (h : e.litNat? = some n) (ctx : Fields) :
    (do let v ← e.eval ctx .none; v.asInt : R Int) = .ok (n : Int) := by
  obtain ⟨z, rfl, hz, rfl⟩ := litNat?_eq_some h
  simp [Expr.eval, bind, Except.bind, Val.asInt, Int.toNat_of_nonneg hz]

theorem toNat_lt_pow {v : Int} {b n : Nat} (h0 : 0 ≤ v) (h : v < ((b : Nat) : Int) ^ n) :
    v.toNat < b ^ n := by
  have : v < ((b ^ n : Nat) : Int) := by rw [Int.natCast_pow]; exact h
  omega

/-- round trip: wherever the raw encoding `bs` of `raw` stands in the data (`data.drop pos = bs ++ rest`), parsing
    there consumes exactly `bs` and returns `decodeRaw` of `raw` -/
def RT (env : Env) (c : Con) : Prop :=
  ∀ (raw : Val) (bs : Bytes), c.encodeRaw raw = some bs →
    ∀ (data : Bytes) (pos : Nat) (rest : Bytes) (ctx : Fields), data.drop pos = bs ++ rest →
      Con.parse env data c ctx pos
        = (c.decodeRaw env ctx raw).map (fun v => (v, pos + bs.length, ctx))

def RTF (env : Env) (fs : ConFields) : Prop :=
  ∀ (raw : Fields) (bs : Bytes), fs.encodeRaw raw = some bs →
    ∀ (data : Bytes) (pos : Nat) (rest : Bytes) (obj ctx : Fields), data.drop pos = bs ++ rest →
      Con.parseFields env data fs obj ctx pos
        = (ConFields.decodeRaw env fs raw obj ctx).map (fun oc => (oc.1, pos + bs.length, oc.2))

theorem rt_uint (env : Env) (n : Nat) (le : Bool) : RT env (.uint n le) := by
  intro raw bs he data pos rest ctx hd
  cases raw <;> simp only [Con.encodeRaw, reduceCtorEq] at he
  rename_i v
  split at he
  · rename_i hv
    cases he
    have hlt : v.toNat < 256 ^ n := toNat_lt_pow hv.1 hv.2
    rw [parse_uint_ok hd (encNat_length _ _ _), decNat_encNat_of_lt le hlt]
    simp [Con.decodeRaw, Except.map, encNat_length, Int.toNat_of_nonneg hv.1]
  · cases he

theorem rt_sint (env : Env) (n : Nat) (le : Bool) (hn : 1 ≤ n) : RT env (.sint n le) := by
  intro raw bs he data pos rest ctx hd
  cases raw <;> simp only [Con.encodeRaw, reduceCtorEq] at he
  rename_i v
  split at he
  · rename_i hv
    cases he
    rw [parse_sint_ok hd (encNat_length _ _ _), sint_codec le n v hn hv.1 hv.2]
    simp [Con.decodeRaw, Except.map, encNat_length]
  · cases he

theorem rt_u24 (env : Env) (le : Bool) : RT env (.u24 le) := by
  intro raw bs he data pos rest ctx hd
  cases raw <;> simp only [Con.encodeRaw, reduceCtorEq] at he
  rename_i v
  split at he
  · rename_i hv
    cases he
    have hlt : v.toNat < 2 ^ 24 := toNat_lt_pow (b := 2) hv.1 hv.2
    rw [parse_u24_ok hlt hd]
    simp [Con.decodeRaw, Except.map, encNat_length, Int.toNat_of_nonneg hv.1]
  · cases he

theorem parse_bytesN_lit (env : Env) {e : Expr} {n : Nat} (hn : e.litNat? = some n)
    (data : Bytes) (ctx : Fields) (pos : Nat) :
    Con.parse env data (.bytesN e) ctx pos
      = (readExact data pos n).map (fun bs => (.bytes bs, pos + n, ctx)) :=
  parse_bytesN_len (eval_asNat_of_litNat? hn ctx)

theorem parse_padding_lit (env : Env) {e : Expr} {n : Nat} (hn : e.litNat? = some n)
    (data : Bytes) (ctx : Fields) (pos : Nat) :
    Con.parse env data (.padding e false) ctx pos
      = (readExact data pos n).map (fun bs => (.bytes bs, pos + n, ctx)) := by
  rw [parse_padding_len (eval_asNat_of_litNat? hn ctx)]
  cases readExact data pos n <;> rfl

theorem parse_array_lit (env : Env) {e : Expr} {n : Nat} (hn : e.litNat? = some n) (sub : Con)
    (data : Bytes) (ctx : Fields) (pos : Nat) :
    Con.parse env data (.array e sub) ctx pos
      = arrayLoop (fun p c => Con.parse env data sub c p) n pos ctx [] := by
  obtain ⟨z, rfl, hz, rfl⟩ := litNat?_eq_some hn
  rw [parse_array (n := z) rfl]

theorem rt_bytesN (env : Env) (e : Expr) : RT env (.bytesN e) := by
  intro raw bs he data pos rest ctx hd
  cases raw <;> simp only [Con.encodeRaw, reduceCtorEq] at he
  rename_i b
  split at he
  · rename_i n hn
    split at he
    · rename_i hb
      cases he
      rw [parse_bytesN_lit env hn, readExact_ok hd hb]
      simp [Con.decodeRaw, Except.map, hb]
    · cases he
  · cases he

theorem rt_padding (env : Env) (e : Expr) : RT env (.padding e false) := by
  intro raw bs he data pos rest ctx hd
  simp only [Con.encodeRaw] at he
  cases hn : e.litNat? with
  | none => simp [hn] at he
  | some n =>
    simp [hn] at he
    subst he
    rw [parse_padding_lit env hn, readExact_ok hd (List.length_replicate ..)]
    simp [Con.decodeRaw, Except.map, hn]

theorem rt_value (env : Env) (e : Expr) : RT env (.value e) := by
  intro raw bs he data pos rest ctx hd
  simp only [Con.encodeRaw] at he
  cases he
  rw [Con.parse, Con.decodeRaw]
  cases e.eval ctx .none <;> simp [bind, Except.bind, Except.map, pure, Except.pure]

theorem rt_enum (env : Env) (sub : Con) (table : String) (pass : Bool)
    (hc : (Con.enum sub table pass).fixed = true) : RT env (.enum sub table pass) := by
  intro raw bs he data pos rest ctx hd
  rw [Con.encodeRaw] at he
  cases sub <;> simp only [Con.fixed, Bool.false_eq_true] at hc
  case uint n le =>
    have h := rt_uint env n le raw bs he data pos rest ctx hd
    rw [Con.parse, h]
    cases raw <;> simp only [Con.encodeRaw, reduceCtorEq] at he
    rename_i v
    simp only [Con.decodeRaw, Except.map, bind, Except.bind]
    cases env.enumDecode table v <;> simp [pure, Except.pure]
    cases pass <;> simp
  case sint n le =>
    have h := rt_sint env n le (by simpa using hc) raw bs he data pos rest ctx hd
    rw [Con.parse, h]
    cases raw <;> simp only [Con.encodeRaw, reduceCtorEq] at he
    rename_i v
    simp only [Con.decodeRaw, Except.map, bind, Except.bind]
    cases env.enumDecode table v <;> simp [pure, Except.pure]
    cases pass <;> simp

def widthSum : List BitFld → Nat
  | [] => 0
  | f :: fs => f.width + widthSum fs

theorem foldl_width (fs : List BitFld) (a : Nat) :
    fs.foldl (fun a f => a + f.width) a = a + widthSum fs := by
  induction fs generalizing a with
  | nil => simp [widthSum]
  | cons f fs ih => simp [widthSum, ih, Nat.add_assoc]

theorem packBits_lt : ∀ (fs : List BitFld) (total : Nat) (raw : Fields) (N : Nat),
    widthSum fs ≤ total → packBits total fs raw = some N → N < 2 ^ total := by
  -- a field of width `w` contributes `x * 2 ^ (total - w)` with `x < 2 ^ w`, the fields behind it less than `2 ^ (total - w)`
  intro fs
  induction fs with
  | nil =>
    intro total raw N _ h
    simp [packBits] at h
    subst h
    exact Nat.two_pow_pos _
  | cons f fs ih =>
    intro total raw N hw h
    simp only [widthSum] at hw
    have hle : 2 ^ (total - f.width) ≤ 2 ^ total := Nat.pow_le_pow_right (by decide) (by omega)
    rw [packBits] at h
    split at h
    · exact Nat.lt_of_lt_of_le (ih _ raw N (by omega) h) hle
    · split at h
      · rename_i x hx
        split at h
        · rename_i hx
          cases hr : packBits (total - f.width) fs raw with
          | none => simp [hr] at h
          | some r =>
            simp [hr] at h
            subst h
            have hr' := ih _ raw r (by omega) hr
            have hxl : x.toNat < 2 ^ f.width := by
              have := hx.2
              have : x < ((2 ^ f.width : Nat) : Int) := by rw [Int.natCast_pow]; exact this
              omega
            have e : 2 ^ total = 2 ^ f.width * 2 ^ (total - f.width) := by
              rw [← Nat.pow_add]; congr 1; omega
            rw [e]
            generalize 2 ^ (total - f.width) = P at *
            generalize 2 ^ f.width = W at *
            have : (x.toNat + 1) * P ≤ W * P := Nat.mul_le_mul_right _ hxl
            rw [Nat.add_mul] at this
            omega
        · cases h
      · cases h

theorem div_mod_unique {P A B X r : Nat} (hA : A < P) (hr : r < P) (h : A + P * B = X * P + r) :
    A = r ∧ B = X := by
  have hP : 0 < P := by omega
  have h1 : (A + P * B) / P = B := by
    rw [Nat.add_mul_div_left _ _ hP, Nat.div_eq_of_lt hA, Nat.zero_add]
  have h2 : (X * P + r) / P = X := by
    rw [Nat.add_comm, Nat.add_mul_div_right _ _ hP, Nat.div_eq_of_lt hr, Nat.zero_add]
  have hB : B = X := by rw [← h1, h, h2]
  subst hB
  refine ⟨?_, rfl⟩
  rw [Nat.mul_comm] at h
  omega

theorem splitBits_pack (env : Env) : ∀ (fs : List BitFld) (total : Nat) (raw : Fields) (N v : Nat)
    (acc : Fields), widthSum fs ≤ total → packBits total fs raw = some N → v % 2 ^ total = N →
    splitBits env v total fs acc = decodeBits env fs raw acc := by
  -- `v ≡ N` modulo `2 ^ total`; splitting off the first field leaves its value `x` and `v ≡ r` modulo `2 ^ (total - w)`
  -- for the rest `r` of `N = x * 2 ^ (total - w) + r` (`div_mod_unique`)
  intro fs
  induction fs with
  | nil => intro total raw N v acc _ _ _; simp [splitBits, decodeBits]
  | cons f fs ih =>
    intro total raw N v acc hw h hv
    simp only [widthSum] at hw
    have e : 2 ^ total = 2 ^ (total - f.width) * 2 ^ f.width := by
      rw [← Nat.pow_add]; congr 1; omega
    have hdvd : 2 ^ (total - f.width) ∣ 2 ^ total := ⟨_, e⟩
    rw [packBits] at h
    rw [splitBits, decodeBits]
    split at h
    · rename_i hnm
      simp only [hnm]
      have hlt := packBits_lt fs _ raw N (by omega) h
      refine ih _ raw N v acc (by omega) h ?_
      rw [← Nat.mod_mod_of_dvd v hdvd, hv, Nat.mod_eq_of_lt hlt]
    · rename_i nm hnm
      simp only [hnm]
      split at h
      · rename_i x hx
        split at h
        · rename_i hxr
          cases hr : packBits (total - f.width) fs raw with
          | none => simp [hr] at h
          | some r =>
            simp [hr] at h
            subst h
            have hr' := packBits_lt fs _ raw r (by omega) hr
            rw [e, Nat.mod_mul] at hv
            obtain ⟨hA, hB⟩ := div_mod_unique (Nat.mod_lt _ (Nat.two_pow_pos _)) hr' hv
            have hx' : (((v >>> (total - f.width)) % 2 ^ f.width : Nat) : Int) = x := by
              rw [Nat.shiftRight_eq_div_pow, hB]
              exact Int.toNat_of_nonneg hxr.1
            rw [hx']
            have IH := fun acc => ih _ raw r v acc (by omega) hr hA
            simp only [IH]
            -- at this point both sides are the same `match` on `f.table`, nested differently
            rfl
        · cases h
      · cases h

theorem beNat_natBE (n v : Nat) : beNat (natBE n v) = v % 2 ^ (8 * n) := by
  have := decNat_encNat false n v
  simp only [decNat, encNat] at this
  rw [Nat.pow_mul]
  simpa using this

theorem natBE_length (n v : Nat) : (natBE n v).length = n := by simp [natBE, natLE_length]

theorem widthSum_le_bytes (fs : List BitFld) :
    widthSum fs ≤ 8 * ((fs.foldl (fun a f => a + f.width) 0 + 7) / 8) := by
  rw [foldl_width]; omega

theorem rt_bits (env : Env) (fs : List BitFld) : RT env (.bits fs) := by
  intro raw bs he data pos rest ctx hd
  cases raw <;> simp only [Con.encodeRaw, reduceCtorEq] at he
  rename_i raw
  cases hp : packBits (8 * ((fs.foldl (fun a f => a + f.width) 0 + 7) / 8)) fs raw with
  | none => simp [hp] at he
  | some N =>
    simp [hp] at he
    subst he
    rw [Con.parse]
    simp only [bind, Except.bind]
    rw [readExact_ok hd (natBE_length _ _)]
    simp only
    rw [splitBits_pack env fs _ raw N _ [] (widthSum_le_bytes fs) hp
      (by rw [beNat_natBE, Nat.mod_mod]; exact Nat.mod_eq_of_lt (packBits_lt fs _ raw N (widthSum_le_bytes fs) hp))]
    rw [Con.decodeRaw]
    cases decodeBits env fs raw [] <;> simp [bind, Except.bind, Except.map, pure, Except.pure, natBE_length]

theorem rt_list (env : Env) (sub : Con) (ih : RT env sub) :
    ∀ (xs : List Val) (bs : Bytes), Con.encodeRawList sub xs = some bs →
      ∀ (data : Bytes) (pos : Nat) (rest : Bytes) (ctx : Fields) (acc : List Val),
        data.drop pos = bs ++ rest →
        arrayLoop (fun p c => Con.parse env data sub c p) xs.length pos ctx acc
          = (Con.decodeRawList env sub ctx xs).map
              (fun ys => (.list (acc.reverse ++ ys), pos + bs.length, ctx)) := by
  intro xs
  induction xs with
  | nil =>
    intro bs he data pos rest ctx acc hd
    simp [Con.encodeRawList] at he
    subst he
    simp [arrayLoop, Con.decodeRawList, Except.map]
  | cons x xs ihx =>
    intro bs he data pos rest ctx acc hd
    rw [Con.encodeRawList] at he
    cases ha : sub.encodeRaw x with
    | none => simp [ha] at he
    | some a =>
      cases hb : Con.encodeRawList sub xs with
      | none => simp [ha, hb] at he
      | some b =>
        simp [ha, hb] at he
        subst he
        have hd1 : data.drop pos = a ++ (b ++ rest) := by rw [hd, List.append_assoc]
        have hd2 : data.drop (pos + a.length) = b ++ rest := drop_add_of_drop hd1
        rw [List.length_cons, arrayLoop, ih x a ha data pos _ ctx hd1, Con.decodeRawList]
        cases hv : sub.decodeRaw env ctx x with
        | error e => simp [Except.map, bind, Except.bind]
        | ok v =>
          simp only [Except.map]
          rw [ihx b hb data _ rest ctx _ hd2]
          cases Con.decodeRawList env sub ctx xs <;>
            simp [Except.map, bind, Except.bind, pure, Except.pure, Nat.add_assoc]

theorem rt_struct (env : Env) (fs : ConFields) (ih : RTF env fs) : RT env (.struct fs) := by
  intro raw bs he data pos rest ctx hd
  cases raw <;> simp only [Con.encodeRaw, reduceCtorEq] at he
  rename_i raw
  rw [Con.parse, ih raw bs he data pos rest [] [] hd, Con.decodeRaw]
  cases ConFields.decodeRaw env fs raw [] [] <;>
    simp [Except.map, bind, Except.bind, pure, Except.pure]

theorem rt_array (env : Env) (e : Expr) (sub : Con) (he : e.litNat?.isSome = true)
    (ih : RT env sub) : RT env (.array e sub) := by
  intro raw bs henc data pos rest ctx hd
  obtain ⟨n, hn⟩ := litNat?_isSome he
  cases raw <;> simp only [Con.encodeRaw, reduceCtorEq] at henc
  rename_i xs
  simp only [hn] at henc
  split at henc
  · rename_i hlen
    rw [parse_array_lit env hn, ← hlen, rt_list env sub ih xs bs henc data pos rest ctx [] hd,
      Con.decodeRaw]
    cases Con.decodeRawList env sub ctx xs <;>
      simp [Except.map, bind, Except.bind, pure, Except.pure]
  · cases henc

theorem rtf_nil (env : Env) : RTF env .nil := by
  intro raw bs he data pos rest obj ctx hd
  simp [ConFields.encodeRaw] at he
  subst he
  simp [Con.parseFields, ConFields.decodeRaw, Except.map]

theorem rtf_cons (env : Env) (name : Option String) (c : Con) (fs : ConFields)
    (ihc : RT env c) (ihf : RTF env fs) : RTF env (.cons name false c fs) := by
  intro raw bs he data pos rest obj ctx hd
  cases name <;>
  ( rw [ConFields.encodeRaw] at he
    obtain ⟨a, b, ha, hb, rfl⟩ := bind2_eq_some he
    have hd1 : data.drop pos = a ++ (b ++ rest) := by rw [hd, List.append_assoc]
    have hd2 : data.drop (pos + a.length) = b ++ rest := drop_add_of_drop hd1
    rw [Con.parseFields, ConFields.decodeRaw]
    simp only [Bool.false_eq_true, if_false, bind, Except.bind]
    rw [ihc _ a ha data pos _ ctx hd1]
    cases Con.decodeRaw env c ctx _ with
    | error e => simp [Except.map]
    | ok v =>
      simp only [Except.map]
      rw [ihf raw b hb data _ rest _ _ hd2]
      generalize ConFields.decodeRaw env fs raw _ _ = r
      cases r <;> simp [Except.map, Nat.add_assoc] )

theorem rt_cases (env : Env) : FixedCases (RT env) (RTF env) where
  uint := rt_uint env
  sint := rt_sint env
  u24 := rt_u24 env
  bytesN e _ _ := rt_bytesN env e
  padding e _ _ := rt_padding env e
  enum := rt_enum env
  struct := rt_struct env
  array e _ sub hn _ ih := rt_array env e sub (by rw [hn]; rfl) ih
  value := rt_value env
  bits := rt_bits env
  nil := rtf_nil env
  cons name c rest _ := rtf_cons env name c rest

theorem rt_con (env : Env) : ∀ (c : Con), c.fixed = true → RT env c := fixed_con (rt_cases env)

theorem rt_fields (env : Env) : ∀ (fs : ConFields), fs.fixed = true → RTF env fs := fixed_fields (rt_cases env)

def EL (c : Con) : Prop :=
  ∀ (raw : Val) (bs : Bytes), c.encodeRaw raw = some bs → c.sizeof = some bs.length

def ELF (fs : ConFields) : Prop :=
  ∀ (raw : Fields) (bs : Bytes), fs.encodeRaw raw = some bs → fs.sizeof = some bs.length

theorem el_uint (n : Nat) (le : Bool) : EL (.uint n le) := by
  intro raw bs he
  cases raw <;> simp only [Con.encodeRaw, reduceCtorEq] at he
  split at he
  · cases he; simp [Con.sizeof, encNat_length]
  · cases he

theorem el_sint (n : Nat) (le : Bool) : EL (.sint n le) := by
  intro raw bs he
  cases raw <;> simp only [Con.encodeRaw, reduceCtorEq] at he
  split at he
  · cases he; simp [Con.sizeof, encNat_length]
  · cases he

theorem el_u24 (le : Bool) : EL (.u24 le) := by
  intro raw bs he
  cases raw <;> simp only [Con.encodeRaw, reduceCtorEq] at he
  split at he
  · cases he; simp [Con.sizeof, encNat_length]
  · cases he

theorem el_bytesN (e : Expr) : EL (.bytesN e) := by
  intro raw bs he
  cases raw <;> simp only [Con.encodeRaw, reduceCtorEq] at he
  split at he
  · rename_i n hn
    split at he
    · rename_i hb; cases he; simp [Con.sizeof, hn, hb]
    · cases he
  · cases he

theorem el_padding (e : Expr) (strict : Bool) : EL (.padding e strict) := by
  intro raw bs he
  simp only [Con.encodeRaw] at he
  cases hn : e.litNat? with
  | none => simp [hn] at he
  | some n => simp [hn] at he; subst he; simp [Con.sizeof, hn]

theorem el_enum (sub : Con) (t : String) (p : Bool) (hc : (Con.enum sub t p).fixed = true) :
    EL (.enum sub t p) := by
  intro raw bs he
  rw [Con.encodeRaw] at he
  rw [Con.sizeof]
  cases sub <;> simp only [Con.fixed, Bool.false_eq_true] at hc
  case uint n le => exact el_uint n le raw bs he
  case sint n le => exact el_sint n le raw bs he

theorem el_value (e : Expr) : EL (.value e) := by
  intro raw bs he
  simp only [Con.encodeRaw] at he
  cases he; simp [Con.sizeof]

theorem el_bits (fs : List BitFld) : EL (.bits fs) := by
  intro raw bs he
  cases raw <;> simp only [Con.encodeRaw, reduceCtorEq] at he
  rename_i raw
  cases hp : packBits (8 * ((fs.foldl (fun a f => a + f.width) 0 + 7) / 8)) fs raw with
  | none => simp [hp] at he
  | some N => simp [hp] at he; subst he; simp [Con.sizeof, natBE_length]

theorem el_struct (fs : ConFields) (ih : ELF fs) : EL (.struct fs) := by
  intro raw bs he
  cases raw <;> simp only [Con.encodeRaw, reduceCtorEq] at he
  rw [Con.sizeof]; exact ih _ bs he

theorem el_list (sub : Con) (s : Nat) (ih : ∀ raw bs, sub.encodeRaw raw = some bs → bs.length = s) :
    ∀ (xs : List Val) (bs : Bytes), Con.encodeRawList sub xs = some bs →
      bs.length = xs.length * s := by
  intro xs
  induction xs with
  | nil => intro bs he; simp [Con.encodeRawList] at he; subst he; simp
  | cons x xs ihx =>
    intro bs he
    rw [Con.encodeRawList] at he
    obtain ⟨a, b, ha, hb, rfl⟩ := bind2_eq_some he
    rw [List.length_append, ih x a ha, ihx b hb, List.length_cons, Nat.add_mul]
    omega

theorem el_array (e : Expr) (sub : Con) (s : Nat) (hs : sub.sizeof = some s) (ih : EL sub) :
    EL (.array e sub) := by
  intro raw bs he
  cases raw <;> simp only [Con.encodeRaw, reduceCtorEq] at he
  rename_i xs
  split at he
  · rename_i n hn
    split at he
    · rename_i hlen
      have := el_list sub s (fun raw bs h => by have := ih raw bs h; rw [hs] at this; cases this; rfl)
        xs bs he
      simp [Con.sizeof, hn, hs, this, hlen]
    · cases he
  · cases he

theorem elf_nil : ELF .nil := by
  intro raw bs he
  simp [ConFields.encodeRaw] at he
  subst he; simp [ConFields.sizeof]

theorem elf_cons (name : Option String) (embed : Bool) (c : Con) (fs : ConFields)
    (ihc : EL c) (ihf : ELF fs) : ELF (.cons name embed c fs) := by
  intro raw bs he
  cases name <;>
  ( rw [ConFields.encodeRaw] at he
    obtain ⟨a, b, ha, hb, rfl⟩ := bind2_eq_some he
    simp [ConFields.sizeof, ihc _ a ha, ihf raw b hb] )

theorem sizeof_cases : FixedCases (fun c => ∃ s, c.sizeof = some s) (fun fs => ∃ s, fs.sizeof = some s) where
  uint n _ := ⟨n, by simp [Con.sizeof]⟩
  sint n _ _ := ⟨n, by simp [Con.sizeof]⟩
  u24 _ := ⟨3, by simp [Con.sizeof]⟩
  bytesN _ n hn := ⟨n, by simp [Con.sizeof, hn]⟩
  padding _ n hn := ⟨n, by simp [Con.sizeof, hn]⟩
  enum sub t p hc := by
    cases sub <;> simp only [Con.fixed, Bool.false_eq_true] at hc
    case uint n le => exact ⟨n, by simp [Con.sizeof]⟩
    case sint n le => exact ⟨n, by simp [Con.sizeof]⟩
  struct fs := fun ⟨s, hs⟩ => ⟨s, by rw [Con.sizeof]; exact hs⟩
  array _ n _ hn _ := fun ⟨s, hs⟩ => ⟨n * s, by simp [Con.sizeof, hn, hs]⟩
  value _ := ⟨0, by simp [Con.sizeof]⟩
  bits fs := ⟨(fs.foldl (fun a f => a + f.width) 0 + 7) / 8, by simp [Con.sizeof]⟩
  nil := ⟨0, by simp [ConFields.sizeof]⟩
  cons _ _ _ _ := fun ⟨a, ha⟩ ⟨b, hb⟩ => ⟨a + b, by simp [ConFields.sizeof, ha, hb]⟩

theorem fixed_sizeof : ∀ (c : Con), c.fixed = true → ∃ s, c.sizeof = some s := fixed_con sizeof_cases

theorem fixedF_sizeof : ∀ (fs : ConFields), fs.fixed = true → ∃ s, fs.sizeof = some s := fixed_fields sizeof_cases

theorem el_cases : FixedCases EL ELF where
  uint := el_uint
  sint n le _ := el_sint n le
  u24 := el_u24
  bytesN e _ _ := el_bytesN e
  padding e _ _ := el_padding e false
  enum := el_enum
  struct := el_struct
  array e _ sub _ hsub ih := by
    obtain ⟨s, hs⟩ := fixed_sizeof sub hsub
    exact el_array e sub s hs ih
  value := el_value
  bits := el_bits
  nil := elf_nil
  cons name c rest _ := elf_cons name false c rest

theorem el_fields : ∀ (fs : ConFields), fs.fixed = true → ELF fs := fixed_fields el_cases

/-- a construct that reads exactly `n` bytes and computes its value from them and the context -/
def Leaf (env : Env) (c : Con) (n : Nat) : Prop :=
  c.sizeof = some n ∧ ∃ g : Fields → Bytes → R Val, ∀ (data : Bytes) (ctx : Fields) (pos : Nat),
    Con.parse env data c ctx pos
      = ((readExact data pos n) >>= g ctx).map (fun v => (v, pos + n, ctx))

/-- the `n` bytes `bs` of a construct determine its parse, wherever they stand in whatever data -/
def Local (env : Env) (c : Con) : Prop :=
  ∀ (n : Nat), c.sizeof = some n → ∀ (bs : Bytes), bs.length = n → ∀ (ctx : Fields),
    ∃ r : R Val, ∀ (data : Bytes) (pos : Nat) (rest : Bytes), data.drop pos = bs ++ rest →
      Con.parse env data c ctx pos = r.map (fun v => (v, pos + n, ctx))

def LocalF (env : Env) (fs : ConFields) : Prop :=
  ∀ (n : Nat), fs.sizeof = some n → ∀ (bs : Bytes), bs.length = n → ∀ (obj ctx : Fields),
    ∃ r : R (Fields × Fields), ∀ (data : Bytes) (pos : Nat) (rest : Bytes), data.drop pos = bs ++ rest →
      Con.parseFields env data fs obj ctx pos = r.map (fun oc => (oc.1, pos + n, oc.2))

def LOCF (env : Env) (fs : ConFields) : Prop :=
  ∀ (n : Nat), fs.sizeof = some n → ∀ (data data' : Bytes) (pos pos' : Nat) (obj ctx : Fields),
    readN data pos n = readN data' pos' n → (readN data pos n).length = n →
    ∃ r : R (Fields × Fields),
      Con.parseFields env data fs obj ctx pos = r.map (fun oc => (oc.1, pos + n, oc.2)) ∧
      Con.parseFields env data' fs obj ctx pos' = r.map (fun oc => (oc.1, pos' + n, oc.2))

def TR (env : Env) (c : Con) : Prop :=
  ∀ (n : Nat), c.sizeof = some n → 0 < n → ∀ (data : Bytes) (pos : Nat) (ctx : Fields),
    data.length < pos + n → ∃ e, Con.parse env data c ctx pos = .error e

def TRF (env : Env) (fs : ConFields) : Prop :=
  ∀ (n : Nat), fs.sizeof = some n → 0 < n → ∀ (data : Bytes) (pos : Nat) (obj ctx : Fields),
    data.length < pos + n → ∃ e, Con.parseFields env data fs obj ctx pos = .error e

theorem local_of_leaf {env : Env} {c : Con} {n : Nat} (h : Leaf env c n) : Local env c := by
  obtain ⟨hs, g, hg⟩ := h
  intro n' hn' bs hlen ctx
  rw [hs] at hn'; cases hn'
  refine ⟨g ctx bs, fun data pos rest hd => ?_⟩
  rw [hg, readExact_ok hd hlen]; rfl

theorem tr_of_leaf {env : Env} {c : Con} {n : Nat} (h : Leaf env c n) : TR env c := by
  obtain ⟨hs, g, hg⟩ := h
  intro n' hn' hpos data pos ctx hlt
  rw [hs] at hn'; cases hn'
  exact ⟨.elfParseError, by rw [hg, readExact_trunc hpos hlt]; rfl⟩

theorem leaf_uint (env : Env) (n : Nat) (le : Bool) : Leaf env (.uint n le) n :=
  ⟨by simp [Con.sizeof], fun _ bs => .ok (.int (decNat le bs)), fun data ctx pos => by
    rw [Con.parse]; cases readExact data pos n <;> rfl⟩

theorem leaf_sint (env : Env) (n : Nat) (le : Bool) : Leaf env (.sint n le) n :=
  ⟨by simp [Con.sizeof], fun _ bs => .ok (.int (toSigned (8 * n) (decNat le bs))), fun data ctx pos => by
    rw [Con.parse]; cases readExact data pos n <;> rfl⟩

theorem leaf_u24 (env : Env) (le : Bool) : Leaf env (.u24 le) 3 :=
  ⟨by simp [Con.sizeof],
   fun _ bs => .ok (.int (
      (if le then (leNat (bs.take 2), leNat (bs.drop 2)) else (beNat (bs.drop 1), beNat (bs.take 1))).1
      ||| ((if le then (leNat (bs.take 2), leNat (bs.drop 2))
            else (beNat (bs.drop 1), beNat (bs.take 1))).2 <<< 16))),
   fun data ctx pos => by
    rw [Con.parse]; cases readExact data pos 3 <;> cases le <;> rfl⟩

theorem leaf_bytesN (env : Env) {e : Expr} {n : Nat} (hn : e.litNat? = some n) :
    Leaf env (.bytesN e) n :=
  ⟨by simp [Con.sizeof, hn], fun _ bs => .ok (.bytes bs), fun data ctx pos => by
    rw [parse_bytesN_lit env hn]; cases readExact data pos n <;> rfl⟩

theorem leaf_padding (env : Env) {e : Expr} {n : Nat} (hn : e.litNat? = some n) :
    Leaf env (.padding e false) n :=
  ⟨by simp [Con.sizeof, hn], fun _ bs => .ok (.bytes bs), fun data ctx pos => by
    rw [parse_padding_lit env hn]; cases readExact data pos n <;> rfl⟩

theorem leaf_value (env : Env) (e : Expr) : Leaf env (.value e) 0 :=
  ⟨by simp [Con.sizeof], fun ctx _ => e.eval ctx .none, fun data ctx pos => by
    have : readExact data pos 0 = .ok [] := by simp [readExact, readN]
    rw [Con.parse, this]
    simp only [bind, Except.bind]
    cases e.eval ctx .none <;> rfl⟩

theorem leaf_bits (env : Env) (fs : List BitFld) :
    Leaf env (.bits fs) ((fs.foldl (fun a f => a + f.width) 0 + 7) / 8) :=
  ⟨by simp [Con.sizeof],
   fun _ bs => do
     let obj ← splitBits env (beNat bs) (8 * ((fs.foldl (fun a f => a + f.width) 0 + 7) / 8)) fs []
     pure (.record obj),
   fun data ctx pos => by
    rw [Con.parse]
    cases readExact data pos ((fs.foldl (fun a f => a + f.width) 0 + 7) / 8) with
    | error e => rfl
    | ok bs =>
      simp only [bind, Except.bind]
      cases splitBits env (beNat bs) (8 * ((fs.foldl (fun a f => a + f.width) 0 + 7) / 8)) fs [] <;> rfl⟩

theorem leaf_enum (env : Env) (sub : Con) (t : String) (p : Bool) (n : Nat) (h : Leaf env sub n) :
    Leaf env (.enum sub t p) n := by
  obtain ⟨hs, g, hg⟩ := h
  refine ⟨by rw [Con.sizeof]; exact hs,
    fun ctx bs => g ctx bs >>= fun v =>
      match v with
      | .int n =>
        match env.enumDecode t n with
        | some s => .ok (.str s)
        | none => if p then .ok (.int n) else .error .elfParseError
      | _ => if p then .ok v else .error .elfParseError, ?_⟩
  intro data ctx pos
  rw [Con.parse, hg]
  cases readExact data pos n with
  | error e => rfl
  | ok bs =>
    simp only [bind, Except.bind]
    cases g ctx bs with
    | error e => rfl
    | ok v =>
      simp only [Except.map]
      cases v <;> simp only [pure, Except.pure]
      case int z => cases env.enumDecode t z <;> simp only <;> cases p <;> rfl
      all_goals cases p <;> rfl

theorem leaf_of_enum_fixed (env : Env) (sub : Con) (t : String) (p : Bool)
    (hc : (Con.enum sub t p).fixed = true) : ∃ n, Leaf env (.enum sub t p) n := by
  cases sub <;> simp only [Con.fixed, Bool.false_eq_true] at hc
  case uint n le => exact ⟨n, leaf_enum env _ t p n (leaf_uint env n le)⟩
  case sint n le => exact ⟨n, leaf_enum env _ t p n (leaf_sint env n le)⟩

theorem drop_split {data bs rest : Bytes} {pos a b : Nat} (hlen : bs.length = a + b)
    (hd : data.drop pos = bs ++ rest) :
    (bs.take a).length = a ∧ (bs.drop a).length = b ∧
    data.drop pos = bs.take a ++ (bs.drop a ++ rest) ∧ data.drop (pos + a) = bs.drop a ++ rest := by
  have h1 : (bs.take a).length = a := by rw [List.length_take]; omega
  have h3 : data.drop pos = bs.take a ++ (bs.drop a ++ rest) := by
    rw [← List.append_assoc, List.take_append_drop]; exact hd
  refine ⟨h1, by rw [List.length_drop]; omega, h3, ?_⟩
  have := drop_add_of_drop h3
  rwa [h1] at this

theorem local_struct (env : Env) (fs : ConFields) (ih : LocalF env fs) : Local env (.struct fs) := by
  intro n hn bs hlen ctx
  rw [Con.sizeof] at hn
  obtain ⟨r, h⟩ := ih n hn bs hlen [] []
  refine ⟨r.map (fun oc => .record oc.1), fun data pos rest hd => ?_⟩
  rw [parse_struct_eq, h data pos rest hd]
  cases r <;> rfl

theorem localF_nil (env : Env) : LocalF env .nil := by
  intro n hn bs _ obj ctx
  simp [ConFields.sizeof] at hn
  subst hn
  exact ⟨.ok (obj, ctx), fun data pos rest _ => by simp [Con.parseFields, Except.map]⟩

theorem localF_cons (env : Env) (name : Option String) (c : Con) (fs : ConFields)
    (ihc : Local env c) (ihf : LocalF env fs) : LocalF env (.cons name false c fs) := by
  intro n hn bs hlen obj ctx
  rw [ConFields.sizeof] at hn
  obtain ⟨a, b, ha, hb, rfl⟩ := bind2_eq_some hn
  obtain ⟨r1, h1⟩ := ihc a ha (bs.take a) (by rw [List.length_take]; omega) ctx
  cases r1 with
  | error e =>
    refine ⟨.error e, fun data pos rest hd => ?_⟩
    exact parseFields_error (h1 data pos _ (drop_split hlen hd).2.2.1)
  | ok v =>
    cases name with
    | none =>
      obtain ⟨r2, h2⟩ := ihf b hb (bs.drop a) (by rw [List.length_drop]; omega) obj ctx
      refine ⟨r2, fun data pos rest hd => ?_⟩
      obtain ⟨-, -, hd1, hd2⟩ := drop_split hlen hd
      rw [parseFields_anon (h1 data pos _ hd1), h2 data _ rest hd2, Nat.add_assoc]
    | some nm =>
      obtain ⟨r2, h2⟩ := ihf b hb (bs.drop a) (by rw [List.length_drop]; omega)
        (Fields.set obj nm v) (Fields.set ctx nm v)
      refine ⟨r2, fun data pos rest hd => ?_⟩
      obtain ⟨-, -, hd1, hd2⟩ := drop_split hlen hd
      rw [parseFields_named (h1 data pos _ hd1), h2 data _ rest hd2, Nat.add_assoc]

theorem local_list (env : Env) (sub : Con) (s : Nat) (hs : sub.sizeof = some s) (ih : Local env sub) :
    ∀ (k : Nat) (bs : Bytes), bs.length = k * s → ∀ (ctx : Fields) (acc : List Val),
      ∃ r : R (List Val), ∀ (data : Bytes) (pos : Nat) (rest : Bytes), data.drop pos = bs ++ rest →
        arrayLoop (fun p c => Con.parse env data sub c p) k pos ctx acc
          = r.map (fun ys => (.list (acc.reverse ++ ys), pos + k * s, ctx)) := by
  intro k
  induction k with
  | zero =>
    intro bs _ ctx acc
    exact ⟨.ok [], fun data pos rest _ => by simp [arrayLoop, Except.map]⟩
  | succ k ihk =>
    intro bs hlen ctx acc
    have hk : (k + 1) * s = s + k * s := by rw [Nat.succ_mul, Nat.add_comm]
    rw [hk] at hlen ⊢
    obtain ⟨r1, h1⟩ := ih s hs (bs.take s) (by rw [List.length_take]; omega) ctx
    cases r1 with
    | error e =>
      refine ⟨.error e, fun data pos rest hd => ?_⟩
      rw [arrayLoop, h1 data pos _ (drop_split hlen hd).2.2.1]
      rfl
    | ok v =>
      obtain ⟨r2, h2⟩ := ihk (bs.drop s) (by rw [List.length_drop]; omega) ctx (v :: acc)
      refine ⟨r2.map (v :: ·), fun data pos rest hd => ?_⟩
      obtain ⟨-, -, hd1, hd2⟩ := drop_split hlen hd
      rw [arrayLoop, h1 data pos _ hd1]
      simp only [Except.map]
      rw [h2 data _ rest hd2]
      cases r2 <;> simp [Except.map, Nat.add_assoc]

theorem local_array (env : Env) (e : Expr) (sub : Con) (ih : Local env sub) : Local env (.array e sub) := by
  intro n hn bs hlen ctx
  rw [Con.sizeof] at hn
  obtain ⟨k, s, hk, hs, rfl⟩ := bind2_eq_some hn
  obtain ⟨r, h⟩ := local_list env sub s hs ih k bs hlen ctx []
  refine ⟨r.map .list, fun data pos rest hd => ?_⟩
  rw [parse_array_lit env hk, h data pos rest hd]
  cases r <;> simp [Except.map]

theorem local_cases (env : Env) : FixedCases (Local env) (LocalF env) where
  uint n le := local_of_leaf (leaf_uint env n le)
  sint n le _ := local_of_leaf (leaf_sint env n le)
  u24 le := local_of_leaf (leaf_u24 env le)
  bytesN _ _ hn := local_of_leaf (leaf_bytesN env hn)
  padding _ _ hn := local_of_leaf (leaf_padding env hn)
  enum sub t p hc := by
    obtain ⟨n, h⟩ := leaf_of_enum_fixed env sub t p hc
    exact local_of_leaf h
  struct := local_struct env
  array e _ sub _ _ := local_array env e sub
  value e := local_of_leaf (leaf_value env e)
  bits fs := local_of_leaf (leaf_bits env fs)
  nil := localF_nil env
  cons name c rest _ := localF_cons env name c rest

theorem loc_con (env : Env) : ∀ (c : Con), c.fixed = true → Local env c := fixed_con (local_cases env)

theorem loc_fields (env : Env) : ∀ (fs : ConFields), fs.fixed = true → LOCF env fs := by
  intro fs hc n hn data data' pos pos' obj ctx hr hlen
  obtain ⟨r, h⟩ := fixed_fields (local_cases env) fs hc n hn (readN data pos n) hlen obj ctx
  refine ⟨r, h data pos _ (drop_eq_readN_append data pos n), h data' pos' (data'.drop (pos' + n)) ?_⟩
  rw [hr]
  exact drop_eq_readN_append data' pos' n

theorem local_fit {env : Env} {c : Con} (hl : Local env c) {a : Nat} (ha : c.sizeof = some a)
    (data : Bytes) (pos : Nat) (ctx : Fields) (hfit : (readN data pos a).length = a) :
    ∃ r : R Val, Con.parse env data c ctx pos = r.map (fun v => (v, pos + a, ctx)) := by
  obtain ⟨r, h⟩ := hl a ha (readN data pos a) hfit ctx
  exact ⟨r, h data pos _ (drop_eq_readN_append data pos a)⟩

theorem tr_struct (env : Env) (fs : ConFields) (ih : TRF env fs) : TR env (.struct fs) := by
  intro n hn hpos data pos ctx hlt
  rw [Con.sizeof] at hn
  obtain ⟨e, he⟩ := ih n hn hpos data pos [] [] hlt
  exact ⟨e, by rw [parse_struct_eq, he]; rfl⟩

theorem trf_nil (env : Env) : TRF env .nil := by
  intro n hn hpos
  simp [ConFields.sizeof] at hn
  omega

theorem trf_cons (env : Env) (name : Option String) (c : Con) (fs : ConFields)
    (locc : Local env c) (trc : TR env c) (trf : TRF env fs) : TRF env (.cons name false c fs) := by
  intro n hn hpos data pos obj ctx hlt
  rw [ConFields.sizeof] at hn
  obtain ⟨a, b, ha, hb, rfl⟩ := bind2_eq_some hn
  have hl := readN_length data pos a
  by_cases hfit : (readN data pos a).length = a
  · obtain ⟨r1, e1⟩ := local_fit locc ha data pos ctx hfit
    cases r1 with
    | error e => exact ⟨e, parseFields_error e1⟩
    | ok v =>
      have hb0 : 0 < b := by omega
      cases name with
      | none =>
        rw [parseFields_anon e1]
        exact trf b hb hb0 data (pos + a) _ _ (by omega)
      | some nm =>
        rw [parseFields_named e1]
        exact trf b hb hb0 data (pos + a) _ _ (by omega)
  · obtain ⟨e, he⟩ := trc a ha (by omega) data pos ctx (by omega)
    exact ⟨e, parseFields_error he⟩

theorem tr_list (env : Env) (sub : Con) (s : Nat) (hs : sub.sizeof = some s) (hs0 : 0 < s)
    (locs : Local env sub) (trs : TR env sub) :
    ∀ (k : Nat), 0 < k → ∀ (data : Bytes) (pos : Nat) (ctx : Fields) (acc : List Val),
      data.length < pos + k * s →
      ∃ e, arrayLoop (fun p c => Con.parse env data sub c p) k pos ctx acc = .error e := by
  intro k
  induction k with
  | zero => intro h; omega
  | succ k ihk =>
    intro _ data pos ctx acc hlt
    have hk : (k + 1) * s = s + k * s := by rw [Nat.succ_mul, Nat.add_comm]
    rw [hk] at hlt
    have hl := readN_length data pos s
    rw [arrayLoop]
    by_cases hfit : (readN data pos s).length = s
    · obtain ⟨r1, e1⟩ := local_fit locs hs data pos ctx hfit
      rw [e1]
      cases r1 with
      | error e => exact ⟨e, rfl⟩
      | ok v =>
        simp only [Except.map]
        cases k with
        | zero => omega
        | succ j => exact ihk (by omega) data (pos + s) ctx _ (by omega)
    · obtain ⟨e, he⟩ := trs s hs hs0 data pos ctx (by omega)
      exact ⟨e, by rw [he]⟩

theorem tr_array (env : Env) (e : Expr) (sub : Con) (locs : Local env sub) (trs : TR env sub) :
    TR env (.array e sub) := by
  intro n hn hpos data pos ctx hlt
  rw [Con.sizeof] at hn
  obtain ⟨k, s, hk, hs, rfl⟩ := bind2_eq_some hn
  have hk0 : 0 < k := Nat.pos_of_mul_pos_right hpos
  have hs0 : 0 < s := Nat.pos_of_mul_pos_left hpos
  rw [parse_array_lit env hk]
  exact tr_list env sub s hs hs0 locs trs k hk0 data pos ctx [] hlt

theorem tr_cases (env : Env) : FixedCases (TR env) (TRF env) where
  uint n le := tr_of_leaf (leaf_uint env n le)
  sint n le _ := tr_of_leaf (leaf_sint env n le)
  u24 le := tr_of_leaf (leaf_u24 env le)
  bytesN _ _ hn := tr_of_leaf (leaf_bytesN env hn)
  padding _ _ hn := tr_of_leaf (leaf_padding env hn)
  enum sub t p hc := by
    obtain ⟨n, h⟩ := leaf_of_enum_fixed env sub t p hc
    exact tr_of_leaf h
  struct := tr_struct env
  array e _ sub _ hsub := tr_array env e sub (loc_con env sub hsub)
  value e := tr_of_leaf (leaf_value env e)
  bits fs := tr_of_leaf (leaf_bits env fs)
  nil := trf_nil env
  cons name c rest hc := trf_cons env name c rest (loc_con env c hc)

theorem tr_fields (env : Env) : ∀ (fs : ConFields), fs.fixed = true → TRF env fs := fixed_fields (tr_cases env)

/-- `rt_con` is the same statement for a position given by `data.drop pos = bs ++ rest` -/
theorem parse_encodeRaw (env : Env) (c : Con) (hc : c.fixed = true) (raw : Val) (bs : Bytes)
    (he : c.encodeRaw raw = some bs) (pre rest : Bytes) (ctx : Fields) :
    Con.parse env (pre ++ bs ++ rest) c ctx pre.length
      = (c.decodeRaw env ctx raw).map (fun v => (v, pre.length + bs.length, ctx)) :=
  rt_con env c hc raw bs he (pre ++ bs ++ rest) pre.length rest ctx (drop_pre _ _ _)

theorem encodeRaw_length (c : Con) (hc : c.fixed = true) (raw : Val) (bs : Bytes)
    (he : c.encodeRaw raw = some bs) : c.sizeof = some bs.length :=
  fixed_con el_cases c hc raw bs he

theorem parse_fixed_local (env : Env) (c : Con) (hc : c.fixed = true) (n : Nat) (hn : c.sizeof = some n)
    (data data' : Bytes) (pos pos' : Nat) (ctx : Fields)
    (h : readN data pos n = readN data' pos' n) (hlen : (readN data pos n).length = n) :
    (Con.parse env data c ctx pos).map (fun r => (r.1, r.2.1 - pos, r.2.2))
      = (Con.parse env data' c ctx pos').map (fun r => (r.1, r.2.1 - pos', r.2.2)) := by
  obtain ⟨r, hr⟩ := loc_con env c hc n hn (readN data pos n) hlen ctx
  rw [hr data pos _ (drop_eq_readN_append data pos n),
    hr data' pos' (data'.drop (pos' + n)) (by rw [h]; exact drop_eq_readN_append data' pos' n)]
  cases r <;> simp [Except.map]

/-- "A fixed-shape construct whose extent does not fit fails" needs the extent to be non-empty: a
    zero-size construct placed beyond the end of the data (`pos > data.length`) still parses.
    Counterexample: `Value(lambda ctx: 0)`, `data = []`, `pos = 1`. -/
theorem parse_fixed_truncated_false :
    ¬ (∀ (env : Env) (c : Con) (_ : c.fixed = true) (n : Nat) (_ : c.sizeof = some n)
        (data : Bytes) (pos : Nat) (ctx : Fields) (_ : data.length < pos + n),
        ∃ e, Con.parse env data c ctx pos = .error e) := by
  intro h
  obtain ⟨e, he⟩ := h Env.empty (.value (.lit 0)) (by simp [Con.fixed]) 0 (by simp [Con.sizeof])
    [] 1 [] (by simp)
  simp [Con.parse, Expr.eval, bind, Except.bind, pure, Except.pure] at he

theorem parse_fixed_truncated' (env : Env) (c : Con) (hc : c.fixed = true) (n : Nat)
    (hn : c.sizeof = some n) (hpos : 0 < n)
    (data : Bytes) (pos : Nat) (ctx : Fields) (h : data.length < pos + n) :
    ∃ e, Con.parse env data c ctx pos = .error e :=
  fixed_con (tr_cases env) c hc n hn hpos data pos ctx h

theorem parse_fixed_truncated_of_le (env : Env) (c : Con) (hc : c.fixed = true) (n : Nat)
    (hn : c.sizeof = some n) (data : Bytes) (pos : Nat) (ctx : Fields)
    (hpos : pos ≤ data.length) (h : data.length < pos + n) :
    ∃ e, Con.parse env data c ctx pos = .error e :=
  parse_fixed_truncated' env c hc n hn (by omega) data pos ctx h

end PyElf.Proofs
