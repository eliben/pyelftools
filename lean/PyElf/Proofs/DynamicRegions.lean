/-
  The regions of a `DynDesc` image.  The assembler's output carries its layout whenever the regions do not overlap
  (`assemble_dynLayout`); the container's regions are a part of the image's, hence disjoint when those are
  (`container_disjoint`, over Proofs/ElfRegions.lean; a fact about descriptions, under no property theorem).
-/
import PyElf.Proofs.DynamicImage
import PyElf.Proofs.ElfRegions
namespace PyElf.Proofs.Dynamic
open PyElf PyElf.Spec PyElf.Spec.Dynamic PyElf.Model PyElf.Model.Dynamic PyElf.Proofs

theorem container_disjoint {env : Env} {d : DynDesc} {full : Bool} (hwf : d.wf env full = true) :
    ∃ c, (d.container full).regions = some c ∧ regionsDisjoint (sortRegions c) = true := by
  have hdisj := wf_regions hwf
  cases hrs : d.regions full with
  | none => simp [hrs] at hdisj
  | some rs =>
    rw [hrs] at hdisj
    obtain ⟨c, b, hc, -, rfl⟩ := regions_inv hrs
    exact ⟨c, hc, regionsDisjoint_sublist (List.sublist_append_left c _) hdisj⟩

theorem assemble_dynLayout_of_regionsOk {d : DynDesc} {full : Bool} {bytes : Bytes}
    (hok : d.regionsOk full = true) (h : d.assemble full = some bytes) : DynLayout d full bytes := by
  unfold DynDesc.assemble at h
  unfold DynDesc.regionsOk at hok
  cases hrs : d.regions full with
  | none => simp [hrs] at h
  | some rs =>
    simp only [hrs, Option.bind_eq_bind, Option.bind_some, Option.pure_def, Option.some.injEq] at h
    subst h
    simp only [hrs] at hok
    refine ⟨rs, hrs, fun r hr => ?_⟩
    have hmem : r ∈ sortRegions rs := (List.mergeSort_perm rs _).mem_iff.2 hr
    exact layOut_reads (sortRegions rs) [] hok (fun _ _ => Nat.zero_le _) r hmem

/-- the assembler produces a layout (non-vacuity of `DynLayout`, and the generator the correspondence check uses) -/
theorem assemble_dynLayout {env : Env} {d : DynDesc} {full : Bool} {bytes : Bytes}
    (hwf : d.wf env full = true) (h : d.assemble full = some bytes) : DynLayout d full bytes :=
  assemble_dynLayout_of_regionsOk (wf_regions hwf) h

end PyElf.Proofs.Dynamic
