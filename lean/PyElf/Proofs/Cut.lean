/-
  An encoding read whole, and the data ending inside it, as one statement.
  `Parses err p data pos bs a` (readers of the models): started at `pos` in `data`, `p` reads `a` from `bs` whatever
  follows, and raises `err` where the data ends inside `bs`.  `seq` / `seq_pure` / `after` build the statement of a
  sequence of reads; each makes the case distinction "in which part does the data end" (`cut_append`).  A user makes it
  by hand only where the second reader can be stated only once the first part is known to stand in the data (fuel
  measured against the data left: `Attrs.parses_sNumbers`).  `data` is an index here because a model reader mentions
  it (its fuel, its later reads); `Reads` quantifies over it.
  `Whole env c ctx pos bs v pos' ctx'` (constructs): the `Reads` of Proofs/Reads.lean for every remainder, and
  ELFParseError where the data ends inside `bs`; `WholeF` for field lists.  Rules exist for `uint`, `sint`, `uleb`,
  `sleb`, `cstring`, an `enum` whose value has a name, and structs of named fields — what the structs the properties
  cut short are made of; none for anonymous or embedded fields, arrays, conditionals, switches, bit structs, padding.
  A fixed-shape struct that does not fit, whatever its bytes, needs none of this: `ElfErrors.structParse_fixed_short`.
-/
import PyElf.Proofs.Reads
namespace PyElf.Proofs
open PyElf PyElf.Spec

theorem cut_append {data A B : Bytes} {pos j : Nat} (hd : data.drop pos = (A ++ B).take j) (hj : j < (A ++ B).length) :
    (j < A.length ∧ data.drop pos = A.take j) ∨
    (j - A.length < B.length ∧ data.drop pos = A ++ B.take (j - A.length)
      ∧ data.drop (pos + A.length) = B.take (j - A.length)) := by
  rw [List.take_append] at hd
  rw [List.length_append] at hj
  by_cases h : j < A.length
  · exact .inl ⟨h, by rw [hd, show j - A.length = 0 by omega]; simp⟩
  · rw [List.take_of_length_le (Nat.le_of_not_lt h)] at hd
    exact .inr ⟨by omega, hd, drop_add_of_drop hd⟩

structure Parses {α : Type} (err : Err) (p : Nat → R (α × Nat)) (data : Bytes) (pos : Nat) (bs : Bytes) (a : α) : Prop where
  ok : ∀ {rest : Bytes}, data.drop pos = bs ++ rest → p pos = .ok (a, pos + bs.length)
  cut : ∀ {j : Nat}, j < bs.length → data.drop pos = bs.take j → p pos = .error err

namespace Parses
variable {α β : Type} {err : Err} {p : Nat → R (α × Nat)} {r : Nat → R (β × Nat)} {data : Bytes} {pos : Nat}
  {A B bs : Bytes} {a : α} {b : β}

/-- asks only for the error half of the second reader -/
theorem cut_seq {k : α × Nat → R (β × Nat)} (h1 : Parses err p data pos A a) (hr : r pos = p pos >>= k)
    (h2 : ∀ {j : Nat}, j < B.length → data.drop (pos + A.length) = B.take j → k (a, pos + A.length) = .error err)
    {j : Nat} (hj : j < (A ++ B).length) (hd : data.drop pos = (A ++ B).take j) : r pos = .error err := by
  rcases cut_append hd hj with ⟨h, e⟩ | ⟨h, e1, e2⟩
  · rw [hr, h1.cut h e]; rfl
  · rw [hr, h1.ok e1]; exact h2 h e2

/-- `k` takes the pair, so that `hr` is `rfl` against a do-block -/
theorem seq {k : α × Nat → R (β × Nat)} (h1 : Parses err p data pos A a) (hr : r pos = p pos >>= k)
    (h2 : Parses err (fun q => k (a, q)) data (pos + A.length) B b) : Parses err r data pos (A ++ B) b where
  ok := fun {rest} hd => by
    have hd1 : data.drop pos = A ++ (B ++ rest) := by rw [hd, List.append_assoc]
    rw [hr, h1.ok hd1, List.length_append, ← Nat.add_assoc]
    exact h2.ok (drop_add_of_drop hd1)
  cut := h1.cut_seq hr h2.cut

theorem cut_bind {k : α × Nat → R (β × Nat)} (h1 : Parses err p data pos A a) (hr : r pos = p pos >>= k) {j : Nat}
    (hj : j < A.length) (hd : data.drop pos = A.take j) : r pos = .error err := by
  rw [hr, h1.cut hj hd]; rfl

theorem seq_pure {k : α × Nat → R (β × Nat)} (h1 : Parses err p data pos A a) (hr : r pos = p pos >>= k)
    (hk : k (a, pos + A.length) = .ok (b, pos + A.length)) : Parses err r data pos A b where
  ok := fun hd => by rw [hr, h1.ok hd]; exact hk
  cut := h1.cut_bind hr

/-- for a reader whose first read is known only through a conditional equation (`heq`) -/
theorem after {c : Nat → R (β × Nat)}
    (hcut : ∀ {j}, j < A.length → data.drop pos = A.take j → r pos = .error err)
    (heq : ∀ {rest} q, data.drop pos = A ++ rest → q = pos + A.length → r pos = c q)
    (hc : Parses err c data (pos + A.length) B b) : Parses err r data pos (A ++ B) b where
  ok := fun {rest} hd => by
    have hd1 : data.drop pos = A ++ (B ++ rest) := by rw [hd, List.append_assoc]
    rw [heq _ hd1 rfl, hc.ok (drop_add_of_drop hd1), List.length_append, Nat.add_assoc]
  cut := fun {j} hj hd => by
    rcases cut_append hd hj with ⟨h, e⟩ | ⟨h, e1, e2⟩
    · exact hcut h e
    · rw [heq _ e1 rfl, hc.cut h e2]

theorem pure (a : α) : Parses err (fun q => .ok (a, q)) data pos [] a :=
  ⟨fun _ => rfl, fun hj => absurd hj (Nat.not_lt_zero _)⟩

theorem of_eq {p' : Nat → R (α × Nat)} (hp : Parses err p' data pos bs a) (h : p pos = p' pos) : Parses err p data pos bs a :=
  ⟨fun hd => h.trans (hp.ok hd), fun hj hd => h.trans (hp.cut hj hd)⟩

theorem as {bs' : Bytes} {a' : α} (hp : Parses err p data pos bs a) (hb : bs' = bs) (ha : a' = a) :
    Parses err p data pos bs' a' := by
  subst hb ha; exact hp

end Parses

structure Whole (env : Env) (c : Con) (ctx : Fields) (pos : Nat) (bs : Bytes) (v : Val) (pos' : Nat) (ctx' : Fields) : Prop where
  reads : ∀ out, Engine.Reads (Engine.pr env c) ctx pos (bs ++ out) v pos' out ctx'
  cut : ∀ {data : Bytes} {j : Nat}, j < bs.length → data.drop pos = bs.take j →
    Con.parse env data c ctx pos = .error .elfParseError

structure WholeF (env : Env) (fs : ConFields) (obj ctx : Fields) (pos : Nat) (bs : Bytes) (obj' : Fields) (pos' : Nat)
    (ctx' : Fields) : Prop where
  reads : ∀ out, Engine.ReadsF (Engine.pf env fs) obj ctx pos (bs ++ out) obj' pos' out ctx'
  cut : ∀ {data : Bytes} {j : Nat}, j < bs.length → data.drop pos = bs.take j →
    Con.parseFields env data fs obj ctx pos = .error .elfParseError

section
open Engine
variable {env : Env} {ctx c1 c2 obj obj' : Fields} {pos p1 p2 : Nat} {bs bs' : Bytes} {v : Val}

theorem WholeF.nil : WholeF env .nil obj ctx pos [] obj pos ctx :=
  ⟨fun _ => ReadsF.nil, fun hj => absurd hj (Nat.not_lt_zero _)⟩

theorem WholeF.named {nm : String} {c : Con} {rest : ConFields} (h1 : Whole env c ctx pos bs v p1 c1)
    (h2 : WholeF env rest (Fields.set obj nm v) (Fields.set c1 nm v) p1 bs' obj' p2 c2) :
    WholeF env (.cons (some nm) false c rest) obj ctx pos (bs ++ bs') obj' p2 c2 where
  reads := fun out => (ReadsF.named (h1.reads (bs' ++ out)) (h2.reads out)).as (List.append_assoc ..) rfl rfl
  cut := fun hj hd => by
    rcases cut_append hd hj with ⟨h, e⟩ | ⟨h, e1, -⟩
    · exact parseFields_error (h1.cut h e)
    · obtain ⟨hp, hd1⟩ := (h1.reads _).ok e1
      rw [parseFields_named hp]; exact h2.cut h hd1

/-- `ho` restates the object the field rules build as the literal record (as for `ReadsF.struct`) -/
theorem Whole.struct {fs : ConFields} {rec : Fields} (h : WholeF env fs [] [] pos bs obj p1 c1) (ho : rec = obj) :
    Whole env (.struct fs) ctx pos bs (.record rec) p1 ctx :=
  ⟨fun out => ReadsF.struct (h.reads out) ho, fun hj hd => parse_struct_error (h.cut hj hd)⟩

theorem Whole.enum_named {sub : Con} {tbl : String} {pass : Bool} {n : Int} {s : String}
    (h : Whole env sub ctx pos bs (.int n) p1 c1) (hn : env.enumDecode tbl n = some s) :
    Whole env (.enum sub tbl pass) ctx pos bs (.str s) p1 c1 :=
  ⟨fun out => Reads.enum_named (h.reads out) hn, fun hj hd => parse_enum_error (h.cut hj hd)⟩

theorem Whole.uint {n v : Nat} {le : Bool} (hv : v < 256 ^ n) :
    Whole env (.uint n le) ctx pos (encNat le n v) (.int v) (pos + n) ctx :=
  ⟨fun _ => Reads.uint hv, fun hj hd => parse_uint_short hd (by rw [List.length_take]; rw [encNat_length] at hj; omega)⟩

theorem Whole.byte {x : Nat} {le : Bool} (hx : x < 256) :
    Whole env (.uint 1 le) ctx pos [UInt8.ofNat x] (.int x) (pos + 1) ctx :=
  ⟨fun _ => Reads.byte hx, fun hj hd => parse_uint_short hd (by rw [List.length_take]; simp at hj; omega)⟩

theorem Whole.sint {n : Nat} {v : Int} {le : Bool} (hn : 1 ≤ n) (hlo : -((2 ^ (8 * n - 1) : Nat) : Int) ≤ v)
    (hhi : v < ((2 ^ (8 * n - 1) : Nat) : Int)) :
    Whole env (.sint n le) ctx pos (encNat le n (ofSigned (8 * n) v)) (.int v) (pos + n) ctx :=
  ⟨fun _ => Reads.sint hn hlo hhi,
   fun hj hd => parse_sint_short hd (by rw [List.length_take]; rw [encNat_length] at hj; omega)⟩

theorem Whole.uleb {l v : Nat} (hl : 1 ≤ l) (hv : v < 2 ^ (7 * l)) :
    Whole env .uleb ctx pos (encUlebN l v) (.int v) (pos + l) ctx :=
  ⟨fun _ => Reads.uleb hl hv, fun {_ j} hj hd => by
    rw [Con.parse, parseUleb_trunc hd (validLEB_take _ j (encUlebN_valid l v hl) hj)]; rfl⟩

theorem Whole.sleb {l : Nat} {v : Int} (hl : 1 ≤ l) (hlo : -((2 ^ (7 * l - 1) : Nat) : Int) ≤ v)
    (hhi : v < ((2 ^ (7 * l - 1) : Nat) : Int)) :
    Whole env .sleb ctx pos (encSlebN l v) (.int v) (pos + l) ctx :=
  ⟨fun _ => Reads.sleb hl hlo hhi, fun {_ j} hj hd => by
    rw [Con.parse, parseSleb_trunc hd (validLEB_take _ j (encSlebN_valid l v hl) hj)]; rfl⟩

theorem Whole.cstring {s : Bytes} (hs : ∀ b ∈ s, b ≠ 0) :
    Whole env .cstring ctx pos (s ++ [0]) (.bytes s) (pos + s.length + 1) ctx :=
  ⟨fun _ => (Reads.cstring hs).as (by simp) rfl rfl, fun {_ j} hj hd => by
    have e : (s ++ [0]).take j = s.take j := by
      rw [List.take_append, show j - s.length = 0 by simp at hj; omega]; simp
    rw [e] at hd
    rw [Con.parse, parseCString_unterminated (fun b hb => hs b (List.mem_of_mem_take hb)) hd]; rfl⟩

theorem Parses.of_whole {c : Con} {data : Bytes} (h : Whole env c [] pos bs v p1 c1) :
    Parses .elfParseError (structParse env c data) data pos bs v where
  ok := fun hd => by rw [← Reads.len h.reads]; exact (h.reads _).structParse hd
  cut := fun hj hd => structParse_error (h.cut hj hd)

end

section
variable {env : Env} {data : Bytes} {pos : Nat}

theorem parses_uint {n v : Nat} {le : Bool} (hv : v < 256 ^ n) :
    Parses .elfParseError (structParse env (.uint n le) data) data pos (encNat le n v) (.int v) := .of_whole (.uint hv)

theorem parses_byte {k : Nat} {le : Bool} (hk : k < 256) :
    Parses .elfParseError (structParse env (.uint 1 le) data) data pos [UInt8.ofNat k] (.int k) := .of_whole (.byte hk)

theorem parses_sint {n : Nat} {v : Int} {le : Bool} (hn : 1 ≤ n) (hlo : -((2 ^ (8 * n - 1) : Nat) : Int) ≤ v)
    (hhi : v < ((2 ^ (8 * n - 1) : Nat) : Int)) :
    Parses .elfParseError (structParse env (.sint n le) data) data pos (encNat le n (ofSigned (8 * n) v)) (.int v) :=
  .of_whole (.sint hn hlo hhi)

theorem parses_uleb {n v : Nat} (hn : 1 ≤ n) (hv : v < 2 ^ (7 * n)) :
    Parses .elfParseError (structParse env .uleb data) data pos (encUlebN n v) (.int v) := .of_whole (.uleb hn hv)

theorem parses_sleb {n : Nat} {v : Int} (hn : 1 ≤ n) (hlo : -((2 ^ (7 * n - 1) : Nat) : Int) ≤ v)
    (hhi : v < ((2 ^ (7 * n - 1) : Nat) : Int)) :
    Parses .elfParseError (structParse env .sleb data) data pos (encSlebN n v) (.int v) := .of_whole (.sleb hn hlo hhi)

theorem parses_cstring {s : Bytes} (hs : ∀ b ∈ s, b ≠ 0) :
    Parses .elfParseError (structParse env .cstring data) data pos (s ++ [0]) (.bytes s) := .of_whole (.cstring hs)

end

end PyElf.Proofs
