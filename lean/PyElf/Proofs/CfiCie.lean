/-
  One CIE.  On any data, at any offset the cache misses: a header with any field values (`cie_header_stage`), the header of
  a description with any length field and any bytes after the augmentation data (`cie_prologue`, `cie_of_instrs`: the entry
  is what `_parse_instructions` makes of those bytes), a whole well-formed CIE (`cie_at`).  In data that starts with the
  encoded section: a CIE of the section, parsed (`cie_miss`), taken from the cache (`entry_hit`), either (`cie_fetches`).
-/
import PyElf.Proofs.CfiParse
import PyElf.Proofs.CfiStages
import PyElf.Proofs.CfiSection

namespace PyElf.Proofs.Cfi
open PyElf PyElf.Spec PyElf.Model PyElf.Proofs PyElf.Proofs.CfiBad PyElf.Proofs.Engine

theorem augString_nonzero (aug : Option (List AugItem)) : ∀ b ∈ augString aug, b ≠ 0 := by
  cases aug with
  | none => intro b hb; simp [augString] at hb
  | some items =>
    intro b hb
    simp only [augString, List.mem_cons, List.mem_map] at hb
    rcases hb with rfl | ⟨i, _, rfl⟩
    · decide
    · cases i <;> simp [AugItem.letter]

theorem cie_body_eq (sec : Section) (c : Cie) :
    c.body sec = cieHdrBytes sec.le (offSize c.fmt64) (cieIdv sec c) c.version (augString c.aug) c.addrSize c.segSize
      c.caf c.daf c.ra (cieAugPart sec c ++ encInstrs sec.le sec.asz c.instrs) := by
  unfold Cie.body cieHdrBytes cieTail cieIdv cieAugPart
  cases sec.eh <;> simp [List.append_assoc] <;> (cases c.aug <;> rfl)

theorem instrs_length_le (le : Bool) (asz : Nat) (is : List Cfa) : is.length ≤ (encInstrs le asz is).length := by
  induction is with
  | nil => simp [encInstrs]
  | cons i r ih =>
    have := enc_length_pos le asz i
    simp only [encInstrs, List.flatMap_cons, List.length_append, List.length_cons] at ih ⊢
    omega

theorem cieHdrBytes_append (le : Bool) (osz idv ver : Nat) (aug : Bytes) (a s : Nat) (caf : ULeb) (daf : SLeb) (ra : ULeb)
    (r t : Bytes) : cieHdrBytes le osz idv ver aug a s caf daf ra r ++ t = cieHdrBytes le osz idv ver aug a s caf daf ra (r ++ t) := by
  simp [cieHdrBytes, cieTail, List.append_assoc]

theorem cieHdrBytes_length (le : Bool) (osz idv ver : Nat) (aug : Bytes) (a s : Nat) (caf : ULeb) (daf : SLeb) (ra : ULeb)
    (r : Bytes) : (cieHdrBytes le osz idv ver aug a s caf daf ra r).length = cieHdrLen osz ver aug caf daf ra + r.length := by
  unfold cieHdrBytes cieTail cieHdrLen
  simp only [List.length_append, List.length_cons, encNat_length, byte_length, uleb_len, sleb_len]
  split <;> split <;> simp [byte_length, uleb_len] <;> omega

theorem cie_size_eq (sec : Section) (c : Cie) :
    (c.body sec).length = cieHdrLen (offSize c.fmt64) c.version (augString c.aug) c.caf c.daf c.ra
      + (cieAugPart sec c).length + (encInstrs sec.le sec.asz c.instrs).length := by
  rw [cie_body_eq, cieHdrBytes_length, List.length_append]; omega

theorem cieFields_length (len idv ver : Nat) (aug : Bytes) (a s : Nat) (caf daf : Int) (ra : Nat) :
    Fields.getR (cieFields len idv ver aug a s caf daf ra) "length" = .ok (.int len) := rfl

theorem cieFields_aug (len idv ver : Nat) (aug : Bytes) (a s : Nat) (caf daf : Int) (ra : Nat) :
    Fields.get? (cieFields len idv ver aug a s caf daf ra) "augmentation" = some (.bytes aug) := by
  simp (config := { decide := true }) [cieFields, Fields.get?]

theorem entry_words {env : Env} {data : Bytes} {off : Nat} {le fmt64 : Bool} {len w : Nat} {rest : Bytes}
    (hd : data.drop off = encLength le fmt64 len ++ (encNat le (offSize fmt64) w ++ rest))
    (hlen : lenOk fmt64 len = true) (hw : w < 256 ^ offSize fmt64) :
    structParse env (.uint 4 le) data off = .ok (.int (if fmt64 then 0xFFFFFFFF else len : Nat), off + 4)
    ∧ structParse env (.uint (fmtOf fmt64 / 8) le) data (off + ilfs fmt64) = .ok (.int w, off + ilfs fmt64 + offSize fmt64) := by
  cases fmt64 with
  | false =>
    simp only [encLength, Bool.false_eq_true, if_false, lenOk, decide_eq_true_eq, ilfs, offSize, fmtOf] at hd hlen hw ⊢
    have h1 := drop_after hd (encNat_length le 4 len)
    exact ⟨(Reads.uint (by omega)).structParse hd, (Reads.uint hw).structParse h1⟩
  | true =>
    simp only [encLength, if_true, lenOk, decide_eq_true_eq, ilfs, offSize, fmtOf, List.append_assoc] at hd hlen hw ⊢
    have h1 := drop_after hd (encNat_length le 4 _)
    have h2 := drop_after h1 (encNat_length le 8 _)
    rw [Nat.add_assoc] at h2
    exact ⟨(Reads.uint (by decide)).structParse hd, (Reads.uint hw).structParse h2⟩

theorem first_word (eh fmt64 : Bool) (len : Nat) (hlen : lenOk fmt64 len = true) (hpos : 0 < len) :
    (eh && ((if fmt64 then 0xFFFFFFFF else len : Nat) == 0)) = false
    ∧ (if (if fmt64 then 0xFFFFFFFF else len : Nat) = 0xFFFFFFFF then 64 else 32) = fmtOf fmt64 := by
  cases fmt64 with
  | true => simp [fmtOf]
  | false =>
    simp only [lenOk, Bool.false_eq_true, if_false, decide_eq_true_eq] at hlen
    have h1 : len ≠ 0 := by omega
    have h2 : len ≠ 0xFFFFFFFF := by omega
    simp [fmtOf, h1, h2]

theorem entry_miss (sec : Section) (env : Env) (data : Bytes) (fuel off pos : Nat) (cache : Cache)
    {fmt64 : Bool} {len w : Nat} {rest : Bytes}
    (hd : data.drop off = encLength sec.le fmt64 len ++ (encNat sec.le (offSize fmt64) w ++ rest))
    (hlen : lenOk fmt64 len = true) (hpos : 0 < len) (hw : w < 256 ^ offSize fmt64) (hoff : off < 2 ^ 63)
    (hmiss : cache.get (off : Int) = none) :
    parseEntryAt (cfiOf sec env data) (fuel + 1) off pos cache =
      if (if sec.eh then w == 0 else (fmtOf fmt64 == 32 && w == 0xFFFFFFFF) || w == 0xFFFFFFFFFFFFFFFF) = true
      then cieBlock (cfiOf sec env data) off off cache (fmtOf fmt64) (Spec.dwarfStructs ⟨sec.le, fmtOf fmt64, sec.asz, 2⟩)
      else fdeBlock (cfiOf sec env data) fuel off off cache (fmtOf fmt64)
        (Spec.dwarfStructs ⟨sec.le, fmtOf fmt64, sec.asz, 2⟩) := by
  obtain ⟨hw1, hw2⟩ := entry_words (env := env) hd hlen hw
  obtain ⟨hz, hfmt⟩ := first_word sec.eh fmt64 len hlen hpos
  have h := parseEntryAt_miss (cfiOf sec env data) (Spec.dwarfStructs ⟨sec.le, 32, sec.asz, 2⟩)
    (Spec.dwarfStructs ⟨sec.le, fmtOf fmt64, sec.asz, 2⟩) fuel off off pos cache _ _ w _ hmiss (seekPos_nat off hoff) rfl
    hw1 hz (by rw [hfmt]; rfl) (by rw [hfmt, fmtOf_ilfs]; exact hw2)
  rw [hfmt] at h
  exact h

theorem cie_header_stage (sec : Section) (env : Env) (data : Bytes) (fmt64 : Bool) (L ver a sg : Nat) (augB : Bytes)
    (caf : ULeb) (daf : SLeb) (ra : ULeb) (tail : Bytes) (off fuel pos : Nat) (cache : Cache)
    (hd : data.drop off = encLength sec.le fmt64 L ++
      cieHdrBytes sec.le (offSize fmt64) (if sec.eh then 0 else 256 ^ offSize fmt64 - 1) ver augB a sg caf daf ra tail)
    (hlen : lenOk fmt64 L = true) (hLpos : 0 < L) (hoff : off < 2 ^ 63) (hmiss : cache.get (off : Int) = none)
    (hver : ver = 1 ∨ ver = 3 ∨ ver = 4) (haug0 : ∀ b ∈ augB, b ≠ 0)
    (ha : 4 ≤ ver → a < 256) (hs : 4 ≤ ver → sg < 256) (hcaf : caf.wf = true) (hdaf : daf.wf = true)
    (hra : if ver = 1 then ra.v < 256 else ra.wf = true) :
    parseEntryAt (cfiOf sec env data) (fuel + 1) off pos cache
      = cieBlock (cfiOf sec env data) off off cache (fmtOf fmt64) (Spec.dwarfStructs ⟨sec.le, fmtOf fmt64, sec.asz, 2⟩)
    ∧ structParse (cfiOf sec env data).env
        (if (cfiOf sec env data).eh then (Spec.dwarfStructs ⟨sec.le, fmtOf fmt64, sec.asz, 2⟩).EH_CIE_header
         else (Spec.dwarfStructs ⟨sec.le, fmtOf fmt64, sec.asz, 2⟩).Dwarf_CIE_header) (cfiOf sec env data).data off
      = .ok (.record (cieFields L (if sec.eh then 0 else 256 ^ offSize fmt64 - 1) ver augB a sg caf.v daf.v ra.v),
             off + ilfs fmt64 + cieHdrLen (offSize fmt64) ver augB caf daf ra) := by
  have hid : (if sec.eh then 0 else 256 ^ offSize fmt64 - 1) < 256 ^ offSize fmt64 := by
    split
    · exact Nat.pow_pos (by decide)
    · exact Nat.sub_lt (Nat.pow_pos (by decide)) (by decide)
  have hisCie : (if sec.eh = true then ((if sec.eh then 0 else 256 ^ offSize fmt64 - 1 : Nat) == 0)
      else (fmtOf fmt64 == 32 && (if sec.eh then 0 else 256 ^ offSize fmt64 - 1 : Nat) == 0xFFFFFFFF)
        || (if sec.eh then 0 else 256 ^ offSize fmt64 - 1 : Nat) == 0xFFFFFFFFFFFFFFFF) = true := by
    unfold fmtOf offSize
    cases sec.eh <;> cases fmt64 <;> decide
  refine ⟨by rw [entry_miss sec env data fuel off pos cache hd hlen hLpos hid hoff hmiss, if_pos hisCie], ?_⟩
  rw [eh_cie_header_eq, cie_header_eq, ite_self, fmtOf_div]
  exact (cie_reads hlen hid (by omega) (by omega) haug0 ha hs hcaf hdaf hra).structParse hd

theorem cie_aug_drop (sec : Section) (data : Bytes) (c : Cie) (L : Nat) (tail : Bytes) (off : Nat)
    (hd' : data.drop off = encLength sec.le c.fmt64 L ++
      cieHdrBytes sec.le (offSize c.fmt64) (cieIdv sec c) c.version (augString c.aug) c.addrSize c.segSize c.caf c.daf
        c.ra (cieAugPart sec c ++ tail)) :
    data.drop (off + ilfs c.fmt64 + cieHdrLen (offSize c.fmt64) c.version (augString c.aug) c.caf c.daf c.ra)
      = cieAugPart sec c ++ tail := by
  have hd1 := drop_after hd' (encLength_length ..)
  rw [← List.nil_append (cieAugPart sec c ++ tail), ← cieHdrBytes_append] at hd1
  exact drop_after hd1 (by rw [cieHdrBytes_length]; rfl)

theorem cie_tail_drop (sec : Section) (data : Bytes) (c : Cie) (L : Nat) (tail : Bytes) (off : Nat)
    (hd' : data.drop off = encLength sec.le c.fmt64 L ++
      cieHdrBytes sec.le (offSize c.fmt64) (cieIdv sec c) c.version (augString c.aug) c.addrSize c.segSize c.caf c.daf
        c.ra (cieAugPart sec c ++ tail)) :
    data.drop (cieInstrStart sec c off) = tail :=
  drop_after (cie_aug_drop sec data c L tail off hd') rfl

/-- a CIE with the header of a description `c`, any length field `L` and any bytes `tail` behind the augmentation data, at
    an offset the cache misses: header (`cie_header_stage`), augmentation (`cieAug_none` / `cieAug_some`), and what is left
    of `_parse_entry_at` is `_parse_instructions` on `tail` up to the end `L` declares -/
theorem cie_prologue (sec : Section) (env : Env) (data : Bytes) (c : Cie) (L : Nat) (tail : Bytes)
    (off fuel pos : Nat) (cache : Cache)
    (hw : cieHeaderWf sec c = true) (hasz : sec.asz = 4 ∨ sec.asz = 8)
    (hd' : data.drop off = encLength sec.le c.fmt64 L ++
      cieHdrBytes sec.le (offSize c.fmt64) (cieIdv sec c) c.version (augString c.aug) c.addrSize c.segSize c.caf c.daf
        c.ra (cieAugPart sec c ++ tail))
    (hlen : lenOk c.fmt64 L = true) (hLpos : 0 < L) (hoff : off < 2 ^ 63)
    (hmiss : cache.get (off : Int) = none) :
    parseEntryAt (cfiOf sec env data) (fuel + 1) off pos cache
      = (parseInstructions Spec.cfiTables (Spec.dwarfStructs ⟨sec.le, fmtOf c.fmt64, sec.asz, 2⟩) env data
          (off + L + ilfs c.fmt64) (data.length + 1 - cieInstrStart sec c off) (cieInstrStart sec c off)).map
          (fun r => (cieObj sec c L off r.1, r.2, ((off : Int), cieObj sec c L off r.1) :: cache)) := by
  have H := cieHeaderFacts_of hw
  -- a version 4 address size is the section's (`hasz`: 4 or 8), so a byte
  have ha : 4 ≤ c.version → c.addrSize < 256 := fun h4 => by have := (H.v4 h4).1; omega
  have hs : 4 ≤ c.version → c.segSize < 256 := fun h4 => by have := (H.v4 h4).2; omega
  obtain ⟨hblock, hhdr⟩ := cie_header_stage sec env data c.fmt64 L c.version c.addrSize c.segSize (augString c.aug) c.caf c.daf
    c.ra (cieAugPart sec c ++ tail) off fuel pos cache hd' hlen hLpos hoff hmiss H.ver (augString_nonzero c.aug) ha hs H.caf
    H.daf H.ra
  have hd2 := cie_aug_drop sec data c L tail off hd'
  have haugp : parseCieAugmentation (cfiOf sec env data) (Spec.dwarfStructs ⟨sec.le, fmtOf c.fmt64, sec.asz, 2⟩)
      (cieFields L (cieIdv sec c) c.version (augString c.aug) c.addrSize c.segSize c.caf.v c.daf.v c.ra.v)
      (off + ilfs c.fmt64 + cieHdrLen (offSize c.fmt64) c.version (augString c.aug) c.caf c.daf c.ra)
      = .ok (cieAugBytes sec c, augDictObs sec.le sec.asz c.aug,
          off + ilfs c.fmt64 + cieHdrLen (offSize c.fmt64) c.version (augString c.aug) c.caf c.daf c.ra
            + (cieAugPart sec c).length) := by
    cases hau : c.aug with
    | none =>
      rw [cieAug_none (by rw [cieFields_aug]; rfl)]
      simp [cieAugBytes, cieAugPart, hau, augDictObs]
    | some items =>
      cases heh : sec.eh with
      | false => rw [H.df heh] at hau; cases hau
      | true =>
        have hd2' : (cfiOf sec env data).data.drop
            (off + ilfs c.fmt64 + cieHdrLen (offSize c.fmt64) c.version (augString c.aug) c.caf c.daf c.ra)
            = encUlebN c.augLenN (augData sec.le sec.asz items).length ++ (augData sec.le sec.asz items ++ tail) := by
          rw [show (cfiOf sec env data).data = data from rfl, hd2]
          simp [cieAugPart, hau, heh, List.append_assoc]
        rw [← hau]
        rw [cieAug_some (C := cfiOf sec env data) rfl heh (by rw [cieFields_aug, hau]; rfl) (H.augNodup _ hau)
          (H.items _ hau) (H.augN _ hau) (H.augLen _ hau) hd2']
        simp [cieAugBytes, cieAugPart, hau, heh, encUlebN_length, Nat.add_assoc]
  rw [hblock, cieBlock_eq (cfiOf sec env data) off off cache (fmtOf c.fmt64) _ _ _ _ L _ _ hhdr haugp (cieFields_length ..),
    fmtOf_ilfs]
  rfl

theorem cie_start_le (sec : Section) (data : Bytes) (c : Cie) (L : Nat) (tail : Bytes) (off : Nat)
    (hd' : data.drop off = encLength sec.le c.fmt64 L ++
      cieHdrBytes sec.le (offSize c.fmt64) (cieIdv sec c) c.version (augString c.aug) c.addrSize c.segSize c.caf c.daf
        c.ra (cieAugPart sec c ++ tail)) :
    data.length = cieInstrStart sec c off + tail.length := by
  have h := length_of_drop hd'
  simp only [List.length_append, encLength_length, cieHdrBytes_length] at h
  have hil : 4 ≤ ilfs c.fmt64 := by cases c.fmt64 <;> simp [ilfs]
  unfold cieInstrStart
  omega

/-- The instruction loop is given one unit of fuel per remaining byte and one more (`tail.length + 1`), so a statement about
    `_parse_instructions` that needs `k` units applies when `k ≤ tail.length + 1`. -/
theorem cie_of_instrs (sec : Section) (env : Env) (data : Bytes) (c : Cie) (L : Nat) (tail : Bytes)
    (off fuel pos : Nat) (cache : Cache)
    (hw : cieHeaderWf sec c = true) (hasz : sec.asz = 4 ∨ sec.asz = 8)
    (hd' : data.drop off = encLength sec.le c.fmt64 L ++
      cieHdrBytes sec.le (offSize c.fmt64) (cieIdv sec c) c.version (augString c.aug) c.addrSize c.segSize c.caf c.daf
        c.ra (cieAugPart sec c ++ tail))
    (hlen : lenOk c.fmt64 L = true) (hLpos : 0 < L) (hoff : off < 2 ^ 63) (hmiss : cache.get (off : Int) = none)
    (k : Nat) (hk : k ≤ tail.length + 1) (r : R (List Instr × Nat))
    (h : ∀ f, parseInstructions Spec.cfiTables (Spec.dwarfStructs ⟨sec.le, fmtOf c.fmt64, sec.asz, 2⟩) env data
      (off + L + ilfs c.fmt64) (f + k) (cieInstrStart sec c off) = r) :
    parseEntryAt (cfiOf sec env data) (fuel + 1) off pos cache
      = r.map (fun r => (cieObj sec c L off r.1, r.2, ((off : Int), cieObj sec c L off r.1) :: cache)) := by
  rw [cie_prologue sec env data c L tail off fuel pos cache hw hasz hd' hlen hLpos hoff hmiss]
  have hl := cie_start_le sec data c L tail off hd'
  rw [show data.length + 1 - cieInstrStart sec c off = (tail.length + 1 - k) + k by omega, h]

/-- … with `j` units beyond one per instruction of a well-formed prefix `is` -/
theorem cie_of_instrs_after (sec : Section) (env : Env) (data : Bytes) (c : Cie) (L : Nat) (is : List Cfa) (x : Bytes)
    (off fuel pos : Nat) (cache : Cache)
    (hw : cieHeaderWf sec c = true) (hasz : sec.asz = 4 ∨ sec.asz = 8)
    (hd' : data.drop off = encLength sec.le c.fmt64 L ++
      cieHdrBytes sec.le (offSize c.fmt64) (cieIdv sec c) c.version (augString c.aug) c.addrSize c.segSize c.caf c.daf
        c.ra (cieAugPart sec c ++ (encInstrs sec.le sec.asz is ++ x)))
    (hlen : lenOk c.fmt64 L = true) (hLpos : 0 < L) (hoff : off < 2 ^ 63) (hmiss : cache.get (off : Int) = none)
    (j : Nat) (hj : j ≤ x.length + 1) (r : R (List Instr × Nat))
    (h : ∀ f, data.drop (cieInstrStart sec c off) = encInstrs sec.le sec.asz is ++ x →
      parseInstructions Spec.cfiTables (Spec.dwarfStructs ⟨sec.le, fmtOf c.fmt64, sec.asz, 2⟩) env data
        (off + L + ilfs c.fmt64) (f + j + is.length) (cieInstrStart sec c off) = r) :
    parseEntryAt (cfiOf sec env data) (fuel + 1) off pos cache
      = r.map (fun r => (cieObj sec c L off r.1, r.2, ((off : Int), cieObj sec c L off r.1) :: cache)) := by
  have hil := instrs_length_le sec.le sec.asz is
  exact cie_of_instrs sec env data c L _ off fuel pos cache hw hasz hd' hlen hLpos hoff hmiss (j + is.length)
    (by rw [List.length_append]; omega) r
    (fun f => by rw [← Nat.add_assoc]; exact h f (cie_tail_drop sec data c L _ off hd'))

theorem cie_at (sec : Section) (env : Env) (data : Bytes) (c : Cie) (off fuel pos : Nat) (cache : Cache) (rest : Bytes)
    (hw : c.wf sec = true) (hasz : sec.asz = 4 ∨ sec.asz = 8)
    (hd : data.drop off = Spec.Entry.enc sec off (.cie c) ++ rest)
    (hoff : off < 2 ^ 63) (hmiss : cache.get (off : Int) = none) :
    parseEntryAt (cfiOf sec env data) (fuel + 1) off pos cache
      = .ok (mCie sec off c, off + Spec.Entry.size sec (.cie c), ((off : Int), mCie sec off c) :: cache) := by
  have hL := cie_size_eq sec c
  have hd' : data.drop off = encLength sec.le c.fmt64 (c.body sec).length ++
      cieHdrBytes sec.le (offSize c.fmt64) (cieIdv sec c) c.version (augString c.aug) c.addrSize c.segSize c.caf c.daf
        c.ra (cieAugPart sec c ++ (encInstrs sec.le sec.asz c.instrs ++ rest)) := by
    rw [hd, Spec.Entry.enc, List.append_assoc, cie_body_eq, cieHdrBytes_append, List.append_assoc]
  have hbpos : 0 < (c.body sec).length := by
    rw [hL]; unfold cieHdrLen offSize; split <;> omega
  have W := cieFacts_of_wf hw
  -- the declared end is where the encoded instructions end, so the loop reads exactly them with one unit of fuel to spare
  have hend : off + (c.body sec).length + ilfs c.fmt64
      = cieInstrStart sec c off + (encInstrs sec.le sec.asz c.instrs).length := by
    unfold cieInstrStart; omega
  rw [cie_of_instrs_after sec env data c _ c.instrs rest off fuel pos cache (cieHeaderWf_of_wf hw) hasz hd' W.len hbpos hoff
    hmiss 1 (Nat.le_add_left 1 _) _ fun f hdt => by
      rw [hend]
      exact parseInstructions_ok (instrStructs_spec sec.le (fmtOf c.fmt64) sec.asz 2) env data c.instrs _ _ rest hdt
        W.instrs (by omega)]
  simp only [Except.map, ← hend, Spec.Entry.size, mCie_eq_cieObj]
  rw [show off + (c.body sec).length + ilfs c.fmt64 = off + (ilfs c.fmt64 + (c.body sec).length) by omega]

theorem cie_miss (sec : Section) (env : Env) (hwf : sec.wf = true) (junk : Bytes)
    (hsz : (encodeSection sec ++ junk).length < 2 ^ 63)
    (j : Nat) (c : Cie) (hj : sec.entries[j]? = some (.cie c)) (fuel pos : Nat) (cache : Cache)
    (hmiss : cache.get (sec.offsetOf j : Int) = none) :
    parseEntryAt (cfiOf sec env (encodeSection sec ++ junk)) (fuel + 1) (sec.offsetOf j) pos cache
      = .ok (mCie sec (sec.offsetOf j) c, sec.offsetOf j + Entry.size sec (.cie c),
             ((sec.offsetOf j : Int), mCie sec (sec.offsetOf j) c) :: cache) := by
  have hle := offsetOf_succ_le_app sec junk hwf j (getElem?_lt hj)
  have hlt := offsetOf_lt sec hwf (j + 1) j (Nat.lt_succ_self j) (getElem?_lt hj)
  exact cie_at sec env _ c _ fuel pos cache _ (wf_at sec hwf j _ hj) (asz_of_wf sec hwf)
    (drop_offsetOf_app sec junk j _ hj) (by omega) hmiss

theorem entry_hit (sec : Section) (env : Env) (data : Bytes) (hwf : sec.wf = true) (i : Nat) (se : Spec.Entry)
    (hi : sec.entries[i]? = some se) (fuel pos : Nat) (cache : Cache) (hinv : CacheInv sec cache) (e : Model.Entry)
    (hk : cache.get (sec.offsetOf i : Int) = some e) :
    parseEntryAt (cfiOf sec env data) (fuel + 1) (sec.offsetOf i) pos cache
      = .ok (modelOf sec (sec.offsetOf i) se, pos + se.size sec, cache) := by
  obtain ⟨hz, he⟩ := hinv.hit hwf hi hk
  subst he
  obtain ⟨h, len, il, h1, h2, h3, h4⟩ := modelOf_size sec _ se (wf_at sec hwf i se hi) hz
  rw [entry_cached _ fuel _ pos cache _ h len il hk h1 h2 h3, h4]

theorem cie_fetches (sec : Section) (env : Env) (hwf : sec.wf = true) (junk : Bytes)
    (hsz : (encodeSection sec ++ junk).length < 2 ^ 63) (j : Nat) (c : Cie) (hj : sec.entries[j]? = some (.cie c)) (fuel : Nat) :
    Fetches (cfiOf sec env (encodeSection sec ++ junk)) fuel (sec.offsetOf j) (mCie sec (sec.offsetOf j) c) (CacheInv sec) := by
  intro pos cache hinv
  cases hk : cache.get (sec.offsetOf j : Int) with
  | some e => exact ⟨_, cache, entry_hit sec env _ hwf j _ hj fuel pos cache hinv e hk, hinv⟩
  | none => exact ⟨_, _, cie_miss sec env hwf junk hsz j c hj fuel pos cache hk, hinv.cons j (.cie c) hj (by simp)⟩

end PyElf.Proofs.Cfi
