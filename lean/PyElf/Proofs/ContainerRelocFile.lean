/-
  C11 on whole files, with relocations: the description-level forms of `RelocStored` / `Relocates` / `HoldsR`
  (`RelocStoredD`, `RelocatesD`, `HoldsRD`) and their transport — through what C01 knows of a byte string that
  carries the description — to the section-table forms of Proofs/ContainerReloc.lean (`relocStored_of_desc`,
  `holdsR_of_desc`, `relocEnv_of_desc`).  `liftContent` reads a content without relocations as a `ContentR`.
-/
import PyElf.Proofs.ContainerReloc
import PyElf.Proofs.ContainerFile
namespace PyElf.Proofs.C11
open PyElf PyElf.Spec PyElf.Model PyElf.Model.C11 PyElf.Spec.C11 PyElf.Proofs PyElf.Proofs.Reloc
open PyElf.Proofs.C15 (fileOf)

def RelocStoredD (deflate : Nat → Bytes → Bytes) (d : ElfDesc) (obs : ElfObs) (rsec : Sec) (r : RelocDesc) : Prop :=
  ∃ (j k : Nat) (rsd ssd : SecDesc) (ssec : Sec) (raddr base saddr symoff : Nat),
    obs.sections[j]? = some rsec ∧ d.sections[j]? = some rsd ∧
    rsec.hdr.getField "sh_type" = .ok (.str (if r.rela then "SHT_RELA" else "SHT_REL")) ∧
    rsec.hdr.getNat "sh_link" = .ok k ∧
    StoresD deflate d rsd rsec.hdr .plain (encRelTable (relCfgOf d.cfg) r.rela r.es) raddr base ∧
    obs.sections[k]? = some ssec ∧ d.sections[k]? = some ssd ∧ ssec.kind = "SymbolTableSection" ∧
    ssec.hdr.getNat "sh_entsize" = .ok (symEntSize d.cls) ∧ (∀ s ∈ r.syms, s < 2 ^ d.cls) ∧
    StoresD deflate d ssd ssec.hdr .plain (encSymTable d.le d.cls r.syms) saddr symoff

def RelocatesD (deflate : Nat → Bytes → Bytes) (d : ElfDesc) (obs : ElfObs) (a : Arch) (sec : Sec) (payload : Bytes) :
    Option RelocDesc → Prop
  | none => findRelocations obs.sections sec.name = none
  | some r => ∃ rsec, findRelocations obs.sections sec.name = some rsec ∧ RelocStoredD deflate d obs rsec r ∧
      WFApply a (relCfgOf d.cfg) r.rela r.syms payload.length r.es = true ∧
      (applyStd a (relCfgOf d.cfg) r.rela r.syms payload r.es).isSome = true

def HoldsRD (names : List (String × Bytes × Bool)) (deflate : Nat → Bytes → Bytes) (d : ElfDesc) (obs : ElfObs)
    (relocate : Bool) (a : Arch) (cr : ContentR) (allowed : Enc → Prop) : Prop :=
  ∀ kn ∈ names,
    match cr kn.1 with
    | none => d.indexOfName (secNameOf (zfileD d) kn) = none
    | some (payload, addr, orel) =>
      ∃ (i : Nat) (sd : SecDesc) (sec : Sec) (e : Enc) (off : Nat), d.indexOfName (secNameOf (zfileD d) kn) = some i ∧
        d.sections[i]? = some sd ∧ obs.sections[i]? = some sec ∧
        StoresD deflate d sd sec.hdr e payload addr off ∧
        e.legacy = legacyOf (zfileD d) kn ∧ allowed e ∧
        (relocate = false ∨ RelocatesD deflate d obs a sec payload orel)

theorem holdsRD_cons {kn0 : String × Bytes × Bool} {rest : List (String × Bytes × Bool)} {deflate : Nat → Bytes → Bytes}
    {d : ElfDesc} {obs : ElfObs} {relocate : Bool} {a : Arch} {cr : ContentR} {allowed : Enc → Prop}
    (h0 : HoldsRD [kn0] deflate d obs relocate a cr allowed)
    (hcont : rest.all (fun kn => (cr kn.1).isNone) = true)
    (hnames : rest.all (fun kn => (d.indexOfName (secNameOf (zfileD d) kn)).isNone) = true) :
    HoldsRD (kn0 :: rest) deflate d obs relocate a cr allowed := by
  intro kn hk
  rcases List.mem_cons.1 hk with rfl | hk
  · exact h0 kn (List.mem_singleton.2 rfl)
  · rw [Option.isNone_iff_eq_none.1 (List.all_eq_true.1 hcont kn hk)]
    exact Option.isNone_iff_eq_none.1 (List.all_eq_true.1 hnames kn hk)

def liftContent (content : Content) : ContentR := fun k => (content k).map fun pa => (pa.1, pa.2, none)

section opened
variable {P : Params} {deflate : Nat → Bytes → Bytes} {d : ElfDesc} {bytes : Bytes} {obs : ElfObs} {st : Option Val}

theorem relocStored_of_desc (X : Setup P.env d bytes obs.header st) (ho : d.observe P.env = .ok obs)
    {rsec : Sec} {r : RelocDesc} (h : RelocStoredD deflate d obs rsec r) :
    RelocStored P deflate (fileOf d bytes obs.header st) (relCfgOf d.cfg) rsec r := by
  -- sections `j` (the relocation table) and `k` (the symbol table it links to) of the description are what the reader
  -- reports at those indices: each `StoresD` becomes a `Stores`, and `get_section(k)` is the observed symbol table
  obtain ⟨j, k, rsd, ssd, ssec, raddr, base, saddr, symoff, hj, hjd, hty, hlink, hrs, hk, hkd, hkind, hent, hsyms, hss⟩ := h
  obtain ⟨hklt, -⟩ := List.getElem?_eq_some_iff.1 hkd
  obtain ⟨hk', hks⟩ := List.getElem?_eq_some_iff.1 hk
  have hget : getSection P.env d.S bytes obs.header st k = .ok ssec := hks ▸ getSection_obs X ho hklt hk'
  exact ⟨ssec, k, raddr, base, hty, hlink, stores_of_desc X ho hjd hj hrs, hget, hkind,
    symValues_of_stored (deflate := deflate) (cfg := d.cfg) X.cls rfl hsyms hent (saddr := saddr) (symoff := symoff)
      (stores_of_desc X ho hkd hk hss)⟩

theorem holdsR_of_desc (X : Setup P.env d bytes obs.header st) (ho : d.observe P.env = .ok obs)
    {relocate : Bool} {a : Arch} {cr : ContentR} {allowed : Enc → Prop}
    (hh : HoldsRD P.names deflate d obs relocate a cr allowed) :
    HoldsR P deflate (fileOf d bytes obs.header st) obs.sections relocate d.cfg a cr allowed := by
  intro kn hk
  have hz : hasSection obs.sections nZdebugInfo = zfileD d := hasSection_obs ho _
  have := hh kn hk
  rw [hz]
  cases hc : cr kn.1 with
  | none =>
    simp only [hc] at this ⊢
    rw [getSectionByName_obs ho, this]
  | some x =>
    obtain ⟨payload, addr, orel⟩ := x
    simp only [hc] at this ⊢
    obtain ⟨i, sd, sec, e, off, hidx, hsd, hsec, hst, hleg, hal, hrel⟩ := this
    refine ⟨sec, e, off, ?_, stores_of_desc X ho hsd hsec hst, hleg, hal, ?_⟩
    · rw [getSectionByName_obs ho, hidx]
      exact hsec
    · rcases hrel with h | h
      · exact Or.inl h
      · refine Or.inr ?_
        cases orel with
        | none => exact h
        | some r =>
          obtain ⟨rsec, hfind, hrs, hwf, hsome⟩ := h
          exact ⟨rsec, hfind, relocStored_of_desc X ho hrs, hwf, hsome⟩

theorem relocEnv_of_desc (X : Setup P.env d bytes obs.header st) (a : Arch)
    (hmips : decide (d.mclass = "EM_MIPS") = decide (a = .mips)) (m : Val)
    (hm : obs.header.getField "e_machine" = .ok m) (harch : P.machineArchOf m = archString a) :
    RelocEnv P (fileOf d bytes obs.header st) d.cfg a :=
  { hcls := X.cls, hS := rfl, hfcls := rfl, hfle := rfl, hmips := hmips, harch := ⟨m, hm, harch⟩ }

end opened

end PyElf.Proofs.C11
