/-
  A description and a byte string: what `observe` returns, unpacked; the regions a description occupies and what
  `Layout d bytes` says of each (`LayoutFacts`: every header's encoding and every described body sits at its
  offset), so that a fixed-shape struct parsed there is the decoding of the raw values (`structParseAt_layout`);
  and the assembler: laying disjoint regions out gives a layout.  Between them: a description whose `cfgOk` holds
  has a decodable file header, and every machine has a class (`machine_factor_aux`).
-/
import PyElf.Model.ElfFile
import PyElf.Spec.ElfImage
import PyElf.Proofs.Fixed
import PyElf.Proofs.Utils
namespace PyElf.Proofs
open PyElf PyElf.Spec PyElf.Model PyElf.Proofs.Engine

/-- `obsSec` and `obsSeg` are the two `fun`s under the `mapM`s of `ElfDesc.observe` (`observe_inv`) -/
def obsSec (env : Env) (d : ElfDesc) (s : SecDesc) : R (String × Bytes × Val) := do
  let h ← d.S.Elf_Shdr.decodeRaw env [] s.raw
  return (kindOf (← h.getField "sh_type") s.name, s.name, h)

def obsSeg (env : Env) (d : ElfDesc) (p : Fields) : R (String × Val) := do
  let h ← d.S.Elf_Phdr.decodeRaw env [] (.record p)
  return (segKindOf (← h.getField "p_type"), h)

theorem observe_inv {env : Env} {d : ElfDesc} {obs : ElfObs} (ho : d.observe env = .ok obs) :
    d.S.Elf_Ehdr.decodeRaw env [] d.ehdrRaw = .ok obs.header ∧
    d.sections.mapM (obsSec env d) = .ok obs.sections ∧
    d.segments.mapM (obsSeg env d) = .ok obs.segments := by
  unfold ElfDesc.observe at ho
  change (do
    let header ← d.S.Elf_Ehdr.decodeRaw env [] d.ehdrRaw
    let sections ← d.sections.mapM (obsSec env d)
    let segments ← d.segments.mapM (obsSeg env d)
    (pure ⟨header, sections, segments⟩ : R ElfObs)) = .ok obs at ho
  obtain ⟨hd, h1, ho⟩ := ElfErrors.bind_ok.1 ho
  obtain ⟨ss, h2, ho⟩ := ElfErrors.bind_ok.1 ho
  obtain ⟨gs, h3, ho⟩ := ElfErrors.bind_ok.1 ho
  cases ho
  exact ⟨h1, h2, h3⟩

theorem obsSec_eq {env : Env} {d : ElfDesc} {s : SecDesc} {r : String × Bytes × Val} (h : obsSec env d s = .ok r) :
    ∃ hd ty, d.S.Elf_Shdr.decodeRaw env [] s.raw = .ok hd ∧ hd.getField "sh_type" = .ok ty ∧
      r = (kindOf ty s.name, s.name, hd) := by
  unfold obsSec at h
  obtain ⟨hd, h1, h⟩ := ElfErrors.bind_ok.1 h
  obtain ⟨ty, h2, h⟩ := ElfErrors.bind_ok.1 h
  cases h
  exact ⟨hd, ty, h1, h2, rfl⟩

theorem obsSeg_eq {env : Env} {d : ElfDesc} {p : Fields} {r : String × Val} (h : obsSeg env d p = .ok r) :
    ∃ ph ty, d.S.Elf_Phdr.decodeRaw env [] (.record p) = .ok ph ∧ ph.getField "p_type" = .ok ty ∧
      r = (segKindOf ty, ph) := by
  unfold obsSeg at h
  obtain ⟨ph, h1, h⟩ := ElfErrors.bind_ok.1 h
  obtain ⟨ty, h2, h⟩ := ElfErrors.bind_ok.1 h
  cases h
  exact ⟨ph, ty, h1, h2, rfl⟩

theorem observe_lengths {env : Env} {d : ElfDesc} {obs : ElfObs} (ho : d.observe env = .ok obs) :
    obs.sections.length = d.sections.length ∧ obs.segments.length = d.segments.length :=
  ⟨(mapM_ok_inv _ _ _ (observe_inv ho).2.1).1, (mapM_ok_inv _ _ _ (observe_inv ho).2.2).1⟩

theorem observe_names {env : Env} {d : ElfDesc} {obs : ElfObs} (ho : d.observe env = .ok obs) :
    obs.sections.map (·.2.1) = d.sections.map (·.name) := by
  obtain ⟨-, h2, -⟩ := observe_inv ho
  obtain ⟨hl, hi⟩ := mapM_ok_inv _ _ _ h2
  apply List.ext_getElem
  · simp [hl]
  · intro i h1 h2'
    simp only [List.getElem_map]
    obtain ⟨_, _, -, -, hr⟩ := obsSec_eq (hi i (by simpa using h2') (by simpa using h1))
    rw [hr]

theorem observe_ok {env : Env} {d : ElfDesc} (hh : ∃ h, d.S.Elf_Ehdr.decodeRaw env [] d.ehdrRaw = .ok h)
    (hs : ∀ s ∈ d.sections, ∃ h t, d.S.Elf_Shdr.decodeRaw env [] s.raw = .ok h ∧ h.getField "sh_type" = .ok t)
    (hp : ∀ p ∈ d.segments, ∃ h t, d.S.Elf_Phdr.decodeRaw env [] (.record p) = .ok h ∧ h.getField "p_type" = .ok t) :
    ∃ obs, d.observe env = .ok obs := by
  obtain ⟨h, hh⟩ := hh
  obtain ⟨ss, hss⟩ := mapM_ok_exists (obsSec env d) d.sections (fun s hm => by
    obtain ⟨h, t, h1, h2⟩ := hs s hm
    exact ⟨_, by simp only [obsSec, h1, h2, bind, Except.bind]; rfl⟩)
  obtain ⟨gs, hgs⟩ := mapM_ok_exists (obsSeg env d) d.segments (fun p hm => by
    obtain ⟨h, t, h1, h2⟩ := hp p hm
    exact ⟨_, by simp only [obsSeg, h1, h2, bind, Except.bind]; rfl⟩)
  refine ⟨⟨h, ss, gs⟩, ?_⟩
  unfold ElfDesc.observe
  change (do
    let header ← d.S.Elf_Ehdr.decodeRaw env [] d.ehdrRaw
    let sections ← d.sections.mapM (obsSec env d)
    let segments ← d.segments.mapM (obsSeg env d)
    (pure ⟨header, sections, segments⟩ : R ElfObs)) = .ok _
  simp only [hh, hss, hgs, bind, Except.bind, pure, Except.pure]

theorem ehdr_decodes_of_cfgOk {env : Env} {d : ElfDesc} (h : d.cfgOk env = true) :
    ∃ hdr, d.S.Elf_Ehdr.decodeRaw env [] d.ehdrRaw = .ok hdr := by
  unfold ElfDesc.cfgOk at h
  cases hd : d.S.Elf_Ehdr.decodeRaw env [] d.ehdrRaw with
  | ok hdr => exact ⟨hdr, rfl⟩
  | error e => simp [hd] at h

theorem machine_factor_aux (m : String) :
    ((machineClass.find? (·.1 == m)).map (·.2)).getD "default" ∈ machineClasses := by
  cases h : machineClass.find? (·.1 == m) with
  | none => simp [machineClasses]
  | some p => exact (by decide : ∀ p ∈ machineClass, p.2 ∈ machineClasses) p (List.mem_of_find?_eq_some h)

theorem mem_indexed_regs (off sz : Nat) (bs : List Bytes) (i : Nat) (hi : i < bs.length) :
    (off + i * sz, bs[i]) ∈ ((List.range bs.length).zip bs).map (fun (p : Nat × Bytes) => (off + p.1 * sz, p.2)) := by
  rw [List.mem_map]
  refine ⟨(i, bs[i]), ?_, rfl⟩
  rw [List.mem_iff_getElem]
  refine ⟨i, by simpa using hi, ?_⟩
  simp

structure LayoutFacts (d : ElfDesc) (bytes : Bytes) : Prop where
  ehdr : ∃ eh, d.S.Elf_Ehdr.encodeRaw d.ehdrRaw = some eh ∧ readN bytes 0 eh.length = eh
  shdr : ∀ i (hi : i < d.sections.length), ∃ b, d.S.Elf_Shdr.encodeRaw (d.sections[i]).raw = some b ∧
           readN bytes (d.shoff + i * d.shentsize) b.length = b
  phdr : ∀ i (hi : i < d.segments.length), ∃ b, d.S.Elf_Phdr.encodeRaw (.record d.segments[i]) = some b ∧
           readN bytes (d.phoff + i * d.phentsize) b.length = b
  body : ∀ s ∈ d.sections, ∀ b, s.body = some b → readN bytes (getNatD s.hdr "sh_offset") b.length = b

theorem layout_facts {d : ElfDesc} {bytes : Bytes} (hl : Layout d bytes) : LayoutFacts d bytes := by
  -- `regions` succeeded, so all three encodings exist; each fact is then `hall` at the region's place in the list
  -- `regions` builds (file header, section headers, program headers, non-empty bodies)
  obtain ⟨rs, hrs, hall⟩ := hl
  unfold ElfDesc.regions at hrs
  cases h1 : d.S.Elf_Ehdr.encodeRaw d.ehdrRaw with
  | none => simp [h1] at hrs
  | some eh =>
    cases h2 : d.sections.mapM (fun s => d.S.Elf_Shdr.encodeRaw s.raw) with
    | none => simp [h1, h2] at hrs
    | some shs =>
      cases h3 : d.segments.mapM (fun p => d.S.Elf_Phdr.encodeRaw (.record p)) with
      | none => simp [h1, h2, h3] at hrs
      | some phs =>
        simp only [h1, h2, h3, Option.bind_eq_bind, Option.bind_some, Option.pure_def, Option.some.injEq] at hrs
        obtain ⟨hl2, hi2⟩ := mapM_some_inv _ _ _ h2
        obtain ⟨hl3, hi3⟩ := mapM_some_inv _ _ _ h3
        subst hrs
        refine ⟨⟨eh, h1, hall (0, eh) (by simp)⟩, ?_, ?_, ?_⟩
        · intro i hi
          have hi' : i < shs.length := by omega
          refine ⟨shs[i], hi2 i hi hi', ?_⟩
          have hm := mem_indexed_regs d.shoff d.shentsize shs i hi'
          exact hall _ (by
            simp only [List.cons_append, List.mem_cons, List.mem_append]
            right; left; left; exact hm)
        · intro i hi
          have hi' : i < phs.length := by omega
          refine ⟨phs[i], hi3 i hi hi', ?_⟩
          have hm := mem_indexed_regs d.phoff d.phentsize phs i hi'
          exact hall _ (by
            simp only [List.cons_append, List.mem_cons, List.mem_append]
            right; left; right; exact hm)
        · intro s hs b hb
          by_cases hbe : b = []
          · subst hbe; simp [readN]
          · exact hall (getNatD s.hdr "sh_offset", b) (by
              simp only [List.cons_append, List.mem_cons, List.mem_append]
              right; right
              rw [List.mem_filter]
              refine ⟨?_, by simpa using hbe⟩
              rw [List.mem_filterMap]
              exact ⟨s, hs, by simp [hb]⟩)

theorem bodyOf_some {s : SecDesc} {b : Bytes} (hb : s.body = some b) : bodyOf s = b := by
  simp [bodyOf, hb]

theorem body_read {d : ElfDesc} {bytes : Bytes} (hL : LayoutFacts d bytes) {s : SecDesc} (hs : s ∈ d.sections) :
    readN bytes (getNatD s.hdr "sh_offset") (bodyOf s).length = bodyOf s := by
  unfold bodyOf
  cases hb : s.body with
  | none => simp [readN]
  | some b => exact hL.body s hs b hb

theorem body_read_drop {d : ElfDesc} {bytes : Bytes} (hL : LayoutFacts d bytes) {s : SecDesc} (hs : s ∈ d.sections) :
    bytes.drop (getNatD s.hdr "sh_offset")
      = bodyOf s ++ bytes.drop (getNatD s.hdr "sh_offset" + (bodyOf s).length) :=
  drop_of_readN (body_read hL hs)

theorem structParse_layout (env : Env) (c : Con) (hc : c.fixed = true) (raw : Val) (bs : Bytes)
    (he : c.encodeRaw raw = some bs) (data : Bytes) (pos : Nat)
    (hr : readN data pos bs.length = bs) :
    structParse env c data pos = (c.decodeRaw env [] raw).map (fun v => (v, pos + bs.length)) := by
  unfold structParse
  rw [rt_con env c hc raw bs he data pos _ [] (drop_of_readN hr)]
  cases c.decodeRaw env [] raw <;> rfl

theorem structParseAt_layout (env : Env) (c : Con) (hc : c.fixed = true) (raw : Val) (bs : Bytes)
    (he : c.encodeRaw raw = some bs) (data : Bytes) (pos : Nat)
    (hr : readN data pos bs.length = bs) (hpos : pos < 2 ^ 63) :
    structParseAt env c data pos = (c.decodeRaw env [] raw).map (fun v => (v, pos + bs.length)) := by
  rw [structParseAt_eq (by omega)]
  rw [← structParse_layout env c hc raw bs he data pos hr]

theorem layOut_prefix : ∀ (rs : List (Nat × Bytes)) (acc : Bytes), ∃ ext, layOut rs acc = acc ++ ext := by
  intro rs
  induction rs with
  | nil => intro acc; exact ⟨[], by simp [layOut]⟩
  | cons r rs ih =>
    intro acc
    obtain ⟨off, b⟩ := r
    obtain ⟨ext, he⟩ := ih (acc ++ List.replicate (off - acc.length) 0 ++ b)
    exact ⟨List.replicate (off - acc.length) 0 ++ b ++ ext, by rw [layOut, he]; simp⟩

theorem regionsDisjoint_cons {r : Nat × Bytes} {rs : List (Nat × Bytes)} (h : regionsDisjoint (r :: rs) = true) :
    regionsDisjoint rs = true ∧ ∀ r1 ∈ rs.head?, r.1 + r.2.length ≤ r1.1 := by
  obtain ⟨o, b⟩ := r
  cases rs with
  | nil => exact ⟨rfl, by simp⟩
  | cons r1 rs' =>
    obtain ⟨o1, b1⟩ := r1
    simp only [regionsDisjoint, Bool.and_eq_true, decide_eq_true_eq] at h
    exact ⟨h.2, by simpa using h.1⟩

theorem layOut_reads : ∀ (rs : List (Nat × Bytes)) (acc : Bytes), regionsDisjoint rs = true →
    (∀ r ∈ rs.head?, acc.length ≤ r.1) →
    ∀ r ∈ rs, readN (layOut rs acc) r.1 r.2.length = r.2 := by
  -- by induction, the image so far (`acc`) ending at or before the first region: the head region is read through
  -- `layOut_prefix` (what follows it is appended), the others by the induction hypothesis
  intro rs
  induction rs with
  | nil => intro acc _ _ r hr; simp at hr
  | cons r0 rs ih =>
    intro acc hd hacc r hr
    obtain ⟨off, b⟩ := r0
    have hle : acc.length ≤ off := hacc (off, b) (by simp)
    have hlen : (acc ++ List.replicate (off - acc.length) 0 ++ b).length = off + b.length := by
      simp; omega
    rw [layOut]
    rcases List.mem_cons.1 hr with rfl | hr'
    · obtain ⟨ext, he⟩ := layOut_prefix rs (acc ++ List.replicate (off - acc.length) 0 ++ b)
      rw [he, readN_append_left (by rw [hlen]; simp)]
      unfold readN
      have : (acc ++ List.replicate (off - acc.length) 0).length = off := by simp; omega
      rw [List.drop_left' this]
      simp
    · obtain ⟨hd', hnext⟩ := regionsDisjoint_cons hd
      exact ih _ hd' (fun r1 hr1 => by rw [hlen]; exact hnext r1 hr1) r hr'

theorem layOut_length_le (B : Nat) : ∀ (rs : List (Nat × Bytes)) (acc : Bytes), regionsDisjoint rs = true →
    (∀ r ∈ rs.head?, acc.length ≤ r.1) → acc.length ≤ B → (∀ r ∈ rs, r.1 + r.2.length ≤ B) →
    (layOut rs acc).length ≤ B := by
  intro rs
  induction rs with
  | nil => intro acc _ _ h _; simpa [layOut] using h
  | cons r0 rs ih =>
    intro acc hd hacc hB hall
    obtain ⟨off, b⟩ := r0
    have hle : acc.length ≤ off := hacc (off, b) (by simp)
    have hlen : (acc ++ List.replicate (off - acc.length) 0 ++ b).length = off + b.length := by
      simp; omega
    rw [layOut]
    obtain ⟨hd', hnext⟩ := regionsDisjoint_cons hd
    exact ih _ hd' (fun r1 hr1 => by rw [hlen]; exact hnext r1 hr1) (by rw [hlen]; exact hall (off, b) List.mem_cons_self)
      (fun r hr => hall r (List.mem_cons_of_mem _ hr))

theorem assemble_length_le {d : ElfDesc} {rs : List (Nat × Bytes)} {tail B : Nat} {bytes : Bytes}
    (hrs : d.regions = some rs) (hdisj : regionsDisjoint (sortRegions rs) = true)
    (hall : ∀ r ∈ rs, r.1 + r.2.length ≤ B) (h : d.assemble tail = some bytes) : bytes.length ≤ B + tail := by
  unfold ElfDesc.assemble at h
  simp only [hrs, Option.bind_eq_bind, Option.bind_some, Option.pure_def, Option.some.injEq] at h
  subst h
  have := layOut_length_le B (sortRegions rs) [] hdisj (fun _ _ => Nat.zero_le _) (Nat.zero_le _)
    (fun r hr => hall r ((List.mergeSort_perm rs _).mem_iff.1 hr))
  simp only [List.length_append, List.length_replicate]
  omega

theorem layout_of_disjoint {d : ElfDesc} {rs : List (Nat × Bytes)} {tail : Nat} {bytes : Bytes}
    (hrs : d.regions = some rs) (hdisj : regionsDisjoint (sortRegions rs) = true)
    (h : d.assemble tail = some bytes) : Layout d bytes := by
  unfold ElfDesc.assemble at h
  simp only [hrs, Option.bind_eq_bind, Option.bind_some, Option.pure_def, Option.some.injEq] at h
  subst h
  refine ⟨rs, hrs, ?_⟩
  intro r hr
  have hmem : r ∈ sortRegions rs := by
    unfold sortRegions
    exact (List.mergeSort_perm rs _).mem_iff.2 hr
  apply readN_append_right_pad
  exact layOut_reads (sortRegions rs) [] hdisj (fun _ _ => Nat.zero_le _) r hmem

end PyElf.Proofs
