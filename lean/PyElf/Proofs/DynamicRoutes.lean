/-
  The `DynamicSegment` of either layout of a `DynDesc`, without assuming how the string table is reached (`SegBase`,
  built by `segBase_of`), and the string table by each route `_get_stringtable` can take: the section link, DT_STRTAB
  through the PT_LOADs, the section named `.dynstr`, or nothing.  Props/C01.lean is imported for the struct factory the
  C09 statements open files with (`SegBase.opened` names it).
-/
import PyElf.Proofs.DynamicSym
import PyElf.Props.C01
namespace PyElf.Proofs.Dynamic
open PyElf PyElf.Spec PyElf.Spec.Dynamic PyElf.Model PyElf.Model.Dynamic PyElf.Proofs
open PyElf.Proofs.C15 (fileOf)

theorem nm_null_ne : (([] : Bytes) == nm ".dynstr") = false := by decide +kernel
theorem nm_decoy_ne : (nm ".decoy" == nm ".dynstr") = false := by decide +kernel
theorem nm_dynsym_ne : (nm ".dynsym" == nm ".dynstr") = false := by decide +kernel
theorem nm_dynamic_ne : (nm ".dynamic" == nm ".dynstr") = false := by decide +kernel
theorem nm_shstrtab_ne : (nm ".shstrtab" == nm ".dynstr") = false := by decide +kernel
theorem nm_dynstr_model : ".dynstr".toUTF8.toList = nm ".dynstr" := rfl

theorem idxs_append (name : Bytes) : ∀ (a b : List Bytes) (i : Nat),
    idxs name (a ++ b) i = idxs name a i ++ idxs name b (i + a.length) := by
  intro a
  induction a with
  | nil => intro b i; simp [idxs]
  | cons x a ih =>
    intro b i
    simp only [List.cons_append, idxs, ih, List.length_cons]
    have e : i + 1 + a.length = i + (a.length + 1) := by omega
    split <;> simp [e]

theorem idxs_replicate_ne {name x : Bytes} (h : (x == name) = false) : ∀ (k i : Nat),
    idxs name (List.replicate k x) i = [] := by
  intro k
  induction k with
  | zero => intro i; rfl
  | succ k ih => intro i; simp [List.replicate_succ, idxs, h, ih]

theorem indexOfName_dynstr (d : DynDesc) : (d.container true).indexOfName (nm ".dynstr") = some (d.decoys + 1) := by
  unfold ElfDesc.indexOfName
  rw [List.range_eq_range', idxs_eq_filter (fun s : SecDesc => s.name)]
  have hn : (d.container true).sections.map (fun s : SecDesc => s.name)
      = [] :: (List.replicate d.decoys (nm ".decoy") ++ [nm ".dynstr", nm ".dynsym", nm ".dynamic", nm ".shstrtab"]) := by
    simp [DynDesc.container, DynDesc.sections, secNull, secDecoy, DynDesc.secDynstr, DynDesc.secDynsym,
      DynDesc.secDynamic, DynDesc.secShstrtab]
  rw [hn]
  simp only [idxs, nm_null_ne, Bool.false_eq_true, if_false, idxs_append, idxs_replicate_ne nm_decoy_ne,
    List.nil_append, beq_self_eq_true, if_true, nm_dynsym_ne, nm_dynamic_ne, nm_shstrtab_ne, List.length_replicate]
  simp
  omega

theorem indexOfName_stripped (d : DynDesc) (name : Bytes) : (d.container false).indexOfName name = none := by
  simp [ElfDesc.indexOfName, DynDesc.container]

theorem sectionByName_eq {env : Env} {e : ElfDesc} {bytes : Bytes} {hdr : Val} {st : Option Val} {obs : ElfObs}
    (X : Setup env e bytes hdr st) (ho : e.observe env = .ok obs) (name : Bytes) :
    (realIfc env (fileOf e bytes hdr st)).sectionByName name =
      match e.indexOfName name with
      | none => .ok none
      | some i => (getSection env e.S bytes hdr st i).map fun r => some (r.1, r.2.2) := by
  have hb := X.byName ho name fun i => do
    let r ← getSection env e.S bytes hdr st i
    return (r.1, r.2.2)
  simp only [bind_assoc, pure_bind] at hb
  refine (Eq.trans ?_ hb).trans ?_
  · refine bind_congr fun secs => ?_
    cases List.find? (fun (p : Bytes × Nat) => p.1 == name) (sectionNameMap secs) <;> rfl
  · cases e.indexOfName name with
    | none => rfl
    | some i => dsimp only; cases getSection env e.S bytes hdr st i <;> rfl

structure SegBase (env : Env) (d : DynDesc) (full : Bool) (bytes : Bytes) (f : ElfFile) (dy : Dyn) : Prop where
  opened : openElf env Props.C01.specStructs Props.C01.specMachineClass bytes = .ok f
  S : f.S = d.S
  le : f.le = d.le
  data : f.data = bytes
  seg : dynamicSegment env f = .ok (some dy)
  view : TableView f.S f.data dy d.le d.w (dTagTable d.mclass d.solaris) d.tags
  segs : SegsView (realIfc env f) (d.phdrs env)
  iterSegs : ∃ gs, iterSegments env f.S f.data f.header f.shstr = .ok gs ∧ gs.map (·.2) = d.phdrs env
  blobs : ∃ b, BlobFacts d full b ∧ ∀ r ∈ b, ∃ rest, f.data.drop r.1 = r.2 ++ rest
  small : f.data.length < 2 ^ 63
  offset : dy.offset = d.dynOff
  /-- the constructor's section search: `.dynamic` at the segment's offset → its `sh_link` -/
  strLink : full = true → d.secDynOff = none →
    ∃ hstr, hstr.getNat "sh_offset" = .ok d.strOff ∧ dy.strtab = some (.section "StringTableSection" hstr)
  strNone : (full = false ∨ d.secDynOff.isSome = true) → dy.strtab = none
  /-- `get_section_by_name('.dynstr')` -/
  dynstrFull : full = true →
    ∃ hstr, hstr.getNat "sh_offset" = .ok d.strOff ∧
      (realIfc env f).sectionByName (nm ".dynstr") = .ok (some ("StringTableSection", hstr))
  dynstrNone : full = false → (realIfc env f).sectionByName (nm ".dynstr") = .ok none

/-- the `DynamicSegment` of an image together with its string table -/
structure SegSide (env : Env) (d : DynDesc) (full : Bool) (bytes : Bytes) (f : ElfFile) (dy : Dyn) (tab : StrTab) : Prop where
  opened : openElf env Props.C01.specStructs Props.C01.specMachineClass bytes = .ok f
  S : f.S = d.S
  le : f.le = d.le
  data : f.data = bytes
  seg : dynamicSegment env f = .ok (some dy)
  view : TableView f.S f.data dy d.le d.w (dTagTable d.mclass d.solaris) d.tags
  segs : SegsView (realIfc env f) (d.phdrs env)
  strtab : getStringtable env f.S f.data (realIfc env f) dy = .ok (some tab)
  serves : Serves f.data tab d.strtab
  iterSegs : ∃ gs, iterSegments env f.S f.data f.header f.shstr = .ok gs
  blobs : ∃ b, BlobFacts d full b ∧ ∀ r ∈ b, ∃ rest, f.data.drop r.1 = r.2 ++ rest

theorem SegBase.view' {env : Env} {d : DynDesc} {full : Bool} {bytes : Bytes} {f : ElfFile} {dy : Dyn}
    (X : SegBase env d full bytes f dy) :
    TableView d.S f.data dy d.le d.w (dTagTable d.mclass d.solaris) d.tags := X.S ▸ X.view

theorem iterSegments_phdrs {env : Env} {d : DynDesc} {full : Bool} {bytes : Bytes} {hdr : Val} {st : Option Val}
    {obs : ElfObs} (X : Setup env (d.container full) bytes hdr st) (ho : (d.container full).observe env = .ok obs)
    (hlen : (d.phdrs env).length = d.segments.length) :
    iterSegments env d.S bytes hdr st = .ok obs.segments ∧ obs.segments.map (·.2) = d.phdrs env := by
  have hl : obs.segments.length = d.segments.length := (observe_lengths ho).2
  refine ⟨X.iterSegments ho, List.ext_getElem (by simp [hl, hlen]) fun i h1 h2 => ?_⟩
  have hi : i < d.segments.length := by simpa [hl] using h1
  obtain ⟨ph, V, hobs⟩ := X.segAt_obs ho (j := i) (List.getElem?_eq_getElem hi)
  rw [List.getElem?_eq_getElem (by omega)] at hobs
  simp only [List.getElem_map, Option.some.inj hobs]
  exact Except.ok.inj (V.dec.symm.trans (phdrs_get hlen i hi h2))

/-- Opening either layout: C01 gives the file object (`opened`) and what it hands out (`segsView_of`, `iterSegments_phdrs`,
    `sectionByName_eq`); the first PT_DYNAMIC segment is the described one (`dynamicSegment_of`) and looks at the stored
    table (`tableView_of`).  What differs by layout is only the string side: whether the constructor's section search
    finds `.dynamic` at the segment's offset (full layout without a copy elsewhere), and whether `.dynstr` exists. -/
theorem segBase_of {env : Env} (T : ShTypes env) {d : DynDesc} {full : Bool} {bytes : Bytes}
    (hc : (d.container full).wf env = true) (hb : d.wfBase env = true)
    (hl : DynLayout d full bytes) (hsmall : bytes.length < 2 ^ 63) :
    ∃ f dy, SegBase env d full bytes f dy := by
  have W := base_wf hb
  have hsd := segs_decode (full := full) W.phlen
  obtain ⟨hdr, sh, b, X, hd, hopen, B, hplaced⟩ := image_opened hc hl
  obtain ⟨obs, ho⟩ := X.observe_ok hd hsd
  rw [← Props.C01.specStructs_eq, ← Props.C01.specMachineClass_eq] at hopen
  obtain ⟨tb, htb, hmem, -⟩ := B.tags
  obtain ⟨rest, hrest⟩ := hplaced _ hmem
  have hbyname := sectionByName_eq X ho (nm ".dynstr")
  -- everything but the string side, for whatever the section search returns
  have base : ∀ st, dynOfSegment.find env (fileOf (d.container full) bytes hdr sh) d.dynOff
        (List.range (d.container full).sections.length) = .ok st →
      ∀ sl sn df dn, SegBase env d full bytes (fileOf (d.container full) bytes hdr sh) ⟨st, d.dynOff, false, 2 * d.w⟩ :=
    fun st hfind sl sn df dn =>
      { opened := hopen, S := rfl, le := rfl, data := rfl
        seg := dynamicSegment_of X W.phlen W.dynSeg st hfind
        view := tableView_of (w_pos hc) hsmall _ rfl rfl tb htb rest hrest
        segs := segsView_of X W.phlen
        iterSegs := ⟨_, iterSegments_phdrs X ho W.phlen⟩
        blobs := ⟨b, B, hplaced⟩
        small := hsmall, offset := rfl
        strLink := sl, strNone := sn, dynstrFull := df, dynstrNone := dn }
  cases full with
  | false =>
    exact ⟨_, _, base none rfl (fun h => by cases h) (fun _ => rfl) (fun h => by cases h)
      (fun _ => by rw [hbyname, indexOfName_stripped])⟩
  | true =>
    have SecV := secView_of T X
    have hdynstr : ∃ hstr, hstr.getNat "sh_offset" = .ok d.strOff ∧
        (realIfc env (fileOf (d.container true) bytes hdr sh)).sectionByName (nm ".dynstr")
          = .ok (some ("StringTableSection", hstr)) := by
      obtain ⟨nm', hstr, hget, hoff⟩ := SecV.dynstr
      refine ⟨hstr, hoff, ?_⟩
      have hget' : getSection env (d.container true).S bytes hdr sh (d.decoys + 1) = _ := hget
      rw [hbyname, indexOfName_dynstr]
      simp only [hget', Except.map]
    cases hsd' : d.secDynOff with
    | none =>
      obtain ⟨hstr, hoff, hfind⟩ := segFind_full_match SecV hsd'
      exact ⟨_, _, base _ hfind (fun _ _ => ⟨hstr, hoff, rfl⟩) (fun h => by
        rcases h with h | h
        · cases h
        · rw [hsd'] at h; cases h) (fun _ => hdynstr) (fun h => by cases h)⟩
    | some o =>
      exact ⟨_, _, base none (segFind_full_nomatch SecV o hsd' (W.copy o hsd'))
        (fun _ h => by rw [hsd'] at h; cases h) (fun _ => rfl) (fun _ => hdynstr) (fun h => by cases h)⟩

section routes
variable {env : Env} {d : DynDesc} {full : Bool} {bytes : Bytes} {f : ElfFile} {dy : Dyn}

theorem strPlaced (X : SegBase env d full bytes f dy) : ∃ srest, f.data.drop d.strOff = d.strtab ++ srest := by
  obtain ⟨b, B, hpl⟩ := X.blobs
  exact hpl _ B.str

theorem SegBase.symsAt (X : SegBase env d full bytes f dy) :
    ∃ sb rest, d.symBytes = some sb ∧ f.data.drop d.symOff = sb ++ rest := by
  obtain ⟨b, B, hpl⟩ := X.blobs
  obtain ⟨sb, hsb, hmem⟩ := B.syms
  obtain ⟨rest, hrest⟩ := hpl _ hmem
  exact ⟨sb, rest, hsb, hrest⟩

theorem SegBase.hashAt (X : SegBase env d full bytes f dy) (hh : d.wfHash env = true) (hok : hashOk d = true) :
    (∃ a o h rest, firstVal d.live DT_GNU_HASH = some a ∧ mapAddr (d.phdrs env) a = some o ∧
        GnuHash.wf h d.syms.length = true ∧ f.data.drop o = h.enc d.le d.w ++ rest) ∨
    (firstVal d.live DT_GNU_HASH = none ∧
      ∃ a o h rest, firstVal d.live DT_HASH = some a ∧ mapAddr (d.phdrs env) a = some o ∧
        SysvHash.wf h d.syms.length = true ∧ f.data.drop o = h.enc d.le ++ rest) := by
  obtain ⟨b, B, hpl⟩ := X.blobs
  simp only [DynDesc.wfHash, Bool.and_eq_true] at hh
  exact hash_wf_of hh.1 hh.2 hok B hpl

theorem getStringtable_byName {S : ElfStructs} {data : Bytes} {ifc : FileIfc} {dn : Dyn} {le : Bool} {w : Nat}
    {tbl : String} {tags : List (Int × Nat)} {hs : List Val}
    (V : TableView S data dn le w tbl tags) (hnull : NullIs env tbl)
    (hterm : hasTerminator tags = true) (SV : SegsView ifc hs)
    (hstrtab : TagIs env tbl "DT_STRTAB" DT_STRTAB) (hnone : dn.strtab = none)
    (hno : (firstVal (liveTags tags) DT_STRTAB).bind (mapAddr hs) = none)
    {r : Option (String × Val)} (hby : ifc.sectionByName (nm ".dynstr") = .ok r) :
    getStringtable env S data ifc dn = .ok (r.map fun p => .section p.1 p.2) := by
  rw [getStringtable_of_offset hnone (getTableOffset_view V hnull hterm SV _ _ hstrtab), hno, nm_dynstr_model, hby]
  rfl

/-- the dynamic table enters only through what `get_table_offset('DT_STRTAB')` answers, and only when the constructor
    was handed no string table: hence the shape of `hoff` -/
theorem strtab_of_route (X : SegBase env d full bytes f dy)
    (hoff : dy.strtab = none →
      ∃ p, getTableOffset env f.S f.data (realIfc env f) dy "DT_STRTAB" = .ok (p, d.strPtrOff env))
    (hok : d.strOk env full = true) :
    ∃ tab, getStringtable env d.S f.data (realIfc env f) dy = .ok (some tab) ∧ Serves f.data tab d.strtab := by
  rw [← X.S]
  obtain ⟨srest, hsr⟩ := strPlaced X
  unfold DynDesc.strOk at hok
  rcases strRoute_cases env d full with ⟨-, hf, hs⟩ | ⟨hno, hroute⟩
  · obtain ⟨hstr, hoff, hstn⟩ := X.strLink hf hs
    exact ⟨_, getStringtable_given hstn, serves_section hoff hsr X.small⟩
  · have hnone := X.strNone hno
    obtain ⟨p, hp⟩ := hoff hnone
    rw [getStringtable_of_offset hnone hp]
    rcases hroute with ⟨o, hr, hpo⟩ | ⟨-, hf, hpo⟩ | ⟨hr, -, -⟩
    · rw [hr, hpo] at hok
      rw [hpo]
      exact ⟨_, rfl, (Option.some.inj (beq_iff_eq.1 hok)) ▸ serves_dynamic hsr X.small⟩
    · obtain ⟨hstr, hoff, hby⟩ := X.dynstrFull hf
      rw [hpo]
      exact ⟨_, by rw [nm_dynstr_model, hby]; rfl, serves_section hoff hsr X.small⟩
    · rw [hr] at hok; cases hok

theorem strOff_live (X : SegBase env d full bytes f dy)
    (hnull : NullIs env (dTagTable d.mclass d.solaris))
    (hst : TagIs env (dTagTable d.mclass d.solaris) "DT_STRTAB" DT_STRTAB)
    (hterm : hasTerminator d.tags = true) :
    ∃ p, getTableOffset env f.S f.data (realIfc env f) dy "DT_STRTAB" = .ok (p, d.strPtrOff env) :=
  ⟨_, getTableOffset_view X.view hnull hterm X.segs _ _ hst⟩

theorem SegBase.strtab (X : SegBase env d full bytes f dy) (hnull : NullIs env (dTagTable d.mclass d.solaris))
    (hst : TagIs env (dTagTable d.mclass d.solaris) "DT_STRTAB" DT_STRTAB) (ht : d.wfTags env full = true) :
    ∃ tab, getStringtable env d.S f.data (realIfc env f) dy = .ok (some tab) ∧ Serves f.data tab d.strtab :=
  strtab_of_route X (fun _ => strOff_live X hnull hst (wfTags_parts ht).1) (wfTags_parts ht).2.2

/-- what the theorems about a terminated table start from: the view, the string table and that it serves the strings
    the entries and the symbols name -/
structure Ready (env : Env) (d : DynDesc) (f : ElfFile) (dy : Dyn) (tab : StrTab) : Prop where
  term : hasTerminator d.tags = true
  view : TableView d.S f.data dy d.le d.w (dTagTable d.mclass d.solaris) d.tags
  strtab : getStringtable env d.S f.data (realIfc env f) dy = .ok (some tab)
  serves : Serves f.data tab d.strtab
  tagStrs : StringsOk d.sunw d.strtab d.live
  symStrs : ∀ s ∈ d.syms, (strAt d.strtab (getNatD s "st_name")).isSome

theorem SegBase.ready (X : SegBase env d full bytes f dy) (hnull : NullIs env (dTagTable d.mclass d.solaris))
    (hst : TagIs env (dTagTable d.mclass d.solaris) "DT_STRTAB" DT_STRTAB) (ht : d.wfTags env full = true) :
    ∃ tab, Ready env d f dy tab := by
  obtain ⟨hterm, hstrs, -⟩ := wfTags_parts ht
  obtain ⟨tab, h1, h2⟩ := X.strtab hnull hst ht
  exact ⟨tab, hterm, X.view', h1, h2, stringsOk_tags hstrs, stringsOk_syms hstrs⟩

theorem strtab_none (X : SegBase env d full bytes f dy)
    (hnull : NullIs env (dTagTable d.mclass d.solaris))
    (hst : TagIs env (dTagTable d.mclass d.solaris) "DT_STRTAB" DT_STRTAB)
    (hterm : hasTerminator d.tags = true) (hr : d.strRoute env full = .none) :
    getStringtable env d.S f.data (realIfc env f) dy = .ok none := by
  rw [← X.S]
  rcases strRoute_cases env d full with ⟨h, -⟩ | ⟨hno, ⟨o, h, -⟩ | ⟨h, -⟩ | ⟨-, hf, hp⟩⟩
  · rw [h] at hr; cases hr
  · rw [h] at hr; cases hr
  · rw [h] at hr; cases hr
  · have := getStringtable_byName X.view hnull hterm X.segs hst (X.strNone hno) hp (X.dynstrNone hf)
    simpa using this

end routes

end PyElf.Proofs.Dynamic
