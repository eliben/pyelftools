/-
  `R α = Except Err α`: a bind whose first step succeeded; `mapM` / `foldlM` over a list whose every element
  succeeds, and the converse (what a successful `mapM` says of each element), the latter also for `Option`; what a
  bind that ended in `.ok` / `.error` says of its first step (`ElfErrors.bind_ok`, `ElfErrors.bind_err`) and `mapM`
  over a range stopping at the first failure.  `ite_par` is about `if` alone.  The file continues three namespaces,
  `PyElf.Proofs.Engine`, `PyElf.Proofs` and `PyElf.Proofs.ElfErrors`, under which its lemmas are cited.
-/
import PyElf.Core.Basic
namespace PyElf.Proofs.Engine
open PyElf

variable {α β : Type}

theorem ok_bind (a : α) (f : α → R β) : (Except.ok a >>= f) = f a := rfl

theorem mapM_ok_of_forall (l : List α) (g : α → R β) (h : α → β) (H : ∀ a ∈ l, g a = .ok (h a)) :
    l.mapM g = .ok (l.map h) := by
  induction l with
  | nil => rfl
  | cons a l ih =>
    rw [List.mapM_cons, H a (by simp), ih (fun x hx => H x (by simp [hx]))]
    rfl

theorem mapM_ok_exists {α β : Type} (f : α → R β) :
    ∀ l : List α, (∀ a ∈ l, ∃ b, f a = .ok b) → ∃ bs, l.mapM f = .ok bs
  | [], _ => ⟨[], rfl⟩
  | a :: l, h => by
    obtain ⟨b, hb⟩ := h a (by simp)
    obtain ⟨bs, hbs⟩ := mapM_ok_exists f l (fun x hx => h x (by simp [hx]))
    exact ⟨b :: bs, by simp [List.mapM_cons, hb, hbs, bind, Except.bind, pure, Except.pure]⟩

theorem _root_.PyElf.Proofs.Dynamic.mapM_fst_ok {α : Type} (f : Nat → R α) : ∀ ps : List (Nat × α), (∀ p ∈ ps, f p.1 = .ok p.2) →
    (ps.map (·.1)).mapM f = .ok (ps.map (·.2)) := by
  intro ps
  induction ps with
  | nil => intro _; rfl
  | cons p ps ih =>
    intro h
    simp only [List.map_cons, List.mapM_cons, h p (by simp), ih (fun x hx => h x (by simp [hx])), bind, Except.bind,
      pure, Except.pure]

theorem foldlM_cons_ok {α β : Type} (g : α → β) : ∀ (l : List α) (acc : List β),
    l.foldlM (fun acc t => (Except.ok (g t :: acc) : R (List β))) acc = .ok ((l.map g).reverse ++ acc) := by
  intro l
  induction l with
  | nil => intro acc; rfl
  | cons a l ih => intro acc; simp [List.foldlM_cons, bind, Except.bind, ih]

end PyElf.Proofs.Engine

namespace PyElf.Proofs
open PyElf

/-- two `if` chains walked in step, each under its own result converter -/
theorem ite_par {α β γ : Type} (f : α → γ) (g : β → γ) {p q : Prop} [Decidable p] [Decidable q] (h : p ↔ q) {a a' : α}
    {b b' : β} (h1 : q → f a = g b) (h2 : ¬ q → f a' = g b') : f (if p then a else a') = g (if q then b else b') := by
  by_cases hq : q
  · rw [if_pos (h.2 hq), if_pos hq, h1 hq]
  · rw [if_neg (mt h.1 hq), if_neg hq, h2 hq]

/-- index form (`Engine.mapM_ok_of_forall` is the form over a function giving the results) -/
theorem mapM_ok_of_forall {α β : Type} (f : α → R β) :
    ∀ (l : List α) (ys : List β), ys.length = l.length →
      (∀ i (h1 : i < l.length) (h2 : i < ys.length), f l[i] = .ok ys[i]) → l.mapM f = .ok ys := by
  intro l
  induction l with
  | nil => intro ys hl _; cases ys <;> simp_all [pure, Except.pure]
  | cons a l ih =>
    intro ys hl h
    cases ys with
    | nil => simp at hl
    | cons y ys =>
      have h0 := h 0 (by simp) (by simp)
      simp only [List.getElem_cons_zero] at h0
      have ht := ih ys (by simpa using hl) (fun i h1 h2 => by
        have := h (i + 1) (by simp; omega) (by simp; omega)
        simpa using this)
      simp [List.mapM_cons, h0, ht, bind, Except.bind, pure, Except.pure]

theorem mapM_ok_inv {α β : Type} (f : α → R β) :
    ∀ (l : List α) (ys : List β), l.mapM f = .ok ys →
      ys.length = l.length ∧ ∀ i (h1 : i < l.length) (h2 : i < ys.length), f l[i] = .ok ys[i] := by
  intro l
  induction l with
  | nil =>
    intro ys h
    simp [pure, Except.pure] at h
    subst h
    simp
  | cons a l ih =>
    intro ys h
    rw [List.mapM_cons] at h
    cases ha : f a with
    | error e => simp [ha, bind, Except.bind] at h
    | ok y =>
      cases hl : l.mapM f with
      | error e => simp [ha, hl, bind, Except.bind] at h
      | ok ys' =>
        simp [ha, hl, bind, Except.bind, pure, Except.pure] at h
        subst h
        obtain ⟨h1, h2⟩ := ih ys' hl
        refine ⟨by simp [h1], ?_⟩
        intro i hi1 hi2
        cases i with
        | zero => simpa using ha
        | succ j =>
          simp only [List.getElem_cons_succ]
          exact h2 j (by simpa using hi1) (by simpa using hi2)

theorem range_mapM_ok {β : Type} (f : Nat → R β) (n : Nat) (xs : List β) (hl : xs.length = n)
    (h : ∀ i (hi : i < xs.length), f i = .ok xs[i]) : (List.range n).mapM f = .ok xs := by
  apply mapM_ok_of_forall
  · simp [hl]
  · intro i h1 h2
    simpa using h i h2

theorem mapM_some_inv {α β : Type} (f : α → Option β) :
    ∀ (l : List α) (ys : List β), l.mapM f = some ys →
      ys.length = l.length ∧ ∀ i (h1 : i < l.length) (h2 : i < ys.length), f l[i] = some ys[i] := by
  intro l
  induction l with
  | nil =>
    intro ys h
    simp at h
    subst h
    simp
  | cons a l ih =>
    intro ys h
    rw [List.mapM_cons] at h
    cases ha : f a with
    | none => simp [ha] at h
    | some y =>
      cases hl : l.mapM f with
      | none => simp [ha, hl] at h
      | some ys' =>
        simp [ha, hl] at h
        subst h
        obtain ⟨h1, h2⟩ := ih ys' hl
        refine ⟨by simp [h1], ?_⟩
        intro i hi1 hi2
        cases i with
        | zero => simpa using ha
        | succ j =>
          simp only [List.getElem_cons_succ]
          exact h2 j (by simpa using hi1) (by simpa using hi2)

end PyElf.Proofs

namespace PyElf.Proofs.ElfErrors
open PyElf

theorem bind_ok {α β : Type} {x : R α} {f : α → R β} {b : β} :
    (x >>= f) = .ok b ↔ ∃ a, x = .ok a ∧ f a = .ok b := by
  cases x <;> simp [bind, Except.bind]

theorem bind_err {α β : Type} {x : R α} {f : α → R β} {e : Err} :
    (x >>= f) = .error e ↔ x = .error e ∨ ∃ a, x = .ok a ∧ f a = .error e := by
  cases x <;> simp [bind, Except.bind]

theorem mapM_range'_stops {α : Type} (f : Nat → R α) (e : Err) (k : Nat) (hfail : f k = .error e) :
    ∀ (n s : Nat), s ≤ k → k < s + n → (∀ j, s ≤ j → j < k → ∃ v, f j = .ok v) →
      (List.range' s n).mapM f = .error e := by
  intro n
  induction n with
  | zero => intro s h1 h2; omega
  | succ n ih =>
    intro s h1 h2 hok
    rw [List.range'_succ, List.mapM_cons]
    by_cases hs : s = k
    · subst hs; rw [hfail]; rfl
    · obtain ⟨v, hv⟩ := hok s (Nat.le_refl _) (by omega)
      rw [hv, ih (s+1) (by omega) (by omega) (fun j h1 h2 => hok j (by omega) h2)]
      rfl

end PyElf.Proofs.ElfErrors
