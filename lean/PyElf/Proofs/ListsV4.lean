/-
  DWARF 2–4 location / range list readers: the model functions of Model/Lists.lean
  compute what Spec/Lists.lean prescribes.
-/
import PyElf.Spec.Lists
import PyElf.Model.Lists
import PyElf.Proofs.Reads
import PyElf.Proofs.ListsSeek
namespace PyElf.Proofs.ListsV4
open PyElf PyElf.Spec PyElf.Spec.Lists PyElf.Model PyElf.Model.Lists PyElf.Proofs

theorem valInt_beq (a b : Int) : (Val.int a == Val.int b) = (a == b) := by
  show Val.beq (.int a) (.int b) = (a == b)
  rw [Val.beq]

theorem valNat_beq (a b : Nat) : (Val.int (a : Int) == Val.int (b : Int)) = (a == b) := by
  rw [valInt_beq, Bool.eq_iff_iff, beq_iff_eq, beq_iff_eq]; omega

theorem valNat_beq_zero (a : Nat) : (Val.int (a : Int) == Val.int 0) = (a == 0) :=
  valNat_beq a 0

theorem maxAddr_eq (l : Model.Lists.Lists) : l.maxAddr = Spec.Lists.maxAddr l.asz := by
  unfold Model.Lists.Lists.maxAddr Spec.Lists.maxAddr
  rw [Nat.mul_comm]

theorem maxAddr_lt (asz : Nat) : Spec.Lists.maxAddr asz < 256 ^ asz := by
  unfold Spec.Lists.maxAddr
  rw [pow256]
  have := Nat.two_pow_pos (8 * asz)
  omega

theorem maxAddr_ne_zero {asz : Nat} (h : 1 ≤ asz) : Spec.Lists.maxAddr asz ≠ 0 := by
  unfold Spec.Lists.maxAddr
  have : 2 ^ 8 ≤ 2 ^ (8 * asz) := Nat.pow_le_pow_right (by decide) (by omega)
  omega

theorem drop_enc {data : Bytes} {pos n v : Nat} {le : Bool} {rest : Bytes}
    (hd : data.drop pos = encNat le n v ++ rest) : data.drop (pos + n) = rest := by
  have := drop_add_of_drop hd
  rwa [encNat_length] at this

theorem pair_parse {env : Env} {data : Bytes} {pos asz a b : Nat} {le : Bool} {rest : Bytes}
    (hd : data.drop pos = encNat le asz a ++ encNat le asz b ++ rest)
    (ha : a < 256 ^ asz) (hb : b < 256 ^ asz) :
    structParse env (.uint asz le) data pos = .ok (.int (a : Int), pos + asz)
    ∧ structParse env (.uint asz le) data (pos + asz) = .ok (.int (b : Int), pos + asz + asz)
    ∧ data.drop (pos + asz + asz) = rest := by
  have hd1 : data.drop pos = encNat le asz a ++ (encNat le asz b ++ rest) := by
    rw [hd, List.append_assoc]
  have hd2 := drop_enc hd1
  exact ⟨(Engine.Reads.uint ha).structParse hd1, (Engine.Reads.uint hb).structParse hd2, drop_enc hd2⟩

theorem base_tests (l : Model.Lists.Lists) (hasz : 1 ≤ l.asz) (a : Nat) :
    (Val.int (Spec.Lists.maxAddr l.asz : Nat) == Val.int 0 && Val.int (a : Nat) == Val.int 0) = false
    ∧ (Val.int (Spec.Lists.maxAddr l.asz : Nat) == Val.int l.maxAddr) = true := by
  have hne : (Spec.Lists.maxAddr l.asz == 0) = false := by simpa using maxAddr_ne_zero hasz
  simp only [valNat_beq_zero, hne, Bool.false_and, maxAddr_eq, valNat_beq, beq_self_eq_true, and_self]

theorem bounded_tests (l : Model.Lists.Lists) (b e : Nat) (hnz : b = 0 → ¬ e = 0) (hnm : ¬ b = Spec.Lists.maxAddr l.asz) :
    (Val.int (b : Nat) == Val.int 0 && Val.int (e : Nat) == Val.int 0) = false
    ∧ (Val.int (b : Nat) == Val.int l.maxAddr) = false := by
  have hz : (b == 0 && e == 0) = false := by
    by_cases hb0 : b = 0
    · simp [hb0, hnz hb0]
    · simp [hb0]
  have hm : (b == Spec.Lists.maxAddr l.asz) = false := by simpa using hnm
  simp only [valNat_beq_zero, hz, maxAddr_eq, valNat_beq, hm, and_self]

theorem encV4Rng_cons (le : Bool) (asz : Nat) (e : V4Rng) (es : List V4Rng) :
    encV4Rng le asz (e :: es) = e.enc le asz ++ encV4Rng le asz es := by
  simp [encV4Rng, List.append_assoc]

theorem V4Rng.enc_length (le : Bool) (asz : Nat) (e : V4Rng) : (e.enc le asz).length = asz + asz := by
  cases e <;> simp [V4Rng.enc, encNat_length]

theorem encV4Rng_length_ge (le : Bool) {asz : Nat} (h : 1 ≤ asz) (es : List V4Rng) :
    es.length ≤ (encV4Rng le asz es).length := by
  have := Engine.flatMap_length_ge (fun e => V4Rng.enc le asz e) es fun e _ => by rw [V4Rng.enc_length]; omega
  rw [encV4Rng, List.length_append]; omega

/-- The `while True` loop on the entries and the (0, 0) terminator that follow `pos`: one round per entry, each read
    as two addresses (`pair_parse`) and told apart by the two tests (`base_tests`, `bounded_tests`). -/
theorem parseRngV4Loop_ok (env : Env) (l : Model.Lists.Lists) (le : Bool) (rest : Bytes)
    (hA : l.S.the_Dwarf_target_addr = .uint l.asz le) (hasz : 1 ≤ l.asz) :
    ∀ (es : List V4Rng) (fuel pos : Nat) (acc : List Val), es.length + 1 ≤ fuel →
      (∀ e ∈ es, e.wf l.asz = true) →
      l.data.drop pos = encV4Rng le l.asz es ++ rest →
      Model.Lists.parseRngV4Loop env l fuel pos acc
        = .ok (acc.reverse ++ obsV4Rng l.asz pos es, pos + (encV4Rng le l.asz es).length) := by
  intro es
  induction es with
  | nil =>
    intro fuel pos acc hf _ hd
    cases fuel with
    | zero => omega
    | succ fuel =>
      have hpos : 0 < 256 ^ l.asz := Nat.pow_pos (by decide)
      obtain ⟨h1, h2, -⟩ := pair_parse (env := env) (a := 0) (b := 0)
        (by simpa [encV4Rng, v4End] using hd) hpos hpos
      rw [parseRngV4Loop, hA, h1]
      simp only []
      rw [h2]
      simp [valInt_beq, obsV4Rng, encV4Rng, v4End, encNat_length, Nat.add_assoc]
  | cons e es ih =>
    intro fuel pos acc hf hwf hd
    cases fuel with
    | zero => omega
    | succ fuel =>
      have hwfe := hwf e (by simp)
      have hwf' : ∀ x ∈ es, x.wf l.asz = true := fun x hx => hwf x (by simp [hx])
      have hf' : es.length + 1 ≤ fuel := by simp at hf; omega
      rw [encV4Rng_cons] at hd
      cases e with
      | base a =>
        have ha : a < 256 ^ l.asz := by simpa [V4Rng.wf] using hwfe
        obtain ⟨h1, h2, h3⟩ := pair_parse (env := env) (a := Spec.Lists.maxAddr l.asz) (b := a)
          (rest := encV4Rng le l.asz es ++ rest)
          (by simpa [V4Rng.enc, List.append_assoc] using hd) (maxAddr_lt _) ha
        rw [parseRngV4Loop, hA, h1]
        simp only []
        rw [h2]
        obtain ⟨t1, t2⟩ := base_tests l hasz a
        simp only [t1, t2, Bool.false_eq_true, if_false, if_true]
        rw [ih fuel _ _ hf' hwf' h3]
        simp [obsV4Rng, V4Rng.obs, rngBaseEntry, nt, encV4Rng_cons, V4Rng.enc_length, Nat.add_assoc]
      | range b e =>
        simp only [V4Rng.wf, Bool.and_eq_true, decide_eq_true_eq, Bool.not_eq_true',
          Bool.and_eq_false_imp, beq_iff_eq, beq_eq_false_iff_ne] at hwfe
        obtain ⟨⟨⟨hb, he⟩, hnz⟩, hnm⟩ := hwfe
        obtain ⟨h1, h2, h3⟩ := pair_parse (env := env) (a := b) (b := e)
          (rest := encV4Rng le l.asz es ++ rest)
          (by simpa [V4Rng.enc, List.append_assoc] using hd) hb he
        rw [parseRngV4Loop, hA, h1]
        simp only []
        rw [h2]
        obtain ⟨t1, t2⟩ := bounded_tests l b e hnz hnm
        simp only [t1, t2, Bool.false_eq_true, if_false]
        rw [ih fuel _ _ hf' hwf' h3]
        simp [obsV4Rng, V4Rng.obs, rangeEntry, nt, encV4Rng_cons, V4Rng.enc_length, Nat.add_assoc]

/-- the model's fuel, the data's length + 1, suffices because every entry takes at least one byte -/
theorem parseRngV4_at (env : Env) (l : Model.Lists.Lists) (le : Bool) (rest : Bytes) (es : List V4Rng) (pos : Nat)
    (hA : l.S.the_Dwarf_target_addr = .uint l.asz le) (hasz : 1 ≤ l.asz)
    (hd : l.data.drop pos = encV4Rng le l.asz es ++ rest) (hwf : ∀ e ∈ es, e.wf l.asz = true) :
    Model.Lists.parseRngV4 env l pos = .ok (obsV4Rng l.asz pos es, pos + (encV4Rng le l.asz es).length) := by
  have hge := encV4Rng_length_ge le hasz es
  have hl := length_of_drop hd
  rw [List.length_append] at hl
  unfold Model.Lists.parseRngV4
  rw [parseRngV4Loop_ok env l le rest hA hasz es _ _ [] (by omega) hwf hd]
  simp

theorem readElems_bytes (env : Env) (data : Bytes) (le : Bool) (rest : Bytes) :
    ∀ (payload : Bytes) (pos : Nat) (acc : List Val), data.drop pos = payload ++ rest →
      readElems env (.uint 1 le) data payload.length pos acc
        = .ok (acc.reverse ++ payload.map (fun b => Val.int b.toNat), pos + payload.length) := by
  intro payload
  induction payload with
  | nil => intro pos acc _; simp [readElems]
  | cons b payload ih =>
    intro pos acc hd
    have hd1 : data.drop pos = [b] ++ (payload ++ rest) := by simpa using hd
    obtain ⟨-, hd'⟩ := drop_cons_inv (by simpa using hd)
    simp only [List.length_cons, readElems]
    rw [Engine.structParse_of_parse (parse_uint_ok (n := 1) (ctx := []) hd1 rfl), decNat_singleton]
    simp only
    rw [ih (pos + 1) _ hd']
    simp; omega

theorem encV4Loc_cons (le : Bool) (asz : Nat) (e : V4Loc) (es : List V4Loc) :
    encV4Loc le asz (e :: es) = e.enc le asz ++ encV4Loc le asz es := by
  simp [encV4Loc, List.append_assoc]

theorem V4Loc.enc_length (le : Bool) (asz : Nat) (e : V4Loc) : (e.enc le asz).length = e.size asz := by
  cases e <;> simp [V4Loc.enc, V4Loc.size, encNat_length] <;> omega

theorem encV4Loc_length_ge (le : Bool) {asz : Nat} (h : 1 ≤ asz) (es : List V4Loc) :
    es.length ≤ (encV4Loc le asz es).length := by
  have := Engine.flatMap_length_ge (fun e => V4Loc.enc le asz e) es fun e _ => by
    rw [V4Loc.enc_length]; cases e <;> simp only [V4Loc.size] <;> omega
  rw [encV4Loc, List.length_append]; omega

/-- The location-list loop, round for round like `parseRngV4Loop_ok`; its bounded entries carry a 2-byte length and
    that many expression bytes (`h16`, `h8`: the readers of the two). -/
theorem parseLocV4Loop_ok (env : Env) (l : Model.Lists.Lists) (le : Bool) (rest : Bytes)
    (hA : l.S.the_Dwarf_target_addr = .uint l.asz le) (h16 : l.S.the_Dwarf_uint16 = .uint 2 le)
    (h8 : l.S.the_Dwarf_uint8 = .uint 1 le) (hasz : 1 ≤ l.asz) :
    ∀ (es : List V4Loc) (fuel pos : Nat) (acc : List Val), es.length + 1 ≤ fuel →
      (∀ e ∈ es, e.wf l.asz = true) →
      l.data.drop pos = encV4Loc le l.asz es ++ rest →
      Model.Lists.parseLocV4Loop env l fuel pos acc
        = .ok (acc.reverse ++ obsV4Loc l.asz pos es, pos + (encV4Loc le l.asz es).length) := by
  intro es
  induction es with
  | nil =>
    intro fuel pos acc hf _ hd
    cases fuel with
    | zero => omega
    | succ fuel =>
      have hpos : 0 < 256 ^ l.asz := Nat.pow_pos (by decide)
      obtain ⟨h1, h2, -⟩ := pair_parse (env := env) (a := 0) (b := 0)
        (by simpa [encV4Loc, v4End] using hd) hpos hpos
      rw [parseLocV4Loop, hA, h1]
      simp only []
      rw [h2]
      simp [valInt_beq, obsV4Loc, encV4Loc, v4End, encNat_length, Nat.add_assoc]
  | cons e es ih =>
    intro fuel pos acc hf hwf hd
    cases fuel with
    | zero => omega
    | succ fuel =>
      have hwfe := hwf e (by simp)
      have hwf' : ∀ x ∈ es, x.wf l.asz = true := fun x hx => hwf x (by simp [hx])
      have hf' : es.length + 1 ≤ fuel := by simp at hf; omega
      rw [encV4Loc_cons] at hd
      cases e with
      | base a =>
        have ha : a < 256 ^ l.asz := by simpa [V4Loc.wf] using hwfe
        obtain ⟨h1, h2, h3⟩ := pair_parse (env := env) (a := Spec.Lists.maxAddr l.asz) (b := a)
          (rest := encV4Loc le l.asz es ++ rest)
          (by simpa [V4Loc.enc, List.append_assoc] using hd) (maxAddr_lt _) ha
        rw [parseLocV4Loop, hA, h1]
        simp only []
        rw [h2]
        obtain ⟨t1, t2⟩ := base_tests l hasz a
        simp only [t1, t2, Bool.false_eq_true, if_false, if_true]
        rw [ih fuel _ _ hf' hwf' h3]
        simp [obsV4Loc, V4Loc.obs, V4Loc.size, locBaseEntry, nt, encV4Loc_cons, V4Loc.enc_length,
          Nat.add_assoc]
      | loc b e x =>
        simp only [V4Loc.wf, Bool.and_eq_true, decide_eq_true_eq, Bool.not_eq_true',
          Bool.and_eq_false_imp, beq_iff_eq, beq_eq_false_iff_ne] at hwfe
        obtain ⟨⟨⟨⟨hb, he⟩, hnz⟩, hnm⟩, hx⟩ := hwfe
        obtain ⟨h1, h2, h3⟩ := pair_parse (env := env) (a := b) (b := e)
          (rest := encNat le 2 x.length ++ (x ++ (encV4Loc le l.asz es ++ rest)))
          (by simpa [V4Loc.enc, List.append_assoc] using hd) hb he
        have hx' : x.length < 256 ^ 2 := Nat.lt_of_lt_of_eq hx (by decide)
        have h4 := (Engine.Reads.uint (env := env) (ctx := []) hx').structParse h3
        have h5 := drop_enc h3
        have h6 := readElems_bytes env l.data le _ x _ [] h5
        have h7 := drop_add_of_drop h5
        rw [parseLocV4Loop, hA, h1]
        simp only []
        rw [h2]
        obtain ⟨t1, t2⟩ := bounded_tests l b e hnz hnm
        simp only [t1, t2, Bool.false_eq_true, if_false]
        rw [h16, h4]
        simp only [Val.asInt, Int.toNat_natCast]
        rw [h8, h6]
        simp only []
        rw [ih fuel _ _ hf' hwf' h7]
        simp [obsV4Loc, V4Loc.obs, V4Loc.size, locationEntry, exprVal, nt, encV4Loc_cons, V4Loc.enc_length,
          Nat.add_assoc]

theorem parseLocV4_at (env : Env) (l : Model.Lists.Lists) (le : Bool) (rest : Bytes) (es : List V4Loc) (pos : Nat)
    (hA : l.S.the_Dwarf_target_addr = .uint l.asz le) (h16 : l.S.the_Dwarf_uint16 = .uint 2 le)
    (h8 : l.S.the_Dwarf_uint8 = .uint 1 le) (hasz : 1 ≤ l.asz)
    (hd : l.data.drop pos = encV4Loc le l.asz es ++ rest) (hwf : ∀ e ∈ es, e.wf l.asz = true) :
    Model.Lists.parseLocV4 env l pos = .ok (obsV4Loc l.asz pos es, pos + (encV4Loc le l.asz es).length) := by
  have hge := encV4Loc_length_ge le hasz es
  have hl := length_of_drop hd
  rw [List.length_append] at hl
  unfold Model.Lists.parseLocV4
  rw [parseLocV4Loop_ok env l le rest hA h16 h8 hasz es _ _ [] (by omega) hwf hd]
  simp

theorem encV4Loc_length (le : Bool) (asz : Nat) (es : List V4Loc) :
    (encV4Loc le asz es).length = v4LocSize asz es := by
  induction es with
  | nil => simp [encV4Loc, v4End, v4LocSize, encNat_length]
  | cons e es ih =>
    rw [encV4Loc_cons, List.length_append, V4Loc.enc_length, ih]
    simp only [v4LocSize, List.map_cons, List.sum_cons]
    omega

theorem getLocationListAtOffset_v4 (env : Env) (secs : Secs) (l : Model.Lists.Lists) (cu : Option Cu) {pos : Nat}
    (hv : l.version < 5) (hsmall : pos < 2 ^ 63) :
    getLocationListAtOffset env secs l (pos : Int) cu = (parseLocV4 env l pos).map (·.1) := by
  have hv' : ¬ (l.version ≥ 5) := by omega
  unfold getLocationListAtOffset
  simp only [hv', decide_false, Bool.false_and, Bool.false_eq_true, if_false, ListsSeek.seekInt_nat hsmall, bind, Except.bind,
    pure, Except.pure]
  cases parseLocV4 env l pos <;> rfl

theorem getRangeListAtOffset_v4 (env : Env) (secs : Secs) (l : Model.Lists.Lists) (cu : Option Cu) {pos : Nat}
    (hv : l.version < 5) (hsmall : pos < 2 ^ 63) :
    getRangeListAtOffset env secs l (pos : Int) cu = (parseRngV4 env l pos).map (·.1) := by
  have hv' : ¬ (l.version ≥ 5) := by omega
  unfold getRangeListAtOffset
  simp only [hv', if_false, ListsSeek.seekInt_nat hsmall, bind, Except.bind, pure, Except.pure]
  cases parseRngV4 env l pos <;> rfl

example : (V4Loc.loc 1 2 [0x50]).wf 4 = true := by decide
example : (V4Loc.base 0x1000).wf 4 = true := by decide
example : ∀ e ∈ [V4Loc.base 0x1000, V4Loc.loc 1 2 [0x50]], e.wf 4 = true := by decide
example : (V4Rng.range 0x10 0x20).wf 8 = true := by decide
example : (V4Rng.base 0x400000).wf 8 = true := by decide
example : ∀ e ∈ [V4Rng.base 0x400000, V4Rng.range 0x10 0x20], e.wf 8 = true := by decide
example : ∀ a ∈ [0x1000, 0x2000, 0xFFFFFFFF], a < 256 ^ 4 := by decide

end PyElf.Proofs.ListsV4
