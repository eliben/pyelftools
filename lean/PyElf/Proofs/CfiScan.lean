/-
  `get_entries()` on data that STARTS with the encoded section (`encodeSection sec ++ junk`): one entry of the section,
  taken from the cache or parsed (`entry_at`), the loop over the entries carrying `CacheInv` (`loop_prefix`), the whole
  call (`parseEntries_prefix`; with nothing behind the section `parseEntries_ok`; with a failing entry behind it
  `parseEntries_error_after`).
-/
import PyElf.Proofs.CfiFde
namespace PyElf.Proofs.Cfi
open PyElf PyElf.Spec PyElf.Model PyElf.Proofs PyElf.Proofs.CfiBad PyElf.Proofs.Engine

theorem fde_miss (sec : Section) (env : Env) (hwf : sec.wf = true) (junk : Bytes)
    (hsz : (encodeSection sec ++ junk).length < 2 ^ 63) (i : Nat) (f : Fde) (c : Cie)
    (hi : sec.entries[i]? = some (.fde f)) (hc : sec.cieAt f.cie = some c) (fuel pos : Nat) (cache : Cache)
    (hinv : CacheInv sec cache) (hmiss : cache.get (sec.offsetOf i : Int) = none) :
    ∃ cache', parseEntryAt (cfiOf sec env (encodeSection sec ++ junk)) (fuel + 2) (sec.offsetOf i) pos cache
        = .ok (mFde sec (sec.offsetOf i) f c, sec.offsetOf i + Entry.size sec (.fde f), cache')
      ∧ CacheInv sec cache' := by
  have hj := cieAt_get hc
  have hle := offsetOf_succ_le_app sec junk hwf i (getElem?_lt hi)
  have hlt := offsetOf_lt sec hwf (i + 1) i (Nat.lt_succ_self i) (getElem?_lt hi)
  obtain ⟨cache', h, hI⟩ := fde_at sec env _ f c _ fuel pos cache _ hc (wf_at sec hwf i _ hi) (wf_at sec hwf f.cie _ hj)
    (drop_offsetOf_app sec junk i _ hi) (by omega) hmiss hinv
    (cie_fetches sec env hwf junk hsz f.cie c hj fuel)
  refine ⟨_, h, ?_⟩
  have := hI.cons i (.fde f) hi (by simp)
  simpa only [modelOf, hc] using this

theorem entry_at (sec : Section) (env : Env) (hwf : sec.wf = true) (junk : Bytes) (hsz : (encodeSection sec ++ junk).length < 2 ^ 63)
    (i : Nat) (se : Spec.Entry) (hi : sec.entries[i]? = some se) (fuel : Nat)
    (cache : Cache) (hinv : CacheInv sec cache) :
    ∃ cache', parseEntryAt (cfiOf sec env (encodeSection sec ++ junk)) (fuel + 2) (sec.offsetOf i) (sec.offsetOf i) cache
        = .ok (modelOf sec (sec.offsetOf i) se, sec.offsetOf (i + 1), cache')
      ∧ CacheInv sec cache' := by
  rw [offsetOf_succ sec i se hi]
  cases hk : cache.get (sec.offsetOf i : Int) with
  | some e =>
    exact ⟨cache, entry_hit sec env _ hwf i se hi (fuel + 1) _ cache hinv e hk, hinv⟩
  | none =>
    have hw := wf_at sec hwf i se hi
    cases se with
    | zero =>
      have hd := drop_offsetOf_app sec junk i _ hi
      have hle := offsetOf_succ_le_app sec junk hwf i (getElem?_lt hi)
      rw [offsetOf_succ sec i _ hi] at hle
      simp only [Entry.size] at hle
      refine ⟨cache, ?_, hinv⟩
      exact entry_zero (cfiOf sec env (encodeSection sec ++ junk)) _ sec.le (fuel + 1) _ _ cache _ hw rfl rfl (by omega) hk hd
    | cie c =>
      refine ⟨_, cie_miss sec env hwf junk hsz i c hi (fuel + 1) _ cache hk, ?_⟩
      exact hinv.cons i (.cie c) hi (by simp)
    | fde f =>
      obtain ⟨c, hc⟩ := wfEntry_fde_cie hw
      obtain ⟨cache', h1, h2⟩ := fde_miss sec env hwf junk hsz i f c hi hc fuel (sec.offsetOf i) cache hinv hk
      refine ⟨cache', ?_, h2⟩
      rw [h1]; simp only [modelOf, hc]

/-- `_parse_entries` from entry `i` on: induction over the `k` entries that remain, each taken by `entry_at` in a cache
    that holds objects of the section only; what comes back is their objects followed by whatever the loop makes of the
    bytes behind the section -/
theorem loop_prefix (sec : Section) (env : Env) (hwf : sec.wf = true) (junk : Bytes)
    (hsz : (encodeSection sec ++ junk).length < 2 ^ 63) (size d : Nat) (hsize : (encodeSection sec).length ≤ size) :
    ∀ (k i : Nat), i + k = sec.entries.length → ∀ (fuel : Nat) (cache : Cache), CacheInv sec cache →
    ∃ cache', CacheInv sec cache' ∧
      parseEntriesLoop (cfiOf sec env (encodeSection sec ++ junk)) size (d + 2) (fuel + k) (sec.offsetOf i) cache
        = (parseEntriesLoop (cfiOf sec env (encodeSection sec ++ junk)) size (d + 2) fuel (encodeSection sec).length
            cache').map (modelFrom sec (sec.offsetOf i) (sec.entries.drop i) ++ ·) := by
  intro k
  induction k with
  | zero =>
    intro i hi fuel cache hinv
    have : i = sec.entries.length := by omega
    subst this
    refine ⟨cache, hinv, ?_⟩
    rw [offsetOf_end, List.drop_length, Nat.add_zero]
    cases parseEntriesLoop (cfiOf sec env (encodeSection sec ++ junk)) size (d + 2) fuel (encodeSection sec).length cache <;>
      simp [modelFrom, Except.map]
  | succ k ih =>
    intro i hi fuel cache hinv
    have hil : i < sec.entries.length := by omega
    have hget : sec.entries[i]? = some sec.entries[i] := List.getElem?_eq_getElem hil
    obtain ⟨cache1, h1, h2⟩ := entry_at sec env hwf junk hsz i _ hget d cache hinv
    have hlt : sec.offsetOf i < size := by
      have := offsetOf_lt sec hwf sec.entries.length i hil (Nat.le_refl _)
      rw [offsetOf_end] at this
      omega
    obtain ⟨cache', hc', hrest⟩ := ih (i + 1) (by omega) fuel cache1 h2
    refine ⟨cache', hc', ?_⟩
    rw [show fuel + (k + 1) = (fuel + k) + 1 by omega,
      parseEntriesLoop_ok _ size (d + 2) (fuel + k) (sec.offsetOf i) cache cache1 _ _ hlt h1, hrest,
      ← List.getElem_cons_drop hil, modelFrom, offsetOf_succ sec i _ hget]
    cases parseEntriesLoop (cfiOf sec env (encodeSection sec ++ junk)) size (d + 2) fuel (encodeSection sec).length cache' <;>
      simp [Except.map]

theorem parseEntries_prefix (sec : Section) (env : Env) (hwf : sec.wf = true) (junk : Bytes)
    (hsz : (encodeSection sec ++ junk).length < 2 ^ 63) :
    ∃ cache' fuel, CacheInv sec cache' ∧
      parseEntries (cfiOf sec env (encodeSection sec ++ junk)) (encodeSection sec ++ junk).length
        = (parseEntriesLoop (cfiOf sec env (encodeSection sec ++ junk)) (encodeSection sec ++ junk).length
            ((encodeSection sec ++ junk).length + 2) (fuel + 1) (encodeSection sec).length cache').map
            (modelFrom sec 0 sec.entries ++ ·) := by
  have hn := index_le_offset sec hwf sec.entries.length (Nat.le_refl _)
  rw [offsetOf_end] at hn
  have hlen : (encodeSection sec ++ junk).length = (encodeSection sec).length + junk.length := List.length_append
  obtain ⟨cache', hc', h⟩ := loop_prefix sec env hwf junk hsz (encodeSection sec ++ junk).length
    (encodeSection sec ++ junk).length (by omega) sec.entries.length 0 (by omega)
    ((encodeSection sec ++ junk).length + 1 - sec.entries.length + 1) [] (CacheInv.nil sec)
  refine ⟨cache', (encodeSection sec ++ junk).length + 1 - sec.entries.length, hc', ?_⟩
  have h0 : sec.offsetOf 0 = 0 := rfl
  rw [h0, List.drop_zero] at h
  rw [← h, parseEntries]
  congr 1
  omega

theorem parseEntries_ok (sec : Section) (env : Env) (hwf : sec.wf = true) (hsz : (encodeSection sec).length < 2 ^ 63) :
    parseEntries (cfiOf sec env (encodeSection sec)) (encodeSection sec).length
      = .ok (modelFrom sec 0 sec.entries) := by
  obtain ⟨cache', fuel, -, h⟩ := parseEntries_prefix sec env hwf [] (by rw [List.append_nil]; exact hsz)
  rw [List.append_nil] at h
  rw [h, parseEntriesLoop, if_neg (Nat.lt_irrefl _)]
  simp [Except.map]

theorem parseEntries_error_after (sec : Section) (env : Env) (hwf : sec.wf = true) (junk : Bytes)
    (hsz : (encodeSection sec ++ junk).length < 2 ^ 63) (hj : junk ≠ []) (e : Err)
    (hbad : ∀ (cache : Cache), CacheInv sec cache →
      parseEntryAt (cfiOf sec env (encodeSection sec ++ junk)) ((encodeSection sec ++ junk).length + 2)
        ((encodeSection sec).length : Int) (encodeSection sec).length cache = .error e) :
    parseEntries (cfiOf sec env (encodeSection sec ++ junk)) (encodeSection sec ++ junk).length = .error e := by
  obtain ⟨cache', fuel, hc', h⟩ := parseEntries_prefix sec env hwf junk hsz
  have hlt : (encodeSection sec).length < (encodeSection sec ++ junk).length := by
    rw [List.length_append]
    have : 0 < junk.length := List.length_pos_iff.2 hj
    omega
  rw [h, parseEntriesLoop_error _ _ _ fuel _ cache' e hlt (hbad cache' hc')]
  rfl

/-- … with what a lemma about the failing entry asks for: the bytes at its offset, that the offset can be sought, and that
    nothing is cached at or beyond it or under a negative key -/
theorem parseEntries_error_after_entry (sec : Section) (env : Env) (hwf : sec.wf = true) (junk : Bytes)
    (hsz : (encodeSection sec ++ junk).length < 2 ^ 63) (fmt64 : Bool) (L : Nat) (rest : Bytes)
    (hj : junk = encLength sec.le fmt64 L ++ rest) (e : Err)
    (hbad : ∀ (cache : Cache),
      (encodeSection sec ++ junk).drop (encodeSection sec).length = encLength sec.le fmt64 L ++ rest →
      (encodeSection sec).length < 2 ^ 63 →
      (∀ k : Int, ((encodeSection sec).length : Int) ≤ k ∨ k < 0 → cache.get k = none) →
      parseEntryAt (cfiOf sec env (encodeSection sec ++ junk)) ((encodeSection sec ++ junk).length + 2)
        ((encodeSection sec).length : Int) (encodeSection sec).length cache = .error e) :
    parseEntries (cfiOf sec env (encodeSection sec ++ junk)) (encodeSection sec ++ junk).length = .error e :=
  parseEntries_error_after sec env hwf junk hsz (by rw [hj]; exact encLength_append_ne_nil _ _ _ _) e fun cache hc =>
    hbad cache (by rw [List.drop_left, hj]) (by rw [List.length_append] at hsz; omega)
      (fun k hk => cacheInv_miss_out hwf hc k hk)

/-- every FDE of the section that the cache misses is parsed to its object, in any cache that holds objects of the section
    only (`fdeMissOk`: so it is for every well-formed section) -/
def FdeMissOk (sec : Section) (env : Env) : Prop :=
  ∀ (i : Nat) (f : Fde) (c : Cie), sec.entries[i]? = some (.fde f) → sec.cieAt f.cie = some c →
    ∀ (fuel pos : Nat) (cache : Cache), CacheInv sec cache → cache.get (sec.offsetOf i : Int) = none →
    ∃ cache', parseEntryAt (cfiOf sec env (encodeSection sec)) (fuel + 2) (sec.offsetOf i) pos cache
        = .ok (mFde sec (sec.offsetOf i) f c, sec.offsetOf i + Entry.size sec (.fde f), cache')
      ∧ CacheInv sec cache'

theorem fdeMissOk (sec : Section) (env : Env) (hwf : sec.wf = true) (hsz : (encodeSection sec).length < 2 ^ 63) :
    FdeMissOk sec env := by
  intro i f c hi hc fuel pos cache hinv hmiss
  have hsz' : (encodeSection sec ++ []).length < 2 ^ 63 := by rw [List.append_nil]; exact hsz
  have h := fde_miss sec env hwf [] hsz' i f c hi hc fuel pos cache hinv hmiss
  rw [List.append_nil] at h
  exact h

end PyElf.Proofs.Cfi
