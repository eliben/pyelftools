/-
  RELR: one bitmap word is the addresses of its set bits above the marker bit (`relrBitmapLoop_word`); the outer loop
  over a stored word stream is the standard's expansion (`relrLoop_eq`), placed anywhere in a file (`relrIter_drop`).
-/
import PyElf.Proofs.Reloc
namespace PyElf.Proofs.Reloc
open PyElf PyElf.Spec PyElf.Model PyElf.Model.Reloc PyElf.Proofs PyElf.Proofs.Engine

/-- Bit 0 of a bitmap word is the marker that tells it from an address, so the loop shifts first and bit `j + 1` of `n`
    stands for address `base + (i + j) · es`.  Induction on the fuel, halving `n`: `testBit (j + 1)` of `n` is
    `testBit j` of `n / 2`. -/
theorem relrBitmapLoop_eq (base es : Nat) :
    ∀ (fuel n i : Nat), n < 2 ^ (fuel + 1) →
      relrBitmapLoop base es (fuel + 1) n i
        = .ok ((List.range fuel).filterMap fun j => if n.testBit (j + 1) then some (base + (i + j) * es) else none) := by
  intro fuel
  induction fuel with
  | zero =>
    intro n i hn
    have : n >>> 1 = 0 := by rw [Nat.shiftRight_eq_div_pow]; simp at hn ⊢; omega
    simp [relrBitmapLoop, this]
  | succ f ih =>
    intro n i hn
    have hdiv : n >>> 1 = n / 2 := by rw [Nat.shiftRight_eq_div_pow]
    have hlt : n / 2 < 2 ^ (f + 1) := by
      rw [Nat.pow_succ] at hn; omega
    have hbit : ∀ j, n.testBit (j + 1) = (n / 2).testBit j := fun j => by
      rw [Nat.testBit_succ]
    rw [relrBitmapLoop]
    simp only [hdiv]
    by_cases h0 : n / 2 = 0
    · simp only [h0, ↓reduceIte]
      have : (List.range (f + 1)).filterMap (fun j => if n.testBit (j + 1) then some (base + (i + j) * es) else none) = [] := by
        apply List.filterMap_eq_nil_iff.mpr
        intro j _
        simp [hbit, h0]
      rw [this]
    · simp only [h0, ↓reduceIte]
      rw [ih (n / 2) (i + 1) hlt]
      rw [List.range_succ_eq_map, List.filterMap_cons, List.filterMap_map]
      have hfun : ((fun j => if n.testBit (j + 1) then some (base + (i + j) * es) else none) ∘ Nat.succ)
          = fun j => if (n / 2).testBit (j + 1) then some (base + (i + 1 + j) * es) else none := by
        funext j
        simp only [Function.comp, Nat.succ_eq_add_one, hbit (j + 1)]
        have : i + (j + 1) = i + 1 + j := by omega
        rw [this]
      rw [hfun]
      have h1 : n.testBit (0 + 1) = decide ((n / 2) % 2 = 1) := by rw [hbit 0, Nat.testBit_zero]
      have hand : (n / 2) &&& 1 = (n / 2) % 2 := Nat.and_one_is_mod _
      rw [h1, hand]
      by_cases hb : (n / 2) % 2 = 1
      · have : (n / 2) % 2 ≠ 0 := by omega
        simp [hb, bind, Except.bind, pure, Except.pure]
      · have : (n / 2) % 2 = 0 := by omega
        simp [this]

/-- one bitmap word of `w` bytes, with the fuel the outer loop gives it -/
theorem relrBitmapLoop_word (base w word : Nat) (hw : 1 ≤ w) (h : word < 2 ^ (8 * w)) :
    relrBitmapLoop base w (8 * w) word 0 = .ok (relrBitmap w base word) := by
  have hb := relrBitmapLoop_eq base w (8 * w - 1) word 0 (by rw [show 8 * w - 1 + 1 = 8 * w by omega]; exact h)
  rw [show 8 * w - 1 + 1 = 8 * w by omega] at hb
  rw [hb]; simp [relrBitmap]

def relrCon (le : Bool) (w : Nat) : Con := st [f "r_offset" (.uint w le)]

theorem relr_entry_reads {env : Env} {ctx : Fields} {pos w x : Nat} {le : Bool} {out : Bytes} (hx : x < 256 ^ w) :
    Reads (pr env (relrCon le w)) ctx pos (encNat le w x ++ out) (.record [("r_offset", .int x)]) (pos + w) out ctx :=
  ReadsF.struct (.named (Reads.uint hx) .nil) (by simp [Fields.set])

theorem parse_relr_entry {env : Env} {data : Bytes} {pos w x : Nat} {le : Bool} {rest : Bytes}
    (hd : data.drop pos = encNat le w x ++ rest) (hx : x < 256 ^ w) (hpos : pos < 2 ^ 63) :
    seekParse env (relrCon le w) data pos = .ok (.record [("r_offset", .int x)]) :=
  (relr_entry_reads hx).seekParse hpos hd

def specRelrTable (le : Bool) (w : Nat) (off : Option Nat) (size : Nat) : RelrTable :=
  { offset := off, size := size, relrStruct := relrCon le w, entrySize := w, addrSize := w }

theorem encRelr_cons (le : Bool) (w x : Nat) (ws : List Nat) :
    encRelr le w (x :: ws) = encNat le w x ++ encRelr le w ws := by
  simp [encRelr]

/-- The outer loop over a stored word stream, from any word on: `relr` is the position of the first word of `ws`, the
    limit is the end of the stream, `base` is what the words before have left (`none` before any anchor); one word costs
    one unit of fuel. -/
theorem relrLoop_eq (env : Env) (data : Bytes) (le : Bool) (w : Nat) (hw : 1 ≤ w) (off : Option Nat) (size : Nat)
    (tail : Bytes) :
    ∀ (ws : List Nat) (relr fuel : Nat) (base : Option Nat),
      (∀ x ∈ ws, x < 2 ^ (8 * w)) → data.drop relr = encRelr le w ws ++ tail →
      relr + ws.length * w ≤ 2 ^ 63 → ws.length + 1 ≤ fuel →
      relrLoop env data (specRelrTable le w off size) (relr + ws.length * w) fuel relr base =
        match relrStd w base ws with
        | some xs => .ok xs
        | none => .error .elfError := by
  intro ws
  induction ws with
  | nil =>
    intro relr fuel base _ _ _ hfuel
    obtain ⟨f', rfl⟩ : ∃ f', fuel = f' + 1 := ⟨fuel - 1, by omega⟩
    simp [relrLoop, relrStd]
  | cons x ws ih =>
    intro relr fuel base hws hd hfit hfuel
    obtain ⟨f', rfl⟩ : ∃ f', fuel = f' + 1 := ⟨fuel - 1, by omega⟩
    have hx : x < 2 ^ (8 * w) := hws x (List.mem_cons_self)
    have hx' : x < 256 ^ w := by rw [pow256]; exact hx
    have hws' : ∀ y ∈ ws, y < 2 ^ (8 * w) := fun y hy => hws y (List.mem_cons_of_mem _ hy)
    have hlen : (x :: ws).length * w = ws.length * w + w := by simp [Nat.succ_mul]
    rw [encRelr_cons, List.append_assoc] at hd
    have hnext : data.drop (relr + w) = encRelr le w ws ++ tail := drop_after hd (encNat_length ..)
    have hlim : relr + (x :: ws).length * w = relr + w + ws.length * w := by rw [hlen]; omega
    have hpos : relr < 2 ^ 63 := by rw [hlen] at hfit; omega
    have hparse := parse_relr_entry (env := env) hd hx' hpos
    have hget : (Val.record [("r_offset", Val.int (x : Int))]).getNat "r_offset" = .ok x :=
      Val.getNat_record_int (by simp [Fields.get?])
    have hih := fun b => ih (relr + w) f' b hws' hnext (by rw [hlen] at hfit; omega) (by simp at hfuel; omega)
    simp only [specRelrTable] at hih
    rw [relrLoop]
    have hcond : relr < relr + (x :: ws).length * w := by rw [hlen]; omega
    simp only [hcond, ↓reduceIte, specRelrTable]
    simp only [hparse, hget, bind, Except.bind, Nat.and_one_is_mod]
    by_cases hev : x % 2 = 0
    · simp only [hev, ↓reduceIte]
      rw [hlim, hih]
      simp only [relrStd, hev, ↓reduceIte]
      cases relrStd w (some (x + w)) ws <;> rfl
    · simp only [hev, ↓reduceIte]
      cases base with
      | none => simp [relrStd, hev]
      | some b =>
        simp only
        rw [relrBitmapLoop_word b w x hw hx, hlim, hih]
        simp only [relrStd, hev, ↓reduceIte, pure, Except.pure]
        cases relrStd w (some (b + (8 * w - 1) * w)) ws <;> rfl

theorem encRelr_length (le : Bool) (w : Nat) (ws : List Nat) : (encRelr le w ws).length = ws.length * w :=
  length_flatMap_const _ _ ws fun x _ => encNat_length le w x

theorem relrInit_spec (cfg : ElfCfg) (off : Option Nat) (size : Nat) :
    relrInit (Spec.elfStructs cfg) off size (cfg.cls / 8) = .ok (specRelrTable cfg.le (cfg.cls / 8) off size) := by
  unfold relrInit
  simp [spec_Elf_Relr, spec_Elf_addr, st, f, mkFields, conSizeof, fieldsSizeof, bind, Except.bind, pure, Except.pure,
    specRelrTable, relrCon]

theorem relrIter_drop (env : Env) (le : Bool) (w : Nat) (hw : 1 ≤ w) (ws : List Nat)
    (hws : ∀ x ∈ ws, x < 2 ^ (8 * w)) {data rest : Bytes} {off : Nat}
    (hd : data.drop off = encRelr le w ws ++ rest) (hfit : off + ws.length * w ≤ 2 ^ 63) :
    relrIter env data (specRelrTable le w (some off) (encRelr le w ws).length)
      = match relrStd w none ws with
        | some xs => .ok xs
        | none => .error .elfError := by
  unfold relrIter
  simp only [specRelrTable, encRelr_length]
  by_cases h0 : ws.length * w = 0
  · have : ws = [] := by
      cases ws with
      | nil => rfl
      | cons x ws => simp [Nat.succ_mul] at h0; omega
    subst this
    simp [relrStd]
  · simp only [h0, ↓reduceIte]
    have hle : ws.length ≤ ws.length * w := Nat.le_mul_of_pos_right _ hw
    have := relrLoop_eq env data le w hw (some off) (ws.length * w) rest ws off (ws.length * w + 1) none hws hd hfit
      (by omega)
    simpa [specRelrTable] using this

theorem relrIter_spec (env : Env) (le : Bool) (w : Nat) (hw : 1 ≤ w) (ws : List Nat)
    (hws : ∀ x ∈ ws, x < 2 ^ (8 * w)) (pre rest : Bytes) (hfit : pre.length + ws.length * w ≤ 2 ^ 63) :
    relrIter env (pre ++ encRelr le w ws ++ rest) (specRelrTable le w (some pre.length) (encRelr le w ws).length)
      = match relrStd w none ws with
        | some xs => .ok xs
        | none => .error .elfError :=
  relrIter_drop env le w hw ws hws (drop_pre pre _ rest) hfit

end PyElf.Proofs.Reloc
