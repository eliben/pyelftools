/-
  `struct_parse(Dwarf_lineprog_header)` on the Spec encoding of a header of any version.  The eighteen fields stand
  here four times, in the same order: as constructs (`headerFields`), as bytes (`hdrEnc`), as the decoded record
  (`hdrWith`, `rawHeader`) and as the derivation that ties them (`header_reads`).  The model runs its own struct loop,
  which interprets the arrays of `FormattedEntry` itself: a second instance of `ReadsF.seq` (`ReadsF.hnamed`).
  Continues the namespace `PyElf.Proofs.Line` (Proofs/LineFit.lean).
-/
import PyElf.Proofs.LineTables
namespace PyElf.Proofs.Line
open PyElf PyElf.Spec PyElf.Spec.Line PyElf.Model.Line PyElf.Proofs PyElf.Proofs.Engine

theorem parseHeader_eq {env : Env} {S : DwarfStructs} {data : Bytes} {fs : ConFields} (off : Nat)
    (hS : S.Dwarf_lineprog_header = .struct fs) :
    parseHeader env S data off
      = (parseHeaderFields env S data fs [] [] off).map (fun r => (r.1, r.2.1)) := by
  rw [parseHeader, hS]
  simp only [bind, Except.bind, pure, Except.pure]
  cases parseHeaderFields env S data fs [] [] off <;> simp [Except.map]

section
variable {env : Env} {S : DwarfStructs} {data : Bytes} {c : Fields} {pos : Nat}

theorem phf_plain (k : Con) (hk : ∀ cond t e, k ≠ .ifThenElse cond t e) :
    parseHeaderField env S data k c pos = Con.parse env data k c pos := by
  unfold parseHeaderField
  split
  · exact absurd rfl (hk _ _ _)
  · rfl

end

abbrev hdrRd (env : Env) (S : DwarfStructs) (c : Con) : Rd := fun data => parseHeaderField env S data c
abbrev hdrRdF (env : Env) (S : DwarfStructs) (fs : ConFields) : RdF := fun data => parseHeaderFields env S data fs

section
variable {env : Env} {S : DwarfStructs} {obj ctx c1 c2 obj' : Fields} {pos p1 p2 : Nat} {inp mid out : Bytes} {v : Val}

theorem _root_.PyElf.Proofs.Engine.ReadsF.hnil : ReadsF (hdrRdF env S .nil) obj ctx pos inp obj pos inp ctx :=
  ⟨fun hd => ⟨by show parseHeaderFields env S _ .nil obj ctx pos = _; rw [parseHeaderFields], hd⟩⟩

theorem _root_.PyElf.Proofs.Engine.ReadsF.hnamed {nm : String} {c : Con} {rest : ConFields}
    (h1 : Reads (hdrRd env S c) ctx pos inp v p1 mid c1)
    (h2 : ReadsF (hdrRdF env S rest) (Fields.set obj nm v) (Fields.set c1 nm v) p1 mid obj' p2 out c2) :
    ReadsF (hdrRdF env S (.cons (some nm) false c rest)) obj ctx pos inp obj' p2 out c2 :=
  ReadsF.seq (upd := fun o v => Fields.set o nm v) (upd' := fun o v => Fields.set o nm v)
    (fun data => by
      show parseHeaderFields env S data (.cons (some nm) false c rest) obj ctx pos
        = parseHeaderField env S data c ctx pos >>= _
      simp only [parseHeaderFields, Bool.false_eq_true, if_false]
      cases parseHeaderField env S data c ctx pos <;> rfl) h1 h2

def isFormattedArr : Con → Bool
  | .ifThenElse _ (.prefixed _ (.formatted _)) _ => true
  | _ => false

theorem _root_.PyElf.Proofs.Engine.Reads.hdr {k : Con} {pos' : Nat} {ctx' : Fields}
    (h : Reads (pr env k) ctx pos inp v pos' out ctx') (hk : isFormattedArr k = false := by rfl) :
    Reads (hdrRd env S k) ctx pos inp v pos' out ctx' := by
  refine ⟨fun {data} hd => ⟨?_, (h.ok hd).2⟩⟩
  show parseHeaderField env S data k ctx pos = _
  unfold parseHeaderField
  split
  · simp [isFormattedArr] at hk
  · exact (h.ok hd).1

end

theorem map_byte_toNat (l : List Nat) (hl : ∀ n ∈ l, n < 256) :
    (l.map byte).map (fun b => Val.int (b.toNat : Int)) = l.map fun n => Val.int (Int.ofNat n) := by
  induction l with
  | nil => rfl
  | cons a l ih =>
    simp only [List.map_cons, byte_toNat (hl a (by simp))]
    rw [ih (fun n hn => hl n (by simp [hn]))]
    rfl

section
variable {env : Env} {ctx : Fields} {pos : Nat} {out : Bytes} {le : Bool}

theorem _root_.PyElf.Proofs.Engine.Reads.s8 {v : Int} (hlo : -128 ≤ v) (hhi : v < 128) :
    Reads (pr env (.sint 1 le)) ctx pos ([byte (ofSigned 8 v)] ++ out) (.int v) (pos + 1) out ctx :=
  (Reads.sint (n := 1) (Nat.le_refl 1) hlo hhi).as
    (by rw [encNat_one, Nat.mod_eq_of_lt (ofSigned_lt 8 v)]; rfl) rfl rfl

end

def v5e : Expr := .ge (ctx "version") (lit 5)

theorem v5e_eval {c : Fields} {ver : Nat} (hver : Fields.get? c "version" = some (.int (ver : Int))) :
    v5e.eval c .none = .ok (.bool (decide (5 ≤ ver))) :=
  eval_ge_ctx (n := 5) hver

theorem entriesEnc_eq (le fmt64 : Bool) (fmt : List (Nat × Nat)) (es : List (List FieldVal)) :
    entriesEnc le fmt64 fmt es = encUleb es.length ++ es.flatMap (entryEnc le fmt64 (kindsOf fmt)) := rfl

theorem phf_formatted_absent {env : Env} {S : DwarfStructs} {data : Bytes} {c : Fields} {pos ver : Nat} {len : Con}
    {ff : String} (hver : Fields.get? c "version" = some (.int (ver : Int))) (h5 : ¬ ver ≥ 5) :
    parseHeaderField env S data (ifc v5e (.prefixed len (.formatted ff))) c pos = .ok (.none, pos, c) := by
  simp [parseHeaderField, ifc, v5e_eval hver, h5, Val.truthy, bind, Except.bind,
    Engine.parse_value (show Expr.none.eval c Val.none = .ok Val.none from rfl)]

/-- the one field the model interprets itself (`parseHeaderField`; Core's engine has no `FormattedEntry`): this is
    the model's code run on the encoding, not a derivation over the engine's rules -/
theorem phf_v5_entries {env : Env} {cfg : DwarfCfg} {data rest : Bytes} {fmt64 : Bool} {secs : StrSecs}
    {ff : String} {c : Fields} {pos ver : Nat} {fmt : List (Nat × Nat)} {es : List (List FieldVal)}
    (hver : Fields.get? c "version" = some (.int (ver : Int))) (h5 : ver ≥ 5)
    (hosz : cfg.fmt / 8 = offSize fmt64) (hfw : FmtOK fmt) (hc : Fields.get? c ff = some (fmtObs fmt))
    (hes : ∀ e ∈ es, entryWF fmt64 secs (kindsOf fmt) e = true)
    (hd : data.drop pos = entriesEnc cfg.le fmt64 fmt es ++ rest) :
    parseHeaderField env (Spec.dwarfStructs cfg) data (ifc v5e (.prefixed .uleb (.formatted ff))) c pos
      = .ok (.list (es.map (rawRec fmt)), pos + (entriesEnc cfg.le fmt64 fmt es).length, c) := by
  have hd0 : data.drop pos = encUleb es.length ++ (es.flatMap (entryEnc cfg.le fmt64 (kindsOf fmt)) ++ rest) := by
    simpa [entriesEnc_eq, List.append_assoc] using hd
  have hd1 := drop_add_of_drop hd0
  have hev : v5e.eval c .none = .ok (.bool true) := by rw [v5e_eval hver, decide_eq_true h5]
  simp only [parseHeaderField, ifc, hev, bind, Except.bind, Val.truthy, if_true, minLeb_reads.parse hd0,
    Val.asInt, Int.toNat_natCast]
  rw [Engine.arrayLoop_items _ c data (entryEnc cfg.le fmt64 (kindsOf fmt)) (rawRec fmt)
    (fun e => entryWF fmt64 secs (kindsOf fmt) e = true) rest
    (fun e p tail he hde => formattedParse_ok hosz hfw (Fields.getR_of_get? hc) he hde) es _ [] hes hd1]
  simp [entriesEnc_eq, Nat.add_assoc]

theorem _root_.PyElf.Proofs.Engine.Reads.entries {env : Env} {cfg : DwarfCfg} {ctx : Fields} {pos : Nat} {out : Bytes}
    {fmt64 : Bool} {secs : StrSecs} {ff : String} {ver : Nat} {fmt : List (Nat × Nat)} {es : List (List FieldVal)}
    (hver : Fields.get? ctx "version" = some (.int (ver : Int))) (hosz : cfg.fmt / 8 = offSize fmt64)
    (ht : ver ≥ 5 → TableFit fmt64 secs fmt es) (hc : ver ≥ 5 → Fields.get? ctx ff = some (fmtObs fmt)) :
    Reads (hdrRd env (Spec.dwarfStructs cfg) (ifc v5e (.prefixed .uleb (.formatted ff)))) ctx pos
      ((if ver ≥ 5 then entriesEnc cfg.le fmt64 fmt es else []) ++ out)
      (if ver ≥ 5 then .list (es.map (rawRec fmt)) else .none)
      (pos + if ver ≥ 5 then (entriesEnc cfg.le fmt64 fmt es).length else 0) out ctx := by
  by_cases hv : ver ≥ 5
  · simp only [if_pos hv]
    exact .of_ok rfl fun hd => phf_v5_entries (secs := secs) hver hv hosz (ht hv).format (hc hv) (ht hv).entries hd
  · simp only [if_neg hv]
    exact .of_ok rfl fun _ => phf_formatted_absent hver hv

def headerFields (le : Bool) (off : Con) : ConFields :=
  mkFields [
    f "unit_length" (.initialLength le), f "version" (.uint 2 le),
    f "address_size" (ifc v5e (.uint 1 le)), f "segment_selector_size" (ifc v5e (.uint 1 le)),
    f "header_length" off, f "minimum_instruction_length" (.uint 1 le),
    f "maximum_operations_per_instruction" (.ifThenElse (.ge (ctx "version") (lit 4)) (.uint 1 le) (.value (lit 1))),
    f "default_is_stmt" (.uint 1 le), f "line_base" (.sint 1 le), f "line_range" (.uint 1 le),
    f "opcode_base" (.uint 1 le),
    f "standard_opcode_lengths" (.array (.sub (ctx "opcode_base") (lit 1)) (.uint 1 le)),
    f "directory_entry_format" (ifc v5e (.prefixed (.uint 1 le) entryFormatCon)),
    f "directories" (ifc v5e (.prefixed .uleb (.formatted "directory_entry_format"))),
    f "file_name_entry_format" (ifc v5e (.prefixed (.uint 1 le) entryFormatCon)),
    f "file_names" (ifc v5e (.prefixed .uleb (.formatted "file_name_entry_format"))),
    f "include_directory" (ifc (.lt (ctx "version") (lit 5)) (.repeatUntilExcl (.eq .obj (.bytesLit [])) .cstring)),
    f "file_entry" (ifc (.lt (ctx "version") (lit 5)) (.repeatUntilExcl fileStop fileEntryCon))]

theorem S_header (cfg : DwarfCfg) :
    (Spec.dwarfStructs cfg).Dwarf_lineprog_header = .struct (headerFields cfg.le (.uint (cfg.fmt / 8) cfg.le)) := rfl

/-- the Spec's layout (`Header.mid`, `Header.tail`; `hdrEnc_eq`) cut at the field boundaries, one segment per line
    of `headerFields`; a field a version does not have contributes `[]` -/
def hdrEnc (le : Bool) (h : Header) (UL HL osz : Nat) (rest : Bytes) : Bytes :=
  (if h.fmt64 then encNat le 4 0xffffffff ++ encNat le 8 UL else encNat le 4 UL) ++ (encNat le 2 h.version
    ++ ((if h.version ≥ 5 then [byte h.p.asz] else []) ++ ((if h.version ≥ 5 then [byte h.segSel] else [])
    ++ (encNat le osz HL ++ ([byte h.p.minInst] ++ ((if h.version ≥ 4 then [byte h.p.maxOps] else [])
    ++ ([byte h.p.defaultIsStmt] ++ ([byte (ofSigned 8 h.p.lineBase)] ++ ([byte h.p.lineRange]
    ++ ([byte h.p.opcodeBase] ++ (h.p.stdLens.map byte
    ++ ((if h.version ≥ 5 then fmtEnc h.dirFmt else [])
    ++ ((if h.version ≥ 5 then entriesEnc le h.fmt64 h.dirFmt h.dirs else [])
    ++ ((if h.version ≥ 5 then fmtEnc h.fileFmt else [])
    ++ ((if h.version ≥ 5 then entriesEnc le h.fmt64 h.fileFmt h.fileNames else [])
    ++ ((if h.version < 5 then (h.includeDirs.flatMap fun s => s ++ [0]) ++ [0] else [])
    ++ ((if h.version < 5 then h.files.flatMap FileEntry.enc ++ [0] else []) ++ rest)))))))))))))))))

theorem hdrEnc_eq (le : Bool) (h : Header) (UL HL osz : Nat) (rest : Bytes) (hle : h.version ≥ 5 → h.p.le = le) :
    hdrEnc le h UL HL osz rest = (encInitLen le (initLenOf h.fmt64 UL) ++ (encNat le 2 h.version
      ++ ((if h.version ≥ 5 then [byte h.p.asz, byte h.segSel] else []) ++ (encNat le osz HL ++ h.tail)))) ++ rest := by
  have hil : encInitLen le (initLenOf h.fmt64 UL)
      = if h.fmt64 then encNat le 4 0xffffffff ++ encNat le 8 UL else encNat le 4 UL := by
    cases h.fmt64 <;> rfl
  by_cases h5 : h.version ≥ 5
  · have h4 : h.version ≥ 4 := by omega
    have hlt : ¬ h.version < 5 := by omega
    simp [hdrEnc, Header.tail, hil, h5, h4, hlt, hle h5, List.append_assoc]
  · have hlt : h.version < 5 := by omega
    simp [hdrEnc, Header.tail, hil, h5, hlt, List.append_assoc]

/-- the decoded header with its four tables left open: `_parse_line_program_at_offset` rewrites them after the parse -/
def hdrWith (h : Header) (UL HL : Nat) (dirs fns incl fe : Val) : Fields :=
  [("unit_length", .int UL), ("version", .int h.version),
   ("address_size", if h.version ≥ 5 then .int h.p.asz else .none),
   ("segment_selector_size", if h.version ≥ 5 then .int h.segSel else .none),
   ("header_length", .int HL),
   ("minimum_instruction_length", .int h.p.minInst),
   ("maximum_operations_per_instruction", .int h.p.maxOps),
   ("default_is_stmt", .int h.p.defaultIsStmt), ("line_base", .int h.p.lineBase),
   ("line_range", .int h.p.lineRange), ("opcode_base", .int h.p.opcodeBase),
   ("standard_opcode_lengths", .list (h.p.stdLens.map fun n => .int (Int.ofNat n))),
   ("directory_entry_format", if h.version ≥ 5 then fmtObs h.dirFmt else .none), ("directories", dirs),
   ("file_name_entry_format", if h.version ≥ 5 then fmtObs h.fileFmt else .none), ("file_names", fns),
   ("include_directory", incl), ("file_entry", fe)]

section
variable (h : Header) (UL HL : Nat) (a b c d x : Val)

theorem hdrWith_dirFmt : Fields.get? (hdrWith h UL HL a b c d) "directory_entry_format"
    = some (if h.version ≥ 5 then fmtObs h.dirFmt else .none) := by simp [hdrWith, Fields.get?]
theorem hdrWith_fileFmt : Fields.get? (hdrWith h UL HL a b c d) "file_name_entry_format"
    = some (if h.version ≥ 5 then fmtObs h.fileFmt else .none) := by simp [hdrWith, Fields.get?]
theorem hdrWith_dirs : Fields.get? (hdrWith h UL HL a b c d) "directories" = some a := by simp [hdrWith, Fields.get?]
theorem hdrWith_fileNames : Fields.get? (hdrWith h UL HL a b c d) "file_names" = some b := by simp [hdrWith, Fields.get?]
theorem hdrWith_unitLength : Fields.get? (hdrWith h UL HL a b c d) "unit_length" = some (.int UL) := by
  simp [hdrWith, Fields.get?]
theorem hdrWith_version : Fields.get? (hdrWith h UL HL a b c d) "version" = some (.int h.version) := by
  simp [hdrWith, Fields.get?]
theorem hdrWith_headerLength : Fields.get? (hdrWith h UL HL a b c d) "header_length" = some (.int HL) := by
  simp [hdrWith, Fields.get?]
theorem hdrWith_fileEntry : Fields.get? (hdrWith h UL HL a b c d) "file_entry" = some d := by simp [hdrWith, Fields.get?]

theorem hdrWith_set_dirs : Fields.set (hdrWith h UL HL a b c d) "directories" x = hdrWith h UL HL x b c d := by
  simp [hdrWith, Fields.set]
theorem hdrWith_set_fileNames : Fields.set (hdrWith h UL HL a b c d) "file_names" x = hdrWith h UL HL a x c d := by
  simp [hdrWith, Fields.set]
theorem hdrWith_set_incl : Fields.set (hdrWith h UL HL a b c d) "include_directory" x = hdrWith h UL HL a b x d := by
  simp [hdrWith, Fields.set]
theorem hdrWith_set_fileEntry : Fields.set (hdrWith h UL HL a b c d) "file_entry" x = hdrWith h UL HL a b c x := by
  simp [hdrWith, Fields.set]

end

/-- what `struct_parse` delivers: string references are still offsets, a version 5 header has no legacy tables yet -/
def rawHeader (h : Header) (UL HL : Nat) : Fields :=
  hdrWith h UL HL (if h.version ≥ 5 then .list (h.dirs.map (rawRec h.dirFmt)) else .none)
    (if h.version ≥ 5 then .list (h.fileNames.map (rawRec h.fileFmt)) else .none)
    (if h.version < 5 then .list (h.includeDirs.map .bytes) else .none)
    (if h.version < 5 then .list (h.files.map FileEntry.obs) else .none)

theorem observeG_eq (h : Header) (secs : StrSecs) (UL HL : Nat) :
    h.observeG secs UL HL = .record (hdrWith h UL HL
      (if h.version ≥ 5 then .list (h.dirs.map (obsRec secs h.dirFmt)) else .none)
      (if h.version ≥ 5 then .list (h.fileNames.map (obsRec secs h.fileFmt)) else .none)
      (if h.version ≥ 5 then .list (h.dirs.map fun e => Spec.Line.getOrNone (entryObs secs h.dirFmt e) "DW_LNCT_path")
        else .list (h.includeDirs.map .bytes))
      (if h.version ≥ 5 then .list (h.fileNames.map fun e => legacyFile (entryObs secs h.fileFmt e))
        else .list (h.files.map FileEntry.obs))) := by
  simp [Header.observeG, hdrWith, List.map_map, Function.comp_def]
  exact ⟨rfl, rfl⟩

/-- a rule per field, in the order of `headerFields`.  The end and the context left are existential: the rules
    produce them (a sum of eighteen lengths, a context of eighteen assignments and `is64`) and no user needs their shape -/
theorem header_reads {env : Env} {cfg : DwarfCfg} (h : Header) (secs : StrSecs) (UL HL : Nat)
    (hfit : HeaderFit h secs) (henv : h.version ≥ 5 → EnvOK env) (hfmt : cfg.fmt = if h.fmt64 then 64 else 32)
    (hUL : UL < (if h.fmt64 then 2 ^ 64 else 0xFFFFFF00)) (hHL : HL < 256 ^ offSize h.fmt64) (pos : Nat) :
    ∃ pos' ctx', ∀ rest,
      ReadsF (hdrRdF env (Spec.dwarfStructs cfg) (headerFields cfg.le (.uint (offSize h.fmt64) cfg.le))) [] [] pos
        (hdrEnc cfg.le h UL HL (offSize h.fmt64) rest) (rawHeader h UL HL) pos' rest ctx' := by
  have fit := hfit.params
  have hasz : h.p.asz < 256 := by rcases hfit.asz with h | h <;> omega
  have hUL' : if h.fmt64 then UL < 2 ^ 64 else UL < 0xFFFFFF00 := by
    revert hUL; cases h.fmt64 <;> simp
  have hosz := offSize_of_fmt hfmt
  have hcount : ∀ cx, Fields.get? cx "opcode_base" = some (.int h.p.opcodeBase) →
      (Expr.sub (ctx "opcode_base") (lit 1)).eval cx .none = .ok (.int ((h.p.stdLens.map byte).length : Nat)) := by
    intro cx hcx
    have : (h.p.opcodeBase : Int) - 1 = ((h.p.opcodeBase - 1 : Nat) : Int) := by have := fit.opcodeBase.1; omega
    simp [Expr.eval, ctx, lit, Fields.getR_of_get? hcx, Expr.arith, Val.asInt, bind, Except.bind, pure, Except.pure, fit.lensLen, this]
  exact ⟨_, _, fun rest => by
    unfold headerFields hdrEnc
    simp only [mkFields, f]
    refine ReadsF.hnamed (.hdr (.initlen hUL')) <|                                                  -- unit_length
      .hnamed (.hdr (.uint (v := h.version) (by have := hfit.version.2; omega))) <|                                        -- version
      .hnamed (.hdr (.ifc (v5e_eval (by simp [Fields.get?_set])) fun _ => .byte hasz)) <|               -- address_size
      .hnamed (.hdr (.ifc (v5e_eval (by simp [Fields.get?_set])) fun _ => .byte hfit.segSel)) <|               -- segment_selector_size
      .hnamed (.hdr (.uint hHL)) <|                                                                -- header_length
      .hnamed (.hdr (.byte fit.minInst)) <|                                                               -- minimum_instruction_length
      .hnamed (.hdr (.ite_enc (be := []) (ne := 0) (eval_ge_ctx (x := h.version) (by simp [Fields.get?_set]))
        (fun _ => .byte fit.maxOps) fun hn => by rw [fit.maxOps1.resolve_left hn]; exact .value rfl)) <|        -- maximum_operations_per_instruction
      .hnamed (.hdr (.byte fit.isStmt)) <|                                                               -- default_is_stmt
      .hnamed (.hdr (.s8 fit.lineBase.1 fit.lineBase.2)) <|                                                            -- line_base
      .hnamed (.hdr (.byte fit.lineRange)) <|                                                             -- line_range
      .hnamed (.hdr (.byte fit.opcodeBase.2)) <|                                                             -- opcode_base
      .hnamed (.hdr (.byteArray (hcount _ (by simp [Fields.get?_set])))) <|                         -- standard_opcode_lengths
      .hnamed (.hdr (.ifc (v5e_eval (by simp [Fields.get?_set])) fun hv => .fmt (henv hv) (hfit.dirs hv).format)) <|  -- directory_entry_format
      .hnamed (.entries (secs := secs) (ver := h.version) (by simp [Fields.get?_set])
        hosz hfit.dirs fun hv => by simp [Fields.get?_set, hv]) <|                                 -- directories
      .hnamed (.hdr (.ifc (v5e_eval (by simp [Fields.get?_set])) fun hv => .fmt (henv hv) (hfit.fileNames hv).format)) <|  -- file_name_entry_format
      .hnamed (.entries (secs := secs) (ver := h.version) (by simp [Fields.get?_set])
        hosz hfit.fileNames fun hv => by simp [Fields.get?_set, hv]) <|                            -- file_names
      .hnamed (.hdr (.ifc (eval_lt_ctx (x := h.version) (by simp [Fields.get?_set])) fun hv => .cstrings (hfit.includeDirs hv))) <|  -- include_directory
      .hnamed (.hdr (.ifc (eval_lt_ctx (x := h.version) (by simp [Fields.get?_set])) fun hv => .files (hfit.files hv))) <|     -- file_entry
      ReadsF.hnil.as rfl ?_ rfl
    rw [map_byte_toNat _ fit.lens]
    simp [Fields.set, rawHeader, hdrWith]⟩

/-- (where the parse ends is not said: the library does not ask) -/
theorem parseHeader_raw {env : Env} {cfg : DwarfCfg} (h : Header) (secs : StrSecs) (UL HL : Nat)
    (data rest : Bytes) (pos : Nat) (hfit : HeaderFit h secs) (henv : h.version ≥ 5 → EnvOK env)
    (hfmt : cfg.fmt = if h.fmt64 then 64 else 32)
    (hUL : UL < (if h.fmt64 then 2 ^ 64 else 0xFFFFFF00)) (hHL : HL < 256 ^ offSize h.fmt64)
    (hd : data.drop pos = hdrEnc cfg.le h UL HL (offSize h.fmt64) rest) :
    ∃ p, parseHeader env (Spec.dwarfStructs cfg) data pos = .ok (rawHeader h UL HL, p) := by
  obtain ⟨p', c', H⟩ := header_reads (env := env) h secs UL HL hfit henv hfmt hUL hHL pos
  obtain ⟨e, -⟩ := (H rest).ok hd
  have hS := S_header cfg
  rw [offSize_of_fmt hfmt] at hS
  exact ⟨p', by rw [parseHeader_eq _ hS, show parseHeaderFields env _ data _ [] [] pos = _ from e]; rfl⟩

end PyElf.Proofs.Line
