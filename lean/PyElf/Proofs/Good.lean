/-
  `Good len pos r`: a positioned result moves forward and stays inside the data, an error is not the models' `outOfFuel`.
  The two LEB128 loops of the engine are `Good`.
-/
import PyElf.Proofs.EngineErrors
namespace PyElf.Proofs
open PyElf

def Good {α} (len pos : Nat) : R (α × Nat) → Prop
  | .ok (_, p) => pos ≤ p ∧ p ≤ len
  | .error e => e ≠ .outOfFuel

theorem Good.bind {α β} {len pos : Nat} {r : R (α × Nat)} {f : α × Nat → R (β × Nat)} (hr : Good len pos r)
    (hf : ∀ v p, pos ≤ p → p ≤ len → Good len p (f (v, p))) : Good len pos (r >>= f) := by
  cases r with
  | error e => exact hr
  | ok x =>
    obtain ⟨v, p⟩ := x
    have h := hf v p hr.1 hr.2
    show Good len pos (f (v, p))
    cases hfx : f (v, p) with
    | error e => rw [hfx] at h; exact h
    | ok y =>
      obtain ⟨w, q⟩ := y
      rw [hfx] at h
      exact ⟨Nat.le_trans hr.1 h.1, h.2⟩

theorem Good.bindVal {β γ} {len pos : Nat} {x : R γ} {f : γ → R (β × Nat)}
    (hx : ElfErrors.NF x) (hf : ∀ v, Good len pos (f v)) : Good len pos (x >>= f) := by
  cases x with
  | error e => exact hx e rfl
  | ok v => exact hf v

theorem Good.bind_same {α β} {len pos : Nat} {r : R (α × Nat)} {f : α × Nat → R (β × Nat)} (hr : Good len pos r)
    (hf : ∀ v p, ∃ w, f (v, p) = .ok (w, p)) : Good len pos (r >>= f) :=
  hr.bind fun v p _ h => by obtain ⟨w, hw⟩ := hf v p; rw [hw]; exact ⟨Nat.le_refl _, h⟩

theorem Good.only {α} {len pos : Nat} {r : R (α × Nat)} (h : Good len pos r) : ElfErrors.NF r :=
  fun e he => by rw [he] at h; exact h

theorem ulebLoop_good (data : Bytes) : ∀ fuel pos value shift,
    Good data.length pos (ulebLoop data fuel pos value shift) := by
  intro fuel
  induction fuel with
  | zero => intro pos value shift; simp [ulebLoop, Good]
  | succ fuel ih =>
    intro pos value shift
    rw [ulebLoop]
    cases hb : data[pos]? with
    | none => simp [Good]
    | some b =>
      have hlt : pos < data.length := (List.getElem?_eq_some_iff.1 hb).1
      simp only
      split
      · simp only [Good]; omega
      · have := ih (pos + 1) (value ||| (b.toNat &&& 0x7F) <<< shift) (shift + 7)
        cases hr : ulebLoop data fuel (pos + 1) (value ||| (b.toNat &&& 0x7F) <<< shift) (shift + 7) with
        | error e => rw [hr] at this; exact this
        | ok x =>
          obtain ⟨v, p⟩ := x
          rw [hr] at this
          simp only [Good] at this ⊢
          omega

theorem slebLoop_good (data : Bytes) : ∀ fuel pos value shift,
    Good data.length pos (slebLoop data fuel pos value shift) := by
  intro fuel
  induction fuel with
  | zero => intro pos value shift; simp [slebLoop, Good]
  | succ fuel ih =>
    intro pos value shift
    rw [slebLoop]
    cases hb : data[pos]? with
    | none => simp [Good]
    | some b =>
      have hlt : pos < data.length := (List.getElem?_eq_some_iff.1 hb).1
      simp only
      split
      · split <;> (simp only [Good]; omega)
      · have := ih (pos + 1) (value ||| (b.toNat &&& 0x7F) <<< shift) (shift + 7)
        cases hr : slebLoop data fuel (pos + 1) (value ||| (b.toNat &&& 0x7F) <<< shift) (shift + 7) with
        | error e => rw [hr] at this; exact this
        | ok x =>
          obtain ⟨v, p⟩ := x
          rw [hr] at this
          simp only [Good] at this ⊢
          omega

end PyElf.Proofs
