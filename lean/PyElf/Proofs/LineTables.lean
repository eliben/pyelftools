/-
  The tables of a line-number program header, each read back from its Spec encoding: the version 2–4 file table
  (entries up to an empty name), and for version 5 (DWARF 5 §6.2.4.1) the entry formats, the `FormattedEntry`
  struct the library builds at run time from a parsed format (its forms are C04's forms: `form_kindCon`,
  `parse_kind`), the resolution of string references against the string sections (`resolveStrings_ok`), and the
  version 2–4 shaped views the library derives from the version 5 tables.  The header that holds these tables is
  Proofs/LineHeader.lean.  Continues the namespace `PyElf.Proofs.Line` (Proofs/LineFit.lean).
-/
import PyElf.Proofs.LineProgram
import PyElf.Proofs.DieForms
namespace PyElf.Proofs.Line
open PyElf PyElf.Spec PyElf.Spec.Line PyElf.Model.Line PyElf.Proofs PyElf.Proofs.Engine

def fileStop : Expr := .not (.objFld "name")

theorem fileStop_entry (e : FileEntry) (hw : e.WF = true) (c : Fields) :
    (fileStop.eval c e.obs).map Val.truthy = .ok false := by
  simp [fileStop, FileEntry.obs, Expr.eval, Val.getField, Fields.getR, Fields.get?, Val.truthy, FileEntry.name_isEmpty hw,
    bind, Except.bind, pure, Except.pure, Except.map]

theorem fileStop_term (c : Fields) :
    (fileStop.eval c (.record [("name", .bytes [])])).map Val.truthy = .ok true := by
  simp [fileStop, Expr.eval, Val.getField, Fields.getR, Fields.get?, Val.truthy, bind, Except.bind, pure, Except.pure,
    Except.map]

section
variable {env : Env} {cx : Fields} {pos : Nat} {out : Bytes}

/-- the file table ends with an entry whose name is empty; its three numbers are not there -/
theorem fileTerm_reads :
    Reads (pr env fileEntryCon) cx pos ([0] ++ out) (.record [("name", .bytes [])]) (pos + ([0] : Bytes).length) out cx := by
  have hcond : (Expr.truthy (ctx "name")).eval (Fields.set [] "name" (.bytes [])) .none = .ok (.bool false) := by
    simp [Expr.eval, ctx, Fields.set, Fields.getR, Fields.get?, Val.truthy, bind, Except.bind, pure, Except.pure]
  exact (ReadsF.struct (rec := [("name", .bytes [])])
    (.named (.cstring (s := []) (by simp)) <| .emb (.emb_ite (b := false) hcond .emb_value) <| .nil) rfl).as rfl rfl rfl

theorem _root_.PyElf.Proofs.Engine.Reads.files {es : List FileEntry} (hw : ∀ e ∈ es, e.WF = true) :
    Reads (pr env (.repeatUntilExcl fileStop fileEntryCon)) cx pos ((es.flatMap FileEntry.enc ++ [0]) ++ out)
      (.list (es.map FileEntry.obs)) (pos + (es.flatMap FileEntry.enc ++ [0]).length) out cx :=
  (Reads.repeatUntil (term := [0])
    (fun e he _ _ => ⟨FileEntry.reads e (hw e he), fileStop_entry e (hw e he) cx, by rw [FileEntry.enc_length]; omega⟩)
    (fun _ => fileTerm_reads) (fileStop_term cx)).as (by rw [List.append_assoc]) rfl (by rw [List.length_append, Nat.add_assoc])

end

/-- with fuel enough, the Spec's fuelled count is `ulebLen` -/
theorem ulebLenF_eq : ∀ (fuel v : Nat), v ≤ fuel → ulebLenF fuel v = ulebLen v := by
  intro fuel
  induction fuel with
  | zero => intro v hv; unfold ulebLen; simp [ulebLenF]; omega
  | succ fuel ih =>
    intro v hv
    rw [ulebLenF, ulebLen]
    split
    · rfl
    · rw [ih (v / 128) (by omega)]

def minLeb (v : Nat) : Leb := ⟨v, ulebLenF v v⟩

theorem minLeb_wf (v : Nat) : (minLeb v).WF = true := by
  simp [Leb.WF, minLeb, ulebLenF_eq v v (Nat.le_refl v), ulebLen_pos, ulebLen_spec]

theorem encUleb_eq (v : Nat) : encUleb v = (minLeb v).enc := rfl

theorem encUleb_length (v : Nat) : (encUleb v).length = ulebLenF v v := by
  simp [encUleb, encUlebN_length]

theorem minLeb_reads {env : Env} {cx : Fields} {pos : Nat} {out : Bytes} {v : Nat} :
    Reads (pr env .uleb) cx pos (encUleb v ++ out) (.int (v : Int)) (pos + (encUleb v).length) out cx :=
  (Leb.reads (minLeb_wf v)).as rfl rfl (by rw [encUleb_length]; rfl)

/-- what the enum environment must decode; true of the regenerated tables (`TieC05.lnct_names`, `TieC05.form_names`) -/
structure EnvOK (env : Env) : Prop where
  lnct : ∀ ct nm, lnctName ct = some nm → env.enumDecode "ENUM_DW_LNCT" (ct : Int) = some nm
  form : ∀ fc nm k, formOf fc = some (nm, k) → env.enumDecode "ENUM_DW_FORM" (fc : Int) = some nm

/-! entry formats: `PrefixedArray(ubyte, Struct(content_type, form))` -/

def entryFormatCon : Con :=
  st [f "content_type" (enumOf .uleb "ENUM_DW_LNCT" false), f "form" (enumOf .uleb "ENUM_DW_FORM")]

def fmtItem : Nat × Nat → Val := fun (ct, fc) =>
  .record [("content_type", match lnctName ct with | some n => .str n | none => .int ct),
           ("form", match formOf fc with | some (n, _) => .str n | none => .int fc)]

theorem fmtObs_eq (fmt : List (Nat × Nat)) : fmtObs fmt = .list (fmt.map fmtItem) := rfl

theorem fmtItem_contentType (a b : Val) : (Val.record [("content_type", a), ("form", b)]).getField "content_type" = .ok a := by
  simp [Val.getField, Fields.getR, Fields.get?]
theorem fmtItem_form (a b : Val) : (Val.record [("content_type", a), ("form", b)]).getField "form" = .ok b := by
  simp [Val.getField, Fields.getR, Fields.get?]

def pairEnc : Nat × Nat → Bytes := fun (ct, fc) => encUleb ct ++ encUleb fc

theorem fmtEnc_eq (fmt : List (Nat × Nat)) : fmtEnc fmt = [byte fmt.length] ++ fmt.flatMap pairEnc := rfl

section
variable {env : Env} {cx : Fields} {pos : Nat} {out : Bytes}

theorem fmtItem_reads (henv : EnvOK env) {x : Nat × Nat} (hx : itemOK x) :
    Reads (pr env entryFormatCon) cx pos (pairEnc x ++ out) (fmtItem x) (pos + (pairEnc x).length) out cx := by
  obtain ⟨ct, fc⟩ := x
  obtain ⟨nm, fnm, k, hl, hf, -⟩ := hx
  refine (ReadsF.struct (rec := [("content_type", .str nm), ("form", .str fnm)])
    (.named (.enum_named minLeb_reads (henv.lnct ct nm hl)) <|      -- content_type
     .named (.enum_named minLeb_reads (henv.form fc fnm k hf)) <|   -- form
     .nil) rfl).as ?_ ?_ ?_
  · simp [pairEnc, List.append_assoc]
  · simp only [fmtItem, hl, hf]
  · simp [pairEnc, Nat.add_assoc]

theorem _root_.PyElf.Proofs.Engine.Reads.fmt (henv : EnvOK env) {le : Bool} {fmt : List (Nat × Nat)} (hw : FmtOK fmt) :
    Reads (pr env (.prefixed (.uint 1 le) entryFormatCon)) cx pos (fmtEnc fmt ++ out) (fmtObs fmt)
      (pos + (fmtEnc fmt).length) out cx :=
  (Reads.prefixed (.byte hw.len) fun x hx _ _ => fmtItem_reads henv (hw.items x hx)).as
    (by rw [fmtEnc_eq, List.append_assoc]; rfl) (fmtObs_eq fmt) (by rw [fmtEnc_eq, List.length_append, ← Nat.add_assoc]; rfl)

end

/-! `FormattedEntry`: the struct built at run time from the parsed format -/

/-- the parser `Dwarf_dw_form` holds for each form kind an entry format may use -/
def kindCon (le : Bool) (osz : Nat) : FormKind → Con
  | .string => .cstring
  | .lineStrp | .strp | .strpSup => .uint osz le
  | .data n => .uint n le
  | .udata => .uleb
  | .data16 => .array (lit 16) (.uint 1 le)
  | .block => .prefixed .uleb (.uint 1 le)

def clsOfKind (osz : Nat) : FormKind → Spec.C04.Cls
  | .string => .cstr
  | .lineStrp | .strp | .strpSup => .fixed osz
  | .data n => .fixed n
  | .udata => .uleb
  | .data16 => .data16
  | .block => .blockU

theorem kindCon_eq (le : Bool) (osz : Nat) (k : FormKind) : kindCon le osz k = Proofs.C04.clsCon le (clsOfKind osz k) := by
  cases k <;> rfl

/-- the forms of §6.2.4.1 are forms of §7.5.6: same code, same name, same operand encoding -/
theorem formOf_std (c : DwarfCfg) {fc : Nat} {fnm : String} {k : FormKind} (h : formOf fc = some (fnm, k)) :
    fc ∈ Spec.C04.stdFormCodes ∧ Spec.C04.formName fc = some fnm
      ∧ Spec.C04.formClass c fc = some (clsOfKind (c.fmt / 8) k) := by
  unfold formOf at h
  split at h <;> cases h <;> exact ⟨by decide, rfl, rfl⟩

theorem form_kindCon (cfg : DwarfCfg) {fc : Nat} {fnm : String} {k : FormKind} (h : formOf fc = some (fnm, k)) :
    (Spec.dwarfStructs cfg).form fnm = some (kindCon cfg.le (cfg.fmt / 8) k) := by
  obtain ⟨hm, hn, hc⟩ := formOf_std cfg h
  have := Proofs.C04.form_lookup cfg fc hm
  rwa [hn, hc, Option.getD_some, Option.map_some, ← kindCon_eq] at this

theorem kindCon_supported (le : Bool) (osz : Nat) (k : FormKind) : ∀ w, kindCon le osz k ≠ .unsupported w := by
  intro w; cases k <;> simp [kindCon]

/-- a field as the header struct delivers it: string references are still offsets -/
def rawVal : FormKind → FieldVal → Val
  | .string, .str s => .bytes s
  | _, .ref o => .int o
  | _, .fixed v => .int v
  | _, .udata l => .int l.v
  | _, .data16 bs => bytesList bs
  | _, .block _ bs => bytesList bs
  | _, _ => .none

def entryRaw : List (Nat × Nat) → List FieldVal → Fields
  | (ct, fc) :: fs, v :: vs =>
    match lnctName ct, formOf fc with
    | some nm, some (_, k) => (nm, rawVal k v) :: entryRaw fs vs
    | _, _ => []
  | _, _ => []

def fmtCons (le : Bool) (osz : Nat) : List (Nat × Nat) → ConFields
  | [] => .nil
  | (ct, fc) :: fs =>
    match lnctName ct, formOf fc with
    | some nm, some (_, k) => .cons (some nm) false (kindCon le osz k) (fmtCons le osz fs)
    | _, _ => .nil

theorem formattedFields_fmt (cfg : DwarfCfg) :
    ∀ (fmt : List (Nat × Nat)), (∀ x ∈ fmt, itemOK x) →
      formattedFields (Spec.dwarfStructs cfg) (fmt.map fmtItem) = .ok (fmtCons cfg.le (cfg.fmt / 8) fmt) := by
  intro fmt
  induction fmt with
  | nil => intro _; rfl
  | cons x fmt ih =>
    intro hx
    obtain ⟨nm, fnm, k, hl, hf, -⟩ := hx x (by simp)
    obtain ⟨ct, fc⟩ := x
    simp only at hl hf
    -- (the discharger of the `match con with | .unsupported _ => …` equation uses `hsup`)
    have hsup := kindCon_supported cfg.le (cfg.fmt / 8) k
    simp only [List.map_cons, formattedFields, fmtItem, hl, hf, fmtItem_contentType, fmtItem_form, bind, Except.bind, pure,
      Except.pure, fmtCons, form_kindCon cfg hf, ih (fun y hy => hx y (by simp [hy]))]

def opOf : FieldVal → Spec.C04.Operand
  | .str s => .str s
  | .ref o => .nat o
  | .fixed v => .nat v
  | .udata l => .uleb l.n l.v
  | .data16 bs => .bytes16 bs
  | .block lk bs => .blockU lk bs

theorem field_operand {le fmt64 : Bool} {secs : StrSecs} {k : FormKind} {v : FieldVal} (hw : v.WF fmt64 secs k = true) :
    Spec.C04.wfOperand (clsOfKind (offSize fmt64) k) (opOf v) = true
      ∧ v.enc le fmt64 k = Spec.C04.encOperand le (clsOfKind (offSize fmt64) k) (opOf v)
      ∧ rawVal k v = Spec.C04.rawVal (opOf v) := by
  cases k <;> cases v <;> simp only [FieldVal.WF, Bool.false_eq_true] at hw
  case string.str s => exact ⟨by simpa [Spec.C04.wfOperand, clsOfKind, opOf, cstrOk] using hw, rfl, rfl⟩
  case lineStrp.ref o | strp.ref o | strpSup.ref o => exact ⟨(Bool.and_eq_true _ _ ▸ hw).1, rfl, rfl⟩
  case data.fixed n x => exact ⟨hw, rfl, rfl⟩
  case udata.udata l => exact ⟨hw, rfl, rfl⟩
  case data16.data16 bs => exact ⟨hw, rfl, rfl⟩
  case block.block lk bs => exact ⟨hw, rfl, rfl⟩

theorem parse_kind {env : Env} {data rest : Bytes} {pos : Nat} {le fmt64 : Bool} {secs : StrSecs} {c : Fields}
    {k : FormKind} {v : FieldVal} (hw : v.WF fmt64 secs k = true)
    (hd : data.drop pos = v.enc le fmt64 k ++ rest) :
    Con.parse env data (kindCon le (offSize fmt64) k) c pos
      = .ok (rawVal k v, pos + (v.enc le fmt64 k).length, c) := by
  obtain ⟨hwf, henc, hraw⟩ := field_operand (le := le) hw
  rw [kindCon_eq, hraw, henc]
  exact Proofs.C04.operand_roundtrip _ _ hwf (henc ▸ hd)

theorem lnctName_inj {a b : Nat} {n : String} (ha : lnctName a = some n) (hb : lnctName b = some n) : a = b := by
  unfold lnctName at ha hb
  split at ha <;> split at hb <;> first | rfl | (cases ha <;> simp at hb)

def Fresh (fmt : List (Nat × Nat)) (A : Fields) : Prop :=
  ∀ x ∈ fmt, ∀ nm, lnctName x.1 = some nm → Fields.get? A nm = none

theorem Fresh.tail {ct fc : Nat} {fmt : List (Nat × Nat)} {A : Fields} {nm : String} {v : Val}
    (hfr : Fresh ((ct, fc) :: fmt) A) (hnd : (((ct, fc) :: fmt).map (·.1)).Nodup) (hl : lnctName ct = some nm) :
    Fresh fmt (A ++ [(nm, v)]) := by
  intro y hy n hn
  have hne : nm ≠ n := by
    intro e
    subst e
    have : y.1 = ct := lnctName_inj hn hl
    simp only [List.map_cons, List.nodup_cons, List.mem_map] at hnd
    exact hnd.1 ⟨y, hy, this⟩
  rw [Fields.get?_append, hfr y (by simp [hy]) n hn, Fields.get?_cons_ne hne]
  rfl

theorem entryWF_cons {fmt64 : Bool} {secs : StrSecs} {ct fc : Nat} {fmt : List (Nat × Nat)} {vs : List FieldVal}
    {fnm : String} {k : FormKind} (hf : formOf fc = some (fnm, k))
    (hw : entryWF fmt64 secs (kindsOf ((ct, fc) :: fmt)) vs = true) :
    ∃ v vs', vs = v :: vs' ∧ v.WF fmt64 secs k = true ∧ entryWF fmt64 secs (kindsOf fmt) vs' = true := by
  cases vs with
  | nil => simp [kindsOf, hf, entryWF] at hw
  | cons v vs' =>
    simp only [kindsOf, List.map_cons, hf, Option.map_some, entryWF, Bool.and_eq_true] at hw
    exact ⟨v, vs', rfl, hw.1, hw.2⟩

/-- the run-time struct on one encoded entry, by induction over the format with the fields read so far (`A`) general:
    an item is a named field whose name `A` does not hold yet (`Fresh`; a content type occurs once), so that
    `Fields.set` appends, and `parse_kind` reads its value -/
theorem parseFields_fmt {env : Env} {data rest : Bytes} {le fmt64 : Bool} {secs : StrSecs} :
    ∀ (fmt : List (Nat × Nat)) (vs : List FieldVal) (A : Fields) (pos : Nat),
      (∀ x ∈ fmt, itemOK x) → (fmt.map (·.1)).Nodup → Fresh fmt A →
      entryWF fmt64 secs (kindsOf fmt) vs = true →
      data.drop pos = entryEnc le fmt64 (kindsOf fmt) vs ++ rest →
      Con.parseFields env data (fmtCons le (offSize fmt64) fmt) A A pos
        = .ok (A ++ entryRaw fmt vs, pos + (entryEnc le fmt64 (kindsOf fmt) vs).length, A ++ entryRaw fmt vs) := by
  intro fmt
  induction fmt with
  | nil =>
    intro vs A pos _ _ _ hw hd
    cases vs with
    | nil => simp [fmtCons, Engine.parseFields_nil, entryRaw, kindsOf, entryEnc]
    | cons v vs => simp [kindsOf, entryWF] at hw
  | cons x fmt ih =>
    intro vs A pos hx hnd hfr hw hd
    obtain ⟨nm, fnm, k, hl, hf, -⟩ := hx x (by simp)
    obtain ⟨ct, fc⟩ := x
    simp only at hl hf
    obtain ⟨v, vs', rfl, hv, hw'⟩ := entryWF_cons hf hw
    have hd0 : data.drop pos = v.enc le fmt64 k ++ (entryEnc le fmt64 (kindsOf fmt) vs' ++ rest) := by
      simpa [kindsOf, hf, entryEnc, List.append_assoc] using hd
    have hd1 := drop_add_of_drop hd0
    have hnm : Fields.get? A nm = none := hfr (ct, fc) (by simp) nm hl
    simp only [fmtCons, hl, hf]
    rw [Engine.parseFields_named (parse_kind hv hd0), Fields.set_fresh A nm _ hnm]
    rw [ih vs' (A ++ [(nm, rawVal k v)]) _ (fun y hy => hx y (by simp [hy])) (by simpa using (List.nodup_cons.1 hnd).2)
      (hfr.tail hnd hl) hw' hd1]
    simp [entryRaw, hl, hf, kindsOf, entryEnc, List.append_assoc, Nat.add_assoc]

theorem offSize_of_fmt {cfg : DwarfCfg} {fmt64 : Bool} (hfmt : cfg.fmt = if fmt64 then 64 else 32) :
    cfg.fmt / 8 = offSize fmt64 := by
  rw [hfmt]; cases fmt64 <;> rfl

theorem formattedParse_ok {env : Env} {cfg : DwarfCfg} {data rest : Bytes} {fmt64 : Bool} {secs : StrSecs}
    {ff : String} {c : Fields} {pos : Nat} {fmt : List (Nat × Nat)} {vs : List FieldVal}
    (hosz : cfg.fmt / 8 = offSize fmt64) (hfw : FmtOK fmt)
    (hc : Fields.getR c ff = .ok (fmtObs fmt))
    (hw : entryWF fmt64 secs (kindsOf fmt) vs = true)
    (hd : data.drop pos = entryEnc cfg.le fmt64 (kindsOf fmt) vs ++ rest) :
    formattedParse env (Spec.dwarfStructs cfg) data ff pos c
      = .ok (.record (entryRaw fmt vs), pos + (entryEnc cfg.le fmt64 (kindsOf fmt) vs).length, c) := by
  have hfr : Fresh fmt [] := fun _ _ _ _ => rfl
  have := parseFields_fmt (env := env) (data := data) (rest := rest) (le := cfg.le) fmt vs [] pos
    hfw.items hfw.nodup hfr hw hd
  simp only [formattedParse, hc, fmtObs_eq, bind, Except.bind, formattedFields_fmt cfg fmt hfw.items,
    hosz, Engine.parse_struct this]
  simp

def rawRec (fmt : List (Nat × Nat)) (vs : List FieldVal) : Val := .record (entryRaw fmt vs)

/-! `resolve_strings`: strp / line_strp / strp_sup offsets become the strings they designate -/

/-- the model-side view (`Secs`: sections of the running `DWARFInfo`) of the string sections `s` a
    version 5 header refers to: `.debug_line_str` and `.debug_str` are present with those contents, a
    supplementary file's `.debug_str` is attached when the Spec has one, and each fits a `BytesIO`
    (at most `PY_SSIZE_T_MAX` bytes: `stream.seek(offset)` raises OverflowError beyond) -/
structure SecsView (m : Secs) (s : StrSecs) : Prop where
  lineStr : m.lineStr = some s.lineStr
  str : m.str = some s.str
  sup : ∀ b, s.sup = some b → m.sup = some (some b)
  lineStr_len : s.lineStr.length ≤ ssizeMax
  str_len : s.str.length ≤ ssizeMax
  sup_len : ∀ b, s.sup = some b → b.length ≤ ssizeMax

theorem getString_ok {s : Bytes} {o : Nat} (hlen : s.length ≤ ssizeMax)
    (h : (firstNul (s.drop o)).isSome = true) :
    getString (some s) (.int (o : Int)) = .ok (optBytes (firstNul (s.drop o))) := by
  obtain ⟨x, hx⟩ := Option.isSome_iff_exists.1 h
  have hlt := firstNul_drop_lt hx
  have hno : ¬ o > ssizeMax := by omega
  simp [getString, Engine.asNat_nat, bind, Except.bind, hno, parseCStringFromStream_eq, pure, Except.pure]

theorem obs_ref (secs : StrSecs) (k : FormKind) (o : Nat) :
    (FieldVal.ref o).obs secs k = optBytes (resolve secs k o) := by
  cases k <;> simp only [FieldVal.obs] <;> cases resolve secs _ o <;> rfl

theorem getString_lineStrp {m : Secs} {secs : StrSecs} {fmt64 : Bool} {v : FieldVal} (hv : SecsView m secs)
    (hw : v.WF fmt64 secs .lineStrp = true) :
    getString m.lineStr (rawVal .lineStrp v) = .ok (v.obs secs .lineStrp) := by
  cases v with
  | ref o =>
    simp only [FieldVal.WF, Bool.and_eq_true, decide_eq_true_eq, resolve] at hw
    rw [hv.lineStr, rawVal, getString_ok hv.lineStr_len hw.2, obs_ref, resolve]
  | _ => simp [FieldVal.WF] at hw

theorem getString_strp {m : Secs} {secs : StrSecs} {fmt64 : Bool} {v : FieldVal} (hv : SecsView m secs)
    (hw : v.WF fmt64 secs .strp = true) :
    getString m.str (rawVal .strp v) = .ok (v.obs secs .strp) := by
  cases v with
  | ref o =>
    simp only [FieldVal.WF, Bool.and_eq_true, decide_eq_true_eq, resolve] at hw
    rw [hv.str, rawVal, getString_ok hv.str_len hw.2, obs_ref, resolve]
  | _ => simp [FieldVal.WF] at hw

theorem getString_strpSup {m : Secs} {secs : StrSecs} {fmt64 : Bool} {v : FieldVal} (hv : SecsView m secs)
    (hw : v.WF fmt64 secs .strpSup = true) :
    ∃ b, m.sup = some (some b) ∧ getString (some b) (rawVal .strpSup v) = .ok (v.obs secs .strpSup) := by
  cases v with
  | ref o =>
    simp only [FieldVal.WF, Bool.and_eq_true, decide_eq_true_eq, resolve] at hw
    cases hs : secs.sup with
    | none => simp [hs] at hw
    | some b =>
      simp only [hs, Option.bind_some] at hw
      refine ⟨b, hv.sup b hs, ?_⟩
      rw [rawVal, getString_ok (hv.sup_len b hs) hw.2, obs_ref, resolve, hs]
      rfl
  | _ => simp [FieldVal.WF] at hw

theorem raw_eq_obs {fmt64 : Bool} {secs : StrSecs} {k : FormKind} {v : FieldVal} (hw : v.WF fmt64 secs k = true)
    (h1 : k ≠ .lineStrp) (h2 : k ≠ .strp) (h3 : k ≠ .strpSup) : rawVal k v = v.obs secs k := by
  cases k <;> cases v <;> first | rfl | contradiction | (simp [FieldVal.WF] at hw)

theorem replaceValue_map {α : Type} (replacer : Val → R Val) (nm : String) (A : α → Fields) (old new : α → Val)
    (B : α → Fields) :
    ∀ rows : List α, (∀ r ∈ rows, Fields.get? (A r) nm = none) → (∀ r ∈ rows, replacer (old r) = .ok (new r)) →
      replaceValue replacer nm (rows.map fun r => .record (A r ++ (nm, old r) :: B r))
        = .ok (rows.map fun r => .record (A r ++ (nm, new r) :: B r)) := by
  intro rows
  induction rows with
  | nil => intro _ _; rfl
  | cons r rows ih =>
    intro hA hrep
    simp only [List.map_cons, replaceValue, Fields.getR_mid _ _ _ _ (hA r (by simp)), hrep r (by simp),
      ih (fun x hx => hA x (by simp [hx])) (fun x hx => hrep x (by simp [hx])),
      Fields.set_mid _ _ _ _ _ (hA r (by simp)), bind, Except.bind, pure, Except.pure]

theorem valStr_beq (a b : String) : ((Val.str a) == (Val.str b)) = (a == b) := rfl

/-- which of the names `resolve_strings` tests the form of an entry format bears: the name of a string
    reference exactly when its kind is that reference, never one of the DW_FORM_strx* (a finite table) -/
theorem formOf_refNames {fc : Nat} {fnm : String} {k : FormKind} (h : formOf fc = some (fnm, k)) :
    (fnm == "DW_FORM_line_strp") = (k == .lineStrp) ∧ (fnm == "DW_FORM_strp") = (k == .strp)
    ∧ (fnm == "DW_FORM_strp_sup" || fnm == "DW_FORM_GNU_strp_alt") = (k == .strpSup)
    ∧ (fnm == "DW_FORM_strx" || fnm == "DW_FORM_strx1" || fnm == "DW_FORM_strx2" || fnm == "DW_FORM_strx3"
        || fnm == "DW_FORM_strx4") = false := by
  unfold formOf at h
  split at h <;> cases h <;> simp

/-- one iteration of the `for field in lineprog_header[format_field]` loop -/
theorem resolveLoop_step {α : Type} {m : Secs} {secs : StrSecs} {fmt64 : Bool} (hv : SecsView m secs)
    {fc : Nat} {nm fnm : String} {k : FormKind} (hf : formOf fc = some (fnm, k)) (rest : List Val)
    (A : α → Fields) (v : α → FieldVal) (B : α → Fields) (rows : List α)
    (hA : ∀ r ∈ rows, Fields.get? (A r) nm = none) (hw : ∀ r ∈ rows, (v r).WF fmt64 secs k = true) :
    resolveLoop m (.record [("content_type", .str nm), ("form", .str fnm)] :: rest)
        (rows.map fun r => .record (A r ++ (nm, rawVal k (v r)) :: B r))
      = resolveLoop m rest (rows.map fun r => .record (A r ++ (nm, (v r).obs secs k) :: B r)) := by
  obtain ⟨t1, t2, t3, t4⟩ := formOf_refNames hf
  simp only [resolveLoop, fmtItem_form, fmtItem_contentType, bind, Except.bind, pure, Except.pure, valStr_beq, t1, t2, t3, t4]
  by_cases h1 : k = .lineStrp
  · subst h1
    rw [replaceValue_map (getString m.lineStr) nm A (fun r => rawVal .lineStrp (v r))
      (fun r => (v r).obs secs .lineStrp) B rows hA (fun r hr => getString_lineStrp hv (hw r hr))]
    rfl
  by_cases h2 : k = .strp
  · subst h2
    rw [replaceValue_map (getString m.str) nm A (fun r => rawVal .strp (v r))
      (fun r => (v r).obs secs .strp) B rows hA (fun r hr => getString_strp hv (hw r hr))]
    rfl
  by_cases h3 : k = .strpSup
  · subst h3
    cases rows with
    | nil => cases m.sup <;> rfl
    | cons r0 rows0 =>
      -- the supplementary object is attached: the first row's reference resolves in it
      obtain ⟨b, hb, -⟩ := getString_strpSup hv (hw r0 (by simp))
      have := replaceValue_map (getString (some b)) nm A (fun r => rawVal .strpSup (v r))
        (fun r => (v r).obs secs .strpSup) B (r0 :: rows0) hA (fun r hr => by
          obtain ⟨b', hb', h'⟩ := getString_strpSup hv (hw r hr)
          have : b' = b := by rw [hb] at hb'; simpa using hb'.symm
          rw [← this]; exact h')
      simp only [hb, this]
      rfl
  · -- no reference: the value is delivered as it is
    rw [List.map_congr_left (fun r hr => by rw [raw_eq_obs (hw r hr) h1 h2 h3])]
    simp [h1, h2, h3]

/-- the head field of a row (rows are well-formed, so there is one) -/
def hdv (r : Fields × List FieldVal) : FieldVal := r.2.headD (.str [])

/-- the loop of `resolve_strings`, by induction over the format list: with the fields of the format
    prefix already handled collected in `r.1`, the remaining ones go from raw to resolved -/
theorem resolveLoop_rows {m : Secs} {secs : StrSecs} {fmt64 : Bool} (hv : SecsView m secs) :
    ∀ (todo : List (Nat × Nat)) (rows : List (Fields × List FieldVal)),
      (∀ x ∈ todo, itemOK x) → (todo.map (·.1)).Nodup →
      (∀ r ∈ rows, Fresh todo r.1 ∧ entryWF fmt64 secs (kindsOf todo) r.2 = true) →
      resolveLoop m (todo.map fmtItem) (rows.map fun r => .record (r.1 ++ entryRaw todo r.2))
        = .ok (rows.map fun r => .record (r.1 ++ entryObs secs todo r.2)) := by
  intro todo
  induction todo with
  | nil =>
    intro rows _ _ _
    simp [resolveLoop, entryRaw, entryObs]
  | cons x ts ih =>
    intro rows hx hnd hrows
    obtain ⟨nm, fnm, k, hl, hf, -⟩ := hx x (by simp)
    obtain ⟨ct, fc⟩ := x
    simp only at hl hf
    have hshape : ∀ r ∈ rows, ∃ v vs', r.2 = v :: vs' ∧ v.WF fmt64 secs k = true
        ∧ entryWF fmt64 secs (kindsOf ts) vs' = true :=
      fun r hr => entryWF_cons hf (hrows r hr).2
    have e1 : (rows.map fun r => Val.record (r.1 ++ entryRaw ((ct, fc) :: ts) r.2))
        = rows.map fun r => Val.record (r.1 ++ (nm, rawVal k (hdv r)) :: entryRaw ts r.2.tail) :=
      List.map_congr_left fun r hr => by
        obtain ⟨v, vs', h2, -, -⟩ := hshape r hr
        simp [hdv, h2, entryRaw, hl, hf]
    have e2 : (rows.map fun r => Val.record (r.1 ++ entryObs secs ((ct, fc) :: ts) r.2))
        = (rows.map fun r => (r.1 ++ [(nm, (hdv r).obs secs k)], r.2.tail)).map
            fun r => Val.record (r.1 ++ entryObs secs ts r.2) := by
      rw [List.map_map]
      exact List.map_congr_left fun r hr => by
        obtain ⟨v, vs', h2, -, -⟩ := hshape r hr
        simp [hdv, h2, entryObs, hl, hf]
    have e0 : fmtItem (ct, fc) = .record [("content_type", .str nm), ("form", .str fnm)] := by
      simp [fmtItem, hl, hf]
    have hih := ih (rows.map fun r => (r.1 ++ [(nm, (hdv r).obs secs k)], r.2.tail))
      (fun y hy => hx y (by simp [hy])) (by simpa using (List.nodup_cons.1 hnd).2) (by
        intro r' hr'
        obtain ⟨r, hr, rfl⟩ := List.mem_map.1 hr'
        obtain ⟨v, vs', h2, -, hw'⟩ := hshape r hr
        exact ⟨(hrows r hr).1.tail hnd hl, by simpa [h2] using hw'⟩)
    rw [List.map_cons, e0, e1,
      resolveLoop_step hv hf _ (fun r => r.1) hdv (fun r => entryRaw ts r.2.tail) rows
        (fun r hr => (hrows r hr).1 (ct, fc) (by simp) nm hl)
        (fun r hr => by obtain ⟨v, vs', h2, hw, -⟩ := hshape r hr; simpa [hdv, h2] using hw), e2, ← hih, List.map_map]
    congr 1
    exact List.map_congr_left fun r _ => by simp [List.append_assoc]

theorem resolveStrings_ok {m : Secs} {secs : StrSecs} {fmt64 : Bool} (hv : SecsView m secs)
    {hdr : Fields} {ff df : String} {fmt : List (Nat × Nat)} {es : List (List FieldVal)}
    (hfw : FmtOK fmt) (hes : ∀ e ∈ es, entryWF fmt64 secs (kindsOf fmt) e = true)
    (hf : Fields.get? hdr ff = some (fmtObs fmt))
    (hd : Fields.get? hdr df = some (.list (es.map (rawRec fmt)))) :
    resolveStrings m hdr ff df
      = .ok (Fields.set hdr df (.list (es.map fun e => .record (entryObs secs fmt e)))) := by
  obtain ⟨x, xs, hxs⟩ : ∃ x xs, fmt = x :: xs :=
    List.exists_cons_of_ne_nil fun e => absurd hfw.path (by simp [e])
  have hloop := resolveLoop_rows hv fmt (es.map fun e => (([] : Fields), e)) hfw.items hfw.nodup (by
    intro r hr
    obtain ⟨e, he, rfl⟩ := List.mem_map.1 hr
    exact ⟨fun _ _ _ _ => rfl, hes e he⟩)
  simp only [List.map_map, Function.comp_def, List.nil_append] at hloop
  have hf' : Fields.get? hdr ff = some (.list (fmtItem x :: xs.map fmtItem)) := by
    rw [hf, fmtObs_eq, hxs]; rfl
  have hloop' : resolveLoop m (fmtItem x :: xs.map fmtItem) (es.map (rawRec fmt))
      = .ok (es.map fun e => .record (entryObs secs fmt e)) := by
    rw [← hloop, hxs]; rfl
  simp only [resolveStrings, hf', Fields.getR, hd, bind, Except.bind, hloop', pure, Except.pure]

def obsRec (secs : StrSecs) (fmt : List (Nat × Nat)) (vs : List FieldVal) : Val := .record (entryObs secs fmt vs)

theorem path_present (secs : StrSecs) {fmt64 : Bool} :
    ∀ (fmt : List (Nat × Nat)) (vs : List FieldVal), (∀ x ∈ fmt, itemOK x) → 1 ∈ fmt.map (·.1) →
      entryWF fmt64 secs (kindsOf fmt) vs = true →
      ∃ v, Fields.get? (entryObs secs fmt vs) "DW_LNCT_path" = some v := by
  intro fmt
  induction fmt with
  | nil => intro vs _ h1 _; simp at h1
  | cons x fmt ih =>
    intro vs hx h1 hw
    obtain ⟨nm, fnm, k, hl, hf, -⟩ := hx x (by simp)
    obtain ⟨ct, fc⟩ := x
    simp only at hl hf
    obtain ⟨v, vs', rfl, -, hw'⟩ := entryWF_cons hf hw
    simp only [entryObs, hl, hf, Fields.get?]
    by_cases hnm : nm = "DW_LNCT_path"
    · simp [hnm]
    · simp only [hnm, if_false]
      simp only [List.map_cons, List.mem_cons] at h1
      rcases h1 with h1 | h1
      · subst h1; simp [lnctName] at hl; exact absurd hl.symm hnm
      · exact ih vs' (fun y hy => hx y (by simp [hy])) h1 hw'

theorem legacyFileEntry_ok (fs : Fields) : legacyFileEntry (.record fs) = .ok (legacyFile fs) := by
  simp only [legacyFileEntry, Model.Line.getOrNone, legacyFile, Spec.Line.getOrNone, bind, Except.bind, pure,
    Except.pure]
  cases Fields.get? fs "DW_LNCT_path" <;> cases Fields.get? fs "DW_LNCT_directory_index"
    <;> cases Fields.get? fs "DW_LNCT_timestamp" <;> cases Fields.get? fs "DW_LNCT_size" <;> rfl
end PyElf.Proofs.Line
