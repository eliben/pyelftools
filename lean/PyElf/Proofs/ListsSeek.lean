/-
  `stream.seek(offset)` with a Python int, as the list code and `struct_parse` do it, at an offset below 2^63.
-/
import PyElf.Model.Lists
namespace PyElf.Proofs.ListsSeek
open PyElf PyElf.Model.Lists

theorem seekParseInt_nat {n : Nat} (h : n < 2 ^ 63) : seekParseInt (n : Int) = .ok n := by
  unfold seekParseInt
  have h1 : ¬ ((n : Int) < 0) := by omega
  simp [h1, Int.toNat_natCast]
  omega

theorem seekInt_nat {n : Nat} (h : n < 2 ^ 63) : seekInt (n : Int) = .ok n := by
  unfold seekInt
  have h1 : ¬ ((n : Int) < 0) := by omega
  have h2 : ¬ ((n : Int).toNat ≥ 2 ^ 63) := by simpa using h
  rw [if_neg h1, if_neg h2]; simp

end PyElf.Proofs.ListsSeek
