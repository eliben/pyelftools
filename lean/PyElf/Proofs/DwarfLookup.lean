/-
  Python's `bisect_right`, stable `sorted` and `list.insert` on lists of numbers, and on them four notions:
  `Cached` — two parallel lists, the keys sorted, every item the pure result at its key (the shape pyelftools keeps
  twice: `_cu_offsets_map` / `_cu_cache`, `_diemap` / `_dielist`); `Chain P size off cs` — the units `cs` stand back to
  back from `off` to `size` for the parser `P`; `Inv` — a unit cache is `Cached` and holds units of the chain only, which
  every look-up keeps; `Found` — what a search for the unit containing an offset answers.
-/
import PyElf.Model.DwarfLookup
namespace PyElf.Proofs.Lookup
open PyElf PyElf.Spec.Lookup PyElf.Model.Lookup

/-- index-wise sortedness (what `bisect` needs) -/
def SortedKeys (keys : List Nat) : Prop :=
  ∀ (i j ki kj : Nat), i ≤ j → keys[i]? = some ki → keys[j]? = some kj → ki ≤ kj

theorem sortedKeys_of_pairwise {keys : List Nat} (h : keys.Pairwise (· ≤ ·)) : SortedKeys keys := by
  induction keys with
  | nil => intro i j ki kj _ hi; simp at hi
  | cons k ks ih =>
    rw [List.pairwise_cons] at h
    intro i j ki kj hij hi hj
    cases i with
    | zero =>
      cases j with
      | zero => simp at hi hj; omega
      | succ j =>
        simp at hi hj
        have : kj ∈ ks := List.mem_of_getElem? hj
        have := h.1 kj this
        omega
    | succ i =>
      cases j with
      | zero => omega
      | succ j =>
        simp at hi hj
        exact ih h.2 i j ki kj (by omega) hi hj

/-- what `bisect_right` returns on a sorted list: the split point between keys ≤ x and keys > x -/
def IsSplit (keys : List Nat) (x i : Nat) : Prop :=
  i ≤ keys.length ∧ (∀ j k, j < i → keys[j]? = some k → k ≤ x) ∧ (∀ j k, i ≤ j → keys[j]? = some k → x < k)

theorem bisectLoop_spec (keys : List Nat) (x : Nat) (hs : SortedKeys keys) :
    ∀ fuel lo hi, lo ≤ hi → hi ≤ keys.length → hi - lo < fuel →
      (∀ j k, j < lo → keys[j]? = some k → k ≤ x) → (∀ j k, hi ≤ j → keys[j]? = some k → x < k) →
      ∃ i, bisectLoop keys x fuel lo hi = .ok i ∧ IsSplit keys x i := by
  intro fuel
  induction fuel with
  | zero => intro lo hi _ _ h; omega
  | succ fuel ih =>
    intro lo hi hle hlen hf hlo hhi
    unfold bisectLoop
    by_cases hlt : lo < hi
    · simp only [hlt, if_true]
      have hmid : (lo + hi) / 2 < keys.length := by omega
      have hget : keys[(lo + hi) / 2]? = some keys[(lo + hi) / 2] := List.getElem?_eq_getElem hmid
      rw [hget]
      simp only
      by_cases hx : x < keys[(lo + hi) / 2]
      · simp only [hx, if_true]
        apply ih lo ((lo + hi) / 2) (by omega) (by omega) (by omega) hlo
        intro j k hj hk
        have := hs _ _ _ _ hj hget hk
        omega
      · simp only [hx, if_false]
        apply ih ((lo + hi) / 2 + 1) hi (by omega) hlen (by omega) _ hhi
        intro j k hj hk
        have := hs _ _ _ _ (show j ≤ (lo + hi) / 2 by omega) hk hget
        omega
    · simp only [hlt, if_false]
      refine ⟨lo, rfl, by omega, hlo, ?_⟩
      intro j k hj hk
      exact hhi j k (by omega) hk

theorem bisectRight_spec {keys : List Nat} (x : Nat) (hs : SortedKeys keys) :
    ∃ i, bisectRight keys x = .ok i ∧ IsSplit keys x i := by
  unfold bisectRight
  apply bisectLoop_spec keys x hs (keys.length + 1) 0 keys.length (by omega) (by omega) (by omega)
  · intro j k hj; omega
  · intro j k hj hk
    have := (List.getElem?_eq_some_iff.mp hk).1
    omega

theorem isSplit_unique {keys : List Nat} {x i i' : Nat} (h : IsSplit keys x i) (h' : IsSplit keys x i') : i = i' := by
  obtain ⟨hl, ha, hb⟩ := h
  obtain ⟨hl', ha', hb'⟩ := h'
  by_cases hlt : i < i'
  · have hget : keys[i]? = some keys[i] := List.getElem?_eq_getElem (by omega)
    have := ha' i _ hlt hget
    have := hb i _ (Nat.le_refl _) hget
    omega
  · by_cases hgt : i' < i
    · have hget : keys[i']? = some keys[i'] := List.getElem?_eq_getElem (by omega)
      have := ha i' _ hgt hget
      have := hb' i' _ (Nat.le_refl _) hget
      omega
    · omega

theorem mem_insertByKey {α} (key : α → Nat) (e x : α) (l : List α) :
    x ∈ insertByKey key e l ↔ x = e ∨ x ∈ l := by
  induction l with
  | nil => simp [insertByKey]
  | cons y ys ih =>
    unfold insertByKey
    split
    · simp
    · simp [ih, or_left_comm]

theorem mem_pySortBy {α} (key : α → Nat) (x : α) (l : List α) : x ∈ pySortBy key l ↔ x ∈ l := by
  induction l with
  | nil => simp [pySortBy]
  | cons y ys ih =>
    have : pySortBy key (y :: ys) = insertByKey key y (pySortBy key ys) := rfl
    rw [this, mem_insertByKey, ih]; simp

theorem pairwise_insertByKey {α} (key : α → Nat) (e : α) (l : List α)
    (h : l.Pairwise (fun a b => key a ≤ key b)) : (insertByKey key e l).Pairwise (fun a b => key a ≤ key b) := by
  induction l with
  | nil => simp [insertByKey]
  | cons y ys ih =>
    rw [List.pairwise_cons] at h
    unfold insertByKey
    split
    · rename_i hle
      rw [List.pairwise_cons]
      refine ⟨?_, List.pairwise_cons.mpr h⟩
      intro b hb
      rcases List.mem_cons.mp hb with rfl | hb
      · exact hle
      · have := h.1 b hb; omega
    · rename_i hnle
      rw [List.pairwise_cons]
      refine ⟨?_, ih h.2⟩
      intro b hb
      rcases (mem_insertByKey key e b ys).mp hb with rfl | hb
      · omega
      · exact h.1 b hb

theorem pairwise_pySortBy {α} (key : α → Nat) (l : List α) :
    (pySortBy key l).Pairwise (fun a b => key a ≤ key b) := by
  induction l with
  | nil => simp [pySortBy]
  | cons y ys ih => exact pairwise_insertByKey key y _ ih

theorem mem_pyInsert {α} (l : List α) (i : Nat) (x y : α) : y ∈ pyInsert l i x ↔ y = x ∨ y ∈ l := by
  unfold pyInsert
  rw [List.mem_append, List.mem_cons]
  constructor
  · rintro (h | h | h)
    · exact Or.inr (List.mem_of_mem_take h)
    · exact Or.inl h
    · exact Or.inr (List.mem_of_mem_drop h)
  · rintro (h | h)
    · exact Or.inr (Or.inl h)
    · have : y ∈ l.take i ++ l.drop i := by rw [List.take_append_drop]; exact h
      rcases List.mem_append.mp this with h | h
      · exact Or.inl h
      · exact Or.inr (Or.inr h)

theorem pairwise_pyInsert {keys : List Nat} {x i : Nat} (hs : keys.Pairwise (· ≤ ·)) (hsp : IsSplit keys x i) :
    (pyInsert keys i x).Pairwise (· ≤ ·) := by
  obtain ⟨_, hle, hgt⟩ := hsp
  have hsplit : (keys.take i ++ keys.drop i).Pairwise (· ≤ ·) := by rw [List.take_append_drop]; exact hs
  rw [List.pairwise_append] at hsplit
  obtain ⟨ht, hd, hcross⟩ := hsplit
  have hta : ∀ a ∈ keys.take i, a ≤ x := by
    intro a ha
    obtain ⟨j, hj⟩ := List.mem_iff_getElem?.mp ha
    rw [List.getElem?_take] at hj
    split at hj
    · rename_i hji; exact hle j a hji hj
    · cases hj
  have hdb : ∀ b ∈ keys.drop i, x < b := by
    intro b hb
    obtain ⟨j, hj⟩ := List.mem_iff_getElem?.mp hb
    rw [List.getElem?_drop] at hj
    exact hgt (i + j) b (by omega) hj
  unfold pyInsert
  rw [List.pairwise_append, List.pairwise_cons]
  refine ⟨ht, ⟨fun b hb => Nat.le_of_lt (hdb b hb), hd⟩, ?_⟩
  intro a ha b hb
  rcases List.mem_cons.mp hb with rfl | hb
  · exact hta a ha
  · exact hcross a ha b hb

/-- the cache pyelftools keeps twice (`_cu_offsets_map` / `_cu_cache` of a `DWARFInfo`, `_diemap` / `_dielist` of a
    `CompileUnit`): two parallel lists, the keys sorted, a lookup by `bisect_right` and an insertion at the split point
    it finds; every item is the pure result `P` at its key -/
structure Cached {V : Type} (key : V → Nat) (P : Nat → R V) (keys : List Nat) (items : List V) : Prop where
  par : keys = items.map key
  sorted : keys.Pairwise (· ≤ ·)
  pure : ∀ v ∈ items, P (key v) = .ok v

section
variable {V : Type} {key : V → Nat} {P : Nat → R V} {keys : List Nat} {items : List V}

theorem Cached.bisect (h : Cached key P keys items) (o : Nat) : ∃ i, bisectRight keys o = .ok i ∧ IsSplit keys o i :=
  bisectRight_spec o (sortedKeys_of_pairwise h.sorted)

theorem Cached.item (h : Cached key P keys items) {j k : Nat} (hk : keys[j]? = some k) :
    ∃ v, items[j]? = some v ∧ v ∈ items ∧ key v = k ∧ P k = .ok v := by
  rw [h.par, List.getElem?_map] at hk
  cases hv : items[j]? with
  | none => rw [hv] at hk; cases hk
  | some v =>
    rw [hv] at hk
    injection hk with hk
    have hm : v ∈ items := List.mem_of_getElem? hv
    exact ⟨v, rfl, hm, hk, hk ▸ h.pure v hm⟩

theorem Cached.insert (h : Cached key P keys items) {o i : Nat} {v : V} (hsp : IsSplit keys o i) (hP : P o = .ok v)
    (hk : key v = o) : Cached key P (pyInsert keys i o) (pyInsert items i v) where
  par := by simp [pyInsert, h.par, List.map_take, List.map_drop, hk]
  sorted := pairwise_pyInsert h.sorted hsp
  pure := by
    intro v' hv'
    rcases (mem_pyInsert _ _ _ _).mp hv' with rfl | hv'
    · rw [hk]; exact hP
    · exact h.pure v' hv'

end

/-- the units of a section as the pure parser `P` sees them: starting at `o`, each unit is
    parsed at the end of the previous one and the last one ends at `size` -/
def Chain (P : Nat → R CU) (size : Nat) : Nat → List CU → Prop
  | o, [] => o = size
  | o, c :: cs => o < size ∧ P o = .ok c ∧ ∃ sz, c.size = .ok sz ∧ 0 < sz ∧ Chain P size (o + sz) cs

theorem chain_suffix {P : Nat → R CU} {size : Nat} (hPo : ∀ o c, P o = .ok c → c.cuOffset = o) :
    ∀ (cs : List CU) (o : Nat), Chain P size o cs → ∀ c ∈ cs, ∃ cs', Chain P size c.cuOffset cs' ∧ ∀ y ∈ cs', y ∈ cs := by
  intro cs
  induction cs with
  | nil => intro o _ c hc; cases hc
  | cons d cs ih =>
    intro o hch c hc
    rcases List.mem_cons.mp hc with rfl | hc
    · have : c.cuOffset = o := hPo o c hch.2.1
      rw [this]
      exact ⟨c :: cs, hch, fun y hy => hy⟩
    · obtain ⟨_, _, sz, _, _, hrest⟩ := hch
      obtain ⟨cs', h1, h2⟩ := ih (o + sz) hrest c hc
      exact ⟨cs', h1, fun y hy => List.mem_cons_of_mem _ (h2 y hy)⟩

theorem chain_length {P : Nat → R CU} {size : Nat} : ∀ (l : List CU) (o : Nat), Chain P size o l → o + l.length ≤ size
  | [], o, h => by simp [Chain] at h; simp [h]
  | c :: l, o, h => by
    obtain ⟨_, _, sz, _, hpos, hrest⟩ := h
    have := chain_length l _ hrest
    simp only [List.length_cons]; omega

theorem chain_mem {P : Nat → R CU} {size : Nat} (hPo : ∀ o c, P o = .ok c → c.cuOffset = o) :
    ∀ (cs : List CU) (o : Nat), Chain P size o cs → ∀ c ∈ cs,
      o ≤ c.cuOffset ∧ P c.cuOffset = .ok c ∧ ∃ sz, c.size = .ok sz ∧ 0 < sz ∧ c.cuOffset + sz ≤ size := by
  intro cs
  induction cs with
  | nil => intro o _ c hc; cases hc
  | cons d cs ih =>
    intro o hch c hc
    obtain ⟨hos, hP, sz, hsz, hpos, hrest⟩ := hch
    rcases List.mem_cons.mp hc with rfl | hc
    · have hco : c.cuOffset = o := hPo o c hP
      refine ⟨by omega, by rw [hco]; exact hP, sz, hsz, hpos, ?_⟩
      have := chain_length cs (o + sz) hrest
      omega
    · obtain ⟨h1, h2, h3⟩ := ih (o + sz) hrest c hc
      exact ⟨by omega, h2, h3⟩

theorem chain_next {P : Nat → R CU} {size : Nat} (hPo : ∀ o c, P o = .ok c → c.cuOffset = o) :
    ∀ (cs : List CU) (o : Nat), Chain P size o cs → ∀ c ∈ cs, ∀ sz, c.size = .ok sz →
      c.cuOffset + sz = size ∨ ∃ c' ∈ cs, c'.cuOffset = c.cuOffset + sz := by
  intro cs
  induction cs with
  | nil => intro o _ c hc; cases hc
  | cons d cs ih =>
    intro o hch c hc sz hsz
    obtain ⟨hos, hP, szd, hszd, hpos, hrest⟩ := hch
    rcases List.mem_cons.mp hc with rfl | hc
    · have hco : c.cuOffset = o := hPo o c hP
      rw [hsz] at hszd; injection hszd with hszd; subst hszd
      cases cs with
      | nil => left; simp [Chain] at hrest; omega
      | cons e es =>
        right
        refine ⟨e, by simp, ?_⟩
        rw [hco]; exact hPo _ _ hrest.2.1
    · rcases ih (o + szd) hrest c hc sz hsz with h | ⟨c', hc', h⟩
      · exact Or.inl h
      · exact Or.inr ⟨c', List.mem_cons_of_mem _ hc', h⟩

theorem chain_unique {P : Nat → R CU} {size : Nat} (hPo : ∀ o c, P o = .ok c → c.cuOffset = o) :
    ∀ (cs : List CU) (o : Nat), Chain P size o cs → ∀ c ∈ cs, ∀ c' ∈ cs, ∀ sz sz' x,
      c.size = .ok sz → c'.size = .ok sz' → c.cuOffset ≤ x → x < c.cuOffset + sz →
      c'.cuOffset ≤ x → x < c'.cuOffset + sz' → c = c' := by
  intro cs
  induction cs with
  | nil => intro o _ c hc; cases hc
  | cons d cs ih =>
    intro o hch c hc c' hc' sz sz' x hsz hsz' h1 h2 h3 h4
    obtain ⟨hos, hP, szd, hszd, hpos, hrest⟩ := hch
    have hdo : d.cuOffset = o := hPo o d hP
    rcases List.mem_cons.mp hc with e1 | m1
    · rcases List.mem_cons.mp hc' with e2 | m2
      · rw [e1, e2]
      · have := (chain_mem hPo cs (o + szd) hrest c' m2).1
        rw [e1, hszd] at hsz; injection hsz with hsz
        rw [e1] at h1 h2
        omega
    · rcases List.mem_cons.mp hc' with e2 | m2
      · have := (chain_mem hPo cs (o + szd) hrest c m1).1
        rw [e2, hszd] at hsz'; injection hsz' with hsz'
        rw [e2] at h3 h4
        omega
      · exact ih (o + szd) hrest c m1 c' m2 sz sz' x hsz hsz' h1 h2 h3 h4

theorem chain_covers {P : Nat → R CU} {size : Nat} (hPo : ∀ o c, P o = .ok c → c.cuOffset = o) :
    ∀ (cs : List CU) (o : Nat), Chain P size o cs → ∀ x, o ≤ x → x < size →
      ∃ c ∈ cs, ∃ sz, c.size = .ok sz ∧ c.cuOffset ≤ x ∧ x < c.cuOffset + sz
  | [], o, h, x, h1, h2 => by simp [Chain] at h; omega
  | c :: cs, o, h, x, h1, h2 => by
    obtain ⟨_, hP, sz, hsz, _, hrest⟩ := h
    have hco : c.cuOffset = o := hPo o c hP
    by_cases hx : x < o + sz
    · exact ⟨c, List.mem_cons_self, sz, hsz, by omega, by omega⟩
    · obtain ⟨c', hc', r⟩ := chain_covers hPo cs (o + sz) hrest x (by omega) h2
      exact ⟨c', List.mem_cons_of_mem _ hc', r⟩

/-- what every state of `_cu_offsets_map` / `_cu_cache` reachable by look-ups satisfies -/
structure Inv (P : Nat → R CU) (cs : List CU) (st : CUCache) : Prop where
  par : st.offsets = st.cus.map (·.cuOffset)
  sorted : st.offsets.Pairwise (· ≤ ·)
  pure : ∀ c ∈ st.cus, P c.cuOffset = .ok c
  unit : ∀ c ∈ st.cus, c ∈ cs

theorem inv_empty (P : Nat → R CU) (cs : List CU) : Inv P cs CUCache.empty :=
  { par := rfl, sorted := List.Pairwise.nil,
    pure := fun c hc => by simp [CUCache.empty] at hc,
    unit := fun c hc => by simp [CUCache.empty] at hc }

theorem Inv.cached {P : Nat → R CU} {cs : List CU} {st : CUCache} (h : Inv P cs st) :
    Cached (·.cuOffset) P st.offsets st.cus := ⟨h.par, h.sorted, h.pure⟩

/-- entering a freshly parsed unit at the split point `bisect_right` found keeps the invariant -/
theorem inv_pyInsert {P : Nat → R CU} {cs : List CU} {st : CUCache} {c : CU} {o i : Nat} (hinv : Inv P cs st)
    (hc : c ∈ cs) (hP : P o = .ok c) (hco : c.cuOffset = o) (hsp : IsSplit st.offsets o i) :
    Inv P cs ⟨pyInsert st.offsets i o, pyInsert st.cus i c⟩ :=
  have h := hinv.cached.insert hsp hP hco
  { par := h.par, sorted := h.sorted, pure := h.pure,
    unit := fun c' hc' => ((mem_pyInsert _ _ _ _).mp hc').elim (fun e => e ▸ hc) (hinv.unit c') }

/-- cached units are never evicted -/
def Grows (a b : CUCache) : Prop := ∀ y ∈ a.cus, y ∈ b.cus

theorem Grows.refl (a : CUCache) : Grows a a := fun _ h => h
theorem Grows.trans {a b c : CUCache} (h1 : Grows a b) (h2 : Grows b c) : Grows a c := fun y h => h2 y (h1 y h)

theorem cachedCUAtOffset_spec {P : Nat → R CU} {cs : List CU} {st : CUCache} {c : CU} {o : Nat}
    (hPo : ∀ o c, P o = .ok c → c.cuOffset = o)
    (hinv : Inv P cs st) (hc : c ∈ cs) (hP : P o = .ok c) :
    ∃ st', cachedCUAtOffset P st o = (.ok c, st') ∧ Inv P cs st' ∧ Grows st st' ∧ c ∈ st'.cus := by
  have hco : c.cuOffset = o := hPo o c hP
  obtain ⟨i, hi, hsp⟩ := hinv.cached.bisect o
  -- a hit can only be the entry in front of the split point, and that one is the pure parse at `o`, i.e. `c`; every
  -- other outcome of the two tests is the miss: parse, insert at the split point
  have miss : ∃ st', ((.ok c, ⟨pyInsert st.offsets i o, pyInsert st.cus i c⟩) : R CU × CUCache) = (.ok c, st') ∧
      Inv P cs st' ∧ Grows st st' ∧ c ∈ st'.cus :=
    ⟨_, rfl, inv_pyInsert hinv hc hP hco hsp, fun y h => (mem_pyInsert _ _ _ _).mpr (Or.inr h),
      (mem_pyInsert _ _ _ _).mpr (Or.inl rfl)⟩
  unfold cachedCUAtOffset
  simp only [hi]
  by_cases hi1 : i ≥ 1
  · simp only [hi1, if_true]
    have hlen : i - 1 < st.offsets.length := by have := hsp.1; omega
    have hget : st.offsets[i - 1]? = some st.offsets[i - 1] := List.getElem?_eq_getElem hlen
    rw [hget]
    simp only
    by_cases heq : o = st.offsets[i - 1]
    · have hb : (o == st.offsets[i - 1]) = true := by simp [heq]
      simp only [hb]
      obtain ⟨v, hv, hm, _, hp⟩ := hinv.cached.item hget
      rw [← heq, hP] at hp
      injection hp with hp
      subst hp
      simp only [hv]
      exact ⟨st, rfl, hinv, Grows.refl _, hm⟩
    · have hb : (o == st.offsets[i - 1]) = false := by simp [heq]
      simp only [hb, hP]
      exact miss
  · simp only [hi1, if_false, hP]
    exact miss

/-- what a search for the unit containing `x` among `cs` found, from the state `st`: the unit `c` of size `sz`, and the
    state `st'` it leaves -/
structure Found (P : Nat → R CU) (all cs : List CU) (st : CUCache) (x : Nat) (c : CU) (sz : Nat) (st' : CUCache) :
    Prop where
  mem : c ∈ cs
  size : c.size = .ok sz
  lo : c.cuOffset ≤ x
  hi : x < c.cuOffset + sz
  inv : Inv P all st'
  grows : Grows st st'

theorem containingLoop_spec {P : Nat → R CU} {size x : Nat} {all : List CU}
    (hPo : ∀ o c, P o = .ok c → c.cuOffset = o) (hx : x < size) :
    ∀ (cs : List CU) (o fuel : Nat) (st : CUCache), Chain P size o cs → (∀ c ∈ cs, c ∈ all) → Inv P all st →
      o ≤ x → size - o < fuel →
      ∃ c sz st', containingLoop P size x fuel o st = (.ok c, st') ∧ Found P all cs st x c sz st' := by
  intro cs
  induction cs with
  | nil => intro o fuel st hch; simp [Chain] at hch; omega
  | cons c cs ih =>
    intro o fuel st hch hsub hinv hox hfuel
    obtain ⟨hos, hP, sz, hsz, hpos, hrest⟩ := hch
    -- the unit at `o` is fetched through the cache; it contains `x` or the walk goes on at its end, one unit nearer
    cases fuel with
    | zero => omega
    | succ fuel =>
      have hco : c.cuOffset = o := hPo o c hP
      obtain ⟨st1, hcache, hinv1, hg1, _⟩ := cachedCUAtOffset_spec hPo hinv (hsub c List.mem_cons_self) hP
      unfold containingLoop
      simp only [hos, if_true, hcache, hsz]
      by_cases hin : c.cuOffset ≤ x ∧ x < c.cuOffset + sz
      · simp only [hin, and_self, if_true]
        exact ⟨c, sz, st1, rfl, ⟨List.mem_cons_self, hsz, hin.1, hin.2, hinv1, hg1⟩⟩
      · simp only [hin, if_false]
        obtain ⟨c', sz', st', hr, hf⟩ :=
          ih (o + sz) fuel st1 hrest (fun y hy => hsub y (List.mem_cons_of_mem _ hy)) hinv1 (by omega) (by omega)
        exact ⟨c', sz', st', hr, { hf with mem := List.mem_cons_of_mem _ hf.mem, grows := hg1.trans hf.grows }⟩

theorem getCUContaining_spec {P : Nat → R CU} {size x : Nat} {cs : List CU} {st : CUCache}
    (hPo : ∀ o c, P o = .ok c → c.cuOffset = o) (hch : Chain P size 0 cs) (hinv : Inv P cs st) (hx : x < size) :
    ∃ c sz st', getCUContaining P size st x = (.ok c, st') ∧ Found P cs cs st x c sz st' := by
  obtain ⟨i, hi, hsp⟩ := hinv.cached.bisect x
  unfold getCUContaining
  simp only [hx, not_true_eq_false, if_false, hi]
  by_cases hi0 : i > 0
  · simp only [hi0, if_true]
    have hlen : i - 1 < st.offsets.length := by have := hsp.1; omega
    have hget : st.offsets[i - 1]? = some st.offsets[i - 1] := List.getElem?_eq_getElem hlen
    rw [hget]
    simp only
    have hle := hsp.2.1 (i - 1) _ (by omega) hget
    obtain ⟨v, _, hm, hoff, _⟩ := hinv.cached.item hget
    obtain ⟨cs', hch', hsub⟩ := chain_suffix hPo cs 0 hch _ (hinv.unit _ hm)
    rw [hoff] at hch'
    obtain ⟨c, sz, st', hr, hf⟩ :=
      containingLoop_spec hPo hx cs' _ (size + 1) st hch' hsub hinv hle (by omega)
    exact ⟨c, sz, st', hr, { hf with mem := hsub c hf.mem }⟩
  · simp only [hi0, if_false]
    exact containingLoop_spec hPo hx cs 0 (size + 1) st hch (fun c hc => hc) hinv (Nat.zero_le _) (by omega)

theorem getCUContaining_unit {P : Nat → R CU} {size x sz : Nat} {cs : List CU} {st : CUCache} {c : CU}
    (hPo : ∀ o c, P o = .ok c → c.cuOffset = o) (hch : Chain P size 0 cs) (hinv : Inv P cs st)
    (hc : c ∈ cs) (hsz : c.size = .ok sz) (h1 : c.cuOffset ≤ x) (h2 : x < c.cuOffset + sz) :
    ∃ st', getCUContaining P size st x = (.ok c, st') ∧ Inv P cs st' ∧ Grows st st' := by
  obtain ⟨_, _, sz0, hsz0, _, hb⟩ := chain_mem hPo cs 0 hch c hc
  rw [hsz] at hsz0; injection hsz0 with hsz0; subst hsz0
  obtain ⟨c', sz', st', hr, hf⟩ := getCUContaining_spec hPo hch hinv (show x < size by omega)
  have := chain_unique hPo cs 0 hch c hc c' hf.mem sz sz' x hsz hf.size h1 h2 hf.lo hf.hi
  subst this
  exact ⟨st', hr, hf.inv, hf.grows⟩

theorem getCUContaining_exact {P : Nat → R CU} {size x sz : Nat} {cs : List CU} {st : CUCache} {c : CU}
    (hPo : ∀ o c, P o = .ok c → c.cuOffset = o) (hch : Chain P size 0 cs) (hinv : Inv P cs st)
    (hc : c ∈ cs) (hsz : c.size = .ok sz) (h1 : c.cuOffset ≤ x) (h2 : x < c.cuOffset + sz) :
    ∃ st', getCUContaining P size st x = (.ok c, st') ∧ Inv P cs st' :=
  let ⟨st', h, hi, _⟩ := getCUContaining_unit hPo hch hinv hc hsz h1 h2
  ⟨st', h, hi⟩

theorem getCUAt_exact {P : Nat → R CU} {size : Nat} {cs : List CU} {st : CUCache} {c : CU}
    (hPo : ∀ o c, P o = .ok c → c.cuOffset = o) (hch : Chain P size 0 cs) (hinv : Inv P cs st) (hc : c ∈ cs) :
    ∃ st', getCUAt P size st c.cuOffset = (.ok c, st') ∧ Inv P cs st' ∧ Grows st st' ∧ c ∈ st'.cus := by
  obtain ⟨_, hP, sz, _, hpos, hb⟩ := chain_mem hPo cs 0 hch c hc
  unfold getCUAt
  have : c.cuOffset < size := by omega
  simp only [this, not_true_eq_false, if_false]
  exact cachedCUAtOffset_spec hPo hinv hc hP

theorem getDIEFromLutEntry_exact {P : Nat → R CU} {size sz d : Nat} {cs : List CU} {st : CUCache} {c : CU}
    (hPo : ∀ o c, P o = .ok c → c.cuOffset = o) (hch : Chain P size 0 cs) (hinv : Inv P cs st) (hc : c ∈ cs)
    (hsz : c.size = .ok sz) (h1 : c.cuDieOffset ≤ d) (h2 : d < c.cuOffset + sz) :
    ∃ st', getDIEFromLutEntry P size st c.cuOffset d = (.ok (c, d), st') ∧ Inv P cs st' := by
  obtain ⟨st', hr, hinv', _⟩ := getCUAt_exact hPo hch hinv hc
  unfold getDIEFromLutEntry
  simp only [hr, hsz, h1, h2, and_self, if_true]
  exact ⟨st', rfl, hinv'⟩

end PyElf.Proofs.Lookup
