/-
  A dynamic table that runs off the end of the file without DT_NULL (`TruncView`): every stored entry is still produced,
  the read behind the last raises ELFParseError, and so do the enumerations; a stored DT_STRTAB is still found.  Then the
  same for the `DynamicSegment` of a layout (`SegBase`), by route to the string table.
-/
import PyElf.Proofs.DynamicRoutes
import PyElf.Proofs.EngineErrors
namespace PyElf.Proofs.Dynamic
open PyElf PyElf.Spec PyElf.Spec.Dynamic PyElf.Model PyElf.Model.Dynamic PyElf.Proofs

/-- an `Elf_Dyn` that does not fit before the end of the file: ELFParseError (`d_ptr` is computed from `d_val`,
    which is in the context by then: it cannot fail) -/
theorem structParseAt_dyn_trunc (env : Env) (le : Bool) (w : Nat) (tbl : String) (hw : 1 ≤ w) (data : Bytes)
    (pos : Nat) (h : data.length < pos + 2 * w) :
    structParseAt env (dynCon le w tbl) data pos = .error .elfParseError := by
  by_cases hp : pos < 2 ^ 63
  · rw [structParseAt_eq hp]
    refine Engine.structParse_error (ElfErrors.parse_short_of_only (dyn_fixed le w tbl hw) (dyn_sizeof le w tbl)
      (by omega) (by omega) ?_)
    open ElfErrors in
    exact Only.struct <| Only.named (tame_elfParseError rfl _ _ _) fun _ _ _ _ =>
      Only.named (tame_elfParseError rfl _ _ _) fun v p c' _ => Only.named
        (Only.of_eq_ok (a := (v, p, Fields.set c' "d_val" v)) (by
          simp [Con.parse, ctx, Expr.eval, Fields.getR, Fields.get?_set_same, bind, Except.bind, pure, Except.pure]))
        fun _ _ _ _ => Only.ok _
  · exact structParseAt_big (by omega)

/-- the object reads a table holding `tags` after which the file ends (at most a partial entry
    follows) -/
structure TruncView (S : ElfStructs) (data : Bytes) (d : Dyn) (le : Bool) (w : Nat) (tbl : String)
    (tags : List (Int × Nat)) : Prop where
  view : TableView S data d le w tbl tags
  noTerm : hasTerminator tags = false
  ends : data.length < d.offset + tags.length * (2 * w) + 2 * w

section trunc
variable {env : Env} {S : ElfStructs} {data : Bytes} {d : Dyn} {le : Bool} {w : Nat} {tbl : String}
  {tags : List (Int × Nat)} {ifc : FileIfc} {hs : List Val}

theorem getTagRaw_trunc (T : TruncView S data d le w tbl tags) :
    getTagRaw env S data d tags.length = .error .elfParseError := by
  unfold getTagRaw
  simp only [T.view.nonempty, T.view.con, T.view.tagsize, Bool.false_eq_true, if_false]
  rw [structParseAt_dyn_trunc env le w tbl T.view.wpos data _ T.ends]
  rfl

theorem liveTags_noTerm : ∀ {l : List (Int × Nat)}, hasTerminator l = false → liveTags l = l := by
  intro l
  induction l with
  | nil => intro _; rfl
  | cons t l ih =>
    intro h
    simp only [hasTerminator, List.any_cons, Bool.or_eq_false_iff, beq_eq_false_iff_ne, ne_eq] at h
    simp only [liveTags, h.1, if_false]
    rw [ih (by simpa [hasTerminator] using h.2)]

theorem tagFuel_trunc (T : TruncView S data d le w tbl tags) : ∃ k, tagFuel data d = (k + 1) + tags.length :=
  ⟨tagFuel data d - tags.length - 1, by have := tagFuel_ge T.view; omega⟩

theorem firstTagRaw_trunc (T : TruncView S data d le w tbl tags) (hnull : NullIs env tbl)
    (type : Option String) (p : Int → Bool) (hp : ∀ t, tagMatches type (decTag env tbl t) = p t) :
    firstTagRaw env S data d type
      = match tags.find? (fun t => p t.1) with
        | some t => .ok (some (decEntry env tbl t))
        | none => .error .elfParseError := by
  obtain ⟨k, hk⟩ := tagFuel_trunc T
  unfold firstTagRaw
  simp only [T.view.nonempty, Bool.false_eq_true, if_false]
  rw [hk, firstTagRaw_go_run T.view hnull type p hp tags 0 (k + 1) [] (by simp) (ne_null_of_noTerm T.noTerm)]
  cases tags.find? (fun t => p t.1) with
  | some t => rfl
  | none =>
    rw [firstTagRaw.go, Nat.zero_add, getTagRaw_trunc T]
    rfl

theorem getTableOffset_trunc (T : TruncView S data d le w tbl tags) (hnull : NullIs env tbl)
    (SV : SegsView ifc hs) (name : String) (c : Int) (hname : TagIs env tbl name c) :
    getTableOffset env S data ifc d name
      = match firstVal tags c with
        | some a => .ok (some a, mapAddr hs a)
        | none => .error .elfParseError := by
  unfold getTableOffset
  rw [firstTagRaw_trunc T hnull (some name) (fun t => t == c) (by intro t; exact hname t)]
  simp only [firstVal]
  cases hf : tags.find? (fun t => t.1 == c) with
  | none => rfl
  | some t =>
    simp only [bind, Except.bind, Option.map_some, getNat_ptr, addressOffsetFirst_eq ifc hs SV]
    rfl

theorem tags_trunc (T : TruncView S data d le w tbl tags) (hnull : NullIs env tbl)
    {tab : StrTab} {sunw : Bool} {strtab : Bytes}
    (hst : getStringtable env S data ifc d = .ok (some tab)) (hattr : AttrIs env tbl sunw)
    (hserve : Serves data tab strtab) (hstr : StringsOk sunw strtab tags) :
    iterTags env S data ifc d none = .error .elfParseError ∧
    numTags env S data ifc d = .error .elfParseError ∧
    (∀ n (hn : n < tags.length), getTag env S data ifc d n = .ok (obsEntry env tbl sunw strtab tags[n])) ∧
    getTag env S data ifc d tags.length = .error .elfParseError := by
  obtain ⟨k, hk⟩ := tagFuel_trunc T
  have hnn := ne_null_of_noTerm T.noTerm
  refine ⟨?_, ?_, ?_, ?_⟩
  · unfold iterTags foldTags
    simp only [T.view.nonempty, Bool.false_eq_true, if_false, bind, Except.bind, pure, Except.pure]
    rw [hk, foldTags_go_run T.view hnull hst hattr hserve _ tags 0 (k + 1) [] [] (by simp) hnn hstr, Engine.foldlM_cons_ok]
    simp only [Except.bind]
    rw [foldTags.go, Nat.zero_add, getTagRaw_trunc T]
    rfl
  · unfold numTags
    simp only [T.view.nonempty, Bool.false_eq_true, if_false]
    rw [hk, numTags_go_run T.view hnull hst hattr hserve tags 0 (k + 1) [] (by simp) hnn hstr, numTags.go, Nat.zero_add]
    unfold getTag
    rw [getTagRaw_trunc T]
    rfl
  · intro n hn
    unfold getTag
    simp only [getTagRaw_view T.view n hn, bind, Except.bind]
    exact mkTag_view hst hattr hserve _ (hstr _ (List.getElem_mem hn))
  · unfold getTag
    rw [getTagRaw_trunc T]
    rfl

end trunc

section
variable {env : Env} {S : ElfStructs} {data : Bytes} {d : Dyn} {le : Bool} {w : Nat} {tbl : String}
  {tags : List (Int × Nat)} {ifc : FileIfc} {hs : List Val}

theorem getStringtable_absent_trunc (T : TruncView S data d le w tbl tags) (hnull : NullIs env tbl)
    (SV : SegsView ifc hs) (hstrtab : TagIs env tbl "DT_STRTAB" DT_STRTAB) (hnone : d.strtab = none)
    (ha : firstVal tags DT_STRTAB = none) :
    getStringtable env S data ifc d = .error .elfParseError := by
  unfold getStringtable
  simp only [hnone]
  rw [getTableOffset_trunc T hnull SV "DT_STRTAB" DT_STRTAB hstrtab]
  simp [ha, bind, Except.bind]

end

section
variable {env : Env} {d : DynDesc} {full : Bool} {bytes : Bytes} {f : ElfFile} {dy : Dyn}

theorem live_noTerm {d : DynDesc} (h : hasTerminator d.tags = false) : d.live = d.tags := liveTags_noTerm h

theorem truncView_of (X : SegBase env d full bytes f dy) (hnt : hasTerminator d.tags = false)
    (hend : bytes.length < d.dynOff + d.tags.length * (2 * d.w) + 2 * d.w) :
    TruncView f.S f.data dy d.le d.w (dTagTable d.mclass d.solaris) d.tags :=
  ⟨X.view, hnt, by rw [X.data, X.offset]; exact hend⟩

/-- a table that runs off the end still answers `get_table_offset('DT_STRTAB')` when it stores a DT_STRTAB (the search
    stops at it) — as it does whenever the route is the pointer's -/
theorem strOff_trunc (X : SegBase env d full bytes f dy)
    (T : TruncView f.S f.data dy d.le d.w (dTagTable d.mclass d.solaris) d.tags)
    (hnull : NullIs env (dTagTable d.mclass d.solaris))
    (hst : TagIs env (dTagTable d.mclass d.solaris) "DT_STRTAB" DT_STRTAB)
    (hok : d.strOk env full = true) (hr : d.strRoute env full ≠ .byName) (hnone : dy.strtab = none) :
    ∃ p, getTableOffset env f.S f.data (realIfc env f) dy "DT_STRTAB" = .ok (p, d.strPtrOff env) := by
  rw [getTableOffset_trunc T hnull X.segs _ _ hst]
  have hsome : (d.strPtrOff env).isSome = true := by
    unfold DynDesc.strOk at hok
    rcases strRoute_cases env d full with ⟨-, hf, hs⟩ | ⟨-, ⟨o, -, hp⟩ | ⟨h, -⟩ | ⟨h, -⟩⟩
    · obtain ⟨_, -, h⟩ := X.strLink hf hs
      rw [hnone] at h; cases h
    · rw [hp]; rfl
    · exact absurd h hr
    · rw [h] at hok; cases hok
  unfold DynDesc.strPtrOff at hsome ⊢
  rw [live_noTerm T.noTerm] at hsome ⊢
  cases ha : firstVal d.tags DT_STRTAB with
  | none => simp [ha] at hsome
  | some a => exact ⟨_, rfl⟩

end

end PyElf.Proofs.Dynamic
