/-
  C14 over whole files: composition of C01's theorems about opening a byte string that carries an abstract ELF
  description (`Layout d bytes`; Proofs/ElfView.lean, Proofs/ElfFile.lean) with the note walk (Proofs/Notes.lean).
-/
import PyElf.Model.NotesFile
import PyElf.Spec.NotesFile
import PyElf.Proofs.ElfView
import PyElf.Proofs.Notes
namespace PyElf.Proofs.NotesFile
open PyElf PyElf.Spec PyElf.Spec.C14 PyElf.Model PyElf.Model.C14 PyElf.Proofs PyElf.Proofs.Notes
open PyElf.Proofs.C15 (fileOf)

/-- the enum environment names the gABI's SHT_NOTE (7) and PT_NOTE (4) in every machine's table -/
structure EnvNote (env : Env) : Prop where
  sh : ∀ m, env.enumDecode (shTypeTable m) 7 = some "SHT_NOTE"
  pt : ∀ m, env.enumDecode (pTypeTable m) 4 = some "PT_NOTE"

theorem kindOf_note (name : Bytes) : kindOf (.str "SHT_NOTE") name = "NoteSection" := rfl

theorem cfgWf_of_wfZ {env : Env} {d : ElfDesc} (hwf : d.wfZ env = true) : cfgWf d.cfg = true := by
  rcases (wfZ_facts hwf).cls with h | h <;> simp [cfgWf, ElfDesc.cfg, h]

/-- for ANY body: `get_section(i).iter_notes()` on a byte string carrying `d` is `iter_notes` at
    (`sh_offset`, `sh_size`) of the description's section header, with the description's bundle and class -/
theorem fileSectionNotes_reduce {env : Env} (hn : EnvNote env) {d : ElfDesc} {bytes : Bytes}
    (hwf : d.wfZ env = true) (hl : Layout d bytes)
    {i : Nat} {sd : SecDesc} (hsd : d.sections[i]? = some sd)
    (hty : Fields.get? sd.hdr "sh_type" = some (.int 7)) :
    fileSectionNotes env specSF specMC bytes i
      = iterNotes (elfStructs d.cfg) env d.cls bytes (getNatD sd.hdr "sh_offset") (getNatD sd.hdr "sh_size") := by
  obtain ⟨hdr, st, X, -, hopen⟩ := opened hwf hl
  obtain ⟨sh, V⟩ := X.secAt hsd
  have hget := V.get_named hty (hn.sh _)
  unfold fileSectionNotes noteSectionIterNotes
  simp only [hopen, fileOf, bind, Except.bind, hget, kindOf_note, bne_self_eq_false, Bool.false_eq_true, if_false,
    V.offset, V.size]
  rfl

theorem fileSectionNotes_ok {env : Env} (he : EnvOK env) (hn : EnvNote env) {d : ElfDesc} {bytes : Bytes}
    (hwf : d.wfZ env = true) (hl : Layout d bytes)
    {i : Nat} {sd : SecDesc} (hsd : d.sections[i]? = some sd)
    (hty : Fields.get? sd.hdr "sh_type" = some (.int 7))
    (ns : List Note) (hns : ∀ n ∈ ns, n.wf d.cfg = true) (tail : Bytes) (htail : tail.length < 12)
    (hbody : sd.body = some (encodeNotes d.cfg ns ++ tail))
    (hsize : getNatD sd.hdr "sh_size" = (encodeNotes d.cfg ns).length + tail.length) :
    fileSectionNotes env specSF specMC bytes i = .ok (obsNotes d.cfg (getNatD sd.hdr "sh_offset") ns) := by
  have hdrop := body_drop hl (List.mem_of_getElem? hsd) hbody
  rw [List.append_assoc] at hdrop
  rw [fileSectionNotes_reduce hn hwf hl hsd hty, hsize]
  exact iterNotes_drop he d.cfg (cfgWf_of_wfZ hwf) ns hns bytes _ tail.length _ htail hdrop

theorem segKindOf_note : segKindOf (.str "PT_NOTE") = "NoteSegment" := rfl

theorem fileSegmentNotes_reduce {env : Env} (hn : EnvNote env) {d : ElfDesc} {bytes : Bytes} {obs : ElfObs}
    (hwf : d.wfZ env = true) (hl : Layout d bytes) (ho : d.observe env = .ok obs)
    {j : Nat} {p : Fields} (hp : d.segments[j]? = some p)
    (hty : Fields.get? p "p_type" = some (.int 4)) :
    fileSegmentNotes env specSF specMC bytes j
      = iterNotes (elfStructs d.cfg) env d.cls bytes (getNatD p "p_offset") (getNatD p "p_filesz") := by
  obtain ⟨st, X, hopen⟩ := opened_obs hwf hl ho
  obtain ⟨ph, V, -⟩ := X.segAt_obs ho hp
  have hget := V.get_named (v := 4) hty (hn.pt _)
  unfold fileSegmentNotes noteSegmentIterNotes
  simp only [hopen, fileOf, bind, Except.bind, hget, segKindOf_note, bne_self_eq_false, Bool.false_eq_true, if_false,
    V.offset, V.filesz]
  rfl

theorem fileSegmentNotes_ok {env : Env} (he : EnvOK env) (hn : EnvNote env) {d : ElfDesc} {bytes : Bytes} {obs : ElfObs}
    (hwf : d.wfZ env = true) (hl : Layout d bytes) (ho : d.observe env = .ok obs)
    {j : Nat} {p : Fields} (hp : d.segments[j]? = some p)
    (hty : Fields.get? p "p_type" = some (.int 4))
    {sd : SecDesc} (hm : sd ∈ d.sections)
    (ns : List Note) (hns : ∀ n ∈ ns, n.wf d.cfg = true) (pre tail post : Bytes) (htail : tail.length < 12)
    (hbody : sd.body = some (pre ++ (encodeNotes d.cfg ns ++ tail) ++ post))
    (hoff : getNatD p "p_offset" = getNatD sd.hdr "sh_offset" + pre.length)
    (hsize : getNatD p "p_filesz" = (encodeNotes d.cfg ns).length + tail.length) :
    fileSegmentNotes env specSF specMC bytes j = .ok (obsNotes d.cfg (getNatD p "p_offset") ns) := by
  have hdrop := body_drop hl hm hbody
  have hdrop' : bytes.drop (getNatD sd.hdr "sh_offset" + pre.length)
      = encodeNotes d.cfg ns ++ (tail ++ (post ++ bytes.drop (getNatD sd.hdr "sh_offset"
          + (pre ++ (encodeNotes d.cfg ns ++ tail) ++ post).length))) := by
    rw [List.append_assoc, List.append_assoc, List.append_assoc] at hdrop
    exact drop_add_of_drop hdrop
  rw [fileSegmentNotes_reduce hn hwf hl ho hp hty, hsize, hoff]
  exact iterNotes_drop he d.cfg (cfgWf_of_wfZ hwf) ns hns bytes _ tail.length _ htail hdrop'

/-! ### a segment over several sections laid end to end (`.note.gnu.property`, `.note.gnu.build-id`,
    `.note.ABI-tag` … under one PT_NOTE) -/

theorem adjacent_drop {d : ElfDesc} {bytes : Bytes} (hl : Layout d bytes) :
    ∀ (is : List Nat) (off : Nat) (B : Bytes), adjacentBodies d off is = some B →
      bytes.drop off = B ++ bytes.drop (off + B.length) := by
  intro is
  induction is with
  | nil => intro off B h; simp only [adjacentBodies, Option.some.injEq] at h; subst h; simp
  | cons i rest ih =>
    intro off B h
    simp only [adjacentBodies] at h
    cases hs : d.sections[i]? with
    | none => simp [hs] at h
    | some s =>
      cases hb : s.body with
      | none => simp [hs, hb] at h
      | some b =>
        simp only [hs, hb] at h
        split at h
        · rename_i ho
          cases hr : adjacentBodies d (off + b.length) rest with
          | none => simp [hr] at h
          | some B' =>
            simp only [hr, Option.map_some, Option.some.injEq] at h
            subst h
            have h1 := body_drop hl (List.mem_of_getElem? hs) hb
            rw [ho] at h1
            rw [h1, ih _ _ hr, List.length_append, List.append_assoc, Nat.add_assoc]
        · cases h

theorem fileSegmentNotes_adjacent {env : Env} (he : EnvOK env) (hn : EnvNote env) {d : ElfDesc} {bytes : Bytes} {obs : ElfObs}
    (hwf : d.wfZ env = true) (hl : Layout d bytes) (ho : d.observe env = .ok obs)
    {j : Nat} {p : Fields} (hp : d.segments[j]? = some p)
    (hty : Fields.get? p "p_type" = some (.int 4))
    (is : List Nat) (ns : List Note) (hns : ∀ n ∈ ns, n.wf d.cfg = true) (tail : Bytes) (htail : tail.length < 12)
    (hadj : adjacentBodies d (getNatD p "p_offset") is = some (encodeNotes d.cfg ns ++ tail))
    (hsize : getNatD p "p_filesz" = (encodeNotes d.cfg ns).length + tail.length) :
    fileSegmentNotes env specSF specMC bytes j = .ok (obsNotes d.cfg (getNatD p "p_offset") ns) := by
  have hdrop := adjacent_drop hl _ _ _ hadj
  rw [List.append_assoc] at hdrop
  rw [fileSegmentNotes_reduce hn hwf hl ho hp hty, hsize]
  exact iterNotes_drop he d.cfg (cfgWf_of_wfZ hwf) ns hns bytes _ tail.length _ htail hdrop

end PyElf.Proofs.NotesFile
