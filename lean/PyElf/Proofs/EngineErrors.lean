/-
  Which errors the construct engine can raise, on any bytes (namespace `PyElf.Proofs.ElfErrors`, which
  Proofs/ElfErrors.lean continues for the elffile model).  `Only P x`: every error of `x` satisfies `P`, with one rule
  per way of building an `R` computation; `Con.tame` / `TameErr`: the constructs that fail only with ELFParseError
  (`tame_parse`).  With the truncation instance of Proofs/Fixed.lean this gives the error of a fixed-shape structure
  that does not fit into the data, whatever its bytes: `parse_fixed_short` and its `struct_parse` forms (a struct
  with LEB128 or string fields cut inside its encoding goes through `Whole` of Proofs/Cut.lean instead); its
  complement, for structures nothing in which can reject bytes that are there (`Con.sure`), is `parse_fixed_fits`.
  `NF x` is `Only NFE x`: `x` never reports the models' own `outOfFuel`.
-/
import PyElf.Model.Utils
import PyElf.Proofs.Fixed
import PyElf.Proofs.Utils
namespace PyElf.Proofs.ElfErrors
open PyElf PyElf.Spec PyElf.Model PyElf.Proofs

def Only {α : Type} (P : Err → Prop) (x : R α) : Prop := ∀ e, x = .error e → P e

namespace Only
variable {α β : Type} {P : Err → Prop}

theorem ok (a : α) : Only P (.ok a : R α) := by intro e h; cases h
theorem pure (a : α) : Only P (Pure.pure a : R α) := by intro e h; cases h
theorem error {e : Err} (h : P e) : Only P (.error e : R α) := by intro e' h'; cases h'; exact h
theorem throw {e : Err} (h : P e) : Only P (MonadExcept.throw e : R α) := by intro e' h'; cases h'; exact h
theorem bind {x : R α} {f : α → R β} (hx : Only P x) (hf : ∀ a, x = .ok a → Only P (f a)) :
    Only P (x >>= f) := by
  intro e h
  cases x with
  | error e' => cases h; exact hx _ rfl
  | ok a => exact hf a rfl e h
theorem ite {c : Prop} [Decidable c] {a b : R α} (ha : c → Only P a) (hb : ¬c → Only P b) :
    Only P (if c then a else b) := by
  split
  · exact ha ‹_›
  · exact hb ‹_›
theorem mono {Q : Err → Prop} {x : R α} (h : Only P x) (hpq : ∀ e, P e → Q e) : Only Q x :=
  fun e he => hpq e (h e he)
theorem of_eq_ok {x : R α} {a : α} (h : x = .ok a) : Only P x := by rw [h]; exact ok a
/-- `if c then raise e` in the middle of a do-block: what follows runs only when `c` fails -/
theorem guard {c : Prop} [Decidable c] {γ : Type} {e : Err} {f : γ → R β} {rest : R β}
    (he : P e) (h : ¬c → Only P rest) :
    Only P (if c then (MonadExcept.throw e : R γ) >>= f else rest) :=
  ite (fun _ => bind (throw he) (fun _ h' => by cases h')) h
theorem struct {env : Env} {data : Bytes} {fs : ConFields} {ctx : Fields} {pos : Nat}
    (h : Only P (Con.parseFields env data fs [] [] pos)) : Only P (Con.parse env data (.struct fs) ctx pos) := by
  rw [Con.parse]; exact bind h fun _ _ => pure _

theorem named {env : Env} {data : Bytes} {nm : String} {c : Con} {rest : ConFields} {obj ctx : Fields} {pos : Nat}
    (h1 : Only P (Con.parse env data c ctx pos))
    (h2 : ∀ v p c', Con.parse env data c ctx pos = .ok (v, p, c') →
      Only P (Con.parseFields env data rest (Fields.set obj nm v) (Fields.set c' nm v) p)) :
    Only P (Con.parseFields env data (.cons (some nm) false c rest) obj ctx pos) := by
  rw [Con.parseFields]; exact bind h1 fun r hr => h2 r.1 r.2.1 r.2.2 hr

theorem anon {env : Env} {data : Bytes} {c : Con} {rest : ConFields} {obj ctx : Fields} {pos : Nat}
    (h1 : Only P (Con.parse env data c ctx pos))
    (h2 : ∀ v p c', Con.parse env data c ctx pos = .ok (v, p, c') → Only P (Con.parseFields env data rest obj c' p)) :
    Only P (Con.parseFields env data (.cons none false c rest) obj ctx pos) := by
  rw [Con.parseFields]; exact bind h1 fun r hr => h2 r.1 r.2.1 r.2.2 hr
/-- ELFParseError: a value without a name, and no `Pass` default -/
theorem enum {env : Env} {data : Bytes} {sub : Con} {t : String} {pass : Bool} {ctx : Fields} {pos : Nat}
    (hE : P .elfParseError) (h : Only P (Con.parse env data sub ctx pos)) :
    Only P (Con.parse env data (.enum sub t pass) ctx pos) := by
  rw [Con.parse]
  refine bind h ?_
  rintro ⟨v, p, ctx'⟩ _
  have hpass : ∀ w : Val, Only P (if pass = true then Pure.pure (w, p, ctx') else .error .elfParseError : PRes) :=
    fun w => ite (fun _ => pure _) (fun _ => error hE)
  cases v with
  | int z =>
    cases hz : env.enumDecode t z with
    | some s => simp only [hz]; exact pure _
    | none => simp only [hz]; exact hpass _
  | _ => exact hpass _
theorem structParse {env : Env} {c : Con} {data : Bytes} {pos : Nat} {ctx : Fields}
    (h : Only P (Con.parse env data c ctx pos)) : Only P (structParse env c data pos ctx) := by
  unfold _root_.PyElf.structParse
  exact bind h fun _ _ => pure _

/-- the seek of `struct_parse(…, stream_pos)` adds ELFParseError (an offset the stream cannot represent) -/
theorem structParseAt {env : Env} {c : Con} {data : Bytes} {pos : Nat} (hE : P .elfParseError)
    (h : Only P (Con.parse env data c [] pos)) : Only P (structParseAt env c data pos) := by
  unfold _root_.PyElf.Model.structParseAt
  exact ite (fun _ => bind (throw hE) fun _ _ => structParse h) fun _ => structParse h
end Only

def Expr.isCtx : Expr → Bool
  | .ctx _ => true
  | _ => false

mutual
/-- constructs whose parse can only fail by running out of data or on an unnamed enum value
    (`b = true`: also arrays counted by an earlier field, which can add KeyError/TypeError) -/
def Con.tame (b : Bool) : Con → Bool
  | .uint _ _ => true
  | .sint _ _ => true
  | .enum sub _ _ => Con.tame b sub
  | .struct fs => ConFields.tame b fs
  | .array e sub => (e.litNat?.isSome || (b && Expr.isCtx e)) && Con.tame b sub
  | .padding e strict => e.litNat?.isSome && !strict
  | .bytesN e => e.litNat?.isSome
  | _ => false
def ConFields.tame (b : Bool) : ConFields → Bool
  | .nil => true
  | .cons _ embed c rest => !embed && Con.tame b c && ConFields.tame b rest
end

def TameErr (b : Bool) (e : Err) : Prop :=
  e = .elfParseError ∨ (b = true ∧ (e = .keyError ∨ e = .typeError))

theorem readExact_only (b : Bool) (data : Bytes) (pos n : Nat) : Only (TameErr b) (readExact data pos n) := by
  unfold readExact
  simp only
  split
  · exact Only.ok _
  · exact Only.error (Or.inl rfl)

theorem arrayLoop_only {P : Err → Prop} {step : Nat → Fields → PRes}
    (hstep : ∀ p c, Only P (step p c)) :
    ∀ n pos ctx acc, Only P (arrayLoop step n pos ctx acc) := by
  intro n
  induction n with
  | zero => intro pos ctx acc; rw [arrayLoop]; exact Only.ok _
  | succ n ih =>
    intro pos ctx acc
    rw [arrayLoop]
    cases h : step pos ctx with
    | error e => exact Only.error (hstep pos ctx e h)
    | ok r => obtain ⟨v, p, c⟩ := r; exact ih _ _ _

mutual
theorem tame_parse (env : Env) (data : Bytes) (b : Bool) :
    ∀ (c : Con), Con.tame b c = true → ∀ ctx pos, Only (TameErr b) (Con.parse env data c ctx pos)
  | .uint n le, _, ctx, pos => by
      exact Only.bind (readExact_only b data pos n) (fun _ _ => Only.pure _)
  | .sint n le, _, ctx, pos => by
      exact Only.bind (readExact_only b data pos n) (fun _ _ => Only.pure _)
  | .enum sub t pass, hc, ctx, pos =>
      Only.enum (Or.inl rfl) (tame_parse env data b sub (by simpa [Con.tame] using hc) ctx pos)
  | .struct fs, hc, ctx, pos =>
      Only.struct (tame_parseFields env data b fs (by simpa [Con.tame] using hc) [] [] pos)
  | .array e sub, hc, ctx, pos => by
      have h : (e.litNat?.isSome = true ∨ (b = true ∧ Expr.isCtx e = true)) ∧ Con.tame b sub = true := by
        simpa [Con.tame] using hc
      have hloop := fun n => arrayLoop_only (P := TameErr b)
        (step := fun p c => Con.parse env data sub c p)
        (fun p c => tame_parse env data b sub h.2 c p) n pos ctx []
      rcases h.1 with h1 | ⟨hb, h1⟩
      · obtain ⟨n, hn⟩ := litNat?_isSome h1
        rw [parse_array_lit env hn]
        exact hloop n
      · cases e <;> simp [Expr.isCtx] at h1
        rename_i k
        rw [Con.parse]
        simp only [Expr.eval]
        refine Only.bind ?_ (fun v _ => Only.bind ?_ (fun n _ => hloop _))
        · unfold Fields.getR; split
          · exact Only.ok _
          · exact Only.error (Or.inr ⟨hb, Or.inl rfl⟩)
        · unfold Val.asInt; split
          · exact Only.ok _
          · exact Only.ok _
          · exact Only.error (Or.inr ⟨hb, Or.inr rfl⟩)
  | .padding e strict, hc, ctx, pos => by
      have h : e.litNat?.isSome = true ∧ strict = false := by simpa [Con.tame] using hc
      obtain ⟨n, hn⟩ := litNat?_isSome h.1
      obtain ⟨-, rfl⟩ := h
      rw [parse_padding_lit env hn]
      intro e he
      cases hr : readExact data pos n with
      | error e' => rw [hr] at he; cases he; exact readExact_only b data pos n _ hr
      | ok a => rw [hr] at he; cases he
  | .bytesN e, hc, ctx, pos => by
      obtain ⟨n, hn⟩ := litNat?_isSome (e := e) (by simpa [Con.tame] using hc)
      rw [parse_bytesN_lit env hn]
      intro e he
      cases hr : readExact data pos n with
      | error e' => rw [hr] at he; cases he; exact readExact_only b data pos n _ hr
      | ok a => rw [hr] at he; cases he
  | .u24 _, hc, _, _ => by simp [Con.tame] at hc
  | .uleb, hc, _, _ => by simp [Con.tame] at hc
  | .sleb, hc, _, _ => by simp [Con.tame] at hc
  | .cstring, hc, _, _ => by simp [Con.tame] at hc
  | .prefixed _ _, hc, _, _ => by simp [Con.tame] at hc
  | .repeatUntilExcl _ _, hc, _, _ => by simp [Con.tame] at hc
  | .value _, hc, _, _ => by simp [Con.tame] at hc
  | .ifThenElse _ _ _, hc, _, _ => by simp [Con.tame] at hc
  | .switch _ _ _, hc, _, _ => by simp [Con.tame] at hc
  | .noDefault, hc, _, _ => by simp [Con.tame] at hc
  | .bits _, hc, _, _ => by simp [Con.tame] at hc
  | .streamOffset, hc, _, _ => by simp [Con.tame] at hc
  | .initialLength _, hc, _, _ => by simp [Con.tame] at hc
  | .formatted _, hc, _, _ => by simp [Con.tame] at hc
  | .unsupported _, hc, _, _ => by simp [Con.tame] at hc
theorem tame_parseFields (env : Env) (data : Bytes) (b : Bool) :
    ∀ (fs : ConFields), ConFields.tame b fs = true →
      ∀ obj ctx pos, Only (TameErr b) (Con.parseFields env data fs obj ctx pos)
  | .nil, _, obj, ctx, pos => Only.ok _
  | .cons name embed c rest, hc, obj, ctx, pos => by
      have h : (embed = false ∧ Con.tame b c = true) ∧ ConFields.tame b rest = true := by
        simpa [ConFields.tame] using hc
      obtain ⟨⟨rfl, h2⟩, h3⟩ := h
      cases name with
      | none => exact Only.anon (tame_parse env data b c h2 ctx pos) fun _ _ _ _ => tame_parseFields env data b rest h3 _ _ _
      | some nm => exact Only.named (tame_parse env data b c h2 ctx pos) fun _ _ _ _ => tame_parseFields env data b rest h3 _ _ _
end

theorem tameErr_false {e : Err} (h : TameErr false e) : e = .elfParseError := by
  rcases h with h | ⟨h, -⟩
  · exact h
  · cases h

theorem structParse_only {env : Env} {c : Con} {b : Bool} (hc : Con.tame b c = true) (data : Bytes) (pos : Nat) :
    Only (TameErr b) (structParse env c data pos) :=
  Only.structParse (tame_parse env data b c hc [] pos)

theorem structParseAt_only {env : Env} {c : Con} {b : Bool} (hc : Con.tame b c = true) (data : Bytes) (pos : Nat) :
    Only (TameErr b) (structParseAt env c data pos) :=
  Only.structParseAt (Or.inl rfl) (tame_parse env data b c hc [] pos)

/-- Proofs/Fixed.lean says that the parse fails; `ho` says with what -/
theorem parse_short_of_only {env : Env} {c : Con} (hc : c.fixed = true) {n : Nat} (hn : c.sizeof = some n) (h0 : 0 < n)
    {data : Bytes} {pos : Nat} {ctx : Fields} (h : data.length < pos + n)
    (ho : Only (· = .elfParseError) (Con.parse env data c ctx pos)) :
    Con.parse env data c ctx pos = .error .elfParseError := by
  obtain ⟨e, he⟩ := parse_fixed_truncated' env c hc n hn h0 data pos ctx h
  rw [he, ho e he]

theorem tame_elfParseError {env : Env} {c : Con} (ht : Con.tame false c = true) (data : Bytes) (ctx : Fields) (pos : Nat) :
    Only (· = .elfParseError) (Con.parse env data c ctx pos) :=
  (tame_parse env data false c ht ctx pos).mono fun _ => tameErr_false

theorem parse_fixed_short {env : Env} {c : Con} (hc : c.fixed = true) (ht : Con.tame false c = true) {n : Nat}
    (hn : c.sizeof = some n) (h0 : 0 < n) {data : Bytes} {pos : Nat} (ctx : Fields) (h : data.length < pos + n) :
    Con.parse env data c ctx pos = .error .elfParseError :=
  parse_short_of_only hc hn h0 h (tame_elfParseError ht data ctx pos)

theorem structParse_fixed_short {env : Env} {c : Con} (hc : c.fixed = true) (ht : Con.tame false c = true) {n : Nat}
    (hn : c.sizeof = some n) (h0 : 0 < n) {data : Bytes} {pos : Nat} (h : data.length < pos + n) :
    structParse env c data pos = .error .elfParseError :=
  Engine.structParse_error (parse_fixed_short hc ht hn h0 [] h)

/-- wherever `pos` is: inside the file or not, representable by the seek or not -/
theorem structParseAt_fixed_short {env : Env} {c : Con} (hc : c.fixed = true) (ht : Con.tame false c = true) {n : Nat}
    (hn : c.sizeof = some n) (h0 : 0 < n) {data : Bytes} {pos : Nat} (h : data.length < pos + n) :
    structParseAt env c data pos = .error .elfParseError := by
  by_cases hp : pos < 2 ^ 63
  · rw [structParseAt_eq hp, structParse_fixed_short hc ht hn h0 h]
  · exact structParseAt_big (Nat.le_of_not_lt hp)

mutual
/-- no computed `Value`, no `BitStruct`, no `Enum` without the `Pass` default: nothing that can reject bytes that are there -/
def Con.sure : Con → Bool
  | .uint _ _ | .sint _ _ | .u24 _ | .bytesN _ | .padding _ _ => true
  | .enum sub _ pass => pass && Con.sure sub
  | .struct fs => ConFields.sure fs
  | .array _ sub => Con.sure sub
  | _ => false
def ConFields.sure : ConFields → Bool
  | .nil => true
  | .cons _ _ c rest => Con.sure c && ConFields.sure rest
end

def Fits (env : Env) (c : Con) : Prop :=
  Con.sure c = true → ∀ n, c.sizeof = some n → ∀ (data : Bytes) (pos : Nat) (ctx : Fields), pos + n ≤ data.length →
    ∃ v, Con.parse env data c ctx pos = .ok (v, pos + n, ctx)

def FitsF (env : Env) (fs : ConFields) : Prop :=
  ConFields.sure fs = true → ∀ n, fs.sizeof = some n → ∀ (data : Bytes) (pos : Nat) (obj ctx : Fields),
    pos + n ≤ data.length → ∃ obj' ctx', Con.parseFields env data fs obj ctx pos = .ok (obj', pos + n, ctx')

theorem readExact_fits {data : Bytes} {pos n : Nat} (h : pos + n ≤ data.length) :
    readExact data pos n = .ok (readN data pos n) :=
  readExact_of_len (by rw [readN_length]; omega)

theorem fits_list (env : Env) (sub : Con) (s : Nat) (hs : sub.sizeof = some s) (ih : Fits env sub) (hsure : Con.sure sub = true)
    (data : Bytes) (ctx : Fields) : ∀ (k pos : Nat) (acc : List Val), pos + k * s ≤ data.length →
      ∃ v, arrayLoop (fun p c => Con.parse env data sub c p) k pos ctx acc = .ok (v, pos + k * s, ctx)
  | 0, pos, acc, _ => ⟨_, by rw [arrayLoop, Nat.zero_mul, Nat.add_zero]⟩
  | k + 1, pos, acc, h => by
    rw [Nat.succ_mul] at h
    obtain ⟨v, hv⟩ := ih hsure s hs data pos ctx (by omega)
    obtain ⟨w, hw⟩ := fits_list env sub s hs ih hsure data ctx k (pos + s) (v :: acc) (by omega)
    exact ⟨w, by rw [arrayLoop, hv]; simp only; rw [hw, Nat.succ_mul]; congr 3; omega⟩

theorem fits_cases (env : Env) : FixedCases (Fits env) (FitsF env) where
  uint n le := fun _ m hm data pos ctx h => by
    cases (show n = m by simpa [Con.sizeof] using hm)
    exact ⟨_, by rw [Con.parse, readExact_fits h]; rfl⟩
  sint n le _ := fun _ m hm data pos ctx h => by
    cases (show n = m by simpa [Con.sizeof] using hm)
    exact ⟨_, by rw [Con.parse, readExact_fits h]; rfl⟩
  u24 le := fun _ m hm data pos ctx h => by
    cases (show 3 = m by simpa [Con.sizeof] using hm)
    rw [Con.parse, readExact_fits h]
    cases le <;> exact ⟨_, rfl⟩
  bytesN e n hn := fun _ m hm data pos ctx h => by
    cases (show n = m by simpa [Con.sizeof, hn] using hm)
    exact ⟨_, by rw [parse_bytesN_lit env hn, readExact_fits h]; rfl⟩
  padding e n hn := fun _ m hm data pos ctx h => by
    cases (show n = m by simpa [Con.sizeof, hn] using hm)
    exact ⟨_, by rw [parse_padding_lit env hn, readExact_fits h]; rfl⟩
  enum sub t p hc := fun hsure m hm data pos ctx h => by
    have hp : p = true := by simp only [Con.sure, Bool.and_eq_true] at hsure; exact hsure.1
    subst hp
    -- a fixed-shape `Enum` is over `uint` or `sint`: the integer is read, then named or passed through
    cases sub <;> simp only [Con.fixed, Bool.false_eq_true] at hc
    all_goals
      simp only [Con.sizeof, Option.some.injEq] at hm
      subst hm
      rw [Con.parse, Con.parse, readExact_fits h]
      simp only [bind, Except.bind, pure, Except.pure]
      cases env.enumDecode t _ <;> exact ⟨_, rfl⟩
  struct fs ih := fun hsure m hm data pos ctx h => by
    obtain ⟨obj, cx, ho⟩ := ih (by simpa [Con.sure] using hsure) m (by simpa [Con.sizeof] using hm) data pos [] [] h
    exact ⟨_, Engine.parse_struct ho⟩
  array e n sub hn hsub ih := fun hsure m hm data pos ctx h => by
    rw [Con.sizeof] at hm
    obtain ⟨k, s, hk, hs, rfl⟩ := bind2_eq_some hm
    rw [hn] at hk; cases hk
    rw [parse_array_lit env hn]
    exact fits_list env sub s hs ih (by simpa [Con.sure] using hsure) data ctx n pos [] h
  value e := fun hsure => by simp [Con.sure] at hsure
  bits fs := fun hsure => by simp [Con.sure] at hsure
  nil := fun _ m hm data pos obj ctx _ => by
    cases (show 0 = m by simpa [ConFields.sizeof] using hm)
    exact ⟨obj, ctx, Engine.parseFields_nil⟩
  cons name c rest _ ihc ihr := fun hsure m hm data pos obj ctx h => by
    simp only [ConFields.sure, Bool.and_eq_true] at hsure
    rw [ConFields.sizeof] at hm
    obtain ⟨a, b, ha, hb, rfl⟩ := bind2_eq_some hm
    obtain ⟨v, hv⟩ := ihc hsure.1 a ha data pos ctx (by omega)
    cases name with
    | none =>
      obtain ⟨o, cx, ho⟩ := ihr hsure.2 b hb data (pos + a) obj ctx (by omega)
      exact ⟨o, cx, by rw [Engine.parseFields_anon hv, ho, Nat.add_assoc]⟩
    | some nm =>
      obtain ⟨o, cx, ho⟩ := ihr hsure.2 b hb data (pos + a) (Fields.set obj nm v) (Fields.set ctx nm v) (by omega)
      exact ⟨o, cx, by rw [Engine.parseFields_named hv, ho, Nat.add_assoc]⟩

theorem parse_fixed_fits {env : Env} {c : Con} (hc : c.fixed = true) (hs : Con.sure c = true) {n : Nat}
    (hn : c.sizeof = some n) {data : Bytes} {pos : Nat} (ctx : Fields) (h : pos + n ≤ data.length) :
    ∃ v, Con.parse env data c ctx pos = .ok (v, pos + n, ctx) :=
  fixed_con (fits_cases env) c hc hs n hn data pos ctx h

theorem structParse_fixed_fits {env : Env} {c : Con} (hc : c.fixed = true) (hs : Con.sure c = true) {n : Nat}
    (hn : c.sizeof = some n) {data : Bytes} {pos : Nat} (h : pos + n ≤ data.length) :
    ∃ v, structParse env c data pos = .ok (v, pos + n) := by
  obtain ⟨v, hv⟩ := parse_fixed_fits hc hs hn [] h
  exact ⟨v, Engine.structParse_of_parse hv⟩

/-- `outOfFuel` is the models' own error, the mark of a Python loop that would not end -/
abbrev NFE (e : Err) : Prop := e ≠ .outOfFuel
abbrev NF {α : Type} (x : R α) : Prop := Only NFE x

theorem nf_asInt (v : Val) : NF v.asInt := by
  intro e h; cases v <;> simp [Val.asInt] at h <;> subst h <;> decide
theorem nf_asNat (v : Val) : NF v.asNat := by
  unfold Val.asNat
  refine Only.bind (nf_asInt v) (fun n _ => ?_)
  split
  · exact Only.error (by decide)
  · exact Only.ok _

theorem nf_getR (fs : Fields) (k : String) : NF (Fields.getR fs k) := by
  unfold Fields.getR; split
  · exact Only.ok _
  · exact Only.error (by decide)
theorem nf_getField (v : Val) (k : String) : NF (v.getField k) := by
  unfold Val.getField; split
  · exact nf_getR _ _
  · exact Only.error (by decide)
theorem nf_getNat (v : Val) (k : String) : NF (v.getNat k) := by
  unfold Val.getNat
  exact Only.bind (nf_getField v k) (fun _ _ => nf_asNat _)

end PyElf.Proofs.ElfErrors
