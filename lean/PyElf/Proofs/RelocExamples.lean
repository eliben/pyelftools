/-
  C08: concrete abstract ELF images (`Spec.ElfDesc`) for the non-vacuity checks of the whole-file
  theorems in `Props/C08.lean`.  Definitions only (the builder is C15's `exImage`: file header, section
  header table, bodies three bytes apart, no program headers, `e_machine = 21` EM_PPC64, ET_DYN).
  The file continues `namespace PyElf.Proofs.RelocFile`, where `exRelFile` has its name from.
-/
import PyElf.Spec.RelocFile
import PyElf.Proofs.GnuExamples
namespace PyElf.Proofs.RelocFile
open PyElf PyElf.Spec PyElf.Spec.C08 PyElf.Proofs.C15

/-- ".s", ".symtab", ".debug_info", ".rela.debug_info", ".relr.dyn" and a section-name table holding them at
    1, 4, 12, 24, 41 -/
def nS : Bytes := [0x2e, 0x73]
def nSymtab : Bytes := [0x2e, 0x73, 0x79, 0x6d, 0x74, 0x61, 0x62]
def nDebugInfo : Bytes := [0x2e, 0x64, 0x65, 0x62, 0x75, 0x67, 0x5f, 0x69, 0x6e, 0x66, 0x6f]
def nRelaDebugInfo : Bytes := dotRela ++ nDebugInfo
def nRelrDyn : Bytes := [0x2e, 0x72, 0x65, 0x6c, 0x72, 0x2e, 0x64, 0x79, 0x6e]
def exRelNames : Bytes := [0] ++ nS ++ [0] ++ nSymtab ++ [0] ++ nDebugInfo ++ [0] ++ nRelaDebugInfo ++ [0] ++ nRelrDyn ++ [0]

/-- R_PPC64_ADDR32 at 0 (S + A = 0x1005), R_PPC64_REL32 at 4 (S + A − P = 0x0ffb), R_PPC64_ADDR64 at 8 with a negative
    addend against symbol 2 -/
def exRelocs : List RelEntry :=
  [{ offset := 0, sym := 1, type := 1, addend := 5 }, { offset := 4, sym := 1, type := 26, addend := -1 },
   { offset := 8, sym := 2, type := 38, addend := -16 }]
def exSyms : List Nat := [0, 0x1000, 0xffffffffffffffff]
def exDebug : Bytes := [1, 2, 3, 4, 5, 6, 7, 8, 9, 10, 11, 12, 13, 14, 15, 16, 17]

/-- a 64-bit big-endian relocatable-style image: null, `.s` (section names, also the symbol table's string table),
    `.symtab` (value-only symbols), `.debug_info`, `.rela.debug_info` (sh_link = 2,
    sh_info = 3), `.relr.dyn` -/
def exRelFile : ElfDesc :=
  exImage 64 false
    [{ name := [], nameOff := 0, ty := 0 },
     { name := nS, nameOff := 1, ty := 3, body := some exRelNames },
     { name := nSymtab, nameOff := 4, ty := 2, link := 1, info := 1, entsize := 24,
       body := some (exSyms.flatMap (rel_encSym false 64)) },
     { name := nDebugInfo, nameOff := 12, ty := 1, body := some exDebug },
     { name := nRelaDebugInfo, nameOff := 24, ty := 4, link := 2, info := 3, entsize := 24,
       body := some (encRelTable ⟨false, 64, false⟩ true exRelocs) },
     { name := nRelrDyn, nameOff := 41, ty := 19, entsize := 8,
       body := some (encRelr false 8 [0x1000, 0x7, 0x2001]) }] 1

end PyElf.Proofs.RelocFile
