/-
  One entry (`DIE._parse_DIE`, `_resolve_indirect`) on `encEntry`, in a unit context with `UnitOK`.  The attribute loop is
  walked pair by pair (`attrLoop_step`; declaration and values go in step, hence the `zip` lemmas), each value translated
  as `TransOK` says, and entered in the insertion-ordered dict `attrSet`.
-/
import PyElf.Core.Construct
import PyElf.Spec.DieTree
import PyElf.Spec.DwarfStructs
import PyElf.Model.Die
import PyElf.Proofs.Primitives
import PyElf.Proofs.Engine
import PyElf.Proofs.DieForms
import PyElf.Proofs.DieAbbrev
import PyElf.Proofs.DieBundle
namespace PyElf.Proofs.C04
open PyElf PyElf.Spec PyElf.Spec.C04 PyElf.Model PyElf.Model.C04 PyElf.Proofs PyElf.Proofs.Engine

/-- what `_parse_DIE` needs of its unit: the bundle agrees with the standard's for `c` on the fields the DIE code reads,
    `DW_FORM_raw2name` and the presentation of form numbers name the standard's forms -/
structure UnitOK (U : UnitCtx) (c : DwarfCfg) (nm : Names) : Prop where
  structs : BundleEq U.S (Spec.dwarfStructs c)
  raw2name : ∀ k ∈ formCodes, U.raw2name k = formName k
  formNames : ∀ k ∈ formCodes, nm.form k = .str ((formName k).getD "")

theorem formFacts : formCodes.all (fun k => (formName k).isSome
    && (((formName k).getD "" == "DW_FORM_implicit_const") == (k == 0x21))
    && (((formName k).getD "" == "DW_FORM_indirect") == (k == 0x16))
    && (((formName k).getD "" == "DW_FORM_ref") == (k == 0x02))) = true := by decide +kernel

theorem iff_of_beq_eq_beq {α β : Type} [BEq α] [LawfulBEq α] [BEq β] [LawfulBEq β] {a a' : α} {b b' : β}
    (h : (a == a') = (b == b')) : a = a' ↔ b = b' := by
  rw [← beq_iff_eq, ← beq_iff_eq (a := b), h]

theorem formName_facts {k : Nat} (hk : k ∈ formCodes) :
    formName k = some ((formName k).getD "") ∧ ((formName k).getD "" = "DW_FORM_implicit_const" ↔ k = 0x21)
      ∧ ((formName k).getD "" = "DW_FORM_indirect" ↔ k = 0x16) ∧ ((formName k).getD "" = "DW_FORM_ref" ↔ k = 0x02) := by
  have h := List.all_eq_true.1 formFacts k hk
  simp only [Bool.and_eq_true, beq_iff_eq] at h
  obtain ⟨⟨⟨h1, h2⟩, h3⟩, h4⟩ := h
  refine ⟨?_, iff_of_beq_eq_beq h2, iff_of_beq_eq_beq h3, iff_of_beq_eq_beq h4⟩
  cases hn : formName k with
  | none => rw [hn] at h1; cases h1
  | some s => rfl

theorem formClass_some_mem {c : DwarfCfg} {k : Nat} {cl : Cls} (h : formClass c k = some cl) : k ∈ formCodes := by
  unfold formClass at h
  split at h <;> first | (cases h; done) | decide

theorem mem_indirect : FORM_indirect ∈ formCodes := by decide
theorem mem_implicit : FORM_implicit_const ∈ formCodes := by decide

theorem parseWith_cls {env : Env} {data : Bytes} {pos : Nat} {le : Bool} {rest : Bytes}
    (cl : Cls) (op : Operand) (hwf : wfOperand cl op = true) (hd : data.drop pos = encOperand le cl op ++ rest) :
    parseWith env (clsCon le cl) data pos = .ok (rawVal op, pos + (encOperand le cl op).length) := by
  have h := operand_roundtrip (env := env) (ctx := []) cl op hwf hd
  cases cl with
  | implicit => cases op <;> cases hwf
  | indirect => cases op <;> cases hwf
  | _ => simp only [clsCon] at h ⊢; simp only [parseWith, structParse, h, bind, Except.bind, pure, Except.pure]

theorem read_form {U : UnitCtx} {c : DwarfCfg} {nm : Names} (hU : UnitOK U c nm) {k : Nat} {cl : Cls}
    (hcl : formClass c k = some cl) (op : Operand) (hwf : wfOperand cl op = true) {pos : Nat} {rest : Bytes}
    (hd : U.data.drop pos = encOperand c.le cl op ++ rest) :
    ∃ P, formParser U.S (.str ((formName k).getD "")) = .ok P
      ∧ parseWith U.env P U.data pos = .ok (rawVal op, pos + (encOperand c.le cl op).length) := by
  have hk := formClass_some_mem hcl
  obtain ⟨_, _, _, hnr⟩ := formName_facts hk
  by_cases h2 : k = 0x02
  · -- the legacy DW_FORM_ref: `Dwarf_dw_form['DW_FORM_ref'] = the_Dwarf_uint32` (Props/TieC04 `form_ref_entry`)
    subst h2
    have hcl' : cl = .fixed 4 := by simpa [formClass] using hcl.symm
    subst hcl'
    have hS : (Spec.dwarfStructs c).the_Dwarf_uint32 = clsCon c.le (.fixed 4) := rfl
    have hn : (formName 0x02).getD "" = "DW_FORM_ref" := rfl
    exact ⟨_, by simp only [formParser, hn, if_true, hU.structs.u32, hS], parseWith_cls (.fixed 4) op hwf hd⟩
  · have hnr' : ¬ (formName k).getD "" = "DW_FORM_ref" := fun e => h2 (hnr.1 e)
    have hl := form_lookup c k ((List.mem_cons.1 hk).resolve_left h2)
    rw [hcl] at hl
    exact ⟨_, by simp only [formParser, hnr', if_false, hU.structs.form, hl, Option.map], parseWith_cls cl op hwf hd⟩

/-- the form code carried by the LEB128 number in front of the chain `ls` -/
def chainHead (form : Nat) : List Nat → Nat
  | [] => form
  | _ :: _ => FORM_indirect

theorem encChain_cons (form l : Nat) (ls : List Nat) :
    encChain form (l :: ls) = encUlebN l (chainHead form ls) ++ encChain form ls := by
  cases ls <;> simp [encChain, chainHead]

theorem wfChain_cons (form l : Nat) (ls : List Nat) :
    wfChain form (l :: ls) = (ulebFits l (chainHead form ls) && (ls.isEmpty || wfChain form ls)) := by
  cases ls <;> simp [wfChain, chainHead]

theorem encChain_length_ge (form : Nat) : ∀ ls : List Nat, (ls.isEmpty || wfChain form ls) = true →
    ls.length ≤ (encChain form ls).length := by
  intro ls
  induction ls with
  | nil => intro _; simp [encChain]
  | cons l ls ih =>
    intro h
    simp only [List.isEmpty_cons, Bool.false_or, wfChain_cons, Bool.and_eq_true, ulebFits_iff] at h
    have := ih h.2
    rw [encChain_cons, List.length_append, encUlebN_length, List.length_cons]
    omega

theorem parseWith_uleb {env : Env} {data : Bytes} {pos l v : Nat} {rest : Bytes}
    (hd : data.drop pos = encUlebN l v ++ rest) (hl : ulebFits l v = true) :
    parseWith env .uleb data pos = .ok (.int v, pos + l) :=
  (Engine.Reads.uleb (ctx := []) (ulebFits_iff.1 hl).1 (ulebFits_iff.1 hl).2).structParse hd

theorem form_indirect_lookup (c : DwarfCfg) : (Spec.dwarfStructs c).form "DW_FORM_indirect" = some .uleb :=
  form_lookup c 0x16 (by decide)

/-- the `while True` loop of `_resolve_indirect` after the code in front of `ls` has been read -/
theorem indirectLoop_chain {U : UnitCtx} {c : DwarfCfg} {nm : Names} (hU : UnitOK U c nm) {form : Nat} {cl : Cls}
    (hcl : formClass c form = some cl) (hni : form ≠ FORM_indirect) (op : Operand) (hwf : wfOperand cl op = true)
    {tail : Bytes} :
    ∀ (ls : List Nat) (fuel p : Nat), ls.length + 1 ≤ fuel → (ls.isEmpty || wfChain form ls) = true →
      U.data.drop p = encChain form ls ++ (encOperand c.le cl op ++ tail) →
      indirectLoop U fuel p (chainHead form ls)
        = .ok (.str ((formName form).getD ""), rawVal op, p + (encChain form ls).length + (encOperand c.le cl op).length) := by
  have hk := formClass_some_mem hcl
  obtain ⟨hname, _, hind, _⟩ := formName_facts hk
  intro ls
  induction ls with
  | nil =>
    intro fuel p hf _ hd
    cases fuel with
    | zero => omega
    | succ fuel =>
      have hd' : U.data.drop p = encOperand c.le cl op ++ tail := by simpa [encChain] using hd
      obtain ⟨P, hp, hr⟩ := read_form hU hcl op hwf hd'
      have hne : ¬ (formName form).getD "" = "DW_FORM_indirect" := fun e => hni (hind.1 e)
      have hrn : U.raw2name form = some ((formName form).getD "") := by rw [hU.raw2name form hk]; exact hname
      rw [indirectLoop]
      simp only [chainHead, hrn, bind, Except.bind, hp, hr, ne_eq, hne, not_false_eq_true, if_true, pure, Except.pure,
        encChain, List.length_nil, Nat.add_zero]
  | cons l ls ih =>
    intro fuel p hf hw hd
    cases fuel with
    | zero => omega
    | succ fuel =>
      simp only [List.isEmpty_cons, Bool.false_or, wfChain_cons, Bool.and_eq_true] at hw
      rw [encChain_cons, List.append_assoc] at hd
      have hread := parseWith_uleb (env := U.env) hd hw.1
      have hd' := drop_add_of_drop hd
      rw [encUlebN_length] at hd'
      have hrn : U.raw2name FORM_indirect = some "DW_FORM_indirect" := hU.raw2name _ mem_indirect
      have hfp : formParser U.S (.str "DW_FORM_indirect") = .ok .uleb := by
        simp [formParser, hU.structs.uleb, hU.structs.form, hU.structs.u32, form_indirect_lookup]
      have hneg : ¬ ((chainHead form ls : Nat) : Int) < 0 := by omega
      have hch : chainHead form (l :: ls) = FORM_indirect := rfl
      rw [hch, indirectLoop]
      simp only [hrn, hfp, bind, Except.bind, hread, ne_eq, not_true_eq_false, if_false, Val.asNat, Val.asInt,
        hneg, Int.toNat_natCast]
      rw [ih fuel (p + l) (by simp at hf; omega) hw.2 hd']
      simp [encChain_cons, encUlebN_length, Nat.add_assoc]

theorem resolveIndirect_chain {U : UnitCtx} {c : DwarfCfg} {nm : Names} (hU : UnitOK U c nm) {form : Nat} {cl : Cls}
    (hcl : formClass c form = some cl) (hni : form ≠ FORM_indirect) (op : Operand) (hwf : wfOperand cl op = true)
    (ind : List Nat) (hch : wfChain form ind = true) {pos : Nat} {tail : Bytes}
    (hd : U.data.drop pos = encChain form ind ++ (encOperand c.le cl op ++ tail)) :
    resolveIndirect U pos
      = .ok (.str ((formName form).getD ""), rawVal op, pos + (encChain form ind).length + (encOperand c.le cl op).length) := by
  cases ind with
  | nil => simp [wfChain] at hch
  | cons l ls =>
    rw [wfChain_cons, Bool.and_eq_true] at hch
    rw [encChain_cons, List.append_assoc] at hd
    have h0 := parseNat_ulebN (env := U.env) hd hch.1
    have hd' := drop_add_of_drop hd
    rw [encUlebN_length] at hd'
    have hl := length_of_drop hd'
    have hge := encChain_length_ge form ls hch.2
    simp only [List.length_append] at hl
    unfold resolveIndirect
    simp only [hU.structs.uleb, hU.structs.form, hU.structs.u32, the_uleb_eq, h0, bind, Except.bind]
    rw [indirectLoop_chain hU hcl hni op hwf ls _ (pos + l) (by omega) hch.2 hd']
    simp [encChain_cons, encUlebN_length, Nat.add_assoc]

/-- the translation step of `_parse_DIE` succeeds with `ρ` on every attribute that has an operand -/
def TransOK (U : UnitCtx) (ti : Option (List AttrObs)) (nm : Names) (ρ : Val → Val → Val) :
    List AttrSpec → List AttrV → Prop
  | s :: ss, a :: as =>
    (s.form ≠ FORM_implicit_const →
      translate U ti (nm.form a.form) (rawVal a.op) = .ok (ρ (nm.form a.form) (rawVal a.op)))
      ∧ TransOK U ti nm ρ ss as
  | _, _ => True

def obsOf (nm : Names) (ρ : Val → Val → Val) (off : Nat) (s : AttrSpec) (a : AttrV) : AttrObs :=
  ⟨nm.at_ s.name, nm.form a.form,
   if s.form = FORM_implicit_const then Val.int s.const else ρ (nm.form a.form) (rawVal a.op),
   if s.form = FORM_implicit_const then Val.int s.const else rawVal a.op, off⟩

theorem attrObs_cons (nm : Names) (c : DwarfCfg) (ρ : Val → Val → Val) (off : Nat) (s : AttrSpec) (ss : List AttrSpec)
    (a : AttrV) (as : List AttrV) :
    attrObs nm c ρ off (s :: ss) (a :: as) = obsOf nm ρ off s a :: attrObs nm c ρ (off + attrLen c a) ss as := by
  simp only [attrObs, obsOf]
  split <;> rfl

/-! The predicates over a declaration's specifications and an entry's values (`wfAttrs`, `TransOK`, Proofs/DieTop's
    `ResolvesAll`, the members of `attrObs`) all walk the two lists in step; through `List.zip` they become statements
    about pairs. -/

theorem wfAttrs_zip {c : DwarfCfg} : ∀ {ss : List AttrSpec} {as : List AttrV}, wfAttrs c ss as = true →
    ∀ p ∈ ss.zip as, wfAttr c p.1 p.2 = true
  | [], [], _, p, hp => by cases hp
  | [], _ :: _, h, _, _ => by simp [wfAttrs] at h
  | _ :: _, [], h, _, _ => by simp [wfAttrs] at h
  | s :: ss, a :: as, h, p, hp => by
    simp only [wfAttrs, Bool.and_eq_true] at h
    rcases List.mem_cons.1 hp with rfl | hp
    · exact h.1
    · exact wfAttrs_zip h.2 p hp

theorem transOK_of_zip {U : UnitCtx} {ti : Option (List AttrObs)} {nm : Names} {ρ : Val → Val → Val} :
    ∀ {ss : List AttrSpec} {as : List AttrV},
      (∀ p ∈ ss.zip as, p.1.form ≠ FORM_implicit_const →
        translate U ti (nm.form p.2.form) (rawVal p.2.op) = .ok (ρ (nm.form p.2.form) (rawVal p.2.op))) →
      TransOK U ti nm ρ ss as
  | [], _, _ => trivial
  | _ :: _, [], _ => trivial
  | s :: ss, a :: as, h =>
    ⟨h (s, a) List.mem_cons_self, transOK_of_zip fun p hp => h p (List.mem_cons_of_mem _ hp)⟩

theorem mem_attrObs {nm : Names} {c : DwarfCfg} {ρ : Val → Val → Val} {x : AttrObs} :
    ∀ {ss : List AttrSpec} {as : List AttrV} {off : Nat}, x ∈ attrObs nm c ρ off ss as →
      ∃ p ∈ ss.zip as, ∃ off', x = obsOf nm ρ off' p.1 p.2
  | [], _, _, h => by simp [attrObs] at h
  | _ :: _, [], _, h => by simp [attrObs] at h
  | s :: ss, a :: as, off, h => by
    rw [attrObs_cons, List.mem_cons] at h
    rcases h with rfl | h
    · exact ⟨(s, a), List.mem_cons_self, off, rfl⟩
    · obtain ⟨p, hp, off', e⟩ := mem_attrObs h
      exact ⟨p, List.mem_cons_of_mem _ hp, off', e⟩

theorem getField_cons_eq (k : String) (v : Val) (rest : Fields) : (Val.record ((k, v) :: rest)).getField k = .ok v :=
  Fields.getR_of_get? (Fields.get?_cons_eq k v rest)

theorem getField_cons_ne {k k' : String} (h : k' ≠ k) (v : Val) (rest : Fields) :
    (Val.record ((k', v) :: rest)).getField k = (Val.record rest).getField k := by
  simp only [Val.getField_record, Fields.getR, Fields.get?_cons_ne h]

theorem attrLoop_step {U : UnitCtx} {c : DwarfCfg} {nm : Names} (hU : UnitOK U c nm) (ti : Option (List AttrObs))
    (ρ : Val → Val → Val) (s : AttrSpec) (a : AttrV) (rest : List Val) (pos : Nat) (acc : List AttrObs) (tail : Bytes)
    (hwa : wfAttr c s a = true)
    (htr1 : s.form ≠ FORM_implicit_const →
      translate U ti (nm.form a.form) (rawVal a.op) = .ok (ρ (nm.form a.form) (rawVal a.op)))
    (hd0 : U.data.drop pos = encAttr c a ++ tail) :
    attrLoop U ti (specVal nm s :: rest) pos acc
      = attrLoop U ti rest (pos + attrLen c a) (attrSet acc (obsOf nm ρ pos s a)) := by
  rw [attrLoop]
  simp only [specVal, getField_cons_eq, getField_cons_ne, ne_eq, String.reduceEq, not_false_eq_true, bind, Except.bind]
  unfold wfAttr at hwa
  by_cases hI : s.form = FORM_indirect
  · -- DW_FORM_indirect
    rw [if_pos hI] at hwa
    simp only [Bool.and_eq_true, bne_iff_ne, ne_eq] at hwa
    obtain ⟨⟨⟨hch, hni⟩, hnc⟩, hop⟩ := hwa
    cases hcl : formClass c a.form with
    | none => rw [hcl] at hop; cases hop
    | some cl =>
      rw [hcl] at hop
      have hk := formClass_some_mem hcl
      have hnic : ¬ s.form = FORM_implicit_const := by rw [hI]; decide
      have hfn := hU.formNames s.form (by rw [hI]; exact mem_indirect)
      have hfa := hU.formNames a.form hk
      have hb1 : (nm.form s.form == Val.str "DW_FORM_implicit_const") = false := by
        rw [hfn, hI]; decide
      have hb2 : (nm.form s.form == Val.str "DW_FORM_indirect") = true := by
        rw [hfn, hI]; decide
      -- `encAttr` and `attrLen` speak of the total `clsOf`; `hclsOf` gives them the class `formClass` answered, `hd1`
      -- is then the bytes the parser meets and `hlen` the position it stops at
      have hclsOf : clsOf c a.form = cl := by simp [clsOf, hcl]
      have hd1 : U.data.drop pos = encChain a.form a.ind ++ (encOperand c.le cl a.op ++ tail) := by
        rw [hd0]; simp [encAttr, hclsOf, List.append_assoc]
      have hres := resolveIndirect_chain hU hcl hni a.op hop a.ind hch hd1
      have htr' := htr1 hnic
      rw [hfa] at htr'
      have hlen : pos + (encChain a.form a.ind).length + (encOperand c.le cl a.op).length = pos + attrLen c a := by
        simp [attrLen, encAttr, hclsOf, Nat.add_assoc]
      simp only [hb1, hb2, Bool.false_eq_true, if_false, if_true, hres, htr', hlen, obsOf, hnic, hfa]
  · rw [if_neg hI] at hwa
    by_cases hC : s.form = FORM_implicit_const
    · -- DW_FORM_implicit_const
      rw [if_pos hC] at hwa
      simp only [Bool.and_eq_true, beq_iff_eq] at hwa
      obtain ⟨⟨hind, hform⟩, hop⟩ := hwa
      have hfn := hU.formNames s.form (by rw [hC]; exact mem_implicit)
      have hb1 : (nm.form s.form == Val.str "DW_FORM_implicit_const") = true := by
        rw [hfn, hC]; decide
      have hzero : attrLen c a = 0 := by
        cases hopc : a.op <;> rw [hopc] at hop <;> first | (cases hop; done) | skip
        simp [attrLen, encAttr, hind, encChain, hform, hC, clsOf, formClass, FORM_implicit_const, encOperand, hopc]
      simp only [hb1, if_true]
      simp only [hzero, Nat.add_zero, obsOf, hC, hform, if_true]
    · -- every other form
      rw [if_neg hC] at hwa
      simp only [Bool.and_eq_true, beq_iff_eq] at hwa
      obtain ⟨⟨hind, hform⟩, hop⟩ := hwa
      cases hcl : formClass c a.form with
      | none => rw [hcl] at hop; cases hop
      | some cl =>
        rw [hcl] at hop
        have hk := formClass_some_mem hcl
        obtain ⟨_, hic, hin, _⟩ := formName_facts hk
        have hfa := hU.formNames a.form hk
        have hfs : nm.form s.form = .str ((formName a.form).getD "") := by rw [← hform]; exact hfa
        have hb1 : (nm.form s.form == Val.str "DW_FORM_implicit_const") = false := by
          rw [hfs, Val.str_beq]
          have : ¬ (formName a.form).getD "" = "DW_FORM_implicit_const" := fun e => hC (by rw [← hform]; exact hic.1 e)
          simpa using this
        have hb2 : (nm.form s.form == Val.str "DW_FORM_indirect") = false := by
          rw [hfs, Val.str_beq]
          have : ¬ (formName a.form).getD "" = "DW_FORM_indirect" := fun e => hI (by rw [← hform]; exact hin.1 e)
          simpa using this
        have hclsOf : clsOf c a.form = cl := by simp [clsOf, hcl]
        have hd1 : U.data.drop pos = encOperand c.le cl a.op ++ tail := by
          rw [hd0]; simp [encAttr, hclsOf, hind, encChain]
        obtain ⟨P, hp, hread⟩ := read_form hU hcl a.op hop hd1
        have htr' := htr1 hC
        rw [hfa] at htr'
        have hlen : pos + (encOperand c.le cl a.op).length = pos + attrLen c a := by
          simp [attrLen, encAttr, hclsOf, hind, encChain]
        simp only [hb1, hb2, Bool.false_eq_true, if_false]
        rw [hfs]
        simp only [hp, hread, htr', hlen, obsOf, hC, if_false, hfa]

theorem attrLoop_encoded {U : UnitCtx} {c : DwarfCfg} {nm : Names} (hU : UnitOK U c nm) (ti : Option (List AttrObs))
    (ρ : Val → Val → Val) :
    ∀ (specs : List AttrSpec) (attrs : List AttrV) (pos : Nat) (acc : List AttrObs) (tail : Bytes),
      wfAttrs c specs attrs = true → TransOK U ti nm ρ specs attrs →
      U.data.drop pos = attrs.flatMap (encAttr c) ++ tail →
      attrLoop U ti (specs.map (specVal nm)) pos acc
        = .ok ((attrObs nm c ρ pos specs attrs).foldl attrSet acc, pos + (attrs.flatMap (encAttr c)).length)
  | [], [], pos, acc, tail, _, _, _ => by simp [attrLoop, attrObs]
  | [], _ :: _, _, _, _, hwf, _, _ => by simp [wfAttrs] at hwf
  | _ :: _, [], _, _, _, hwf, _, _ => by simp [wfAttrs] at hwf
  | s :: ss, a :: as, pos, acc, tail, hwf, htr, hd => by
    simp only [wfAttrs, Bool.and_eq_true] at hwf
    have hd0 : U.data.drop pos = encAttr c a ++ (as.flatMap (encAttr c) ++ tail) := by
      simpa [List.append_assoc] using hd
    rw [List.map_cons, attrLoop_step hU ti ρ s a _ pos acc _ hwf.1 htr.1 hd0,
      attrLoop_encoded hU ti ρ ss as (pos + attrLen c a) _ tail hwf.2 htr.2 (drop_add_of_drop hd0), attrObs_cons, List.foldl_cons,
      List.flatMap_cons, List.length_append, Nat.add_assoc]
    rfl

abbrev NamesDistinct (l : List AttrObs) : Prop := l.Pairwise fun a b => (a.name == b.name) = false

/-! `attrSet` keys whole attributes by their name under `Val`'s `==`, so it is not `Proofs.upsert` (pairs keyed by a
    `DecidableEq` first component); the two facts needed of it are proved directly. -/

theorem attrSet_append (acc : List AttrObs) (a : AttrObs) (h : ∀ b ∈ acc, (b.name == a.name) = false) :
    attrSet acc a = acc ++ [a] := by
  induction acc with
  | nil => rfl
  | cons x acc ih =>
    have hx := h x (by simp)
    simp [attrSet, hx, ih (fun b hb => h b (by simp [hb]))]

theorem foldl_attrSet_append : ∀ (l acc : List AttrObs), NamesDistinct (acc ++ l) → l.foldl attrSet acc = acc ++ l
  | [], acc, _ => by simp
  | a :: l, acc, h => by
    have hacc : ∀ b ∈ acc, (b.name == a.name) = false :=
      fun b hb => (List.pairwise_append.1 h).2.2 b hb a List.mem_cons_self
    rw [List.foldl_cons, attrSet_append acc a hacc, foldl_attrSet_append l (acc ++ [a]) (by simpa using h)]
    simp

theorem encEntry_length (c : DwarfCfg) (n : Node) :
    (encEntry c n).length = n.codeLen + (n.attrs.flatMap (encAttr c)).length := by
  simp [encEntry, encUlebN_length]

theorem parseDIE_encoded {U : UnitCtx} {c : DwarfCfg} {nm : Names} (hU : UnitOK U c nm) (ti : Option (List AttrObs))
    (ρ : Val → Val → Val) (n : Node) {off : Nat} {rest : Bytes} {m : List (Nat × Val)}
    (hwf : wfNode c n = true) (hoff : off < 2 ^ 63) (hab : U.abbrevs = .ok m)
    (hdecl : mapGet? m n.decl.code = some (declVal nm n.decl))
    (htr : TransOK U ti nm ρ n.decl.specs n.attrs)
    (hdist : NamesDistinct (attrObs nm c ρ (off + n.codeLen) n.decl.specs n.attrs))
    (hd : U.data.drop off = encEntry c n ++ rest) :
    parseDIE U ti off = .ok (entryObs nm c ρ off n) := by
  have hwd := wfNode_decl hwf; have hcode := wfNode_code hwf; have hattrs := wfNode_attrs hwf
  have hd0 : U.data.drop off = encUlebN n.codeLen n.decl.code ++ (n.attrs.flatMap (encAttr c) ++ rest) := by
    rw [hd]; simp [encEntry, List.append_assoc]
  have h0 := parseNat_ulebN (env := U.env) hd0 hcode
  have hd1 := drop_add_of_drop hd0
  rw [encUlebN_length] at hd1
  have hloop := attrLoop_encoded hU ti ρ n.decl.specs n.attrs (off + n.codeLen) [] rest hattrs htr hd1
  rw [foldl_attrSet_append _ [] (by simpa using hdist), List.nil_append] at hloop
  simp only [wfDecl, Bool.and_eq_true, decide_eq_true_eq] at hwd
  have hne : ¬ n.decl.code = 0 := by omega
  have hns : ¬ off ≥ 2 ^ 63 := by omega
  have hflag : (Val.str (if n.decl.children then "DW_CHILDREN_yes" else "DW_CHILDREN_no") == Val.str "DW_CHILDREN_yes")
      = n.decl.children := by
    cases n.decl.children <;> decide
  unfold parseDIE seekCheck
  simp only [hns, if_false, bind, Except.bind, hU.structs.uleb, hU.structs.form, hU.structs.u32, the_uleb_eq, h0, hne, hab, hdecl]
  simp only [declVal, getField_cons_eq, getField_cons_ne, ne_eq, String.reduceEq, not_false_eq_true, hloop, hflag, pure, Except.pure, entryObs,
    encEntry_length]
  congr 2
  omega

/-- a null entry (abbreviation code 0 in any padding) -/
theorem parseDIE_null {U : UnitCtx} {c : DwarfCfg} {nm : Names} (hU : UnitOK U c nm) (ti : Option (List AttrObs))
    {off l : Nat} {rest : Bytes} (hl : 1 ≤ l) (hoff : off < 2 ^ 63) (hd : U.data.drop off = encUlebN l 0 ++ rest) :
    parseDIE U ti off = .ok (nullObs off l) := by
  have h0 := parseNat_ulebN (env := U.env) hd (by rw [ulebFits_iff]; exact ⟨hl, Nat.pos_of_neZero _⟩)
  have hns : ¬ off ≥ 2 ^ 63 := by omega
  unfold parseDIE seekCheck
  simp only [hns, if_false, bind, Except.bind, hU.structs.uleb, hU.structs.form, hU.structs.u32, the_uleb_eq, h0, if_true, pure, Except.pure, nullObs]
  congr 2
  omega

end PyElf.Proofs.C04
