/-
  C11, the container side of the DWARF reader (Model/DwarfView.lean), one section at a time.  A section STORES a
  logical content under one of three encodings (`Enc`: plain, gABI `Elf_Chdr` + deflate, legacy `"ZLIB"` + size +
  deflate; `Stores`, over `Placed`: a header places a body at its offset), and `_read_dwarf_section` on a storing
  section hands the logical content to the relocation step whatever the encoding (`readDwarfSection_of`,
  `readDwarfSection_stored_eq`, `relocStep`); `readOne_stores` says it of the loop body.  `ZlibOk` is the zlib assumption.
-/
import PyElf.Model.DwarfView
import PyElf.Spec.Container
import PyElf.Spec.ElfStructs
import PyElf.Proofs.Primitives
import PyElf.Proofs.Fixed
import PyElf.Proofs.ElfCodec
import PyElf.Proofs.Utils
namespace PyElf.Proofs.C11
open PyElf PyElf.Model PyElf.Model.C11 PyElf.Spec.C11 PyElf.Proofs

structure Placed (data : Bytes) (sh : Val) (ty : Val) (off : Nat) (body rest : Bytes) (flags addr : Nat) : Prop where
  hty : sh.getField "sh_type" = .ok ty
  hnobits : isStr ty "SHT_NOBITS" = false
  hflags : sh.getNat "sh_flags" = .ok flags
  hoff : sh.getNat "sh_offset" = .ok off
  hsize : sh.getNat "sh_size" = .ok body.length
  haddr : sh.getNat "sh_addr" = .ok addr
  hdata : data.drop off = body ++ rest
  hbound : off + body.length < 2 ^ 63

section lemmas
variable {data : Bytes} {sh ty : Val} {off : Nat} {body rest : Bytes} {flags addr : Nat}

theorem pyRead_nat (data : Bytes) (pos n : Nat) (hn : n < 2 ^ 63) :
    pyRead data pos (n : Int) = .ok (readN data pos n) := by
  have h1 : ¬ ((n : Int) < 0) := by omega
  have h2 : ¬ ((n : Int) ≥ 2 ^ 63) := by omega
  simp [pyRead, h1]
  omega

theorem sectionInfo_plain (env : Env) (S : ElfStructs)
    (h : Placed data sh ty off body rest flags addr) (hf : flags &&& 0x800 = 0) :
    sectionInfo env S data sh = .ok (none, body.length) := by
  simp [sectionInfo, h.hflags, h.hsize, hf, bind, Except.bind, pure, Except.pure]

theorem sectionData_plain (X : Ext) (S : ElfStructs)
    (h : Placed data sh ty off body rest flags addr) :
    sectionDataWith X S data sh none body.length = .ok body := by
  have hb := h.hbound
  have hseek : seekCheck off = .ok () := by
    have : ¬ off ≥ 2 ^ 63 := by omega
    simp [seekCheck, this]
  simp [sectionDataWith, h.hty, h.hnobits, h.hoff, hseek, liftR, bind, Except.bind,
        pyRead_nat data off body.length (by omega), readN_of_drop h.hdata]

end lemmas

/-- `Elf32_Chdr` / `Elf64_Chdr` as the Spec bundle defines it -/
def chdrCon (cls : Nat) (le : Bool) : Con :=
  if cls = 64 then
    Spec.st [Spec.f "ch_type" (Spec.enumOf (.uint 4 le) "ENUM_ELFCOMPRESS_TYPE"), Spec.f "ch_reserved" (.uint 4 le),
             Spec.f "ch_size" (.uint (cls / 8) le), Spec.f "ch_addralign" (.uint (cls / 8) le)]
  else
    Spec.st [Spec.f "ch_type" (Spec.enumOf (.uint 4 le) "ENUM_ELFCOMPRESS_TYPE"),
             Spec.f "ch_size" (.uint (cls / 8) le), Spec.f "ch_addralign" (.uint (cls / 8) le)]

theorem spec_chdr (c : ElfCfg) : (Spec.elfStructs c).Elf_Chdr = chdrCon c.cls c.le := rfl

theorem encChdr_length (cls : Nat) (le : Bool) (t s a : Nat) (hcls : cls = 32 ∨ cls = 64) :
    (encChdr cls le t s a).length = chdrSize cls := by
  rcases hcls with h | h <;> subst h <;> simp [encChdr, chdrSize, encNat_length]

theorem sizeof_chdr (cls : Nat) (le : Bool) (hcls : cls = 32 ∨ cls = 64) :
    sizeofR (chdrCon cls le) = .ok (chdrSize cls) := by
  rcases hcls with h | h <;> subst h <;>
    simp [sizeofR, chdrCon, chdrSize, Spec.st, Spec.f, Spec.enumOf, Spec.mkFields, Con.sizeof, ConFields.sizeof,
          bind, Option.bind, pure]

/-- the zlib step of `Section.data()` on a deflate stream, given the declared size -/
def gabiStep (X : Ext) (deflated : Bytes) (declared : Nat) : V Bytes :=
  if declared + 1 ≥ 2 ^ 63 then fail .overflowError
  else match X.decompress deflated (declared + 1) with
    | none => .error .zlib
    | some r => if r.length ≠ declared then fail .elfCompressionError else .ok r

section gabi
variable {data : Bytes} {sh ty : Val} {off : Nat} {rest : Bytes} {flags addr : Nat}
variable {cls : Nat} {le : Bool} {declared align : Nat} {deflated : Bytes}

theorem sectionInfo_gabi (env : Env) (S : ElfStructs) (hS : S.Elf_Chdr = chdrCon cls le) (hcls : cls = 32 ∨ cls = 64)
    (h : Placed data sh ty off (gabiBody cls le declared align deflated) rest flags addr)
    (hf : flags &&& 0x800 ≠ 0) (hs : declared < 2 ^ cls) (ha : align < 2 ^ cls)
    (henv : env.enumDecode "ENUM_ELFCOMPRESS_TYPE" 1 = some "ELFCOMPRESS_ZLIB") :
    sectionInfo env S data sh = .ok (some (.str "ELFCOMPRESS_ZLIB"), declared) := by
  have hb := h.hbound
  have hd : data.drop off = (if cls = 64
      then encNat le 4 compressZlib ++ encNat le 4 0 ++ encNat le 8 declared ++ encNat le 8 align
      else encNat le 4 compressZlib ++ encNat le 4 declared ++ encNat le 4 align) ++ (deflated ++ rest) := by
    rcases hcls with rfl | rfl <;> simpa [gabiBody, encChdr, List.append_assoc] using h.hdata
  -- `chdrCon cls le` is the `Elf_Chdr` of every bundle of that class and byte order (`spec_chdr`): `chdr_parse` at one
  obtain ⟨v, hp, ht, hsz, -, -⟩ := chdr_parse env ⟨le, cls, "default", false, false⟩ hcls (by simp [compressZlib]) hs ha hd
  have ht' : v.getField "ch_type" = .ok (.str "ELFCOMPRESS_ZLIB") := by simpa [Engine.enumVal, compressZlib, henv] using ht
  simp [sectionInfo, h.hflags, hf, h.hoff, hS, structParseAt_eq (show off < 2 ^ 63 by omega),
    ← spec_chdr ⟨le, cls, "default", false, false⟩, hp, ht', Val.getNat_of_getField hsz, bind, Except.bind, pure, Except.pure]

/-- the seek lands behind the compression header (`hseek`, `hd1`), `sh_size - sizeof(Chdr)` is the stream's length
    (`hsub`), the read returns the deflate stream, and what is left is `gabiStep` -/
theorem sectionData_gabi (X : Ext) (S : ElfStructs) (hS : S.Elf_Chdr = chdrCon cls le) (hcls : cls = 32 ∨ cls = 64)
    (h : Placed data sh ty off (gabiBody cls le declared align deflated) rest flags addr) :
    sectionDataWith X S data sh (some (.str "ELFCOMPRESS_ZLIB")) declared = gabiStep X deflated declared := by
  have hb := h.hbound
  have hlen : (gabiBody cls le declared align deflated).length = chdrSize cls + deflated.length := by
    simp [gabiBody, encChdr_length cls le _ _ _ hcls]
  have hd : data.drop off = encChdr cls le compressZlib declared align ++ (deflated ++ rest) := by
    simpa [gabiBody, List.append_assoc] using h.hdata
  have hd1 := drop_add_of_drop hd
  rw [encChdr_length cls le _ _ _ hcls] at hd1
  have hseek : seekCheck (off + chdrSize cls) = .ok () := by
    have : ¬ off + chdrSize cls ≥ 2 ^ 63 := by omega
    simp [seekCheck, this]
  have hsub : ((gabiBody cls le declared align deflated).length : Int) - (chdrSize cls : Int) = (deflated.length : Int) := by
    rw [hlen]; omega
  have hz : isStr (.str "ELFCOMPRESS_ZLIB") "ELFCOMPRESS_ZLIB" = true := by simp [isStr]
  cases hx : X.decompress deflated (declared + 1) <;>
  · simp only [sectionDataWith, h.hty, h.hnobits, hz, liftR, bind, Except.bind, hS, sizeof_chdr cls le hcls,
        h.hoff, h.hsize, hseek, hsub, pyRead_nat data (off + chdrSize cls) deflated.length (by omega), readN_of_drop hd1,
        gabiStep, fail, hx]
    simp [pure, Except.pure]

end gabi

/-- THE assumption about zlib: inflating what `deflate` produced (at any level) gives the input
    back.  It is stated for the API the library calls, `decompressobj().decompress(data, max_length)`:
    at most `max_length` bytes of the input are returned, `0` meaning no limit. -/
structure ZlibOk (X : Ext) (deflate : Nat → Bytes → Bytes) : Prop where
  inflate_deflate : ∀ (lvl : Nat) (x : Bytes) (k : Nat),
    X.decompress (deflate lvl x) k = some (if k = 0 then x else x.take k)

theorem gabiStep_ok {X : Ext} {deflate : Nat → Bytes → Bytes} (hz : ZlibOk X deflate) (lvl : Nat) (payload : Bytes)
    (hb : payload.length + 1 < 2 ^ 63) :
    gabiStep X (deflate lvl payload) payload.length = .ok payload := by
  have : ¬ payload.length + 1 ≥ 2 ^ 63 := by omega
  have ht : payload.take (payload.length + 1) = payload := List.take_of_length_le (by omega)
  simp [gabiStep, this, hz.inflate_deflate, ht]

theorem gabiStep_bad {X : Ext} {deflate : Nat → Bytes → Bytes} (hz : ZlibOk X deflate) (lvl : Nat) (payload : Bytes)
    (declared : Nat) (hne : declared ≠ payload.length) (hb : declared + 1 < 2 ^ 63) :
    gabiStep X (deflate lvl payload) declared = .error (.py .elfCompressionError) := by
  have h1 : ¬ declared + 1 ≥ 2 ^ 63 := by omega
  simp [gabiStep, h1, hz.inflate_deflate, fail]
  omega

theorem gabiStep_bad_any {X : Ext} {deflate : Nat → Bytes → Bytes} (hz : ZlibOk X deflate) (lvl : Nat) (payload : Bytes)
    (declared : Nat) (hne : declared ≠ payload.length) :
    ∃ e, gabiStep X (deflate lvl payload) declared = .error e := by
  by_cases hb : declared + 1 < 2 ^ 63
  · exact ⟨_, gabiStep_bad hz lvl payload declared hne hb⟩
  · exact ⟨.py .overflowError, by simp [gabiStep, fail]; omega⟩

/-- the zlib step of `_decompress_dwarf_section` -/
def zdebugStep (X : Ext) (deflated : Bytes) (declared : Nat) : V Bytes :=
  match X.decompress deflated 0 with
  | none => .error .zlib
  | some out => if declared ≠ out.length then fail .assertion else .ok out

theorem zdebugBody_length (declared : Nat) (deflated : Bytes) :
    (zdebugBody declared deflated).length = 12 + deflated.length := by
  simp [zdebugBody, zlibMagic, natBE_length]; omega

/-- the magic and the 8-byte size are read back (`h4`, `h8`, `hbe`), the rest (`h12`) goes through one decompressobj,
    and what is left is `zdebugStep` -/
theorem decompressZdebug_framed (X : Ext) (d : Descr) (declared : Nat) (deflated : Bytes)
    (hd : d.stream = zdebugBody declared deflated) (hsz : d.size > 12) (hdecl : declared < 2 ^ 64) :
    decompressZdebug X d
      = (zdebugStep X deflated declared).map (fun out => { d with stream := out, size := out.length }) := by
  have h4 : readN d.stream 0 4 = magicZlib := by
    rw [hd]; simp [readN, zdebugBody, zlibMagic, magicZlib]
  have h8 : readN d.stream 4 8 = natBE 8 declared := by
    rw [hd]
    have : (natBE 8 declared).length = 8 := natBE_length 8 declared
    simp [readN, zdebugBody, zlibMagic, List.take_append_of_le_length, this]
  have h12 : d.stream.drop 12 = deflated := by
    rw [hd]
    have : (natBE 8 declared).length = 8 := natBE_length 8 declared
    have e : zdebugBody declared deflated = (zlibMagic ++ natBE 8 declared) ++ deflated := by simp [zdebugBody]
    rw [e]
    have l : (zlibMagic ++ natBE 8 declared).length = 12 := by simp [zlibMagic, this]
    rw [← l, List.drop_left]
  have hbe : beNat (natBE 8 declared) = declared := by
    rw [beNat_natBE]; exact Nat.mod_eq_of_lt (by simpa using hdecl)
  have hs : (decide (d.size > 12)) = true := by simpa using hsz
  cases hx : X.decompress deflated 0 <;>
    simp [decompressZdebug, hs, h4, h8, h12, natBE_length, hbe, zdebugStep, hx, fail, Except.map, bind, Except.bind,
          pure, Except.pure]
  split <;> simp

theorem zdebugStep_ok {X : Ext} {deflate : Nat → Bytes → Bytes} (hz : ZlibOk X deflate) (lvl : Nat) (payload : Bytes) :
    zdebugStep X (deflate lvl payload) payload.length = .ok payload := by
  simp [zdebugStep, hz.inflate_deflate]

theorem zdebugStep_bad {X : Ext} {deflate : Nat → Bytes → Bytes} (hz : ZlibOk X deflate) (lvl : Nat) (payload : Bytes)
    (declared : Nat) (hne : declared ≠ payload.length) :
    zdebugStep X (deflate lvl payload) declared = .error (.py .assertion) := by
  simp [zdebugStep, hz.inflate_deflate, hne, fail]

inductive Enc
  | plain
  | gabi (lvl align : Nat)
  | zdebug (lvl : Nat)

def Enc.legacy : Enc → Bool
  | .zdebug _ => true
  | _ => false

def Enc.body (deflate : Nat → Bytes → Bytes) (cls : Nat) (le : Bool) (payload : Bytes) : Enc → Bytes
  | .plain => payload
  | .gabi lvl align => gabiBody cls le payload.length align (deflate lvl payload)
  | .zdebug lvl => zdebugBody payload.length (deflate lvl payload)

def Enc.ok (deflate : Nat → Bytes → Bytes) (cls : Nat) (payload : Bytes) (flags : Nat) : Enc → Prop
  | .plain => flags &&& 0x800 = 0
  | .gabi _ align => flags &&& 0x800 ≠ 0 ∧ payload.length < 2 ^ cls ∧ align < 2 ^ cls ∧ payload.length + 1 < 2 ^ 63
  | .zdebug lvl => flags &&& 0x800 = 0 ∧ payload.length < 2 ^ 64 ∧ 0 < (deflate lvl payload).length

def Enc.isPlain : Enc → Prop
  | .plain => True
  | _ => False
def Enc.isPlainOrGabi : Enc → Prop
  | .zdebug _ => False
  | _ => True
def Enc.isPlainOrZdebug : Enc → Prop
  | .gabi _ _ => False
  | _ => True

def Stores (deflate : Nat → Bytes → Bytes) (data : Bytes) (cls : Nat) (le : Bool) (sec : Sec) (e : Enc)
    (payload : Bytes) (addr off : Nat) : Prop :=
  ∃ ty rest flags, Placed data sec.hdr ty off (e.body deflate cls le payload) rest flags addr ∧
    e.ok deflate cls payload flags

theorem Stores.plain {deflate : Nat → Bytes → Bytes} {data : Bytes} {cls : Nat} {le : Bool} {sec : Sec} {body : Bytes}
    {addr off : Nat} (h : Stores deflate data cls le sec .plain body addr off) :
    ∃ ty rest flags, Placed data sec.hdr ty off body rest flags addr := by
  obtain ⟨ty, rest, flags, hp, -⟩ := h
  exact ⟨ty, rest, flags, hp⟩

structure FileOk (P : Params) (deflate : Nat → Bytes → Bytes) (f : ElfFile) : Prop where
  hcls : f.cls = 32 ∨ f.cls = 64
  hchdr : f.S.Elf_Chdr = chdrCon f.cls f.le
  henv : P.env.enumDecode "ENUM_ELFCOMPRESS_TYPE" 1 = some "ELFCOMPRESS_ZLIB"
  hzlib : ZlibOk P.X deflate
  hphantom : hasPhantomBytes f.header = .ok false

def NoReloc (secs : List Sec) (relocate : Bool) (name : Bytes) : Prop :=
  relocate = false ∨ findRelocations secs name = none

/-- the descriptor the property prescribes for content stored in section `sec` at `off` -/
def goodDescr (sec : Sec) (payload : Bytes) (addr off : Nat) : Descr :=
  ⟨payload, sec.name, off, payload.length, addr⟩

theorem decompress_stored {P : Params} {deflate : Nat → Bytes → Bytes} {f : ElfFile} (hf : FileOk P deflate f)
    (sec : Sec) (lvl : Nat) (payload : Bytes) (addr off : Nat) (hs : payload.length < 2 ^ 64)
    (hne : 0 < (deflate lvl payload).length) :
    decompressZdebug P.X ⟨zdebugBody payload.length (deflate lvl payload), sec.name, off,
        (zdebugBody payload.length (deflate lvl payload)).length, addr⟩ = .ok (goodDescr sec payload addr off) := by
  rw [decompressZdebug_framed P.X _ payload.length (deflate lvl payload) rfl
        (by simp only [zdebugBody_length]; omega) hs, zdebugStep_ok hf.hzlib]
  simp [Except.map, goodDescr]

/-- the last step of `_read_dwarf_section`: relocations applied to the (decompressed) descriptor -/
def relocStep (P : Params) (f : ElfFile) (secs : List Sec) (sec : Sec) (relocate : Bool) (d : Descr) : V Descr :=
  if relocate then
    match findRelocations secs sec.name with
    | none => .ok d
    | some rsec =>
      match applyRelocations P f rsec d.stream with
      | .ok b => .ok { d with stream := b }
      | .error e => .error (.py e)
  else .ok d

/-- the last lines of `_read_dwarf_section` in a file without phantom bytes (the `if false = true` is the phantom-byte
    test `has_phantom_bytes()`, already evaluated) are `relocStep` -/
theorem relocTail_eq (P : Params) (f : ElfFile) (secs : List Sec) (sec : Sec) (relocate : Bool) (d : Descr) :
    (if relocate = true then
      match findRelocations secs sec.name with
      | none => (pure d : V Descr)
      | some rsec =>
        if false = true then fail .elfParseError
        else do
          let relocated ← liftR (applyRelocations P f rsec d.stream)
          pure { d with stream := relocated }
     else pure d) = relocStep P f secs sec relocate d := by
  unfold relocStep
  cases relocate with
  | false => rfl
  | true =>
    simp only [if_true]
    cases findRelocations secs sec.name with
    | none => rfl
    | some rsec =>
      simp only [Bool.false_eq_true, if_false, liftR, bind, Except.bind]
      cases applyRelocations P f rsec d.stream <;> rfl

theorem readDwarfSection_of {P : Params} {f : ElfFile} (hph : hasPhantomBytes f.header = .ok false)
    (secs : List Sec) (sec : Sec) (relocate legacy : Bool) {ct : Option Val} {n off addr : Nat} {b : Bytes}
    (hi : sectionInfo P.env f.S f.data sec.hdr = .ok (ct, n))
    (hd : sectionDataWith P.X f.S f.data sec.hdr ct n = .ok b)
    (hoff : sec.hdr.getNat "sh_offset" = .ok off) (haddr : sec.hdr.getNat "sh_addr" = .ok addr) :
    readDwarfSection P f secs sec relocate legacy
      = (if legacy then decompressZdebug P.X ⟨b, sec.name, off, n, addr⟩ else .ok ⟨b, sec.name, off, n, addr⟩).bind
          (relocStep P f secs sec relocate) := by
  cases legacy with
  | false =>
    simp only [readDwarfSection, hph, hi, hd, liftR, bind, Except.bind, hoff, haddr, Bool.false_eq_true, if_false, pure,
      Except.pure]
    exact relocTail_eq P f secs sec relocate _
  | true =>
    simp only [readDwarfSection, hph, hi, hd, liftR, bind, Except.bind, hoff, haddr, Bool.false_eq_true, if_false, if_true,
      pure, Except.pure]
    cases decompressZdebug P.X ⟨b, sec.name, off, n, addr⟩ with
    | error e => rfl
    | ok d => exact relocTail_eq P f secs sec relocate d

theorem readDwarfSection_placed {P : Params} {f : ElfFile} (hph : hasPhantomBytes f.header = .ok false)
    (secs : List Sec) (sec : Sec) (relocate : Bool) {ty : Val} {off : Nat} {body rest : Bytes} {flags addr : Nat}
    (hp : Placed f.data sec.hdr ty off body rest flags addr) (hfl : flags &&& 0x800 = 0) :
    readDwarfSection P f secs sec relocate false
      = relocStep P f secs sec relocate ⟨body, sec.name, off, body.length, addr⟩ := by
  rw [readDwarfSection_of hph secs sec relocate false (sectionInfo_plain P.env f.S hp hfl) (sectionData_plain P.X f.S hp)
    hp.hoff hp.haddr]
  rfl

/-- whatever the encoding, the LOGICAL content reaches the relocation step: a legacy section is decompressed before
    it is relocated (fixes/C11-zdebug-relocate-after-decompress.patch) -/
theorem readDwarfSection_stored_eq {P : Params} {deflate : Nat → Bytes → Bytes} {f : ElfFile} (hf : FileOk P deflate f)
    (secs : List Sec) (sec : Sec) (relocate : Bool)
    (e : Enc) (payload : Bytes) (addr off : Nat)
    (hst : Stores deflate f.data f.cls f.le sec e payload addr off) :
    readDwarfSection P f secs sec relocate e.legacy = relocStep P f secs sec relocate (goodDescr sec payload addr off) := by
  obtain ⟨ty, rest, flags, hp, hok⟩ := hst
  cases e with
  | plain => exact readDwarfSection_placed hf.hphantom secs sec relocate hp hok
  | gabi lvl align =>
    obtain ⟨hfl, hs, ha, hb⟩ := hok
    have hd := sectionData_gabi P.X f.S hf.hchdr hf.hcls hp
    rw [gabiStep_ok hf.hzlib lvl payload hb] at hd
    rw [readDwarfSection_of hf.hphantom secs sec relocate _ (sectionInfo_gabi P.env f.S hf.hchdr hf.hcls hp hfl hs ha hf.henv)
      hd hp.hoff hp.haddr]
    rfl
  | zdebug lvl =>
    obtain ⟨hfl, hs, hne⟩ := hok
    rw [readDwarfSection_of hf.hphantom secs sec relocate _ (sectionInfo_plain P.env f.S hp hfl)
      (sectionData_plain P.X f.S hp) hp.hoff hp.haddr]
    simp only [Enc.legacy, Enc.body, if_true, decompress_stored hf sec lvl payload addr off hs hne]
    rfl

theorem relocStep_noReloc (P : Params) (f : ElfFile) (secs : List Sec) (sec : Sec) (relocate : Bool) (d : Descr)
    (hnr : NoReloc secs relocate sec.name) : relocStep P f secs sec relocate d = .ok d := by
  unfold relocStep
  rcases hnr with h | h
  · simp [h]
  · simp only [h]; split <;> rfl

theorem zName_startsWithDotZ (x : Bytes) : startsWithDotZ (zName x) = true := by
  simp [startsWithDotZ, zName, dotZ]

theorem readOne_eq (P : Params) (f : ElfFile) (secs : List Sec) (relocate zfile : Bool)
    (kn : String × Bytes × Bool) :
    readOne P f secs relocate zfile kn =
      match getSectionByName secs (secNameOf zfile kn) with
      | none => .ok (kn.1, none)
      | some sec =>
        (readDwarfSection P f secs sec relocate (legacyOf zfile kn)).bind fun d => .ok (kn.1, some d) := by
  unfold readOne
  cases getSectionByName secs (secNameOf zfile kn) with
  | none => rfl
  | some sec => rfl

theorem readOne_absent (P : Params) (f : ElfFile) (secs : List Sec) (relocate zfile : Bool)
    (kn : String × Bytes × Bool) (h : getSectionByName secs (secNameOf zfile kn) = none) :
    readOne P f secs relocate zfile kn = .ok (kn.1, none) := by
  rw [readOne_eq, h]

theorem readOne_stores {P : Params} {deflate : Nat → Bytes → Bytes} {f : ElfFile} (hf : FileOk P deflate f)
    (secs : List Sec) (relocate zfile : Bool) (kn : String × Bytes × Bool) {sec : Sec}
    (hget : getSectionByName secs (secNameOf zfile kn) = some sec) {e : Enc} {payload : Bytes} {addr off : Nat}
    (hst : Stores deflate f.data f.cls f.le sec e payload addr off) (hleg : e.legacy = legacyOf zfile kn) :
    readOne P f secs relocate zfile kn
      = (relocStep P f secs sec relocate (goodDescr sec payload addr off)).bind fun d => .ok (kn.1, some d) := by
  rw [readOne_eq, hget]
  simp only [← hleg, readDwarfSection_stored_eq hf secs sec relocate e payload addr off hst]

end PyElf.Proofs.C11
