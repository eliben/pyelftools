/-
  End to end over BUILT tables: for every symbol list the bytes of the built SysV / GNU hash table are parsed back and
  the lookups find every present name and no absent one.  Every lemma is about a bundle `S` of which only the struct it
  reads is known, so the Spec bundle and the regenerated ones are both instances.
-/
import PyElf.Proofs.SymBuildSysV
import PyElf.Proofs.SymBuildGnu
import PyElf.Proofs.SymTable
import PyElf.Proofs.HashParse
namespace PyElf.Proofs.C03
open PyElf PyElf.Spec PyElf.Model PyElf.Proofs

def sysvLastNamed (names : List Bytes) (name : Bytes) : Option Nat :=
  (List.range' 1 (names.length - 1)).reverse.find? fun i => names.getD i [] == name

theorem find?_congr_mem {α : Type} {p q : α → Bool} : ∀ {l : List α}, (∀ a ∈ l, p a = q a) → l.find? p = l.find? q := by
  intro l
  induction l with
  | nil => intro _; rfl
  | cons x xs ih =>
    intro h
    simp only [List.find?_cons, h x List.mem_cons_self]
    rw [ih (fun a ha => h a (List.mem_cons_of_mem _ ha))]

theorem bucketList_find (names : List Bytes) (nb : Nat) (name : Bytes) (sym : Nat → Symbol)
    (hname : ∀ j, j < names.length → (sym j).2 = names.getD j []) :
    (bucketList names nb names.length ((elfHash32 name).toNat % nb)).find? (fun j => decide ((sym j).2 = name))
      = sysvLastNamed names name := by
  unfold bucketList sysvLastNamed
  rw [← List.filter_reverse, List.find?_filter]
  apply find?_congr_mem
  intro a ha
  have ha' := List.mem_range'_1.mp (List.mem_reverse.mp ha)
  rw [hname a (by omega)]
  unfold sbk
  generalize names.getD a [] = x
  by_cases hn : x = name
  · simp [hn]
  · simp [hn]

/-- the HIGHEST-indexed symbol bearing the name: the linker pushes symbols on the front of their bucket's chain in
    index order -/
theorem sysv_built_exact (names : List Bytes) (nb : Nat) (hn : 1 ≤ names.length) (hn32 : names.length < 2 ^ 32)
    (hnb : 1 ≤ nb) (hnb32 : nb < 2 ^ 32) (getSym : Nat → R Symbol) (sym : Nat → Symbol)
    (hget : ∀ j, j < names.length → getSym j = .ok (sym j))
    (hname : ∀ j, j < names.length → (sym j).2 = names.getD j []) (name : Bytes) :
    elfHashGetSymbol (sysvParams (buildSysV names nb)) getSym name = .ok ((sysvLastNamed names name).map sym) := by
  obtain ⟨l, hl, heq⟩ := elfHashGetSymbol_eq names _ getSym sym name (buildSysV_wf names nb hn hn32 hnb hnb32) hget
  rw [buildSysV_bucketChain names nb hn hnb name] at hl
  rw [heq, ← Option.some.inj hl, bucketList_find names nb name sym hname]

theorem sysvLastNamed_mem (names : List Bytes) (i : Nat) :
    i ∈ (List.range' 1 (names.length - 1)).reverse ↔ 1 ≤ i ∧ i < names.length := by
  rw [List.mem_reverse, List.mem_range'_1]; omega

theorem sysvLastNamed_some {names : List Bytes} {name : Bytes} {j : Nat} (h : sysvLastNamed names name = some j) :
    1 ≤ j ∧ j < names.length ∧ names.getD j [] = name :=
  findNamed_some (sysvLastNamed_mem names) h

theorem sysvLastNamed_none {names : List Bytes} {name : Bytes} (h : sysvLastNamed names name = none) :
    ∀ i, 1 ≤ i → i < names.length → names.getD i [] ≠ name :=
  findNamed_none (sysvLastNamed_mem names) h

theorem sysv_complete_absent_built {names : List Bytes} {name : Bytes} {sym : Nat → Symbol} {r : Option Symbol}
    (hr : r = (sysvLastNamed names name).map sym) :
    (∀ i, 1 ≤ i → i < names.length → names.getD i [] = name →
        ∃ j, 1 ≤ j ∧ j < names.length ∧ names.getD j [] = name ∧ r = some (sym j))
      ∧ ((∀ i, 1 ≤ i → i < names.length → names.getD i [] ≠ name) → r = none) :=
  have H := findNamed_sound_complete (sysvLastNamed_mem names) hr
  ⟨H.2.2, H.2.1.mpr⟩

theorem sysvLastNamed_last {names : List Bytes} {name : Bytes} {j : Nat} (h : sysvLastNamed names name = some j) :
    ∀ i, j < i → i < names.length → names.getD i [] ≠ name := by
  intro i hji hin
  obtain ⟨_, as, bs, hl, hbefore⟩ := List.find?_eq_some_iff_append.mp h
  -- `i` and `j` both occur in the reversed range; `i > j` must come first
  have hrev : List.range' 1 (names.length - 1) = bs.reverse ++ j :: as.reverse := by
    have := congrArg List.reverse hl
    simpa using this
  have hsorted : (List.range' 1 (names.length - 1)).Pairwise (· < ·) := List.pairwise_lt_range'
  rw [hrev] at hsorted
  have hmem : i ∈ List.range' 1 (names.length - 1) := List.mem_range'_1.mpr ⟨by omega, by omega⟩
  rw [hrev] at hmem
  have hcases := List.mem_append.mp hmem
  have hpw := List.pairwise_append.mp hsorted
  rcases hcases with hb | hc
  · have := hpw.2.2 i hb j List.mem_cons_self
    omega
  · rcases List.mem_cons.mp hc with rfl | ha
    · omega
    · have := hbefore i (List.mem_reverse.mp ha)
      simpa using this

theorem sysv_built_bytes (env : Env) {S : ElfStructs} (c : ElfCfg) (hH : S.Elf_Hash = (Spec.elfStructs c).Elf_Hash)
    (names : List Bytes) (nb : Nat)
    (hn : 1 ≤ names.length) (hn32 : names.length < 2 ^ 32) (hnb : 1 ≤ nb) (hnb32 : nb < 2 ^ 32)
    (data : Bytes) (off : Nat) (rest : Bytes) (hd : data.drop off = encSysV c.le (buildSysV names nb) ++ rest)
    (getSym : Nat → R Symbol) (sym : Nat → Symbol)
    (hget : ∀ j, j < names.length → getSym j = .ok (sym j))
    (hname : ∀ j, j < names.length → (sym j).2 = names.getD j []) :
    ∃ params, elfHashInit S env data off = .ok params
      ∧ elfHashCount params = .ok (.int names.length)
      ∧ ∀ name, elfHashGetSymbol params getSym name = .ok ((sysvLastNamed names name).map sym) := by
  have hwf := buildSysV_wf names nb hn hn32 hnb hnb32
  exact ⟨_, sysv_init_of_wf env c hH names _ data off rest hwf hd, sysv_count_eq names _ hwf,
    sysv_built_exact names nb hn hn32 hnb hnb32 getSym sym hget hname⟩

theorem gnuOrder_drop_perm {β : Type} (nb so : Nat) (syms : List (Bytes × β)) :
    ((gnuOrder nb so syms).drop so).Perm (syms.drop so) := by
  rw [gnuOrder_drop]; exact sortByKey_perm _ _

theorem gnuOrder_hashed_mem {β : Type} (nb so : Nat) (syms : List (Bytes × β)) (s : Bytes × β) (hs : s ∈ syms.drop so) :
    ∃ i, so ≤ i ∧ i < ((gnuOrder nb so syms).map (·.1)).length ∧ ((gnuOrder nb so syms).map (·.1)).getD i [] = s.1 := by
  have hm : s ∈ (gnuOrder nb so syms).drop so := (gnuOrder_drop_perm nb so syms).mem_iff.mpr hs
  obtain ⟨k, hk, hks⟩ := List.mem_iff_getElem.mp hm
  rw [List.length_drop] at hk
  have hlt : so + k < (gnuOrder nb so syms).length := by omega
  refine ⟨so + k, by omega, by simpa using hlt, ?_⟩
  rw [List.getElem_drop] at hks
  rw [Engine.getD_of_lt _ _ [] (by simpa using hlt), List.getElem_map, hks]

theorem gnuOrder_hashed_of_idx {β : Type} (nb so : Nat) (syms : List (Bytes × β)) (i : Nat) (h1 : so ≤ i)
    (h2 : i < ((gnuOrder nb so syms).map (·.1)).length) :
    ∃ s ∈ syms.drop so, ((gnuOrder nb so syms).map (·.1)).getD i [] = s.1 := by
  have hlt : i < (gnuOrder nb so syms).length := by simpa using h2
  refine ⟨(gnuOrder nb so syms)[i], ?_, ?_⟩
  · apply (gnuOrder_drop_perm nb so syms).mem_iff.mp
    apply List.mem_iff_getElem.mpr
    refine ⟨i - so, by rw [List.length_drop]; omega, ?_⟩
    rw [List.getElem_drop]
    congr 1; omega
  · rw [Engine.getD_of_lt _ i [] h2, List.getElem_map]

theorem gnu_built_bytes {β : Type} (env : Env) {S : ElfStructs} (c : ElfCfg)
    (hG : S.Gnu_Hash = (Spec.elfStructs c).Gnu_Hash) (hcls : c.cls = 32 ∨ c.cls = 64)
    (syms : List (Bytes × β)) (nb so bs sh : Nat)
    (hnb : 1 ≤ nb) (hnb32 : nb < 2 ^ 32) (hbs : 1 ≤ bs) (hbs32 : bs < 2 ^ 32) (hsh32 : sh < 2 ^ 32)
    (hso1 : 1 ≤ so) (hson : so ≤ syms.length) (hn32 : syms.length < 2 ^ 32)
    (data : Bytes) (off : Nat) (rest : Bytes)
    (hd : data.drop off = encGnu c.le c.cls (buildGnu c.cls ((gnuOrder nb so syms).map (·.1)) nb so bs sh) ++ rest)
    (getSym : Nat → R Symbol) (sym : Nat → Symbol)
    (hget : ∀ j, j < ((gnuOrder nb so syms).map (·.1)).length → getSym j = .ok (sym j))
    (hname : ∀ j, j < ((gnuOrder nb so syms).map (·.1)).length → (sym j).2 = ((gnuOrder nb so syms).map (·.1)).getD j []) :
    ∃ g, gnuHashInit S env c.cls data off = .ok g
      ∧ gnuHashCount c.le data g = .ok syms.length
      ∧ ∀ name, gnuHashGetSymbol c.le c.cls data g getSym name
          = .ok ((gnuFirstNamed ((gnuOrder nb so syms).map (·.1)) so name).map sym) := by
  have hwf := buildGnu_wf c.cls syms nb so bs sh (by rcases hcls with h | h <;> omega) hnb hnb32 hbs hbs32 hsh32 hso1 hson hn32
  have hl : ((gnuOrder nb so syms).map (·.1)).length = syms.length := by rw [List.length_map, gnuOrder_length]
  obtain ⟨g, h1, h2, h3, h4⟩ := gnu_init_of_wf env c hG hcls _ _ data off rest hwf hd
  refine ⟨g, h1, ?_, fun name => ?_⟩
  · rw [← hl]; exact gnuHashCount_eq c.cls _ _ c.le data g hwf h2 h3 h4
  · exact gnuHashGetSymbol_eq c.cls _ _ c.le data g getSym sym name hwf h2 h3 h4 hget hname

section file
variable {data : Bytes} {h : SecHdr} {strOff : Nat} {es : List SymE} (env : Env) {S : ElfStructs} (c : ElfCfg)
  (hS : S.Elf_Sym = symCon c.le c.cls)
include hS

/-- the lookups go through the real `get_symbol` of the laid-out table -/
theorem sysv_built_file {names : List Bytes} (hH : S.Elf_Hash = (Spec.elfStructs c).Elf_Hash)
    (L : SymtabLayout c.le c.cls data h strOff es names) (nb : Nat)
    (hn : 1 ≤ es.length) (hn32 : es.length < 2 ^ 32) (hnb : 1 ≤ nb) (hnb32 : nb < 2 ^ 32)
    (off : Nat) (rest : Bytes) (hd : data.drop off = encSysV c.le (buildSysV names nb) ++ rest) :
    ∃ params, elfHashInit S env data off = .ok params
      ∧ elfHashCount params = .ok (.int es.length)
      ∧ ∀ name, elfHashGetSymbol params (getSymbol S env data h strOff) name
          = .ok ((sysvLastNamed names name).map (symObs env.enumDecode c.cls es names)) := by
  have hl := L.nlen
  have := sysv_built_bytes env c hH names nb (by omega) (by omega) hnb hnb32 data off rest hd
    (getSymbol S env data h strOff) (symObs env.enumDecode c.cls es names)
    (fun j hj => layout_getSymbol env hS L j (by omega)) (fun _ _ => rfl)
  rwa [hl] at this

theorem gnu_built_file {β : Type} (hG : S.Gnu_Hash = (Spec.elfStructs c).Gnu_Hash) (syms : List (Bytes × β))
    (nb so bs sh : Nat) (L : SymtabLayout c.le c.cls data h strOff es ((gnuOrder nb so syms).map (·.1)))
    (hnb : 1 ≤ nb) (hnb32 : nb < 2 ^ 32) (hbs : 1 ≤ bs) (hbs32 : bs < 2 ^ 32) (hsh32 : sh < 2 ^ 32)
    (hso1 : 1 ≤ so) (hson : so ≤ syms.length) (hn32 : syms.length < 2 ^ 32)
    (off : Nat) (rest : Bytes)
    (hd : data.drop off = encGnu c.le c.cls (buildGnu c.cls ((gnuOrder nb so syms).map (·.1)) nb so bs sh) ++ rest) :
    ∃ g, gnuHashInit S env c.cls data off = .ok g
      ∧ gnuHashCount c.le data g = .ok es.length
      ∧ ∀ name, gnuHashGetSymbol c.le c.cls data g (getSymbol S env data h strOff) name
          = .ok ((gnuFirstNamed ((gnuOrder nb so syms).map (·.1)) so name).map
                  (symObs env.enumDecode c.cls es ((gnuOrder nb so syms).map (·.1)))) := by
  have hl : ((gnuOrder nb so syms).map (·.1)).length = syms.length := by
    rw [List.length_map, gnuOrder_length]
  have hle := L.nlen
  have := gnu_built_bytes env c hG L.hcls syms nb so bs sh hnb hnb32 hbs hbs32 hsh32
    hso1 hson hn32 data off rest hd (getSymbol S env data h strOff)
    (symObs env.enumDecode c.cls es ((gnuOrder nb so syms).map (·.1)))
    (fun j hj => layout_getSymbol env hS L j (by omega)) (fun _ _ => rfl)
  rwa [show syms.length = es.length by omega] at this

end file

end PyElf.Proofs.C03
