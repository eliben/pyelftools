/-
  The Spec's decidable well-formedness of a forest (`wfForestB`) gives the propositional one the section theorems are
  stated with (`WfForest`): clause by clause, the node predicate over the tree.
-/
import PyElf.Proofs.DieSection
namespace PyElf.Proofs.C04
open PyElf PyElf.Spec PyElf.Spec.C04 PyElf.Spec.Lookup PyElf.Model PyElf.Model.Lookup PyElf.Model.C04 PyElf.Proofs
  PyElf.Proofs.Engine PyElf.Proofs.Lookup

theorem distinctAt_of_B (nm : Names) : ∀ ss : List AttrSpec, distinctAtB nm ss = true → DistinctAt nm ss := by
  intro ss
  induction ss with
  | nil => intro _; trivial
  | cons s ss ih =>
    intro h
    simp only [distinctAtB, Bool.and_eq_true, List.all_eq_true, Bool.not_eq_true'] at h
    exact ⟨h.1, ih h.2⟩

theorem resolvesAll_of_B (c : DwarfCfg) (secs : Sections) (b : Bases) (nm : Names) :
    ∀ (ss : List AttrSpec) (as : List AttrV), resolvesAllB c secs b nm ss as = true → ResolvesAll c secs b nm ss as := by
  intro ss
  induction ss with
  | nil => intro as _; cases as <;> simp [ResolvesAll]
  | cons s ss ih =>
    intro as h
    cases as with
    | nil => simp [ResolvesAll]
    | cons a as =>
      simp only [resolvesAllB, Bool.and_eq_true, Bool.or_eq_true, beq_iff_eq] at h
      refine ⟨fun hne => ?_, ih as h.2⟩
      rcases h.1 with h1 | h1
      · exact absurd h1 hne
      · exact h1

theorem nodeIn_of_B (nm : Names) (c : DwarfCfg) (secs : Sections) (b : Bases) (t : TableDesc) (x : Node)
    (h : nodeInB nm c secs b t x = true) : NodeIn nm c secs b t x := by
  simp only [nodeInB, Bool.and_eq_true, List.contains_iff_mem] at h
  exact ⟨h.1.1, distinctAt_of_B nm _ h.1.2, resolvesAll_of_B c secs b nm _ _ h.2⟩

mutual
theorem treeAll_of_B {q : Node → Bool} {Q : Node → Prop} (hq : ∀ x, q x = true → Q x) :
    ∀ t : Tree, treeAllB q t = true → TreeAll Q t
  | .mk n kids nl, h => by
    simp only [treeAllB, Bool.and_eq_true] at h
    exact ⟨hq n h.1, forestAll_of_B hq kids h.2⟩
theorem forestAll_of_B {q : Node → Bool} {Q : Node → Prop} (hq : ∀ x, q x = true → Q x) :
    ∀ ts : List Tree, forestAllB q ts = true → ForestAll Q ts
  | [], _ => trivial
  | t :: ts, h => by
    simp only [forestAllB, Bool.and_eq_true] at h
    exact ⟨treeAll_of_B hq t h.1, forestAll_of_B hq ts h.2⟩
end

theorem wfUnitDesc_of_B (nm : Names) (F : Forest) (u : UnitDesc) (cuOff dieOff : Nat)
    (h : wfUnitDescB nm F u cuOff dieOff = true) : WfUnitDesc nm F u cuOff dieOff := by
  simp only [wfUnitDescB, Bool.and_eq_true] at h
  obtain ⟨⟨h1, h2⟩, h3⟩ := h
  refine ⟨?_, h2, h3⟩
  cases ht : F.tables[u.table]? with
  | none => rw [ht] at h1; cases h1
  | some t =>
    rw [ht] at h1
    exact ⟨t, rfl, treeAll_of_B (fun x hx => nodeIn_of_B nm _ _ _ t x hx) _ h1⟩

theorem wfForest_of_B (nm : Names) (F : Forest) (h : wfForestB nm F = true) : WfForest nm F := by
  simp only [wfForestB, Bool.and_eq_true, List.all_eq_true, decide_eq_true_eq] at h
  obtain ⟨⟨⟨⟨⟨⟨⟨⟨tables, abbrevSmall⟩, infoSmall⟩, typesSmall⟩, secs⟩, infoHdr⟩, typesHdr⟩, units⟩, tus⟩ := h
  refine { tables, abbrevSmall, infoSmall, typesSmall, infoHdr, typesHdr,
           units := fun p hp => wfUnitDesc_of_B nm F _ _ _ (units p hp),
           tus := fun p hp => wfUnitDesc_of_B nm F _ _ _ (tus p hp),
           secsSmall := fun s hs => secs s ?_ }
  simp only [secList, List.mem_filterMap, id, List.mem_cons, List.not_mem_nil, or_false]
  rcases hs with e | e | e | e | e | e <;> exact ⟨_, by simp, e⟩

end PyElf.Proofs.C04
