/-
  C02 on whole files.  `FileFacts` is what C01 knows of a byte string that carries a description (`Carries`), in C02's
  vocabulary (`IsShdr` / `IsPhdr` of `secOf` / `segOf`); then one bridge per accessor of sections' and segments' data,
  strings and the interpreter path: the whole-file call is the object-level accessor on the header C01 proves reported,
  and the theorem of Props/C02 is the bridge followed by the accessor's normal form (Proofs/Contents.lean).
  `file_address_offsets` and `file_in_segment` are proved whole here.
-/
import PyElf.Proofs.Contents
import PyElf.Proofs.ElfView
import PyElf.Model.ContentsFile
namespace PyElf.Proofs.C02
open PyElf PyElf.Spec PyElf.Model PyElf.Proofs PyElf.Proofs.Engine
open PyElf.Spec.C02
open PyElf.Model.C02
open PyElf.Proofs.C15 (fileOf)

theorem isShdr_of {env : Env} {d : ElfDesc} {bytes : Bytes} {hdr : Val} {st : Option Val} {i : Nat} {s : SecDesc} {h : Val}
    (V : SecAt env d bytes hdr st i s h) : IsShdr (nameOr env.enumDecode (shTypeTable d.mclass)) h (secOf s) :=
  have key := fun k hk hne => V.facts.fld k hk hne
  { ty := V.ty
    flags := key "sh_flags" (by simp [shdrNatKeys]) (by decide), addr := key "sh_addr" (by simp [shdrNatKeys]) (by decide),
    offset := key "sh_offset" (by simp [shdrNatKeys]) (by decide), size := key "sh_size" (by simp [shdrNatKeys]) (by decide),
    addralign := key "sh_addralign" (by simp [shdrNatKeys]) (by decide) }

theorem isPhdr_of {env : Env} {d : ElfDesc} {bytes : Bytes} {hdr : Val} {st : Option Val} {j : Nat} {p : Fields} {ph : Val}
    (V : SegAt env d bytes hdr st j p ph) : IsPhdr (nameOr env.enumDecode (pTypeTable d.mclass)) ph (segOf p) :=
  { ty := V.ty
    offset := V.fld _ (by simp [phdrNatKeys]), vaddr := V.fld _ (by simp [phdrNatKeys]),
    filesz := V.fld _ (by simp [phdrNatKeys]), memsz := V.fld _ (by simp [phdrNatKeys]) }

abbrev decTOf (env : Env) (d : ElfDesc) : Nat → Val := nameOr env.enumDecode (shTypeTable d.mclass)
abbrev decPOf (env : Env) (d : ElfDesc) : Nat → Val := nameOr env.enumDecode (pTypeTable d.mclass)

structure FileFacts (env : Env) (SF : ElfCfg → Option ElfStructs) (MC : Val → String) (d : ElfDesc) (bytes : Bytes)
    (f : ElfFile) : Prop where
  hopen : openElf env SF MC bytes = .ok f
  hdata : f.data = bytes
  hS : f.S = d.S
  hclsOk : d.cls = 32 ∨ d.cls = 64
  hL : LayoutFacts d bytes
  hsec : ∀ i (hi : i < d.sections.length), ∃ sh,
    getSection env f.S bytes f.header f.shstr i =
      .ok (kindOf (decTOf env d (secOf d.sections[i]).shType) d.sections[i].name, d.sections[i].name, sh) ∧
    IsShdr (decTOf env d) sh (secOf d.sections[i])
  hseg : ∀ j (hj : j < d.segments.length), ∃ ph,
    getSegment env f.S bytes f.header f.shstr j = .ok (segKindOf (decPOf env d (segOf d.segments[j]).ptype), ph) ∧
    IsPhdr (decPOf env d) ph (segOf d.segments[j])
  hsegs : ∃ kphs, iterSegments env f.S bytes f.header f.shstr = .ok kphs ∧
    ArePhdrs (decPOf env d) (kphs.map (·.2)) (d.segments.map segOf)

theorem arePhdrs_of_forall {decP : Nat → Val} :
    ∀ (phs : List Val) (segs : List Seg), phs.length = segs.length →
      (∀ i (h1 : i < phs.length) (h2 : i < segs.length), IsPhdr decP phs[i] segs[i]) → ArePhdrs decP phs segs
  | [], [], _, _ => .nil
  | [], _ :: _, hl, _ => by simp at hl
  | _ :: _, [], hl, _ => by simp at hl
  | ph :: phs, g :: segs, hl, h =>
    .cons (h 0 (by simp) (by simp))
      (arePhdrs_of_forall phs segs (by simpa using hl) (fun i h1 h2 => by
        have := h (i + 1) (by simp; omega) (by simp; omega)
        simpa using this))

/-- C01's hypotheses, compressed sections admitted -/
structure Carries (env : Env) (d : ElfDesc) (bytes : Bytes) : Prop where
  wf : d.wfZ env = true
  layout : Layout d bytes
  observable : ∃ obs, d.observe env = .ok obs

/-- the factory may be any that is the standard's (`SF`, `MC`: the names the statements use for it) -/
theorem Carries.facts {env : Env} {d : ElfDesc} {bytes : Bytes} (h : Carries env d bytes)
    {SF : ElfCfg → Option ElfStructs} {MC : Val → String} (hSF : SF = specSF) (hMC : MC = specMC) :
    ∃ f, FileFacts env SF MC d bytes f := by
  subst hSF hMC
  obtain ⟨obs, ho⟩ := h.observable
  obtain ⟨st, X, hopen⟩ := opened_obs h.wf h.layout ho
  have hlen := (observe_lengths ho).2
  refine ⟨_, { hopen := hopen, hdata := rfl, hS := rfl, hclsOk := X.cls, hL := layout_facts h.layout,
               hsec := fun i hi => ?_, hseg := fun j hj => ?_, hsegs := ⟨obs.segments, X.iterSegments ho, ?_⟩ }⟩
  · obtain ⟨sh, V⟩ := X.secAt_lt hi
    exact ⟨sh, V.get, isShdr_of V⟩
  · obtain ⟨ph, V, -⟩ := X.segAt_obs ho (List.getElem?_eq_getElem hj)
    exact ⟨ph, V.get, isPhdr_of V⟩
  · refine arePhdrs_of_forall _ _ (by simp [hlen]) fun i h1 h2 => ?_
    have hj : i < d.segments.length := by simpa using h2
    obtain ⟨ph, V, hobs⟩ := X.segAt_obs ho (List.getElem?_eq_getElem hj)
    rw [List.getElem?_eq_getElem (by omega)] at hobs
    simp only [List.getElem_map, Option.some.inj hobs]
    exact isPhdr_of V

theorem body_at {d : ElfDesc} {bytes : Bytes} (hL : LayoutFacts d bytes) {s : SecDesc} (hs : s ∈ d.sections) :
    readN bytes (secOf s).offset (bodyOf s).length = bodyOf s :=
  body_read hL hs

theorem extent_of_readN {data : Bytes} {pos : Nat} {bs : Bytes} (h : readN data pos bs.length = bs)
    (k n : Nat) (hkn : k + n ≤ bs.length) : extent data (pos + k) n = (bs.drop k).take n := by
  have hd := drop_of_readN h
  unfold extent
  rw [← List.drop_drop, hd, List.drop_append_of_le_length (by omega), List.take_append_of_le_length (by simp; omega)]

theorem extent_of_readN0 {data : Bytes} {pos : Nat} {bs : Bytes} (h : readN data pos bs.length = bs)
    (n : Nat) (hn : n ≤ bs.length) : extent data pos n = bs.take n := by
  simpa using extent_of_readN h 0 n (by omega)

section sections
variable {env : Env} {SF : ElfCfg → Option ElfStructs} {MC : Val → String} {d : ElfDesc} {bytes : Bytes} {f : ElfFile}

theorem fileSection_eq (X : FileFacts env SF MC d bytes f) {i : Nat} (hi : i < d.sections.length) {sh : Val} {o : SectionObj}
    (hget : getSection env f.S bytes f.header f.shstr i =
      .ok (kindOf (decTOf env d (secOf d.sections[i]).shType) d.sections[i].name, d.sections[i].name, sh))
    (hnew : sectionNew env f.S shFlags bytes sh = .ok o) :
    fileSection env SF MC shFlags bytes i =
      .ok (f, kindOf (decTOf env d (secOf d.sections[i]).shType) d.sections[i].name, sh, o) := by
  unfold fileSection
  simp only [X.hopen, bind, Except.bind, X.hdata, hget, hnew, pure, Except.pure]

theorem fileSection_plain (zlib : Bytes → Nat → R Bytes) (X : FileFacts env SF MC d bytes f) {i : Nat}
    (hi : i < d.sections.length) (hc : (secOf d.sections[i]).compressed = false) :
    ∃ sh, IsShdr (decTOf env d) sh (secOf d.sections[i]) ∧
      fileSectionData env SF MC shFlags bytes zlib i
        = sectionData zlib f.S bytes (plainObj sh (secOf d.sections[i])) ∧
      fileSectionMeta env SF MC shFlags bytes i
        = .ok (false, .int (secOf d.sections[i]).size, .int (secOf d.sections[i]).addralign) := by
  obtain ⟨sh, hget, hI⟩ := X.hsec i hi
  have hF := fileSection_eq X hi hget (sectionNew_plain env f.S bytes hI hc)
  refine ⟨sh, hI, ?_, ?_⟩
  · unfold fileSectionData
    simp only [hF, bind, Except.bind, X.hdata]
  · unfold fileSectionMeta
    simp only [hF, bind, Except.bind, pure, Except.pure, plainObj]
    rfl

theorem encChdr_length (cls : Nat) (le : Bool) (c : Chdr) : (encChdr cls le c).length = chdrSize cls := by
  unfold encChdr chdrSize
  split <;> simp [encNat_length]

theorem compressed_setup (X : FileFacts env SF MC d bytes f) {i : Nat} (hi : i < d.sections.length)
    {ch : Chdr} {z : Bytes} (hst : StoresCompressed d.cls d.le d.sections[i] ch z)
    (hfit : (secOf d.sections[i]).offset + (secOf d.sections[i]).size < 2 ^ 63) :
    (∃ chv p, structParseAt env f.S.Elf_Chdr bytes (secOf d.sections[i]).offset = .ok (chv, p) ∧
      IsChdr (decCOf env) chv ch) ∧
    f.S.Elf_Chdr.sizeof = some (chdrSize d.cls) ∧
    payload d.cls bytes (secOf d.sections[i]) = z ∧
    chdrSize d.cls ≤ (secOf d.sections[i]).size := by
  obtain ⟨hnb, hc, hf, hbody, hsize⟩ := hst
  have hbo : bodyOf d.sections[i] = encChdr d.cls d.le ch ++ z := bodyOf_some hbody
  have hr := body_at X.hL (List.getElem_mem hi)
  rw [hbo] at hr
  have hdrop := drop_of_readN hr
  rw [List.append_assoc] at hdrop
  obtain ⟨chv, h1, h2, h3⟩ := chdr_roundtrip env d.cfg X.hclsOk ch hf bytes _ _ hdrop (by omega)
  have hlen := encChdr_length d.cls d.le ch
  refine ⟨⟨chv, _, by rw [X.hS]; exact h1, h2⟩, by rw [X.hS]; exact h3, ?_, ?_⟩
  · unfold payload
    have e1 : (encChdr d.cls d.le ch ++ z).drop (chdrSize d.cls) = z := by
      rw [← hlen]; simp
    have e2 : (encChdr d.cls d.le ch ++ z).length - chdrSize d.cls = z.length := by
      rw [List.length_append, hlen]; omega
    rw [extent_of_readN hr (chdrSize d.cls) _ (by rw [hsize, List.length_append, hlen]; omega), hsize, e1, e2]
    simp
  · rw [hsize]; simp [List.length_append, hlen]

theorem fileSection_z (zlib : Bytes → Nat → R Bytes) (X : FileFacts env SF MC d bytes f)
    (hT : NobitsNaming (decTOf env d)) (hC : ZlibNaming (decCOf env)) {i : Nat} (hi : i < d.sections.length)
    {ch : Chdr} {z : Bytes} (hst : StoresCompressed d.cls d.le d.sections[i] ch z)
    (hfit : (secOf d.sections[i]).offset + (secOf d.sections[i]).size < 2 ^ 63) :
    fileSectionData env SF MC shFlags bytes zlib i = zOutcome zlib (decCOf env) ch z ∧
    fileSectionMeta env SF MC shFlags bytes i = .ok (true, .int ch.chSize, .int ch.chAlign) := by
  obtain ⟨⟨chv, p, hparse, hch⟩, hsz, hpay, hfull⟩ := compressed_setup X hi hst hfit
  obtain ⟨hnb, hc, -, -, -⟩ := hst
  obtain ⟨sh, hget, hI⟩ := X.hsec i hi
  have hF := fileSection_eq X hi hget (sectionNew_compressed env f.S bytes hI hc hparse hch)
  refine ⟨?_, ?_⟩
  · unfold fileSectionData
    simp only [hF, bind, Except.bind, X.hdata]
    rw [sectionData_zobj zlib f.S d.cls bytes hT hC ch hI hnb hc hsz (by omega) hfull (by omega), hpay]
  · unfold fileSectionMeta
    simp only [hF, bind, Except.bind, pure, Except.pure, zObj, bne_iff_ne.2 ((compressed_iff _).1 hc)]

theorem firstNul_of_table {d : ElfDesc} (hL : LayoutFacts d bytes) {s : SecDesc} (hs : s ∈ d.sections) {off : Nat}
    {str : Bytes} (h : stringAt (tableOf s) off = some str) :
    firstNul (bytes.drop ((secOf s).offset + off)) = some str := by
  unfold stringAt tableOf at h
  rw [List.drop_take] at h
  exact firstNul_drop_in (body_read_drop hL hs) (firstNul_take _ _ _ h)

theorem kindOf_strtab (name : Bytes) : kindOf (.str "SHT_STRTAB") name = "StringTableSection" := rfl

theorem file_get_string_eq (X : FileFacts env SF MC d bytes f) {i : Nat} (hi : i < d.sections.length)
    (hk : decTOf env d (secOf d.sections[i]).shType = .str "SHT_STRTAB") (off : Nat) :
    fileGetString env SF MC bytes i off =
      if 2 ^ 63 ≤ (secOf d.sections[i]).offset + off then .error .overflowError
      else .ok ((firstNul (bytes.drop ((secOf d.sections[i]).offset + off))).getD []) := by
  obtain ⟨sh, hget, hI⟩ := X.hsec i hi
  unfold fileGetString
  simp only [X.hopen, bind, Except.bind, X.hdata, hget, hk, kindOf_strtab, beq_self_eq_true, if_true]
  exact getString_eq bytes off hI.offset

theorem file_get_string_any (X : FileFacts env SF MC d bytes f) {i : Nat} (hi : i < d.sections.length)
    (hk : decTOf env d (secOf d.sections[i]).shType = .str "SHT_STRTAB") {off : Nat}
    (hp : (secOf d.sections[i]).offset + off < 2 ^ 63) :
    fileGetString env SF MC bytes i off
      = .ok ((firstNul (bytes.drop ((secOf d.sections[i]).offset + off))).getD []) := by
  rw [file_get_string_eq X hi hk, if_neg (Nat.not_le_of_lt hp)]

theorem file_get_string_overflow (X : FileFacts env SF MC d bytes f) {i : Nat} (hi : i < d.sections.length)
    (hk : decTOf env d (secOf d.sections[i]).shType = .str "SHT_STRTAB") {off : Nat}
    (hp : 2 ^ 63 ≤ (secOf d.sections[i]).offset + off) :
    fileGetString env SF MC bytes i off = .error .overflowError := by
  rw [file_get_string_eq X hi hk, if_pos hp]

end sections

section segments
variable {env : Env} {SF : ElfCfg → Option ElfStructs} {MC : Val → String} {d : ElfDesc} {bytes : Bytes} {f : ElfFile}

theorem fileSegment_eq (X : FileFacts env SF MC d bytes f) {j : Nat} {kind : String} {ph : Val}
    (hget : getSegment env f.S bytes f.header f.shstr j = .ok (kind, ph)) :
    fileSegment env SF MC bytes j = .ok (f, kind, ph) := by
  unfold fileSegment
  simp only [X.hopen, bind, Except.bind, X.hdata, hget, pure, Except.pure]

theorem fileSegmentData_bridge (X : FileFacts env SF MC d bytes f) {j : Nat} (hj : j < d.segments.length) :
    ∃ ph, IsPhdr (decPOf env d) ph (segOf d.segments[j]) ∧
      fileSegmentData env SF MC bytes j = segmentData bytes ph := by
  obtain ⟨ph, hget, hP⟩ := X.hseg j hj
  refine ⟨ph, hP, ?_⟩
  unfold fileSegmentData
  simp only [fileSegment_eq X hget, bind, Except.bind, X.hdata]

theorem segData_in_body (hL : LayoutFacts d bytes) {g : Seg} {s : SecDesc} (hs : s ∈ d.sections) {k : Nat}
    (hin : SegInBody g s k) : segData bytes g = segBytes g s k := by
  obtain ⟨h1, h2⟩ := hin
  unfold segData segBytes
  rw [h1]
  exact extent_of_readN (body_at hL hs) k g.filesz h2

theorem segKindOf_interp : segKindOf (.str "PT_INTERP") = "InterpSegment" := rfl

theorem fileInterpName_bridge (X : FileFacts env SF MC d bytes f) {j : Nat} (hj : j < d.segments.length)
    (hk : decPOf env d (segOf d.segments[j]).ptype = .str "PT_INTERP") :
    ∃ ph, IsPhdr (decPOf env d) ph (segOf d.segments[j]) ∧
      fileInterpName env SF MC bytes j = getInterpName env bytes ph := by
  obtain ⟨ph, hget, hP⟩ := X.hseg j hj
  refine ⟨ph, hP, ?_⟩
  unfold fileInterpName
  simp only [fileSegment_eq X hget, bind, Except.bind, X.hdata, hk, segKindOf_interp, beq_self_eq_true, if_true]

theorem interpName_in_body (hL : LayoutFacts d bytes) {g : Seg} {s : SecDesc} (hs : s ∈ d.sections) {k : Nat}
    (hoff : g.offset = (secOf s).offset + k) {path : Bytes} (hp : firstNul ((bodyOf s).drop k) = some path) :
    interpName bytes g = some path := by
  unfold interpName
  rw [hoff]
  exact firstNul_drop_in (body_read_drop hL hs) hp

theorem file_address_offsets (X : FileFacts env SF MC d bytes f) (hP : PTypeNaming (decPOf env d)) (start size : Nat) :
    fileAddressOffsets env SF MC bytes (start : Int) (size : Int)
      = .ok ((addrOffsets (d.segments.map segOf) start size).map Int.ofNat) := by
  obtain ⟨kphs, hit, hA⟩ := X.hsegs
  unfold fileAddressOffsets addressOffsets
  simp only [X.hopen, bind, Except.bind, X.hdata, hit]
  exact addressOffsetsOf_eq hP start size _ _ hA

theorem file_in_segment (X : FileFacts env SF MC d bytes f) (hP : PTypeNaming (decPOf env d))
    (hT : NobitsNaming (decTOf env d)) {j i : Nat} (hj : j < d.segments.length) (hi : i < d.sections.length) :
    fileSectionInSegment env SF MC shFlags bytes j i
      = .ok (inSegmentStrict (segOf d.segments[j]) (secOf d.sections[i])) := by
  obtain ⟨ph, hgetp, hPh⟩ := X.hseg j hj
  obtain ⟨sh, hgets, hSh⟩ := X.hsec i hi
  unfold fileSectionInSegment
  simp only [X.hopen, bind, Except.bind, X.hdata, hgetp, hgets]
  exact sectionInSegment_eq hP hT hPh hSh

end segments

end PyElf.Proofs.C02
