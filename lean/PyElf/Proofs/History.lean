/-
  C10, the whole object, under `FileWF` alone: the invariant `Inv` (unit cache of C13, one `UCore` per unit, the two
  name maps, the positions of suspended `iter_CUs` generators) and what the operations do to it.  A lookup only
  fills caches: it has an answer that is a function of the file, and takes `st` to a state `st'` with `Fills st st'`
  (`step_lookup`); navigation and generators keep `Inv` for every input (`step_inv`).
-/
import PyElf.Proofs.HistoryUnit
namespace PyElf.Proofs.C10
open PyElf PyElf.Model.Lookup PyElf.Model.C10 PyElf.Proofs.Lookup

/-- what the cache logic needs of the pure side of a file -/
structure FileWF (F : File) (cs : List CU) : Prop where
  cuOff : ∀ o c, F.parseCU o = .ok c → c.cuOffset = o
  chain : Chain F.parseCU F.size 0 cs
  dieOff : ∀ cu o d, F.parseDIE cu o = .ok d → d.offset = o
  dieLow : ∀ c ∈ cs, ∀ o d, F.parseDIE c.cuOffset o = .ok d → c.cuDieOffset ≤ o

/-- a position of the `_parse_CUs_iter` loop: the end of the section or the start of a unit -/
def ChainPos (F : File) (cs : List CU) (o : Nat) : Prop := o = F.size ∨ ∃ c ∈ cs, c.cuOffset = o

def IterOK (F : File) (cs : List CU) : Iter → Prop
  | .cus o d => d = true ∨ ChainPos F cs o
  | _ => True

structure Inv (F : File) (cs : List CU) (st : State) : Prop where
  cu : Lookup.Inv F.parseCU cs st.cus
  units : ∀ k u, assocGet? st.units k = some u → ∀ c ∈ cs, c.cuOffset = k → UCore (F.parseDIE k) c.cuDieOffset u
  sec : st.secMap = none ∨ st.secMap = some (buildSecMap F.secNames)
  sym : st.symMap = none ∨ st.symMap = some (buildSymMap F.symNames)
  iters : ∀ it ∈ st.iters, IterOK F cs it

theorem inv_init (F : File) (cs : List CU) : Inv F cs State.init :=
  { cu := inv_empty _ _, units := fun k u h => by simp [State.init, assocGet?] at h,
    sec := Or.inl rfl, sym := Or.inl rfl, iters := fun it h => by simp [State.init] at h }

section state
variable {F : File} {cs : List CU} {st : State}

theorem unit_unique (wf : FileWF F cs) {c c' : CU} (hc : c ∈ cs) (hc' : c' ∈ cs) (h : c'.cuOffset = c.cuOffset) : c' = c := by
  have h1 := (chain_mem wf.cuOff cs 0 wf.chain c hc).2.1
  have h2 := (chain_mem wf.cuOff cs 0 wf.chain c' hc').2.1
  rw [h, h1] at h2
  injection h2 with h2
  exact h2.symm

/-- (the stored object's `pos` field stands for the shared stream's position, hence the overwrite) -/
theorem unitOf_eq (st : State) (k : Nat) :
    (∃ u, assocGet? st.units k = some u ∧ unitOf st k = { u with pos := st.pos }) ∨
    (assocGet? st.units k = none ∧ unitOf st k = UnitCache.empty st.pos) := by
  unfold unitOf
  cases assocGet? st.units k with
  | none => exact Or.inr ⟨rfl, rfl⟩
  | some u => exact Or.inl ⟨u, rfl, rfl⟩

theorem unitOf_links_of_units_eq {st st' : State} (h : st'.units = st.units) (k : Nat) :
    (unitOf st' k).parent = (unitOf st k).parent ∧ (unitOf st' k).term = (unitOf st k).term := by
  unfold unitOf
  rw [h]
  cases assocGet? st.units k <;> exact ⟨rfl, rfl⟩

theorem unitOf_putUnit_self (st : State) (cu : Nat) (u : UnitCache) : unitOf (putUnit st cu u) cu = u := by
  simp only [unitOf, putUnit, assocGet_set_self]

theorem unitOf_putUnit_other (st : State) {cu k : Nat} (u : UnitCache) (h : k ≠ cu) :
    (unitOf (putUnit st cu u) k).parent = (unitOf st k).parent ∧ (unitOf (putUnit st cu u) k).term = (unitOf st k).term := by
  simp only [unitOf, putUnit, assocGet_set_other _ _ _ _ h]
  cases assocGet? st.units k <;> exact ⟨rfl, rfl⟩

theorem inUnit_eq {α} {c : CU} {f : UnitCache → R α × UnitCache} {r : R α} {u' : UnitCache}
    (h : f (unitOf st c.cuOffset) = (r, u')) : inUnit st c f = (r, putUnit st c.cuOffset u') := by
  unfold inUnit; rw [h]

theorem unitOf_core (hinv : Inv F cs st) {c : CU} (hc : c ∈ cs) :
    UCore (F.parseDIE c.cuOffset) c.cuDieOffset (unitOf st c.cuOffset) := by
  rcases unitOf_eq st c.cuOffset with ⟨u, hg, e⟩ | ⟨_, e⟩ <;> rw [e]
  · exact ucore_congr (hinv.units _ u hg c hc rfl) rfl rfl
  · exact ucore_empty _ _ _

theorem putUnit_inv (wf : FileWF F cs) (hinv : Inv F cs st) {c : CU} (hc : c ∈ cs) {u : UnitCache}
    (hu : UCore (F.parseDIE c.cuOffset) c.cuDieOffset u) : Inv F cs (putUnit st c.cuOffset u) :=
  { cu := hinv.cu
    units := assocSet_forall (P := fun k u => ∀ c' ∈ cs, c'.cuOffset = k → UCore (F.parseDIE k) c'.cuDieOffset u)
      hinv.units (fun c' hc' hk => by rw [unit_unique wf hc hc' hk]; exact hu)
    sec := hinv.sec, sym := hinv.sym, iters := hinv.iters }

theorem withCU_inv (hinv : Inv F cs st) (r : R CU × CUCache) (hr : Lookup.Inv F.parseCU cs r.2) :
    Inv F cs (withCU st r).2 :=
  { cu := hr, units := hinv.units, sec := hinv.sec, sym := hinv.sym, iters := hinv.iters }

/-- `st'` is `st` with fuller caches and nothing else changed.  What is known of an object in terms of its units,
    links and generators is known again after such a step (`Fills.invT`). -/
structure Fills (F : File) (cs : List CU) (st st' : State) : Prop where
  inv : Inv F cs st'
  cus : Grows st.cus st'.cus
  iters : st'.iters = st.iters
  links : ∀ k, (unitOf st' k).parent = (unitOf st k).parent ∧ (unitOf st' k).term = (unitOf st k).term

theorem Fills.refl (h : Inv F cs st) : Fills F cs st st := ⟨h, Grows.refl _, rfl, fun _ => ⟨rfl, rfl⟩⟩

theorem Fills.trans {a b c : State} (h1 : Fills F cs a b) (h2 : Fills F cs b c) : Fills F cs a c :=
  ⟨h2.inv, h1.cus.trans h2.cus, h2.iters.trans h1.iters,
    fun k => ⟨(h2.links k).1.trans (h1.links k).1, (h2.links k).2.trans (h1.links k).2⟩⟩

/-- the stream position and `_linetable_cache` are no concern of the invariant -/
theorem fills_of_eq {st' : State} (h : Inv F cs st) (h1 : st'.cus = st.cus) (h2 : st'.units = st.units)
    (h3 : st'.iters = st.iters) (hs : st'.secMap = none ∨ st'.secMap = some (buildSecMap F.secNames))
    (hy : st'.symMap = none ∨ st'.symMap = some (buildSymMap F.symNames)) : Fills F cs st st' :=
  ⟨{ cu := h1 ▸ h.cu, units := h2 ▸ h.units, sec := hs, sym := hy, iters := h3 ▸ h.iters }, h1 ▸ Grows.refl _, h3,
    unitOf_links_of_units_eq h2⟩

theorem Inv.setIters (h : Inv F cs st) {its : List Iter} (hi : ∀ it ∈ its, IterOK F cs it) :
    Inv F cs { st with iters := its } :=
  { cu := h.cu, units := h.units, sec := h.sec, sym := h.sym, iters := hi }

theorem fills_withCU (hinv : Inv F cs st) (r : R CU × CUCache) (hr : Lookup.Inv F.parseCU cs r.2)
    (hg : Grows st.cus r.2) : Fills F cs st (withCU st r).2 :=
  ⟨withCU_inv hinv r hr, hg, rfl, unitOf_links_of_units_eq rfl⟩

theorem fills_inUnit {α} (wf : FileWF F cs) (hinv : Inv F cs st) {c : CU} (hc : c ∈ cs) (f : UnitCache → R α × UnitCache)
    (hf : ∀ u, UCore (F.parseDIE c.cuOffset) c.cuDieOffset u →
      UCore (F.parseDIE c.cuOffset) c.cuDieOffset (f u).2 ∧ (f u).2.parent = u.parent ∧ (f u).2.term = u.term) :
    Fills F cs st (inUnit st c f).2 := by
  obtain ⟨h1, h2, h3⟩ := hf _ (unitOf_core hinv hc)
  refine ⟨putUnit_inv wf hinv hc h1, Grows.refl _, rfl, fun k => ?_⟩
  by_cases hk : k = c.cuOffset
  · subst hk
    show (unitOf (putUnit st _ _) _).parent = _ ∧ (unitOf (putUnit st _ _) _).term = _
    rw [unitOf_putUnit_self]
    exact ⟨h2, h3⟩
  · exact unitOf_putUnit_other st _ hk

theorem getCUAt'_valid (wf : FileWF F cs) (hinv : Inv F cs st) {c : CU} (hc : c ∈ cs) :
    ∃ st', getCUAt' F st c.cuOffset = (.ok c, st') ∧ Fills F cs st st' ∧ c ∈ st'.cus.cus := by
  obtain ⟨_, hr, hinv', hg, hm⟩ := getCUAt_exact wf.cuOff wf.chain hinv.cu hc
  refine ⟨(getCUAt' F st c.cuOffset).2, ?_, ?_, ?_⟩
  · unfold getCUAt' withCU; rw [hr]
  · unfold getCUAt'
    exact fills_withCU hinv _ (by rw [hr]; exact hinv') (by rw [hr]; exact hg)
  · unfold getCUAt' withCU; rw [hr]; exact hm

theorem mem_size (wf : FileWF F cs) {c : CU} (hc : c ∈ cs) : ∃ sz, c.size = .ok sz ∧ 0 < sz ∧ c.cuOffset + sz ≤ F.size := by
  obtain ⟨_, _, sz, h1, h2, h3⟩ := chain_mem wf.cuOff cs 0 wf.chain c hc
  exact ⟨sz, h1, h2, h3⟩

theorem containing_exists (wf : FileWF F cs) {x : Nat} (hx : x < F.size) :
    ∃ c ∈ cs, ∃ sz, c.size = .ok sz ∧ c.cuOffset ≤ x ∧ x < c.cuOffset + sz :=
  chain_covers wf.cuOff cs 0 wf.chain x (Nat.zero_le _) hx

theorem getCUCont'_exact (wf : FileWF F cs) (hinv : Inv F cs st) {c : CU} (hc : c ∈ cs) {sz x : Nat}
    (hsz : c.size = .ok sz) (h1 : c.cuOffset ≤ x) (h2 : x < c.cuOffset + sz) :
    ∃ st', getCUCont' F st x = (.ok c, st') ∧ Fills F cs st st' := by
  obtain ⟨_, hr, hinv', hg⟩ := getCUContaining_unit wf.cuOff wf.chain hinv.cu hc hsz h1 h2
  refine ⟨(getCUCont' F st x).2, ?_, ?_⟩
  · unfold getCUCont' withCU; rw [hr]
  · unfold getCUCont'
    exact fills_withCU hinv _ (by rw [hr]; exact hinv') (by rw [hr]; exact hg)

theorem cuEnd_eq {c : CU} {sz : Nat} (hsz : c.size = .ok sz) : cuEnd c = .ok (c.cuOffset + sz) := by
  simp [cuEnd, hsz, bind, Except.bind, pure, Except.pure]

/-- `_get_cached_DIE` forces the top DIE first -/
def pureDIE (F : File) (c : CU) (off : Nat) : R DIE :=
  F.parseDIE c.cuOffset c.cuDieOffset >>= fun _ => F.parseDIE c.cuOffset off

/-- with the range check of `CompileUnit.get_DIE_from_refaddr` -/
def pureRefaddr (F : File) (c : CU) (sz off : Nat) : R DIE :=
  if c.cuDieOffset ≤ off ∧ off < c.cuOffset + sz then pureDIE F c off else .error .dwarfError

theorem inUnit_top (wf : FileWF F cs) (hinv : Inv F cs st) {c : CU} (hc : c ∈ cs) :
    ∃ st', inUnit st c (getTopDIE (F.parseDIE c.cuOffset) c.cuDieOffset) = (F.parseDIE c.cuOffset c.cuDieOffset, st') ∧
      Fills F cs st st' :=
  pair_of_fst_snd ⟨(getTopDIE_spec (wf.dieOff _) (unitOf_core hinv hc)).1,
    fills_inUnit wf hinv hc _ (fun u hu => ⟨(getTopDIE_spec (wf.dieOff _) hu).2.1, getTopDIE_maps u⟩)⟩

theorem inUnit_refaddr (wf : FileWF F cs) (hinv : Inv F cs st) {c : CU} (hc : c ∈ cs) (e off : Nat) :
    ∃ st', inUnit st c (fun u => unitDIEFromRefaddr (F.parseDIE c.cuOffset) c.cuDieOffset e u off)
        = (if c.cuDieOffset ≤ off ∧ off < e then pureDIE F c off else .error .dwarfError, st') ∧ Fills F cs st st' :=
  pair_of_fst_snd ⟨(unitDIEFromRefaddr_spec (wf.dieOff _) (unitOf_core hinv hc) e off).1,
    fills_inUnit wf hinv hc _ (fun u hu =>
      ⟨(unitDIEFromRefaddr_spec (wf.dieOff _) hu e off).2, unitDIEFromRefaddr_maps e u off⟩)⟩

theorem dieAt_spec (wf : FileWF F cs) (hinv : Inv F cs st) {c : CU} (hc : c ∈ cs) {sz : Nat} (hsz : c.size = .ok sz)
    (off : Nat) :
    ∃ st', dieAt F st c.cuOffset off = ((pureRefaddr F c sz off).map (fun d => (c, d)), st') ∧ Fills F cs st st' ∧
      c ∈ st'.cus.cus := by
  obtain ⟨st1, h1, h2, hm⟩ := getCUAt'_valid wf hinv hc
  obtain ⟨st2, h3, h4⟩ := inUnit_refaddr wf h2.inv hc (c.cuOffset + sz) off
  refine ⟨st2, ?_, h2.trans h4, h4.cus c hm⟩
  unfold dieAt pureRefaddr
  simp only [h1, cuEnd_eq hsz, h3]
  cases (if c.cuDieOffset ≤ off ∧ off < c.cuOffset + sz then pureDIE F c off else .error .dwarfError) <;> rfl

theorem chainPos_zero (wf : FileWF F cs) : ChainPos F cs 0 := by
  have := wf.chain
  cases cs with
  | nil => left; simpa [Chain] using this
  | cons c cs => right; exact ⟨c, by simp, wf.cuOff _ _ this.2.1⟩

def KindValid (cs : List CU) : IterKind → Prop
  | .cus => True
  | .dies cu => ∃ c ∈ cs, c.cuOffset = cu
  | .children cu _ => ∃ c ∈ cs, c.cuOffset = cu
  | .siblings cu _ => ∃ c ∈ cs, c.cuOffset = cu

theorem newIter_inv (wf : FileWF F cs) (hinv : Inv F cs st) {k : IterKind} (hk : KindValid cs k) :
    ∃ r st', newIter F st k = (r, st') ∧ Inv F cs st' ∧ ∀ it, r = .ok it → IterOK F cs it := by
  refine ⟨_, _, rfl, ?_⟩
  cases k with
  | cus =>
    refine ⟨hinv, ?_⟩
    intro it h
    simp at h
    subst h
    exact Or.inr (chainPos_zero wf)
  | dies cu =>
    obtain ⟨c, hc, rfl⟩ := hk
    obtain ⟨st1, h1, h2, _⟩ := getCUAt'_valid wf hinv hc
    obtain ⟨st2, h3, h4⟩ := inUnit_top wf h2.inv hc
    simp only [h1, h3]
    cases F.parseDIE c.cuOffset c.cuDieOffset with
    | error e => exact ⟨h4.inv, fun it h => by cases h⟩
    | ok top => exact ⟨h4.inv, fun it h => by injection h with h; subst h; trivial⟩
  | children cu off | siblings cu off =>
    -- both are created from `get_CU_at(cu).get_DIE_from_refaddr(off)`; the generator body has not started
    obtain ⟨c, hc, rfl⟩ := hk
    obtain ⟨sz, hsz, _⟩ := mem_size wf hc
    obtain ⟨st2, h3, h4, _⟩ := dieAt_spec wf hinv hc hsz off
    simp only [h3]
    cases pureRefaddr F c sz off with
    | error e => exact ⟨h4.inv, fun it h => by cases h⟩
    | ok d => exact ⟨h4.inv, fun it h => by injection h with h; subst h; trivial⟩

theorem find_unit (hinv : Inv F cs st) {cu : Nat} {c : CU} (h : st.cus.cus.find? (·.cuOffset == cu) = some c) :
    c ∈ cs ∧ c.cuOffset = cu := by
  have hm := List.mem_of_find?_eq_some h
  have hp := List.find?_some h
  simp only [beq_iff_eq] at hp
  exact ⟨hinv.cu.unit c hm, hp⟩

theorem nextIter_inv (wf : FileWF F cs) (hinv : Inv F cs st) {it : Iter} (hit : IterOK F cs it) :
    ∃ r it' st', nextIter F st it = (r, it', st') ∧ Inv F cs st' ∧ IterOK F cs it' := by
  -- `iter_CUs`: the position moves from a unit start to the next one or the end (`chain_next`), the unit is entered
  -- by `cachedCUAtOffset_spec`; the other kinds run a `*_core` walk inside their unit
  refine ⟨_, _, _, rfl, ?_⟩
  cases it with
  | cus offset done =>
    dsimp only
    split
    · exact ⟨hinv, Or.inl rfl⟩
    · split
      · rename_i hd hlt
        rcases hit with hd' | hpos
        · exact absurd hd' hd
        · rcases hpos with heq | ⟨c, hc, hco⟩
          · omega
          · subst hco
            have hP := (chain_mem wf.cuOff cs 0 wf.chain c hc).2.1
            obtain ⟨st', hr, hinv', _⟩ := cachedCUAtOffset_spec wf.cuOff hinv.cu hc hP
            obtain ⟨sz, hsz, _⟩ := mem_size wf hc
            have hI := withCU_inv hinv (cachedCUAtOffset F.parseCU st.cus c.cuOffset) (by rw [hr]; exact hinv')
            simp only [withCU, hr, hsz] at hI ⊢
            refine ⟨hI, Or.inr ?_⟩
            rcases chain_next wf.cuOff cs 0 wf.chain c hc sz hsz with h | ⟨c', hc', h⟩
            · exact Or.inl h
            · exact Or.inr ⟨c', hc', h⟩
      · exact ⟨hinv, Or.inl rfl⟩
  | children cu ci =>
    dsimp only
    split
    · exact ⟨hinv, trivial⟩
    · rename_i c hf
      obtain ⟨hc, rfl⟩ := find_unit hinv hf
      exact ⟨putUnit_inv wf hinv hc (childNext_core (wf.dieOff _) (wf.dieLow c hc) _ _ (unitOf_core hinv hc)), trivial⟩
  | dies cu stack done =>
    dsimp only
    split
    · exact ⟨hinv, trivial⟩
    · split
      · exact ⟨hinv, trivial⟩
      · rename_i c hf
        obtain ⟨hc, rfl⟩ := find_unit hinv hf
        exact ⟨putUnit_inv wf hinv hc (subNext_core (wf.dieOff _) (wf.dieLow c hc) _ _ _ (unitOf_core hinv hc)), trivial⟩
  | siblings cu self ci done =>
    dsimp only
    split
    · exact ⟨hinv, trivial⟩
    · split
      · exact ⟨hinv, trivial⟩
      · rename_i c hf
        obtain ⟨hc, rfl⟩ := find_unit hinv hf
        exact ⟨putUnit_inv wf hinv hc (sibNext_core (wf.dieOff _) (wf.dieLow c hc) _ _ _ (unitOf_core hinv hc)), trivial⟩

theorem takeIter_inv (wf : FileWF F cs) : ∀ n (it : Iter) (st : State) acc, Inv F cs st → IterOK F cs it →
    ∃ r it' st', takeIter F n it st acc = (r, it', st') ∧ Inv F cs st' := by
  intro n
  induction n with
  | zero => intro it st acc hinv _; exact ⟨_, _, _, rfl, hinv⟩
  | succ n ih =>
    intro it st acc hinv hit
    obtain ⟨r, it', st', e, h1, h2⟩ := nextIter_inv wf hinv hit
    rw [takeIter, e]
    cases r with
    | error e => exact ⟨_, _, _, rfl, h1⟩
    | ok o =>
      cases o with
      | none => exact ⟨_, _, _, rfl, h1⟩
      | some x => exact ih it' st' _ h1 h2

/-- the operations whose arguments name units of the file (DIE offsets are unrestricted: an offset that does
    not parse changes nothing) -/
def OpValid (F : File) (cs : List CU) : Op → Prop
  | .seek _ => True
  | .cuAt o => ∃ c ∈ cs, c.cuOffset = o
  | .cuCont x => x < F.size
  | .top cu => ∃ c ∈ cs, c.cuOffset = cu
  | .die cu _ => ∃ c ∈ cs, c.cuOffset = cu
  | .refaddr x => x < F.size
  | .children cu _ => ∃ c ∈ cs, c.cuOffset = cu
  | .parent cu _ => ∃ c ∈ cs, c.cuOffset = cu
  | .lp cu _ => ∃ c ∈ cs, c.cuOffset = cu
  | .take k _ => KindValid cs k
  | .all k => KindValid cs k
  | .itNew k => KindValid cs k
  | .itNext _ => True
  | .secIdx _ => True
  | .symByName _ => True
  | .siblings cu _ => ∃ c ∈ cs, c.cuOffset = cu
  | .ref cu _ name => (∃ c ∈ cs, c.cuOffset = cu) ∧ ∀ o raw, F.refAttr cu o name = some (true, raw) → raw < F.size
  | .pubname name => ∀ tbl e, F.pubnames = some tbl → tbl.find? (·.1 == name) = some e → ∃ c ∈ cs, c.cuOffset = e.2.1

theorem mem_listSet {α} {l : List α} {i : Nat} {x y : α} (h : y ∈ listSet l i x) : y = x ∨ y ∈ l := by
  unfold listSet at h
  rcases List.mem_append.mp h with h | h
  · exact Or.inr (List.mem_of_mem_take h)
  · rcases List.mem_cons.mp h with h | h
    · exact Or.inl h
    · exact Or.inr (List.mem_of_mem_drop h)

theorem step_cuAt (wf : FileWF F cs) (hinv : Inv F cs st) {c : CU} (hc : c ∈ cs) :
    (step F st (.cuAt c.cuOffset)).1 = .ok (.pair c.cuOffset c.cuDieOffset) ∧ Fills F cs st (step F st (.cuAt c.cuOffset)).2 := by
  obtain ⟨st1, h1, h2, _⟩ := getCUAt'_valid wf hinv hc
  exact ⟨by simp only [step, h1], by simp only [step, h1]; exact h2⟩

theorem step_cuCont (wf : FileWF F cs) (hinv : Inv F cs st) {c : CU} (hc : c ∈ cs) {sz x : Nat} (hsz : c.size = .ok sz)
    (h1 : c.cuOffset ≤ x) (h2 : x < c.cuOffset + sz) :
    (step F st (.cuCont x)).1 = .ok (.pair c.cuOffset c.cuDieOffset) ∧ Fills F cs st (step F st (.cuCont x)).2 := by
  obtain ⟨st1, h, hf⟩ := getCUCont'_exact wf hinv hc hsz h1 h2
  simp only [step, h]
  exact ⟨trivial, hf⟩

theorem step_top (wf : FileWF F cs) (hinv : Inv F cs st) {c : CU} (hc : c ∈ cs) :
    (step F st (.top c.cuOffset)).1 = (F.parseDIE c.cuOffset c.cuDieOffset).map (fun d => Ans.nat d.offset) ∧
      Fills F cs st (step F st (.top c.cuOffset)).2 := by
  obtain ⟨st1, h1, h2, _⟩ := getCUAt'_valid wf hinv hc
  obtain ⟨st2, h3, h4⟩ := inUnit_top wf h2.inv hc
  simp only [step, h1, h3]
  cases F.parseDIE c.cuOffset c.cuDieOffset <;> exact ⟨rfl, h2.trans h4⟩

theorem step_die (wf : FileWF F cs) (hinv : Inv F cs st) {c : CU} (hc : c ∈ cs) {sz : Nat} (hsz : c.size = .ok sz)
    (off : Nat) :
    (step F st (.die c.cuOffset off)).1 = (pureRefaddr F c sz off).map (fun d => Ans.nat d.offset) ∧
      Fills F cs st (step F st (.die c.cuOffset off)).2 := by
  obtain ⟨st2, h3, h4, _⟩ := dieAt_spec wf hinv hc hsz off
  simp only [step, h3]
  cases pureRefaddr F c sz off <;> exact ⟨rfl, h4⟩

theorem refaddrAt_spec (wf : FileWF F cs) (hinv : Inv F cs st) {c : CU} (hc : c ∈ cs) {sz x : Nat} (hsz : c.size = .ok sz)
    (h1 : c.cuOffset ≤ x) (h2 : x < c.cuOffset + sz) :
    (refaddrAt F st x).1 = (pureRefaddr F c sz x).map (fun d => Ans.nat d.offset) ∧ Fills F cs st (refaddrAt F st x).2 := by
  obtain ⟨st1, h, hf⟩ := getCUCont'_exact wf hinv hc hsz h1 h2
  obtain ⟨st2, h3, h4⟩ := inUnit_refaddr wf hf.inv hc (c.cuOffset + sz) x
  simp only [refaddrAt, h, cuEnd_eq hsz, h3, pureRefaddr]
  cases (if c.cuDieOffset ≤ x ∧ x < c.cuOffset + sz then pureDIE F c x else .error .dwarfError) <;>
    exact ⟨rfl, hf.trans h4⟩

theorem step_lp (wf : FileWF F cs) (hinv : Inv F cs st) {c : CU} (hc : c ∈ cs) (dec : Bool) :
    (step F st (.lp c.cuOffset dec)).1 = (F.parseDIE c.cuOffset c.cuDieOffset).map (fun d => Ans.opt d.stmt) ∧
      Fills F cs st (step F st (.lp c.cuOffset dec)).2 := by
  obtain ⟨st1, h1, h2, _⟩ := getCUAt'_valid wf hinv hc
  obtain ⟨st2, h3, h4⟩ := inUnit_top wf h2.inv hc
  have h5 := h2.trans h4
  simp only [step, h1, h3]
  cases F.parseDIE c.cuOffset c.cuDieOffset with
  | error e => exact ⟨rfl, h5⟩
  | ok top =>
    simp only
    cases hs : top.stmt with
    | none => exact ⟨by simp [Except.map, hs], h5⟩
    | some o =>
      exact ⟨by simp [Except.map, hs], h5.trans (fills_of_eq h5.inv rfl rfl rfl h5.inv.sec h5.inv.sym)⟩

theorem step_secIdx (hinv : Inv F cs st) (name : String) :
    (step F st (.secIdx name)).1 = .ok (.opt (((buildSecMap F.secNames).find? (·.1 == name)).map (·.2))) ∧
      Fills F cs st (step F st (.secIdx name)).2 := by
  simp only [step]
  rcases hinv.sec with h | h <;> rw [h] <;>
  exact ⟨rfl, fills_of_eq hinv rfl rfl rfl (Or.inr rfl) hinv.sym⟩

theorem step_symByName (hinv : Inv F cs st) (name : String) :
    (step F st (.symByName name)).1
        = .ok (.optList (match ((buildSymMap F.symNames).find? (·.1 == name)).map (·.2) with | some [] => none | o => o)) ∧
      Fills F cs st (step F st (.symByName name)).2 := by
  simp only [step]
  rcases hinv.sym with h | h <;> rw [h] <;>
  exact ⟨rfl, fills_of_eq hinv rfl rfl rfl hinv.sec (Or.inr rfl)⟩

/-- `die.get_DIE_from_attribute(name)`; `viaAddr`: the `DW_FORM_ref_addr` path through the `DWARFInfo` -/
def pureRef (F : File) (c : CU) (sz off : Nat) (name : String) (viaAddr : Nat → R Ans) : R Ans :=
  match pureRefaddr F c sz off with
  | .error e => .error e
  | .ok d =>
    match F.refAttr c.cuOffset d.offset name with
    | none => .error .keyError
    | some (false, raw) => (pureRefaddr F c sz (c.cuOffset + raw)).map (fun d' => Ans.nat d'.offset)
    | some (true, raw) => viaAddr raw

/-- the `DW_FORM_ref_addr` path is stated against `DWARFInfo.get_DIE_from_refaddr` on a fresh object -/
theorem step_ref (wf : FileWF F cs) (hinv : Inv F cs st) {c : CU} (hc : c ∈ cs) {sz : Nat} (hsz : c.size = .ok sz)
    (off : Nat) {name : String} (hraw : ∀ o raw, F.refAttr c.cuOffset o name = some (true, raw) → raw < F.size) :
    (step F st (.ref c.cuOffset off name)).1 = pureRef F c sz off name (fun raw => (refaddrAt F State.init raw).1) ∧
      Fills F cs st (step F st (.ref c.cuOffset off name)).2 := by
  obtain ⟨st2, h3, h4, _⟩ := dieAt_spec wf hinv hc hsz off
  simp only [step, h3, pureRef]
  cases pureRefaddr F c sz off with
  | error e => exact ⟨rfl, h4⟩
  | ok d =>
    simp only [Except.map]
    cases hr : F.refAttr c.cuOffset d.offset name with
    | none => exact ⟨rfl, h4⟩
    | some br =>
      obtain ⟨b, raw⟩ := br
      cases b with
      | false =>
        obtain ⟨st3, e3, h5⟩ := inUnit_refaddr wf h4.inv hc (c.cuOffset + sz) (c.cuOffset + raw)
        simp only [cuEnd_eq hsz, e3, pureRefaddr]
        cases (if c.cuDieOffset ≤ c.cuOffset + raw ∧ c.cuOffset + raw < c.cuOffset + sz then
          pureDIE F c (c.cuOffset + raw) else .error .dwarfError) <;> exact ⟨rfl, h4.trans h5⟩
      | true =>
        obtain ⟨c2, hc2, sz2, hsz2, h1, h2⟩ := containing_exists wf (hraw _ _ hr)
        obtain ⟨e, h⟩ := refaddrAt_spec wf h4.inv hc2 hsz2 h1 h2
        exact ⟨e.trans (refaddrAt_spec wf (inv_init F cs) hc2 hsz2 h1 h2).1.symm, h4.trans h⟩

theorem step_pubname (wf : FileWF F cs) (hinv : Inv F cs st) {name : String} {tbl : List (String × Nat × Nat)}
    (hp : F.pubnames = some tbl) {c : CU} (hc : c ∈ cs) {sz : Nat} (hsz : c.size = .ok sz) {nm : String} {dieo : Nat}
    (hf : tbl.find? (·.1 == name) = some (nm, c.cuOffset, dieo)) :
    (step F st (.pubname name)).1 = (pureRefaddr F c sz dieo).map (fun d => Ans.list [c.cuOffset, dieo, d.offset]) ∧
      Fills F cs st (step F st (.pubname name)).2 := by
  obtain ⟨_, h1, h2, _⟩ := dieAt_spec wf hinv hc hsz dieo
  simp only [step, hp, hf, h1]
  cases pureRefaddr F c sz dieo <;> exact ⟨rfl, h2⟩

theorem pubname_row (wf : FileWF F cs) {name : String} (hv : OpValid F cs (.pubname name)) :
    (∀ st, step F st (.pubname name) = (.ok (.opt none), st)) ∨
    ∃ tbl c sz nm dieo, F.pubnames = some tbl ∧ c ∈ cs ∧ c.size = .ok sz ∧
      tbl.find? (·.1 == name) = some (nm, c.cuOffset, dieo) := by
  cases hp : F.pubnames with
  | none => exact Or.inl fun st => by simp only [step, hp]
  | some tbl =>
    cases hf : tbl.find? (·.1 == name) with
    | none => exact Or.inl fun st => by simp only [step, hp, hf]
    | some e =>
      obtain ⟨nm, cuo, dieo⟩ := e
      obtain ⟨c, hc, rfl⟩ := hv tbl _ hp hf
      obtain ⟨sz, hsz, _⟩ := mem_size wf hc
      exact Or.inr ⟨tbl, c, sz, nm, dieo, rfl, hc, hsz, hf⟩

/-- the operations that only look something up -/
def LooksUp : Op → Prop
  | .seek _ | .cuAt _ | .cuCont _ | .top _ | .die _ _ | .refaddr _ | .lp _ _ | .secIdx _ | .symByName _
  | .ref _ _ _ | .pubname _ => True
  | _ => False

theorem step_lookup (wf : FileWF F cs) {op : Op} (hv : OpValid F cs op) (hl : LooksUp op) :
    ∃ a, ∀ st, Inv F cs st → (step F st op).1 = a ∧ Fills F cs st (step F st op).2 := by
  cases op with
  | seek n => exact ⟨.ok .unit, fun st hinv => ⟨rfl, fills_of_eq hinv rfl rfl rfl hinv.sec hinv.sym⟩⟩
  | cuAt o => obtain ⟨c, hc, rfl⟩ := hv; exact ⟨_, fun st hinv => step_cuAt wf hinv hc⟩
  | cuCont x =>
    obtain ⟨c, hc, sz, hsz, h1, h2⟩ := containing_exists wf hv
    exact ⟨_, fun st hinv => step_cuCont wf hinv hc hsz h1 h2⟩
  | top cu => obtain ⟨c, hc, rfl⟩ := hv; exact ⟨_, fun st hinv => step_top wf hinv hc⟩
  | die cu off =>
    obtain ⟨c, hc, rfl⟩ := hv
    obtain ⟨sz, hsz, _⟩ := mem_size wf hc
    exact ⟨_, fun st hinv => step_die wf hinv hc hsz off⟩
  | refaddr x =>
    obtain ⟨c, hc, sz, hsz, h1, h2⟩ := containing_exists wf hv
    exact ⟨_, fun st hinv => refaddrAt_spec wf hinv hc hsz h1 h2⟩
  | lp cu dec => obtain ⟨c, hc, rfl⟩ := hv; exact ⟨_, fun st hinv => step_lp wf hinv hc dec⟩
  | secIdx name => exact ⟨_, fun st hinv => step_secIdx hinv name⟩
  | symByName name => exact ⟨_, fun st hinv => step_symByName hinv name⟩
  | ref cu off name =>
    obtain ⟨⟨c, hc, rfl⟩, hraw⟩ := hv
    obtain ⟨sz, hsz, _⟩ := mem_size wf hc
    exact ⟨_, fun st hinv => step_ref wf hinv hc hsz off hraw⟩
  | pubname name =>
    rcases pubname_row wf hv with h | ⟨tbl, c, sz, nm, dieo, hp, hc, hsz, hf⟩
    · exact ⟨.ok (.opt none), fun st hinv => by rw [h]; exact ⟨rfl, Fills.refl hinv⟩⟩
    · exact ⟨_, fun st hinv => step_pubname wf hinv hp hc hsz hf⟩
  | children _ _ | parent _ _ | take _ _ | all _ | itNew _ | itNext _ | siblings _ _ => exact hl.elim

theorem step_fills (wf : FileWF F cs) (hinv : Inv F cs st) {op : Op} (hv : OpValid F cs op) (hl : LooksUp op) :
    Fills F cs st (step F st op).2 := by
  obtain ⟨a, h⟩ := step_lookup wf hv hl
  exact (h st hinv).2

theorem step_lookup_eq (wf : FileWF F cs) {st st' : State} (hinv : Inv F cs st) (hinv' : Inv F cs st') {op : Op}
    (hv : OpValid F cs op) (hl : LooksUp op) : (step F st op).1 = (step F st' op).1 := by
  obtain ⟨a, h⟩ := step_lookup wf hv hl
  exact (h st hinv).1.trans (h st' hinv').1.symm

theorem step_take_inv (wf : FileWF F cs) (hinv : Inv F cs st) {k : IterKind} (hv : KindValid cs k) (n : Nat) :
    Inv F cs (step F st (.take k n)).2 := by
  obtain ⟨r, st1, e, h1, h2⟩ := newIter_inv wf hinv hv
  simp only [step, e]
  cases r with
  | error e => exact h1
  | ok it =>
    obtain ⟨r2, it2, st2, e2, h3⟩ := takeIter_inv wf n it st1 [] h1 (h2 it rfl)
    simp only [e2]
    cases r2 <;> exact h3

theorem inUnit_keeps {α} (wf : FileWF F cs) (hinv : Inv F cs st) {c : CU} (hc : c ∈ cs) (f : UnitCache → R α × UnitCache)
    (hf : ∀ u, UCore (F.parseDIE c.cuOffset) c.cuDieOffset u → UCore (F.parseDIE c.cuOffset) c.cuDieOffset (f u).2) :
    ∃ r st', inUnit st c f = (r, st') ∧ Inv F cs st' :=
  ⟨_, _, rfl, putUnit_inv wf hinv hc (hf _ (unitOf_core hinv hc))⟩

/-- how `iter_children`, `get_parent` and `iter_siblings` begin -/
theorem dieAt_then {α} (wf : FileWF F cs) (hinv : Inv F cs st) {c : CU} (hc : c ∈ cs) (off : Nat)
    (f : DIE → UnitCache → R α × UnitCache)
    (hf : ∀ d u, UCore (F.parseDIE c.cuOffset) c.cuDieOffset u → UCore (F.parseDIE c.cuOffset) c.cuDieOffset (f d u).2) :
    ∃ r st', dieAt F st c.cuOffset off = (Except.map (fun d => (c, d)) r, st') ∧ Inv F cs st' ∧
      ∀ d, ∃ r2 st2, inUnit st' c (f d) = (r2, st2) ∧ Inv F cs st2 := by
  obtain ⟨sz, hsz, _⟩ := mem_size wf hc
  obtain ⟨st', h, hf', _⟩ := dieAt_spec wf hinv hc hsz off
  exact ⟨_, st', h, hf'.inv, fun d => inUnit_keeps wf hf'.inv hc (f d) (hf d)⟩

theorem step_inv (wf : FileWF F cs) (hinv : Inv F cs st) {op : Op} (hv : OpValid F cs op) : Inv F cs (step F st op).2 := by
  -- lookups only fill caches (`step_fills`); navigation is `dieAt_then` followed by a unit-level walk that keeps
  -- `UCore` (`*_core`); generator handles by `newIter_inv` / `nextIter_inv`
  cases op with
  | children cu off =>
    obtain ⟨c, hc, rfl⟩ := hv
    obtain ⟨r, st2, h3, h4, h5⟩ := dieAt_then wf hinv hc off
      (fun d u => drain (F.parseDIE c.cuOffset) c.cuDieOffset (fuelOf F) (ChildIter.new d) u [])
      (fun d u hu => drain_core (wf.dieOff _) (wf.dieLow c hc) _ _ _ hu)
    simp only [step, h3]
    cases r with
    | error e => exact h4
    | ok d =>
      obtain ⟨r3, st3, e3, h6⟩ := h5 d
      simp only [Except.map, e3]
      cases r3 <;> exact h6
  | parent cu off =>
    obtain ⟨c, hc, rfl⟩ := hv
    obtain ⟨r, st2, h3, h4, h5⟩ := dieAt_then wf hinv hc off (getParent (F.parseDIE c.cuOffset) c.cuDieOffset (fuelOf F))
      (fun d u hu => getParent_core (wf.dieOff _) (wf.dieLow c hc) _ _ hu)
    simp only [step, h3]
    cases r with
    | error e => exact h4
    | ok d =>
      obtain ⟨r3, st3, e3, h6⟩ := h5 d
      simp only [Except.map, e3]
      cases r3 <;> exact h6
  | take k n => exact step_take_inv wf hinv hv n
  | all k => exact step_take_inv wf hinv hv (fuelOf F)
  | itNew k =>
    obtain ⟨r, st1, e, h1, h2⟩ := newIter_inv wf hinv hv
    simp only [step, e]
    cases r with
    | error e => exact h1
    | ok it =>
      refine h1.setIters fun it' hit' => ?_
      rcases List.mem_append.mp hit' with h | h
      · exact h1.iters it' h
      · simp at h; rw [h]; exact h2 it rfl
  | itNext h =>
    simp only [step]
    split
    · exact hinv
    · split
      · exact hinv
      · rename_i it hget
        have hm : it ∈ st.iters := List.mem_of_getElem? hget
        obtain ⟨r, it', st', e, h1, h2⟩ := nextIter_inv wf hinv (hinv.iters it hm)
        rw [e]
        have key : ∀ i, Inv F cs { st' with iters := listSet st'.iters i it' } := fun i =>
          h1.setIters fun x hx => by
            rcases mem_listSet hx with rfl | hx
            · exact h2
            · exact h1.iters x hx
        cases r with
        | error e => exact key _
        | ok o => cases o <;> exact key _
  | siblings cu off =>
    obtain ⟨c, hc, rfl⟩ := hv
    obtain ⟨r, st2, h3, h4, h5⟩ := dieAt_then wf hinv hc off (getParent (F.parseDIE c.cuOffset) c.cuDieOffset (fuelOf F))
      (fun d u hu => getParent_core (wf.dieOff _) (wf.dieLow c hc) _ _ hu)
    simp only [step, h3]
    cases r with
    | error e => exact h4
    | ok d =>
      obtain ⟨r3, st3, e3, h6⟩ := h5 d
      simp only [Except.map, e3]
      cases r3 with
      | error e => exact h6
      | ok p =>
        cases p with
        | none => exact h6
        | some p =>
          obtain ⟨r4, st4, e4, h7⟩ := inUnit_keeps wf h6 hc
            (fun u => drain (F.parseDIE c.cuOffset) c.cuDieOffset (fuelOf F) (ChildIter.new p) u [])
            (fun u hu => drain_core (wf.dieOff _) (wf.dieLow c hc) _ _ _ hu)
          simp only [e4]
          cases r4 <;> exact h7
  | seek _ | cuAt _ | cuCont _ | top _ | die _ _ | refaddr _ | lp _ _ | secIdx _ | symByName _ | ref _ _ _ | pubname _ =>
    exact (step_fills wf hinv hv trivial).inv

theorem run_inv (wf : FileWF F cs) : ∀ (ops : List Op) (st : State), Inv F cs st → (∀ op ∈ ops, OpValid F cs op) →
    Inv F cs (run F st ops) := by
  intro ops
  induction ops with
  | nil => intro st h _; exact h
  | cons op ops ih =>
    intro st h hv
    exact ih _ (step_inv wf h (hv op (by simp))) (fun o ho => hv o (List.mem_cons_of_mem _ ho))

/-- `LooksUp` without reference following and the pubnames lookup -/
def Lookup : Op → Prop
  | .seek _ | .cuAt _ | .cuCont _ | .top _ | .die _ _ | .refaddr _ | .lp _ _ | .secIdx _ | .symByName _ => True
  | _ => False

theorem Lookup.looksUp {op : Op} (h : Lookup op) : LooksUp op := by
  cases op <;> first | trivial | exact h.elim

end state
end PyElf.Proofs.C10
