/-
  C20, the generator API on a well-formed section: every generator reachable from the section object enumerates the
  description's children at its place, from any position of the shared stream (`section_generators_exact`).  Each
  generator's member is read as an object related to the description (`reads_genSubsubs`, `reads_genSubsecs`); the rest
  is `Walk.walk_all_rel` and `collect_of_walk`.
-/
import PyElf.Proofs.AttrHistory
namespace PyElf.Proofs.C20
open PyElf PyElf.Spec PyElf.Spec.Attr PyElf.Model PyElf.Model.C20 PyElf.Model.Attr PyElf.Proofs PyElf.Proofs.Attrs PyElf.Proofs.Engine
open PyElf.Proofs.Walk

section
variable (arch : Arch) (env : Env) (cfg : ElfCfg) (data : Bytes)

/-- `list(o.iter_attributes())`, from any stream position, is the attribute list of `t` -/
def AttrsExact (o : SubsubObj) (t : SubSub) : Prop :=
  ∀ pos, ∃ zs q, Gen.collect env (Spec.elfStructs cfg) data (data.length + 3) (.attrs o o.attrStart) pos [] = .ok (zs, q) ∧
    zs.map itemVal = t.attrs.map (obsAttr arch)

def SubsubMatch (y : Item) (t : SubSub) : Prop :=
  ∃ o, y = .subsub o ∧ o.header = hdrObj arch t ∧ AttrsExact arch env cfg data o t

/-- `list(o.iter_subsubsections())`, from any stream position: one matching object per sub-subsection of `s` -/
def SubsubsExact (o : SubsecObj) (s : SubSection) : Prop :=
  ∀ pos, ∃ ys q, Gen.collect env (Spec.elfStructs cfg) data (data.length + 3) (.subsubs o o.subsubStart) pos []
      = .ok (ys, q) ∧ AllMatch (SubsubMatch arch env cfg data) ys s.subs

def SubsecMatch (x : Item) (s : SubSection) : Prop :=
  ∃ o, x = .subsec o ∧ o.length = s.length cfg.le ∧ o.vendor = .bytes s.vendor ∧ SubsubsExact arch env cfg data o s

end

section
variable {arch : Arch} {env : Env} {cfg : ElfCfg} {data : Bytes}
  (henv : ∀ t : Nat, env.enumDecode (tagTableId arch) (t : Int) = tagName arch t)
include henv

theorem attrs_exact {t : SubSub} {offset : Nat} {rest : Bytes} (hattrs : ∀ x ∈ t.attrs, attrWf arch x = true)
    (hd : data.drop (offset + (subSubHdr cfg.le t).length) = encAttrs t.attrs ++ rest) :
    AttrsExact arch env cfg data ⟨arch, offset, hdrObj arch t, offset + (subSubHdr cfg.le t).length⟩ t := by
  intro pos
  have hw := walk_all (reads_attr (cfg := cfg) henv) (fuel := data.length + 2) [] hattrs hd (by omega)
  rw [subSub_end, ← attributesLoop_eq_walk] at hw
  obtain ⟨q, hq⟩ := collect_attrs_of_loop (o := ⟨arch, offset, hdrObj arch t, offset + (subSubHdr cfg.le t).length⟩)
    (hv := t.size) (by simp [hdrObj, asNat_nat]) hw pos
  exact ⟨_, q, hq, by simp [itemVal, Function.comp_def]⟩

theorem reads_genSubsubs (o : SubsecObj) (ho : o.arch = arch) :
    ItemReads (genItem (stepSubsubs env (Spec.elfStructs cfg) data o)) data (encSubSub cfg.le) (subSubWf arch · = true)
      (SubsubMatch arch env cfg data) where
  pos s _ := by rw [encSubSub_length, SubSub.size]; omega
  ok t p rest ht hd := by
    subst ho
    obtain ⟨hh, hattrs⟩ := subSubWf_iff ht
    obtain ⟨hd1, hd2, -⟩ := subSub_layout hd
    refine ⟨.subsub ⟨o.arch, p, hdrObj o.arch t, p + (subSubHdr cfg.le t).length⟩, ?_, _, rfl, rfl,
      attrs_exact henv hattrs hd2⟩
    rw [genItem, stepSubsubs, (parses_subsubHdr henv hh p).ok hd1, encSubSub_length]
    rfl

theorem subsubs_exact {o : SubsecObj} (ho : o.arch = arch) {s : SubSection} {rest : Bytes}
    (hsubs : ∀ t ∈ s.subs, subSubWf arch t = true) (hd : data.drop o.subsubStart = encSubSubs cfg.le s.subs ++ rest)
    (hend : o.offset + o.length = o.subsubStart + (encSubSubs cfg.le s.subs).length) :
    SubsubsExact arch env cfg data o s := by
  intro pos
  obtain ⟨ys, hm, hw⟩ := walk_all_rel (reads_genSubsubs henv o ho) (fuel := data.length + 2) hsubs hd (by omega)
  obtain ⟨q, hq⟩ := collect_of_walk (resumesAs_subsubs o) _ _ _ _ (by rw [hend]; exact hw []) pos
  exact ⟨ys, q, hq, hm⟩

theorem reads_genSubsecs (sec : SecObj) (ho : sec.arch = arch) :
    ItemReads (genItem (stepSubsecs env (Spec.elfStructs cfg) data sec)) data (encSubSection cfg.le)
      (subSectionWf arch cfg.le · = true) (SubsecMatch arch env cfg data) where
  pos s _ := by rw [encSubSection_length, SubSection.length]; omega
  ok s p rest hs hd := by
    obtain ⟨hvendor, hsubs, hlen⟩ := subSectionWf_iff hs
    obtain ⟨hd1, hd2, esz⟩ := subSection_layout hd
    refine ⟨.subsec ⟨sec.arch, p, s.length cfg.le, .bytes s.vendor, p + (subSecHdr cfg.le s).length⟩, ?_, _, rfl, rfl, rfl,
      subsubs_exact henv ho hsubs hd2 esz.symm⟩
    rw [genItem, stepSubsecs, (parses_subsecHdr hvendor hlen p).ok hd1, encSubSection_length]
    rfl

theorem section_generators_exact (sec : Spec.Attr.Section) (rest : Bytes) (off : Nat)
    (hwf : Spec.Attr.sectionWf arch cfg.le sec = true)
    (hd : data.drop off = Spec.Attr.encSection cfg.le sec ++ rest) :
    ∃ o, (∀ p, openSec env (Spec.elfStructs cfg) data arch off (Spec.Attr.encSection cfg.le sec).length p = .ok (o, off + 1)) ∧
      ∀ pos, ∃ xs q, Gen.collect env (Spec.elfStructs cfg) data (data.length + 3) (.subsecs o o.subsecStart) pos []
          = .ok (xs, q) ∧ AllMatch (SubsecMatch arch env cfg data) xs sec := by
  obtain ⟨hd1, hd2, e⟩ := encSection_layout hd
  refine ⟨⟨arch, off, (Spec.Attr.encSection cfg.le sec).length, off + 1⟩, ?_, ?_⟩
  · intro p
    simp [openSec, S_byte, (parses_u8 (env := env) (data := data) (pos := off) (le := cfg.le) 0x41).ok hd1, bind,
      Except.bind, pure, Except.pure]
  · intro pos
    obtain ⟨xs, hm, hw⟩ := walk_all_rel (reads_genSubsecs henv ⟨arch, off, (Spec.Attr.encSection cfg.le sec).length, off + 1⟩ rfl)
      (sectionWf_iff.1 hwf) hd2 (fuel := data.length + 2) (by omega)
    obtain ⟨q, hq⟩ := collect_of_walk (resumesAs_subsecs ⟨arch, off, (Spec.Attr.encSection cfg.le sec).length, off + 1⟩)
      _ _ _ _ (e ▸ hw []) pos
    exact ⟨xs, q, by simpa using hq, hm⟩

end

end PyElf.Proofs.C20
