/-
  C12, reading DWARF expressions.  One statement per operand reader, for the whole operand and for the data ending
  inside it (over Proofs/Cut.lean); one turn of the loop at a known opcode; and the induction over expressions whose
  entry-value operations nest to any depth: `ArrivesBehind c D N ops` says the loop, started at the encoding of `ops`
  with enough fuel, arrives behind it with `ops` recorded.  `TablesOk` is what the statements assume of the dispatch
  and name tables: the signature and the name of every operation of the standard.  The DwarfExpr* files share the
  namespace `PyElf.Proofs`.
-/
import PyElf.Core.Construct
import PyElf.Spec.DwarfExpr
import PyElf.Model.DwarfExpr
import PyElf.Proofs.Primitives
import PyElf.Proofs.Cut
namespace PyElf.Proofs
open PyElf PyElf.Spec PyElf.Model PyElf.Proofs.Engine

theorem opTable_lookup (c : DwarfCfg) (op : Nat) : (opTable c).lookup op = opSig c op := by
  unfold opTable opSig opSigAbs opRow?
  rw [lookup_map_snd (fun r : String × List AKind => r.2.map (resolve c))]
  cases opRows.lookup op <;> rfl

theorem opNames_lookup (op : Nat) : opNames.lookup op = opName? op := by
  unfold opNames opName? opRow?
  rw [lookup_map_snd (fun r : String × List AKind => r.1)]

/-- DW_OP_addr (0x03) shows byte order and address size, DW_OP_call_ref (0x9a) the reference size -/
theorem opTable_eq_iff (a b : DwarfCfg) :
    opTable a = opTable b ↔ (a.le = b.le ∧ a.asz = b.asz ∧ refSize a = refSize b) := by
  constructor
  · intro h
    have h3 := congrArg (List.lookup 0x03) h
    have h9 := congrArg (List.lookup 0x9a) h
    rw [opTable_lookup, opTable_lookup] at h3 h9
    have e3 : ∀ c, opSig c 0x03 = some [.u c.asz c.le] := fun _ => rfl
    have e9 : ∀ c, opSig c 0x9a = some [.u (refSize c) c.le] := fun _ => rfl
    rw [e3, e3] at h3
    rw [e9, e9] at h9
    simp only [Option.some.injEq, List.cons.injEq, ArgKind.u.injEq, and_true] at h3 h9
    exact ⟨h3.2, h3.1, h9.1⟩
  · rintro ⟨h1, h2, h3⟩
    unfold opTable
    rw [show resolve a = resolve b from funext fun k => by cases k <;> simp [resolve, h1, h2, h3]]

theorem opRows_lt : ∀ r ∈ opRows, r.1 < 256 := by decide +kernel

theorem opSig_some_lt {c : DwarfCfg} {op : Nat} {ks : List ArgKind} (h : opSig c op = some ks) : op < 256 := by
  unfold opSig opSigAbs opRow? at h
  cases hr : opRows.lookup op with
  | none => simp [hr] at h
  | some r => exact opRows_lt _ (lookup_some_mem hr)

theorem opSig_some_name {c : DwarfCfg} {op : Nat} {ks : List ArgKind} (h : opSig c op = some ks) :
    ∃ s, opName? op = some s := by
  unfold opSig opSigAbs at h
  unfold opName?
  cases hr : opRow? op with
  | none => simp [hr] at h
  | some r => exact ⟨r.1, rfl⟩

section
variable {data : Bytes} {pos : Nat}

theorem parses_blob : ∀ (b : Bytes) (pos : Nat) (acc : Bytes),
    Parses .elfParseError (fun q => readBlob data b.length q acc) data pos b (acc.reverse ++ b)
  | [], pos, acc => ⟨fun _ => by simp [readBlob], fun hj => absurd hj (Nat.not_lt_zero _)⟩
  | x :: b, pos, acc => by
    have ih := parses_blob b (pos + 1) (x :: acc)
    refine ⟨fun hd => ?_, fun {j} hj hd => ?_⟩
    · obtain ⟨hx, hd'⟩ := drop_cons_inv (by simpa using hd)
      simp only [List.length_cons, readBlob, hx]
      rw [ih.ok hd']
      simp; omega
    · cases j with
      | zero => simp only [List.length_cons, readBlob, drop_nil_inv (by simpa using hd)]
      | succ j =>
        obtain ⟨hx, hd'⟩ := drop_cons_inv (by simpa using hd)
        simp only [List.length_cons, readBlob, hx]
        exact ih.cut (by simpa using hj) hd'

/-- a length, that many bytes, `k` on them: `parse_blob`, the blob of `parse_typedblob`, the body of `parse_nestedexpr`.
    Where the data ends inside `L ++ b`, `k` is not reached. -/
theorem lenBlob_cut {β : Type} {len : Nat → R (Val × Nat)} {L b : Bytes} {k : Bytes × Nat → R (β × Nat)}
    (hL : Parses .elfParseError len data pos L (.int b.length)) {j : Nat} (hj : j < (L ++ b).length)
    (hd : data.drop pos = (L ++ b).take j) :
    (len pos >>= fun x => x.1.asNat >>= fun m => readBlob data m x.2 [] >>= k) = .error .elfParseError :=
  hL.cut_seq (r := fun q => len q >>= fun x => x.1.asNat >>= fun m => readBlob data m x.2 [] >>= k) rfl
    (fun hj' hd' => (parses_blob b _ []).cut_bind (r := fun _ => _) (by simp only [asNat_nat]; rfl) hj' hd') hj hd

theorem parses_lenBlob {β : Type} {len : Nat → R (Val × Nat)} {L b : Bytes} {k : Bytes × Nat → R (β × Nat)} {out : β}
    (hL : Parses .elfParseError len data pos L (.int b.length))
    (hk : k (b, pos + L.length + b.length) = .ok (out, pos + L.length + b.length)) :
    Parses .elfParseError (fun q => len q >>= fun x => x.1.asNat >>= fun m => readBlob data m x.2 [] >>= k) data pos
      (L ++ b) out :=
  hL.seq rfl ((parses_blob b _ []).seq_pure (by simp only [asNat_nat]; rfl) (by simpa using hk))

theorem parseArg_parses {nested : Bytes → R (List Val)} (k : ArgKind) (a : Arg) (hfit : argFit k a = true) :
    Parses .elfParseError (parseArg nested data k) data pos (encArg k a) (obsArg a) := by
  cases k <;> cases a <;> simp only [argFit, Bool.false_eq_true, Bool.and_eq_true, Bool.or_eq_true, decide_eq_true_eq] at hfit
  case u.u n le v => exact (parses_uint hfit).seq_pure rfl rfl
  case s.s n le v => exact (parses_sint hfit.1.1 hfit.1.2 hfit.2).seq_pure rfl rfl
  case uleb.uleb n v => exact (parses_uleb hfit.1 hfit.2).seq_pure rfl rfl
  case sleb.sleb n v => exact (parses_sleb hfit.1.1 hfit.1.2 hfit.2).seq_pure rfl rfl
  case block.block n b => exact (parses_lenBlob (k := fun y => pure ([blobVal y.1], y.2)) (parses_uleb hfit.1 hfit.2) rfl).of_eq rfl
  case block1.block1 b => exact (parses_lenBlob (k := fun y => pure ([blobVal y.1], y.2)) (parses_byte hfit) rfl).of_eq rfl
  case wasm.wasm le k n v =>
    rcases hfit with ⟨⟨hk, hn⟩, hv⟩ | ⟨hk, hv⟩
    · have hk' : (0 : Int) ≤ (k : Int) ∧ (k : Int) ≤ 2 := by omega
      refine ((parses_byte (by omega : k < 256)).seq rfl ((parses_uleb (env := Env.empty) hn hv).seq_pure
        (k := fun y => pure ([.int k, y.1], y.2)) ?_ rfl)).as (by simp [encArg, hk]) rfl
      exact if_pos hk'
    · subst hk
      exact ((parses_byte (by omega : 3 < 256)).seq rfl ((parses_uint (env := Env.empty) (n := 4) (le := le)
        (by omega : v < 256 ^ 4)).seq_pure (k := fun y => pure ([.int 3, y.1], y.2)) rfl rfl)).as (by simp [encArg]) rfl

theorem parseArgs_parses {nested : Bytes → R (List Val)} : ∀ (ks : List ArgKind) (as : List Arg) (pos : Nat),
    argsFit ks as = true → Parses .elfParseError (parseArgs nested data ks) data pos (encArgs ks as) (as.flatMap obsArg)
  | [], [], _, _ => Parses.pure []
  | k :: ks, a :: as, pos, h => by
    simp only [argsFit, Bool.and_eq_true] at h
    exact ((parseArg_parses k a h.1).seq rfl ((parseArgs_parses ks as _ h.2).seq_pure
      (k := fun y => pure (obsArg a ++ y.1, y.2)) rfl rfl)).as rfl (by simp)
  | [], _ :: _, _, h => by simp [argsFit] at h
  | _ :: _, [], _, h => by simp [argsFit] at h

/- The operand list `[.expr]` of an entry-value operation: `Spec.Arg` has no nested-expression constructor (the body is
   part of `Op.entry`), so this signature is not a case of `parseArgs_parses`; it is stated for the operand list as the
   loop meets it. -/

theorem parseArgs_expr_eq (nested : Bytes → R (List Val)) (data : Bytes) (pos : Nat) :
    parseArgs nested data [.expr] pos
      = parseArg nested data .expr pos >>= fun x => pure (x.1 ++ [], x.2) := by
  rw [parseArgs]; rfl

theorem parseArgs_expr_parses {nested : Bytes → R (List Val)} {body : Bytes} {n : Nat} {vals : List Val}
    (hn : 1 ≤ n) (hlen : body.length < 2 ^ (7 * n)) (hnested : nested body = .ok vals) :
    Parses .elfParseError (parseArgs nested data [.expr]) data pos (encUlebN n body.length ++ body) [.list vals] :=
  ((parses_lenBlob (k := fun y => nested y.1 >>= fun ops => pure ([.list ops], y.2)) (parses_uleb hn hlen)
    (by simp only [hnested]; rfl)).of_eq (p := parseArg nested data .expr) rfl).seq_pure
      (parseArgs_expr_eq nested data pos) rfl

/-- `read_blob` fails before the nested parser is entered, so nothing is asked of it: this is not the `cut` of the
    statement above -/
theorem parseArgs_expr_cut {nested : Bytes → R (List Val)} {body : Bytes} {n j : Nat}
    (hn : 1 ≤ n) (hlen : body.length < 2 ^ (7 * n)) (hj : j < (encUlebN n body.length ++ body).length)
    (hd : data.drop pos = (encUlebN n body.length ++ body).take j) :
    parseArgs nested data [.expr] pos = .error .elfParseError := by
  rw [parseArgs_expr_eq, show parseArg nested data .expr pos = _ from lenBlob_cut (parses_uleb hn hlen) hj hd]
  rfl

end

theorem ops_induction {P : List Op → Prop} (hnil : P [])
    (hplain : ∀ opc args ops, P ops → P (.plain opc args :: ops))
    (hentry : ∀ opc n body ops, P body → P ops → P (.entry opc n body :: ops)) : ∀ ops, P ops
  | [] => hnil
  | .plain opc args :: ops => hplain opc args ops (ops_induction hnil hplain hentry ops)
  | .entry opc n body :: ops =>
    hentry opc n body ops (ops_induction hnil hplain hentry body) (ops_induction hnil hplain hentry ops)
termination_by ops => sizeOf ops
decreasing_by all_goals (simp_wf; omega)

theorem encodeOps_cons (c : DwarfCfg) (o : Op) (os : List Op) :
    encodeOps c (o :: os) = encodeOp c o ++ encodeOps c os := by rw [encodeOps]

theorem annotate_cons (c : DwarfCfg) (off : Nat) (o : Op) (os : List Op) :
    annotate c off (o :: os) = obsOp c off o :: annotate c (off + (encodeOp c o).length) os := by rw [annotate]

theorem WFops_cons (c : DwarfCfg) (o : Op) (os : List Op) :
    WFops c (o :: os) = (WFop c o && WFops c os) := by rw [WFops]

theorem WFop_plain {c : DwarfCfg} {opc : Nat} {args : List Arg} :
    WFop c (.plain opc args) = true ↔ ∃ ks, opSig c opc = some ks ∧ argsFit ks args = true := by
  rw [WFop]
  cases opSig c opc <;> simp

theorem WFop_entry {c : DwarfCfg} {opc n : Nat} {body : List Op} :
    WFop c (.entry opc n body) = true ↔
      opSig c opc = some [.expr] ∧ 1 ≤ n ∧ (encodeOps c body).length < 2 ^ (7 * n) ∧ WFops c body = true := by
  rw [WFop]
  simp only [Bool.and_eq_true, decide_eq_true_eq, and_assoc]

structure TablesOk (c : DwarfCfg) (D : List (Nat × List ArgKind)) (N : List (Nat × String)) : Prop where
  sig : ∀ op ks, opSig c op = some ks → D.lookup op = some ks
  name : ∀ op s, opName? op = some s → N.lookup op = some s

theorem TablesOk.spec (c : DwarfCfg) {N : List (Nat × String)}
    (hN : ∀ op s, opNames.lookup op = some s → N.lookup op = some s) : TablesOk c (opTable c) N :=
  ⟨fun op ks h => by rw [opTable_lookup]; exact h, fun op s h => hN op s (by rw [opNames_lookup]; exact h)⟩

theorem parseExprLoop_head {c : DwarfCfg} {D : List (Nat × List ArgKind)} {N : List (Nat × String)} (ht : TablesOk c D N)
    {opc : Nat} {ks : List ArgKind} (hs : opSig c opc = some ks) {fuel : Nat} {data t : Bytes} {pos : Nat}
    (parsed : List Val) (hd : data.drop pos = UInt8.ofNat opc :: t) :
    parseExprLoop D N (fuel + 1) data pos parsed
      = match parseArgs (fun blob => parseExprLoop D N fuel blob 0 []) data ks (pos + 1) with
        | .error e => .error e
        | .ok (args, pos') => parseExprLoop D N fuel data pos' (obsRecord opc args pos :: parsed) := by
  obtain ⟨name, hname⟩ := opSig_some_name hs
  rw [parseExprLoop, (drop_cons_inv hd).1]
  simp only [byte_toNat (opSig_some_lt hs), ht.name _ _ hname, ht.sig _ _ hs, exprOpVal, obsRecord, hname, Option.getD_some]
  cases parseArgs (fun blob => parseExprLoop D N fuel blob 0 []) data ks (pos + 1) <;> rfl

/-- `hnest`: for an entry-value operation the nested parser, which runs on the fuel left, returns the body's operations -/
theorem loop_step {c : DwarfCfg} {D : List (Nat × List ArgKind)} {N : List (Nat × String)} (ht : TablesOk c D N)
    (o : Op) (hwf : WFop c o = true) (fuel : Nat) (data : Bytes) (pos : Nat) (parsed : List Val) (tail : Bytes)
    (hnest : ∀ opc n body, o = .entry opc n body →
      parseExprLoop D N fuel (encodeOps c body) 0 [] = .ok (annotate c 0 body))
    (hd : data.drop pos = encodeOp c o ++ tail) :
    parseExprLoop D N (fuel + 1) data pos parsed
      = parseExprLoop D N fuel data (pos + (encodeOp c o).length) (obsOp c pos o :: parsed) := by
  cases o with
  | plain opc args =>
    obtain ⟨ks, hs, hfit⟩ := WFop_plain.1 hwf
    rw [encodeOp, hs, Option.getD_some] at hd ⊢
    rw [parseExprLoop_head ht hs parsed hd, (parseArgs_parses ks args (pos + 1) hfit).ok (drop_cons_inv hd).2, obsOp,
      List.length_cons, show pos + 1 + (encArgs ks args).length = pos + ((encArgs ks args).length + 1) by omega]
  | entry opc n body =>
    obtain ⟨hs, hn, hlen, -⟩ := WFop_entry.1 hwf
    rw [encodeOp] at hd ⊢
    rw [parseExprLoop_head ht hs parsed hd,
      (parseArgs_expr_parses hn hlen (hnest opc n body rfl)).ok (drop_cons_inv hd).2, obsOp, List.length_cons,
      show pos + 1 + (encUlebN n (encodeOps c body).length ++ encodeOps c body).length
        = pos + ((encUlebN n (encodeOps c body).length ++ encodeOps c body).length + 1) by omega]

theorem encodeOp_length_pos (c : DwarfCfg) (o : Op) : 1 ≤ (encodeOp c o).length := by
  cases o <;> simp [encodeOp]

structure ArrivesBehind (c : DwarfCfg) (D : List (Nat × List ArgKind)) (N : List (Nat × String)) (ops : List Op) : Prop where
  behind : ∀ {fuel : Nat} {data : Bytes} {pos : Nat} {parsed : List Val} (tail : Bytes),
    data.drop pos = encodeOps c ops ++ tail → (encodeOps c ops).length + tail.length + 1 ≤ fuel →
    ∃ fuel', tail.length + 1 ≤ fuel' ∧
      parseExprLoop D N fuel data pos parsed
        = parseExprLoop D N fuel' data (pos + (encodeOps c ops).length) ((annotate c pos ops).reverse ++ parsed)

theorem ArrivesBehind.whole {c : DwarfCfg} {D : List (Nat × List ArgKind)} {N : List (Nat × String)} {ops : List Op}
    (h : ArrivesBehind c D N ops) (fuel : Nat) (data : Bytes) (pos : Nat) (parsed : List Val)
    (hd : data.drop pos = encodeOps c ops) (hf : (encodeOps c ops).length + 1 ≤ fuel) :
    parseExprLoop D N fuel data pos parsed = .ok (parsed.reverse ++ annotate c pos ops) := by
  obtain ⟨fuel', hfl, hrec⟩ := h.behind [] (by simpa using hd) (by simpa using hf)
  obtain ⟨f, rfl⟩ : ∃ f, fuel' = f + 1 := ⟨fuel' - 1, by omega⟩
  have hend : data[pos + (encodeOps c ops).length]? = none := by
    apply List.getElem?_eq_none
    have := length_of_drop hd
    omega
  rw [hrec, parseExprLoop, hend]
  simp

theorem ArrivesBehind.cons {c : DwarfCfg} {D : List (Nat × List ArgKind)} {N : List (Nat × String)} (ht : TablesOk c D N)
    {o : Op} {ops : List Op} (ho : WFop c o = true)
    (hnest : ∀ opc n body, o = .entry opc n body → ArrivesBehind c D N body) (h : ArrivesBehind c D N ops) :
    ArrivesBehind c D N (o :: ops) := by
  constructor
  intro fuel data pos parsed tail hd hf
  rw [encodeOps_cons, List.append_assoc] at hd
  rw [encodeOps_cons, List.length_append] at hf ⊢
  have hpos := encodeOp_length_pos c o
  obtain ⟨fuel, rfl⟩ : ∃ f, fuel = f + 1 := ⟨fuel - 1, by omega⟩
  have hstep := loop_step ht o ho fuel data pos parsed _
    (fun opc n body e => (hnest opc n body e).whole fuel _ 0 [] (by simp) (by
      subst e
      simp only [encodeOp, List.length_cons, List.length_append, encUlebN_length] at hf
      omega)) hd
  obtain ⟨fuel', hfl, hrec⟩ := h.behind (fuel := fuel) (parsed := obsOp c pos o :: parsed) tail (drop_add_of_drop hd) (by omega)
  refine ⟨fuel', hfl, ?_⟩
  rw [hstep, hrec, annotate_cons, List.reverse_cons, List.append_assoc, List.singleton_append, Nat.add_assoc]

theorem loop_prefix {c : DwarfCfg} {D : List (Nat × List ArgKind)} {N : List (Nat × String)} (ht : TablesOk c D N) :
    ∀ ops : List Op, WFops c ops = true → ArrivesBehind c D N ops := by
  intro ops
  induction ops using ops_induction with
  | hnil =>
    refine fun _ => ⟨fun {fuel _ _ _} tail _ hf => ?_⟩
    exact ⟨fuel, by simp only [encodeOps, List.length_nil] at hf; omega, by simp [encodeOps, annotate]⟩
  | hplain opc args ops ih =>
    intro hwf
    rw [WFops_cons, Bool.and_eq_true] at hwf
    exact .cons ht hwf.1 (fun _ _ _ e => by cases e) (ih hwf.2)
  | hentry opc n body ops ihb ih =>
    intro hwf
    rw [WFops_cons, Bool.and_eq_true] at hwf
    refine .cons ht hwf.1 (fun _ _ _ e => ?_) (ih hwf.2)
    cases e
    obtain ⟨-, -, -, hbody⟩ := WFop_entry.1 hwf.1
    exact ihb hbody

theorem parseExpr_roundtrip {c : DwarfCfg} {D : List (Nat × List ArgKind)} {N : List (Nat × String)}
    (ht : TablesOk c D N) (ops : List Op) (hwf : WFops c ops = true) :
    parseExpr D N (encodeOps c ops) = .ok (annotate c 0 ops) := by
  have := (loop_prefix ht ops hwf).whole ((encodeOps c ops).length + 1) (encodeOps c ops) 0 [] (by simp) (Nat.le_refl _)
  simpa [parseExpr] using this

theorem encodeOps_append (c : DwarfCfg) (a b : List Op) :
    encodeOps c (a ++ b) = encodeOps c a ++ encodeOps c b := by
  induction a with
  | nil => simp [encodeOps]
  | cons o a ih => simp [encodeOps_cons, ih]

theorem annotate_append (c : DwarfCfg) (a b : List Op) : ∀ off,
    annotate c off (a ++ b) = annotate c off a ++ annotate c (off + (encodeOps c a).length) b := by
  induction a with
  | nil => intro off; simp [annotate, encodeOps]
  | cons o a ih =>
    intro off
    simp [annotate_cons, encodeOps_cons, ih, Nat.add_assoc]

theorem WFops_append (c : DwarfCfg) (a b : List Op) : WFops c (a ++ b) = (WFops c a && WFops c b) := by
  induction a with
  | nil => simp [WFops]
  | cons o a ih => simp [WFops_cons, ih, Bool.and_assoc]

end PyElf.Proofs
