/-
  The dynamic symbol table of a `DynDesc`.  An encodable `Elf_Sym` record decodes (`sym_total`, over
  Proofs/FixedTotal.lean) and `st_name` decodes to the number that was encoded: `SymView` holds of the description's
  table (`symView_of`); the hash table the count is taken from (`hash_wf_of`).
-/
import PyElf.Proofs.DynamicImage
import PyElf.Proofs.FixedTotal
namespace PyElf.Proofs.Dynamic
open PyElf PyElf.Spec PyElf.Spec.Dynamic PyElf.Model PyElf.Model.Dynamic PyElf.Proofs

theorem sym_total (env : Env) (c : ElfCfg) : Total env (elfStructs c).Elf_Sym := by
  simp only [elfStructs, st, mkFields, f, enumOf]
  split <;>
  · apply total_struct
    repeat' (first
      | exact totalF_nil env
      | apply totalF_cons
      | exact total_uint env _ _
      | exact total_enum_pass env _ _ _
      | exact total_bits env _ (by decide))

theorem sym_fixed (c : ElfCfg) : (elfStructs c).Elf_Sym.fixed = true := by
  simp only [elfStructs, st, mkFields, f, enumOf]
  split <;> rfl

theorem sym_size (c : ElfCfg) : ∃ sz, (elfStructs c).Elf_Sym.sizeof = some sz ∧ 0 < sz :=
  ⟨_, sym_sizeof_eq c, by split <;> omega⟩

theorem sym_struct (c : ElfCfg) :
    ∃ fs, (elfStructs c).Elf_Sym = .struct fs ∧ fieldCon fs "st_name" = some (.uint 4 c.le) := by
  simp only [elfStructs, st]
  split <;> exact ⟨_, rfl, by simp [mkFields, f, fieldCon, fieldNames]⟩

theorem encAll_mem {c : Con} (hc : c.fixed = true) {sz : Nat} (hsz : c.sizeof = some sz) {xs : List Val} {bs : Bytes}
    (he : encAll c xs = some bs) : ∀ x ∈ xs, ∃ b, c.encodeRaw x = some b := by
  intro x hx
  obtain ⟨bss, -, hl, -, hall⟩ := encAll_inv hc hsz he
  obtain ⟨i, hi, rfl⟩ := List.getElem_of_mem hx
  exact ⟨_, hall i hi (by omega)⟩

theorem symView_of (env : Env) (c : ElfCfg) (data : Bytes) (symOff : Nat) (syms : List Fields) (sb rest : Bytes)
    (he : encAll (elfStructs c).Elf_Sym (syms.map .record) = some sb) (hd : data.drop symOff = sb ++ rest) :
    ∃ es, SymView env (elfStructs c) data symOff syms es := by
  obtain ⟨sz, hsz, -⟩ := sym_size c
  have hdec : ∃ es, syms.mapM (fun s => (elfStructs c).Elf_Sym.decodeRaw env [] (.record s)) = .ok es := by
    apply Engine.mapM_ok_exists
    intro s hs
    obtain ⟨b, hb⟩ := encAll_mem (sym_fixed c) hsz he (.record s) (List.mem_map_of_mem hs)
    exact sym_total env c [] _ b hb
  obtain ⟨es, hes⟩ := hdec
  obtain ⟨hlen, hall⟩ := mapM_ok_inv _ _ _ hes
  refine ⟨es, sym_fixed c, sym_size c, ⟨sb, rest, he, hd⟩, hlen, ?_⟩
  intro i h1 h2
  have hd' := hall i h1 h2
  refine ⟨hd', ?_⟩
  obtain ⟨b, hb⟩ := encAll_mem (sym_fixed c) hsz he (.record syms[i]) (List.mem_map_of_mem (List.getElem_mem h1))
  obtain ⟨fs, hfs, hf⟩ := sym_struct c
  rw [hfs] at hb hd'
  obtain ⟨z, -, hz1, hz2⟩ := uint_field hf hb hd'
  rw [Val.getNat_of_getField hz2]
  simp [getNatD, hz1]

theorem obsSyms_eq {env : Env} {d : DynDesc} {data : Bytes} {symOff : Nat} {es : List Val}
    (Y : SymView env d.S data symOff d.syms es) :
    obsSyms env d = .ok ((List.range d.syms.length).map fun i =>
      ((strAt d.strtab (getNatD (d.syms.getD i []) "st_name")).getD [], es.getD i .none)) := by
  unfold obsSyms
  apply mapM_ok_of_forall
  · simp
  · intro i h1 h2
    have h3 : i < es.length := by rw [Y.len]; exact h1
    obtain ⟨hdec, -⟩ := Y.dec i h1 h3
    unfold obsSym
    simp [hdec, bind, Except.bind, pure, Except.pure, List.getD, List.getElem?_eq_getElem h1,
      List.getElem?_eq_getElem h3]

/-- the hash table the count is taken from (the disjunction `num_symbols_exact` asks for), from the pointer facts and
    `hashOk` -/
theorem hash_wf_of {env : Env} {d : DynDesc} {full : Bool} {b : List (Nat × Bytes)} {data : Bytes}
    (hps : ptrOk env d DT_HASH (d.sysv.map (·.2)) = true) (hpg : ptrOk env d DT_GNU_HASH (d.gnu.map (·.2)) = true)
    (hh : hashOk d = true) (B : BlobFacts d full b)
    (hpl : ∀ r ∈ b, ∃ rest, data.drop r.1 = r.2 ++ rest) :
    (∃ a o h rest, firstVal d.live DT_GNU_HASH = some a ∧ mapAddr (d.phdrs env) a = some o ∧
        GnuHash.wf h d.syms.length = true ∧ data.drop o = h.enc d.le d.w ++ rest) ∨
    (firstVal d.live DT_GNU_HASH = none ∧
      ∃ a o h rest, firstVal d.live DT_HASH = some a ∧ mapAddr (d.phdrs env) a = some o ∧
        SysvHash.wf h d.syms.length = true ∧ data.drop o = h.enc d.le ++ rest) := by
  unfold hashOk at hh
  simp only [Bool.and_eq_true, Bool.or_eq_true] at hh
  obtain ⟨⟨hsome, hg⟩, hs⟩ := hh
  cases hgnu : d.gnu with
  | some p =>
    obtain ⟨h, o⟩ := p
    rw [hgnu] at hg hpg
    obtain ⟨a, ha, ho⟩ := ptrOk_some (by simpa using hpg)
    obtain ⟨rest, hrest⟩ := hpl _ (B.gnu h o hgnu)
    exact Or.inl ⟨a, o, h, rest, ha, ho, hg, hrest⟩
  | none =>
    rw [hgnu] at hpg hsome
    have hnone := ptrOk_none (by simpa using hpg)
    cases hsysv : d.sysv with
    | none => simp [hsysv] at hsome
    | some p =>
      obtain ⟨h, o⟩ := p
      rw [hsysv] at hs hps
      obtain ⟨a, ha, ho⟩ := ptrOk_some (by simpa using hps)
      obtain ⟨rest, hrest⟩ := hpl _ (B.sysv h o hsysv)
      exact Or.inr ⟨hnone, a, o, h, rest, ha, ho, hs, hrest⟩

end PyElf.Proofs.Dynamic
