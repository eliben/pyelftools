/-
  C11, relocations on debug sections in every container encoding.  `_read_dwarf_section` applies the relocation
  section that targets a debug section (C08's subject) to the section's LOGICAL content; a legacy `.zdebug` section is
  decompressed BEFORE it is relocated (`readDwarfSection_stored_eq`).  The relocation model and its lemmas are C08's
  (`Presents.apply`, Proofs/RelocSection.lean): here they are composed with the container model.
  `ContentR` is a content with its relocations, `relocatedContent` what a consumer must see of it, `HoldsR` "the file
  stores it", and `HoldsR.reads` the bridge to Proofs/ContainerReads.lean.
-/
import PyElf.Proofs.ContainerReads
import PyElf.Proofs.RelocSection
import PyElf.Proofs.RelocSym
namespace PyElf.Proofs.C11
open PyElf PyElf.Spec PyElf.Model PyElf.Model.C11 PyElf.Spec.C11 PyElf.Proofs PyElf.Proofs.Reloc

/-- a relocation section as the standards describe it: flavour, entries (gABI "Relocation"), and the values of the
    symbols of the table it links to -/
structure RelocDesc where
  rela : Bool
  es : List RelEntry
  syms : List Nat

/-- per DWARFInfo keyword: the bytes as the producer wrote them (before relocation), the load address, and the
    relocations against them, if any -/
abbrev ContentR := String → Option (Bytes × Nat × Option RelocDesc)

/-- `none` when an entry must be rejected; untouched when relocation is not asked for or nothing targets the section -/
def relocatedPayload (a : Arch) (c : RelCfg) (relocate : Bool) (payload : Bytes) : Option RelocDesc → Option Bytes
  | none => some payload
  | some r => if relocate then applyStd a c r.rela r.syms payload r.es else some payload

def relocatedContent (a : Arch) (c : RelCfg) (relocate : Bool) (cr : ContentR) : Content := fun k =>
  (cr k).bind fun x => (relocatedPayload a c relocate x.1 x.2.2).map fun b => (b, x.2.1)

def unrelocated (cr : ContentR) : Content := fun k => (cr k).map fun x => (x.1, x.2.1)

theorem relocatedContent_none {a : Arch} {c : RelCfg} {relocate : Bool} {cr : ContentR} {k : String} (h : cr k = none) :
    relocatedContent a c relocate cr k = none := by
  simp [relocatedContent, h]

theorem noSup_relocated {a : Arch} {c : RelCfg} {relocate : Bool} {cr : ContentR} {p q : Prop}
    (h : p ∨ (q ∧ cr "debug_sup_sec" = none ∧ cr "gnu_debugaltlink_sec" = none)) :
    p ∨ (q ∧ relocatedContent a c relocate cr "debug_sup_sec" = none ∧
      relocatedContent a c relocate cr "gnu_debugaltlink_sec" = none) :=
  h.imp_right fun ⟨hq, h1, h2⟩ => ⟨hq, relocatedContent_none h1, relocatedContent_none h2⟩

theorem relocatedContent_false (a : Arch) (c : RelCfg) (cr : ContentR) :
    relocatedContent a c false cr = unrelocated cr := by
  funext k
  simp only [relocatedContent, unrelocated]
  cases cr k with
  | none => rfl
  | some x =>
    obtain ⟨p, addr, r⟩ := x
    cases r <;> simp [relocatedPayload]

theorem relocatedContent_noReloc (a : Arch) (c : RelCfg) (relocate : Bool) (cr : ContentR)
    (h : ∀ k p addr r, cr k = some (p, addr, r) → r = none) :
    relocatedContent a c relocate cr = unrelocated cr := by
  funext k
  simp only [relocatedContent, unrelocated]
  cases hc : cr k with
  | none => rfl
  | some x =>
    obtain ⟨p, addr, r⟩ := x
    have := h k p addr r hc
    subst this
    simp [relocatedPayload]

theorem relCfgOf_congr (c₁ c₂ : ElfCfg) (hle : c₁.le = c₂.le) (hcls : c₁.cls = c₂.cls) (hmc : c₁.mclass = c₂.mclass) :
    relCfgOf c₁ = relCfgOf c₂ := by
  unfold relCfgOf
  rw [hle, hcls]
  congr 1
  exact decide_eq_decide.mpr (by rw [hmc])

structure RelocEnv (P : Params) (f : ElfFile) (cfg : ElfCfg) (a : Arch) : Prop where
  hcls : cfg.cls = 32 ∨ cfg.cls = 64
  hS : f.S = Spec.elfStructs cfg
  hfcls : f.cls = cfg.cls
  hfle : f.le = cfg.le
  hmips : (relCfgOf cfg).mips = decide (a = .mips)
  harch : ∃ m, f.header.getField "e_machine" = .ok m ∧ P.machineArchOf m = archString a

/-- `num_symbols()` is `syms.length` and `get_symbol(i)['st_value']` is `syms[i]` — whatever else the entries carry -/
def SymValues (P : Params) (f : ElfFile) (ssec : Sec) (syms : List Nat) : Prop :=
  ∃ symoff size entsize : Nat,
    ssec.hdr.getNat "sh_offset" = .ok symoff ∧ ssec.hdr.getNat "sh_size" = .ok size ∧
    ssec.hdr.getNat "sh_entsize" = .ok entsize ∧ entsize ≠ 0 ∧ size / entsize = syms.length ∧
    ∀ i (h : i < syms.length), ∃ symv,
      Reloc.seekParse P.env f.S.Elf_Sym f.data (symoff + i * entsize) = .ok symv ∧
      symv.getInt "st_value" = .ok (syms[i] : Int)

/-- `rsec` holds (plainly) the Spec encoding of the entries, and its `sh_link` designates — through `get_section` — a
    symbol table section whose symbols have the values `r.syms` -/
def RelocStored (P : Params) (deflate : Nat → Bytes → Bytes) (f : ElfFile) (c : RelCfg) (rsec : Sec) (r : RelocDesc) :
    Prop :=
  ∃ (ssec : Sec) (k raddr base : Nat),
    rsec.hdr.getField "sh_type" = .ok (.str (if r.rela then "SHT_RELA" else "SHT_REL")) ∧
    rsec.hdr.getNat "sh_link" = .ok k ∧
    Stores deflate f.data f.cls f.le rsec .plain (encRelTable c r.rela r.es) raddr base ∧
    getSection P.env f.S f.data f.header f.shstr k = .ok ssec ∧ ssec.kind = "SymbolTableSection" ∧
    SymValues P f ssec r.syms

/-- `Reloc.SymAnswers` is C08's hypothesis about the symbols -/
theorem symValues_iff {P : Params} {f : ElfFile} {ssec : Sec} {syms : List Nat} :
    SymValues P f ssec syms ↔ ∃ symoff size entsize : Nat,
      ssec.hdr.getNat "sh_offset" = .ok symoff ∧ ssec.hdr.getNat "sh_size" = .ok size ∧
      ssec.hdr.getNat "sh_entsize" = .ok entsize ∧ SymAnswers P.env f.S f.data ⟨symoff, size, entsize⟩ syms :=
  ⟨fun ⟨so, sz, en, h1, h2, h3, h4, h5, h6⟩ => ⟨so, sz, en, h1, h2, h3, h4, h5, h6⟩,
   fun ⟨so, sz, en, h1, h2, h3, h4, h5, h6⟩ => ⟨so, sz, en, h1, h2, h3, h4, h5, h6⟩⟩

/-- `encSymTable` is the value-only symbol table of C08's Spec: every entry all zero but `st_value` -/
theorem symValues_of_stored {P : Params} {deflate : Nat → Bytes → Bytes} {f : ElfFile} {cfg : ElfCfg}
    (hcls : cfg.cls = 32 ∨ cfg.cls = 64) (hS : f.S = Spec.elfStructs cfg) {ssec : Sec} {syms : List Nat} {saddr symoff : Nat}
    (hsyms : ∀ s ∈ syms, s < 2 ^ cfg.cls)
    (hent : ssec.hdr.getNat "sh_entsize" = .ok (symEntSize cfg.cls))
    (hst : Stores deflate f.data f.cls f.le ssec .plain (encSymTable cfg.le cfg.cls syms) saddr symoff) :
    SymValues P f ssec syms := by
  obtain ⟨sty, srest, sflags, hsp⟩ := hst.plain
  have hslen : (encSymTable cfg.le cfg.cls syms).length = syms.length * symEntSize cfg.cls := encSymTable_length _ _ _
  refine symValues_iff.2 ⟨symoff, syms.length * symEntSize cfg.cls, symEntSize cfg.cls, hsp.hoff,
    by rw [← hslen]; exact hsp.hsize, hent, ?_⟩
  rw [hS]
  have hfit : symoff + syms.length * symEntSize cfg.cls ≤ 2 ^ 63 := by have := hsp.hbound; omega
  exact symtab_answers cfg hcls P.env syms hsyms hsp.hdata hfit rfl rfl

/-- `apply_section_relocations(stream, rsec)` in terms of relocation.py alone: the table object over `rsec`'s
    `sh_offset` / `sh_size`, the symbol table's header fields, the machine of the file header -/
theorem applyRelocations_eq {P : Params} {f : ElfFile} {cfg : ElfCfg} (hcls : cfg.cls = 32 ∨ cfg.cls = 64)
    (hS : f.S = Spec.elfStructs cfg) {rsec ssec : Sec} {rela : Bool} {off size link symoff symsize entsize : Nat}
    {m : Val} (hty : rsec.hdr.getField "sh_type" = .ok (.str (if rela then "SHT_RELA" else "SHT_REL")))
    (hoff : rsec.hdr.getNat "sh_offset" = .ok off) (hsize : rsec.hdr.getNat "sh_size" = .ok size)
    (hlink : rsec.hdr.getNat "sh_link" = .ok link)
    (hget : getSection P.env f.S f.data f.header f.shstr link = .ok ssec) (hkind : ssec.kind = "SymbolTableSection")
    (hsoff : ssec.hdr.getNat "sh_offset" = .ok symoff) (hssize : ssec.hdr.getNat "sh_size" = .ok symsize)
    (hsent : ssec.hdr.getNat "sh_entsize" = .ok entsize) (hm : f.header.getField "e_machine" = .ok m)
    (stream : Bytes) :
    applyRelocations P f rsec stream
      = Reloc.applySectionRelocations P.env (Spec.elfStructs cfg) f.le f.cls (P.machineArchOf m) f.data
          ⟨symoff, symsize, entsize⟩ (specTable cfg (some off) size rela) stream := by
  -- the model binds `get_section`'s answer by a tuple pattern: `ssec` is taken apart so that the pattern reduces, and the
  -- three header reads are restated over `shdr`, the form in which `simp` then meets them
  obtain ⟨skind, sname, shdr⟩ := ssec
  have hkind' : skind = "SymbolTableSection" := hkind
  subst hkind'
  have hrela : isStr (Val.str (if rela then "SHT_RELA" else "SHT_REL")) "SHT_RELA" = rela := (relTypeName_beq rela).1
  have hsoff' : shdr.getNat "sh_offset" = .ok symoff := hsoff
  have hssize' : shdr.getNat "sh_size" = .ok symsize := hssize
  have hsent' : shdr.getNat "sh_entsize" = .ok entsize := hsent
  simp only [applyRelocations, hty, hoff, hsize, hlink, hrela, hS, mkTable_spec cfg hcls, bind, Except.bind]
  rw [← hS, hget]
  simp only [bne_self_eq_false, Bool.false_eq_true, ↓reduceIte, hsoff', hssize', hsent', hm, hS]

theorem applyRelocations_std {P : Params} {deflate : Nat → Bytes → Bytes} {f : ElfFile} {cfg : ElfCfg} {a : Arch}
    (hr : RelocEnv P f cfg a) (rsec : Sec) (r : RelocDesc) (payload : Bytes)
    (hst : RelocStored P deflate f (relCfgOf cfg) rsec r)
    (hwf : WFApply a (relCfgOf cfg) r.rela r.syms payload.length r.es = true) :
    applyRelocations P f rsec payload =
      match applyStd a (relCfgOf cfg) r.rela r.syms payload r.es with
      | some b => .ok b
      | none => .error .elfRelocError := by
  obtain ⟨ssec, k, raddr, base, hty, hlink, hrs, hget, hkind, hsv⟩ := hst
  obtain ⟨rty, rrest, rflags, hrp⟩ := hrs.plain
  obtain ⟨symoff, size, entsize, hoff, hsz, hent, hans⟩ := symValues_iff.1 hsv
  obtain ⟨m, hm, harch⟩ := hr.harch
  have hrlen : (encRelTable (relCfgOf cfg) r.rela r.es).length = r.es.length * relEntSize (relCfgOf cfg) r.rela :=
    encRelTable_length _ hr.hcls _ _
  rw [applyRelocations_eq hr.hcls hr.hS hty hrp.hoff hrp.hsize hlink hget hkind hoff hsz hent hm, harch, hr.hfle, hr.hfcls]
  exact specTable_apply cfg hr.hcls P.env a hr.hmips r.rela r.es r.syms payload ⟨symoff, size, entsize⟩ hrp.hdata
    (by have := hrp.hbound; omega) hwf (hr.hS ▸ hans)

/-- nothing targets the section when the content has no relocations for it; otherwise the FIRST RelocationSection
    named `.rel<name>` / `.rela<name>` stores them, they are in the domain of C08's theorems (`WFApply`) and none is rejected -/
def Relocates (P : Params) (deflate : Nat → Bytes → Bytes) (f : ElfFile) (secs : List Sec) (cfg : ElfCfg) (a : Arch)
    (sec : Sec) (payload : Bytes) : Option RelocDesc → Prop
  | none => findRelocations secs sec.name = none
  | some r => ∃ rsec, findRelocations secs sec.name = some rsec ∧ RelocStored P deflate f (relCfgOf cfg) rsec r ∧
      WFApply a (relCfgOf cfg) r.rela r.syms payload.length r.es = true ∧
      (applyStd a (relCfgOf cfg) r.rela r.syms payload r.es).isSome = true

/-- `HoldsEnc` with `NoReloc` replaced by a description of the relocation section (not needed when `relocate = false`) -/
def HoldsR (P : Params) (deflate : Nat → Bytes → Bytes) (f : ElfFile) (secs : List Sec) (relocate : Bool)
    (cfg : ElfCfg) (a : Arch) (cr : ContentR) (allowed : Enc → Prop) : Prop :=
  ∀ kn ∈ P.names,
    match cr kn.1 with
    | none => getSectionByName secs (secNameOf (hasSection secs nZdebugInfo) kn) = none
    | some (payload, addr, orel) =>
      ∃ sec e off, getSectionByName secs (secNameOf (hasSection secs nZdebugInfo) kn) = some sec ∧
        Stores deflate f.data f.cls f.le sec e payload addr off ∧
        e.legacy = legacyOf (hasSection secs nZdebugInfo) kn ∧ allowed e ∧
        (relocate = false ∨ Relocates P deflate f secs cfg a sec payload orel)

theorem HoldsR.mono {P : Params} {deflate : Nat → Bytes → Bytes} {f : ElfFile} {secs : List Sec} {relocate : Bool}
    {cfg : ElfCfg} {a : Arch} {cr : ContentR} {allowed allowed' : Enc → Prop}
    (h : HoldsR P deflate f secs relocate cfg a cr allowed) (himp : ∀ e, allowed e → allowed' e) :
    HoldsR P deflate f secs relocate cfg a cr allowed' := by
  intro kn hk
  have := h kn hk
  cases hc : cr kn.1 with
  | none => simpa [hc] using this
  | some x =>
    obtain ⟨payload, addr, orel⟩ := x
    simp only [hc] at this ⊢
    obtain ⟨sec, e, off, h1, h2, h3, h4, h5⟩ := this
    exact ⟨sec, e, off, h1, h2, h3, himp e h4, h5⟩

theorem relocStep_relocates {P : Params} {deflate : Nat → Bytes → Bytes} {f : ElfFile} {cfg : ElfCfg} {a : Arch}
    (hr : RelocEnv P f cfg a) (secs : List Sec) (sec : Sec) (relocate : Bool) (payload : Bytes) (addr off : Nat)
    (orel : Option RelocDesc)
    (h : relocate = false ∨ Relocates P deflate f secs cfg a sec payload orel) :
    ∃ b, relocatedPayload a (relCfgOf cfg) relocate payload orel = some b ∧ b.length = payload.length ∧
      relocStep P f secs sec relocate (goodDescr sec payload addr off) = .ok { goodDescr sec payload addr off with stream := b } := by
  -- `relocate = false`, or nothing targets the section: the payload goes through untouched; otherwise the step is
  -- `applyRelocations` on the first relocation section, which `applyRelocations_std` equates with the Spec's `applyStd`
  rcases h with h | h
  · subst h
    refine ⟨payload, ?_, rfl, ?_⟩
    · cases orel <;> simp [relocatedPayload]
    · simp [relocStep, goodDescr]
  · cases orel with
    | none =>
      refine ⟨payload, rfl, rfl, ?_⟩
      have h' : findRelocations secs sec.name = none := h
      unfold relocStep
      rw [h']
      cases relocate <;> simp [goodDescr]
    | some r =>
      obtain ⟨rsec, hfind, hst, hwf, hsome⟩ := h
      cases relocate with
      | false => exact ⟨payload, by simp [relocatedPayload], rfl, by simp [relocStep, goodDescr]⟩
      | true =>
        cases happ : applyStd a (relCfgOf cfg) r.rela r.syms payload r.es with
        | none => simp [happ] at hsome
        | some b =>
          refine ⟨b, by simp [relocatedPayload, happ], applyStd_length_of_wf hwf happ, ?_⟩
          have := applyRelocations_std hr rsec r payload hst hwf
          rw [happ] at this
          simp only [relocStep, if_true, hfind, goodDescr, this]

theorem HoldsR.reads {P : Params} {deflate : Nat → Bytes → Bytes} {f : ElfFile} (hf : FileOk P deflate f)
    {cfg : ElfCfg} {a : Arch} (hr : RelocEnv P f cfg a)
    {secs : List Sec} {relocate : Bool} {cr : ContentR} {allowed : Enc → Prop}
    (hh : HoldsR P deflate f secs relocate cfg a cr allowed) :
    Reads P f secs relocate (relocatedContent a (relCfgOf cfg) relocate cr) := by
  -- per keyword: absent from the content, the loop body finds no section; present, it reads the stored payload
  -- (`readOne_stores`) and the relocation step turns it into the relocated payload, of the same length (`relocStep_relocates`)
  intro kn hk
  have := hh kn hk
  cases hc : cr kn.1 with
  | none =>
    simp only [hc] at this
    exact ⟨none, readOne_absent P f secs relocate _ kn this, by simp [kwView, relocatedContent, hc]⟩
  | some x =>
    obtain ⟨payload, addr, orel⟩ := x
    simp only [hc] at this
    obtain ⟨sec, e, off, hget, hst, hleg, -, hrel⟩ := this
    obtain ⟨b, hb, hlen, hstep⟩ := relocStep_relocates hr secs sec relocate payload addr off orel hrel
    refine ⟨some { goodDescr sec payload addr off with stream := b }, ?_, ?_⟩
    · rw [readOne_stores hf secs relocate _ kn hget hst hleg, hstep]
      rfl
    · simp [kwView, relocatedContent, hc, hb, goodDescr, Descr.view, hlen]

theorem readOne_reloc_rejected {P : Params} {deflate : Nat → Bytes → Bytes} {f : ElfFile} (hf : FileOk P deflate f)
    {cfg : ElfCfg} {a : Arch} (hr : RelocEnv P f cfg a)
    (secs : List Sec) (zfile : Bool) (kn : String × Bytes × Bool) (sec rsec : Sec)
    (hget : getSectionByName secs (secNameOf zfile kn) = some sec)
    (e : Enc) (payload : Bytes) (addr off : Nat)
    (hst : Stores deflate f.data f.cls f.le sec e payload addr off) (hleg : e.legacy = legacyOf zfile kn)
    (r : RelocDesc) (hfind : findRelocations secs sec.name = some rsec)
    (hrs : RelocStored P deflate f (relCfgOf cfg) rsec r)
    (hwf : WFApply a (relCfgOf cfg) r.rela r.syms payload.length r.es = true)
    (hrej : applyStd a (relCfgOf cfg) r.rela r.syms payload r.es = none) :
    readOne P f secs true zfile kn = .error (.py .elfRelocError) := by
  have := applyRelocations_std hr rsec r payload hrs hwf
  rw [hrej] at this
  rw [readOne_stores hf secs true zfile kn hget hst hleg]
  simp only [relocStep, if_true, hfind, goodDescr, this, Except.bind]

end PyElf.Proofs.C11
