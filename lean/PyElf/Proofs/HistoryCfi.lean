/-
  C10: the CFI entry cache (`CallFrameInfo._entry_cache`) never changes an answer.

  `pureEnt` / `pureList` are the cache-free reference: the entry at an offset is its fresh parse, an FDE carries the
  reference entry at the offset its CIE pointer designates, and the section is the entries back to back.  In EVERY
  state of the cache that holds only reference entries (`CInv`: in particular after a `get_entries()` that raised
  half way and left the cache partly filled) `_parse_entry_at` returns the reference entry — a hit returns what a
  miss would build, all FDEs designating one offset share one CIE value.  `CfiWF` (a fresh parse ends where the
  entry's length field says) is what makes the seek of a cache hit agree with the end of a fresh parse.
-/
import PyElf.Model.HistoryCaches
namespace PyElf.Proofs.C10
open PyElf PyElf.Model.Lookup PyElf.Model.C10

/-- the entry at `off` without any cache -/
def pureEnt (X : XFile) (eh : Bool) : Nat → Int → R CEnt
  | 0, _ => .error .outOfFuel
  | f+1, off =>
    match X.cfiHead eh off with
    | .error e => .error e
    | .ok (.zero _) => .ok (.zero off.toNat)
    | .ok (.cie raw) => .ok (.cie off raw.skip raw.payload)
    | .ok (.fde ptr) =>
      match pureEnt X eh f ptr with
      | .error e => .error e
      | .ok c =>
        match X.cfiFde eh off (if eh then c.tag else 0) c.tag with
        | .error e => .error e
        | .ok raw => .ok (.fde off raw.skip raw.payload c)

/-- the entries of the section from `offset` on, back to back -/
def pureList (X : XFile) (eh : Bool) (depth : Nat) : Nat → Nat → R (List CEnt)
  | 0, _ => .error .outOfFuel
  | f+1, offset =>
    if offset < X.cfiSize eh then
      match pureEnt X eh depth offset with
      | .error e => .error e
      | .ok e =>
        match pureList X eh depth f (offset + e.len) with
        | .error e' => .error e'
        | .ok rest => .ok (e :: rest)
    else .ok []

/-- the stateless meaning of `get_entries()` -/
def pureAll (X : XFile) (eh : Bool) : R (List CEnt) :=
  pureList X eh (X.cfiSize eh + 2) (X.cfiSize eh + 2) 0

/-- a fresh parse leaves the stream where the entry's length field says the entry ends -/
structure CfiWF (X : XFile) (eh : Bool) : Prop where
  zero : ∀ off p, X.cfiHead eh off = .ok (.zero p) → p = off.toNat + 4
  cie : ∀ off raw, X.cfiHead eh off = .ok (.cie raw) → raw.endPos = off.toNat + raw.skip
  fde : ∀ off t1 t2 raw, X.cfiFde eh off t1 t2 = .ok raw → raw.endPos = off.toNat + raw.skip

/-- the cache holds reference entries only (and never a ZERO, which has no header to skip by) -/
def CInv (X : XFile) (eh : Bool) (cache : CCache) : Prop :=
  ∀ k e, cacheGet cache k = some e → (∃ f, pureEnt X eh f k = .ok e) ∧ e.skip? ≠ none

theorem cinv_nil (X : XFile) (eh : Bool) : CInv X eh [] := by
  intro k e h; simp [cacheGet] at h

section
variable {X : XFile} {eh : Bool}

theorem pureEnt_succ : ∀ (f : Nat) (off : Int) (r : R CEnt), pureEnt X eh f off = r → r ≠ .error .outOfFuel →
    pureEnt X eh (f + 1) off = r := by
  intro f
  induction f with
  | zero =>
    intro off r h hr
    rw [pureEnt] at h
    exact absurd h.symm hr
  | succ f ih =>
    intro off r h hr
    rw [pureEnt] at h ⊢
    cases hh : X.cfiHead eh off with
    | error e => simp only [hh] at h ⊢; exact h
    | ok hd =>
      cases hd with
      | zero p => simp only [hh] at h ⊢; exact h
      | cie raw => simp only [hh] at h ⊢; exact h
      | fde ptr =>
        simp only [hh] at h ⊢
        cases h1 : pureEnt X eh f ptr with
        | error e1 =>
          rw [h1] at h
          simp only at h
          have hne : (Except.error e1 : R CEnt) ≠ .error .outOfFuel := by rw [h]; exact hr
          rw [ih ptr _ h1 hne]
          exact h
        | ok c =>
          rw [h1] at h
          rw [ih ptr _ h1 (by simp)]
          exact h

theorem pureEnt_le {f f' : Nat} (hle : f ≤ f') {off : Int} {r : R CEnt} (h : pureEnt X eh f off = r)
    (hr : r ≠ .error .outOfFuel) : pureEnt X eh f' off = r := by
  induction hle with
  | refl => exact h
  | step _ ih => exact pureEnt_succ _ _ _ ih hr

theorem pureEnt_det {f f' : Nat} {off : Int} {e : CEnt} {r : R CEnt} (h : pureEnt X eh f off = .ok e)
    (h' : pureEnt X eh f' off = r) (hr : r ≠ .error .outOfFuel) : r = .ok e := by
  have a := pureEnt_le (Nat.le_max_left f f') h (by simp)
  have b := pureEnt_le (Nat.le_max_right f f') h' hr
  rw [a] at b
  exact b.symm

theorem cacheGet_cons (k : Int) (e : CEnt) (c : CCache) (k' : Int) :
    cacheGet ((k, e) :: c) k' = if k = k' then some e else cacheGet c k' := by
  rw [cacheGet]

theorem cinv_cons {cache : CCache} (h : CInv X eh cache) {k : Int} {e : CEnt} {f : Nat} (he : pureEnt X eh f k = .ok e)
    (hs : e.skip? ≠ none) : CInv X eh ((k, e) :: cache) := by
  intro k' e' hg
  rw [cacheGet_cons] at hg
  by_cases hk : k = k'
  · simp only [hk, if_true] at hg
    injection hg with hg
    subst hg; subst hk
    exact ⟨⟨f, he⟩, hs⟩
  · simp only [hk, if_false] at hg
    exact h k' e' hg

theorem len_of_skip {e : CEnt} {s : Nat} (h : e.skip? = some s) : e.len = s := by
  cases e with
  | zero o => simp [CEnt.skip?] at h
  | cie o s' p => simp only [CEnt.skip?] at h; injection h
  | fde o s' p c => simp only [CEnt.skip?] at h; injection h

theorem fetchCie_spec {recur : Int → CCache → R (CEnt × Nat) × CCache} {ptr : Int} {cache : CCache} {r1 : R CEnt}
    (h : (recur ptr cache).1.map (·.1) = r1) : fetchCie recur ptr cache = (r1, (recur ptr cache).2) := by
  unfold fetchCie
  generalize recur ptr cache = x at h
  obtain ⟨a, b⟩ := x
  simp only at h
  subst h
  cases a with
  | error e => rfl
  | ok ep => obtain ⟨e, p⟩ := ep; rfl

theorem centAt_ent : ∀ (f : Nat) (off : Int) (cache : CCache) (r : R CEnt), CInv X eh cache →
    pureEnt X eh f off = r → r ≠ .error .outOfFuel →
    (centAt X eh f off cache).1.map (·.1) = r ∧ CInv X eh (centAt X eh f off cache).2 := by
  intro f
  induction f with
  | zero =>
    intro off cache r _ h hr
    rw [pureEnt] at h
    exact absurd h.symm hr
  | succ f ih =>
    intro off cache r hc hp hr
    rw [centAt]
    cases hg : cacheGet cache off with
    | some e =>
      obtain ⟨⟨f', hf'⟩, hs⟩ := hc off e hg
      have hre := pureEnt_det hf' hp hr
      subst hre
      simp only
      cases hsk : e.skip? with
      | none => exact absurd hsk hs
      | some s => exact ⟨rfl, hc⟩
    | none =>
      simp only
      rw [pureEnt] at hp
      cases hh : X.cfiHead eh off with
      | error e => simp only [hh] at hp ⊢; subst hp; exact ⟨rfl, hc⟩
      | ok hd =>
        cases hd with
        | zero p =>
          simp only [hh] at hp ⊢
          subst hp
          exact ⟨rfl, hc⟩
        | cie raw =>
          simp only [hh] at hp ⊢
          subst hp
          exact ⟨rfl, cinv_cons hc (f := f + 1) (by rw [pureEnt]; simp only [hh]) (by simp [CEnt.skip?])⟩
        | fde ptr =>
          simp only [hh] at hp ⊢
          have hne1 : pureEnt X eh f ptr ≠ .error .outOfFuel := by
            intro h1
            rw [h1] at hp
            exact hr hp.symm
          -- every `_parse_cie_for_fde` fetch is the induction hypothesis at `ptr`: it answers the reference CIE and keeps
          -- `CInv`, whatever the earlier fetches have cached
          have fetch : ∀ c0, CInv X eh c0 →
              ∃ c1, fetchCie (centAt X eh f) ptr c0 = (pureEnt X eh f ptr, c1) ∧ CInv X eh c1 := by
            intro c0 h0
            obtain ⟨a1, a2⟩ := ih ptr c0 _ h0 rfl hne1
            exact ⟨_, fetchCie_spec a1, a2⟩
          cases h1 : pureEnt X eh f ptr with
          | error e1 =>
            rw [h1] at hp fetch
            simp only at hp
            subst hp
            obtain ⟨c1, hf1, hc1⟩ := fetch cache hc
            cases eh with
            | true => simp only [fetchTag, hf1, if_true]; exact ⟨rfl, hc1⟩
            | false => simp only [fetchTag, Bool.false_eq_true, if_false, hf1]; exact ⟨rfl, hc1⟩
          | ok c =>
            rw [h1] at hp fetch
            simp only at hp
            obtain ⟨c1, ht1, hc1⟩ : ∃ c1, fetchTag (centAt X eh f) eh ptr cache = (.ok (if eh then c.tag else 0), c1) ∧
                CInv X eh c1 := by
              cases eh with
              | true =>
                obtain ⟨c1, hf1, hc1⟩ := fetch cache hc
                exact ⟨c1, by simp only [fetchTag, hf1, if_true], hc1⟩
              | false => exact ⟨cache, by simp only [fetchTag, Bool.false_eq_true, if_false], hc⟩
            obtain ⟨c2, hf2, hc2⟩ := fetch c1 hc1
            simp only [ht1, hf2]
            cases hb : X.cfiFde eh off (if eh then c.tag else 0) c.tag with
            | error e2 => simp only [hb] at hp ⊢; subst hp; exact ⟨rfl, hc2⟩
            | ok raw =>
              simp only [hb] at hp ⊢
              obtain ⟨c3, hf3, hc3⟩ := fetch c2 hc2
              simp only [hf3]
              subst hp
              exact ⟨rfl, cinv_cons hc3 (f := f + 1) (by rw [pureEnt]; simp only [hh, h1, hb]) (by simp [CEnt.skip?])⟩

/-- No hypothesis on the cache: the proof follows `centAt` to each of its four successful exits (hit; ZERO, CIE, FDE
    freshly parsed) and reads the position off `CfiWF` or off the skip of a hit -/
theorem centAt_pos (wf : CfiWF X eh) (f : Nat) (off : Int) (cache : CCache) {e : CEnt} {p : Nat}
    (h : (centAt X eh f off cache).1 = .ok (e, p)) : p = off.toNat + e.len := by
  cases f with
  | zero => rw [centAt] at h; cases h
  | succ f =>
    rw [centAt] at h
    split at h
    · split at h
      · cases h
      · rename_i e' _ s hsk
        injection h with h; injection h with h1 h2
        subst h1
        rw [← h2, len_of_skip hsk]
    · split at h
      · cases h
      · rename_i p' hh
        injection h with h; injection h with h1 h2
        subst h1
        rw [← h2, wf.zero off p' hh]; rfl
      · rename_i raw hh
        injection h with h; injection h with h1 h2
        subst h1
        rw [← h2, wf.cie off raw hh]; rfl
      · split at h
        · cases h
        · split at h
          · cases h
          · split at h
            · cases h
            · rename_i raw hb
              split at h
              · cases h
              · injection h with h; injection h with h1 h2
                subst h1
                rw [← h2, wf.fde off _ _ raw hb]; rfl

theorem centAt_spec (wf : CfiWF X eh) (f : Nat) (off : Int) (cache : CCache) (r : R CEnt) (hc : CInv X eh cache)
    (hp : pureEnt X eh f off = r) (hr : r ≠ .error .outOfFuel) :
    (centAt X eh f off cache).1 = r.map (fun e => (e, off.toNat + e.len)) ∧ CInv X eh (centAt X eh f off cache).2 := by
  obtain ⟨h1, h2⟩ := centAt_ent f off cache r hc hp hr
  refine ⟨?_, h2⟩
  have hpos := fun e p => centAt_pos wf f off cache (e := e) (p := p)
  generalize (centAt X eh f off cache).1 = x at h1 hpos
  cases x with
  | error e => simp only [Except.map] at h1; subst h1; rfl
  | ok ep =>
    obtain ⟨e, p⟩ := ep
    simp only [Except.map] at h1
    subst h1
    rw [hpos e p rfl]; rfl

theorem centLoop_spec (wf : CfiWF X eh) (depth : Nat) : ∀ (f offset : Nat) (cache : CCache) (r : R (List CEnt)),
    CInv X eh cache → pureList X eh depth f offset = r → r ≠ .error .outOfFuel →
    (centLoop X eh depth f offset cache).1 = r ∧ CInv X eh (centLoop X eh depth f offset cache).2 := by
  -- one round: `centAt_spec` at `offset`, then the loop from behind the entry (`e.len`); the reference list unfolds
  -- in step
  intro f
  induction f with
  | zero =>
    intro offset cache r _ h hr
    rw [pureList] at h
    exact absurd h.symm hr
  | succ f ih =>
    intro offset cache r hc hp hr
    rw [centLoop]
    rw [pureList] at hp
    by_cases hlt : offset < X.cfiSize eh
    · simp only [hlt, if_true] at hp ⊢
      have hne1 : pureEnt X eh depth (offset : Int) ≠ .error .outOfFuel := by
        intro h1
        rw [h1] at hp
        exact hr hp.symm
      obtain ⟨a1, a2⟩ := centAt_spec wf depth (offset : Int) cache _ hc rfl hne1
      generalize centAt X eh depth (offset : Int) cache = x at a1 a2
      obtain ⟨ra, ca⟩ := x
      simp only at a1 a2
      subst a1
      cases h1 : pureEnt X eh depth (offset : Int) with
      | error e1 => rw [h1] at hp; simp only at hp; subst hp; exact ⟨rfl, a2⟩
      | ok e =>
        rw [h1] at hp
        simp only [Except.map, Int.toNat_natCast] at hp ⊢
        have hne2 : pureList X eh depth f (offset + e.len) ≠ .error .outOfFuel := by
          intro h2
          rw [h2] at hp
          exact hr hp.symm
        obtain ⟨b1, b2⟩ := ih (offset + e.len) ca _ a2 rfl hne2
        generalize centLoop X eh depth f (offset + e.len) ca = y at b1 b2
        obtain ⟨rb, cb⟩ := y
        simp only at b1 b2
        subst b1
        cases h2 : pureList X eh depth f (offset + e.len) with
        | error e2 => rw [h2] at hp; simp only at hp; subst hp; exact ⟨rfl, b2⟩
        | ok rest => rw [h2] at hp; simp only at hp; subst hp; exact ⟨rfl, b2⟩
    · simp only [hlt, if_false] at hp ⊢
      subst hp
      exact ⟨rfl, hc⟩

/-- a `CallFrameInfo` object: its cache holds reference entries, a memorised list is the reference list -/
structure CObjInv (X : XFile) (eh : Bool) (o : CfiObj) : Prop where
  cache : CInv X eh o.cache
  entries : ∀ l, o.entries = some l → pureAll X eh = .ok l

theorem cobj_new (X : XFile) (eh : Bool) : CObjInv X eh CfiObj.new :=
  { cache := cinv_nil X eh, entries := fun l h => by simp [CfiObj.new] at h }

theorem cfiGetEntries_spec (wf : CfiWF X eh) (hfuel : pureAll X eh ≠ .error .outOfFuel) {o : CfiObj} (ho : CObjInv X eh o) :
    (cfiGetEntries X eh o).1 = pureAll X eh ∧ CObjInv X eh (cfiGetEntries X eh o).2 := by
  unfold cfiGetEntries
  cases he : o.entries with
  | some l => simp only; exact ⟨(ho.entries l he).symm, ho⟩
  | none =>
    simp only
    obtain ⟨a1, a2⟩ := centLoop_spec wf (X.cfiSize eh + 2) (X.cfiSize eh + 2) 0 o.cache _ ho.cache rfl hfuel
    generalize centLoop X eh (X.cfiSize eh + 2) (X.cfiSize eh + 2) 0 o.cache = x at a1 a2
    obtain ⟨r, c⟩ := x
    simp only at a1 a2
    cases r with
    | error e => exact ⟨a1, { cache := a2, entries := fun l h => by simp at h }⟩
    | ok l => exact ⟨a1, { cache := a2, entries := fun l' h => by injection h with h; subst h; exact a1.symm }⟩

end
end PyElf.Proofs.C10
