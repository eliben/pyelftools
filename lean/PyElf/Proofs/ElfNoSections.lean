/-
  `get_section(0)` on a file WITHOUT a section header table: `e_shoff` is 0, so `_get_section_header(0)` reads its
  "section header" from offset 0, the bytes of the file header.  `ehdr_as_shdr`: that parse succeeds, and the header
  it yields is not flagged compressed (its `sh_flags` are `EI_ABIVERSION` and padding), so `Section.__init__` reads
  nothing more.  It stands by itself: no other theorem cites it.
-/
import PyElf.Proofs.ElfHeaders
import PyElf.Proofs.BitFields
namespace PyElf.Proofs
open PyElf PyElf.Spec PyElf.Model PyElf.Proofs.Engine

theorem parse_uint_len {env : Env} {data : Bytes} {pos n : Nat} {le : Bool} {ctx : Fields}
    (h : pos + n ≤ data.length) :
    Con.parse env data (.uint n le) ctx pos = .ok (.int (decNat le (readN data pos n)), pos + n, ctx) :=
  parse_uint_ok (bs := readN data pos n) (List.take_append_drop n (data.drop pos)).symm (by rw [readN_length]; omega)

theorem parse_shdr_any (env : Env) (c : ElfCfg) (data : Bytes) (hlen : 16 + 6 * (c.cls / 8) ≤ data.length) :
    ∃ v p, structParse env (elfStructs c).Elf_Shdr data 0 = .ok (v, p) ∧
      v.getNat "sh_flags" = .ok (decNat c.le (readN data 8 (c.cls / 8))) := by
  rw [shdr_eq]
  unfold structParse shdrFields
  simp only [mkFields, f, enumOf]
  generalize c.cls / 8 = w at hlen ⊢
  rw [Con.parse, parseFields_named (parse_uint_len (by omega))]
  rw [parseFields_named (parse_enum_pass (parse_uint_len (by omega)))]
  rw [parseFields_named (parse_uint_len (by omega))]
  rw [parseFields_named (parse_uint_len (by omega))]
  rw [parseFields_named (parse_uint_len (by omega))]
  rw [parseFields_named (parse_uint_len (by omega))]
  rw [parseFields_named (parse_uint_len (by omega))]
  rw [parseFields_named (parse_uint_len (by omega))]
  rw [parseFields_named (parse_uint_len (by omega))]
  rw [parseFields_named (parse_uint_len (by omega))]
  rw [parseFields_nil]
  refine ⟨_, _, rfl, ?_⟩
  -- the seven fields parsed after `sh_flags` leave it alone
  refine Val.getNat_record_int ?_
  simp only [Fields.get?_set, String.reduceEq, ↓reduceIte]

theorem flags_of_ehdr_bytes (le : Bool) (b : UInt8) (w : Nat) (hw : w = 4 ∨ w = 8) :
    decNat le ((b :: List.replicate 7 0).take w) &&& 0x800 = 0 := by
  have hb := b.toNat_lt
  rw [show (0x800 : Nat) = (2 ^ 1 - 1) <<< 11 from rfl, BitFields.and_shl_mask]
  rcases hw with rfl | rfl <;> cases le
  · have : decNat false ((b :: List.replicate 7 0).take 4) = b.toNat * 2 ^ 12 * 2 * 2 ^ 11 := by
      simp [decNat, beNat, leNat, List.replicate]; omega
    rw [this, Nat.mul_div_cancel _ (by decide), Nat.mul_mod_left]
  · have : decNat true ((b :: List.replicate 7 0).take 4) = b.toNat := by
      simp [decNat, leNat, List.replicate]
    rw [this, Nat.div_eq_of_lt (by omega)]
  · have : decNat false ((b :: List.replicate 7 0).take 8) = b.toNat * 2 ^ 44 * 2 * 2 ^ 11 := by
      simp [decNat, beNat, leNat, List.replicate]; omega
    rw [this, Nat.mul_div_cancel _ (by decide), Nat.mul_mod_left]
  · have : decNat true ((b :: List.replicate 7 0).take 8) = b.toNat := by
      simp [decNat, leNat, List.replicate]
    rw [this, Nat.div_eq_of_lt (by omega)]

theorem ehdr_as_shdr {env : Env} {d : ElfDesc} {bytes eh : Bytes} (hcls : d.cls = 32 ∨ d.cls = 64)
    (he : d.S.Elf_Ehdr.encodeRaw d.ehdrRaw = some eh) (hr : readN bytes 0 eh.length = eh) :
    ∃ v p, structParseAt env d.S.Elf_Shdr bytes 0 = .ok (v, p) ∧ sectionInit env d.S bytes v = .ok () := by
  obtain ⟨hlen, x, b, t, hx, rfl⟩ : eh.length = 40 + 3 * (d.cls / 8) ∧
      ∃ (x : Bytes) (b : UInt8) (t : Bytes), x.length = 8 ∧ eh = x ++ b :: List.replicate 7 0 ++ t := by
    obtain ⟨hl, v, o, b, t, rfl⟩ := ehdr_bytes he
    exact ⟨hl, [_, _, _, _, _, _, v, o], b, t, rfl, rfl⟩
  have hb := drop_of_readN hr
  simp only [List.drop_zero, Nat.zero_add] at hb
  have hbl : 40 + 3 * (d.cls / 8) ≤ bytes.length := by
    have := congrArg List.length hb
    rw [List.length_append, hlen] at this
    omega
  have hw : d.cls / 8 = 4 ∨ d.cls / 8 = 8 := by rcases hcls with h | h <;> simp [h]
  obtain ⟨v, p, hp, hfl⟩ := parse_shdr_any env d.cfg bytes (by
    show 16 + 6 * (d.cls / 8) ≤ bytes.length
    rcases hw with h | h <;> omega)
  have hread : readN bytes 8 (d.cls / 8) = (b :: List.replicate 7 0).take (d.cls / 8) := by
    unfold readN
    rw [hb]
    have : x ++ b :: List.replicate 7 0 ++ t ++ List.drop (x ++ b :: List.replicate 7 0 ++ t).length bytes
        = x ++ ((b :: List.replicate 7 0) ++ (t ++ List.drop (x ++ b :: List.replicate 7 0 ++ t).length bytes)) := by
      simp
    rw [this, List.drop_left' hx, List.take_append_of_le_length]
    rcases hw with h | h <;> simp [h]
  refine ⟨v, p, ?_, ?_⟩
  · rw [structParseAt_eq (by omega)]
    exact hp
  · unfold sectionInit
    have : d.cfg.le = d.le := rfl
    have hc : d.cfg.cls = d.cls := rfl
    rw [hfl, hc, this, hread]
    have hz := flags_of_ehdr_bytes d.le b _ hw
    simp only [bind, Except.bind, hz]
    rfl

end PyElf.Proofs
