/-
  `DWARFInfo.get_DIE_from_refaddr` through the unit cache (bisect, C13's model) resolves
  exactly as the linear scan over the units of the section (C04's driver model `Driver.C04.sectionRef`),
  on every unit chain and from every reachable cache state.  Imports Driver/C04 because the scan it compares with
  is the function the correspondence check runs, defined there and nowhere in the Model.
-/
import PyElf.Model.DwarfLookupDie
import PyElf.Proofs.DwarfLookup
import PyElf.Proofs.DieSection
import PyElf.Driver.C04
namespace PyElf.Proofs.Lookup
open PyElf PyElf.Spec.Lookup PyElf.Model.Lookup PyElf.Proofs
open PyElf.Model.C04 (DInfo UnitCtx unitCtx unitDIEFromRefaddr getTopDIE sectionUnits unitsLoop)
open PyElf.Spec.C04 (DieObs)

/-- what either model answers once the unit `c` is found -/
def refAnswer (f : CU → R UnitCtx) (c : CU) (x : Nat) : R (Nat × DieObs) := do
  let U ← f c
  let d ← unitDIEFromRefaddr U x
  return (c.cuOffset, d)

theorem sectionRef_go_unique (units : List (CU × R UnitCtx) × Option Err) (x : Nat) (f : CU → R UnitCtx) (c : CU) (sz : Nat)
    (hsz : c.size = .ok sz) (h1 : c.cuOffset ≤ x) (h2 : x < c.cuOffset + sz) :
    ∀ (l : List CU), c ∈ l →
      (∀ c' ∈ l, ∃ sz', c'.size = .ok sz' ∧ (c'.cuOffset ≤ x → x < c'.cuOffset + sz' → c' = c)) →
      Driver.C04.sectionRef.go units x (l.map fun cu => (cu, f cu)) = refAnswer f c x := by
  intro l
  induction l with
  | nil => intro hc; cases hc
  | cons c' l ih =>
    intro hc hall
    obtain ⟨sz', hsz', huniq⟩ := hall c' List.mem_cons_self
    simp only [List.map_cons, Driver.C04.sectionRef.go, hsz', bind, Except.bind]
    by_cases hin : c'.cuOffset ≤ x ∧ x < c'.cuOffset + sz'
    · have := huniq hin.1 hin.2
      subst this
      simp only [hin, and_self, if_true, refAnswer, bind, Except.bind, pure, Except.pure]
    · simp only [hin, if_false]
      have hne : c ≠ c' := by
        intro e
        subst e
        rw [hsz] at hsz'; injection hsz' with hsz'; subst hsz'
        exact hin ⟨h1, h2⟩
      have hc' : c ∈ l := by
        rcases List.mem_cons.mp hc with h | h
        · exact absurd h hne
        · exact h
      exact ih hc' (fun y hy => hall y (List.mem_cons_of_mem _ hy))

theorem getDIEFromRefaddr_eq_sectionRef (w : DInfo) (S0 : DwarfStructs) (data : Bytes) (hinfo : w.info = some data)
    (cs : List CU) (hch : Chain (infoParser w S0 data) data.length 0 cs) (st : CUCache)
    (hinv : Inv (infoParser w S0 data) cs st) (x : Int) :
    ∃ r st', getDIEFromRefaddr w S0 st x = (r, st') ∧ Inv (infoParser w S0 data) cs st' ∧
      r.map (fun p => (p.1.cuOffset, p.2)) = Driver.C04.sectionRef (sectionUnits w S0 (some data) false) data.length x := by
  have hPo : ∀ o c, infoParser w S0 data o = .ok c → c.cuOffset = o := parseCU_offset
  unfold getDIEFromRefaddr Driver.C04.sectionRef
  simp only [hinfo]
  -- outside the section both raise `DWARFError`; inside, the cache walk finds a unit containing `x` (`Found`) and the scan
  -- stops at the same one, the extents of a chain being disjoint (`chain_unique`)
  by_cases hneg : x < 0
  · refine ⟨.error .dwarfError, st, by simp [hneg], hinv, ?_⟩
    have : ¬ (0 ≤ x ∧ x < (data.length : Int)) := by omega
    simp only [this, not_false_eq_true, if_true]
    rfl
  · simp only [hneg, if_false]
    by_cases hlt : x.toNat < data.length
    · obtain ⟨c, sz, st', hr, hf⟩ := getCUContaining_spec hPo hch hinv hlt
      have hin : 0 ≤ x ∧ x < (data.length : Int) := by omega
      simp only [hr, hin, and_self, not_true_eq_false, if_false]
      rw [C04.sectionUnits_chain w S0 data false cs hch]
      simp only
      rw [sectionRef_go_unique _ x.toNat (unitCtx w S0 data) c sz hf.size hf.lo hf.hi cs hf.mem (fun c' hc' => by
        obtain ⟨_, _, sz', hsz', _, _⟩ := chain_mem hPo cs 0 hch c' hc'
        exact ⟨sz', hsz', fun h3 h4 =>
          chain_unique hPo cs 0 hch c' hc' c hf.mem sz' sz x.toNat hsz' hf.size h3 h4 hf.lo hf.hi⟩)]
      unfold cuDIEFromRefaddr refAnswer
      simp only [bind, Except.bind, pure, Except.pure]
      cases hU : unitCtx w S0 data c with
      | error e => exact ⟨_, _, rfl, hf.inv, rfl⟩
      | ok U =>
        simp only
        cases hd : unitDIEFromRefaddr U x.toNat with
        | error e => exact ⟨_, _, rfl, hf.inv, rfl⟩
        | ok d => exact ⟨_, _, rfl, hf.inv, rfl⟩
    · have : ¬ (0 ≤ x ∧ x < (data.length : Int)) := by omega
      refine ⟨.error .dwarfError, st, ?_, hinv, ?_⟩
      · simp only [getCUContaining, hlt, not_false_eq_true, if_true]
      · simp only [this, not_false_eq_true, if_true]
        rfl

theorem getDIEFromRefaddr_of_containing {w : DInfo} {S0 : DwarfStructs} {data : Bytes} (hinfo : w.info = some data)
    {st st' : CUCache} {c : CU} {x : Nat} (hr : getCUContaining (infoParser w S0 data) data.length st x = (.ok c, st'))
    {U : UnitCtx} (hU : unitCtx w S0 data c = .ok U) {d : DieObs} (hd : unitDIEFromRefaddr U x = .ok d) :
    getDIEFromRefaddr w S0 st (x : Int) = (.ok (c, d), st') := by
  unfold getDIEFromRefaddr
  have hneg : ¬ ((x : Int) < 0) := by omega
  simp only [hinfo, hneg, if_false, Int.toNat_natCast, hr, cuDIEFromRefaddr, hU, bind, Except.bind, hd]

end PyElf.Proofs.Lookup
