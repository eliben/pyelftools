/-
  The unit look-ups of C13 on the `.debug_info` of a forest description (`Spec.C04.Forest`), composed with C04's section
  theorems: DW_FORM_ref_addr through the unit cache, a name-table entry down to the entry it names, an address down to the
  top entry of its unit.  Stated, like Proofs/DieSection, over a registry and struct bundles (`RegistryOK`, `BundlesOK`).
-/
import PyElf.Proofs.DieSection
import PyElf.Proofs.DwarfRefResolve
import PyElf.Proofs.DwarfResolve
import PyElf.Proofs.DwarfNameOrder
import PyElf.Proofs.DwarfTables
import PyElf.Proofs.DwarfUnits
namespace PyElf.Proofs.Lookup
open PyElf PyElf.Spec PyElf.Spec.Lookup PyElf.Model.Lookup PyElf.Proofs
open PyElf.Spec.C04 (Forest UnitDesc DieObs placeInfo infoSec infoUnitOf infoDieOff flattenUnit basesOf)
open PyElf.Model.C04 (DInfo UnitCtx unitCtx unitDIEFromRefaddr getTopDIE getCachedDIE sectionUnits)
open PyElf.Proofs.C04 (RegistryOK Bundles BundlesOK WfForest namesOf rho dinfoOf ctxOf)

abbrev forestCUs (F : Forest) : List CU := cusOf F.le 0 (F.units.map (infoUnitOf F))

/-- the entries of the unit `p` of a forest, as the section theorems list them -/
abbrev forestEntriesOf (ed : String → Int → Option String) (F : Forest) (p : Nat × UnitDesc) : List DieObs :=
  flattenUnit (namesOf ed) (p.2.cfg F.le) (rho (p.2.cfg F.le) F.secs (basesOf p.2.tree.root))
    (rho (p.2.cfg F.le) F.secs (basesOf p.2.tree.root)) (infoDieOff F p.1 p.2) p.2.tree

section forest
variable {ed : String → Int → Option String} {r2n : Nat → Option String} (hR : RegistryOK ed r2n) (F : Forest) {dasz : Nat}
  {B : Bundles} (hB : BundlesOK B F.le dasz) (hwf : WfForest (namesOf ed) F)
include hR hB hwf

omit hR hwf in
/-- the forest's own `_parse_CU_at_offset` on its `.debug_info` is the parser of the header theorems -/
theorem forest_parser_eq :
    infoParser (dinfoOf F dasz ed r2n B.structsOf) B.S0 (infoSec F) = specP ed F.le dasz (infoSec F) :=
  C04.parseCU_bundles hB (infoSec F)

theorem forest_chain :
    Chain (infoParser (dinfoOf F dasz ed r2n B.structsOf) B.S0 (infoSec F)) (infoSec F).length 0 (forestCUs F) :=
  forest_parser_eq F hB ▸ C04.forest_info_chain hR.ut F hwf.infoHdr

theorem forest_unitCtx (p : Nat × UnitDesc) (hp : p ∈ placeInfo F 0 F.units) :
    unitCtx (dinfoOf F dasz ed r2n B.structsOf) B.S0 (infoSec F) (cuOf F.le p.1 (infoUnitOf F p.2))
      = .ok (ctxOf F ed r2n B (infoSec F) p.2 p.1 (infoDieOff F p.1 p.2) (unitSize F.le (infoUnitOf F p.2))) :=
  C04.unitCtx_kind (C04.infoKind_ok F hR.ut) dasz r2n B
    (hB.get (C04.wfUnit_cfg_mem (hwf.infoHdr p.2 (C04.mem_placeInfo F _ _ p hp)))).1 (infoSec F) p.1

theorem forest_getDIEFromRefaddr (p : Nat × UnitDesc) (hp : p ∈ placeInfo F 0 F.units) (d : DieObs)
    (hd : d ∈ forestEntriesOf ed F p)
    (st : CUCache) (hinv : Inv (infoParser (dinfoOf F dasz ed r2n B.structsOf) B.S0 (infoSec F)) (forestCUs F) st) :
    (∃ st', getDIEFromRefaddr (dinfoOf F dasz ed r2n B.structsOf) B.S0 st (d.offset : Int)
          = (.ok (cuOf F.le p.1 (infoUnitOf F p.2), d), st')
        ∧ Inv (infoParser (dinfoOf F dasz ed r2n B.structsOf) B.S0 (infoSec F)) (forestCUs F) st')
      ∧ Driver.C04.sectionRef (sectionUnits (dinfoOf F dasz ed r2n B.structsOf) B.S0 (some (infoSec F)) false)
          (infoSec F).length (d.offset : Int) = .ok (p.1, d) := by
  have hch := forest_chain hR F hB hwf
  obtain ⟨hdie, hcont⟩ := C04.forest_refs_info hR F dasz hB hwf p hp d hd
  obtain ⟨st1, hr, hinv1⟩ := hcont st (forest_parser_eq F hB ▸ hinv)
  rw [← forest_parser_eq F hB] at hr hinv1
  have hr1 := getDIEFromRefaddr_of_containing rfl hr (forest_unitCtx hR F hB hwf p hp) hdie
  refine ⟨⟨st1, hr1, hinv1⟩, ?_⟩
  obtain ⟨r, st2, hr2, _, hmap⟩ := getDIEFromRefaddr_eq_sectionRef (dinfoOf F dasz ed r2n B.structsOf) B.S0 (infoSec F)
    rfl (forestCUs F) hch st hinv (d.offset : Int)
  rw [hr1] at hr2
  injection hr2 with hr hst
  rw [← hmap, ← hr]
  rfl

theorem forest_lutEntryDie (p : Nat × UnitDesc) (hp : p ∈ placeInfo F 0 F.units) (d : DieObs)
    (hd : d ∈ forestEntriesOf ed F p)
    (st : CUCache) (hinv : Inv (infoParser (dinfoOf F dasz ed r2n B.structsOf) B.S0 (infoSec F)) (forestCUs F) st) :
    ∃ st', getDIEFromLutEntryDie (dinfoOf F dasz ed r2n B.structsOf) B.S0 st p.1 d.offset
        = (.ok (cuOf F.le p.1 (infoUnitOf F p.2), d), st')
      ∧ Inv (infoParser (dinfoOf F dasz ed r2n B.structsOf) B.S0 (infoSec F)) (forestCUs F) st' := by
  have hch := forest_chain hR F hB hwf
  obtain ⟨st', hr, hinv', _⟩ := getCUAt_exact parseCU_offset hch hinv (C04.mem_cusOf_placeInfo F hp)
  refine ⟨st', ?_, hinv'⟩
  have hr' : getCUAt (infoParser (dinfoOf F dasz ed r2n B.structsOf) B.S0 (infoSec F)) (infoSec F).length st p.1
      = (.ok (cuOf F.le p.1 (infoUnitOf F p.2)), st') := hr
  have hinfo : (dinfoOf F dasz ed r2n B.structsOf).info = some (infoSec F) := rfl
  unfold getDIEFromLutEntryDie
  simp only [hinfo, hr', cuDIEFromRefaddr, forest_unitCtx hR F hB hwf p hp, bind, Except.bind,
    (C04.forest_refs_info hR F dasz hB hwf p hp d hd).1]

theorem forest_dieByName (env : Env) (dver : Nat) (sets : List NameSet) (hwfN : ∀ s ∈ sets, wfNameSet F.le s = true)
    (name : Bytes) (p : Nat × UnitDesc) (hp : p ∈ placeInfo F 0 F.units) (d : DieObs)
    (hd : d ∈ forestEntriesOf ed F p)
    (hitem : (name, p.1, d.offset) ∈ orderedLastWins (namePairs sets))
    (st : CUCache) (hinv : Inv (infoParser (dinfoOf F dasz ed r2n B.structsOf) B.S0 (infoSec F)) (forestCUs F) st) :
    ∃ st', dieByName env (Spec.dwarfStructs ⟨F.le, 32, dasz, dver⟩) (some (encNameSets F.le sets))
          (dinfoOf F dasz ed r2n B.structsOf) B.S0 st name = (.ok (some (cuOf F.le p.1 (infoUnitOf F p.2), d)), st')
      ∧ Inv (infoParser (dinfoOf F dasz ed r2n B.structsOf) B.S0 (infoSec F)) (forestCUs F) st' := by
  obtain ⟨st', hr, hinv'⟩ := forest_lutEntryDie hR F hB hwf p hp d hd st hinv
  refine ⟨st', ?_, hinv'⟩
  -- `dictGet?` (the model's `dict.__getitem__`) is the Spec's `assocGet?` by definition
  have hget : dictGet? (orderedLastWins (namePairs sets)) name = some (p.1, d.offset) :=
    (mem_iff_assocGet _ (orderedLastWins_spec (namePairs sets)).nodup name (p.1, d.offset)).1 hitem
  unfold dieByName
  simp only [getNameLUT, nameGetEntries_encoded env F.le dasz dver sets hwfN, mappingOf_eq_orderedLastWins, bind, Except.bind, pure, Except.pure, hget, hr]

theorem forest_topDIE (p : Nat × UnitDesc) (hp : p ∈ placeInfo F 0 F.units) :
    ∃ top rest, forestEntriesOf ed F p = top :: rest
      ∧ top.offset = infoDieOff F p.1 p.2
      ∧ cuTopDIE (dinfoOf F dasz ed r2n B.structsOf) B.S0 (infoSec F) (cuOf F.le p.1 (infoUnitOf F p.2)) = .ok top := by
  obtain ⟨rest, hflat⟩ := C04.flattenUnit_root (namesOf ed) (p.2.cfg F.le) (rho (p.2.cfg F.le) F.secs (basesOf p.2.tree.root))
    (rho (p.2.cfg F.le) F.secs (basesOf p.2.tree.root)) (infoDieOff F p.1 p.2) p.2.tree
  have htop : getTopDIE (ctxOf F ed r2n B (infoSec F) p.2 p.1 (infoDieOff F p.1 p.2) (unitSize F.le (infoUnitOf F p.2)))
      = .ok (Spec.C04.entryObs (namesOf ed) (p.2.cfg F.le) (rho (p.2.cfg F.le) F.secs (basesOf p.2.tree.root))
          (infoDieOff F p.1 p.2) p.2.tree.root) := C04.kind_unit_top (C04.infoKind_ok F hR.ut) hB hR hwf hwf.info p (C04.placeInfo_eq F _ _ ▸ hp)
  refine ⟨_, rest, hflat, rfl, ?_⟩
  unfold cuTopDIE
  simp only [forest_unitCtx hR F hB hwf p hp, bind, Except.bind, htop]

theorem forest_topDIEForAddr (env : Env) (dver : Nat) (sets : List ARSet) (hwfS : wfSets F.le 0 sets = true)
    (hns : (entriesOf F.le 0 sets).Pairwise noShadow)
    (hstarts : ∀ e ∈ entriesOf F.le 0 sets, ∃ p ∈ placeInfo F 0 F.units, p.1 = e.infoOff)
    (st : CUCache) (hinv : Inv (infoParser (dinfoOf F dasz ed r2n B.structsOf) B.S0 (infoSec F)) (forestCUs F) st)
    (byC : Bool) (a : Nat) :
    ∃ t, getAranges env (Spec.dwarfStructs ⟨F.le, 32, dasz, dver⟩) (some (encSets F.le 0 sets)) = .ok (some t) ∧
      match cuOffsetAt (entriesOf F.le 0 sets) a with
      | none => topDIEForAddr byC (some t) (dinfoOf F dasz ed r2n B.structsOf) B.S0 st a = (.ok none, st)
      | some o => ∃ p ∈ placeInfo F 0 F.units, p.1 = o ∧ ∃ top rest st',
          forestEntriesOf ed F p = top :: rest ∧
          top.offset = infoDieOff F p.1 p.2 ∧
          topDIEForAddr byC (some t) (dinfoOf F dasz ed r2n B.structsOf) B.S0 st a
            = (.ok (some (cuOf F.le p.1 (infoUnitOf F p.2), top)), st') ∧
          Inv (infoParser (dinfoOf F dasz ed r2n B.structsOf) B.S0 (infoSec F)) (forestCUs F) st' := by
  refine ⟨_, getAranges_encoded env F.le dasz dver sets hwfS, ?_⟩
  have h := unitForAddr_spec (P := infoParser (dinfoOf F dasz ed r2n B.structsOf) B.S0) (data := infoSec F)
    parseCU_offset (forest_chain hR F hB hwf) hinv hns byC a
  have hinfo : (dinfoOf F dasz ed r2n B.structsOf).info = some (infoSec F) := rfl
  cases hr : cuOffsetAt (entriesOf F.le 0 sets) a with
  | none =>
    rw [hr] at h
    simp only at h ⊢
    unfold topDIEForAddr
    simp only [hinfo, h]
  | some o =>
    rw [hr] at h
    obtain ⟨e, he, _, heo⟩ := (cuOffsetAt_some_iff hns a o).1 hr
    obtain ⟨p, hp, hpo⟩ := hstarts e he
    obtain ⟨st', hres, hinv'⟩ := h _ (C04.mem_cusOf_placeInfo F hp) (hpo.trans heo)
    obtain ⟨top, rest, hflat, htoff, htop⟩ := forest_topDIE hR F hB hwf p hp
    refine ⟨p, hp, hpo.trans heo, top, rest, st', hflat, htoff, ?_, hinv'⟩
    unfold topDIEForAddr
    simp only [hinfo, hres, htop]

end forest

end PyElf.Proofs.Lookup
