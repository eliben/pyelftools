/-
  C07: a concrete forest for the non-vacuity examples of the end-to-end theorems (Props/C07): one abbreviation
  table; a DWARF 4 unit whose entries refer to two objects of .debug_loc (one with view pairs, through
  DW_AT_GNU_locviews) and a DWARF 5 unit whose entries refer to the two lists of the first unit block of
  .debug_loclists — one BY INDEX (DW_FORM_loclistx through DW_AT_loclists_base and the offset table), one by offset
  with view pairs.  .debug_loclists is `ListsLocWalk.demoUs`, in `demoF.secs`; .debug_loc (`ListsLocWalk.demoObjs`) is
  not a section of the forest and is given to the enumeration beside it.
-/
import PyElf.Spec.DieSection
import PyElf.Proofs.ListsLocWalk
namespace PyElf.Proofs.ListsInfoDemo
open PyElf PyElf.Spec PyElf.Spec.C04 PyElf.Spec.Lists

def d1 : AbbrevDecl := { code := 1, tag := 0x11, children := true, specs := [{ name := 0x11, form := 0x01 }] }
def d2 : AbbrevDecl :=
  { code := 2, tag := 0x34, children := false,
    specs := [{ name := 0x2137, form := 0x17, nameLen := 2 }, { name := 0x02, form := 0x17 }] }
def d3 : AbbrevDecl :=
  { code := 3, tag := 0x34, children := false, specs := [{ name := 0x40, form := 0x17 }, { name := 0x2f, form := 0x0b }] }
def d4 : AbbrevDecl := { code := 4, tag := 0x11, children := true, specs := [{ name := 0x8c, form := 0x17, nameLen := 2 }] }
def d5 : AbbrevDecl := { code := 5, tag := 0x34, children := false, specs := [{ name := 0x02, form := 0x22 }] }

def tree4 : Tree :=
  .mk { decl := d1, attrs := [{ form := 0x01, op := .nat 0 }] }
    [.mk { decl := d2, attrs := [{ form := 0x17, op := .nat 2 }, { form := 0x17, op := .nat 5 }] } [] 1,
     .mk { decl := d3, attrs := [{ form := 0x17, op := .nat 33 }, { form := 0x0b, op := .nat 9 }] } [] 1] 1

def tree5 : Tree :=
  .mk { decl := d4, attrs := [{ form := 0x17, op := .nat 12 }] }
    [.mk { decl := d5, attrs := [{ form := 0x22, op := .uleb 1 0 }] } [] 1,
     .mk { decl := d2, attrs := [{ form := 0x17, op := .nat 28 }, { form := 0x17, op := .nat 30 }] } [] 1] 2

def demoF : Forest :=
  { le := true,
    tables := [{ gap := [0xEE], decls := [d1, d2, d3, d4, d5] }],
    units := [{ fmt64 := false, version := 4, asz := 4, table := 0, tree := tree4 },
              { fmt64 := false, version := 5, asz := 4, table := 0, tree := tree5 }],
    secs := { loclists := some (encLocUnits true 4 ListsLocWalk.demoUs) } }

end PyElf.Proofs.ListsInfoDemo
