/-
  An encodable value of a struct whose enums pass unknown codes through decodes (`Total`, `TotalF`): every `uint`,
  pass-through `enum` and bit-field construct is total, and a struct of total fields is.  The lemmas stand in the
  namespace `PyElf.Proofs.Dynamic`.
-/
import PyElf.Proofs.Fixed
namespace PyElf.Proofs.Dynamic
open PyElf PyElf.Proofs

def Total (env : Env) (c : Con) : Prop :=
  ∀ (ctx : Fields) (v : Val) (b : Bytes), c.encodeRaw v = some b → ∃ x, c.decodeRaw env ctx v = .ok x

def TotalF (env : Env) (fs : ConFields) : Prop :=
  ∀ (raw obj ctx : Fields) (b : Bytes), fs.encodeRaw raw = some b → ∃ r, fs.decodeRaw env raw obj ctx = .ok r

theorem total_uint (env : Env) (n : Nat) (le : Bool) : Total env (.uint n le) := by
  intro ctx v b _
  exact ⟨v, by cases v <;> simp [Con.decodeRaw]⟩

theorem total_enum_pass (env : Env) (n : Nat) (le : Bool) (tbl : String) :
    Total env (.enum (.uint n le) tbl true) := by
  intro ctx v b _
  cases v with
  | int x =>
    rw [Con.decodeRaw]
    cases env.enumDecode tbl x with
    | none => exact ⟨_, rfl⟩
    | some s => exact ⟨_, rfl⟩
  | str x => exact ⟨.str x, by simp [Con.decodeRaw]⟩
  | bytes x => exact ⟨.bytes x, by simp [Con.decodeRaw]⟩
  | bool x => exact ⟨.bool x, by simp [Con.decodeRaw]⟩
  | none => exact ⟨.none, by simp [Con.decodeRaw]⟩
  | list x => exact ⟨.list x, by simp [Con.decodeRaw]⟩
  | record x => exact ⟨.record x, by simp [Con.decodeRaw]⟩

def bitsPass (fs : List BitFld) : Bool :=
  fs.all fun f => match f.table with
    | some (_, p) => p
    | none => true

theorem decodeBits_total (env : Env) : ∀ (fs : List BitFld) (total : Nat) (raw acc : Fields) (n : Nat),
    bitsPass fs = true → packBits total fs raw = some n → ∃ out, decodeBits env fs raw acc = .ok out
  | [], _, _, acc, _, _, _ => ⟨acc, rfl⟩
  | f :: rest, total, raw, acc, n, hp, hk => by
    have ih := decodeBits_total env rest
    simp only [bitsPass, List.all_cons, Bool.and_eq_true] at hp
    rw [packBits] at hk
    rw [decodeBits]
    cases hn : f.name with
    | none =>
      simp only [hn] at hk ⊢
      exact ih _ raw acc n hp.2 hk
    | some nm =>
      simp only [hn] at hk ⊢
      cases hg : Fields.get? raw nm with
      | none => simp [hg] at hk
      | some v =>
        cases v with
        | int x =>
          simp only [hg] at hk ⊢
          split at hk
          · obtain ⟨r, hr, -⟩ := Option.map_eq_some_iff.1 hk
            cases ht : f.table with
            | none => exact ih _ raw _ r hp.2 hr
            | some tp =>
              obtain ⟨tbl, pass⟩ := tp
              have hpass : pass = true := by simpa [ht] using hp.1
              subst hpass
              simp only
              cases env.enumDecode tbl x with
              | none => simp only [if_true]; exact ih _ raw _ r hp.2 hr
              | some s => exact ih _ raw _ r hp.2 hr
          · cases hk
        | _ => simp [hg] at hk

theorem total_bits (env : Env) (fs : List BitFld) (hp : bitsPass fs = true) : Total env (.bits fs) := by
  intro ctx v b he
  cases v with
  | record raw =>
    rw [Con.encodeRaw] at he
    obtain ⟨n, hn, -⟩ := Option.map_eq_some_iff.1 he
    obtain ⟨out, hout⟩ := decodeBits_total env fs _ raw [] n hp hn
    exact ⟨.record out, by rw [Con.decodeRaw]; simp [hout, bind, Except.bind, pure, Except.pure]⟩
  | _ => simp [Con.encodeRaw] at he

theorem totalF_nil (env : Env) : TotalF env .nil := by
  intro raw obj ctx b _
  exact ⟨(obj, ctx), by rw [ConFields.decodeRaw]⟩

theorem totalF_cons (env : Env) (nm : String) (embed : Bool) (c : Con) (rest : ConFields)
    (hc : Total env c) (hr : TotalF env rest) : TotalF env (.cons (some nm) embed c rest) := by
  intro raw obj ctx b he
  rw [ConFields.encodeRaw] at he
  obtain ⟨a, b', ha, hb, -⟩ := bind2_eq_some he
  obtain ⟨x, hx⟩ := hc ctx _ a ha
  obtain ⟨r, hr'⟩ := hr raw (Fields.set obj nm x) (Fields.set ctx nm x) b' hb
  exact ⟨r, by rw [ConFields.decodeRaw]; simp only [hx, bind, Except.bind]; exact hr'⟩

theorem total_struct (env : Env) (fs : ConFields) (h : TotalF env fs) : Total env (.struct fs) := by
  intro ctx v b he
  cases v with
  | record raw =>
    rw [Con.encodeRaw] at he
    obtain ⟨r, hr⟩ := h raw [] [] b he
    exact ⟨.record r.1, by rw [Con.decodeRaw]; simp [hr, bind, Except.bind, pure, Except.pure]⟩
  | _ => simp [Con.encodeRaw] at he

end PyElf.Proofs.Dynamic
