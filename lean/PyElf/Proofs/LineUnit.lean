/-
  `_parse_line_program_at_offset` on a unit `encodeUnitX h ext body` — any
  version 2–5, extension bytes between the tables and the program, parameters that need only fit
  their fields — builds the `LineProgram` object the property prescribes (`lpOfX`): the program
  starts `header_length` bytes past the `header_length` field.  After the header parse (`parseFreshX_header`) the
  four tables of the decoded record `hdrWith` are rewritten in place: nothing happens below version 5, string
  resolution and the legacy views from version 5 on.  Last, a unit cut short inside `unit_length` raises
  ELFParseError (`parseFresh_truncated`).  Continues the namespace `PyElf.Proofs.Line` (Proofs/LineFit.lean).
-/
import PyElf.Proofs.LineHeader
import PyElf.Proofs.LineObject
namespace PyElf.Proofs.Line
open PyElf PyElf.Spec PyElf.Spec.Line PyElf.Model.Line PyElf.Proofs

section
variable {cfg : DwarfCfg} {h : Header} (hfmt : cfg.fmt = if h.fmt64 then 64 else 32)
include hfmt

theorem encodeUnitX_length_fmt (ext body : Bytes) :
    (encodeUnitX h ext body).length
      = (h.midX ext ++ h.tail ++ ext ++ body).length + (if cfg.fmt = 32 then 4 else 12) := by
  rw [hfmt]
  cases hf : h.fmt64 <;> simp [encodeUnitX, encInitLen_length, initLenSize, hf] <;> omega

theorem headerSizeX_fmt (ext : Bytes) :
    headerSizeX h ext = (if cfg.fmt = 32 then 4 else 12) + 2 + (if h.version ≥ 5 then 2 else 0) + cfg.fmt / 8
      + (h.tail.length + ext.length) := by
  have e1 : (h.midX ext).length = 2 + (if h.version ≥ 5 then 2 else 0) + offSize h.fmt64 := by
    simp only [Header.midX, List.length_append, encNat_length]
    split <;> simp
  rw [headerSizeX, e1, hfmt]
  cases h.fmt64 <;> simp [initLenSize, offSize] <;> omega

end

theorem drop_unitX {cfg : DwarfCfg} (h : Header) (ext body pre rest : Bytes) (hle : h.p.le = cfg.le) :
    (pre ++ encodeUnitX h ext body ++ rest).drop pre.length
      = hdrEnc cfg.le h (h.midX ext ++ h.tail ++ ext ++ body).length (h.tail.length + ext.length) (offSize h.fmt64)
          (ext ++ body ++ rest) := by
  rw [List.append_assoc, List.drop_left, encodeUnitX, hdrEnc_eq _ _ _ _ _ _ fun _ => hle]
  generalize (h.midX ext ++ h.tail ++ ext ++ body).length = UL
  simp [Header.midX, hle, List.append_assoc]

theorem parseFreshX_header {env : Env} {cfg : DwarfCfg} (h : Header) (secs : StrSecs) (ext body pre rest : Bytes)
    (hwf : unitWFX h secs ext body = true) (hle : h.p.le = cfg.le) (hfmt : cfg.fmt = if h.fmt64 then 64 else 32)
    (henv : h.version ≥ 5 → EnvOK env) :
    ∃ p, parseHeader env (Spec.dwarfStructs cfg) (pre ++ encodeUnitX h ext body ++ rest) pre.length
      = .ok (rawHeader h (h.midX ext ++ h.tail ++ ext ++ body).length (h.tail.length + ext.length), p) := by
  have fit := UnitFit.of hwf
  exact parseHeader_raw h secs _ _ _ _ _ fit.header henv hfmt fit.unitLength (by have := fit.headerLength; cases h.fmt64 <;> simp [offSize] <;> omega)
    (drop_unitX h ext body pre rest hle)

/-- the extent `_parse_line_program_at_offset` computes from `unit_length`, `version` and `header_length` is the
    one the property prescribes -/
theorem lpOfX_extent {cfg : DwarfCfg} (h : Header) (secs : StrSecs) (ext body : Bytes) (off : Nat)
    (hfmt : cfg.fmt = if h.fmt64 then 64 else 32) :
    lpOfX h secs ext body off =
      { header := h.observeX secs ext body,
        fileEntry := if h.version ≥ 5 then none else some (h.files.map FileEntry.obs),
        program_start_offset := off + (if cfg.fmt = 32 then 4 else 12) + 2 + (if (h.version : Int) ≥ 5 then 2 else 0)
          + cfg.fmt / 8 + (h.tail.length + ext.length),
        program_end_offset := off + (h.midX ext ++ h.tail ++ ext ++ body).length + (if cfg.fmt = 32 then 4 else 12),
        decoded := none } := by
  have hi : ((h.version : Int) ≥ 5) ↔ h.version ≥ 5 := by omega
  simp only [lpOfX, encodeUnitX_length_fmt hfmt, headerSizeX_fmt hfmt, hi, Nat.add_assoc]

theorem parseFreshX_legacy {env : Env} {cfg : DwarfCfg} (msecs : Secs) (h : Header) (secs : StrSecs) (ext body : Bytes)
    (pre rest : Bytes) (hwf : unitWFX h secs ext body = true) (hv : h.version ≤ 4) (hle : h.p.le = cfg.le)
    (hfmt : cfg.fmt = if h.fmt64 then 64 else 32) :
    parseLineProgramFresh env (Spec.dwarfStructs cfg) cfg.fmt msecs (pre ++ encodeUnitX h ext body ++ rest) pre.length
      = .ok (lpOfX h secs ext body pre.length) := by
  have hv5 : ¬ h.version ≥ 5 := by omega
  have hlt : h.version < 5 := by omega
  obtain ⟨p, hparse⟩ := parseFreshX_header (env := env) h secs ext body pre rest hwf hle hfmt (fun h5 => absurd h5 hv5)
  rw [parseLineProgramFresh, hparse, lpOfX_extent h secs ext body _ hfmt, Header.observeX, observeG_eq]
  simp only [rawHeader, if_neg hv5, if_pos hlt, bind, Except.bind, pure, Except.pure, resolveStrings, hdrWith_dirFmt,
    hdrWith_fileFmt, hdrWith_dirs, hdrWith_fileNames, hdrWith_fileEntry, Val.getNat_record_int (hdrWith_unitLength ..),
    Val.getNat_record_int (hdrWith_headerLength ..),
    Val.getInt_of_getField (v := .record _) (Fields.getR_of_get? (hdrWith_version ..))]

/-- the header parse leaves `hdrWith` with the two version 5 tables raw and the two legacy tables empty
    (`parseFreshX_header`); `resolve_strings` takes each version 5 table from raw to resolved (`r1`, `r2`); the legacy
    tables are then read off the resolved ones (`g1`, `m1`: `include_directory`; `g2`, `m2`: `file_entry`); the closing
    `simp` runs the model through these four assignments -/
theorem parseFreshX_v5 {env : Env} (henv : EnvOK env) {cfg : DwarfCfg} {msecs : Secs} (h : Header) (secs : StrSecs)
    (ext body : Bytes) (pre rest : Bytes) (hwf : unitWFX h secs ext body = true) (hv5 : h.version ≥ 5)
    (hle : h.p.le = cfg.le) (hfmt : cfg.fmt = if h.fmt64 then 64 else 32) (hview : SecsView msecs secs) :
    parseLineProgramFresh env (Spec.dwarfStructs cfg) cfg.fmt msecs (pre ++ encodeUnitX h ext body ++ rest) pre.length
      = .ok (lpOfX h secs ext body pre.length) := by
  have hlt : ¬ h.version < 5 := by omega
  obtain ⟨p, hparse⟩ := parseFreshX_header (env := env) h secs ext body pre rest hwf hle hfmt (fun _ => henv)
  have dirs := (UnitFit.of hwf).header.dirs hv5
  have files := (UnitFit.of hwf).header.fileNames hv5
  -- the library builds the legacy views under `if directories:` / `if file_names:` (the model matches
  -- `some (.list (d :: ds))`), and a well-formed version 5 table has a first entry
  obtain ⟨d0, ds0, hd⟩ := List.exists_cons_of_ne_nil dirs.nonempty
  obtain ⟨f0, fs0, hf⟩ := List.exists_cons_of_ne_nil files.nonempty
  -- long terms that recur below get a name and an equation, so that the rewrites match them syntactically:
  -- the two lengths, and the four tables as they stand after each of the four steps
  obtain ⟨UL, hUL⟩ : ∃ n, n = (h.midX ext ++ h.tail ++ ext ++ body).length := ⟨_, rfl⟩
  obtain ⟨HL, hHL⟩ : ∃ n, n = h.tail.length + ext.length := ⟨_, rfl⟩
  obtain ⟨D0, hD0⟩ : ∃ v : Val, v = .list (h.dirs.map (rawRec h.dirFmt)) := ⟨_, rfl⟩
  obtain ⟨F0, hF0⟩ : ∃ v : Val, v = .list (h.fileNames.map (rawRec h.fileFmt)) := ⟨_, rfl⟩
  obtain ⟨D, hD⟩ : ∃ v : Val, v = .list (h.dirs.map (obsRec secs h.dirFmt)) := ⟨_, rfl⟩
  obtain ⟨F, hF⟩ : ∃ v : Val, v = .list (h.fileNames.map (obsRec secs h.fileFmt)) := ⟨_, rfl⟩
  have fmtD : ∀ a b c d, Fields.get? (hdrWith h UL HL a b c d) "directory_entry_format" = some (fmtObs h.dirFmt) :=
    fun a b c d => by rw [hdrWith_dirFmt, if_pos hv5]
  have fmtF : ∀ a b c d, Fields.get? (hdrWith h UL HL a b c d) "file_name_entry_format" = some (fmtObs h.fileFmt) :=
    fun a b c d => by rw [hdrWith_fileFmt, if_pos hv5]
  -- resolve_strings, twice
  have r1 : resolveStrings msecs (hdrWith h UL HL D0 F0 .none .none) "directory_entry_format" "directories"
      = .ok (hdrWith h UL HL D F0 .none .none) := by
    rw [resolveStrings_ok (fmt64 := h.fmt64) hview dirs.format dirs.entries (fmtD ..) (by rw [hdrWith_dirs, hD0]), hdrWith_set_dirs, hD]
    rfl
  have r2 : resolveStrings msecs (hdrWith h UL HL D F0 .none .none) "file_name_entry_format" "file_names"
      = .ok (hdrWith h UL HL D F .none .none) := by
    rw [resolveStrings_ok (fmt64 := h.fmt64) hview files.format files.entries (fmtF ..) (by rw [hdrWith_fileNames, hF0]),
      hdrWith_set_fileNames, hF]
    rfl
  -- the legacy-compatible tables
  have g1 : Fields.get? (hdrWith h UL HL D F .none .none) "directories"
      = some (.list (obsRec secs h.dirFmt d0 :: ds0.map (obsRec secs h.dirFmt))) := by
    rw [hdrWith_dirs, hD, hd]; rfl
  have m1 : (obsRec secs h.dirFmt d0 :: ds0.map (obsRec secs h.dirFmt)).mapM (attrOf "DW_LNCT_path")
      = .ok (h.dirs.map fun e => Spec.Line.getOrNone (entryObs secs h.dirFmt e) "DW_LNCT_path") := by
    rw [show obsRec secs h.dirFmt d0 :: ds0.map (obsRec secs h.dirFmt) = h.dirs.map (obsRec secs h.dirFmt) by
      rw [hd]; rfl, Engine.mapM_ok_of_forall _ _ (fun v => match v with
        | .record fs => Spec.Line.getOrNone fs "DW_LNCT_path"
        | _ => .none), List.map_map]
    · rfl
    · intro v hv
      obtain ⟨e, he, rfl⟩ := List.mem_map.1 hv
      obtain ⟨x, hx⟩ := path_present secs h.dirFmt e dirs.format.items dirs.format.path (dirs.entries e he)
      simp [obsRec, attrOf, hx, Spec.Line.getOrNone]
  have g2 : ∀ x, Fields.get? (hdrWith h UL HL D F x .none) "file_names"
      = some (.list (obsRec secs h.fileFmt f0 :: fs0.map (obsRec secs h.fileFmt))) := by
    intro x; rw [hdrWith_fileNames, hF, hf]; rfl
  have m2 : (obsRec secs h.fileFmt f0 :: fs0.map (obsRec secs h.fileFmt)).mapM legacyFileEntry
      = .ok (h.fileNames.map fun e => legacyFile (entryObs secs h.fileFmt e)) := by
    rw [show obsRec secs h.fileFmt f0 :: fs0.map (obsRec secs h.fileFmt) = h.fileNames.map (obsRec secs h.fileFmt) by
      rw [hf]; rfl, Engine.mapM_ok_of_forall _ _ (fun v => match v with
        | .record fs => legacyFile fs
        | _ => .none), List.map_map]
    · rfl
    · intro v hv
      obtain ⟨e, he, rfl⟩ := List.mem_map.1 hv
      simp [obsRec, legacyFileEntry_ok]
  rw [parseLineProgramFresh, hparse, lpOfX_extent h secs ext body _ hfmt, Header.observeX, observeG_eq, ← hUL, ← hHL]
  simp only [rawHeader, if_pos hv5, if_neg hlt, ← hD0, ← hF0, ← hD, ← hF, bind, Except.bind, pure, Except.pure, r1, r2, g1,
    m1, hdrWith_set_incl, g2, m2, hdrWith_set_fileEntry, Val.getNat_record_int (hdrWith_unitLength ..),
    Val.getNat_record_int (hdrWith_headerLength ..),
    Val.getInt_of_getField (v := .record _) (Fields.getR_of_get? (hdrWith_version ..))]

theorem parseFreshX_all {env : Env} {cfg : DwarfCfg} (msecs : Secs) (h : Header) (secs : StrSecs) (ext body : Bytes)
    (pre rest : Bytes) (hwf : unitWFX h secs ext body = true) (hle : h.p.le = cfg.le)
    (hfmt : cfg.fmt = if h.fmt64 then 64 else 32)
    (henv : h.version ≥ 5 → EnvOK env) (hsecs : h.version ≥ 5 → SecsView msecs secs) :
    parseLineProgramFresh env (Spec.dwarfStructs cfg) cfg.fmt msecs (pre ++ encodeUnitX h ext body ++ rest) pre.length
      = .ok (lpOfX h secs ext body pre.length) := by
  by_cases hv : h.version ≤ 4
  · exact parseFreshX_legacy msecs h secs ext body pre rest hwf hv hle hfmt
  · have hv5 : h.version ≥ 5 := by omega
    exact parseFreshX_v5 (henv hv5) h secs ext body pre rest hwf hv5 hle hfmt (hsecs hv5)

/-- the `unit_length` field cannot be read: `struct_parse` raises ELFParseError -/
theorem parseFresh_truncated (env : Env) (c : DwarfCfg) (fmt : Nat) (secs : Secs) (data : Bytes) (off : Nat)
    (h : data.length < off + 4) :
    parseLineProgramFresh env (Spec.dwarfStructs c) fmt secs data off = .error .elfParseError := by
  have hr : Con.parse env data (.initialLength c.le) [] off = .error .elfParseError :=
    parse_initlen_short rfl (by rw [List.length_drop]; omega)
  obtain ⟨rest, hS⟩ : ∃ rest, (Spec.dwarfStructs c).Dwarf_lineprog_header
      = .struct (.cons (some "unit_length") false (.initialLength c.le) rest) := ⟨_, rfl⟩
  unfold parseLineProgramFresh
  rw [parseHeader_eq off hS]
  simp [parseHeaderFields, parseHeaderField, hr, bind, Except.bind, Except.map]

end PyElf.Proofs.Line
