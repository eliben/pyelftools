/-
  The symbol table the relocation code reads.  `Spec.rel_encSym` (an `ElfN_Sym` with only `st_value` set) is C03's
  `Spec.encSym` of the entry ⟨0, value, 0, 0, 0, 0⟩, so C03's round trip (`sym_roundtrip`) parses every entry of a
  table assembled with it.
-/
import PyElf.Proofs.Reloc
import PyElf.Proofs.SymParse
namespace PyElf.Proofs.Reloc
open PyElf PyElf.Spec PyElf.Model PyElf.Model.Reloc PyElf.Proofs PyElf.Proofs.Engine

def valueSym (v : Nat) : SymE := ⟨0, v, 0, 0, 0, 0⟩

theorem rel_encSym_eq (le : Bool) (cls : Nat) (v : Nat) : rel_encSym le cls v = encSym le cls (valueSym v) := by
  have h1 : encNat le 1 0 = [0] := by rw [encNat_one]; rfl
  unfold rel_encSym encSym valueSym
  split <;> simp [h1]

def encSymTable (le : Bool) (cls : Nat) (syms : List Nat) : Bytes := syms.flatMap (rel_encSym le cls)

theorem rel_encSym_length (le : Bool) (cls : Nat) (v : Nat) : (rel_encSym le cls v).length = symEntSize cls := by
  unfold rel_encSym symEntSize
  split <;> simp [encNat_length]

theorem encSymTable_length (le : Bool) (cls : Nat) (syms : List Nat) :
    (encSymTable le cls syms).length = syms.length * symEntSize cls :=
  Engine.length_flatMap_const _ _ syms fun s _ => rel_encSym_length le cls s

theorem symEntSize_pos (cls : Nat) : 0 < symEntSize cls := by
  unfold symEntSize; split <;> omega

theorem valueSym_WF {cls v : Nat} (hv : v < 2 ^ cls) : (valueSym v).WF cls = true := by
  simp [SymE.WF, valueSym, hv, Nat.two_pow_pos]

theorem parse_rel_sym (cfg : ElfCfg) (hcls : cfg.cls = 32 ∨ cfg.cls = 64) (env : Env) (v : Nat) (hv : v < 2 ^ cfg.cls)
    {data : Bytes} {pos : Nat} {rest : Bytes} (hd : data.drop pos = rel_encSym cfg.le cfg.cls v ++ rest) :
    structParse env (Spec.elfStructs cfg).Elf_Sym data pos
      = .ok (obsEntry env.enumDecode cfg.cls (valueSym v), pos + symEntSize cfg.cls) := by
  rw [rel_encSym_eq] at hd
  exact sym_roundtrip env rfl hcls (valueSym v) (valueSym_WF hv) data pos rest hd

theorem obsEntry_st_value (dec : String → Int → Option String) (cls : Nat) (e : SymE) :
    (obsEntry dec cls e).getInt "st_value" = .ok (e.value : Int) := by
  unfold obsEntry
  split <;> exact Val.getInt_record_int (by simp [Fields.get?])

theorem symtab_st_value (cfg : ElfCfg) (hcls : cfg.cls = 32 ∨ cfg.cls = 64) (env : Env) (syms : List Nat)
    (hsyms : ∀ s ∈ syms, s < 2 ^ cfg.cls) {data rest : Bytes} {symoff : Nat}
    (hd : data.drop symoff = encSymTable cfg.le cfg.cls syms ++ rest)
    (hfit : symoff + syms.length * symEntSize cfg.cls ≤ 2 ^ 63) (i : Nat) (h : i < syms.length) :
    ∃ symv, seekParse env (Spec.elfStructs cfg).Elf_Sym data (symoff + i * symEntSize cfg.cls) = .ok symv ∧
      symv.getInt "st_value" = .ok (syms[i] : Int) := by
  have hdn := drop_entry (fun s _ => rel_encSym_length cfg.le cfg.cls s) h hd
  have hp := parse_rel_sym cfg hcls env syms[i] (hsyms _ (List.getElem_mem h)) hdn
  refine ⟨obsEntry env.enumDecode cfg.cls (valueSym syms[i]), ?_, obsEntry_st_value _ _ _⟩
  rw [seekParse_of_lt (entry_pos_lt h (symEntSize_pos cfg.cls) hfit), hp]
  rfl

theorem symtab_answers (cfg : ElfCfg) (hcls : cfg.cls = 32 ∨ cfg.cls = 64) (env : Env) (syms : List Nat)
    (hsyms : ∀ s ∈ syms, s < 2 ^ cfg.cls) {data rest : Bytes} {symtab : SymTab}
    (hd : data.drop symtab.shOffset = encSymTable cfg.le cfg.cls syms ++ rest)
    (hfit : symtab.shOffset + syms.length * symEntSize cfg.cls ≤ 2 ^ 63)
    (hent : symtab.shEntsize = symEntSize cfg.cls) (hsize : symtab.shSize = syms.length * symEntSize cfg.cls) :
    SymAnswers env (Spec.elfStructs cfg) data symtab syms where
  ent := by have := symEntSize_pos cfg.cls; omega
  count := by rw [hsize, hent, Nat.mul_div_cancel _ (symEntSize_pos cfg.cls)]
  value i h := hent ▸ symtab_st_value cfg hcls env syms hsyms hd hfit i h

end PyElf.Proofs.Reloc
