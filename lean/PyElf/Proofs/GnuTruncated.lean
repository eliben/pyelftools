/-
  Chains that end early and chains that leave the file.

  * a record whose `next` displacement is 0 is its own successor: a layout that ends in such a record
    is also a layout of any number of repetitions of it (`chainAt_replicate`, over GnuVersions' `chainAt_append`);
  * a record that does not fit between its position and the end of the file cannot be parsed:
    `struct_parse` raises ELFParseError (`ElfErrors.structParseAt_fixed_short`), so a walk that is sent beyond
    the end raises it as soon as — and only if — it gets there.
-/
import PyElf.Proofs.GnuVersions
import PyElf.Proofs.EngineErrors
namespace PyElf.Proofs.C15
open PyElf PyElf.Spec PyElf.Spec.C15 PyElf.Model PyElf.Proofs

theorem chainAt_replicate {α : Type} (recAt : Nat → α → Bool) (next : α → Nat) (x : α) (pos : Nat)
    (h : recAt pos x = true) (h0 : next x = 0) : ∀ n, chainAt recAt next pos (List.replicate n x) = true
  | 0 => rfl
  | n+1 => by
    simp only [List.replicate_succ, chainAt, h, h0, Nat.add_zero, Bool.true_and]
    exact chainAt_replicate recAt next x pos h h0 n

theorem chainAt_repeat_last {α : Type} (recAt : Nat → α → Bool) (next : α → Nat) (xs : List α) (x : α) (pos : Nat)
    (h : chainAt recAt next pos (xs ++ [x]) = true) (h0 : next x = 0) (k : Nat) :
    chainAt recAt next pos (xs ++ List.replicate (k + 1) x) = true := by
  rw [chainAt_append, Bool.and_eq_true] at h ⊢
  refine ⟨h.1, chainAt_replicate recAt next x _ ?_ h0 _⟩
  have := h.2
  simp only [chainAt, Bool.and_true] at this
  exact this

theorem verneed_trunc (env : Env) (c : ElfCfg) (data : Bytes) (pos : Nat) (h : data.length < pos + 16) :
    structParseAt env (Spec.elfStructs c).Elf_Verneed data pos = .error .elfParseError :=
  ElfErrors.structParseAt_fixed_short rfl rfl rfl (by decide) h

theorem vernaux_trunc (env : Env) (c : ElfCfg) (data : Bytes) (pos : Nat) (h : data.length < pos + 16) :
    structParseAt env (Spec.elfStructs c).Elf_Vernaux data pos = .error .elfParseError :=
  ElfErrors.structParseAt_fixed_short rfl rfl rfl (by decide) h

theorem verdef_trunc (env : Env) (c : ElfCfg) (data : Bytes) (pos : Nat) (h : data.length < pos + 20) :
    structParseAt env (Spec.elfStructs c).Elf_Verdef data pos = .error .elfParseError :=
  ElfErrors.structParseAt_fixed_short rfl rfl rfl (by decide) h

theorem verdaux_trunc (env : Env) (c : ElfCfg) (data : Bytes) (pos : Nat) (h : data.length < pos + 8) :
    structParseAt env (Spec.elfStructs c).Elf_Verdaux data pos = .error .elfParseError :=
  ElfErrors.structParseAt_fixed_short rfl rfl rfl (by decide) h

theorem exists_extra {l n : Nat} (h : l < n) : ∃ m, n = l + (m + 1) := ⟨n - l - 1, by omega⟩

section need
variable (env : Env) (c : ElfCfg) (data : Bytes) (off info strOff : Nat)

theorem need_verStep_trunc (pos : Nat) (h : data.length < pos + 16) :
    verStep env (VerSec.mkNeed (Spec.elfStructs c) data off info strOff) pos = .error .elfParseError := by
  simp [verStep, VerSec.mkNeed, verneed_trunc env c data pos h, bind, Except.bind]

theorem need_auxStep_trunc (pos : Nat) (h : data.length < pos + 16) :
    auxStep env (VerSec.mkNeed (Spec.elfStructs c) data off info strOff) pos = .error .elfParseError := by
  simp [auxStep, VerSec.mkNeed, vernaux_trunc env c data pos h, bind, Except.bind]

variable (hlen : data.length < 2 ^ 63)
include hlen

/-- the entries before are yielded first; the enumeration as a whole raises -/
theorem need_versions_truncated_chain (es : List NeedEntry) (pos n : Nat)
    (h : needLayout c.le data strOff pos es = true) (hn : es.length < n)
    (ht : data.length < chainEnd (fun e : NeedEntry => e.r.next) pos es + 16) :
    iterVersions env (VerSec.mkNeed (Spec.elfStructs c) data off info strOff) n pos = .error .elfParseError := by
  obtain ⟨m, rfl⟩ := exists_extra hn
  rw [need_iterVersions_prefix env c data off info strOff hlen es pos (m + 1) h,
    iterVersions_err (need_verStep_trunc env c data off info strOff _ ht) m]
  rfl

/-- the carrier if one is chained before the end (the walk never gets further), ELFParseError otherwise -/
theorem needGetLoop_truncated (idx : Nat) (es : List NeedEntry) (pos n : Nat)
    (h : needLayout c.le data strOff pos es = true) (hn : es.length < n)
    (ht : data.length < chainEnd (fun e : NeedEntry => e.r.next) pos es + 16) :
    needGetLoop env (VerSec.mkNeed (Spec.elfStructs c) data off info strOff) idx n pos
      = match needFind idx es with
        | some ea => .ok (some (ea.1.r.obs, some ea.1.file, ea.2.r.obs, ea.2.name))
        | none => .error .elfParseError := by
  obtain ⟨m, rfl⟩ := exists_extra hn
  rw [needGetLoop_prefix env c data off info strOff hlen idx es pos (m + 1) h,
    needGetLoop_err env c data off info strOff idx (need_verStep_trunc env c data off info strOff _ ht) m]
  cases needFind idx es <;> rfl

/-- `has_indexes()` always walks to the end: ELFParseError -/
theorem hasIndexesLoop_truncated (es : List NeedEntry) (pos n : Nat) (acc : Bool)
    (h : needLayout c.le data strOff pos es = true) (hn : es.length < n)
    (ht : data.length < chainEnd (fun e : NeedEntry => e.r.next) pos es + 16) :
    hasIndexesLoop env (VerSec.mkNeed (Spec.elfStructs c) data off info strOff) n pos acc = .error .elfParseError := by
  obtain ⟨m, rfl⟩ := exists_extra hn
  rw [hasIndexesLoop_prefix env c data off info strOff hlen es pos (m + 1) acc h,
    hasIndexesLoop_err env c data off info strOff (need_verStep_trunc env c data off info strOff _ ht) m]

end need

section defs
variable (env : Env) (c : ElfCfg) (data : Bytes) (off info strOff : Nat)

theorem def_verStep_trunc (pos : Nat) (h : data.length < pos + 20) :
    verStep env (VerSec.mkDef (Spec.elfStructs c) data off info strOff) pos = .error .elfParseError := by
  simp [verStep, VerSec.mkDef, verdef_trunc env c data pos h, bind, Except.bind]

theorem def_auxStep_trunc (pos : Nat) (h : data.length < pos + 8) :
    auxStep env (VerSec.mkDef (Spec.elfStructs c) data off info strOff) pos = .error .elfParseError := by
  simp [auxStep, VerSec.mkDef, verdaux_trunc env c data pos h, bind, Except.bind]

variable (hlen : data.length < 2 ^ 63)
include hlen

theorem def_versions_truncated_chain (es : List DefEntry) (pos n : Nat)
    (h : defLayout c.le data strOff pos es = true) (hn : es.length < n)
    (ht : data.length < chainEnd (fun e : DefEntry => e.r.next) pos es + 20) :
    iterVersions env (VerSec.mkDef (Spec.elfStructs c) data off info strOff) n pos = .error .elfParseError := by
  obtain ⟨m, rfl⟩ := exists_extra hn
  rw [def_iterVersions_prefix env c data off info strOff hlen es pos (m + 1) h,
    iterVersions_err (def_verStep_trunc env c data off info strOff _ ht) m]
  rfl

theorem defGetLoop_truncated (idx : Nat) (es : List DefEntry) (pos n : Nat)
    (h : defLayout c.le data strOff pos es = true) (hn : es.length < n)
    (ht : data.length < chainEnd (fun e : DefEntry => e.r.next) pos es + 20) :
    defGetLoop env (VerSec.mkDef (Spec.elfStructs c) data off info strOff) idx n pos
      = match defFind idx es with
        | some e => .ok (some (e.r.obs, e.auxs.map DefAux.obs))
        | none => .error .elfParseError := by
  obtain ⟨m, rfl⟩ := exists_extra hn
  rw [defGetLoop_prefix env c data off info strOff hlen idx es pos (m + 1) h,
    defGetLoop_err env c data off info strOff idx (def_verStep_trunc env c data off info strOff _ ht) m]
  cases defFind idx es <;> rfl

end defs

/-- the record of `e` sits at `pos` and counts `e.r.cnt` auxiliaries, of which only `e.auxs` are chained
    before the walk leaves the file -/
structure NeedPartial (le : Bool) (data : Bytes) (strOff pos : Nat) (e : NeedEntry) : Prop where
  fits : e.r.fits = true
  placed : bytesAt data pos (e.r.enc le) = true
  file : gv_strAt data (strOff + e.r.file) e.file = true
  cnt : e.auxs.length < e.r.cnt
  chain : chainAt (NeedAux.at le data strOff) (·.r.next) (pos + e.r.aux) e.auxs = true
  trunc : data.length < chainEnd (fun a : NeedAux => a.r.next) (pos + e.r.aux) e.auxs + 16

structure DefPartial (le : Bool) (data : Bytes) (strOff pos : Nat) (e : DefEntry) : Prop where
  fits : e.r.fits = true
  placed : bytesAt data pos (e.r.enc le) = true
  cnt : e.auxs.length < e.r.cnt
  chain : chainAt (DefAux.at le data strOff) (·.r.next) (pos + e.r.aux) e.auxs = true
  trunc : data.length < chainEnd (fun a : DefAux => a.r.next) (pos + e.r.aux) e.auxs + 8

theorem needPartial_of {le : Bool} {data : Bytes} {strOff pos : Nat} {e : NeedEntry}
    (h : NeedEntry.atPartial le data strOff pos e = true) : NeedPartial le data strOff pos e := by
  simp only [NeedEntry.atPartial, Bool.and_eq_true, decide_eq_true_eq] at h
  obtain ⟨⟨⟨⟨⟨h1, h2⟩, h3⟩, h4⟩, h5⟩, h6⟩ := h
  exact ⟨h1, h2, h3, h4, h5, h6⟩

theorem defPartial_of {le : Bool} {data : Bytes} {strOff pos : Nat} {e : DefEntry}
    (h : DefEntry.atPartial le data strOff pos e = true) : DefPartial le data strOff pos e := by
  simp only [DefEntry.atPartial, Bool.and_eq_true, decide_eq_true_eq] at h
  obtain ⟨⟨⟨⟨h1, h2⟩, h4⟩, h5⟩, h6⟩ := h
  exact ⟨h1, h2, h4, h5, h6⟩

section partial_
variable (env : Env) (c : ElfCfg) (data : Bytes) (off info strOff : Nat) (hlen : data.length < 2 ^ 63)
include hlen

theorem need_verStep_partial (pos : Nat) (e : NeedEntry) (h : NeedPartial c.le data strOff pos e) :
    verStep env (VerSec.mkNeed (Spec.elfStructs c) data off info strOff) pos
      = .ok (e.r.obs, some e.file, pos + e.r.aux, e.r.cnt) :=
  need_verStep_rec env c data off info strOff hlen pos e h.fits h.placed h.file (Nat.lt_of_le_of_lt (Nat.zero_le _) h.cnt)

theorem def_verStep_partial (pos : Nat) (e : DefEntry) (h : DefPartial c.le data strOff pos e) :
    verStep env (VerSec.mkDef (Spec.elfStructs c) data off info strOff) pos
      = .ok (e.r.obs, none, pos + e.r.aux, e.r.cnt) :=
  def_verStep_rec env c data off info strOff hlen pos e h.fits h.placed (Nat.lt_of_le_of_lt (Nat.zero_le _) h.cnt)

theorem need_auxList_partial (pos : Nat) (e : NeedEntry) (h : NeedPartial c.le data strOff pos e) :
    auxList env (VerSec.mkNeed (Spec.elfStructs c) data off info strOff) e.r.cnt (pos + e.r.aux) = .error .elfParseError := by
  obtain ⟨j, hj⟩ := exists_extra h.cnt
  rw [hj, auxList_prefix (aobs := NeedAux.obs) (need_auxStep env c data off info strOff hlen) (fun a => vernaux_next a.r)
    e.auxs _ (j + 1) h.chain, auxList_err (need_auxStep_trunc env c data off info strOff _ h.trunc) j]
  rfl

theorem def_auxList_partial (pos : Nat) (e : DefEntry) (h : DefPartial c.le data strOff pos e) :
    auxList env (VerSec.mkDef (Spec.elfStructs c) data off info strOff) e.r.cnt (pos + e.r.aux) = .error .elfParseError := by
  obtain ⟨j, hj⟩ := exists_extra h.cnt
  rw [hj, auxList_prefix (aobs := DefAux.obs) (def_auxStep env c data off info strOff hlen) (fun a => verdaux_next a.r)
    e.auxs _ (j + 1) h.chain,
    auxList_err (def_auxStep_trunc env c data off info strOff _ h.trunc) j]
  rfl

/-- complete entries `es`, then an entry whose auxiliary count exceeds its chain, the chain leaving the file -/
theorem need_versions_aux_truncated (es : List NeedEntry) (e : NeedEntry) (pos n : Nat)
    (h : needLayout c.le data strOff pos es = true)
    (hp : NeedPartial c.le data strOff (chainEnd (fun e : NeedEntry => e.r.next) pos es) e) (hn : es.length < n) :
    iterVersions env (VerSec.mkNeed (Spec.elfStructs c) data off info strOff) n pos = .error .elfParseError := by
  obtain ⟨m, rfl⟩ := exists_extra hn
  rw [need_iterVersions_prefix env c data off info strOff hlen es pos (m + 1) h,
    iterVersions_aux_err (need_verStep_partial env c data off info strOff hlen _ e hp)
      (need_auxList_partial env c data off info strOff hlen _ e hp) m]
  rfl

theorem needGetLoop_partial (idx pos : Nat) (e : NeedEntry) (hp : NeedPartial c.le data strOff pos e) (m : Nat) :
    needGetLoop env (VerSec.mkNeed (Spec.elfStructs c) data off info strOff) idx (m + 1) pos
      = match e.auxs.find? (fun a => a.r.other == idx) with
        | some a => .ok (some (e.r.obs, some e.file, a.r.obs, a.name))
        | none => .error .elfParseError := by
  obtain ⟨j, hj⟩ := exists_extra hp.cnt
  have hfind := auxFind_prefix (aobs := NeedAux.obs) (need_auxStep env c data off info strOff hlen)
    (fun a => vernaux_next a.r) (auxOtherIs idx) (fun a => a.r.other == idx) (auxOtherIs_obs idx) e.auxs _ (j + 1) hp.chain
  rw [← hj, auxFind_err (auxOtherIs idx) (need_auxStep_trunc env c data off info strOff _ hp.trunc) j] at hfind
  cases hq : e.auxs.find? (fun a => a.r.other == idx) with
  | none =>
    rw [hq] at hfind
    simp [needGetLoop, need_verStep_partial env c data off info strOff hlen pos e hp, hfind, bind, Except.bind]
  | some a =>
    rw [hq] at hfind
    simp [needGetLoop, need_verStep_partial env c data off info strOff hlen pos e hp, hfind, NeedAux.obs,
      bind, Except.bind, pure, Except.pure]

/-- the carrier if it is chained before the walk leaves the file — among the complete entries or among the chained
    auxiliaries of the partial one — ELFParseError otherwise -/
theorem needGetLoop_aux_truncated (idx : Nat) (es : List NeedEntry) (e : NeedEntry) (pos n : Nat)
    (h : needLayout c.le data strOff pos es = true)
    (hp : NeedPartial c.le data strOff (chainEnd (fun e : NeedEntry => e.r.next) pos es) e) (hn : es.length < n) :
    needGetLoop env (VerSec.mkNeed (Spec.elfStructs c) data off info strOff) idx n pos
      = match needFind idx es with
        | some ea => .ok (some (ea.1.r.obs, some ea.1.file, ea.2.r.obs, ea.2.name))
        | none =>
          match e.auxs.find? (fun a => a.r.other == idx) with
          | some a => .ok (some (e.r.obs, some e.file, a.r.obs, a.name))
          | none => .error .elfParseError := by
  obtain ⟨m, rfl⟩ := exists_extra hn
  rw [needGetLoop_prefix env c data off info strOff hlen idx es pos (m + 1) h,
    needGetLoop_partial env c data off info strOff hlen idx _ e hp m]
  cases needFind idx es <;> rfl

theorem def_versions_aux_truncated (es : List DefEntry) (e : DefEntry) (pos n : Nat)
    (h : defLayout c.le data strOff pos es = true)
    (hp : DefPartial c.le data strOff (chainEnd (fun e : DefEntry => e.r.next) pos es) e) (hn : es.length < n) :
    iterVersions env (VerSec.mkDef (Spec.elfStructs c) data off info strOff) n pos = .error .elfParseError := by
  obtain ⟨m, rfl⟩ := exists_extra hn
  rw [def_iterVersions_prefix env c data off info strOff hlen es pos (m + 1) h,
    iterVersions_aux_err (def_verStep_partial env c data off info strOff hlen _ e hp)
      (def_auxList_partial env c data off info strOff hlen _ e hp) m]
  rfl

end partial_

end PyElf.Proofs.C15
