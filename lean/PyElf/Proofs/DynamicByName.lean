/-
  `DynamicSegment.get_symbol_by_name`.  The name map is
  built from `iter_symbols()` (index lists per name, in index order); a hit is
  answered by `get_symbol(i)` for every index of the list, a miss by `None`.
  Whenever the enumeration succeeds and `get_symbol` returns the enumerated
  entries, the answer is "all enumerated symbols bearing the name, in index
  order — nothing for an absent name" (`byNameOf`).
-/
import PyElf.Proofs.Dynamic
namespace PyElf.Proofs.Dynamic
open PyElf PyElf.Spec PyElf.Spec.Dynamic PyElf.Model PyElf.Model.Dynamic PyElf.Proofs

/-- what a lookup by name must answer over the enumerated symbols `L` -/
def byNameOf (L : List (Bytes × Val)) (q : Bytes) : Option (List (Bytes × Val)) :=
  if (L.filter (·.1 == q)).isEmpty then none else some (L.filter (·.1 == q))

section byName
variable {env : Env} {S : ElfStructs} {data : Bytes} {d : Dyn} {le : Bool} {ifc : FileIfc}
  {iterSegs : R (List (String × Val))}

theorem getSymbolByName_of {L : List (Bytes × Val)}
    (hit : iterSymbols env S data ifc d iterSegs le = .ok L)
    (hget : ∀ i (h : i < L.length), getSymbol env S data ifc d i = .ok L[i]) (q : Bytes) :
    getSymbolByName env S data ifc d iterSegs le q = .ok (byNameOf L q) := by
  unfold getSymbolByName byNameOf
  simp only [hit, bind, Except.bind]
  have hmap : ((((List.range L.length).zip L).filter (fun p => p.2.1 == q)).map (·.1)).mapM (getSymbol env S data ifc d)
      = .ok ((((List.range L.length).zip L).filter (fun p => p.2.1 == q)).map (·.2)) := by
    apply mapM_fst_ok
    intro p hp
    obtain ⟨h, he⟩ := mem_zip_range (List.mem_filter.1 hp).1
    rw [hget p.1 h, he]
  have hz := zip_filter_snd L (fun x => x.1 == q)
  rw [hmap, hz]
  have hemp : ((((List.range L.length).zip L).filter (fun p => p.2.1 == q)).map (·.1)).isEmpty
      = (L.filter (·.1 == q)).isEmpty := by
    rw [← hz]
    simp
  rw [hemp]
  cases (L.filter (·.1 == q)).isEmpty <;> rfl

theorem getSymbolByName_error {e : Err}
    (hit : iterSymbols env S data ifc d iterSegs le = .error e) (q : Bytes) :
    getSymbolByName env S data ifc d iterSegs le q = .error e := by
  unfold getSymbolByName
  simp [hit, bind, Except.bind]

end byName

theorem obsByName_eq {env : Env} {d : DynDesc} {ss : List (Bytes × Val)} (h : obsSyms env d = .ok ss) (q : Bytes) :
    obsByName env d q = .ok (byNameOf ss q) := by
  unfold obsByName byNameOf
  simp only [h, bind, Except.bind, pure, Except.pure]

theorem byNameOf_absent {L : List (Bytes × Val)} {q : Bytes} (h : ∀ x ∈ L, x.1 ≠ q) : byNameOf L q = none := by
  unfold byNameOf
  have : L.filter (·.1 == q) = [] := List.filter_eq_nil_iff.2 (fun x hx => by simpa using h x hx)
  simp [this]

theorem byNameOf_present {L : List (Bytes × Val)} {q : Bytes} {hit : List (Bytes × Val)}
    (h : byNameOf L q = some hit) :
    hit ≠ [] ∧ hit.Sublist L ∧ (∀ x ∈ hit, x.1 = q) ∧ (∀ x ∈ L, x.1 = q → x ∈ hit) ∧
    hit.length = L.countP (·.1 == q) := by
  unfold byNameOf at h
  split at h
  · cases h
  · rename_i hne
    cases h
    refine ⟨by simpa [List.isEmpty_iff] using hne, List.filter_sublist, ?_, ?_, ?_⟩
    · intro x hx; simpa using (List.mem_filter.1 hx).2
    · intro x hx hq; exact List.mem_filter.2 ⟨hx, by simpa using hq⟩
    · exact (List.countP_eq_length_filter).symm

end PyElf.Proofs.Dynamic
