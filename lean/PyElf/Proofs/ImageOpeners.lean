/-
  How the Spec's Boolean predicates "section `i` of the description is …" (`symtabAt`, `linkedAt`, `verSecAt`,
  `relTableAt` …) are opened: the section exists (and its header decodes), after which the predicate is a conjunction
  about `d.sections[i]` (`Setup.secAt_cases`: the same on the opened file, with the section's `SecAt`); and the link
  lookup their readers share.
-/
import PyElf.Proofs.ElfView
import PyElf.Model.GnuVersionsFile
namespace PyElf.Proofs
open PyElf PyElf.Spec PyElf.Model
open PyElf.Proofs.C15 (fileOf)

theorem secDec_cases {env : Env} {d : ElfDesc} {sec : Nat} {α : Type} {dflt r : α} {B : SecDesc → Val → α}
    (h : (match d.sections[sec]?, d.decHdr env sec with
          | some s, some hv => B s hv
          | _, _ => dflt) = r) (hne : r ≠ dflt) :
    ∃ (hi : sec < d.sections.length) (hv : Val), d.decHdr env sec = some hv ∧ B d.sections[sec] hv = r := by
  cases hs : d.sections[sec]? with
  | none => simp only [hs] at h; exact absurd h.symm hne
  | some s =>
    obtain ⟨hi, rfl⟩ := List.getElem?_eq_some_iff.1 hs
    cases hd : d.decHdr env sec with
    | none => simp only [hs, hd] at h; exact absurd h.symm hne
    | some hv => exact ⟨hi, hv, rfl, by simpa only [hs, hd] using h⟩

theorem Setup.secAt_cases {env : Env} {d : ElfDesc} {bytes : Bytes} {hdr : Val} {st : Option Val}
    (X : Setup env d bytes hdr st) {i : Nat} {B : SecDesc → Val → Bool}
    (h : (match d.sections[i]?, d.decHdr env i with
          | some s, some hv => B s hv
          | _, _ => false) = true) :
    ∃ (hi : i < d.sections.length) (hv : Val), SecAt env d bytes hdr st i d.sections[i] hv ∧ B d.sections[i] hv = true := by
  obtain ⟨hi, hv, hd, h⟩ := secDec_cases h (by decide)
  obtain ⟨hv', V⟩ := X.secAt_lt hi
  cases V.unique hd
  exact ⟨hi, hv, V, h⟩

/-- for the predicates written `| none => … | some s => …`; those written `| some st => … | none => false` take
    `linkMatch_true`: the unifier does not identify a `match` with the one whose alternatives are in the other order -/
theorem sec_cases {d : ElfDesc} {i : Nat} {α : Type} {dflt r : α} {B : SecDesc → α}
    (h : (match d.sections[i]? with
          | none => dflt
          | some s => B s) = r) (hne : r ≠ dflt) :
    ∃ hi : i < d.sections.length, B d.sections[i] = r := by
  cases hs : d.sections[i]? with
  | none => simp only [hs] at h; exact absurd h.symm hne
  | some s =>
    obtain ⟨hi, rfl⟩ := List.getElem?_eq_some_iff.1 hs
    exact ⟨hi, by simpa only [hs] using h⟩

theorem linkMatch_true {d : ElfDesc} {l : Nat} {B : SecDesc → Bool}
    (h : (match d.sections[l]? with
          | some st => B st
          | none => false) = true) : ∃ hl : l < d.sections.length, B (d.sections[l]) = true := by
  cases hs : d.sections[l]? with
  | none => simp [hs] at h
  | some s =>
    obtain ⟨hi, rfl⟩ := List.getElem?_eq_some_iff.1 hs
    exact ⟨hi, by simpa only [hs] using h⟩

theorem typeIn_single {h : Val} {ty : String} (ht : typeIn h [ty] = true) : h.getField "sh_type" = .ok (.str ty) := by
  obtain ⟨t, ht, hm⟩ := typeIn_unpack ht
  simp only [List.mem_cons, List.not_mem_nil, or_false] at hm
  exact hm ▸ ht

theorem C15.linkedHeader_ok {env : Env} {d : ElfDesc} {bytes : Bytes} {hdr : Val} {st : Option Val} {i : Nat} {s : SecDesc} {h : Val}
    (V : SecAt env d bytes hdr st i s h) : Model.C15.linkedHeader env (fileOf d bytes hdr st) i = .ok h := by
  unfold Model.C15.linkedHeader
  show (do match ← getSectionHeader env d.S bytes hdr i with
          | some h => pure h
          | none => throw Err.typeError) = _
  rw [V.read]
  rfl

end PyElf.Proofs
