/-
  `_make_section`: the constructor chain as a function of its own (`kindR`), one lemma per branch over any bundle and
  byte string (`kindR_*`), what `secOkZ` asks of each type (`secCond_*`), the tables a constructor parses on sight,
  and the two joined (`kindR_ok`, `makeSection_ok`), by induction on the link depth (`makeSection_links`).
  `Setup` is the standing hypothesis of everything about an opened file.
-/
import PyElf.Proofs.ElfTables
import PyElf.Proofs.HashHeader
namespace PyElf.Proofs
open PyElf PyElf.Spec PyElf.Model PyElf.Proofs.Engine

section pieces
variable (env : Env) (S : ElfStructs) (data : Bytes) (hdr : Val) (shstr : Option Val) (fuel : Nat)

def linkedStrtabR (link : Nat) : R Unit := do
  let h ← getSectionHeader env S data hdr link
  let t ← subscript h "sh_type"
  if !isStr t "SHT_STRTAB" then throw .elfError
  let _ ← makeSection env S data hdr shstr fuel h
  return ()

def linkedSymtabR (link : Nat) : R Unit := do
  let h ← getSectionHeader env S data hdr link
  let t ← subscript h "sh_type"
  if !(isStr t "SHT_SYMTAB" || isStr t "SHT_DYNSYM") then throw .elfError
  let _ ← makeSection env S data hdr shstr fuel h
  return ()

/-- the Model's local `kind` of `makeSection` (Model/ElfFile.lean), written out again: a `let` inside a definition has no
    name a lemma could speak of.  `makeSection_succ` says by `rfl` that the copy is the original. -/
def kindR (sh ty : Val) (link : Nat) (name : Bytes) : R String :=
  let linkedStrtab := linkedStrtabR env S data hdr shstr fuel link
  let linkedSymtab := linkedSymtabR env S data hdr shstr fuel link
  let init := sectionInit env S data sh
  if isStr ty "SHT_STRTAB" then do init; return "StringTableSection"
  else if isStr ty "SHT_NULL" then do init; return "NullSection"
  else if isStr ty "SHT_SYMTAB" || isStr ty "SHT_DYNSYM" || isStr ty "SHT_SUNW_LDYNSYM" then do
    linkedStrtab; init
    let es ← sh.getNat "sh_entsize"
    if !(es > 0) then throw .elfError
    if (← sh.getNat "sh_size") % es != 0 then throw .elfError
    return "SymbolTableSection"
  else if isStr ty "SHT_SYMTAB_SHNDX" then do init; return "SymbolTableIndexSection"
  else if isStr ty "SHT_SUNW_syminfo" then do linkedSymtab; init; return "SUNWSyminfoTableSection"
  else if isStr ty "SHT_GNU_verneed" then do linkedStrtab; init; return "GNUVerNeedSection"
  else if isStr ty "SHT_GNU_verdef" then do linkedStrtab; init; return "GNUVerDefSection"
  else if isStr ty "SHT_GNU_versym" then do linkedSymtab; init; return "GNUVerSymSection"
  else if isStr ty "SHT_REL" || isStr ty "SHT_RELA" then do
    init
    let esz ← sizeofR (if isStr ty "SHT_RELA" then S.Elf_Rela else S.Elf_Rel)
    if (← sh.getNat "sh_entsize") != esz then throw .elfError
    return "RelocationSection"
  else if isStr ty "SHT_DYNAMIC" then do
    init
    let h ← getSectionHeader env S data hdr link
    match h with
    | none => throw .attributeError
    | some hh =>
      let t ← hh.getField "sh_type"
      if !(isStr t "SHT_STRTAB" || isStr t "SHT_NOBITS") then throw .elfError
      let _ ← makeSection env S data hdr shstr fuel h
      let _ ← sizeofR S.Elf_Dyn
      return "DynamicSection"
  else if isStr ty "SHT_NOTE" then do init; return "NoteSection"
  else if isStr ty "SHT_PROGBITS" && name == ".stab".toUTF8.toList then do init; return "StabSection"
  else if isStr ty "SHT_ARM_ATTRIBUTES" || isStr ty "SHT_RISCV_ATTRIBUTES" then do
    init
    let (fv, _) ← structParseAt env S.Elf_byte data (← sh.getNat "sh_offset")
    if (← fv.asInt) != 0x41 then throw .elfError
    return (if isStr ty "SHT_ARM_ATTRIBUTES" then "ARMAttributesSection" else "RISCVAttributesSection")
  else if isStr ty "SHT_HASH" then do
    linkedSymtab; init
    let _ ← structParseAt env S.Elf_Hash data (← sh.getNat "sh_offset")
    return "ELFHashSection"
  else if isStr ty "SHT_GNU_HASH" then do
    linkedSymtab; init
    let _ ← structParseAt env S.Gnu_Hash data (← sh.getNat "sh_offset")
    let _ ← sizeofR S.Elf_word
    let _ ← sizeofR S.Elf_xword
    return "GNUHashSection"
  else if isStr ty "SHT_RELR" then do
    init
    if (← sizeofR S.Elf_Relr) != (← sh.getNat "sh_entsize") then throw .elfError
    return "RelrRelocationSection"
  else do init; return "Section"

theorem makeSection_succ (sh : Val) :
    makeSection env S data hdr shstr (fuel + 1) (some sh) = (do
      let name ← getSectionName env S data hdr shstr (some sh)
      let ty ← sh.getField "sh_type"
      let link ← sh.getNat "sh_link"
      let k ← kindR env S data hdr shstr fuel sh ty link name
      return (k, name)) := by
  rw [makeSection]
  rfl

theorem makeSection_eq (sh : Val) {name : Bytes} {ty : Val} {link : Nat}
    (hname : getSectionName env S data hdr shstr (some sh) = .ok name) (hty : sh.getField "sh_type" = .ok ty)
    (hlink : sh.getNat "sh_link" = .ok link) :
    makeSection env S data hdr shstr (fuel + 1) (some sh)
      = (kindR env S data hdr shstr fuel sh ty link name).map fun k => (k, name) := by
  rw [makeSection_succ, hname]
  simp only [bind, Except.bind, hty, hlink]
  cases kindR env S data hdr shstr fuel sh ty link name <;> rfl

end pieces

theorem typeIn_str {h : Val} {t : String} (names : List String)
    (hty : h.getField "sh_type" = .ok (.str t)) : typeIn h names = names.contains t := by
  simp [typeIn, hty]

theorem typeIn_unpack {h : Val} {names : List String} (ht : typeIn h names = true) :
    ∃ t, h.getField "sh_type" = .ok (.str t) ∧ t ∈ names := by
  unfold typeIn at ht
  split at ht
  · rename_i t hty; exact ⟨t, hty, by simpa using ht⟩
  · cases ht

theorem typeIn_nonstr {h ty : Val} (names : List String) (hty : h.getField "sh_type" = .ok ty)
    (hns : ∀ t, ty ≠ .str t) : typeIn h names = false := by
  unfold typeIn
  split
  · rename_i t ht; rw [hty] at ht; cases ht; exact absurd rfl (hns t)
  · rfl

theorem isStr_nonstr {ty : Val} (hns : ∀ t, ty ≠ .str t) (s : String) : isStr ty s = false := by
  cases ty <;> simp [isStr]
  exact absurd rfl (hns _)

theorem linkIs_unpack {env : Env} {d : ElfDesc} {fuel link : Nat} {types : List String}
    (h : (match d.decHdr env link with
          | some lh => typeIn lh types && d.secOkZ env fuel link
          | none => false) = true) :
    ∃ lh t, d.decHdr env link = some lh ∧ lh.getField "sh_type" = .ok (.str t) ∧ t ∈ types ∧
      d.secOkZ env fuel link = true := by
  cases hl : d.decHdr env link with
  | none => simp [hl] at h
  | some lh =>
    simp only [hl, Bool.and_eq_true] at h
    obtain ⟨t, ht, hm⟩ := typeIn_unpack h.1
    exact ⟨lh, t, rfl, ht, hm, h.2⟩

/-- what is known once `ELFFile(BytesIO(bytes))` has returned for a byte string that carries `d`; `hdr` is the decoded
    file header, `st` what `ELFFile()` left in `_section_header_stringtable` -/
structure Setup (env : Env) (d : ElfDesc) (bytes : Bytes) (hdr : Val) (st : Option Val) : Prop where
  hw : WfFacts env d
  hL : LayoutFacts d bytes
  hf : HdrFacts d hdr
  hst : ShstrOk env d st

/-- induction hypothesis of the link recursion -/
def MakeOk (env : Env) (d : ElfDesc) (bytes : Bytes) (hdr : Val) (st : Option Val) (fuel : Nat) : Prop :=
  ∀ i h, d.secOkZ env fuel i = true → d.decHdr env i = some h →
    ∃ r, makeSection env d.S bytes hdr st fuel (some h) = .ok r

theorem linkedStrtabR_ok {env : Env} {d : ElfDesc} {bytes : Bytes} {hdr : Val} {st : Option Val}
    (X : Setup env d bytes hdr st) {fuel : Nat} (IH : MakeOk env d bytes hdr st fuel) {link : Nat}
    (hl : linkIsB env d fuel link ["SHT_STRTAB"] = true) :
    linkedStrtabR env d.S bytes hdr st fuel link = .ok () := by
  obtain ⟨lh, t, hdec, hty, hm, hok⟩ := linkIs_unpack hl
  obtain ⟨r, hr⟩ := IH link lh hok hdec
  simp only [List.mem_cons, List.not_mem_nil, or_false] at hm
  subst hm
  unfold linkedStrtabR
  simp [getSectionHeader_ok X.hw X.hL X.hf hdec, subscript, hty, isStr, hr, bind, Except.bind, pure, Except.pure]

theorem linkedSymtabR_ok {env : Env} {d : ElfDesc} {bytes : Bytes} {hdr : Val} {st : Option Val}
    (X : Setup env d bytes hdr st) {fuel : Nat} (IH : MakeOk env d bytes hdr st fuel) {link : Nat}
    (hl : linkIsB env d fuel link ["SHT_SYMTAB", "SHT_DYNSYM"] = true) :
    linkedSymtabR env d.S bytes hdr st fuel link = .ok () := by
  obtain ⟨lh, t, hdec, hty, hm, hok⟩ := linkIs_unpack hl
  obtain ⟨r, hr⟩ := IH link lh hok hdec
  simp only [List.mem_cons, List.not_mem_nil, or_false] at hm
  unfold linkedSymtabR
  rcases hm with rfl | rfl <;>
  simp [getSectionHeader_ok X.hw X.hL X.hf hdec, subscript, hty, isStr, hr, bind, Except.bind, pure, Except.pure]

theorem split_word (le : Bool) {n : Nat} {bs : Bytes} (h : n ≤ bs.length) :
    bs = encNat le n (decNat le (bs.take n)) ++ bs.drop n ∧ decNat le (bs.take n) < 256 ^ n := by
  have hl : (bs.take n).length = n := by rw [List.length_take]; omega
  have he := encNat_decNat le (bs.take n)
  have hlt := decNat_lt le (bs.take n)
  rw [hl] at he hlt
  exact ⟨by rw [he, List.take_append_drop], hlt⟩

/-- `n` = 0 included (words of no bytes): `structParseAt_gnuhash` asks nothing of the class -/
theorem split_words (le : Bool) (n : Nat) {k : Nat} {bs : Bytes} (h : n * k ≤ bs.length) :
    ∃ ws : List Nat, ws.length = k ∧ bs = ws.flatMap (encNat le n) ++ bs.drop (n * k) := by
  rcases Nat.eq_zero_or_pos n with rfl | hn
  · have hnil : (List.replicate k 0).flatMap (encNat le 0) = [] :=
      List.eq_nil_of_length_eq_zero (by rw [HashHeader.words_length, Nat.zero_mul])
    exact ⟨List.replicate k 0, List.length_replicate, by rw [hnil, Nat.zero_mul]; rfl⟩
  · obtain ⟨ws, hw, he⟩ := bytes_eq_words le hn k (bs.take (n * k)) (by rw [List.length_take]; omega)
    exact ⟨ws, hw, by rw [← he, List.take_append_drop]⟩

/-! `hashCon`, `gnuHashCon` with `hash_eq`, `gnuHash_eq` are `HashHeader.hashCon`, `HashHeader.gnuCon` with `spec_hash`,
    `spec_gnu` (Proofs/HashHeader.lean) under C01's names. -/

def hashCon (le : Bool) : Con :=
  st [f "nbuckets" (.uint 4 le), f "nchains" (.uint 4 le), f "buckets" (.array (ctx "nbuckets") (.uint 4 le)),
      f "chains" (.array (ctx "nchains") (.uint 4 le))]

theorem hash_eq (c : ElfCfg) : (elfStructs c).Elf_Hash = hashCon c.le := rfl

def gnuHashCon (le : Bool) (w : Nat) : Con :=
  st [f "nbuckets" (.uint 4 le), f "symoffset" (.uint 4 le), f "bloom_size" (.uint 4 le),
      f "bloom_shift" (.uint 4 le), f "bloom" (.array (ctx "bloom_size") (.uint w le)),
      f "buckets" (.array (ctx "nbuckets") (.uint 4 le))]

theorem gnuHash_eq (c : ElfCfg) : (elfStructs c).Gnu_Hash = gnuHashCon c.le (c.cls / 8) := rfl

def bodyWord (le : Bool) (body : Bytes) (k : Nat) : Nat := decNat le ((body.drop (4 * k)).take 4)

/-- a body that holds the two counts and as many words as they say IS a stored table: of whatever the bytes decode to -/
theorem structParseAt_hash {env : Env} {d : ElfDesc} {data body : Bytes} {off : Nat}
    (hr : readN data off body.length = body) (hoff : off < 2 ^ 63) (h8 : 8 ≤ body.length)
    (h : 8 + 4 * (bodyWord d.le body 0 + bodyWord d.le body 1) ≤ body.length) :
    ∃ r, structParseAt env d.S.Elf_Hash data off = .ok r := by
  simp only [bodyWord, Nat.mul_zero, Nat.mul_one, List.drop_zero] at h
  obtain ⟨e0, l0⟩ := split_word d.le (n := 4) (bs := body) (by omega)
  obtain ⟨e1, l1⟩ := split_word d.le (n := 4) (bs := body.drop 4) (by rw [List.length_drop]; omega)
  obtain ⟨bs, hb, e2⟩ := split_words d.le 4 (k := decNat d.le (body.take 4))
    (bs := (body.drop 4).drop 4) (by simp only [List.length_drop]; omega)
  obtain ⟨cs, hc, e3⟩ := split_words d.le 4 (k := decNat d.le ((body.drop 4).take 4))
    (bs := ((body.drop 4).drop 4).drop (4 * decNat d.le (body.take 4))) (by simp only [List.length_drop]; omega)
  have hd := drop_of_readN hr
  rw [e0, e1, e2, e3, ← hb, ← hc] at hd
  simp only [List.append_assoc] at hd
  rw [show d.S.Elf_Hash = HashHeader.hashCon d.le from HashHeader.spec_hash d.cfg]
  exact ⟨_, (HashHeader.hash_reads (by rw [hb]; exact l0) (by rw [hc]; exact l1)).structParseAt hoff hd⟩

theorem structParseAt_gnuhash {env : Env} {d : ElfDesc} {data body : Bytes} {off : Nat}
    (hr : readN data off body.length = body) (hoff : off < 2 ^ 63) (h16 : 16 ≤ body.length)
    (h : 16 + d.cls / 8 * bodyWord d.le body 2 + 4 * bodyWord d.le body 0 ≤ body.length) :
    ∃ r, structParseAt env d.S.Gnu_Hash data off = .ok r := by
  -- the four header words, then `bloom_size` words of the class's width and `nbuckets` words of four bytes, split off
  -- the body one after the other; `HashHeader.gnu_reads` parses what they spell
  simp only [bodyWord, Nat.mul_zero, List.drop_zero] at h
  obtain ⟨e0, l0⟩ := split_word d.le (n := 4) (bs := body) (by omega)
  obtain ⟨e1, l1⟩ := split_word d.le (n := 4) (bs := body.drop 4) (by rw [List.length_drop]; omega)
  obtain ⟨e2, l2⟩ := split_word d.le (n := 4) (bs := (body.drop 4).drop 4) (by simp only [List.length_drop]; omega)
  obtain ⟨e3, l3⟩ := split_word d.le (n := 4) (bs := ((body.drop 4).drop 4).drop 4)
    (by simp only [List.length_drop]; omega)
  have hw2 : decNat d.le (((body.drop 4).drop 4).take 4) = decNat d.le ((body.drop (4 * 2)).take 4) := by
    rw [List.drop_drop]
  rw [← hw2] at h
  obtain ⟨bloom, hbl, e4⟩ := split_words d.le (d.cls / 8) (k := decNat d.le (((body.drop 4).drop 4).take 4))
    (bs := (((body.drop 4).drop 4).drop 4).drop 4) (by simp only [List.length_drop]; omega)
  obtain ⟨bk, hbk, e5⟩ := split_words d.le 4 (k := decNat d.le (body.take 4))
    (bs := ((((body.drop 4).drop 4).drop 4).drop 4).drop (d.cls / 8 * decNat d.le (((body.drop 4).drop 4).take 4)))
    (by simp only [List.length_drop]; omega)
  have hd := drop_of_readN hr
  rw [e0, e1, e2, e3, e4, e5, ← hbl, ← hbk] at hd
  simp only [List.append_assoc] at hd
  rw [show d.S.Gnu_Hash = HashHeader.gnuCon d.le (d.cls / 8) from HashHeader.spec_gnu d.cfg]
  exact ⟨_, (HashHeader.gnu_reads (by rw [hbk]; exact l0) l1 (by rw [hbl]; exact l2) l3).structParseAt hoff hd⟩

theorem structParseAt_attr {env : Env} {d : ElfDesc} {data body : Bytes} {off : Nat}
    (hr : readN data off body.length = body) (hoff : off < 2 ^ 63) (hh : body.head? = some 0x41) :
    ∃ p, structParseAt env d.S.Elf_byte data off = .ok (.int 0x41, p) := by
  cases body with
  | nil => simp at hh
  | cons b t =>
    simp only [List.head?_cons, Option.some.injEq] at hh
    subst hh
    have hd := drop_of_readN hr
    have hd1 : data.drop off = [0x41] ++ (t ++ data.drop (off + (0x41 :: t).length)) := by simpa using hd
    rw [structParseAt_eq (by omega)]
    unfold structParse
    have hS : d.S.Elf_byte = .uint 1 d.le := rfl
    rw [hS]
    simp only [bind, Except.bind, pure, Except.pure]
    rw [parse_uint_ok (n := 1) hd1 rfl, decNat_singleton]
    exact ⟨_, rfl⟩

/-! One row per constructor chain, in the order of the model's `if` / `elif`: what `secOkZ` grants a section of the row's
    types (`secCond_x`, read off `secCondP`, Proofs/ElfTables.lean) and, beside it, the branch of `kindR` run under exactly
    those grants (`kindR_x`, for any bundle and byte string).  A type without a row, or not a string, gets the plain
    `Section` (`kindR_other`, `kindR_nonstr`). -/

section rows
variable {env : Env} {S : ElfStructs} {data : Bytes} {hdr : Val} {shstr : Option Val} {fuel : Nat}
  {sh : Val} {link : Nat} {name : Bytes} {d : ElfDesc} {s : SecDesc} {h : Val} {t : String}

def knownTypes : List String :=
  ["SHT_STRTAB", "SHT_NULL", "SHT_SYMTAB", "SHT_DYNSYM", "SHT_SUNW_LDYNSYM", "SHT_SYMTAB_SHNDX",
   "SHT_SUNW_syminfo", "SHT_GNU_verneed", "SHT_GNU_verdef", "SHT_GNU_versym", "SHT_REL", "SHT_RELA",
   "SHT_DYNAMIC", "SHT_NOTE", "SHT_PROGBITS", "SHT_ARM_ATTRIBUTES", "SHT_RISCV_ATTRIBUTES", "SHT_HASH",
   "SHT_GNU_HASH", "SHT_RELR"]

/-- types that share a constructor chain share a row -/
theorem knownTypes_rows {t : String} (h : t ∈ knownTypes) :
    t ∈ ["SHT_STRTAB", "SHT_NULL", "SHT_SYMTAB_SHNDX", "SHT_NOTE"] ∨
    t ∈ ["SHT_SYMTAB", "SHT_DYNSYM", "SHT_SUNW_LDYNSYM"] ∨
    t ∈ ["SHT_SUNW_syminfo", "SHT_GNU_versym"] ∨ t ∈ ["SHT_GNU_verneed", "SHT_GNU_verdef"] ∨
    t = "SHT_REL" ∨ t = "SHT_RELA" ∨ t = "SHT_DYNAMIC" ∨ t = "SHT_PROGBITS" ∨
    t ∈ ["SHT_ARM_ATTRIBUTES", "SHT_RISCV_ATTRIBUTES"] ∨ t = "SHT_HASH" ∨ t = "SHT_GNU_HASH" ∨ t = "SHT_RELR" := by
  simp only [knownTypes, List.mem_cons, List.not_mem_nil, or_false] at h ⊢
  rcases h with h | h | h | h | h | h | h | h | h | h | h | h | h | h | h | h | h | h | h | h <;> simp [h]

theorem kindR_nonstr {ty : Val} (hns : ∀ t, ty ≠ .str t)
    (hinit : sectionInit env S data sh = .ok ()) :
    kindR env S data hdr shstr fuel sh ty link name = .ok (kindOf ty name) := by
  have hk : kindOf ty name = "Section" := by
    unfold kindOf
    split <;> first | rfl | (exfalso; exact hns _ rfl)
  simp [kindR, isStr_nonstr hns, hinit, hk, bind, Except.bind, pure, Except.pure]

theorem kindR_simple {t : String} (ht : t ∈ ["SHT_STRTAB", "SHT_NULL", "SHT_SYMTAB_SHNDX", "SHT_NOTE"])
    (hinit : sectionInit env S data sh = .ok ()) :
    kindR env S data hdr shstr fuel sh (.str t) link name = .ok (kindOf (.str t) name) := by
  simp only [List.mem_cons, List.not_mem_nil, or_false] at ht
  rcases ht with rfl | rfl | rfl | rfl <;>
    simp [kindR, isStr, hinit, kindOf, bind, Except.bind, pure, Except.pure]

theorem secCond_symtab (ht : t ∈ ["SHT_SYMTAB", "SHT_DYNSYM", "SHT_SUNW_LDYNSYM"])
    (hty : h.getField "sh_type" = .ok (.str t)) (hc : secCond env d fuel s h = true) :
    linkIsB env d fuel (fieldNat h "sh_link") ["SHT_STRTAB"] = true ∧ 0 < fieldNat h "sh_entsize" ∧
      fieldNat h "sh_size" % fieldNat h "sh_entsize" = 0 := by
  unfold secCond secCondP at hc
  simp only [typeIn_str _ hty] at hc
  simp only [List.mem_cons, List.not_mem_nil, or_false] at ht
  rcases ht with rfl | rfl | rfl <;> simpa [and_assoc] using hc

theorem kindR_symtab {t : String} (ht : t ∈ ["SHT_SYMTAB", "SHT_DYNSYM", "SHT_SUNW_LDYNSYM"])
    (hinit : sectionInit env S data sh = .ok ())
    (hlink : linkedStrtabR env S data hdr shstr fuel link = .ok ())
    {es sz : Nat} (hes : sh.getNat "sh_entsize" = .ok es) (hsz : sh.getNat "sh_size" = .ok sz)
    (h0 : 0 < es) (hmod : sz % es = 0) :
    kindR env S data hdr shstr fuel sh (.str t) link name = .ok (kindOf (.str t) name) := by
  simp only [List.mem_cons, List.not_mem_nil, or_false] at ht
  rcases ht with rfl | rfl | rfl <;>
    simp [kindR, isStr, hinit, hlink, hes, hsz, h0, hmod, kindOf, bind, Except.bind, pure, Except.pure]

theorem secCond_linkSym (ht : t ∈ ["SHT_SUNW_syminfo", "SHT_GNU_versym"])
    (hty : h.getField "sh_type" = .ok (.str t)) (hc : secCond env d fuel s h = true) :
    linkIsB env d fuel (fieldNat h "sh_link") ["SHT_SYMTAB", "SHT_DYNSYM"] = true := by
  unfold secCond secCondP at hc
  simp only [typeIn_str _ hty] at hc
  simp only [List.mem_cons, List.not_mem_nil, or_false] at ht
  rcases ht with rfl | rfl <;> simpa using hc

theorem kindR_linkSym {t : String} (ht : t ∈ ["SHT_SUNW_syminfo", "SHT_GNU_versym"])
    (hinit : sectionInit env S data sh = .ok ())
    (hlink : linkedSymtabR env S data hdr shstr fuel link = .ok ()) :
    kindR env S data hdr shstr fuel sh (.str t) link name = .ok (kindOf (.str t) name) := by
  simp only [List.mem_cons, List.not_mem_nil, or_false] at ht
  rcases ht with rfl | rfl <;>
    simp [kindR, isStr, hinit, hlink, kindOf, bind, Except.bind, pure, Except.pure]

theorem secCond_linkStr (ht : t ∈ ["SHT_GNU_verneed", "SHT_GNU_verdef"])
    (hty : h.getField "sh_type" = .ok (.str t)) (hc : secCond env d fuel s h = true) :
    linkIsB env d fuel (fieldNat h "sh_link") ["SHT_STRTAB"] = true := by
  unfold secCond secCondP at hc
  simp only [typeIn_str _ hty] at hc
  simp only [List.mem_cons, List.not_mem_nil, or_false] at ht
  rcases ht with rfl | rfl <;> simpa using hc

theorem kindR_linkStr {t : String} (ht : t ∈ ["SHT_GNU_verneed", "SHT_GNU_verdef"])
    (hinit : sectionInit env S data sh = .ok ())
    (hlink : linkedStrtabR env S data hdr shstr fuel link = .ok ()) :
    kindR env S data hdr shstr fuel sh (.str t) link name = .ok (kindOf (.str t) name) := by
  simp only [List.mem_cons, List.not_mem_nil, or_false] at ht
  rcases ht with rfl | rfl <;>
    simp [kindR, isStr, hinit, hlink, kindOf, bind, Except.bind, pure, Except.pure]

theorem secCond_rel (hty : h.getField "sh_type" = .ok (.str "SHT_REL")) (hc : secCond env d fuel s h = true) :
    fieldNat h "sh_entsize" = 2 * (d.cls / 8) := by
  unfold secCond secCondP at hc
  simp only [typeIn_str _ hty] at hc
  simpa using hc

theorem kindR_rel (hinit : sectionInit env S data sh = .ok ())
    {es : Nat} (hes : sh.getNat "sh_entsize" = .ok es) (hsz : S.Elf_Rel.sizeof = some es) :
    kindR env S data hdr shstr fuel sh (.str "SHT_REL") link name = .ok (kindOf (.str "SHT_REL") name) := by
  simp [kindR, isStr, hinit, hes, sizeofR, hsz, kindOf, bind, Except.bind, pure, Except.pure]

theorem secCond_rela (hty : h.getField "sh_type" = .ok (.str "SHT_RELA")) (hc : secCond env d fuel s h = true) :
    fieldNat h "sh_entsize" = 3 * (d.cls / 8) := by
  unfold secCond secCondP at hc
  simp only [typeIn_str _ hty] at hc
  simpa using hc

theorem kindR_rela (hinit : sectionInit env S data sh = .ok ())
    {es : Nat} (hes : sh.getNat "sh_entsize" = .ok es) (hsz : S.Elf_Rela.sizeof = some es) :
    kindR env S data hdr shstr fuel sh (.str "SHT_RELA") link name = .ok (kindOf (.str "SHT_RELA") name) := by
  simp [kindR, isStr, hinit, hes, sizeofR, hsz, kindOf, bind, Except.bind, pure, Except.pure]

theorem secCond_dynamic (hty : h.getField "sh_type" = .ok (.str "SHT_DYNAMIC"))
    (hc : secCond env d fuel s h = true) :
    linkIsB env d fuel (fieldNat h "sh_link") ["SHT_STRTAB", "SHT_NOBITS"] = true := by
  unfold secCond secCondP at hc
  simp only [typeIn_str _ hty] at hc
  simpa using hc

theorem kindR_dynamic (hinit : sectionInit env S data sh = .ok ())
    {lh : Val} {t : String} (hget : getSectionHeader env S data hdr link = .ok (some lh))
    (hty : lh.getField "sh_type" = .ok (.str t)) (ht : t ∈ ["SHT_STRTAB", "SHT_NOBITS"])
    {r : String × Bytes} (hmk : makeSection env S data hdr shstr fuel (some lh) = .ok r)
    {n : Nat} (hdyn : S.Elf_Dyn.sizeof = some n) :
    kindR env S data hdr shstr fuel sh (.str "SHT_DYNAMIC") link name
      = .ok (kindOf (.str "SHT_DYNAMIC") name) := by
  simp only [List.mem_cons, List.not_mem_nil, or_false] at ht
  rcases ht with rfl | rfl <;>
    simp [kindR, isStr, hinit, hget, hty, hmk, sizeofR, hdyn, kindOf, bind, Except.bind, pure, Except.pure]

theorem kindR_progbits (hinit : sectionInit env S data sh = .ok ()) :
    kindR env S data hdr shstr fuel sh (.str "SHT_PROGBITS") link name
      = .ok (kindOf (.str "SHT_PROGBITS") name) := by
  unfold kindR kindOf
  generalize ".stab".toUTF8.toList = stab
  by_cases hn : name = stab
  · simp [isStr, hinit, hn, bind, Except.bind, pure, Except.pure]
  · have hn' : (name == stab) = false := by simpa using hn
    simp [isStr, hinit, hn, hn', bind, Except.bind, pure, Except.pure]

theorem secCond_attr (ht : t ∈ ["SHT_ARM_ATTRIBUTES", "SHT_RISCV_ATTRIBUTES"])
    (hty : h.getField "sh_type" = .ok (.str t)) (hc : secCond env d fuel s h = true) :
    fieldNat h "sh_offset" < 2 ^ 63 ∧ (bodyOf s).head? = some 0x41 := by
  unfold secCond secCondP at hc
  simp only [typeIn_str _ hty] at hc
  simp only [List.mem_cons, List.not_mem_nil, or_false] at ht
  rcases ht with rfl | rfl <;> simpa using hc

theorem kindR_attr {t : String} (ht : t ∈ ["SHT_ARM_ATTRIBUTES", "SHT_RISCV_ATTRIBUTES"])
    (hinit : sectionInit env S data sh = .ok ())
    {off p : Nat} (hoff : sh.getNat "sh_offset" = .ok off)
    (hp : structParseAt env S.Elf_byte data off = .ok (.int 0x41, p)) :
    kindR env S data hdr shstr fuel sh (.str t) link name = .ok (kindOf (.str t) name) := by
  simp only [List.mem_cons, List.not_mem_nil, or_false] at ht
  rcases ht with rfl | rfl <;>
    simp [kindR, isStr, hinit, hoff, hp, Val.asInt, kindOf, bind, Except.bind, pure, Except.pure]

theorem secCond_hash (hty : h.getField "sh_type" = .ok (.str "SHT_HASH")) (hc : secCond env d fuel s h = true) :
    linkIsB env d fuel (fieldNat h "sh_link") ["SHT_SYMTAB", "SHT_DYNSYM"] = true ∧
      fieldNat h "sh_offset" < 2 ^ 63 ∧ 8 ≤ (bodyOf s).length ∧
      8 + 4 * (bodyWord d.le (bodyOf s) 0 + bodyWord d.le (bodyOf s) 1) ≤ (bodyOf s).length := by
  unfold secCond secCondP at hc
  simp only [typeIn_str _ hty] at hc
  simpa [and_assoc, bodyWord] using hc

theorem kindR_hash (hinit : sectionInit env S data sh = .ok ())
    (hlink : linkedSymtabR env S data hdr shstr fuel link = .ok ())
    {off : Nat} (hoff : sh.getNat "sh_offset" = .ok off) {r : Val × Nat}
    (hp : structParseAt env S.Elf_Hash data off = .ok r) :
    kindR env S data hdr shstr fuel sh (.str "SHT_HASH") link name = .ok (kindOf (.str "SHT_HASH") name) := by
  simp [kindR, isStr, hinit, hlink, hoff, hp, kindOf, bind, Except.bind, pure, Except.pure]

theorem secCond_gnuhash (hty : h.getField "sh_type" = .ok (.str "SHT_GNU_HASH"))
    (hc : secCond env d fuel s h = true) :
    linkIsB env d fuel (fieldNat h "sh_link") ["SHT_SYMTAB", "SHT_DYNSYM"] = true ∧
      fieldNat h "sh_offset" < 2 ^ 63 ∧ 16 ≤ (bodyOf s).length ∧
      16 + d.cls / 8 * bodyWord d.le (bodyOf s) 2 + 4 * bodyWord d.le (bodyOf s) 0 ≤ (bodyOf s).length := by
  unfold secCond secCondP at hc
  simp only [typeIn_str _ hty] at hc
  simpa [and_assoc, bodyWord] using hc

theorem kindR_gnuhash (hinit : sectionInit env S data sh = .ok ())
    (hlink : linkedSymtabR env S data hdr shstr fuel link = .ok ())
    {off : Nat} (hoff : sh.getNat "sh_offset" = .ok off) {r : Val × Nat}
    (hp : structParseAt env S.Gnu_Hash data off = .ok r)
    {n1 n2 : Nat} (h1 : S.Elf_word.sizeof = some n1) (h2 : S.Elf_xword.sizeof = some n2) :
    kindR env S data hdr shstr fuel sh (.str "SHT_GNU_HASH") link name
      = .ok (kindOf (.str "SHT_GNU_HASH") name) := by
  simp [kindR, isStr, hinit, hlink, hoff, hp, sizeofR, h1, h2, kindOf, bind, Except.bind, pure, Except.pure]

theorem secCond_relr (hty : h.getField "sh_type" = .ok (.str "SHT_RELR")) (hc : secCond env d fuel s h = true) :
    fieldNat h "sh_entsize" = d.cls / 8 := by
  unfold secCond secCondP at hc
  simp only [typeIn_str _ hty] at hc
  simpa using hc

theorem kindR_relr (hinit : sectionInit env S data sh = .ok ())
    {es : Nat} (hes : sh.getNat "sh_entsize" = .ok es) (hsz : S.Elf_Relr.sizeof = some es) :
    kindR env S data hdr shstr fuel sh (.str "SHT_RELR") link name = .ok (kindOf (.str "SHT_RELR") name) := by
  simp [kindR, isStr, hinit, hes, sizeofR, hsz, kindOf, bind, Except.bind, pure, Except.pure]

theorem isStr_ne {t s : String} (h : ¬ t = s) : isStr (.str t) s = false := by simp [isStr, h]

theorem kindOf_other {t : String} (ht : t ∉ knownTypes) (name : Bytes) : kindOf (.str t) name = "Section" := by
  simp only [knownTypes, List.mem_cons, List.not_mem_nil, or_false, not_or] at ht
  obtain ⟨h1, h2, h3, h4, h5, h6, h7, h8, h9, h10, h11, h12, h13, h14, h15, h16, h17, h18, h19, h20⟩ := ht
  have ne : ∀ {s : String}, ¬ t = s → Val.str t = Val.str s → False := fun h e => h (Val.str.inj e)
  -- the definition's own equation for the default row asks for exactly these twenty disequalities
  exact kindOf.eq_21 _ _ (ne h1) (ne h2) (ne h3) (ne h4) (ne h5) (ne h6) (ne h7) (ne h8) (ne h9) (ne h10) (ne h11)
    (ne h12) (ne h13) (ne h14) (ne h15) (ne h16) (ne h17) (ne h18) (ne h19) (ne h20)

theorem kindR_other {t : String} (ht : t ∉ knownTypes)
    (hinit : sectionInit env S data sh = .ok ()) :
    kindR env S data hdr shstr fuel sh (.str t) link name = .ok (kindOf (.str t) name) := by
  rw [kindOf_other ht]
  simp only [knownTypes, List.mem_cons, List.not_mem_nil, or_false, not_or] at ht
  obtain ⟨h1, h2, h3, h4, h5, h6, h7, h8, h9, h10, h11, h12, h13, h14, h15, h16, h17, h18, h19, h20⟩ := ht
  simp only [kindR, isStr_ne, Bool.or_self, Bool.false_and, Bool.false_eq_true, if_false, bind, Except.bind, pure,
    Except.pure, not_false_eq_true, *]

end rows

theorem kindR_ok {env : Env} {d : ElfDesc} {bytes : Bytes} {hdr : Val} {st : Option Val}
    (X : Setup env d bytes hdr st) {fuel : Nat} (IH : MakeOk env d bytes hdr st fuel)
    {i : Nat} (hi : i < d.sections.length) {h : Val} (hsf : SecFacts env d (d.sections[i]) h)
    (hinit : sectionInit env d.S bytes h = .ok ()) (hc : secCond env d fuel (d.sections[i]) h = true)
    {ty : Val} (hty : h.getField "sh_type" = .ok ty) :
    kindR env d.S bytes hdr st fuel h ty (fieldNat h "sh_link") (d.sections[i]).name
      = .ok (kindOf ty (d.sections[i]).name) := by
  have hes := hsf.nat "sh_entsize" (by simp [shdrNatKeys])
  have hsz := hsf.nat "sh_size" (by simp [shdrNatKeys])
  have hoff := hsf.nat "sh_offset" (by simp [shdrNatKeys])
  have hoffraw := hsf.raw "sh_offset" (by simp [shdrNatKeys]) (by decide)
  by_cases hns : ∀ t, ty ≠ .str t
  · exact kindR_nonstr hns hinit
  · have : ∃ t, ty = .str t := by
      cases ty <;> first | exact ⟨_, rfl⟩ | (exfalso; apply hns; intro t ht; cases ht)
    obtain ⟨t, rfl⟩ := this
    by_cases hk : t ∈ knownTypes
    · have hbody := body_read X.hL (List.getElem_mem hi)
      rcases knownTypes_rows hk with r | r | r | r | r | r | r | r | r | r | r | r
      · exact kindR_simple r hinit
      · obtain ⟨h1, h2, h3⟩ := secCond_symtab r hty hc
        exact kindR_symtab r hinit (linkedStrtabR_ok X IH h1) hes hsz h2 h3
      · exact kindR_linkSym r hinit (linkedSymtabR_ok X IH (secCond_linkSym r hty hc))
      · exact kindR_linkStr r hinit (linkedStrtabR_ok X IH (secCond_linkStr r hty hc))
      · subst r
        rw [secCond_rel hty hc] at hes
        exact kindR_rel hinit hes (rel_sizeof d.cfg X.hw.cls).1
      · subst r
        rw [secCond_rela hty hc] at hes
        exact kindR_rela hinit hes (rel_sizeof d.cfg X.hw.cls).2
      · subst r
        obtain ⟨lh, t, hdec, hlty, hm, hok⟩ := linkIs_unpack (secCond_dynamic hty hc)
        obtain ⟨r, hr⟩ := IH _ lh hok hdec
        obtain ⟨n, hn⟩ := dyn_sizeof d.cfg
        exact kindR_dynamic hinit (getSectionHeader_ok X.hw X.hL X.hf hdec) hlty hm hr hn
      · subst r
        exact kindR_progbits hinit
      · obtain ⟨h1, h2⟩ := secCond_attr r hty hc
        obtain ⟨p, hp⟩ := structParseAt_attr (env := env) (d := d) hbody (by rw [← hoffraw]; exact h1) h2
        rw [hoffraw] at hoff
        exact kindR_attr r hinit hoff hp
      · subst r
        obtain ⟨h1, h2, h3, h4⟩ := secCond_hash hty hc
        obtain ⟨r, hr⟩ := structParseAt_hash (env := env) (d := d) hbody (by rw [← hoffraw]; exact h2) h3 h4
        rw [hoffraw] at hoff
        exact kindR_hash hinit (linkedSymtabR_ok X IH h1) hoff hr
      · subst r
        obtain ⟨h1, h2, h3, h4⟩ := secCond_gnuhash hty hc
        obtain ⟨r, hr⟩ := structParseAt_gnuhash (env := env) (d := d) hbody (by rw [← hoffraw]; exact h2) h3 h4
        rw [hoffraw] at hoff
        exact kindR_gnuhash hinit (linkedSymtabR_ok X IH h1) hoff hr (word_sizeof d.cfg) (xword_sizeof d.cfg)
      · subst r
        rw [secCond_relr hty hc] at hes
        exact kindR_relr hinit hes (relr_sizeof d.cfg)
    · exact kindR_other hk hinit

theorem makeSection_ok {env : Env} {d : ElfDesc} {bytes : Bytes} {hdr : Val} {st : Option Val}
    (X : Setup env d bytes hdr st) {fuel : Nat} (IH : MakeOk env d bytes hdr st fuel) {i : Nat} {s : SecDesc} {h : Val}
    (B : SecOk env d bytes fuel i s h) :
    makeSection env d.S bytes hdr st (fuel + 1) (some h)
      = .ok (kindOf (enumVal env.enumDecode (shTypeTable d.mclass) (getNatD s.hdr "sh_type")) s.name, s.name) := by
  obtain ⟨hi, rfl⟩ := List.getElem?_eq_some_iff.1 B.mem
  rw [makeSection_eq _ _ _ _ _ _ _ (getSectionName_ok X.hw.tab X.hw.names X.hw.nameoff X.hL X.hf X.hst hi B.facts)
    B.facts.ty (B.facts.nat "sh_link" (by simp [shdrNatKeys])), kindR_ok X IH hi B.facts B.init B.cond B.facts.ty]
  rfl

theorem makeSection_links {env : Env} {d : ElfDesc} {bytes : Bytes} {hdr : Val} {st : Option Val}
    (X : Setup env d bytes hdr st) : ∀ fuel, MakeOk env d bytes hdr st fuel
  | 0 => fun i h hok _ => by simp [ElfDesc.secOkZ] at hok
  | fuel + 1 => fun i h hok hdec => by
    obtain ⟨s, h', B⟩ := sec_bundle X.hw.cls X.hL hok
    obtain rfl : h' = h := Option.some.inj (B.dec.symm.trans hdec)
    exact ⟨_, makeSection_ok X (makeSection_links X fuel) B⟩

end PyElf.Proofs
