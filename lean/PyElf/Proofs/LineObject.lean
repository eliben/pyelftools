/-
  The `LineProgram` object the property prescribes for a unit placed at an offset: `lpOfX` for the unit
  `encodeUnitX h ext body`, which may carry extension bytes between the tables and the program, covered by
  `header_length`; `lpOf` for the unit without them, the case `ext = []` (`encodeUnitX_nil`, `lpOfX_nil`).  With them the
  length of a unit and where its program starts (`encodeUnitX_length`, `drop_bodyX`).
  Continues the namespace `PyElf.Proofs.Line` (Proofs/LineFit.lean).
-/
import PyElf.Proofs.LineFit
import PyElf.Model.LineProgram
import PyElf.Proofs.Primitives
namespace PyElf.Proofs.Line
open PyElf PyElf.Spec PyElf.Spec.Line PyElf.Model.Line PyElf.Proofs

theorem encInitLen_length (le fmt64 : Bool) (n : Nat) :
    (encInitLen le (initLenOf fmt64 n)).length = initLenSize fmt64 := by
  cases fmt64 <;> simp [encInitLen, initLenOf, initLenSize, encNat_length]

/-- the `LineProgram` object the property prescribes for unit `(h, is)` placed at `off` -/
def lpOf (h : Header) (secs : StrSecs) (is : List Instr) (off : Nat) : LineProg :=
  { header := h.observe secs is,
    fileEntry := if h.version ≥ 5 then none else some (h.files.map FileEntry.obs),
    program_start_offset := off + headerSize h,
    program_end_offset := off + (encodeUnit h is).length,
    decoded := none }

/-- the `LineProgram` object the property prescribes for the unit `encodeUnitX h ext body` placed at `off`:
    the program is `body`, it starts `header_length` bytes past the `header_length` field -/
def lpOfX (h : Header) (secs : StrSecs) (ext body : Bytes) (off : Nat) : LineProg :=
  { header := h.observeX secs ext body,
    fileEntry := if h.version ≥ 5 then none else some (h.files.map FileEntry.obs),
    program_start_offset := off + headerSizeX h ext,
    program_end_offset := off + (encodeUnitX h ext body).length,
    decoded := none }

theorem encodeUnitX_length (h : Header) (ext body : Bytes) :
    (encodeUnitX h ext body).length = headerSizeX h ext + body.length := by
  simp [encodeUnitX, headerSizeX, encInitLen_length]; omega

theorem drop_bodyX (h : Header) (ext body pre rest : Bytes) :
    (pre ++ encodeUnitX h ext body ++ rest).drop (pre.length + headerSizeX h ext) = body ++ rest := by
  -- the unit ends in `body`, and what stands before it has the length `encodeUnitX_length` leaves
  obtain ⟨X, hX⟩ : ∃ X, encodeUnitX h ext body = X ++ body :=
    ⟨encInitLen h.p.le (initLenOf h.fmt64 (h.midX ext ++ h.tail ++ ext ++ body).length) ++ (h.midX ext ++ h.tail ++ ext),
      by simp [encodeUnitX, List.append_assoc]⟩
  have hl : X.length = headerSizeX h ext := by
    have := encodeUnitX_length h ext body
    rw [hX, List.length_append] at this
    omega
  rw [← List.drop_drop, drop_pre, hX, List.append_assoc, ← hl, List.drop_left]

theorem lpOfX_files (h : Header) (secs : StrSecs) (ext body : Bytes) (off : Nat) :
    h.version ≤ 4 → (lpOfX h secs ext body off).fileEntry.isSome = true := by
  intro hv
  have : ¬ h.version ≥ 5 := by omega
  simp [lpOfX, this]

theorem midX_nil (h : Header) : h.midX [] = h.mid := by
  simp [Header.midX, Header.mid]

theorem encodeUnitX_nil (h : Header) (is : List Instr) :
    encodeUnitX h [] (encodeProgram h.p is) = encodeUnit h is := by
  simp [encodeUnitX, encodeUnit, midX_nil]

theorem headerSizeX_nil (h : Header) : headerSizeX h [] = headerSize h := by
  simp [headerSizeX, headerSize, midX_nil]

theorem observe_eq_observeG (h : Header) (secs : StrSecs) (is : List Instr) :
    h.observe secs is = h.observeG secs (h.mid ++ h.tail ++ encodeProgram h.p is).length h.tail.length := rfl

theorem observeX_nil (h : Header) (secs : StrSecs) (is : List Instr) :
    h.observeX secs [] (encodeProgram h.p is) = h.observe secs is := by
  simp [Header.observeX, observe_eq_observeG, midX_nil]

theorem lpOfX_nil (h : Header) (secs : StrSecs) (is : List Instr) (off : Nat) :
    lpOfX h secs [] (encodeProgram h.p is) off = lpOf h secs is off := by
  simp [lpOfX, lpOf, observeX_nil, headerSizeX_nil, encodeUnitX_nil]

end PyElf.Proofs.Line
