/-
  The hash-table headers parse back to the tables the encoders wrote; chain words are read back.
-/
import PyElf.Proofs.GnuLookup
import PyElf.Proofs.HashHeader
import PyElf.Proofs.Fixed
namespace PyElf.Proofs
open PyElf PyElf.Spec PyElf.Model

/-- equal once the stored words fit their size (`wordsVal` reduces them) -/
theorem hashRec_eq_sysvParams {t : SysVTable} (hb : t.buckets.length = t.nbucket) (hc : t.chains.length = t.nchain)
    (hbl : ∀ w ∈ t.buckets, w < 2 ^ 32) (hcl : ∀ w ∈ t.chains, w < 2 ^ 32) :
    HashHeader.hashRec t.buckets t.chains = sysvParams t := by
  simp [HashHeader.hashRec, HashHeader.wordsVal_of_lt (n := 4) hbl, HashHeader.wordsVal_of_lt (n := 4) hcl, sysvParams,
    natsVal, hb, hc]

theorem gnuRec_eq_gnuParams {t : GnuTable} {w : Nat} (hb : t.buckets.length = t.nbuckets) (hbl : t.bloom.length = t.bloomSize)
    (hbloom : ∀ x ∈ t.bloom, x < 256 ^ w) (hbk : ∀ x ∈ t.buckets, x < 2 ^ 32) :
    HashHeader.gnuRec w t.symoffset t.bloomShift t.bloom t.buckets = gnuParams t := by
  simp [HashHeader.gnuRec, HashHeader.wordsVal_of_lt hbloom, HashHeader.wordsVal_of_lt (n := 4) hbk, gnuParams, natsVal,
    hb, hbl]

/-- `ELFHashTable.__init__` -/
theorem elfHashInit_ok (env : Env) (c : ElfCfg) (t : SysVTable) (data : Bytes) (off : Nat) (rest : Bytes)
    (hb : t.buckets.length = t.nbucket) (hc : t.chains.length = t.nchain)
    (hnb : t.nbucket < 2 ^ 32) (hnc : t.nchain < 2 ^ 32)
    (hbl : ∀ w ∈ t.buckets, w < 2 ^ 32) (hcl : ∀ w ∈ t.chains, w < 2 ^ 32)
    (hd : data.drop off = encSysV c.le t ++ rest) :
    elfHashInit (Spec.elfStructs c) env data off = .ok (sysvParams t) := by
  rw [elfHashInit, HashHeader.spec_hash, HashHeader.structParse_hash env c.le t.buckets t.chains (by omega) (by omega)
    (rest := rest) (by rw [hd]; simp [encSysV, encWords, hb, hc]), hashRec_eq_sysvParams hb hc hbl hcl]
  rfl

theorem readHashWord_words {data : Bytes} {le : Bool} {rest : Bytes} {ws : List Nat} {cp : Nat}
    (hd : data.drop cp = encWords le 4 ws ++ rest) (hlt : ∀ w ∈ ws, w < 2 ^ 32) :
    ∀ k (hk : k < ws.length), readHashWord le data (cp + k * 4) = .ok ws[k] := by
  intro k hk
  have hr := Engine.drop_entry (fun w _ => encNat_length le 4 w) hk hd
  have hlen : (encNat le 4 ws[k]).length = 4 := encNat_length _ _ _
  have : readN data (cp + k * 4) 4 = encNat le 4 ws[k] := by rw [← readN_of_drop hr, hlen]
  simp only [readHashWord, this, hlen, if_true]
  rw [decNat_encNat_of_lt le (show ws[k] < 256 ^ 4 by have := hlt _ (List.getElem_mem hk); omega)]

/-- `GNUHashTable.__init__` -/
theorem gnuHashInit_ok (env : Env) (c : ElfCfg) (t : GnuTable) (data : Bytes) (off : Nat) (rest : Bytes)
    (hb : t.buckets.length = t.nbuckets) (hbl : t.bloom.length = t.bloomSize)
    (h1 : t.nbuckets < 2 ^ 32) (h2 : t.symoffset < 2 ^ 32) (h3 : t.bloomSize < 2 ^ 32) (h4 : t.bloomShift < 2 ^ 32)
    (hbloom : ∀ w ∈ t.bloom, w < 256 ^ (c.cls / 8)) (hbk : ∀ w ∈ t.buckets, w < 2 ^ 32)
    (hd : data.drop off = encGnu c.le c.cls t ++ rest) :
    ∃ g, gnuHashInit (Spec.elfStructs c) env c.cls data off = .ok g ∧ g.params = gnuParams t ∧ g.wordsize = 4
      ∧ data.drop g.chainPos = encWords c.le 4 t.chain ++ rest := by
  obtain ⟨hparse, hchain⟩ := HashHeader.structParse_gnu env c.le (c.cls / 8) t.symoffset t.bloomShift t.bloom t.buckets
    (by omega) h2 (by omega) h4 (rest := encWords c.le 4 t.chain ++ rest)
    (by rw [hd]; simp [encGnu, wsz, encWords, hb, hbl])
  rw [gnuRec_eq_gnuParams hb hbl hbloom hbk] at hparse
  refine ⟨{ params := gnuParams t, wordsize := 4, xwordsize := c.cls / 8,
            chainPos := off + 4 * 4 + t.bloomSize * (c.cls / 8) + t.nbuckets * 4 }, ?_, rfl, rfl, ?_⟩
  · simp only [gnuHashInit, HashHeader.spec_gnu, hparse, bind, Except.bind, gnu_getNat_bloom_size, gnu_getNat_nbuckets,
      pure, Except.pure]
  · rw [show off + 4 * 4 + t.bloomSize * (c.cls / 8) + t.nbuckets * 4
          = off + 16 + c.cls / 8 * t.bloom.length + 4 * t.buckets.length by
        rw [hb, hbl, Nat.mul_comm t.bloomSize, Nat.mul_comm t.nbuckets]]
    exact hchain

theorem gnu_init_of_wf (env : Env) {S : ElfStructs} (c : ElfCfg) (hG : S.Gnu_Hash = (Spec.elfStructs c).Gnu_Hash)
    (hcls : c.cls = 32 ∨ c.cls = 64) (names : List Bytes) (t : GnuTable)
    (data : Bytes) (off : Nat) (rest : Bytes) (hwf : WFGnu c.cls names t = true)
    (hd : data.drop off = encGnu c.le c.cls t ++ rest) :
    ∃ g, gnuHashInit S env c.cls data off = .ok g ∧ g.params = gnuParams t ∧ g.wordsize = 4
      ∧ ∀ k (hk : k < t.chain.length), readHashWord c.le data (g.chainPos + k * 4) = .ok t.chain[k] := by
  -- `__init__` reads the bundle through `Gnu_Hash` only
  have hS : gnuHashInit S env c.cls data off = gnuHashInit (Spec.elfStructs c) env c.cls data off := by
    simp only [gnuHashInit, hG]
  rw [hS]
  -- `gnuHashInit_ok` asks that every stored word fit its size: Bloom words by `GnuRanges`, buckets because each is 0 or
  -- a symbol index (`mem_buckets`), chain words by `GnuEntryFacts.word32`
  have F : GnuFacts c.cls names.length (gnuHashes names t.symoffset) t := WFGnuH_facts hwf
  have R := WFGnuH_ranges hwf
  have hn32 := R.n32
  have hso : t.symoffset < 2 ^ 32 := by have := F.son; omega
  have hbloom : ∀ w ∈ t.bloom, w < 256 ^ (c.cls / 8) := by
    intro w hw
    have := R.bloom w hw
    rcases hcls with h | h <;> rw [h] at this ⊢ <;> omega
  have hbk : ∀ w ∈ t.buckets, w < 2 ^ 32 := by
    intro w hw
    obtain ⟨b, -, rfl⟩ := mem_buckets F hw
    simp only [gnuFirst]
    cases hfi : (gnuHashes names t.symoffset).findIdx? (fun h => h % t.nbuckets == b) with
    | none => simp
    | some f =>
      obtain ⟨hflt, _, _⟩ := List.findIdx?_eq_some_iff_getElem.mp hfi
      have := F.hslen
      simp only; omega
  obtain ⟨g, hg1, hg2, hg3, hg4⟩ := gnuHashInit_ok env c t data off rest F.blen F.bllen R.nb32 hso R.bs32 R.sh32 hbloom hbk hd
  refine ⟨g, hg1, hg2, hg3, ?_⟩
  apply readHashWord_words hg4
  intro w hw
  obtain ⟨k, hk, rfl⟩ := List.mem_iff_getElem.mp hw
  exact (F.entryFacts (F.clen ▸ hk)).word32

theorem sysv_init_of_wf (env : Env) {S : ElfStructs} (c : ElfCfg) (hH : S.Elf_Hash = (Spec.elfStructs c).Elf_Hash)
    (names : List Bytes) (t : SysVTable)
    (data : Bytes) (off : Nat) (rest : Bytes) (hwf : WFSysV names t = true)
    (hd : data.drop off = encSysV c.le t ++ rest) :
    elfHashInit S env data off = .ok (sysvParams t) := by
  have hS : elfHashInit S env data off = elfHashInit (Spec.elfStructs c) env data off := by
    simp only [elfHashInit, hH]
  rw [hS]
  have F := WFSysV_facts hwf
  have R := WFSysV_ranges hwf
  exact elfHashInit_ok env c t data off rest F.blen F.clen R.nb32 R.nc32
    (fun w hw => Nat.lt_trans (R.blt w hw) R.nc32) (fun w hw => Nat.lt_trans (R.clt w hw) R.nc32) hd

end PyElf.Proofs
