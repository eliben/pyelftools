/-
  C20, malformed build-attributes sections: unknown tag, `sh_size` beyond the file, file ending inside the section.
  Per level only "the member that holds the defect fails" is proved (`bad_*`, the `cut` halves of the `Parses` statements
  of Proofs/Attrs.lean); `Walk.walk_firstBad` / `walk_fail` / `walk_cut` step over the well-formed members before it.
-/
import PyElf.Spec.AttrMalformed
import PyElf.Proofs.Attrs
namespace PyElf.Proofs.C20
open PyElf PyElf.Spec PyElf.Spec.Attr PyElf.Spec.C20 PyElf.Model PyElf.Model.Attr PyElf.Proofs PyElf.Proofs.Attrs PyElf.Proofs.Engine
open PyElf.Proofs.Walk

theorem parse_tagStruct_unknown {env : Env} {data : Bytes} {pos : Nat} {rest : Bytes} {u : U} {tbl : String}
    (hu : u.wf = true) (hd : data.drop pos = u.enc ++ rest)
    (hn : env.enumDecode tbl (u.v : Int) = none) :
    structParse env (.struct (.cons (some "tag") false (.enum .uleb tbl false) .nil)) data pos
      = .error .elfParseError := by
  obtain ⟨hl, hv⟩ := U_wf_iff hu
  -- the number is read; the enum has no name for it and no default
  have h2 : Con.parse env data (.enum .uleb tbl false) [] pos = .error .elfParseError := by
    rw [parse_enum_int (parse_ulebN hd hl hv), hn]; rfl
  exact structParse_error (ctx := []) (parse_struct_error (parseFields_error h2))

section
variable {arch : Arch} {env : Env} {cfg : ElfCfg} {data : Bytes}
  (henv : ∀ t : Nat, env.enumDecode (tagTableId arch) (t : Int) = tagName arch t)
include henv

/-- the library's `Enum` has no default -/
theorem attributeAt_unknown {pos : Nat} {rest : Bytes} {u : U} (hu : u.wf = true)
    (hn : tagName arch u.v = none) (hd : data.drop pos = u.enc ++ rest) :
    attributeAt arch env (Spec.elfStructs cfg) data pos = .error .elfParseError := by
  cases arch with
  | arm =>
    have hfuel : data.length - pos + 2 = (data.length - pos + 1) + 1 := rfl
    rw [attributeAt, hfuel, armAttribute, S_armTag,
      parse_tagStruct_unknown (tbl := "ENUM_ATTR_TAG_ARM") hu hd ((henv u.v).trans hn)]
    rfl
  | riscv =>
    rw [attributeAt, riscvAttribute, S_riscvTag,
      parse_tagStruct_unknown (tbl := "ENUM_ATTR_TAG_RISCV") hu hd ((henv u.v).trans hn)]
    rfl

theorem subsUnknownTag_length {ss : List SubSub} (h : subsUnknownTag arch ss = true) :
    1 ≤ (encSubSubs cfg.le ss).length := by
  cases ss with
  | nil => simp [subsUnknownTag] at h
  | cons s ss => rw [encSubSubs_cons, List.length_append, encSubSub_length, SubSub.size]; omega

theorem bad_attr (x : Attribute) (p : Nat) (rest : Bytes) (h : (x.tag.wf && (tagName arch x.tag.v).isNone) = true)
    (hd : data.drop p = encAttr x ++ rest) :
    1 ≤ (encAttr x).length ∧ attrItem (attributeAt arch env (Spec.elfStructs cfg) data) p = .error .elfParseError := by
  simp only [Bool.and_eq_true, Option.isNone_iff_eq_none] at h
  rw [encAttr, List.append_assoc] at hd
  refine ⟨by have := (U_wf_iff h.1).1; rw [encAttr, List.length_append, U_enc_length]; omega, ?_⟩
  rw [attrItem, attributeAt_unknown henv h.1 h.2 hd]; rfl

theorem bad_subSub (s : SubSub) (p : Nat) (rest : Bytes)
    (h : (subSubHdrWf arch s && attrsUnknownTag arch s.attrs) = true) (hd : data.drop p = encSubSub cfg.le s ++ rest) :
    1 ≤ (encSubSub cfg.le s).length ∧
      subsubItem (attributeAt arch env (Spec.elfStructs cfg) data) data.length p = .error .elfParseError := by
  rw [Bool.and_eq_true] at h
  obtain ⟨hd1, hd2, esz⟩ := subSub_layout hd
  refine ⟨by rw [encSubSub_length, SubSub.size]; omega, ?_⟩
  -- the header is read; the attribute walk behind it fails
  rw [subsubItem, (parses_subsubHdr henv h.1 p).ok hd1, Engine.ok_bind, attributesLoop_eq_walk,
    walk_firstBad (reads_attr (cfg := cfg) henv) (bad_attr henv) (f := attrsUnknownTag arch) rfl
      (fun _ _ => rfl) s.attrs (data.length + 2) _ (p + s.size) rest [] h.2 hd2 (Nat.le_of_eq esz) (by omega)]
  rfl

theorem bad_subSection (s : SubSection) (p : Nat) (rest : Bytes)
    (h : (strWf s.vendor && decide (s.length cfg.le < 2 ^ 32) && subsUnknownTag arch s.subs) = true)
    (hd : data.drop p = encSubSection cfg.le s ++ rest) :
    1 ≤ (encSubSection cfg.le s).length ∧
      subsecItem arch env (Spec.elfStructs cfg) data p = .error .elfParseError := by
  simp only [Bool.and_eq_true, decide_eq_true_eq] at h
  obtain ⟨⟨hvendor, hlen⟩, hbad⟩ := h
  obtain ⟨hd1, hd2, esz⟩ := subSection_layout hd
  refine ⟨by rw [encSubSection_length, SubSection.length]; omega, ?_⟩
  rw [subsecItem, (parses_subsecHdr hvendor hlen p).ok hd1, Engine.ok_bind, subsubLoop_eq_walk,
    walk_firstBad (reads_subSub (cfg := cfg) henv) (bad_subSub henv) (f := subsUnknownTag arch) rfl
      (fun _ _ => rfl) s.subs (data.length + 2) _ (p + s.length cfg.le) rest [] hbad hd2 (Nat.le_of_eq esz) (by omega)]
  rfl

theorem attrs_unknown_tag_at (sec : Spec.Attr.Section) (rest : Bytes) (off : Nat)
    (hbad : sectionUnknownTag arch cfg.le sec = true)
    (hd : data.drop off = Spec.Attr.encSection cfg.le sec ++ rest) :
    attributesSection arch env (Spec.elfStructs cfg) data off (Spec.Attr.encSection cfg.le sec).length
      = .error .elfParseError := by
  obtain ⟨hd1, hd2, e⟩ := encSection_layout hd
  rw [attributesSection_open _ hd1, walk_firstBad (reads_subSection (cfg := cfg) henv) (bad_subSection henv)
    (f := sectionUnknownTag arch cfg.le) rfl (fun _ _ => rfl) sec _ _ _ rest [] hbad hd2 (Nat.le_of_eq e.symm) (by omega)]
  rfl

theorem attrs_size_overrun_at (sec : Spec.Attr.Section) (off shSize : Nat)
    (hwf : Spec.Attr.sectionWf arch cfg.le sec = true)
    (hd : data.drop off = Spec.Attr.encSection cfg.le sec)
    (hsize : (Spec.Attr.encSection cfg.le sec).length < shSize) :
    attributesSection arch env (Spec.elfStructs cfg) data off shSize = .error .elfParseError := by
  obtain ⟨hd1, hd2, e⟩ := encSection_layout (rest := []) (by rw [hd, List.append_nil])
  -- behind the last subsection the data end: the next header is cut at its first byte
  have hitem : subsecItem arch env (Spec.elfStructs cfg) data (off + 1 + (sec.flatMap (encSubSection cfg.le)).length)
      = .error .elfParseError := by
    rw [subsecItem, (parses_subsecHdr (s := ⟨[], []⟩) (by decide) (by simp [SubSection.length, encSubSubs]) _).cut
      (j := 0) (by simp [subSecHdr]) (by rw [drop_add_of_drop hd2]; rfl)]
    rfl
  rw [attributesSection_open _ hd1, walk_fail (reads_subSection (cfg := cfg) henv) [] (sectionWf_iff.1 hwf) hd2
    (by omega) (by omega) hitem]
  rfl

theorem attrs_truncated_at (sec : Spec.Attr.Section) (off k : Nat)
    (hwf : Spec.Attr.sectionWf arch cfg.le sec = true)
    (hd : data.drop off = (Spec.Attr.encSection cfg.le sec).take k)
    (hk : k < (Spec.Attr.encSection cfg.le sec).length) :
    attributesSection arch env (Spec.elfStructs cfg) data off (Spec.Attr.encSection cfg.le sec).length
      = .error .elfParseError := by
  cases k with
  | zero =>
    rw [attributesSection, S_byte, (parses_u8 0x41).cut (j := 0) (by decide) (by simpa using hd)]
    rfl
  | succ k =>
    have hd1 : data.drop off = 0x41 :: (sec.flatMap (encSubSection cfg.le)).take k := by
      rw [hd]; simp [Spec.Attr.encSection, encSubSections]
    have hk' : k < (sec.flatMap (encSubSection cfg.le)).length := by
      have : (Spec.Attr.encSection cfg.le sec).length = (sec.flatMap (encSubSection cfg.le)).length + 1 := rfl
      omega
    rw [attributesSection_open _ hd1, walk_cut (reads_subSection (cfg := cfg) henv)
      (fun s p _ hs hj hd => (parses_subSection (cfg := cfg) henv hs p).cut hj hd) [] (sectionWf_iff.1 hwf) hk'
      (drop_cons_inv hd1).2 (by rw [show (Spec.Attr.encSection cfg.le sec).length
        = (sec.flatMap (encSubSection cfg.le)).length + 1 from rfl]; omega) (by omega)]
    rfl

end

end PyElf.Proofs.C20
