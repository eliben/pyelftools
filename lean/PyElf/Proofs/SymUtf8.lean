/-
  `utf8Replace` (Spec/SymbolsUtf8.lean) against `validUtf8`
  (Spec/Symbols.lean): well-formed names are reported unchanged; whatever the bytes, the reported name is
  well-formed (it is a `str`).  Both follow from one turn of the decoder (`utf8Replace_step`).
-/
import PyElf.Spec.SymbolsUtf8
namespace PyElf.Proofs.C03U
open PyElf PyElf.Spec PyElf.Spec.C03

theorem secondOk_e {b0 : UInt8} (b1 : UInt8) (h : inRange b0 0xE0 0xEF = true) :
    secondOk b0 b1 = (if b0.toNat = 0xE0 then inRange b1 0xA0 0xBF else if b0.toNat = 0xED then inRange b1 0x80 0x9F
      else inRange b1 0x80 0xBF) := by
  simp only [inRange, Bool.and_eq_true, decide_eq_true_eq] at h
  unfold secondOk isCont
  have h1 : ¬ b0.toNat = 0xF0 := by omega
  have h2 : ¬ b0.toNat = 0xF4 := by omega
  simp only [h1, h2, if_false]

theorem secondOk_f {b0 : UInt8} (b1 : UInt8) (h : inRange b0 0xF0 0xF4 = true) :
    secondOk b0 b1 = (if b0.toNat = 0xF0 then inRange b1 0x90 0xBF else if b0.toNat = 0xF4 then inRange b1 0x80 0x8F
      else inRange b1 0x80 0xBF) := by
  simp only [inRange, Bool.and_eq_true, decide_eq_true_eq] at h
  unfold secondOk isCont
  have h1 : ¬ b0.toNat = 0xE0 := by omega
  have h2 : ¬ b0.toNat = 0xED := by omega
  simp only [h1, h2, if_false]

/-- `validUtf8` one step, with `inRange` for its local range test -/
theorem validUtf8_cons (b0 : UInt8) (rest : Bytes) :
    validUtf8 (b0 :: rest) =
      (if b0.toNat < 0x80 then validUtf8 rest
       else if inRange b0 0xC2 0xDF then
         match rest with
         | b1 :: r => inRange b1 0x80 0xBF && validUtf8 r
         | _ => false
       else if inRange b0 0xE0 0xEF then
         match rest with
         | b1 :: b2 :: r =>
           (if b0.toNat = 0xE0 then inRange b1 0xA0 0xBF else if b0.toNat = 0xED then inRange b1 0x80 0x9F
            else inRange b1 0x80 0xBF) && inRange b2 0x80 0xBF && validUtf8 r
         | _ => false
       else if inRange b0 0xF0 0xF4 then
         match rest with
         | b1 :: b2 :: b3 :: r =>
           (if b0.toNat = 0xF0 then inRange b1 0x90 0xBF else if b0.toNat = 0xF4 then inRange b1 0x80 0x8F
            else inRange b1 0x80 0xBF) && inRange b2 0x80 0xBF && inRange b3 0x80 0xBF && validUtf8 r
         | _ => false
       else false) := by
  rw [validUtf8.eq_def]
  rfl

theorem utf8Replace_cons (b0 : UInt8) (rest : Bytes) :
    utf8Replace (b0 :: rest) =
      (if b0.toNat < 0x80 then b0 :: utf8Replace rest
       else if inRange b0 0xC2 0xDF then
         match rest with
         | [] => replChar
         | b1 :: r =>
           if isCont b1 then b0 :: b1 :: utf8Replace r
           else replChar ++ utf8Replace (b1 :: r)
       else if inRange b0 0xE0 0xEF then
         match rest with
         | [] => replChar
         | b1 :: r1 =>
           if secondOk b0 b1 then
             match r1 with
             | [] => replChar
             | b2 :: r2 =>
               if isCont b2 then b0 :: b1 :: b2 :: utf8Replace r2
               else replChar ++ utf8Replace (b2 :: r2)
           else replChar ++ utf8Replace (b1 :: r1)
       else if inRange b0 0xF0 0xF4 then
         match rest with
         | [] => replChar
         | b1 :: r1 =>
           if secondOk b0 b1 then
             match r1 with
             | [] => replChar
             | b2 :: r2 =>
               if isCont b2 then
                 match r2 with
                 | [] => replChar
                 | b3 :: r3 =>
                   if isCont b3 then b0 :: b1 :: b2 :: b3 :: utf8Replace r3
                   else replChar ++ utf8Replace (b3 :: r3)
               else replChar ++ utf8Replace (b2 :: r2)
           else replChar ++ utf8Replace (b1 :: r1)
       else replChar ++ utf8Replace rest) := by
  rw [utf8Replace.eq_def]
  rfl

theorem utf8Replace_nil : utf8Replace [] = [] := by simp [utf8Replace]

/-- `validUtf8` one step, over the decoder's own tests (`isCont`, `secondOk`) -/
theorem validUtf8_cons' (b0 : UInt8) (rest : Bytes) :
    validUtf8 (b0 :: rest) =
      (if b0.toNat < 0x80 then validUtf8 rest
       else if inRange b0 0xC2 0xDF then
         match rest with
         | b1 :: r => isCont b1 && validUtf8 r
         | _ => false
       else if inRange b0 0xE0 0xEF then
         match rest with
         | b1 :: b2 :: r => secondOk b0 b1 && isCont b2 && validUtf8 r
         | _ => false
       else if inRange b0 0xF0 0xF4 then
         match rest with
         | b1 :: b2 :: b3 :: r => secondOk b0 b1 && isCont b2 && isCont b3 && validUtf8 r
         | _ => false
       else false) := by
  rw [validUtf8_cons]
  by_cases h3 : inRange b0 0xE0 0xEF = true
  · simp only [h3, if_true, secondOk_e _ h3, isCont]
  · by_cases h4 : inRange b0 0xF0 0xF4 = true
    · simp only [h3, Bool.false_eq_true, if_false, h4, if_true, secondOk_f _ h4, isCont]
    · simp only [h3, h4, isCont, Bool.false_eq_true, if_false]

theorem validUtf8_repl (x : Bytes) : validUtf8 (replChar ++ x) = validUtf8 x := by
  show validUtf8 (0xEF :: 0xBF :: 0xBD :: x) = _
  rw [validUtf8_cons]
  have a : ¬ ((0xEF : UInt8).toNat < 0x80) := by decide
  have b : inRange 0xEF 0xC2 0xDF = false := by decide
  have c : inRange 0xEF 0xE0 0xEF = true := by decide
  have d : ¬ ((0xEF : UInt8).toNat = 0xE0) := by decide
  have e : ¬ ((0xEF : UInt8).toNat = 0xED) := by decide
  have f : inRange 0xBF 0x80 0xBF = true := by decide
  have g : inRange 0xBD 0x80 0xBF = true := by decide
  simp only [a, b, c, d, e, f, g, if_false, if_true, Bool.false_eq_true, Bool.true_and]

/-- One turn of the decoder.  It emits a closed well-formed unit `out` — a well-formed sequence, kept, or U+FFFD for a
    maximal ill-formed subpart — and goes on with a shorter rest `rest'`; on well-formed input nothing is replaced.
    The case tree of `utf8Replace` is walked here and nowhere else. -/
theorem utf8Replace_step (b0 : UInt8) (rest : Bytes) :
    ∃ out rest', utf8Replace (b0 :: rest) = out ++ utf8Replace rest' ∧ rest'.length ≤ rest.length ∧
      (∀ x, validUtf8 (out ++ x) = validUtf8 x) ∧ (validUtf8 (b0 :: rest) = true → b0 :: rest = out ++ rest') := by
  have hU := utf8Replace_cons b0 rest
  have hV := validUtf8_cons' b0 rest
  generalize utf8Replace (b0 :: rest) = U at hU ⊢
  generalize validUtf8 (b0 :: rest) = V at hV ⊢
  -- a leaf where a subpart is replaced: `out = U+FFFD`, and the input was not well formed
  have repl : ∀ {rest' : Bytes}, U = replChar ++ utf8Replace rest' → rest'.length ≤ rest.length → V = false →
      ∃ out rest', U = out ++ utf8Replace rest' ∧ rest'.length ≤ rest.length ∧
        (∀ x, validUtf8 (out ++ x) = validUtf8 x) ∧ (V = true → b0 :: rest = out ++ rest') :=
    fun h1 h2 h3 => ⟨replChar, _, h1, h2, validUtf8_repl, fun hv => by rw [h3] at hv; cases hv⟩
  have atEnd : U = replChar → U = replChar ++ utf8Replace [] := fun h => by rw [h, utf8Replace_nil, List.append_nil]
  by_cases h1 : b0.toNat < 0x80
  · simp only [h1, if_true] at hU
    exact ⟨[b0], rest, hU, Nat.le_refl _,
      fun x => by rw [List.singleton_append, validUtf8_cons']; simp only [h1, if_true], fun _ => rfl⟩
  simp only [h1, if_false] at hU hV
  by_cases h2 : inRange b0 0xC2 0xDF = true
  · simp only [h2, if_true] at hU hV
    cases rest with
    | nil => exact repl (atEnd hU) (Nat.le_refl _) hV
    | cons b1 r =>
      by_cases c1 : isCont b1 = true
      · simp only [c1, if_true] at hU
        exact ⟨[b0, b1], r, hU, Nat.le_succ _, fun x => by
          show validUtf8 (b0 :: b1 :: x) = _
          rw [validUtf8_cons']; simp only [h1, if_false, h2, if_true, c1, Bool.true_and], fun _ => rfl⟩
      · simp only [c1, Bool.false_eq_true, if_false, Bool.false_and] at hU hV
        exact repl hU (Nat.le_refl _) hV
  simp only [h2, Bool.false_eq_true, if_false] at hU hV
  by_cases h3 : inRange b0 0xE0 0xEF = true
  · simp only [h3, if_true] at hU hV
    cases rest with
    | nil => exact repl (atEnd hU) (Nat.le_refl _) hV
    | cons b1 r1 =>
      by_cases c1 : secondOk b0 b1 = true
      · simp only [c1, if_true] at hU
        cases r1 with
        | nil => exact repl (atEnd hU) (Nat.zero_le _) hV
        | cons b2 r2 =>
          by_cases c2 : isCont b2 = true
          · simp only [c2, if_true] at hU
            exact ⟨[b0, b1, b2], r2, hU, by simp only [List.length_cons]; omega, fun x => by
              show validUtf8 (b0 :: b1 :: b2 :: x) = _
              rw [validUtf8_cons']
              simp only [h1, if_false, h2, Bool.false_eq_true, h3, if_true, c1, c2, Bool.true_and], fun _ => rfl⟩
          · simp only [c1, c2, Bool.false_eq_true, if_false, Bool.true_and, Bool.false_and] at hU hV
            exact repl hU (Nat.le_succ _) hV
      · simp only [c1, Bool.false_eq_true, if_false] at hU
        exact repl hU (Nat.le_refl _) (by rw [hV]; cases r1 <;> simp only [c1, Bool.false_eq_true, Bool.false_and])
  simp only [h3, Bool.false_eq_true, if_false] at hU hV
  by_cases h4 : inRange b0 0xF0 0xF4 = true
  · simp only [h4, if_true] at hU hV
    cases rest with
    | nil => exact repl (atEnd hU) (Nat.le_refl _) hV
    | cons b1 r1 =>
      by_cases c1 : secondOk b0 b1 = true
      · simp only [c1, if_true] at hU
        cases r1 with
        | nil => exact repl (atEnd hU) (Nat.zero_le _) hV
        | cons b2 r2 =>
          by_cases c2 : isCont b2 = true
          · simp only [c2, if_true] at hU
            cases r2 with
            | nil => exact repl (atEnd hU) (Nat.zero_le _) hV
            | cons b3 r3 =>
              simp only [c1, c2, Bool.true_and] at hV
              by_cases c3 : isCont b3 = true
              · simp only [c3, if_true] at hU
                exact ⟨[b0, b1, b2, b3], r3, hU, by simp only [List.length_cons]; omega, fun x => by
                  show validUtf8 (b0 :: b1 :: b2 :: b3 :: x) = _
                  rw [validUtf8_cons']
                  simp only [h1, if_false, h2, Bool.false_eq_true, h3, h4, if_true, c1, c2, c3, Bool.true_and],
                  fun _ => rfl⟩
              · simp only [c3, Bool.false_eq_true, if_false, Bool.false_and] at hU hV
                exact repl hU (by simp only [List.length_cons]; omega) hV
          · simp only [c2, Bool.false_eq_true, if_false] at hU
            exact repl hU (Nat.le_succ _)
              (by rw [hV]; cases r2 <;> simp only [c2, Bool.false_eq_true, Bool.and_false, Bool.false_and])
      · simp only [c1, Bool.false_eq_true, if_false] at hU
        exact repl hU (Nat.le_refl _)
          (by rw [hV]; rcases r1 with _ | ⟨_, _ | _⟩ <;> simp only [c1, Bool.false_eq_true, Bool.false_and])
  · simp only [h4, Bool.false_eq_true, if_false] at hU hV
    exact repl hU (Nat.le_refl _) hV

theorem utf8Replace_of_valid : ∀ bs : Bytes, validUtf8 bs = true → utf8Replace bs = bs
  | [], _ => utf8Replace_nil
  | b0 :: rest, hv => by
    obtain ⟨out, rest', h1, h2, h3, h4⟩ := utf8Replace_step b0 rest
    have e := h4 hv
    rw [e, h3] at hv
    rw [h1, utf8Replace_of_valid rest' hv, e]
termination_by bs => bs.length
decreasing_by simp only [List.length_cons]; omega

theorem validUtf8_utf8Replace : ∀ bs : Bytes, validUtf8 (utf8Replace bs) = true
  | [] => by rw [utf8Replace_nil, validUtf8]
  | b0 :: rest => by
    obtain ⟨out, rest', h1, h2, h3, -⟩ := utf8Replace_step b0 rest
    rw [h1, h3]
    exact validUtf8_utf8Replace rest'
termination_by bs => bs.length
decreasing_by simp only [List.length_cons]; omega

end PyElf.Proofs.C03U
