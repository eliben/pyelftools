/-
  The `_decode_line_program` loop run on the Spec encoding of an instruction
  list computes the standard's state machine — over any prefix of the program (`decodeLoop_prefix`),
  hence over the whole program (`decodeLoop_run`) and up to the first instruction that divides by a
  zero field (`decodeLoop_divZero`) —, then from the `LineProgram` object of a unit (`decode_lpOfX`, and
  `decode_lpOf` for the unit without extension bytes).  Also the invariant of `_linetable_cache`, `CacheOK`.
  Continues the namespace `PyElf.Proofs.Line` (Proofs/LineFit.lean).
-/
import PyElf.Proofs.LineProgram
import PyElf.Proofs.LineObject
namespace PyElf.Proofs.Line
open PyElf PyElf.Spec PyElf.Spec.Line PyElf.Model.Line PyElf.Proofs

theorem enc_length_pos (p : Params) (i : Instr) : 1 ≤ (i.enc p).length := by
  cases i <;> simp [Instr.enc, encExt] <;> omega

theorem definedFiles_cons (i : Instr) (is : List Instr) :
    definedFiles (i :: is) = definedFiles [i] ++ definedFiles is := by
  cases i <;> simp [definedFiles]

theorem stdRunFrom_cons (p : Params) (r : Row) (i : Instr) (is : List Instr) :
    stdRunFrom p r (i :: is) = (stdStep p r i).2.toList ++ stdRunFrom p (stdStep p r i).1 is := by
  rw [stdRunFrom]
  rcases h : stdStep p r i with ⟨r', _ | row⟩ <;> simp

def stdRegs (p : Params) : Row → List Instr → Row
  | r, [] => r
  | r, i :: is => stdRegs p (stdStep p r i).1 is

theorem encodeProgram_append (p : Params) (a b : List Instr) :
    encodeProgram p (a ++ b) = encodeProgram p a ++ encodeProgram p b := by
  induction a with
  | nil => rfl
  | cons i a ih => simp [encodeProgram, ih, List.append_assoc]

theorem stdRunFrom_append (p : Params) (r : Row) (a b : List Instr) :
    stdRunFrom p r (a ++ b) = stdRunFrom p r a ++ stdRunFrom p (stdRegs p r a) b := by
  induction a generalizing r with
  | nil => rfl
  | cons i a ih =>
    rw [List.cons_append, stdRunFrom_cons, stdRunFrom_cons, ih, stdRegs, List.append_assoc]

theorem length_le_encodeProgram (p : Params) (is : List Instr) : is.length ≤ (encodeProgram p is).length := by
  induction is with
  | nil => simp
  | cons i is ih =>
    have := enc_length_pos p i
    simp only [encodeProgram, List.length_append, List.length_cons]; omega

theorem definedFiles_append (a b : List Instr) : definedFiles (a ++ b) = definedFiles a ++ definedFiles b := by
  induction a with
  | nil => rfl
  | cons i a ih => rw [List.cons_append, definedFiles_cons, ih, definedFiles_cons i a, List.append_assoc]

section
variable {env : Env} {cfg : DwarfCfg} {p : Params} {ver : Nat}

/-- the statement the induction needs: any prefix of the program, from any registers, files and entries; the
    registers behind the prefix are part of it -/
theorem decodeLoop_prefix (data : Bytes) (endOff : Nat) :
    ∀ (is : List Instr) (fuel off : Nat) (st : LineState) (files : Option (List Val)) (entries : List Entry)
      (rest : Bytes),
      (∀ i ∈ is, StepOK env cfg p ver i) →
      data.drop off = encodeProgram p is ++ rest →
      off + (encodeProgram p is).length ≤ endOff →
      is.length ≤ fuel →
      (ver ≤ 4 → files.isSome = true) →
      endOff ≤ ssizeMax →
      ∃ new st',
        decodeLoop env (Spec.dwarfStructs cfg) specConsts data (hdrOf p) endOff fuel off st files entries
          = decodeLoop env (Spec.dwarfStructs cfg) specConsts data (hdrOf p) endOff (fuel - is.length)
              (off + (encodeProgram p is).length) st' (files.map (· ++ (definedFiles is).map FileEntry.obs))
              (entries ++ new)
        ∧ rowsOf new = stdRunFrom p (toRow st) is
        ∧ toRow st' = stdRegs p (toRow st) is := by
  intro is
  induction is with
  | nil =>
    intro fuel off st files entries rest _ _ _ _ _ _
    refine ⟨[], st, ?_, by simp [rowsOf, stdRunFrom], rfl⟩
    simp [encodeProgram, definedFiles, files_map_nil]
  | cons i is ih =>
    intro fuel off st files entries rest hok hd hend hfuel hfiles hmax
    cases fuel with
    | zero => simp at hfuel
    | succ fuel =>
      have hpos := enc_length_pos p i
      have hlen : (encodeProgram p (i :: is)).length = (i.enc p).length + (encodeProgram p is).length := by
        simp [encodeProgram]
      have hlt : off < endOff := by omega
      have hd0 : data.drop off = i.enc p ++ (encodeProgram p is ++ rest) := by
        simpa [encodeProgram, List.append_assoc] using hd
      have hstep := hok i (by simp) data _ off st files hd0 hfiles (by omega)
      rw [decodeLoop, if_pos hlt]
      rcases hs : step env (Spec.dwarfStructs cfg) specConsts data (hdrOf p) off st files with e | ⟨off', st', files', new1⟩
      · rw [hs] at hstep; exact hstep.elim
      · rw [hs] at hstep
        obtain ⟨hoff, hfl, hrow, hrows⟩ := hstep
        have hd1 : data.drop off' = encodeProgram p is ++ rest := by
          rw [hoff]; exact drop_add_of_drop hd0
        have hfiles' : ver ≤ 4 → files'.isSome = true := by
          intro hv; rw [hfl]; simpa using hfiles hv
        obtain ⟨new2, st2, h2, hr2, hreg2⟩ := ih fuel off' st' files' (entries ++ new1) rest
          (fun j hj => hok j (by simp [hj])) hd1 (by omega) (by simp at hfuel; omega) hfiles' hmax
        refine ⟨new1 ++ new2, st2, ?_, ?_, ?_⟩
        · show decodeLoop env (Spec.dwarfStructs cfg) specConsts data (hdrOf p) endOff fuel off' st' files'
              (entries ++ new1) = _
          rw [h2, hfl, definedFiles_cons i is, hoff, hlen]
          have e1 : fuel + 1 - (i :: is).length = fuel - is.length := by simp
          rw [e1]
          cases files <;> simp [List.append_assoc, Nat.add_assoc]
        · rw [rowsOf_append, hrows, hr2, hrow, stdRunFrom_cons]
        · rw [hreg2, hrow, stdRegs]

/-- (the registers behind the program, which `decodeLoop_prefix` carries along, are dropped here) -/
theorem decodeLoop_run (data : Bytes) (endOff : Nat) (is : List Instr) (fuel off : Nat) (st : LineState)
    (files : Option (List Val)) (entries : List Entry) (rest : Bytes)
    (hok : ∀ i ∈ is, StepOK env cfg p ver i)
    (hd : data.drop off = encodeProgram p is ++ rest) (hend : endOff = off + (encodeProgram p is).length)
    (hfuel : (encodeProgram p is).length + 1 ≤ fuel) (hfiles : ver ≤ 4 → files.isSome = true)
    (hmax : endOff ≤ ssizeMax) :
    ∃ new, decodeLoop env (Spec.dwarfStructs cfg) specConsts data (hdrOf p) endOff fuel off st files entries
        = .ok (entries ++ new, files.map (· ++ (definedFiles is).map FileEntry.obs), endOff)
      ∧ rowsOf new = stdRunFrom p (toRow st) is := by
  have hl := length_le_encodeProgram p is
  obtain ⟨new, st', h1, hr, _⟩ := decodeLoop_prefix (env := env) (cfg := cfg) (p := p) (ver := ver) data endOff is fuel off
    st files entries rest hok hd (by omega) (by omega) hfiles hmax
  refine ⟨new, ?_, hr⟩
  rw [h1, ← hend]
  obtain ⟨k, hk⟩ : ∃ k, fuel - is.length = k + 1 := ⟨fuel - is.length - 1, by omega⟩
  rw [hk, decodeLoop, if_neg (by omega)]

theorem decodeLoop_divZero (data : Bytes) (endOff : Nat) (is1 : List Instr) (i : Instr)
    (fuel off : Nat) (st : LineState) (files : Option (List Val)) (entries : List Entry) (rest : Bytes)
    (hok : ∀ j ∈ is1, StepOK env cfg p ver j) (hw : i.WF p ver = true) (hz : i.divZero p = true)
    (hd : data.drop off = encodeProgram p is1 ++ (i.enc p ++ rest))
    (hend : off + (encodeProgram p is1).length + (i.enc p).length ≤ endOff)
    (hfuel : (encodeProgram p is1).length + 1 ≤ fuel) (hfiles : ver ≤ 4 → files.isSome = true)
    (hmax : endOff ≤ ssizeMax) :
    decodeLoop env (Spec.dwarfStructs cfg) specConsts data (hdrOf p) endOff fuel off st files entries
      = .error .zeroDivision := by
  have hl := length_le_encodeProgram p is1
  have hpos := enc_length_pos p i
  obtain ⟨new, st', h1, _, _⟩ := decodeLoop_prefix (env := env) (cfg := cfg) (p := p) (ver := ver) data endOff is1 fuel off
    st files entries (i.enc p ++ rest) hok hd (by omega) (by omega) hfiles hmax
  rw [h1]
  obtain ⟨k, hk⟩ : ∃ k, fuel - is1.length = k + 1 := ⟨fuel - is1.length - 1, by omega⟩
  have hd1 : data.drop (off + (encodeProgram p is1).length) = i.enc p ++ rest := drop_add_of_drop hd
  rw [hk, decodeLoop, if_pos (by omega), step_divZero i hw hz hd1]

end

theorem toRow_new (p : Params) : toRow (LineState.new (.int p.defaultIsStmt)) = Row.init p := by
  simp [toRow, LineState.new, Row.init, Val.truthy]

theorem ofHeader_observeG (h : Header) (secs : StrSecs) (UL HL : Nat) :
    Hdr.ofHeader (h.observeG secs UL HL) = .ok (hdrOf h.p) := by
  have hneg : ∀ n : Nat, ¬ ((n : Int) < 0) := fun n => by omega
  simp [Hdr.ofHeader, Header.observeG, Val.getField, Val.getNat, Val.getInt, Fields.getR, Fields.get?, Val.asNat,
    Val.asInt, bind, Except.bind, pure, Except.pure, hdrOf, hneg]

theorem progOK_all {p : Params} {ver : Nat} {is : List Instr} (h : progOK p ver is = true) :
    ∀ i ∈ is, i.WF p ver = true ∧ i.divZero p = false := by
  intro i hi
  have := (List.all_eq_true.1 h) i hi
  simpa using this

theorem decodeLineProgram_lpOfX_eq {env : Env} {S : DwarfStructs} {K : LnConsts} (h : Header) (secs : StrSecs)
    (ext body : Bytes) (data : Bytes) (off : Nat) :
    decodeLineProgram env S K data (lpOfX h secs ext body off)
      = decodeLoop env S K data (hdrOf h.p) (off + (encodeUnitX h ext body).length) (body.length + 1)
          (off + headerSizeX h ext) (LineState.new (.int h.p.defaultIsStmt))
          (lpOfX h secs ext body off).fileEntry [] := by
  have hfuel : off + (encodeUnitX h ext body).length - (off + headerSizeX h ext) + 1 = body.length + 1 := by
    rw [encodeUnitX_length]; omega
  simp only [decodeLineProgram, lpOfX, Header.observeX, ofHeader_observeG, bind, Except.bind, hdr_default_is_stmt, hfuel]

theorem decode_lpOfX {env : Env} {cfg : DwarfCfg} (h : Header) (secs : StrSecs) (ext : Bytes) (is : List Instr)
    (pre rest : Bytes) (hwf : unitWFX h secs ext (encodeProgram h.p is) = true)
    (hprog : progOK h.p h.version is = true) (hle : h.p.le = cfg.le) (hasz : h.p.asz = cfg.asz)
    (hsz : pre.length + (encodeUnitX h ext (encodeProgram h.p is)).length ≤ ssizeMax) :
    ∃ entries,
      decodeLineProgram env (Spec.dwarfStructs cfg) specConsts (pre ++ encodeUnitX h ext (encodeProgram h.p is) ++ rest)
          (lpOfX h secs ext (encodeProgram h.p is) pre.length)
        = .ok (entries,
               (lpOfX h secs ext (encodeProgram h.p is) pre.length).fileEntry.map (· ++ (definedFiles is).map FileEntry.obs),
               pre.length + (encodeUnitX h ext (encodeProgram h.p is)).length)
      ∧ rowsOf entries = stdRun h.p is := by
  have henc := (UnitFit.of hwf).header.params
  have hall := progOK_all hprog
  obtain ⟨new, hrun, hrows⟩ := decodeLoop_run (env := env) (cfg := cfg) (p := h.p) (ver := h.version)
    (pre ++ encodeUnitX h ext (encodeProgram h.p is) ++ rest)
    (pre.length + (encodeUnitX h ext (encodeProgram h.p is)).length) is
    ((encodeProgram h.p is).length + 1) (pre.length + headerSizeX h ext)
    (LineState.new (.int h.p.defaultIsStmt)) (lpOfX h secs ext (encodeProgram h.p is) pre.length).fileEntry [] rest
    (fun i hi => stepOK_of_enc henc hle hasz i (hall i hi).1 (hall i hi).2)
    (drop_bodyX h ext _ pre rest) (by rw [encodeUnitX_length]; omega) (by omega) (lpOfX_files h secs ext _ _) hsz
  refine ⟨new, ?_, ?_⟩
  · rw [decodeLineProgram_lpOfX_eq, hrun, List.nil_append]
  · rw [hrows, toRow_new]; rfl

theorem decode_lpOfX_divZero {env : Env} {cfg : DwarfCfg} (h : Header) (secs : StrSecs) (ext : Bytes)
    (is1 : List Instr) (i : Instr) (is2 : List Instr) (pre rest : Bytes)
    (hwf : unitWFX h secs ext (encodeProgram h.p (is1 ++ i :: is2)) = true)
    (hprog : progOK h.p h.version is1 = true) (hw : i.WF h.p h.version = true) (hz : i.divZero h.p = true)
    (hle : h.p.le = cfg.le) (hasz : h.p.asz = cfg.asz)
    (hsz : pre.length + (encodeUnitX h ext (encodeProgram h.p (is1 ++ i :: is2))).length ≤ ssizeMax) :
    decodeLineProgram env (Spec.dwarfStructs cfg) specConsts
        (pre ++ encodeUnitX h ext (encodeProgram h.p (is1 ++ i :: is2)) ++ rest)
        (lpOfX h secs ext (encodeProgram h.p (is1 ++ i :: is2)) pre.length)
      = .error .zeroDivision := by
  have henc := (UnitFit.of hwf).header.params
  have hall := progOK_all hprog
  -- the program bytes get a name: they occur in every term below and are split only where the loop needs it
  obtain ⟨body, hbody⟩ : ∃ b, b = encodeProgram h.p (is1 ++ i :: is2) := ⟨_, rfl⟩
  have hsplit : body = encodeProgram h.p is1 ++ (i.enc h.p ++ (encodeProgram h.p is2)) := by
    rw [hbody, encodeProgram_append]; rfl
  have hblen : body.length = (encodeProgram h.p is1).length + (i.enc h.p).length + (encodeProgram h.p is2).length := by
    rw [hsplit]; simp; omega
  rw [← hbody] at hsz hwf ⊢
  have hd : (pre ++ encodeUnitX h ext body ++ rest).drop (pre.length + headerSizeX h ext)
      = encodeProgram h.p is1 ++ (i.enc h.p ++ (encodeProgram h.p is2 ++ rest)) := by
    rw [drop_bodyX, hsplit]; simp [List.append_assoc]
  rw [decodeLineProgram_lpOfX_eq]
  exact decodeLoop_divZero (env := env) (cfg := cfg) (p := h.p) (ver := h.version)
    (pre ++ encodeUnitX h ext body ++ rest) (pre.length + (encodeUnitX h ext body).length) is1 i
    (body.length + 1) (pre.length + headerSizeX h ext)
    (LineState.new (.int h.p.defaultIsStmt)) (lpOfX h secs ext body pre.length).fileEntry [] _
    (fun j hj => stepOK_of_enc henc hle hasz j (hall j hj).1 (hall j hj).2) hw hz hd
    (by rw [encodeUnitX_length]; omega) (by omega) (lpOfX_files h secs ext _ _) hsz

theorem progOK_of_WF {p : Params} {ver : Nat} {is : List Instr} (hp : p.WF ver = true)
    (his : is.all (Instr.WF p ver) = true) : progOK p ver is = true := by
  simp only [progOK, List.all_eq_true] at his ⊢
  intro i hi
  simp [his i hi, divZero_of_WF hp i]

theorem progOK_of_unitWF {h : Header} {secs : StrSecs} {is : List Instr} (hw : unitWF h secs is = true) :
    progOK h.p h.version is = true := by
  obtain ⟨hh, his, -⟩ := unitWF_parts hw
  exact progOK_of_WF (Header.WF_parts hh).2.1 his

theorem unitWF_X {h : Header} {secs : StrSecs} {is : List Instr} (hw : unitWF h secs is = true) :
    unitWFX h secs [] (encodeProgram h.p is) = true := by
  obtain ⟨hh, -, hb⟩ := unitWF_parts hw
  obtain ⟨henc, -, ht⟩ := Header.WF_parts hh
  simp only [unitWFX, Bool.and_eq_true, decide_eq_true_eq]
  exact ⟨⟨henc, by simpa using ht⟩, by simpa [midX_nil] using hb⟩

theorem decode_lpOf {env : Env} {cfg : DwarfCfg} (h : Header) (secs : StrSecs) (is : List Instr) (pre rest : Bytes)
    (hwf : unitWF h secs is = true) (hle : h.p.le = cfg.le) (hasz : h.p.asz = cfg.asz)
    (hsz : pre.length + (encodeUnit h is).length ≤ ssizeMax) :
    ∃ entries,
      decodeLineProgram env (Spec.dwarfStructs cfg) specConsts (pre ++ encodeUnit h is ++ rest) (lpOf h secs is pre.length)
        = .ok (entries, (lpOf h secs is pre.length).fileEntry.map (· ++ (definedFiles is).map FileEntry.obs),
               pre.length + (encodeUnit h is).length)
      ∧ rowsOf entries = stdRun h.p is := by
  rw [← encodeUnitX_nil h is] at hsz ⊢
  rw [← lpOfX_nil h secs is pre.length]
  exact decode_lpOfX h secs [] is pre rest (unitWF_X hwf) (progOK_of_unitWF hwf) hle hasz hsz

theorem cache_hit {β : Type} {cache : List (Nat × β)} {k o : Nat} {x : β}
    (hf : cache.find? (·.1 == k) = some (o, x)) : o = k ∧ (k, x) ∈ cache := by
  have hkey : o = k := by simpa using List.find?_some hf
  exact ⟨hkey, hkey ▸ List.mem_of_find?_eq_some hf⟩

theorem cache_append {β : Type} {P : Nat → β → Prop} {cache : List (Nat × β)} (hc : ∀ o x, (o, x) ∈ cache → P o x)
    {k : Nat} {x : β} (hx : P k x) : ∀ o y, (o, y) ∈ cache ++ [(k, x)] → P o y := by
  intro o y hy
  rcases List.mem_append.1 hy with hy | hy
  · exact hc o y hy
  · simp only [List.mem_singleton, Prod.mk.injEq] at hy
    obtain ⟨rfl, rfl⟩ := hy
    exact hx

def CacheOK (env : Env) (S : DwarfStructs) (fmt : Nat) (secs : Secs) (data : Bytes) (cache : Cache) : Prop :=
  ∀ o lp, (o, lp) ∈ cache → parseLineProgramFresh env S fmt secs data o = .ok lp

end PyElf.Proofs.Line
