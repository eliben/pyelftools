/-
  C20, image level.  First where the encoded words of an index table (`idxWords`) and of the handler-table entries
  (`Entry.tableWords`, `tabOf`) lie, word by word; then, over any byte string that holds the two tables ANYWHERE (no
  container): one entry from its words (`getEntry_at_words`), entry `i` of whole tables with the handler table before or
  after the index table or in another section (`getEntry_tables`); the Spec's image is one such placement
  (`exidx_roundtrip`).  `tabOf` and `tabOf_eq_tableOffsets` are in `PyElf.Proofs`, the facts about words in
  `PyElf.Proofs.EhabiImage`, the statements over byte strings in `PyElf.Proofs.C20`.
-/
import PyElf.Spec.C20File
import PyElf.Proofs.EhabiEntry
namespace PyElf.Proofs
open PyElf PyElf.Spec PyElf.Spec.Ehabi
open EhabiEntry Engine

def tabOf (tab0 : Nat) (es : List Entry) (i : Nat) : Nat :=
  tab0 + 4 * ((es.take i).flatMap Entry.tableWords).length

namespace EhabiImage

def idxWords : Nat → List Entry → List Nat → List Nat
  | place, e :: es, t :: ts => encIndex e place t ++ idxWords (place + 8) es ts
  | _, _, _ => []

theorem encWords_length (le : Bool) (ws : List Nat) : (encWords le ws).length = 4 * ws.length := by
  rw [encWords, Engine.length_flatMap_const (encNat le 4) 4 ws fun w _ => encNat_length le 4 w, Nat.mul_comm]

theorem encWords_append (le : Bool) (a b : List Nat) : encWords le (a ++ b) = encWords le a ++ encWords le b :=
  List.flatMap_append

theorem encExidxFrom_eq (le : Bool) : ∀ (es : List Entry) (ts : List Nat) (place : Nat),
    encExidxFrom le place es ts = encWords le (idxWords place es ts) := by
  intro es
  induction es with
  | nil => intro ts place; cases ts <;> rfl
  | cons e es ih =>
    intro ts place
    cases ts with
    | nil => rfl
    | cons t ts => rw [encExidxFrom, idxWords, encWords_append, ih]

theorem beWord3_lt (b0 b1 b2 : UInt8) : beWord [b0, b1, b2] < 2 ^ 24 := by
  have := b0.toNat_lt; have := b1.toNat_lt; have := b2.toNat_lt
  rw [beWord3]; omega

theorem beWord2_lt (b0 b1 : UInt8) : beWord [b0, b1] < 2 ^ 16 := by
  have := b0.toNat_lt; have := b1.toNat_lt
  rw [beWord2]; omega

theorem encIndex_pair (e : Entry) (p t : Nat) :
    ∃ a b, encIndex e p t = [a, b] ∧ a < 2 ^ 32 ∧ b < 2 ^ 32 := by
  cases e with
  | cantUnwind d => exact ⟨_, _, rfl, by have := encPrel31_lt d; omega, by decide⟩
  | inline d b0 b1 b2 =>
    exact ⟨_, _, rfl, by have := encPrel31_lt d; omega, by have := beWord3_lt b0 b1 b2; omega⟩
  | table d t' =>
    exact ⟨_, _, rfl, by have := encPrel31_lt d; omega,
      by have := encPrel31_lt ((t : Int) - ((p : Int) + 4)); omega⟩

theorem idxWords_length : ∀ (es : List Entry) (ts : List Nat) (place : Nat), ts.length = es.length →
    (idxWords place es ts).length = 2 * es.length := by
  intro es
  induction es with
  | nil => intro ts place h; cases ts <;> rfl
  | cons e es ih =>
    intro ts place h
    cases ts with
    | nil => simp at h
    | cons t ts =>
      obtain ⟨a, b, hab, -, -⟩ := encIndex_pair e place t
      rw [idxWords, hab, List.length_append, ih ts _ (by simpa using h)]
      simp only [List.length_cons, List.length_nil]; omega

theorem idxWords_lt : ∀ (es : List Entry) (ts : List Nat) (place : Nat),
    ∀ w ∈ idxWords place es ts, w < 2 ^ 32 := by
  intro es
  induction es with
  | nil => intro ts place w hw; cases ts <;> simp [idxWords] at hw
  | cons e es ih =>
    intro ts place w hw
    cases ts with
    | nil => simp [idxWords] at hw
    | cons t ts =>
      obtain ⟨a, b, hab, ha, hb⟩ := encIndex_pair e place t
      rw [idxWords, hab] at hw
      simp only [List.mem_append, List.mem_cons, List.not_mem_nil, or_false] at hw
      rcases hw with (rfl | rfl) | hw
      · exact ha
      · exact hb
      · exact ih ts _ w hw

theorem idxWords_get : ∀ (es : List Entry) (ts : List Nat) (place i : Nat) (e : Entry) (t : Nat),
    es[i]? = some e → ts[i]? = some t →
    (idxWords place es ts)[2 * i]? = (encIndex e (place + 8 * i) t)[0]? ∧
    (idxWords place es ts)[2 * i + 1]? = (encIndex e (place + 8 * i) t)[1]? := by
  intro es
  induction es with
  | nil => intro ts place i e t he; simp at he
  | cons e0 es ih =>
    intro ts place i e t he ht
    cases ts with
    | nil => simp at ht
    | cons t0 ts =>
      obtain ⟨a, b, hab, -, -⟩ := encIndex_pair e0 place t0
      cases i with
      | zero =>
        simp at he ht
        subst he; subst ht
        rw [idxWords]
        simp [hab]
      | succ i =>
        simp at he ht
        have := ih ts (place + 8) i e t he ht
        rw [idxWords, hab, show place + 8 * (i + 1) = place + 8 + 8 * i by omega,
          show 2 * (i + 1) = 2 * i + 1 + 1 by omega]
        simpa using this

theorem tableOffsets_length : ∀ (es : List Entry) (tab0 : Nat), (tableOffsets tab0 es).length = es.length := by
  intro es
  induction es with
  | nil => intro _; rfl
  | cons e es ih => intro tab0; simp [tableOffsets, ih]

theorem tableWords_get : ∀ (es : List Entry) (i : Nat) (e : Entry) (j : Nat),
    es[i]? = some e → j < e.tableWords.length →
    (es.flatMap Entry.tableWords)[((es.take i).flatMap Entry.tableWords).length + j]? = e.tableWords[j]? := by
  intro es
  induction es with
  | nil => intro i e j he; simp at he
  | cons e0 es ih =>
    intro i e j he hj
    cases i with
    | zero =>
      simp at he; subst he
      simp only [List.take_zero, List.flatMap_nil, List.length_nil, Nat.zero_add, List.flatMap_cons]
      rw [List.getElem?_append_left hj]
    | succ i =>
      simp at he
      simp only [List.take_succ_cons, List.flatMap_cons, List.length_append]
      rw [Nat.add_assoc, List.getElem?_append_right (by omega), Nat.add_sub_cancel_left]
      exact ih i e j he hj

theorem beWord_lt {m : Bytes} (h : m.length = 4) : beWord m < 2 ^ 32 := by
  have := leNat_lt m.reverse
  rw [List.length_reverse, h] at this
  exact this

theorem tableWords_lt {e : Entry} (hwf : entryWf e = true) : ∀ w ∈ e.tableWords, w < 2 ^ 32 := by
  intro w hw
  cases e with
  | cantUnwind d => simp [Entry.tableWords] at hw
  | inline d b0 b1 b2 => simp [Entry.tableWords] at hw
  | table d t =>
    simp only [entryWf, Bool.and_eq_true] at hwf
    obtain ⟨-, hwt⟩ := hwf
    cases t with
    | generic p =>
      simp [Entry.tableWords, encTableEntry] at hw
      have := encPrel31_lt p; omega
    | su16 b0 b1 b2 =>
      simp [Entry.tableWords, encTableEntry] at hw
      have := beWord3_lt b0 b1 b2; omega
    | long idx b0 b1 more =>
      simp [tableEntryWf] at hwt
      obtain ⟨⟨hidx, hlen⟩, h4⟩ := hwt
      simp [Entry.tableWords, encTableEntry] at hw
      rcases hw with rfl | ⟨m, hm, rfl⟩
      · have := beWord2_lt b0 b1; omega
      · exact beWord_lt (h4 m hm)

theorem allTableWords_lt {es : List Entry} (hwf : es.all entryWf = true) :
    ∀ w ∈ es.flatMap Entry.tableWords, w < 2 ^ 32 := by
  intro w hw
  rw [List.mem_flatMap] at hw
  obtain ⟨e, he, hw⟩ := hw
  exact tableWords_lt (List.all_eq_true.1 hwf e he) w hw

theorem expand_nonneg {w p : Nat} (h : w % 2 ^ 31 < 2 ^ 30) (hp : p < 2 ^ 62) :
    expand w p = w % 2 ^ 31 + p := by
  unfold expand prel31 toSigned
  rw [if_pos (by simpa using h)]
  omega

theorem image_length (le : Bool) (pre gap rest : Bytes) (es : List Entry) :
    (encImage le pre gap rest es).length
      = pre.length + 8 * es.length + gap.length + 4 * (es.flatMap Entry.tableWords).length + rest.length := by
  unfold encImage
  simp only [encExidxFrom_eq, List.length_append, encWords_length,
    idxWords_length _ _ _ (tableOffsets_length es _)]
  omega

end EhabiImage
open EhabiImage

theorem tabOf_eq_tableOffsets (tab0 : Nat) (es : List Entry) (i : Nat) (hi : i < es.length) :
    (tableOffsets tab0 es)[i]? = some (tabOf tab0 es i) := by
  induction es generalizing tab0 i with
  | nil => simp at hi
  | cons e es ih =>
    cases i with
    | zero => simp [tableOffsets, tabOf]
    | succ i =>
      rw [tableOffsets, List.getElem?_cons_succ, ih _ i (by simpa using hi)]
      simp only [tabOf, List.take_succ_cons, List.flatMap_cons, List.length_append]
      congr 1; omega

end PyElf.Proofs

namespace PyElf.Proofs.C20
open PyElf PyElf.Spec PyElf.Spec.C20 PyElf.Spec.Ehabi PyElf.Model PyElf.Proofs
open EhabiEntry EhabiImage

theorem wordAt_of_drop {le : Bool} {data rest : Bytes} {off : Nat} {ws : List Nat}
    (hd : data.drop off = encWords le ws ++ rest) (hws : ∀ w ∈ ws, w < 2 ^ 32) {j : Nat} (hj : j < ws.length) :
    wordAt le data (off + 4 * j) = ws[j]? := by
  have he := Engine.drop_entry (k := 4) (fun w _ => encNat_length le 4 w) hj (show data.drop off = ws.flatMap (encNat le 4) ++ rest from hd)
  unfold wordAt
  simp only
  rw [Nat.mul_comm 4 j, he, List.take_left' (encNat_length le 4 _), if_pos (encNat_length le 4 _),
    decNat_encNat_of_lt le (n := 4) (hws _ (List.getElem_mem _)), List.getElem?_eq_getElem hj]

theorem refsOk_get : ∀ (es : List Entry) (ts : List Nat) (place i : Nat) (e : Entry) (t : Nat),
    refsOk place es ts = true → es[i]? = some e → ts[i]? = some t → refOk e (place + 8 * i) t = true := by
  intro es
  induction es with
  | nil => intro ts place i e t _ he; simp at he
  | cons e0 es ih =>
    intro ts place i e t hr he ht
    cases ts with
    | nil => simp at ht
    | cons t0 ts =>
      simp only [refsOk, Bool.and_eq_true] at hr
      cases i with
      | zero =>
        simp at he ht
        subst he; subst ht
        simpa using hr.1
      | succ i =>
        simp at he ht
        have := ih ts (place + 8) i e t hr.2 he ht
        rwa [show place + 8 * (i + 1) = place + 8 + 8 * i by omega]

theorem getEntry_at_words (env : Env) (le : Bool) (data : Bytes) (shOffset shSize n : Nat) (e : Entry) (tab : Nat)
    (hn : n < shSize / 8) (hplace : shOffset + 8 * n + 8 < 2 ^ 62)
    (hwf : entryWf e = true) (href : refOk e (shOffset + 8 * n) tab = true)
    (h0 : wordAt le data (shOffset + 8 * n) = (encIndex e (shOffset + 8 * n) tab)[0]?)
    (h1 : wordAt le data (shOffset + 8 * n + 4) = (encIndex e (shOffset + 8 * n) tab)[1]?)
    (hT : ∀ j, j < e.tableWords.length → wordAt le data (tab + 4 * j) = e.tableWords[j]?) :
    Model.Ehabi.getEntry env (Spec.ehabiStructs le) data shOffset shSize n
      = .ok (obsEntry e (shOffset + 8 * n) tab) := by
  generalize hpl : shOffset + 8 * n = place at *
  -- the reference a table entry makes; a harmless one for the entries that make none
  obtain ⟨tab', hd, hne, ht, h0', h1', hT', hobs⟩ : ∃ tab' : Nat, dispOk ((tab' : Int) - ((place : Int) + 4)) = true ∧
      tab' ≠ place + 5 ∧ tab' < 2 ^ 62 ∧
      wordAt le data place = (encIndex e place tab')[0]? ∧
      wordAt le data (place + 4) = (encIndex e place tab')[1]? ∧
      (∀ j, j < e.tableWords.length → wordAt le data (tab' + 4 * j) = e.tableWords[j]?) ∧
      obsEntry e place tab' = obsEntry e place tab := by
    cases e with
    | cantUnwind d =>
      exact ⟨place + 8, by rw [dispOk_iff]; omega, by omega, by omega, h0, h1,
        fun j hj => by simp [Entry.tableWords] at hj, rfl⟩
    | inline d b0 b1 b2 =>
      exact ⟨place + 8, by rw [dispOk_iff]; omega, by omega, by omega, h0, h1,
        fun j hj => by simp [Entry.tableWords] at hj, rfl⟩
    | table d t =>
      simp only [refOk, Bool.and_eq_true, bne_iff_ne, ne_eq, decide_eq_true_eq] at href
      exact ⟨tab, href.1.1, href.1.2, href.2, h0, h1, hT, rfl⟩
  have hstd := getEntry_eq_std env le data shOffset shSize n hn (by rw [hpl]; omega)
    (by
      rw [hpl]
      intro w1 hw1
      rw [h1'] at hw1
      cases e with
      | cantUnwind d =>
        simp [encIndex] at hw1; subst hw1
        rw [expand_nonneg (by decide) (by omega)]; omega
      | inline d b0 b1 b2 =>
        simp [encIndex] at hw1; subst hw1
        have := beWord3_lt b0 b1 b2
        rw [expand_nonneg (by omega) (by omega)]; omega
      | table d t =>
        simp [encIndex] at hw1; subst hw1
        rw [expand_enc_tab hd ht]; omega)
  rw [hpl] at hstd
  rw [hstd, ← hobs]
  have henc := decodeEntry_enc (wordAt le data) e place tab' hwf hd hne ht h0' h1' hT'
  cases hdec : decodeEntry (wordAt le data) place with
  | none => rw [hdec] at henc; simp at henc
  | some dcd =>
    rw [hdec] at henc
    simp only [Option.map_some, Option.some.injEq] at henc
    simp only [henc]

theorem getEntry_tables (env : Env) (le : Bool) (data irest trest : Bytes) (shOffset tab0 : Nat)
    (es : List Entry) (i : Nat) (hi : i < es.length) (hwf : es.all entryWf = true)
    (hidx : data.drop shOffset = encExidxFrom le shOffset es (tableOffsets tab0 es) ++ irest)
    (htab : data.drop tab0 = encWords le (tableWordsOf es) ++ trest)
    (hrefs : refsOk shOffset es (tableOffsets tab0 es) = true)
    (hsize : shOffset + 8 * es.length < 2 ^ 62) :
    Model.Ehabi.getEntry env (Spec.ehabiStructs le) data shOffset (8 * es.length) i
      = .ok (obsEntry es[i] (shOffset + 8 * i) (tabOf tab0 es i)) := by
  have hei : es[i]? = some es[i] := List.getElem?_eq_getElem hi
  have hwfe : entryWf es[i] = true := List.all_eq_true.1 hwf _ (List.getElem_mem hi)
  have hti := tabOf_eq_tableOffsets tab0 es i hi
  obtain ⟨g0, g1⟩ := idxWords_get es _ shOffset i _ _ hei hti
  rw [encExidxFrom_eq] at hidx
  have hlen := idxWords_length es (tableOffsets tab0 es) shOffset (tableOffsets_length es _)
  have h0 := wordAt_of_drop hidx (idxWords_lt _ _ _) (j := 2 * i) (by omega)
  have h1 := wordAt_of_drop hidx (idxWords_lt _ _ _) (j := 2 * i + 1) (by omega)
  rw [g0, show shOffset + 4 * (2 * i) = shOffset + 8 * i by omega] at h0
  rw [g1, show shOffset + 4 * (2 * i + 1) = shOffset + 8 * i + 4 by omega] at h1
  have hT : ∀ j, j < es[i].tableWords.length →
      wordAt le data (tabOf tab0 es i + 4 * j) = es[i].tableWords[j]? := by
    intro j hj
    have hg := tableWords_get es i _ j hei hj
    have hk : ((es.take i).flatMap Entry.tableWords).length + j < (es.flatMap Entry.tableWords).length := by
      rw [List.getElem?_eq_getElem hj] at hg
      exact (List.getElem?_eq_some_iff.1 hg).1
    have := wordAt_of_drop htab (allTableWords_lt hwf) (j := ((es.take i).flatMap Entry.tableWords).length + j) hk
    rw [tableWordsOf, hg] at this
    rw [← this, tabOf]
    congr 1; omega
  exact getEntry_at_words env le data shOffset (8 * es.length) i es[i] (tabOf tab0 es i) (by omega) (by omega)
    hwfe (refsOk_get es _ shOffset i _ _ hrefs hei hti) h0 h1 hT

theorem tableOffsets_mem : ∀ (es : List Entry) (tab0 t : Nat), t ∈ tableOffsets tab0 es →
    tab0 ≤ t ∧ t ≤ tab0 + 4 * (es.flatMap Entry.tableWords).length
  | [], _, _, h => by simp [tableOffsets] at h
  | e :: es, tab0, t, h => by
    simp only [tableOffsets, List.mem_cons] at h
    simp only [List.flatMap_cons, List.length_append]
    rcases h with rfl | h
    · omega
    · have := tableOffsets_mem es _ t h; omega

theorem refsOk_of_behind : ∀ (es : List Entry) (ts : List Nat) (place : Nat),
    (∀ t ∈ ts, place + 8 * es.length ≤ t ∧ t < 2 ^ 30) → refsOk place es ts = true
  | [], _, _, _ => by simp [refsOk]
  | _ :: _, [], _, _ => by simp [refsOk]
  | e :: es, t :: ts, place, h => by
    have ht := h t (by simp)
    simp only [List.length_cons] at ht
    simp only [refsOk, Bool.and_eq_true]
    refine ⟨?_, refsOk_of_behind es ts (place + 8) (fun x hx => by
      have := h x (by simp [hx]); simp only [List.length_cons] at this; omega)⟩
    cases e with
    | table d tb =>
      simp only [refOk, Bool.and_eq_true, bne_iff_ne, ne_eq, decide_eq_true_eq, dispOk_iff]
      omega
    | cantUnwind d => rfl
    | inline d b0 b1 b2 => rfl

theorem exidx_roundtrip (env : Env) (le : Bool) (pre gap rest : Bytes) (es : List Spec.Ehabi.Entry)
    (i : Nat) (hi : i < es.length)
    (hwf : es.all Spec.Ehabi.entryWf = true)
    (hsize : (Spec.Ehabi.encImage le pre gap rest es).length < 2 ^ 30) :
    Model.Ehabi.getEntry env (Spec.ehabiStructs le) (Spec.Ehabi.encImage le pre gap rest es)
        pre.length (8 * es.length) i
      = .ok (Spec.Ehabi.obsEntry es[i] (pre.length + 8 * i)
          (tabOf (pre.length + 8 * es.length + gap.length) es i)) := by
  have hlen := image_length le pre gap rest es
  have hil : (encExidxFrom le pre.length es (tableOffsets (pre.length + 8 * es.length + gap.length) es)).length
      = 8 * es.length := by
    rw [encExidxFrom_eq, encWords_length, idxWords_length _ _ _ (tableOffsets_length es _)]; omega
  refine getEntry_tables env le _ (gap ++ encWords le (es.flatMap Entry.tableWords) ++ rest) rest pre.length
    (pre.length + 8 * es.length + gap.length) es i hi hwf ?_ ?_ ?_ (by omega)
  · simp only [encImage, List.append_assoc, List.drop_left]
  · have : pre.length + 8 * es.length + gap.length
        = (pre ++ encExidxFrom le pre.length es (tableOffsets (pre.length + 8 * es.length + gap.length) es) ++ gap).length := by
      simp only [List.length_append, hil]
    have e : encImage le pre gap rest es
        = (pre ++ encExidxFrom le pre.length es (tableOffsets (pre.length + 8 * es.length + gap.length) es) ++ gap)
          ++ (encWords le (tableWordsOf es) ++ rest) := by
      simp only [encImage, tableWordsOf, List.append_assoc]
    rw [this, e, List.drop_left]
  · apply refsOk_of_behind
    intro t ht
    have := tableOffsets_mem es _ t ht
    omega

end PyElf.Proofs.C20
