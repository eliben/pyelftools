/-
  `ARanges._get_entries` and `NameLUT._get_entries` on encoded tables — the two set
  headers, the tuple / entry loops of one set, one turn of each outer loop on one encoded set (`setsLoop_one`,
  `nameSetsLoop_one`), and the loops over a whole section.
-/
import PyElf.Proofs.DwarfParseNat
import PyElf.Proofs.Reads
import PyElf.Proofs.DwarfNameOrder
import PyElf.Spec.DwarfStructs
import PyElf.Model.DwarfLookupInfo
namespace PyElf.Proofs.Lookup
open PyElf PyElf.Spec.Lookup PyElf.Model.Lookup PyElf.Proofs

theorem aranges_header_eq (le : Bool) (asz ver : Nat) :
    (Spec.dwarfStructs ⟨le, 32, asz, ver⟩).Dwarf_aranges_header
      = .struct (.cons (some "unit_length") false (.initialLength le)
          (.cons (some "version") false (.uint 2 le)
          (.cons (some "debug_info_offset") false (.uint 4 le)
          (.cons (some "address_size") false (.uint 1 le)
          (.cons (some "segment_size") false (.uint 1 le) .nil))))) := by
  simp [Spec.dwarfStructs, Spec.st, Spec.f, Spec.mkFields]

theorem aranges_header_parse {env : Env} {data : Bytes} {off : Nat} {le : Bool} {dasz dver ul ver io asz seg : Nat}
    {rest : Bytes}
    (hd : data.drop off = encNat le 4 ul ++ (encNat le 2 ver ++ (encNat le 4 io ++ (encNat le 1 asz ++
            (encNat le 1 seg ++ rest)))))
    (hul : ul < 0xFFFFFF00) (hver : ver < 256 ^ 2) (hio : io < 256 ^ 4) (hasz : asz < 256 ^ 1) (hseg : seg < 256 ^ 1) :
    structParse env (Spec.dwarfStructs ⟨le, 32, dasz, dver⟩).Dwarf_aranges_header data off
      = .ok (.record [("unit_length", .int ul), ("version", .int ver), ("debug_info_offset", .int io),
                      ("address_size", .int asz), ("segment_size", .int seg)], off + 12) := by
  rw [aranges_header_eq]
  exact (Engine.ReadsF.struct (.named (Engine.Reads.initlen (fmt64 := false) hul) <| .named (Engine.Reads.uint hver) <|
    .named (Engine.Reads.uint hio) <| .named (Engine.Reads.uint hasz) <| .named (Engine.Reads.uint hseg) .nil)
    (by simp [Fields.set])).structParse hd

theorem wfTuple_iff {asz : Nat} {t : ARTuple} :
    wfTuple asz t = true ↔ t.addr < 256 ^ asz ∧ t.len < 256 ^ asz ∧ (t.addr ≠ 0 ∨ t.len ≠ 0) := by
  unfold wfTuple
  simp only [Bool.and_eq_true, decide_eq_true_eq, Bool.not_eq_true', Bool.and_eq_false_iff, beq_eq_false_iff_ne]
  exact and_assoc

/-- `Model.readTuples` with the `got_entries` flag exposed (for the induction) -/
def readTuplesG (env : Env) (c : Con) (data : Bytes) (mk : Nat → Nat → AREntry) (fuel pos : Nat) (got : Bool)
    (acc : List AREntry) : R (List AREntry × Nat) := do
  let (a, p1) ← parseNat env c data pos
  let (l, p2) ← parseNat env c data p1
  tupleLoop env c data mk false fuel p2 a l got acc

theorem readTuplesG_end {env : Env} {data rest : Bytes} {le : Bool} {asz pos fuel : Nat} {mk : Nat → Nat → AREntry}
    {got : Bool} {acc : List AREntry} (hd : data.drop pos = encTuple le asz ⟨0, 0⟩ ++ rest) :
    readTuplesG env (.uint asz le) data mk (fuel + 1) pos got acc = .ok (acc, pos + asz + asz) := by
  rw [encTuple, List.append_assoc] at hd
  have h1 := drop_add_of_drop hd
  rw [encNat_length] at h1
  have hz : 0 < 256 ^ asz := Nat.pow_pos (by omega)
  unfold readTuplesG
  simp only [parseNat_uint hd hz, parseNat_uint h1 hz, bind, Except.bind]
  unfold tupleLoop
  simp

theorem readTuplesG_one {env : Env} {data rest : Bytes} {le : Bool} {asz pos fuel : Nat} {mk : Nat → Nat → AREntry}
    {got : Bool} {acc : List AREntry} {t : ARTuple} (hd : data.drop pos = encTuple le asz t ++ rest)
    (hwf : wfTuple asz t = true) :
    readTuplesG env (.uint asz le) data mk (fuel + 1) pos got acc
      = readTuplesG env (.uint asz le) data mk fuel (pos + asz + asz) true (acc ++ [mk t.addr t.len]) := by
  obtain ⟨ha, hl, hnz⟩ := wfTuple_iff.mp hwf
  rw [encTuple, List.append_assoc] at hd
  have h1 := drop_add_of_drop hd
  rw [encNat_length] at h1
  have hc : (t.addr ≠ 0 ∨ t.len ≠ 0 ∨ (!got && false) = true) := by
    rcases hnz with h | h
    · exact Or.inl h
    · exact Or.inr (Or.inl h)
  conv => lhs; unfold readTuplesG
  simp only [parseNat_uint hd ha, parseNat_uint h1 hl, bind, Except.bind]
  unfold tupleLoop
  simp only [hc, if_true, hnz]
  rfl

theorem readTuplesG_spec {env : Env} {data : Bytes} {le : Bool} {asz : Nat} {mk : Nat → Nat → AREntry} {rest : Bytes} :
    ∀ (ts : List ARTuple) (pos fuel : Nat) (got : Bool) (acc : List AREntry),
      data.drop pos = ts.flatMap (encTuple le asz) ++ (encTuple le asz ⟨0, 0⟩ ++ rest) →
      (∀ t ∈ ts, wfTuple asz t = true) → ts.length + 1 ≤ fuel →
      ∃ p, readTuplesG env (.uint asz le) data mk fuel pos got acc
        = .ok (acc ++ ts.map (fun t => mk t.addr t.len), p)
  | [], pos, fuel, got, acc, hd, _, hf => by
    obtain ⟨f, rfl⟩ : ∃ f, fuel = f + 1 := ⟨fuel - 1, by simp at hf; omega⟩
    exact ⟨pos + asz + asz, by rw [readTuplesG_end (by simpa using hd)]; simp⟩
  | t :: ts, pos, fuel, got, acc, hd, hwf, hf => by
    obtain ⟨f, rfl⟩ : ∃ f, fuel = f + 1 := ⟨fuel - 1, by simp at hf; omega⟩
    rw [List.flatMap_cons, List.append_assoc] at hd
    have hd' := drop_add_of_drop hd
    simp only [encTuple, List.length_append, encNat_length, ← Nat.add_assoc] at hd'
    obtain ⟨p, hp⟩ := readTuplesG_spec ts (pos + asz + asz) f true (acc ++ [mk t.addr t.len]) hd'
      (fun x hx => hwf x (List.mem_cons_of_mem _ hx)) (by simp at hf; omega)
    exact ⟨p, by rw [readTuplesG_one hd (hwf t List.mem_cons_self), hp]; simp⟩

theorem addrSizeStruct_spec (le : Bool) (dasz dver asz : Nat) (h : asz = 4 ∨ asz = 8) :
    addrSizeStruct (Spec.dwarfStructs ⟨le, 32, dasz, dver⟩) asz = .ok (.uint asz le) := by
  rcases h with rfl | rfl <;> simp [addrSizeStruct, Spec.dwarfStructs]

theorem readTuples_spec {env : Env} {data : Bytes} {le : Bool} {asz : Nat} {mk : Nat → Nat → AREntry} {rest : Bytes}
    (ts : List ARTuple) (pos fuel : Nat) (acc : List AREntry)
    (hd : data.drop pos = ts.flatMap (encTuple le asz) ++ (encTuple le asz ⟨0, 0⟩ ++ rest))
    (hwf : ∀ t ∈ ts, wfTuple asz t = true) (hf : ts.length + 1 ≤ fuel) :
    ∃ p, readTuples env (.uint asz le) data mk false fuel pos acc
      = .ok (acc ++ ts.map (fun t => mk t.addr t.len), p) :=
  readTuplesG_spec ts pos fuel false acc hd hwf hf

theorem wfSet_iff {le : Bool} {off : Nat} {s : ARSet} :
    wfSet le off s = true ↔ s.version < 256 ^ 2 ∧ s.infoOff < 256 ^ 4 ∧ (s.asz = 4 ∨ s.asz = 8) ∧
      (∀ t ∈ s.tuples, wfTuple s.asz t = true) ∧ setUnitLength le off s < 0xFFFFFF00 := by
  unfold wfSet
  simp only [Bool.and_eq_true, decide_eq_true_eq, Bool.or_eq_true, beq_iff_eq, List.all_eq_true, and_assoc]

theorem seekTo_eq (off asz : Nat) (h : asz = 4 ∨ asz = 8) :
    (off + 12 + asz * 2 - 1) / (asz * 2) * (asz * 2) = off + 12 + padTo (off + 12) (2 * asz) := by
  unfold padTo
  rcases h with rfl | rfl <;> omega

theorem encSets_length_ge (le : Bool) : ∀ (sets : List ARSet) (off : Nat), sets.length ≤ (encSets le off sets).length := by
  intro sets
  induction sets with
  | nil => intro off; simp [encSets]
  | cons s ss ih =>
    intro off
    have := ih (off + (4 + setUnitLength le off s))
    simp only [encSets, encSet, List.length_append, encNat_length, List.length_cons]
    omega

theorem flatMap_encTuple_length (le : Bool) (asz : Nat) (ts : List ARTuple) :
    (ts.flatMap (encTuple le asz)).length = ts.length * (2 * asz) := by
  induction ts with
  | nil => simp
  | cons t ts ih =>
    simp only [List.flatMap_cons, List.length_append, ih, encTuple, encNat_length, List.length_cons]
    rw [Nat.add_mul]; omega

theorem encSet_length (le : Bool) (off : Nat) (s : ARSet) : (encSet le off s).length = 4 + setUnitLength le off s := by
  simp only [encSet, setUnitLength, setHdrRest, List.length_append, encNat_length]

/-- one turn of `while offset < self.size` on an encoded set, whatever follows it -/
theorem setsLoop_one {env : Env} {data rest : Bytes} {le : Bool} {dasz dver size off fuel : Nat} {s : ARSet}
    {acc : List AREntry} (hd : data.drop off = encSet le off s ++ rest) (hwf : wfSet le off s = true) (hlt : off < size) :
    setsLoop env (Spec.dwarfStructs ⟨le, 32, dasz, dver⟩) 32 data size false (fuel + 1) off acc
      = setsLoop env (Spec.dwarfStructs ⟨le, 32, dasz, dver⟩) 32 data size false fuel (off + (4 + setUnitLength le off s))
          (acc ++ entriesOfSet le off s) := by
  obtain ⟨hver, hio, hasz, hts, hul⟩ := wfSet_iff.mp hwf
  have hd0 : data.drop off = encNat le 4 (setUnitLength le off s) ++ (encNat le 2 s.version ++
      (encNat le 4 s.infoOff ++ (encNat le 1 s.asz ++ (encNat le 1 0 ++ (setTail le off s ++ rest))))) := by
    rw [hd]; simp [encSet, setHdrRest, List.append_assoc]
  have hhdr := aranges_header_parse (env := env) (dasz := dasz) (dver := dver) hd0 hul hver hio
    (by rcases hasz with h | h <;> omega) (by omega)
  -- behind the 12 header bytes: padding to the tuple alignment, then the tuples and their terminator
  have h12 : data.drop (off + 12) = List.replicate (padTo (off + 12) (2 * s.asz)) s.fill ++
      (s.tuples.flatMap (encTuple le s.asz) ++ (encTuple le s.asz ⟨0, 0⟩ ++ (s.trail ++ rest))) := by
    have h := drop_add_of_drop (drop_add_of_drop (drop_add_of_drop (drop_add_of_drop (drop_add_of_drop hd0))))
    simp only [encNat_length] at h
    rw [h]; simp [setTail, List.append_assoc]
  have hseek := drop_add_of_drop h12
  rw [List.length_replicate] at hseek
  have hfuel : s.tuples.length + 1 ≤ data.length + 2 := by
    have h1 := congrArg List.length hseek
    simp only [List.length_drop, List.length_append, flatMap_encTuple_length] at h1
    have : s.tuples.length ≤ s.tuples.length * (2 * s.asz) := by
      rcases hasz with h | h <;> rw [h] <;> omega
    omega
  obtain ⟨p, hp⟩ := readTuples_spec (env := env) (le := le)
    (mk := fun a l => (⟨a, l, s.infoOff, setUnitLength le off s, s.version, s.asz, 0⟩ : AREntry))
    s.tuples (off + 12 + padTo (off + 12) (2 * s.asz)) (data.length + 2) acc hseek hts hfuel
  rw [← seekTo_eq off s.asz hasz] at hp
  -- `Val.getNat_record_int` with the record fixed, so that each `by simp [Fields.get?]` below evaluates on a literal
  have lk : ∀ {k : String} {n : Nat}, Fields.get? [("unit_length", .int (setUnitLength le off s : Int)),
      ("version", .int (s.version : Int)), ("debug_info_offset", .int (s.infoOff : Int)),
      ("address_size", .int (s.asz : Int)), ("segment_size", .int ((0 : Nat) : Int))] k = some (.int (n : Int)) →
      (Val.record _).getNat k = .ok n := Val.getNat_record_int
  rw [setsLoop]
  simp only [hlt, if_true, hhdr, lk (k := "address_size") (n := s.asz) (by simp [Fields.get?]),
    addrSizeStruct_spec le dasz dver s.asz hasz, lk (k := "segment_size") (n := 0) (by simp [Fields.get?]),
    lk (k := "debug_info_offset") (n := s.infoOff) (by simp [Fields.get?]),
    lk (k := "unit_length") (n := setUnitLength le off s) (by simp [Fields.get?]),
    lk (k := "version") (n := s.version) (by simp [Fields.get?]), hp, bind, Except.bind]
  rw [show off + setUnitLength le off s + initialLengthFieldSize 32 = off + (4 + setUnitLength le off s) by
    rw [show initialLengthFieldSize 32 = 4 from rfl]; omega]
  rfl

theorem setsLoop_spec {env : Env} {data : Bytes} {le : Bool} {dasz dver size : Nat} :
    ∀ (sets : List ARSet) (off fuel : Nat) (acc : List AREntry),
      data.drop off = encSets le off sets → off + (encSets le off sets).length = size →
      wfSets le off sets = true → sets.length + 1 ≤ fuel →
      setsLoop env (Spec.dwarfStructs ⟨le, 32, dasz, dver⟩) 32 data size false fuel off acc
        = .ok (acc ++ entriesOf le off sets)
  | [], off, fuel, acc, _, hsz, _, hf => by
    obtain ⟨f, rfl⟩ : ∃ f, fuel = f + 1 := ⟨fuel - 1, by simp at hf; omega⟩
    simp [encSets] at hsz
    unfold setsLoop
    simp [hsz, entriesOf]
  | s :: ss, off, fuel, acc, hd, hsz, hwf, hf => by
    obtain ⟨f, rfl⟩ : ∃ f, fuel = f + 1 := ⟨fuel - 1, by simp at hf; omega⟩
    simp only [wfSets, Bool.and_eq_true] at hwf
    rw [encSets] at hd hsz
    rw [List.length_append, encSet_length] at hsz
    rw [setsLoop_one hd hwf.1 (by omega),
      setsLoop_spec ss _ f _ (by have h := drop_add_of_drop hd; rwa [encSet_length] at h) (by omega) hwf.2 (by simp at hf; omega),
      entriesOf, List.append_assoc]

theorem nameLUT_header_eq (le : Bool) (asz ver : Nat) :
    (Spec.dwarfStructs ⟨le, 32, asz, ver⟩).Dwarf_nameLUT_header
      = .struct (.cons (some "unit_length") false (.initialLength le)
          (.cons (some "version") false (.uint 2 le)
          (.cons (some "debug_info_offset") false (.uint 4 le)
          (.cons (some "debug_info_length") false (.uint 4 le) .nil)))) := by
  simp [Spec.dwarfStructs, Spec.st, Spec.f, Spec.mkFields]

theorem nameLUT_header_parse {env : Env} {data : Bytes} {off : Nat} {le : Bool} {dasz dver ul ver io il : Nat}
    {rest : Bytes}
    (hd : data.drop off = encNat le 4 ul ++ (encNat le 2 ver ++ (encNat le 4 io ++ (encNat le 4 il ++ rest))))
    (hul : ul < 0xFFFFFF00) (hver : ver < 256 ^ 2) (hio : io < 256 ^ 4) (hil : il < 256 ^ 4) :
    structParse env (Spec.dwarfStructs ⟨le, 32, dasz, dver⟩).Dwarf_nameLUT_header data off
      = .ok (.record [("unit_length", .int ul), ("version", .int ver), ("debug_info_offset", .int io),
                      ("debug_info_length", .int il)], off + 14) := by
  rw [nameLUT_header_eq]
  exact (Engine.ReadsF.struct (.named (Engine.Reads.initlen (fmt64 := false) hul) <| .named (Engine.Reads.uint hver) <|
    .named (Engine.Reads.uint hio) <| .named (Engine.Reads.uint hil) .nil) (by simp [Fields.set])).structParse hd

theorem nameEntryStruct_eq (le : Bool) (asz ver : Nat) :
    nameEntryStruct (Spec.dwarfStructs ⟨le, 32, asz, ver⟩)
      = .struct (.cons (some "die_ofs") false (.uint 4 le)
          (.cons (some "name") false (.ifThenElse (.ctx "die_ofs") .cstring (.value .none)) .nil)) := by
  simp [nameEntryStruct, Spec.dwarfStructs]

theorem nameEntry_parse {env : Env} {data : Bytes} {pos : Nat} {le : Bool} {dasz dver d : Nat} {nm rest : Bytes}
    (hd : data.drop pos = encNat le 4 d ++ (nm ++ [0] ++ rest)) (hd0 : 0 < d) (hdlt : d < 256 ^ 4)
    (hnm : ∀ b ∈ nm, b ≠ 0) :
    structParse env (nameEntryStruct (Spec.dwarfStructs ⟨le, 32, dasz, dver⟩)) data pos
      = .ok (.record [("die_ofs", .int d), ("name", .bytes nm)], pos + 4 + nm.length + 1) := by
  rw [nameEntryStruct_eq]
  exact (Engine.ReadsF.struct (.named (Engine.Reads.uint hdlt) <|
    .named (Engine.Reads.ite_true (cv := .int d) (Engine.eval_ctx (by simp [Fields.get?_set]))
      (by simp [Val.truthy]; omega) (Engine.Reads.cstring hnm)) (.nil (inp := rest)))
    (by simp [Fields.set])).structParse (by rw [hd]; simp)

theorem nameTerm_parse {env : Env} {data : Bytes} {pos : Nat} {le : Bool} {dasz dver : Nat} {rest : Bytes}
    (hd : data.drop pos = encNat le 4 0 ++ rest) :
    structParse env (nameEntryStruct (Spec.dwarfStructs ⟨le, 32, dasz, dver⟩)) data pos
      = .ok (.record [("die_ofs", .int (0 : Nat)), ("name", .none)], pos + 4) := by
  rw [nameEntryStruct_eq]
  exact (Engine.ReadsF.struct (.named (Engine.Reads.uint (by decide)) <|
    .named (Engine.Reads.ite_false (cv := .int (0 : Nat)) (Engine.eval_ctx (by simp [Fields.get?_set])) rfl
      (Engine.Reads.value rfl)) .nil) (by simp [Fields.set])).structParse hd

theorem wfNameEntry_iff {e : NameEntry} :
    wfNameEntry e = true ↔ 0 < e.dieOfs ∧ e.dieOfs < 256 ^ 4 ∧ (∀ b ∈ e.name, b ≠ 0) ∧ utf8Valid e.name = true := by
  unfold wfNameEntry
  simp only [Bool.and_eq_true, decide_eq_true_eq, List.all_eq_true, bne_iff_ne, and_assoc]

theorem nameEntryLoop_spec {env : Env} {data : Bytes} {le : Bool} {dasz dver cuOfs : Nat} {rest : Bytes} :
    ∀ (es : List NameEntry) (pos fuel : Nat) (d : NameDict),
      data.drop pos = es.flatMap (encNameEntry le) ++ (encNat le 4 0 ++ rest) →
      (∀ e ∈ es, wfNameEntry e = true) → es.length + 1 ≤ fuel →
      ∃ p, nameEntryLoop env (Spec.dwarfStructs ⟨le, 32, dasz, dver⟩) data cuOfs fuel pos d
        = .ok (addSet d cuOfs es, p) := by
  intro es
  induction es with
  | nil =>
    intro pos fuel d hd _ hf
    cases fuel with
    | zero => omega
    | succ fuel =>
      simp only [List.flatMap_nil, List.nil_append] at hd
      refine ⟨pos + 4, ?_⟩
      unfold nameEntryLoop
      simp only [nameTerm_parse hd, bind, Except.bind]
      rw [Val.getNat_record_int (Fields.get?_cons_eq _ _ _)]
      simp [addSet, pure, Except.pure]
  | cons e es ih =>
    intro pos fuel d hd hwf hf
    cases fuel with
    | zero => omega
    | succ fuel =>
      obtain ⟨h0, hlt, hnul, hutf⟩ := wfNameEntry_iff.mp (hwf e List.mem_cons_self)
      have hd' : data.drop pos = encNat le 4 e.dieOfs ++ (e.name ++ [0] ++
          (es.flatMap (encNameEntry le) ++ (encNat le 4 0 ++ rest))) := by
        rw [hd]; simp [encNameEntry, List.append_assoc]
      have h1 := drop_add_of_drop hd'
      have h2 := drop_add_of_drop h1
      simp only [encNat_length, List.length_append, List.length_cons, List.length_nil] at h2
      have h2' : data.drop (pos + 4 + e.name.length + 1)
          = es.flatMap (encNameEntry le) ++ (encNat le 4 0 ++ rest) := by
        rw [← h2]; congr 1
      obtain ⟨p, hp⟩ := ih (pos + 4 + e.name.length + 1) fuel (dictSet d e.name (cuOfs, cuOfs + e.dieOfs)) h2'
        (fun x hx => hwf x (List.mem_cons_of_mem _ hx)) (by simp at hf; omega)
      refine ⟨p, ?_⟩
      unfold nameEntryLoop
      simp only [nameEntry_parse hd' h0 hlt hnul, bind, Except.bind]
      rw [Val.getNat_record_int (Fields.get?_cons_eq _ _ _)]
      have hne : e.dieOfs ≠ 0 := by omega
      simp only [hne, if_false, Val.getField, Fields.getR, Fields.get?]
      simp [hutf, hp, addSet]

theorem wfNameSet_iff {le : Bool} {s : NameSet} :
    wfNameSet le s = true ↔ s.version < 256 ^ 2 ∧ s.infoOff < 256 ^ 4 ∧ s.infoLen < 256 ^ 4 ∧
      (∀ e ∈ s.entries, wfNameEntry e = true) ∧ nameUnitLength le s < 0xFFFFFF00 := by
  unfold wfNameSet
  simp only [Bool.and_eq_true, decide_eq_true_eq, List.all_eq_true, and_assoc]

theorem encNameSet_length (le : Bool) (s : NameSet) : (encNameSet le s).length = 4 + nameUnitLength le s := by
  simp only [encNameSet, nameUnitLength, nameHdrRest, List.length_append, encNat_length]

/-- one turn of `while offset < self._size` on an encoded name set, whatever follows it -/
theorem nameSetsLoop_one {env : Env} {data rest : Bytes} {le : Bool} {dasz dver size off fuel : Nat} {s : NameSet}
    {d : NameDict} {hdrs : List Val} (hd : data.drop off = encNameSet le s ++ rest) (hwf : wfNameSet le s = true)
    (hlt : off < size) :
    nameSetsLoop env (Spec.dwarfStructs ⟨le, 32, dasz, dver⟩) 32 data size (fuel + 1) off d hdrs
      = nameSetsLoop env (Spec.dwarfStructs ⟨le, 32, dasz, dver⟩) 32 data size fuel (off + (4 + nameUnitLength le s))
          (addSet d s.infoOff s.entries) (hdrs ++ [nameHdrVal le s]) := by
  obtain ⟨hver, hio, hil, hes, hul⟩ := wfNameSet_iff.mp hwf
  have hd0 : data.drop off = encNat le 4 (nameUnitLength le s) ++ (encNat le 2 s.version ++
      (encNat le 4 s.infoOff ++ (encNat le 4 s.infoLen ++ (nameSetTail le s ++ rest)))) := by
    rw [hd]; simp [encNameSet, nameHdrRest, List.append_assoc]
  have hhdr := nameLUT_header_parse (env := env) (dasz := dasz) (dver := dver) hd0 hul hver hio hil
  have hent : data.drop (off + 14) = s.entries.flatMap (encNameEntry le) ++ (encNat le 4 0 ++ rest) := by
    have h := drop_add_of_drop (drop_add_of_drop (drop_add_of_drop (drop_add_of_drop hd0)))
    simp only [encNat_length] at h
    rw [h]; simp [nameSetTail, List.append_assoc]
  have hfuel : s.entries.length + 1 ≤ data.length + 1 := by
    have h1 := congrArg List.length hent
    simp only [List.length_drop, List.length_append] at h1
    have := Engine.flatMap_length_ge (encNameEntry le) s.entries fun e _ => by
      simp only [encNameEntry, List.length_append, encNat_length]; omega
    omega
  obtain ⟨p, hp⟩ := nameEntryLoop_spec (env := env) (dasz := dasz) (dver := dver) (cuOfs := s.infoOff)
    s.entries (off + 14) (data.length + 1) d hent hes hfuel
  have lk : ∀ {k : String} {n : Nat}, Fields.get? [("unit_length", .int (nameUnitLength le s : Int)),
      ("version", .int (s.version : Int)), ("debug_info_offset", .int (s.infoOff : Int)),
      ("debug_info_length", .int (s.infoLen : Int))] k = some (.int (n : Int)) →
      (Val.record _).getNat k = .ok n := Val.getNat_record_int
  rw [nameSetsLoop]
  simp only [hlt, if_true, hhdr, lk (k := "unit_length") (n := nameUnitLength le s) (by simp [Fields.get?]),
    lk (k := "debug_info_offset") (n := s.infoOff) (by simp [Fields.get?]), hp, bind, Except.bind]
  rw [show off + nameUnitLength le s + initialLengthFieldSize 32 = off + (4 + nameUnitLength le s) by
    rw [show initialLengthFieldSize 32 = 4 from rfl]; omega]
  rfl

theorem nameSetsLoop_spec {env : Env} {data : Bytes} {le : Bool} {dasz dver size : Nat} :
    ∀ (sets : List NameSet) (off fuel : Nat) (d : NameDict) (hdrs : List Val),
      data.drop off = encNameSets le sets → off + (encNameSets le sets).length = size →
      (∀ s ∈ sets, wfNameSet le s = true) → sets.length + 1 ≤ fuel →
      nameSetsLoop env (Spec.dwarfStructs ⟨le, 32, dasz, dver⟩) 32 data size fuel off d hdrs
        = .ok (addSets d sets, hdrs ++ sets.map (nameHdrVal le))
  | [], off, fuel, d, hdrs, _, hsz, _, hf => by
    obtain ⟨f, rfl⟩ : ∃ f, fuel = f + 1 := ⟨fuel - 1, by simp at hf; omega⟩
    simp [encNameSets] at hsz
    unfold nameSetsLoop
    simp [hsz, addSets]
  | s :: ss, off, fuel, d, hdrs, hd, hsz, hwf, hf => by
    obtain ⟨f, rfl⟩ : ∃ f, fuel = f + 1 := ⟨fuel - 1, by simp at hf; omega⟩
    have hcons : encNameSets le (s :: ss) = encNameSet le s ++ encNameSets le ss := by simp [encNameSets]
    rw [hcons] at hd hsz
    rw [List.length_append, encNameSet_length] at hsz
    rw [nameSetsLoop_one hd (hwf s List.mem_cons_self) (by omega),
      nameSetsLoop_spec ss _ f _ _ (by have h := drop_add_of_drop hd; rwa [encNameSet_length] at h) (by omega)
        (fun x hx => hwf x (List.mem_cons_of_mem _ hx)) (by simp at hf; omega)]
    simp [addSets, List.append_assoc]

theorem nameGetEntries_encoded (env : Env) (le : Bool) (dasz dver : Nat) (sets : List NameSet)
    (hwf : ∀ s ∈ sets, wfNameSet le s = true) :
    nameGetEntries env (Spec.dwarfStructs ⟨le, 32, dasz, dver⟩) 32 (encNameSets le sets) (encNameSets le sets).length
      = .ok (mappingOf (namePairs sets), sets.map (nameHdrVal le)) := by
  have := nameSetsLoop_spec (env := env) (data := encNameSets le sets) (le := le) (dasz := dasz) (dver := dver)
    (size := (encNameSets le sets).length) sets 0 ((encNameSets le sets).length + 1) [] [] (by simp) (by simp) hwf
    (by have := Engine.flatMap_length_ge (encNameSet le) sets fun s _ => by rw [encNameSet_length]; omega
        rw [← encNameSets] at this; omega)
  simpa [nameGetEntries, addSets_eq, mappingOf] using this

theorem getEntries_encoded (env : Env) (le : Bool) (dasz dver : Nat) (sets : List ARSet)
    (hwf : wfSets le 0 sets = true) :
    getEntries env (Spec.dwarfStructs ⟨le, 32, dasz, dver⟩) 32 (encSets le 0 sets) (encSets le 0 sets).length
      = .ok (entriesOf le 0 sets) := by
  have := setsLoop_spec (env := env) (data := encSets le 0 sets) (le := le) (dasz := dasz) (dver := dver)
    (size := (encSets le 0 sets).length) sets 0 ((encSets le 0 sets).length + 1) [] (by simp) (by simp) hwf
    (by have := encSets_length_ge le sets 0; omega)
  simpa [getEntries] using this

theorem aranges_init_encoded (env : Env) (le : Bool) (dasz dver : Nat) (sets : List ARSet)
    (hwf : wfSets le 0 sets = true) :
    ARanges.init env (Spec.dwarfStructs ⟨le, 32, dasz, dver⟩) 32 (encSets le 0 sets) (encSets le 0 sets).length
      = .ok ⟨pySortBy (·.begin) (entriesOf le 0 sets), (pySortBy (·.begin) (entriesOf le 0 sets)).map (·.begin)⟩ := by
  unfold ARanges.init
  rw [getEntries_encoded env le dasz dver sets hwf]
  rfl

theorem getAranges_encoded (env : Env) (le : Bool) (dasz dver : Nat) (sets : List ARSet) (hwf : wfSets le 0 sets = true) :
    getAranges env (Spec.dwarfStructs ⟨le, 32, dasz, dver⟩) (some (encSets le 0 sets))
      = .ok (some ⟨pySortBy (·.begin) (entriesOf le 0 sets), (pySortBy (·.begin) (entriesOf le 0 sets)).map (·.begin)⟩) := by
  simp only [getAranges, aranges_init_encoded env le dasz dver sets hwf, bind, Except.bind, pure, Except.pure]

end PyElf.Proofs.Lookup
