/-
  DWARF 5 location/range list entries: the struct bundle's entry parsers decode
  every entry kind exactly, at any position of the data, and the model's entry translation agrees
  with the Spec meaning of the entries.  Both parsers are one shape over a table of kinds (`entryCon` at `lleKinds`,
  `rleKinds`).  The file ends with example entries (`demoEnt`, `demoRng`, `demoEnv`).
-/
import PyElf.Spec.DwarfStructs
import PyElf.Spec.Lists
import PyElf.Model.Lists
import PyElf.Proofs.Primitives
import PyElf.Proofs.Reads
import PyElf.Proofs.Follows
import PyElf.Proofs.ListsSeek
namespace PyElf.Proofs.ListsV5
open PyElf PyElf.Spec PyElf.Spec.Lists PyElf.Proofs PyElf.Proofs.Engine

def FK.con (le : Bool) (asz : Nat) : FK → Con
  | .addr => .uint asz le
  | .uleb => .uleb
  | .cld => .prefixed .uleb (.uint 1 le)

def Kind.body (le : Bool) (asz : Nat) (k : Kind) : Con :=
  st (k.fields.map fun (p : String × FK) => f p.1 (FK.con le asz p.2))

def entryStruct (le : Bool) (asz : Nat) (table : String) (kinds : List Kind) : Con :=
  st [f "entry_offset" .streamOffset, f "entry_type" (enumOf (.uint 1 le) table false),
      emb (.switch (ctx "entry_type") (mkCases (kinds.map fun k => (Val.str k.name, Kind.body le asz k))) .noDefault),
      f "entry_end_offset" .streamOffset,
      f "entry_length" (.value (.sub (ctx "entry_end_offset") (ctx "entry_offset")))]

def entryCon (le : Bool) (asz : Nat) (table endName : String) (kinds : List Kind) : Con :=
  .repeatUntilExcl (.eq (.objFld "entry_type") (.str endName)) (entryStruct le asz table kinds)

theorem operand_reads {env : Env} {pos : Nat} {le : Bool} {asz : Nat} {c : Fields} {v : FV} {out : Bytes}
    (hwf : v.wf asz = true) :
    Reads (pr env (FK.con le asz v.kind)) c pos (v.enc le asz ++ out) v.obs (pos + v.size asz) out c := by
  cases v with
  | addr a => exact Reads.uint (by simpa [FV.wf] using hwf)
  | uleb n v =>
    simp only [FV.wf, Bool.and_eq_true, decide_eq_true_eq] at hwf
    exact Reads.uleb hwf.1 hwf.2
  | cld n x =>
    simp only [FV.wf, Bool.and_eq_true, decide_eq_true_eq] at hwf
    exact .of_ok (by simp [FV.enc, FV.size, encUlebN_length]) fun hd => by
      rw [show pos + FV.size asz (.cld n x) = pos + n + x.length from (Nat.add_assoc ..).symm]
      exact parse_block_uleb hwf.1 hwf.2 (by simpa [FV.enc, List.append_assoc] using hd)

theorem body_reads (env : Env) (le : Bool) (asz : Nat) (out : Bytes) :
    ∀ (fs : List (String × FK)) (vals : List FV) (obj cx : Fields) (pos : Nat),
      vals.map FV.kind = fs.map (·.2) → (∀ v ∈ vals, v.wf asz = true) →
      (fs.map (·.1)).Nodup → (∀ nm ∈ fs.map (·.1), Fields.get? obj nm = none ∧ Fields.get? cx nm = none) →
      ReadsF (pf env (mkFields (fs.map fun (p : String × FK) => f p.1 (FK.con le asz p.2)))) obj cx pos
        (vals.flatMap (FV.enc le asz) ++ out) (obj ++ namedVals fs vals) (pos + valsSize asz vals) out
        (cx ++ namedVals fs vals) := by
  intro fs
  induction fs with
  | nil =>
    intro vals obj cx pos hk _ _ _
    cases vals with
    | nil => simpa [mkFields, namedVals, valsSize] using ReadsF.nil
    | cons v vs => simp at hk
  | cons p fs ih =>
    intro vals obj cx pos hk hwf hnd hfresh
    obtain ⟨nm, fk⟩ := p
    cases vals with
    | nil => simp at hk
    | cons v vs =>
      simp only [List.map_cons, List.cons.injEq] at hk
      obtain ⟨rfl, hk2⟩ := hk
      simp only [List.map_cons, List.nodup_cons] at hnd
      have hf0 := hfresh nm (by simp)
      have ih := ih vs (obj ++ [(nm, v.obs)]) (cx ++ [(nm, v.obs)]) (pos + v.size asz) hk2
        (fun x hx => hwf x (by simp [hx])) hnd.2 fun k hkm => by
          have hne : nm ≠ k := fun e => hnd.1 (e ▸ hkm)
          simp only [Fields.get?_append, Fields.get?, if_neg hne, Option.or_none]
          exact hfresh k (by simp [hkm])
      rw [← Fields.set_fresh _ _ _ hf0.1, ← Fields.set_fresh _ _ _ hf0.2] at ih
      have hr := ReadsF.named (nm := nm) (obj := obj) (operand_reads (le := le) (out := vs.flatMap (FV.enc le asz) ++ out)
        (hwf v (by simp))) ih
      rw [Fields.set_fresh _ _ _ hf0.1, Fields.set_fresh _ _ _ hf0.2, List.append_assoc, List.append_assoc,
        ← List.append_assoc (v.enc le asz), Nat.add_assoc] at hr
      exact hr

theorem lookupCase_kinds (le : Bool) (asz : Nat) (k : Kind) : ∀ (kinds : List Kind), (kinds.map (·.name)).Nodup → k ∈ kinds →
    lookupCase (.str k.name) (mkCases (kinds.map fun k => (Val.str k.name, Kind.body le asz k))) .noDefault
      = Kind.body le asz k := by
  intro kinds
  induction kinds with
  | nil => intro _ h; simp at h
  | cons k' ks ih =>
    intro hnd hk
    simp only [List.map_cons, List.nodup_cons] at hnd
    simp only [lookupCase, List.map_cons, mkCases, ConCases.find, Val.str_beq] at ih ⊢
    by_cases hkk : k' = k
    · subst hkk; simp
    · have hin : k ∈ ks := (List.mem_cons.1 hk).resolve_left fun e => hkk e.symm
      have hne : k'.name ≠ k.name := fun e => hnd.1 (e ▸ List.mem_map_of_mem hin)
      simp only [beq_eq_false_iff_ne.2 hne, Bool.false_eq_true, if_false]
      exact ih hnd.2 hin

theorem get?_namedVals_none (k : String) :
    ∀ (fs : List (String × FK)) (vals : List FV), k ∉ fs.map (·.1) → Fields.get? (namedVals fs vals) k = none := by
  intro fs
  induction fs with
  | nil => intro vals _; simp [namedVals, Fields.get?]
  | cons p fs ih =>
    intro vals hk
    obtain ⟨nm, fk⟩ := p
    cases vals with
    | nil => simp [namedVals, Fields.get?]
    | cons v vs =>
      simp only [List.map_cons, List.mem_cons, not_or] at hk
      simp only [namedVals, Fields.get?]
      rw [if_neg (fun e => hk.1 e.symm)]
      exact ih vs hk.2

def reserved : List String := ["entry_offset", "entry_type", "entry_end_offset", "entry_length"]

def Kind.ok (k : Kind) : Bool :=
  decide ((k.fields.map (·.1)).Nodup) && (k.fields.map (·.1)).all (fun nm => !reserved.contains nm)
    && decide (k.code < 256)

theorem entryStruct_eq (le : Bool) (asz : Nat) (table : String) (kinds : List Kind) :
    entryStruct le asz table kinds = .struct (.cons (some "entry_offset") false .streamOffset
      (.cons (some "entry_type") false (.enum (.uint 1 le) table false)
      (.cons none true (.switch (.ctx "entry_type") (mkCases (kinds.map fun k => (Val.str k.name, Kind.body le asz k))) .noDefault)
      (.cons (some "entry_end_offset") false .streamOffset
      (.cons (some "entry_length") false (.value (.sub (.ctx "entry_end_offset") (.ctx "entry_offset"))) .nil))))) := rfl

theorem entry_reads (env : Env) (le : Bool) (asz : Nat) (table : String) (kinds : List Kind)
    (k : Kind) (vals : List FV) (c : Fields) (pos : Nat) (out : Bytes)
    (hnd : (kinds.map (·.name)).Nodup) (hk : k ∈ kinds) (hok : Kind.ok k = true)
    (henv : env.enumDecode table (k.code : Int) = some k.name)
    (hshape : vals.map FV.kind = k.fields.map (·.2)) (hwf : ∀ v ∈ vals, v.wf asz = true) :
    Reads (pr env (entryStruct le asz table kinds)) c pos (Ent.enc le asz ⟨k, vals⟩ ++ out)
      (Ent.rawObs asz pos ⟨k, vals⟩) (pos + Ent.size asz ⟨k, vals⟩) out c := by
  simp only [Kind.ok, Bool.and_eq_true, decide_eq_true_eq, List.all_eq_true] at hok
  obtain ⟨⟨hfnd, hres⟩, hcode⟩ := hok
  have hnot : ∀ r ∈ reserved, r ∉ k.fields.map (·.1) := fun r hr hmem => by simpa [hr] using hres r hmem
  have hn1 := hnot "entry_offset" (by decide)
  have hn2 := hnot "entry_type" (by decide)
  have hn3 := get?_namedVals_none "entry_end_offset" k.fields vals (hnot _ (by decide))
  have hn4 := get?_namedVals_none "entry_length" k.fields vals (hnot _ (by decide))
  -- the kind's own fields are read into the object that holds the two fields in front of the switch
  have hbody := body_reads env le asz out k.fields vals
    (Fields.set (Fields.set [] "entry_offset" (.int pos)) "entry_type" (.str k.name))
    (Fields.set (Fields.set [] "entry_offset" (.int pos)) "entry_type" (.str k.name)) (pos + 1) hshape hwf hfnd
    fun nm hnm => by
      have h1 : "entry_offset" ≠ nm := fun e => hn1 (e ▸ hnm)
      have h2 : "entry_type" ≠ nm := fun e => hn2 (e ▸ hnm)
      simp [Fields.get?_set, Fields.get?, h1, h2]
  rw [entryStruct_eq]
  refine (ReadsF.struct (.named .streamOffset <| .named (Reads.enum_named (Reads.byte hcode) henv) <|
      .emb (ReadsF.emb_switch (k := .str k.name) (eval_ctx (by simp [Fields.get?_set]))
        (by rw [lookupCase_kinds le asz k kinds hnd hk]; exact ReadsF.emb_struct hbody)) <|
      .named .streamOffset <|
      .named (Reads.value (v := .int ((1 + valsSize asz vals : Nat) : Int)) ?_) .nil) ?_).as
    (by simp [Ent.enc]) rfl (by simp [Ent.size, Nat.add_assoc])
  · simp [Expr.eval, Fields.getR, Fields.get?_set, Fields.get?_append, Expr.arith, Val.asInt, bind, Except.bind,
      pure, Except.pure]
    omega
  · rw [Fields.set_fresh _ _ _ (by simp [Fields.get?_set, Fields.get?_append, Fields.get?, hn4]),
      Fields.set_fresh _ _ _ (by simp [Fields.get?_set, Fields.get?_append, Fields.get?, hn3])]
    simp [Fields.set, Ent.size, Nat.add_assoc]

theorem wf_unpack {kinds : List Kind} {asz : Nat} {e : Ent} (h : e.wf kinds asz = true) :
    e.kind ∈ kinds ∧ e.kind.code ≠ 0 ∧ e.vals.map FV.kind = e.kind.fields.map (·.2)
      ∧ ∀ v ∈ e.vals, v.wf asz = true := by
  simpa [Ent.wf, and_assoc] using h

theorem fv_enc_length (le : Bool) (asz : Nat) (v : FV) : (v.enc le asz).length = v.size asz := by
  cases v <;> simp [FV.enc, FV.size, encNat_length, encUlebN_length]

theorem vals_enc_length (le : Bool) (asz : Nat) (vals : List FV) :
    (vals.flatMap (FV.enc le asz)).length = valsSize asz vals := by
  induction vals with
  | nil => rfl
  | cons v vs ih =>
    simp only [List.flatMap_cons, List.length_append, ih, fv_enc_length, valsSize, List.map_cons, List.sum_cons]

theorem ent_enc_length (le : Bool) (asz : Nat) (e : Ent) : (e.enc le asz).length = e.size asz := by
  simp only [Ent.enc, List.length_cons, vals_enc_length, Ent.size]; omega

theorem encList_length (le : Bool) (asz : Nat) (es : List Ent) :
    (encList le asz es).length = listSize asz es := by
  induction es with
  | nil => simp [encList, listSize]
  | cons e es ih =>
    simp only [encList, listSize, List.flatMap_cons, List.length_append, List.map_cons, List.sum_cons,
      ent_enc_length, List.length_cons, List.length_nil] at ih ⊢
    omega

theorem listSize_pos (asz : Nat) (es : List Ent) : 1 ≤ listSize asz es := by
  simp [listSize]

theorem stop_entry (endName : String) (asz pos : Nat) (e : Ent) (c : Fields) :
    (do return (← (Expr.eq (.objFld "entry_type") (.str endName)).eval c (e.rawObs asz pos)).truthy : R Bool)
      = .ok (e.kind.name == endName) := by
  simp [Expr.eval, Ent.rawObs, Val.getField, Fields.getR, Fields.get?, bind, Except.bind, pure, Except.pure,
    Val.str_beq, Val.truthy]

theorem encList_length_ge (le : Bool) (asz : Nat) (es : List Ent) : es.length + 1 ≤ (encList le asz es).length := by
  have := Engine.flatMap_length_ge (fun e => Ent.enc le asz e) es fun e _ => by simp [Ent.enc]
  rw [encList, List.length_append, List.length_singleton]; omega

/-- The loop of `RepeatUntilExcluding` on the entries and their terminator.  An induction of its own, not an instance of
    the shared item loop, because an entry reports its own offsets.  Fuel: one round per entry and one for the terminator. -/
theorem repeatLoop_entries (env : Env) (data : Bytes) (le : Bool) (asz : Nat) (table endName : String)
    (kinds : List Kind) (rest : Bytes) (c : Fields)
    (hnd : (kinds.map (·.name)).Nodup) (hok : ∀ k ∈ kinds, Kind.ok k = true)
    (henv : ∀ k ∈ kinds, env.enumDecode table (k.code : Int) = some k.name)
    (hendK : (⟨0, endName, []⟩ : Kind) ∈ kinds)
    (hend : ∀ k ∈ kinds, k.code ≠ 0 → k.name ≠ endName) :
    ∀ (es : List Ent) (fuel pos : Nat) (acc : List Val),
      (∀ e ∈ es, e.wf kinds asz = true) → es.length + 1 ≤ fuel →
      data.drop pos = encList le asz es ++ rest →
      repeatLoop (fun p c => Con.parse env data (entryStruct le asz table kinds) c p)
        (fun v c => do return (← (Expr.eq (.objFld "entry_type") (.str endName)).eval c v).truthy)
        fuel pos c acc
        = .ok (.list (acc.reverse ++ rawObsList asz pos es), pos + listSize asz es, c) := by
  intro es
  induction es with
  | nil =>
    intro fuel pos acc _ hf hd
    cases fuel with
    | zero => omega
    | succ fuel =>
      have hd0 : data.drop pos = Ent.enc le asz ⟨⟨0, endName, []⟩, []⟩ ++ rest := by
        simpa [encList, Ent.enc] using hd
      rw [repeatLoop, (entry_reads env le asz table kinds _ [] c pos rest hnd hendK (hok _ hendK)
        (henv _ hendK) rfl (by simp)).parse hd0]
      simp only [stop_entry]
      simp [rawObsList, listSize, Ent.size, valsSize]
  | cons e es ih =>
    intro fuel pos acc hwf hf hd
    cases fuel with
    | zero => omega
    | succ fuel =>
      obtain ⟨hk, hc, hshape, hv⟩ := wf_unpack (hwf e (by simp))
      have hd0 : data.drop pos = Ent.enc le asz ⟨e.kind, e.vals⟩ ++ (encList le asz es ++ rest) := by
        simpa [encList, List.append_assoc] using hd
      have hne : (e.kind.name == endName) = false := by simpa using hend _ hk hc
      obtain ⟨he, hd1⟩ := (entry_reads env le asz table kinds e.kind e.vals c pos _ hnd hk (hok _ hk) (henv _ hk)
        hshape hv).ok hd0
      rw [repeatLoop, show Con.parse env data _ c pos = _ from he]
      simp only [stop_entry, hne]
      rw [ih fuel _ _ (fun x hx => hwf x (by simp [hx])) (by simp at hf; omega) hd1]
      simp [rawObsList, listSize, Nat.add_assoc]

theorem parse_entryCon (env : Env) (le : Bool) (asz : Nat) (table endName : String)
    (kinds : List Kind) (data rest : Bytes) (pos : Nat) (es : List Ent) (c : Fields)
    (hnd : (kinds.map (·.name)).Nodup) (hok : ∀ k ∈ kinds, Kind.ok k = true)
    (henv : ∀ k ∈ kinds, env.enumDecode table (k.code : Int) = some k.name)
    (hendK : (⟨0, endName, []⟩ : Kind) ∈ kinds)
    (hend : ∀ k ∈ kinds, k.code ≠ 0 → k.name ≠ endName)
    (hwf : ∀ e ∈ es, e.wf kinds asz = true)
    (hd : data.drop pos = encList le asz es ++ rest) :
    Con.parse env data (entryCon le asz table endName kinds) c pos
      = .ok (.list (rawObsList asz pos es), pos + listSize asz es, c) := by
  have hl := length_of_drop hd
  have hge := encList_length_ge le asz es
  rw [entryCon, Con.parse]
  rw [repeatLoop_entries env _ le asz table endName kinds rest c hnd hok henv hendK hend es _ pos []
    hwf (by simp only [List.length_append] at hl; omega) hd]
  simp

theorem parse_loclists_at (env : Env) (cfg : DwarfCfg) (data rest : Bytes) (pos : Nat) (es : List Ent) (ctx : Fields)
    (henv : ∀ k ∈ lleKinds, env.enumDecode "ENUM_DW_LLE" (k.code : Int) = some k.name)
    (hwf : ∀ e ∈ es, e.wf lleKinds cfg.asz = true) (hd : data.drop pos = encList cfg.le cfg.asz es ++ rest) :
    Con.parse env data (Spec.dwarfStructs cfg).Dwarf_loclists_entries ctx pos
      = .ok (.list (rawObsList cfg.asz pos es), pos + listSize cfg.asz es, ctx) :=
  parse_entryCon env cfg.le cfg.asz "ENUM_DW_LLE" "DW_LLE_end_of_list" lleKinds data rest pos es ctx (by decide +kernel)
    (by decide +kernel) henv (by decide +kernel) (by decide +kernel) hwf hd

theorem parse_rnglists_at (env : Env) (cfg : DwarfCfg) (data rest : Bytes) (pos : Nat) (es : List Ent) (ctx : Fields)
    (henv : ∀ k ∈ rleKinds, env.enumDecode "ENUM_DW_RLE" (k.code : Int) = some k.name)
    (hwf : ∀ e ∈ es, e.wf rleKinds cfg.asz = true) (hd : data.drop pos = encList cfg.le cfg.asz es ++ rest) :
    Con.parse env data (Spec.dwarfStructs cfg).Dwarf_rnglists_entries ctx pos
      = .ok (.list (rawObsList cfg.asz pos es), pos + listSize cfg.asz es, ctx) :=
  parse_entryCon env cfg.le cfg.asz "ENUM_DW_RLE" "DW_RLE_end_of_list" rleKinds data rest pos es ctx (by decide +kernel)
    (by decide +kernel) henv (by decide +kernel) (by decide +kernel) hwf hd

theorem kind_addr {v : FV} (h : v.kind = .addr) : ∃ a, v = .addr a := by
  cases v <;> simp [FV.kind] at h
  exact ⟨_, rfl⟩

theorem kind_uleb {v : FV} (h : v.kind = .uleb) : ∃ n x, v = .uleb n x := by
  cases v <;> simp [FV.kind] at h
  exact ⟨_, _, rfl⟩

theorem kind_cld {v : FV} (h : v.kind = .cld) : ∃ n x, v = .cld n x := by
  cases v <;> simp [FV.kind] at h
  exact ⟨_, _, rfl⟩

theorem shape1 {vs : List FV} {k : FK} (h : vs.map FV.kind = [k]) : ∃ v, vs = [v] ∧ v.kind = k := by
  rcases vs with _ | ⟨v, _ | ⟨w, vs⟩⟩ <;> simp at h
  exact ⟨v, rfl, h⟩

theorem shape2 {vs : List FV} {k1 k2 : FK} (h : vs.map FV.kind = [k1, k2]) :
    ∃ v1 v2, vs = [v1, v2] ∧ v1.kind = k1 ∧ v2.kind = k2 := by
  rcases vs with _ | ⟨v1, _ | ⟨v2, _ | ⟨w, vs⟩⟩⟩ <;> simp at h
  exact ⟨v1, v2, rfl, h⟩

theorem shape3 {vs : List FV} {k1 k2 k3 : FK} (h : vs.map FV.kind = [k1, k2, k3]) :
    ∃ v1 v2 v3, vs = [v1, v2, v3] ∧ v1.kind = k1 ∧ v2.kind = k2 ∧ v3.kind = k3 := by
  rcases vs with _ | ⟨v1, _ | ⟨v2, _ | ⟨v3, _ | ⟨w, vs⟩⟩⟩⟩ <;> simp at h
  exact ⟨v1, v2, v3, rfl, h⟩

/- Both tables are gone through kind by kind.  The operand shapes follow from `wf`.  On a concrete entry both sides
   compute: the Spec meaning (`hsp`) names the value — outright, or as a function of the indexed addresses, which
   `haddr` then feeds to the model's `get_addr` calls in the order the table row makes them. -/

theorem translateLoc_exact (env : Env) (secs : Model.Lists.Secs) (cu : Option Model.Lists.Cu) (addrs : List Nat)
    (asz off : Nat) (e : Ent) (v : Val)
    (hwf : e.wf lleKinds asz = true)
    (haddr : ∀ i a, addrOf addrs i = some a → Model.Lists.cuAddr env secs cu (.int i) = .ok (.int a))
    (hsp : Spec.Lists.translateLoc (addrOf addrs) asz off e = some v) :
    Model.Lists.translateLoc env secs cu (e.rawObs asz off) = .ok v := by
  obtain ⟨hk, hc, hshape, -⟩ := wf_unpack hwf
  obtain ⟨k, vals⟩ := e
  simp only [lleKinds, List.mem_cons, List.not_mem_nil, or_false] at hk
  rcases hk with rfl | rfl | rfl | rfl | rfl | rfl | rfl | rfl | rfl
  · exact absurd rfl hc
  · obtain ⟨v1, rfl, h1⟩ := shape1 hshape
    obtain ⟨n, i, rfl⟩ := kind_uleb h1
    change Option.map _ (addrOf addrs i) = some v at hsp
    obtain ⟨a, ha, rfl⟩ := Option.map_eq_some_iff.1 hsp
    show (Model.Lists.cuAddr env secs cu (.int i) >>= _) = _
    rw [haddr _ _ ha]
    rfl
  · obtain ⟨v1, v2, v3, rfl, h1, h2, h3⟩ := shape3 hshape
    obtain ⟨n, i, rfl⟩ := kind_uleb h1
    obtain ⟨m, j, rfl⟩ := kind_uleb h2
    obtain ⟨q, x, rfl⟩ := kind_cld h3
    change Option.bind (addrOf addrs i) _ = some v at hsp
    obtain ⟨a, ha, hsp⟩ := Option.bind_eq_some_iff.1 hsp
    obtain ⟨b, hb, rfl⟩ := Option.map_eq_some_iff.1 hsp
    show (Model.Lists.cuAddr env secs cu (.int i) >>= _) = _
    rw [haddr _ _ ha]
    show (Model.Lists.cuAddr env secs cu (.int j) >>= _) = _
    rw [haddr _ _ hb]
    rfl
  · obtain ⟨v1, v2, v3, rfl, h1, h2, h3⟩ := shape3 hshape
    obtain ⟨n, i, rfl⟩ := kind_uleb h1
    obtain ⟨m, l, rfl⟩ := kind_uleb h2
    obtain ⟨q, x, rfl⟩ := kind_cld h3
    change Option.map _ (addrOf addrs i) = some v at hsp
    obtain ⟨a, ha, rfl⟩ := Option.map_eq_some_iff.1 hsp
    show (Model.Lists.cuAddr env secs cu (.int i) >>= _) = _
    rw [haddr _ _ ha]
    rfl
  · obtain ⟨v1, v2, v3, rfl, h1, h2, h3⟩ := shape3 hshape
    obtain ⟨n, a, rfl⟩ := kind_uleb h1
    obtain ⟨m, b, rfl⟩ := kind_uleb h2
    obtain ⟨q, x, rfl⟩ := kind_cld h3
    cases hsp
    rfl
  · obtain ⟨v1, rfl, h1⟩ := shape1 hshape
    obtain ⟨q, x, rfl⟩ := kind_cld h1
    cases hsp
    rfl
  · obtain ⟨v1, rfl, h1⟩ := shape1 hshape
    obtain ⟨a, rfl⟩ := kind_addr h1
    cases hsp
    rfl
  · obtain ⟨v1, v2, v3, rfl, h1, h2, h3⟩ := shape3 hshape
    obtain ⟨a, rfl⟩ := kind_addr h1
    obtain ⟨b, rfl⟩ := kind_addr h2
    obtain ⟨q, x, rfl⟩ := kind_cld h3
    cases hsp
    rfl
  · obtain ⟨v1, v2, v3, rfl, h1, h2, h3⟩ := shape3 hshape
    obtain ⟨a, rfl⟩ := kind_addr h1
    obtain ⟨m, l, rfl⟩ := kind_uleb h2
    obtain ⟨q, x, rfl⟩ := kind_cld h3
    cases hsp
    rfl

theorem translateRng_exact (env : Env) (secs : Model.Lists.Secs) (cu : Option Model.Lists.Cu) (addrs : List Nat)
    (asz off : Nat) (e : Ent) (v : Val)
    (hwf : e.wf rleKinds asz = true)
    (haddr : ∀ i a, addrOf addrs i = some a → Model.Lists.cuAddr env secs cu (.int i) = .ok (.int a))
    (hsp : Spec.Lists.translateRng (addrOf addrs) asz off e = some v) :
    Model.Lists.translateRng env secs cu (e.rawObs asz off) = .ok v := by
  obtain ⟨hk, hc, hshape, -⟩ := wf_unpack hwf
  obtain ⟨k, vals⟩ := e
  simp only [rleKinds, List.mem_cons, List.not_mem_nil, or_false] at hk
  rcases hk with rfl | rfl | rfl | rfl | rfl | rfl | rfl | rfl
  · exact absurd rfl hc
  · obtain ⟨v1, rfl, h1⟩ := shape1 hshape
    obtain ⟨n, i, rfl⟩ := kind_uleb h1
    change Option.map _ (addrOf addrs i) = some v at hsp
    obtain ⟨a, ha, rfl⟩ := Option.map_eq_some_iff.1 hsp
    show (Model.Lists.cuAddr env secs cu (.int i) >>= _) = _
    rw [haddr _ _ ha]
    rfl
  · obtain ⟨v1, v2, rfl, h1, h2⟩ := shape2 hshape
    obtain ⟨n, i, rfl⟩ := kind_uleb h1
    obtain ⟨m, j, rfl⟩ := kind_uleb h2
    change Option.bind (addrOf addrs i) _ = some v at hsp
    obtain ⟨a, ha, hsp⟩ := Option.bind_eq_some_iff.1 hsp
    obtain ⟨b, hb, rfl⟩ := Option.map_eq_some_iff.1 hsp
    show (Model.Lists.cuAddr env secs cu (.int i) >>= _) = _
    rw [haddr _ _ ha]
    show (Model.Lists.cuAddr env secs cu (.int j) >>= _) = _
    rw [haddr _ _ hb]
    rfl
  · obtain ⟨v1, v2, rfl, h1, h2⟩ := shape2 hshape
    obtain ⟨n, i, rfl⟩ := kind_uleb h1
    obtain ⟨m, l, rfl⟩ := kind_uleb h2
    change Option.map _ (addrOf addrs i) = some v at hsp
    obtain ⟨a, ha, rfl⟩ := Option.map_eq_some_iff.1 hsp
    show (Model.Lists.cuAddr env secs cu (.int i) >>= _) = _
    rw [haddr _ _ ha]
    rfl
  · obtain ⟨v1, v2, rfl, h1, h2⟩ := shape2 hshape
    obtain ⟨n, a, rfl⟩ := kind_uleb h1
    obtain ⟨m, b, rfl⟩ := kind_uleb h2
    cases hsp
    rfl
  · obtain ⟨v1, rfl, h1⟩ := shape1 hshape
    obtain ⟨a, rfl⟩ := kind_addr h1
    cases hsp
    rfl
  · obtain ⟨v1, v2, rfl, h1, h2⟩ := shape2 hshape
    obtain ⟨a, rfl⟩ := kind_addr h1
    obtain ⟨b, rfl⟩ := kind_addr h2
    cases hsp
    rfl
  · obtain ⟨v1, v2, rfl, h1, h2⟩ := shape2 hshape
    obtain ⟨a, rfl⟩ := kind_addr h1
    obtain ⟨m, l, rfl⟩ := kind_uleb h2
    cases hsp
    rfl

theorem mapM_translate (f : Val → R Val) (tr : Nat → Ent → Option Val) (asz : Nat) :
    ∀ (es : List Ent) (off : Nat), (∀ e ∈ es, ∀ o, Follows id (tr o e) (f (e.rawObs asz o))) →
      Follows id (translateList tr asz off es) ((rawObsList asz off es).mapM f)
  | [], _, _ => .of_eq rfl
  | e :: es, off, hf => by
    rw [translateList, rawObsList, List.mapM_cons]
    exact (hf e (by simp) off).bind fun v _ =>
      (mapM_translate f tr asz es _ fun x hx => hf x (by simp [hx])).bind fun vs _ => .of_eq rfl

theorem parseLocV5_at (env : Env) (secs : Model.Lists.Secs) (cfg : DwarfCfg) (l : Model.Lists.Lists)
    (cu : Model.Lists.Cu) (addrs : List Nat) (rest : Bytes) (es : List Ent) (vs : List Val) (pos : Nat)
    (henv : ∀ k ∈ lleKinds, env.enumDecode "ENUM_DW_LLE" (k.code : Int) = some k.name)
    (hS : l.S.Dwarf_loclists_entries = (Spec.dwarfStructs cfg).Dwarf_loclists_entries)
    (hd : l.data.drop pos = encList cfg.le cfg.asz es ++ rest)
    (hwf : ∀ e ∈ es, e.wf lleKinds cfg.asz = true)
    (haddr : ∀ i a, addrOf addrs i = some a → Model.Lists.cuAddr env secs (some cu) (.int i) = .ok (.int a))
    (hsp : translateList (fun o e => Spec.Lists.translateLoc (addrOf addrs) cfg.asz o e) cfg.asz pos es = some vs) :
    Model.Lists.parseLocV5 env secs l pos (some cu) = .ok (vs, pos + listSize cfg.asz es) := by
  have hm := (mapM_translate (Model.Lists.translateLoc env secs (some cu))
    (fun o e => Spec.Lists.translateLoc (addrOf addrs) cfg.asz o e) cfg.asz es pos
    (fun e he o v h => translateLoc_exact env secs (some cu) addrs cfg.asz o e v (hwf e he) haddr h)).ok hsp
  unfold Model.Lists.parseLocV5
  rw [hS, Engine.structParse_of_parse (parse_loclists_at env cfg l.data rest pos es [] henv hwf hd)]
  simp [Model.Lists.mapEntries, hm, bind, Except.bind, pure, Except.pure]

/-- `cu` may be absent: only the indexed kinds consult it -/
theorem parseRngV5_at (env : Env) (secs : Model.Lists.Secs) (cfg : DwarfCfg) (l : Model.Lists.Lists)
    (cu : Option Model.Lists.Cu) (addrs : List Nat) (rest : Bytes) (es : List Ent) (vs : List Val) (pos : Nat)
    (henv : ∀ k ∈ rleKinds, env.enumDecode "ENUM_DW_RLE" (k.code : Int) = some k.name)
    (hS : l.S.Dwarf_rnglists_entries = (Spec.dwarfStructs cfg).Dwarf_rnglists_entries)
    (hd : l.data.drop pos = encList cfg.le cfg.asz es ++ rest)
    (hwf : ∀ e ∈ es, e.wf rleKinds cfg.asz = true)
    (haddr : ∀ i a, addrOf addrs i = some a → Model.Lists.cuAddr env secs cu (.int i) = .ok (.int a))
    (hsp : translateList (fun o e => Spec.Lists.translateRng (addrOf addrs) cfg.asz o e) cfg.asz pos es = some vs) :
    Model.Lists.parseRngV5 env secs l pos cu = .ok (vs, pos + listSize cfg.asz es) := by
  have hm := (mapM_translate (Model.Lists.translateRng env secs cu)
    (fun o e => Spec.Lists.translateRng (addrOf addrs) cfg.asz o e) cfg.asz es pos
    (fun e he o v h => translateRng_exact env secs cu addrs cfg.asz o e v (hwf e he) haddr h)).ok hsp
  unfold Model.Lists.parseRngV5
  rw [hS, Engine.structParse_of_parse (parse_rnglists_at env cfg l.data rest pos es [] henv hwf hd)]
  simp [Model.Lists.mapEntries, hm, bind, Except.bind, pure, Except.pure]

theorem getLocationListAtOffset_v5 (env : Env) (secs : Model.Lists.Secs) (l : Model.Lists.Lists) (cu : Model.Lists.Cu) {pos : Nat}
    (hv : 5 ≤ l.version) (hsmall : pos < 2 ^ 63) :
    Model.Lists.getLocationListAtOffset env secs l (pos : Int) (some cu) = (Model.Lists.parseLocV5 env secs l pos (some cu)).map (·.1) := by
  have hv' : l.version ≥ 5 := hv
  unfold Model.Lists.getLocationListAtOffset
  simp only [hv', decide_true, Option.isNone_some, Bool.and_false, Bool.false_eq_true, if_false, if_true,
    ListsSeek.seekInt_nat hsmall, bind, Except.bind, pure, Except.pure]
  cases Model.Lists.parseLocV5 env secs l pos (some cu) <;> rfl

theorem getRangeListAtOffset_v5 (env : Env) (secs : Model.Lists.Secs) (l : Model.Lists.Lists) (cu : Option Model.Lists.Cu) {pos : Nat}
    (hv : 5 ≤ l.version) (hsmall : pos < 2 ^ 63) :
    Model.Lists.getRangeListAtOffset env secs l (pos : Int) cu = (Model.Lists.parseRngV5 env secs l pos cu).map (·.1) := by
  have hv' : l.version ≥ 5 := hv
  unfold Model.Lists.getRangeListAtOffset
  simp only [hv', if_true, ListsSeek.seekInt_nat hsmall, bind, Except.bind, pure, Except.pure]
  cases Model.Lists.parseRngV5 env secs l pos cu <;> rfl

def demoEnt : Ent :=
  ⟨⟨8, "DW_LLE_start_length", [("start_address", .addr), ("length", .uleb), ("loc_expr", .cld)]⟩,
   [.addr 0x1000, .uleb 1 0x10, .cld 1 [0x50]]⟩

def demoRng : Ent :=
  ⟨⟨3, "DW_RLE_startx_length", [("start_index", .uleb), ("length", .uleb)]⟩, [.uleb 2 1, .uleb 1 0x20]⟩

/-- an environment whose code tables are exactly tables 7.10 and 7.30 -/
def demoEnv : Env :=
  ⟨fun t n =>
     if t = "ENUM_DW_LLE" then (lleKinds.find? fun k => (k.code : Int) == n).map (·.name)
     else if t = "ENUM_DW_RLE" then (rleKinds.find? fun k => (k.code : Int) == n).map (·.name)
     else none,
   fun _ => none⟩

example : demoEnt.wf lleKinds 8 = true := by decide
example : demoRng.wf rleKinds 8 = true := by decide
example : ∀ k ∈ lleKinds, demoEnv.enumDecode "ENUM_DW_LLE" (k.code : Int) = some k.name := by decide
example : ∀ k ∈ rleKinds, demoEnv.enumDecode "ENUM_DW_RLE" (k.code : Int) = some k.name := by decide

example :
    Con.parse demoEnv ([0xAA] ++ encList true 8 [demoEnt, demoEnt] ++ [0xBB])
        (Spec.dwarfStructs ⟨true, 32, 8, 5⟩).Dwarf_loclists_entries [] 1
      = .ok (.list (rawObsList 8 1 [demoEnt, demoEnt]), 1 + listSize 8 [demoEnt, demoEnt], []) :=
  parse_loclists_at demoEnv ⟨true, 32, 8, 5⟩ _ [0xBB] 1 [demoEnt, demoEnt] [] (by decide) (by decide) (drop_pre [0xAA] _ _)

example :
    Con.parse demoEnv ([] ++ encList false 4 [demoRng] ++ [])
        (Spec.dwarfStructs ⟨false, 32, 4, 5⟩).Dwarf_rnglists_entries [] 0
      = .ok (.list (rawObsList 4 0 [demoRng]), 0 + listSize 4 [demoRng], []) :=
  parse_rnglists_at demoEnv ⟨false, 32, 4, 5⟩ _ [] 0 [demoRng] [] (by decide) (by decide) (drop_pre [] _ _)

/-- `hsp` of the translation theorems is satisfiable -/
example : Spec.Lists.translateLoc (addrOf []) 8 0 demoEnt
    = some (locationEntry 0 12 0x1000 0x1010 [0x50] true) := by rfl
example : Spec.Lists.translateRng (addrOf [7, 0x4000]) 8 0 demoRng
    = some (rangeEntry 0 4 0x4000 0x4020 true) := by rfl

example (env : Env) (secs : Model.Lists.Secs) (cu : Option Model.Lists.Cu) :
    Model.Lists.translateLoc env secs cu (demoEnt.rawObs 8 0)
      = .ok (locationEntry 0 12 0x1000 0x1010 [0x50] true) :=
  translateLoc_exact env secs cu [] 8 0 demoEnt _ (by decide) (by intro i a h; simp [addrOf] at h) (by rfl)

end PyElf.Proofs.ListsV5
