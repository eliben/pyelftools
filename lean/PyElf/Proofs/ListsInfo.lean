/-
  C07: the list code on the units and debugging entries of a whole `.debug_info`.

  `forestCus` is what the list code must see of a forest description (Spec/DieSection `Forest`): per unit its
  version, address size, format, the standard's struct bundle of that configuration, and per entry (in
  `iter_DIEs()` order, null entries included) the (name, form, raw value) of every attribute.
  `infoCus_forest`: the composed model (Model/ListsInfo `infoCus`: unit headers, abbreviation tables, entry
  decoding, iteration — C04's model) yields exactly that on the Spec encoding of any well-formed forest
  (`iterSection_kind` at `infoKind`, C04's end-to-end theorem).  `rangeRefsSpec` gives the references of
  `iter_range_lists` from decoded entries (the twin of `ListsLocScan.locRefs`; it knows no forest).
-/
import PyElf.Model.ListsInfo
import PyElf.Proofs.DieSection
import PyElf.Proofs.ListsSlots
import PyElf.Proofs.ListsEnum
namespace PyElf.Proofs.ListsInfo
open PyElf PyElf.Spec PyElf.Spec.C04 PyElf.Spec.Lookup PyElf.Proofs PyElf.Proofs.C04
open PyElf.Model.Lists (Cu RawAttr Attr Secs rawAttrOfObs keyOf cuOfUnit infoCus secsOfSections unitDies forestCu forestCus forestResolves)
open PyElf.Model.C04 (UnitCtx DInfo iterSection getCachedDIE)

/-- `hfull`: the constructor answers with the standard's bundles -/
theorem infoCus_forest {ed : String → Int → Option String} {r2n : Nat → Option String} (hR : RegistryOK ed r2n)
    (F : Forest) (dasz : Nat) {B : Bundles} (hB : BundlesOK B F.le dasz)
    (hfull : ∀ c ∈ Spec.allDwarfCfgs, B.structsOf c = some (Spec.dwarfStructs c))
    (hwf : WfForest (namesOf ed) F)
    (G : UnitCtx → Nat → R DieObs) (hG : ∀ U o, U.cuDieOffset ≤ o → G U o = getCachedDIE U o) :
    infoCus G (dinfoOf F dasz ed r2n B.structsOf) B.S0 = .ok (forestCus (namesOf ed) F) := by
  unfold infoCus
  have hinfo : (dinfoOf F dasz ed r2n B.structsOf).info = some (infoSec F) := rfl
  rw [hinfo, show iterSection G _ _ (some (infoSec F)) false = _ from
    iterSection_kind (infoKind_ok F hR.ut) hB hR hwf hwf.info G hG, ← placeInfo_eq]
  simp only []
  rw [List.mapM_map, Engine.mapM_ok_of_forall _ _ (forestCu (namesOf ed) F)]
  · rfl
  · intro p hp
    have hw := hwf.infoHdr p.2 (mem_placeInfo F _ _ p hp)
    have hc := hfull _ (wfUnit_cfg_mem hw)
    have hK := infoKind_ok F hR.ut
    have h2 : (⟨F.le, if p.2.fmt64 then 64 else 32, p.2.asz, p.2.version⟩ : DwarfCfg) = p.2.cfg F.le := rfl
    simp only [Function.comp, bind, Except.bind, cuOfUnit, hK.asz, hK.version, hK.fmt p.1 p.2, dinfoOf, h2, hc, pure, Except.pure,
      forestCu, unitDies]
    rw [← flatUnitP_fst]
    simp only [List.map_map]
    rfl

theorem mem_forestCus {nm : Names} {F : Forest} {cu : Cu} (h : cu ∈ forestCus nm F) :
    ∃ p ∈ placeInfo F 0 F.units, cu = forestCu nm F p := by
  obtain ⟨p, hp, rfl⟩ := List.mem_map.1 h
  exact ⟨p, hp, rfl⟩

theorem forestCu_offset (nm : Names) (F : Forest) (p : Nat × UnitDesc) :
    (forestCu nm F p).S.the_Dwarf_offset = .uint (Model.Lists.oszOf (forestCu nm F p)) F.le := by
  have h := the_offset_eq (p.2.cfg F.le)
  simp only [forestCu, Model.Lists.oszOf]
  rw [h]
  simp only [UnitDesc.cfg]
  by_cases hf : p.2.fmt64 = true <;> simp [hf]

theorem forestCu_addr (nm : Names) (F : Forest) (p : Nat × UnitDesc) :
    (forestCu nm F p).S.the_Dwarf_target_addr = .uint (forestCu nm F p).asz F.le := rfl

/-! the three table sections the list code reaches, chosen from `WfForest.secsSmall` by name -/

theorem secsSmall_addr {nm : Names} {F : Forest} (hwf : WfForest nm F) {d : Bytes} (h : F.secs.addr = some d) :
    d.length < 2 ^ 63 := hwf.secsSmall d (.inr (.inr (.inl h)))
theorem secsSmall_loclists {nm : Names} {F : Forest} (hwf : WfForest nm F) {d : Bytes} (h : F.secs.loclists = some d) :
    d.length < 2 ^ 63 := hwf.secsSmall d (.inr (.inr (.inr (.inr (.inl h)))))
theorem secsSmall_rnglists {nm : Names} {F : Forest} (hwf : WfForest nm F) {d : Bytes} (h : F.secs.rnglists = some d) :
    d.length < 2 ^ 63 := hwf.secsSmall d (.inr (.inr (.inr (.inr (.inr h)))))

theorem forest_dieAttrs {nm : Names} {F : Forest} (env : Env) (hwf : WfForest nm F) (hres : forestResolves nm F = true)
    (cu : Cu) (hcu : cu ∈ forestCus nm F) (die : List RawAttr) (hdie : die ∈ cu.dies) :
    Model.Lists.dieAttrs env (secsOfSections F.secs) cu die
      = .ok (Model.Lists.specDec F.le (secsOfSections F.secs) cu die) := by
  obtain ⟨p, _, rfl⟩ := mem_forestCus hcu
  simp only [forestResolves, List.all_eq_true] at hres
  exact ListsSlots.dieAttrs_spec env _ _ F.le die (forestCu_offset nm F p)
    (fun _ hd => secsSmall_loclists hwf hd) (fun _ hd => secsSmall_rnglists hwf hd)
    (hres _ hcu die hdie)

/-- outer `none`: the DW_AT_ranges value is not a number -/
def dieRangeRef (ver5 : Bool) (cu : Cu) (d : List Attr) : Option (Option (Int × Cu)) :=
  match Model.Lists.findAttr d "DW_AT_ranges" with
  | some a => if decide (cu.version ≥ 5) == ver5 then (Spec.Lists.intOf a.value).map fun o => some (o, cu) else some none
  | none => some none

def rangeRefsSpec (dec : Cu → List RawAttr → List Attr) (ver5 : Bool) : List Cu → Option (List (Int × Cu))
  | [] => some []
  | cu :: rest => do
      let here ← (cu.dies.map (dec cu)).mapM (dieRangeRef ver5 cu)
      let more ← rangeRefsSpec dec ver5 rest
      pure (here.filterMap id ++ more)

theorem rangeRefDie_follows (env : Env) (secs : Secs) (ver5 : Bool) (cu : Cu) (die : List RawAttr) (d : List Attr)
    (hd : Model.Lists.dieAttrs env secs cu die = .ok d) :
    Follows id (dieRangeRef ver5 cu d) (Model.Lists.rangeRefDie env secs ver5 cu die) := by
  unfold Model.Lists.rangeRefDie dieRangeRef
  refine .skip hd ?_
  cases Model.Lists.findAttr d "DW_AT_ranges" with
  | none => exact .of_eq rfl
  | some a =>
    show Follows id (if _ then _ else _) (if _ then _ else _)
    exact .ite (fun _ => (ListsEnum.asInt_follows a.value).map_bind fun _ _ => rfl) fun _ => .of_eq rfl

theorem rangeRefs_follows (env : Env) (secs : Secs) (ver5 : Bool) (dec : Cu → List RawAttr → List Attr) :
    ∀ cus : List Cu, (∀ cu ∈ cus, ∀ die ∈ cu.dies, Model.Lists.dieAttrs env secs cu die = .ok (dec cu die)) →
      Follows id (rangeRefsSpec dec ver5 cus) (Model.Lists.rangeRefs env secs ver5 cus)
  | [], _ => .of_eq rfl
  | cu :: cus, hd => by
    unfold rangeRefsSpec Model.Lists.rangeRefs
    refine ((Follows.mapM (dec cu) cu.dies fun die hdie =>
      rangeRefDie_follows env secs ver5 cu die _ (hd cu (by simp) die hdie)).bind fun here _ => ?_)
    rw [List.map_id]
    exact (rangeRefs_follows env secs ver5 dec cus fun c hc => hd c (by simp [hc])).bind fun more _ => .of_eq rfl

end PyElf.Proofs.ListsInfo
