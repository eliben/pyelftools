/-
  C07: the section walk of `LocationLists.iter_location_lists()`: view pairs, the
  DWARF 2–4 loop over the referenced offsets, the DWARF 5 walk over unit blocks with
  gap skipping.  The scan (ListsLocScan) says what the three containers hold; here the walk is followed
  over the objects of a layout, given those contents object by object (`ObjOk4`, `ObjOk5`); `scan_facts` hands the
  scan's result over as `ObjAt`.  The file ends with example sections and units (`demo*`).
-/
import PyElf.Spec.DwarfStructs
import PyElf.Spec.Lists
import PyElf.Model.Lists
import PyElf.Proofs.Reads
import PyElf.Proofs.ListsV4
import PyElf.Proofs.ListsV5
import PyElf.Proofs.ListsUnits
import PyElf.Proofs.ListsLocScan
namespace PyElf.Proofs.ListsLocWalk
open PyElf PyElf.Spec PyElf.Spec.Lists PyElf.Model.Lists PyElf.Proofs

theorem structParse_viewpair (env : Env) (cfg : DwarfCfg) (data rest : Bytes) (pos n a m b : Nat)
    (hn : 1 ≤ n) (ha : a < 2 ^ (7 * n)) (hm : 1 ≤ m) (hb : b < 2 ^ (7 * m))
    (hd : data.drop pos = encUlebN n a ++ (encUlebN m b ++ rest)) :
    structParse env (Spec.dwarfStructs cfg).Dwarf_locview_pair data pos
      = .ok (.record [("entry_offset", .int pos), ("begin", .int a), ("end", .int b)], pos + n + m) :=
  (Engine.ReadsF.struct (.named .streamOffset <| .named (Engine.Reads.uleb hn ha) <| .named (Engine.Reads.uleb hm hb) .nil)
    (by simp [Fields.set])).structParse hd

theorem viewpair_attrs (pos a b : Nat) :
    let r : Val := .record [("entry_offset", .int pos), ("begin", .int a), ("end", .int b)]
    attr r "entry_offset" = .ok (.int pos) ∧ attr r "begin" = .ok (.int a) ∧ attr r "end" = .ok (.int b) := by
  simp [attr, Fields.get?]

theorem encViews_length (vs : List (FV × FV)) (le : Bool) : (encViews vs le).length = viewsSize vs := by
  induction vs with
  | nil => rfl
  | cons p vs ih =>
    simp only [encViews, viewsSize, List.flatMap_cons, List.length_append, List.map_cons, List.sum_cons,
      ListsV5.fv_enc_length] at ih ⊢
    omega

theorem viewsWf_cons {p : FV × FV} {vs : List (FV × FV)} (h : viewsWf (p :: vs) = true) :
    (∃ n a m b, p = (.uleb n a, .uleb m b) ∧ 1 ≤ n ∧ a < 2 ^ (7 * n) ∧ 1 ≤ m ∧ b < 2 ^ (7 * m))
      ∧ viewsWf vs = true := by
  simp only [viewsWf, List.all_cons, Bool.and_eq_true] at h
  obtain ⟨⟨⟨⟨k1, k2⟩, w1⟩, w2⟩, hr⟩ := h
  refine ⟨?_, by simpa [viewsWf] using hr⟩
  obtain ⟨x, y⟩ := p
  cases x <;> simp [FV.kind] at k1
  cases y <;> simp [FV.kind] at k2
  rename_i n a m b
  simp only [FV.wf, Bool.and_eq_true, decide_eq_true_eq] at w1 w2
  exact ⟨n, a, m, b, rfl, w1.1, w1.2, w2.1, w2.2⟩

theorem viewsWf_length {vs : List (FV × FV)} (h : viewsWf vs = true) : vs.length ≤ viewsSize vs := by
  induction vs with
  | nil => simp
  | cons p vs ih =>
    obtain ⟨⟨n, a, m, b, rfl, hn, -, hm, -⟩, hr⟩ := viewsWf_cons h
    have := ih hr
    simp only [viewsSize, List.map_cons, List.sum_cons, List.length_cons, FV.size] at this ⊢
    omega

theorem locviewLoop_ok (env : Env) (cfg : DwarfCfg) (l : Lists) (le : Bool) (rest : Bytes)
    (hS : l.S.Dwarf_locview_pair = (Spec.dwarfStructs cfg).Dwarf_locview_pair) :
    ∀ (vs : List (FV × FV)) (fuel pos : Nat) (acc : List Val) (listOffset : Int),
      viewsWf vs = true → vs.length + 1 ≤ fuel →
      l.data.drop pos = encViews vs le ++ rest →
      listOffset = ((pos + viewsSize vs : Nat) : Int) →
      locviewLoop env l listOffset fuel pos acc = .ok (acc.reverse ++ obsViews pos vs, pos + viewsSize vs) := by
  intro vs
  induction vs with
  | nil =>
    intro fuel pos acc lo _ hf _ hlo
    cases fuel with
    | zero => omega
    | succ fuel =>
      simp only [viewsSize, List.map_nil, List.sum_nil, Nat.add_zero] at hlo ⊢
      rw [locviewLoop, if_neg (by omega), if_pos (by omega)]
      simp [obsViews]
  | cons p vs ih =>
    intro fuel pos acc lo hwf hf hd hlo
    obtain ⟨⟨n, a, m, b, rfl, hn, ha, hm, hb⟩, hr⟩ := viewsWf_cons hwf
    cases fuel with
    | zero => omega
    | succ fuel =>
      have hsz : viewsSize ((FV.uleb n a, FV.uleb m b) :: vs) = n + m + viewsSize vs := by
        simp [viewsSize, FV.size]
      have hd0 : l.data.drop pos = encUlebN n a ++ (encUlebN m b ++ (encViews vs le ++ rest)) := by
        rw [hd]; simp [encViews, FV.enc, List.append_assoc]
      have d1 := drop_add_of_drop hd0
      rw [encUlebN_length] at d1
      have d2 := drop_add_of_drop d1
      rw [encUlebN_length] at d2
      rw [hsz] at hlo
      rw [locviewLoop, if_pos (by omega), hS, structParse_viewpair env cfg l.data _ pos n a m b hn ha hm hb hd0]
      obtain ⟨g1, g2, g3⟩ := viewpair_attrs pos a b
      simp only [g1, g2, g3, bind, Except.bind]
      rw [ih fuel (pos + n + m) _ lo hr (by simp at hf; omega) d2 (by rw [hlo]; omega)]
      simp [obsViews, viewPair, nt, hsz, Nat.add_assoc]

theorem parseLocviewPairs_obj {α} (env : Env) (cfg : DwarfCfg) (l : Lists) (le : Bool) (rest : Bytes)
    (hS : l.S.Dwarf_locview_pair = (Spec.dwarfStructs cfg).Dwarf_locview_pair)
    (locviews : List (Int × Int)) (o : LocObj α) (vo : Nat)
    (hget : dictGet? locviews (vo : Int) = o.views.map fun _ => ((vo + o.viewsLen : Nat) : Int))
    (hok : o.viewsOk = true) (hd : l.data.drop vo = o.viewsEnc le ++ rest) :
    parseLocviewPairs env l locviews vo = .ok (o.viewsObs vo, vo + o.viewsLen) := by
  unfold parseLocviewPairs
  rw [hget]
  cases hv : o.views with
  | none => simp [LocObj.viewsObs, LocObj.viewsLen, hv]
  | some vs =>
    simp only [LocObj.viewsOk, LocObj.viewsEnc, LocObj.viewsObs, LocObj.viewsLen, hv] at hok hd ⊢
    have hl := length_of_drop hd
    rw [List.length_append, encViews_length] at hl
    have := viewsWf_length hok
    simp only [Option.map_some]
    rw [locviewLoop_ok env cfg l le rest hS vs _ vo [] _ hok (by omega) hd rfl]
    simp

section layout
variable {α : Type} (enc : α → Bytes) (sz : α → Nat) (le : Bool)

theorem viewsEnc_length (o : LocObj α) : (o.viewsEnc le).length = o.viewsLen := by
  cases hv : o.views <;> simp [LocObj.viewsEnc, LocObj.viewsLen, hv, encViews_length]

theorem encObjs_cons (o : LocObj α) (objs : List (LocObj α)) :
    encObjs enc le (o :: objs) = o.gap ++ (o.viewsEnc le ++ (enc o.list ++ encObjs enc le objs)) := by
  simp [encObjs, List.append_assoc]

theorem layout_length (off : Nat) (objs : List (LocObj α)) : (layout sz off objs).length = objs.length := by
  induction objs generalizing off with
  | nil => rfl
  | cons o objs ih => simp [layout, ih]

/-- where a laid-out object lies in the run from `off` to `stop` that holds `objs` -/
structure InRun (off stop : Nat) (objs : List (LocObj α)) (e : Nat × Nat × LocObj α) : Prop where
  lo : e.2.1 = e.1 + e.2.2.viewsLen
  ge : off ≤ e.1
  le : e.2.1 + sz e.2.2.list ≤ stop
  mem : e.2.2 ∈ objs

theorem layout_facts (hsz : ∀ x, (enc x).length = sz x) :
    ∀ (objs : List (LocObj α)) (off : Nat), ∀ e ∈ layout sz off objs,
      InRun sz off (off + (encObjs enc le objs).length) objs e := by
  intro objs
  induction objs with
  | nil => intro off e he; simp [layout] at he
  | cons o objs ih =>
    intro off e he
    have hlen : (encObjs enc le (o :: objs)).length
        = o.gap.length + (o.viewsLen + (sz o.list + (encObjs enc le objs).length)) := by
      rw [encObjs_cons]; simp only [List.length_append, viewsEnc_length, hsz]
    simp only [layout, List.mem_cons] at he
    rcases he with rfl | he
    · exact ⟨rfl, by simp, by simp only []; omega, by simp⟩
    · have h := ih _ e he
      exact ⟨h.lo, by have := h.ge; omega, by have := h.le; omega, by simp [h.mem]⟩

theorem layout_data (hsz : ∀ x, (enc x).length = sz x) (data rest : Bytes) :
    ∀ (objs : List (LocObj α)) (off : Nat), data.drop off = encObjs enc le objs ++ rest →
      ∀ e ∈ layout sz off objs, ∃ rest', data.drop e.1 = e.2.2.viewsEnc le ++ (enc e.2.2.list ++ rest') := by
  intro objs
  induction objs with
  | nil => intro off _ e he; simp [layout] at he
  | cons o objs ih =>
    intro off hd e he
    rw [encObjs_cons, List.append_assoc, List.append_assoc, List.append_assoc] at hd
    have d1 := drop_add_of_drop hd
    have d2 := drop_add_of_drop d1
    rw [viewsEnc_length] at d2
    have d3 := drop_add_of_drop d2
    rw [hsz] at d3
    simp only [layout, List.mem_cons] at he
    rcases he with rfl | he
    · exact ⟨_, d1⟩
    · exact ih _ d3 e he

theorem layout_pairwise (hsz : ∀ x, (enc x).length = sz x) (hpos : ∀ x, 1 ≤ sz x) :
    ∀ (objs : List (LocObj α)) (off : Nat), (layout sz off objs).Pairwise (fun a b => a.2.1 < b.1) := by
  intro objs
  induction objs with
  | nil => intro off; simp [layout]
  | cons o objs ih =>
    intro off
    simp only [layout]
    rw [List.pairwise_cons]
    refine ⟨?_, ih _⟩
    intro b hb
    have := (layout_facts enc sz true hsz objs _ b hb).ge
    have := hpos o.list
    simp only []
    omega

end layout

theorem key_layoutRef {α} (e : Nat × Nat × LocObj α) (h : e.2.1 = e.1 + e.2.2.viewsLen) :
    ListsLocScan.key (layoutRef e) = (e.1 : Int) := by
  obtain ⟨vo, lo, o⟩ := e
  simp only [] at h
  cases hv : o.views with
  | none => simp [ListsLocScan.key, layoutRef, hv, h, LocObj.viewsLen]
  | some vs => simp [ListsLocScan.key, layoutRef, hv]

theorem separated_of_layout {α} (lay : List (Nat × Nat × LocObj α))
    (h1 : ∀ e ∈ lay, e.2.1 = e.1 + e.2.2.viewsLen) (h2 : lay.Pairwise (fun a b => a.2.1 < b.1)) :
    ListsLocScan.Separated (lay.map layoutRef) := by
  constructor
  · intro k hk
    obtain ⟨e, he, rfl⟩ := List.mem_map.mp hk
    rw [key_layoutRef e (h1 e he)]
    have := h1 e he
    simp only [layoutRef]
    omega
  · rw [List.pairwise_map]
    refine List.Pairwise.imp_of_mem ?_ h2
    intro a b _ hb hab
    rw [key_layoutRef b (h1 b hb)]
    simp only [layoutRef]
    omega

/-- what the scan recorded for a laid-out object: the bridge from the scan (`scan_facts`) to the walks -/
structure ObjAt {α} (sc : Scan) (refs : List (LocRef × Cu)) (e : Nat × Nat × LocObj α) : Prop where
  views : dictGet? sc.locviews (e.1 : Int) = e.2.2.views.map (fun _ => (e.2.1 : Int))
  unit : ∃ cu, dictGet? sc.cuMap (e.2.1 : Int) = some cu ∧ (layoutRef e, cu) ∈ refs

/-- one clause per test or read of one round of `locV4Loop` at a laid-out object `(views offset, list offset, o)` -/
structure ObjOk4 (l : Lists) (le : Bool) (sc : Scan) (e : Nat × Nat × LocObj (List V4Loc)) : Prop where
  lo : e.2.1 = e.1 + e.2.2.viewsLen
  small : e.1 < 2 ^ 63
  viewsOk : e.2.2.viewsOk = true
  wf : ∀ x ∈ e.2.2.list, x.wf l.asz = true
  views : dictGet? sc.locviews (e.1 : Int) = e.2.2.views.map (fun _ => (e.2.1 : Int))
  unit : ∃ cu, dictGet? sc.cuMap (e.2.1 : Int) = some cu ∧ cu.version < 5
  data : ∃ rest, l.data.drop e.1 = e.2.2.viewsEnc le ++ (encV4Loc le l.asz e.2.2.list ++ rest)

theorem locV4Loop_ok (env : Env) (cfg : DwarfCfg) (l : Lists) (le : Bool) (sc : Scan)
    (hV : l.S.Dwarf_locview_pair = (Spec.dwarfStructs cfg).Dwarf_locview_pair)
    (hA : l.S.the_Dwarf_target_addr = .uint l.asz le) (h16 : l.S.the_Dwarf_uint16 = .uint 2 le)
    (h8 : l.S.the_Dwarf_uint8 = .uint 1 le) (hasz : 1 ≤ l.asz) :
    ∀ (lay : List (Nat × Nat × LocObj (List V4Loc))) (out : List (List Val)),
      (∀ e ∈ lay, ObjOk4 l le sc e) →
      locV4Loop env l sc (lay.map fun e => (e.1 : Int)) out
        = .ok (out ++ lay.map fun e => e.2.2.viewsObs e.1 ++ obsV4Loc l.asz e.2.1 e.2.2.list) := by
  -- one round per object: the views dict turns the visited offset `vo` into the list's `lo` (`hlist`), the view pairs
  -- are read at `vo`, the list at `lo` (`hd2`)
  intro lay
  induction lay with
  | nil => intro out _; simp [locV4Loop]
  | cons e lay ih =>
    intro out hok
    obtain ⟨hlo, hsmall, hvok, hwf, hviews, ⟨cu, hcu, hver⟩, ⟨rest, hd⟩⟩ := hok e (by simp)
    obtain ⟨vo, lo, o⟩ := e
    simp only [] at hlo hsmall hvok hwf hviews hcu hd
    have hlist : (dictGet? sc.locviews (vo : Int)).getD (vo : Int) = (lo : Int) := by
      rw [hviews]
      cases hv : o.views with
      | none => simp [hlo, LocObj.viewsLen, hv]
      | some vs => simp
    have hd2 := drop_add_of_drop hd
    rw [viewsEnc_length, ← hlo] at hd2
    have hviews' : dictGet? sc.locviews (vo : Int) = o.views.map fun _ => ((vo + o.viewsLen : Nat) : Int) := by
      rw [hviews, hlo]
    rw [List.map_cons, locV4Loop]
    simp only [hlist, hcu, hver, if_true, ListsSeek.seekInt_nat hsmall]
    rw [parseLocviewPairs_obj env cfg l le _ hV sc.locviews o vo hviews' hvok hd]
    simp only [← hlo]
    rw [ListsV4.parseLocV4_at env l le rest o.list lo hA h16 h8 hasz hd2 hwf]
    simp only []
    rw [ih _ (fun x hx => hok x (by simp [hx]))]
    simp

theorem obsObjs_cons_some {α} {obsL : Nat → α → Option (List Val)} {vo lo : Nat} {o : LocObj α}
    {rest : List (Nat × Nat × LocObj α)} {outs : List (List Val)} (h : obsObjs obsL ((vo, lo, o) :: rest) = some outs) :
    ∃ vs more, obsL lo o.list = some vs ∧ obsObjs obsL rest = some more ∧ outs = (o.viewsObs vo ++ vs) :: more := by
  simp only [obsObjs, Option.bind_eq_bind, Option.bind_eq_some_iff, Option.pure_def, Option.some.injEq] at h
  obtain ⟨vs, hvs, more, hm, rfl⟩ := h
  exact ⟨vs, more, hvs, hm, rfl⟩

theorem obsObjs_v4 (asz : Nat) (lay : List (Nat × Nat × LocObj (List V4Loc))) :
    obsObjs (fun off es => some (obsV4Loc asz off es)) lay
      = some (lay.map fun e => e.2.2.viewsObs e.1 ++ obsV4Loc asz e.2.1 e.2.2.list) := by
  induction lay with
  | nil => rfl
  | cons e lay ih =>
    obtain ⟨vo, lo, o⟩ := e
    simp [obsObjs, ih, bind, Option.bind, pure]

/-- one clause per test or read of a round of the DWARF 5 walk at a laid-out object, without the positions (its induction runs over the bytes and has them); the recorded
    unit's address answers, which the indexed kinds consult, in place of its version -/
structure ObjOk5 (env : Env) (secs : Secs) (asz : Nat) (sc : Scan) (e : Nat × Nat × LocObj (List Nat × List Ent)) : Prop where
  viewsOk : e.2.2.viewsOk = true
  wf : ∀ x ∈ e.2.2.list.2, x.wf lleKinds asz = true
  views : dictGet? sc.locviews (e.1 : Int) = e.2.2.views.map (fun _ => (e.2.1 : Int))
  unit : ∃ cu, dictGet? sc.cuMap (e.2.1 : Int) = some cu
    ∧ ∀ i a, addrOf e.2.2.list.1 i = some a → cuAddr env secs (some cu) (.int i) = .ok (.int a)

def obsL5 (asz : Nat) (off : Nat) (x : List Nat × List Ent) : Option (List Val) :=
  translateList (fun o e => Spec.Lists.translateLoc (addrOf x.1) asz o e) asz off x.2

theorem getElem?_of_drop_head {α} {l : List α} {i : Nat} {t : List α} (h : l.drop i = t) :
    l[i]? = t.head? := by
  rw [← h, List.head?_drop]

section round
variable (env : Env) (secs : Secs) (l : Lists) (sc : Scan) (cuEnd fuel pos idx : Nat) (acc : List (List Val))

theorem locUnitLoop_object {pairs es : List Val} {p p' : Nat} {cu : Cu} (hp : pos < cuEnd)
    (hnext : sc.allOffsets[idx]? = some (pos : Int))
    (hviews : parseLocviewPairs env l sc.locviews pos = .ok (pairs, p)) (hcu : dictGet? sc.cuMap (p : Int) = some cu)
    (hlist : parseLocV5 env secs l p (some cu) = .ok (es, p')) :
    locUnitLoop env secs l sc (cuEnd : Int) (fuel + 1) pos idx acc
      = locUnitLoop env secs l sc (cuEnd : Int) fuel p' (idx + 1) ((pairs ++ es) :: acc) := by
  rw [locUnitLoop, if_pos (by omega)]
  simp only [hnext, if_true, hviews, hcu, hlist]

theorem locUnitLoop_skip {t : Nat} (hp : pos < t) (ht : t ≤ cuEnd) (hsmall : cuEnd < 2 ^ 63)
    (hnext : sc.allOffsets[idx]? = some (t : Int)) :
    locUnitLoop env secs l sc (cuEnd : Int) (fuel + 1) pos idx acc = locUnitLoop env secs l sc (cuEnd : Int) fuel t idx acc := by
  rw [locUnitLoop, if_pos (by omega)]
  simp only [hnext]
  rw [if_neg (by omega), if_neg (by omega), ListsSeek.seekInt_nat (by omega)]

/-- no referenced offset is left in the block: the next one, if any, lies behind `cuEnd` -/
theorem locUnitLoop_tail (hp : pos ≤ cuEnd) (hsmall : cuEnd < 2 ^ 63) (hnext : ∀ x ∈ sc.allOffsets[idx]?, (cuEnd : Int) < x) :
    locUnitLoop env secs l sc (cuEnd : Int) (fuel + 2) pos idx acc = .ok (cuEnd, idx, acc) := by
  have hstop : ∀ f, locUnitLoop env secs l sc (cuEnd : Int) (f + 1) cuEnd idx acc = .ok (cuEnd, idx, acc) := fun f => by
    rw [locUnitLoop, if_neg (by omega)]
  rcases Nat.lt_or_ge pos cuEnd with hlt | hge
  · rw [locUnitLoop, if_pos (by omega)]
    cases hx : sc.allOffsets[idx]? with
    | none =>
      simp only []
      rw [if_neg (by omega), if_neg (by omega), ListsSeek.seekInt_nat hsmall]
      exact hstop fuel
    | some x =>
      have := hnext x (by rw [hx]; rfl)
      simp only []
      rw [if_neg (by omega), if_pos (by omega), ListsSeek.seekInt_nat hsmall]
      exact hstop fuel
  · obtain rfl : pos = cuEnd := Nat.le_antisymm hp hge
    exact hstop (fuel + 1)

end round

/-- The inner loop over one unit block that ends at `cuEnd`.  `g0` are the bytes between `pos` and the first object
    that the loop skips like a gap: the block's offset table at the first call (from `locSectionLoop_ok`), nothing
    afterwards.  `later` are the referenced offsets of the blocks behind this one; the first of them lies behind
    `cuEnd`, so it sends the loop to the block's end (`locUnitLoop_tail`).  Fuel: an object costs two rounds at most
    (`locUnitLoop_skip` over `g0 ++ o.gap` if that is not empty, `locUnitLoop_object`), the tail two. -/
theorem locUnitLoop_ok (env : Env) (secs : Secs) (cfg : DwarfCfg) (l : Lists) (sc : Scan) (tail rest : Bytes)
    (later : List Int)
    (henv : ∀ k ∈ lleKinds, env.enumDecode "ENUM_DW_LLE" (k.code : Int) = some k.name)
    (hS : l.S.Dwarf_loclists_entries = (Spec.dwarfStructs cfg).Dwarf_loclists_entries)
    (hV : l.S.Dwarf_locview_pair = (Spec.dwarfStructs cfg).Dwarf_locview_pair) (cuEnd : Nat)
    (hlater : ∀ x ∈ later.head?, (cuEnd : Int) < x) (hsmall : cuEnd < 2 ^ 63) :
    ∀ (objs : List (LocObj (List Nat × List Ent))) (g0 : Bytes) (fuel pos idx : Nat) (acc outs : List (List Val)),
      2 * objs.length + 2 ≤ fuel →
      l.data.drop pos = g0 ++ (encObjs (fun x => encList cfg.le cfg.asz x.2) cfg.le objs ++ (tail ++ rest)) →
      cuEnd = pos + g0.length + (encObjs (fun x => encList cfg.le cfg.asz x.2) cfg.le objs).length + tail.length →
      sc.allOffsets.drop idx
        = (layout (fun x => listSize cfg.asz x.2) (pos + g0.length) objs).map (fun e => (e.1 : Int)) ++ later →
      (∀ e ∈ layout (fun x => listSize cfg.asz x.2) (pos + g0.length) objs, ObjOk5 env secs cfg.asz sc e) →
      obsObjs (obsL5 cfg.asz) (layout (fun x => listSize cfg.asz x.2) (pos + g0.length) objs) = some outs →
      locUnitLoop env secs l sc (cuEnd : Int) fuel pos idx acc
        = .ok (cuEnd, idx + objs.length, outs.reverse ++ acc) := by
  intro objs
  induction objs with
  | nil =>
    intro g0 fuel pos idx acc outs hf hd hce hoff _ hobs
    simp only [encObjs, List.flatMap_nil, List.nil_append, List.length_nil, Nat.add_zero, layout, List.map_nil] at hce hoff
    cases hobs
    obtain ⟨fuel, rfl⟩ : ∃ f, fuel = f + 2 := ⟨fuel - 2, by simp at hf; omega⟩
    rw [locUnitLoop_tail env secs l sc cuEnd fuel pos idx acc (by omega) hsmall
      (by rw [getElem?_of_drop_head hoff]; exact hlater)]
    rfl
  | cons o objs ih =>
    intro g0 fuel pos idx acc outs hf hd hce hoff hok hobs
    -- where the object's view pairs (`d1`), its list (`d2`) and what follows it (`d3`) lie
    rw [encObjs_cons] at hd hce
    have hd0 : l.data.drop pos = (g0 ++ o.gap) ++ (o.viewsEnc cfg.le ++ (encList cfg.le cfg.asz o.list.2
        ++ (encObjs (fun x => encList cfg.le cfg.asz x.2) cfg.le objs ++ (tail ++ rest)))) := by
      rw [hd]; simp [List.append_assoc]
    have d1 := drop_add_of_drop hd0
    rw [List.length_append, ← Nat.add_assoc] at d1
    have d2 := drop_add_of_drop d1
    rw [viewsEnc_length] at d2
    have d3 := drop_add_of_drop d2
    rw [ListsV5.encList_length] at d3
    simp only [List.length_append, viewsEnc_length, ListsV5.encList_length] at hce
    have hsz := ListsV5.listSize_pos cfg.asz o.list.2
    simp only [layout, List.map_cons, List.cons_append] at hoff hok hobs
    have hidx := (drop_cons_inv hoff).1
    obtain ⟨hvok, hwf, hviews, ⟨cu, hcu, haddr⟩⟩ := hok _ (List.mem_cons_self ..)
    simp only [] at hvok hwf hviews hcu haddr
    obtain ⟨vs, more, hvs, hmore, rfl⟩ := obsObjs_cons_some hobs
    -- the round at the object, then the objects behind it (with nothing to skip in front of them)
    have hat : ∀ f, 2 * objs.length + 2 ≤ f →
        locUnitLoop env secs l sc (cuEnd : Int) (f + 1) (pos + g0.length + o.gap.length) idx acc
          = .ok (cuEnd, idx + (objs.length + 1),
              ((o.viewsObs (pos + g0.length + o.gap.length) ++ vs) :: more).reverse ++ acc) := by
      intro f hf'
      rw [locUnitLoop_object env secs l sc cuEnd f _ idx acc (by omega) hidx
          (parseLocviewPairs_obj env cfg l cfg.le _ hV sc.locviews o _ hviews hvok d1) hcu
          (ListsV5.parseLocV5_at env secs cfg l cu o.list.1 _ o.list.2 vs _ henv hS d2 hwf haddr hvs),
        ih [] f _ (idx + 1) _ more hf' (by simpa using d3)
          (by simp only [List.length_nil]; omega) (by simpa using (drop_cons_inv hoff).2)
          (by simpa using fun e he => hok e (List.mem_cons_of_mem _ he)) (by simpa using hmore)]
      simp [Nat.add_assoc, Nat.add_comm 1]
    simp only [List.length_cons] at hf ⊢
    by_cases hg : g0.length + o.gap.length = 0
    · obtain ⟨fuel, rfl⟩ : ∃ f, fuel = f + 1 := ⟨fuel - 1, by omega⟩
      have h0 : pos + g0.length + o.gap.length = pos := by omega
      have := hat fuel (by omega)
      rw [h0] at this
      rw [h0]
      simpa using this
    · obtain ⟨fuel, rfl⟩ : ∃ f, fuel = f + 2 := ⟨fuel - 2, by omega⟩
      rw [locUnitLoop_skip env secs l sc cuEnd (fuel + 1) pos idx acc (t := pos + g0.length + o.gap.length) (by omega)
        (by omega) hsmall hidx]
      simpa using hat fuel (by omega)

theorem obsObjs_append {α} (obsL : Nat → α → Option (List Val)) :
    ∀ (a b : List (Nat × Nat × LocObj α)) (outs : List (List Val)),
      obsObjs obsL (a ++ b) = some outs →
      ∃ o1 o2, obsObjs obsL a = some o1 ∧ obsObjs obsL b = some o2 ∧ outs = o1 ++ o2 := by
  intro a
  induction a with
  | nil => intro b outs h; exact ⟨[], outs, rfl, by simpa using h, rfl⟩
  | cons e a ih =>
    intro b outs h
    obtain ⟨vo, lo, o⟩ := e
    obtain ⟨vs, more, hvs, hm, rfl⟩ := obsObjs_cons_some h
    obtain ⟨o1, o2, h1, h2, rfl⟩ := ih b more hm
    exact ⟨(o.viewsObs vo ++ vs) :: o1, o2, by simp [obsObjs, hvs, h1, bind, Option.bind, pure], h2, rfl⟩

theorem body_length (le : Bool) (asz : Nat) (u : LocUnit) :
    (u.body le asz).length = (encObjs (fun x => encList le asz x.2) le u.objs).length + u.tail.length := by
  simp [LocUnit.body]

theorem unit_size (le : Bool) (asz : Nat) (u : LocUnit) :
    u.hdr.size (u.body le asz) = u.hdr.lenSize + 8 + u.hdr.osz * u.hdr.offsets.length
      + (encObjs (fun x => encList le asz x.2) le u.objs).length + u.tail.length := by
  simp only [UnitHdr.size, UnitHdr.innerLen, body_length]; omega

theorem lenSize_ge (u : UnitHdr) : 4 ≤ u.lenSize := by
  unfold UnitHdr.lenSize; split <;> omega

/-- where a laid-out object lies in the run of unit blocks `us` that starts at `off` -/
structure InUnits (off : Nat) (us : List LocUnit) (e : Nat × Nat × LocObj (List Nat × List Ent)) : Prop where
  lo : e.2.1 = e.1 + e.2.2.viewsLen
  ge : off + 12 ≤ e.1
  mem : ∃ u ∈ us, e.2.2 ∈ u.objs

theorem layoutUnits_props (le : Bool) (asz : Nat) :
    ∀ (us : List LocUnit) (off : Nat),
      (∀ e ∈ layoutUnits le asz off us, InUnits off us e)
      ∧ (layoutUnits le asz off us).Pairwise (fun a b => a.2.1 < b.1) := by
  intro us
  induction us with
  | nil => intro off; simp [layoutUnits]
  | cons u us ih =>
    intro off
    obtain ⟨i1, i2⟩ := ih (off + u.hdr.size (u.body le asz))
    have hf := layout_facts (fun x : List Nat × List Ent => encList le asz x.2) (fun x => listSize asz x.2) le
      (fun x => ListsV5.encList_length le asz x.2) u.objs
      (off + u.hdr.lenSize + 8 + u.hdr.osz * u.hdr.offsets.length)
    have s2 := layout_pairwise (fun x : List Nat × List Ent => encList le asz x.2) (fun x => listSize asz x.2)
      (fun x => ListsV5.encList_length le asz x.2) (fun x => ListsV5.listSize_pos asz x.2) u.objs
      (off + u.hdr.lenSize + 8 + u.hdr.osz * u.hdr.offsets.length)
    have hl := lenSize_ge u.hdr
    have hsz := unit_size le asz u
    constructor
    · intro e he
      simp only [layoutUnits, List.mem_append] at he
      rcases he with he | he
      · have f := hf e he
        exact ⟨f.lo, by have := f.ge; omega, u, by simp, f.mem⟩
      · obtain ⟨h1, h2, u', hu', h3⟩ := i1 e he
        exact ⟨h1, by omega, u', by simp [hu'], h3⟩
    · simp only [layoutUnits]
      rw [List.pairwise_append]
      refine ⟨s2, i2, ?_⟩
      intro a ha b hb'
      have h1 := (hf a ha).le
      have h2 := (i1 b hb').ge
      have := ListsV5.listSize_pos asz a.2.2.list.2
      omega

theorem layoutUnits_length_ge (le : Bool) (asz : Nat) :
    ∀ (us : List LocUnit) (off : Nat), ∀ u ∈ us, u.objs.length ≤ (layoutUnits le asz off us).length := by
  intro us
  induction us with
  | nil => intro off u hu; simp at hu
  | cons u' us ih =>
    intro off u hu
    simp only [layoutUnits, List.length_append, layout_length]
    rcases List.mem_cons.mp hu with rfl | hu
    · omega
    · have := ih (off + u'.hdr.size (u'.body le asz)) u hu
      omega

theorem encLocUnits_length_ge (le : Bool) (asz : Nat) (us : List LocUnit) :
    us.length ≤ (encLocUnits le asz us).length := by
  have := ListsUnits.encUnits_length_ge le (us.map fun u => (u.hdr, u.body le asz))
  simpa [encUnits, encLocUnits, List.flatMap_map] using this

/-- per block: header, `locUnitLoop_ok` with the block's offset table as `g0` and the offsets of the blocks behind it as
    `later`; `inner` is the fuel handed to every inner loop, one round per block is spent here -/
theorem locSectionLoop_ok (env : Env) (secs : Secs) (cfg : DwarfCfg) (l : Lists) (sc : Scan)
    (henv : ∀ k ∈ lleKinds, env.enumDecode "ENUM_DW_LLE" (k.code : Int) = some k.name)
    (hS : l.S.Dwarf_loclists_entries = (Spec.dwarfStructs cfg).Dwarf_loclists_entries)
    (hV : l.S.Dwarf_locview_pair = (Spec.dwarfStructs cfg).Dwarf_locview_pair)
    (hH : l.S.Dwarf_loclists_CU_header = (Spec.dwarfStructs cfg).Dwarf_loclists_CU_header)
    (inner : Nat) (hsmall : l.data.length < 2 ^ 63) :
    ∀ (us : List LocUnit) (fuel pos idx : Nat) (acc outs : List (List Val)),
      us.length + 1 ≤ fuel →
      (∀ u ∈ us, 2 * u.objs.length + 2 ≤ inner) →
      (∀ u ∈ us, u.hdr.wf (u.body cfg.le cfg.asz) = true) →
      l.data.drop pos = encLocUnits cfg.le cfg.asz us →
      sc.allOffsets.drop idx = (layoutUnits cfg.le cfg.asz pos us).map (fun e => (e.1 : Int)) →
      (∀ e ∈ layoutUnits cfg.le cfg.asz pos us, ObjOk5 env secs cfg.asz sc e) →
      obsObjs (obsL5 cfg.asz) (layoutUnits cfg.le cfg.asz pos us) = some outs →
      locSectionLoop env secs l sc inner fuel pos idx acc = .ok (acc.reverse ++ outs) := by
  intro us
  induction us with
  | nil =>
    intro fuel pos idx acc outs hf _ _ hd _ _ hobs
    simp only [layoutUnits, obsObjs, Option.some.injEq] at hobs
    subst hobs
    have hl := length_of_drop hd
    simp only [encLocUnits, List.flatMap_nil, List.length_nil] at hl
    cases fuel with
    | zero => omega
    | succ fuel =>
      rw [locSectionLoop, if_neg (by omega)]
      simp
  | cons u us ih =>
    intro fuel pos idx acc outs hf hin hwf hd hoff hok hobs
    have hd0 : l.data.drop pos = encUnit cfg.le u.hdr (u.body cfg.le cfg.asz) ++ encLocUnits cfg.le cfg.asz us := by
      rw [hd]; simp [encLocUnits]
    have hl := length_of_drop hd0
    rw [List.length_append, ListsUnits.encUnit_length] at hl
    have hge := ListsUnits.size_ge u.hdr (u.body cfg.le cfg.asz)
    have hsz := unit_size cfg.le cfg.asz u
    have hdr := ListsUnits.structParse_header_at env cfg u.hdr (u.body cfg.le cfg.asz) _ l.data pos
      (hwf u (by simp)) hd0
    have hbody := ListsUnits.drop_after_header cfg.le u.hdr (u.body cfg.le cfg.asz) _ hd0
    have hbody' : l.data.drop (pos + u.hdr.lenSize + 8) = encOffsets cfg.le u.hdr.osz u.hdr.offsets
        ++ (encObjs (fun x => encList cfg.le cfg.asz x.2) cfg.le u.objs
          ++ (u.tail ++ encLocUnits cfg.le cfg.asz us)) := by
      rw [hbody]; simp [LocUnit.body, List.append_assoc]
    simp only [layoutUnits, List.map_append] at hoff
    simp only [layoutUnits] at hok hobs
    obtain ⟨o1, o2, ho1, ho2, rfl⟩ := obsObjs_append _ _ _ _ hobs
    have hprops := (layoutUnits_props cfg.le cfg.asz us (pos + u.hdr.size (u.body cfg.le cfg.asz))).1
    have hlater : ∀ x ∈ ((layoutUnits cfg.le cfg.asz (pos + u.hdr.size (u.body cfg.le cfg.asz)) us).map
        (fun e => (e.1 : Int))).head?, ((pos + u.hdr.size (u.body cfg.le cfg.asz) : Nat) : Int) < x := by
      intro x hx
      have hm := List.mem_of_mem_head? hx
      obtain ⟨e, he, rfl⟩ := List.mem_map.mp hm
      have := (hprops e he).ge
      omega
    have hg0 : (pos + u.hdr.lenSize + 8 + (encOffsets cfg.le u.hdr.osz u.hdr.offsets).length)
        = pos + u.hdr.lenSize + 8 + u.hdr.osz * u.hdr.offsets.length := by
      rw [ListsUnits.encOffsets_length]
    have hunit := locUnitLoop_ok env secs cfg l sc u.tail (encLocUnits cfg.le cfg.asz us) _ henv hS hV
      (pos + u.hdr.size (u.body cfg.le cfg.asz)) hlater (by omega) u.objs
      (encOffsets cfg.le u.hdr.osz u.hdr.offsets) inner (pos + u.hdr.lenSize + 8) idx acc o1
      (hin u (by simp)) hbody' (by rw [ListsUnits.encOffsets_length]; omega)
      (by rw [hg0]; exact hoff)
      (by rw [hg0]; exact fun e he => hok e (List.mem_append_left _ he))
      (by rw [hg0]; exact ho1)
    have hoff2 : sc.allOffsets.drop (idx + u.objs.length)
        = (layoutUnits cfg.le cfg.asz (pos + u.hdr.size (u.body cfg.le cfg.asz)) us).map (fun e => (e.1 : Int)) := by
      have := drop_add_of_drop hoff
      rwa [List.length_map, layout_length] at this
    cases fuel with
    | zero => omega
    | succ fuel =>
      rw [locSectionLoop, if_pos (by omega), hH, ListsUnits.loc_hdr_eq, hdr]
      have A := ListsUnits.attr_hdr u.hdr pos (u.body cfg.le cfg.asz) []
      rw [List.append_nil] at A
      simp only [bind, Except.bind, A.version, A.offset_after_length, A.unit_length, Val.asInt,
        ListsV4.valInt_beq, beq_self_eq_true, Bool.not_true, Bool.false_eq_true, if_false, ListsUnits.UnitHdr.end_cast, hunit]
      rw [ih fuel _ _ _ o2 (by simp at hf; omega) (fun x hx => hin x (by simp [hx]))
        (fun x hx => hwf x (by simp [hx])) (by
          have := drop_add_of_drop hd0
          rwa [ListsUnits.encUnit_length] at this) hoff2
        (fun e he => hok e (List.mem_append_right _ he)) ho2]
      simp

/-- the scan ends, and its three containers answer as the layout says: the sorted offsets are the objects' first bytes,
    and every object is found as `ObjAt` states (a layout is `Separated`, so each key has one writer) -/
theorem scan_facts {α} (env : Env) (secs : Secs) (ver5 : Bool) (dec : Cu → List RawAttr → List Attr)
    (cus : List Cu) (refs : List (LocRef × Cu)) (lay : List (Nat × Nat × LocObj α))
    (hdec : ∀ cu ∈ cus, (decide (cu.version ≥ 5) == ver5) = true →
      ∀ die ∈ cu.dies, dieAttrs env secs cu die = .ok (dec cu die))
    (hrefs : ListsLocScan.locRefs dec ver5 cus = some refs)
    (h1 : ∀ e ∈ lay, e.2.1 = e.1 + e.2.2.viewsLen) (h2 : lay.Pairwise (fun a b => a.2.1 < b.1))
    (hagree : refsAgree (refs.map (·.1)) (lay.map layoutRef) = true) :
    ∃ sc, scanDies env secs ver5 cus = .ok sc ∧ sc.allOffsets = lay.map (fun e => (e.1 : Int))
      ∧ ∀ e ∈ lay, ObjAt sc refs e := by
  have hsep := separated_of_layout lay h1 h2
  refine ⟨_, ListsLocScan.scanDies_refs env secs ver5 dec cus refs hdec hrefs, ?_, ?_⟩
  · show sortedSet (ListsLocScan.applyRefs {} refs).allOffsets = _
    rw [ListsLocScan.allOffsets_eq refs _ hsep hagree, List.map_map]
    apply List.map_congr_left
    intro e he
    exact key_layoutRef e (h1 e he)
  · intro e he
    have hk : layoutRef e ∈ lay.map layoutRef := List.mem_map.mpr ⟨e, he, rfl⟩
    constructor
    · have := ListsLocScan.locviews_get refs _ hsep hagree (layoutRef e) hk
      rw [key_layoutRef e (h1 e he)] at this
      show dictGet? (ListsLocScan.applyRefs {} refs).locviews (e.1 : Int) = _
      rw [this]
      simp only [layoutRef, Option.map_map]
      rfl
    · exact ListsLocScan.cuMap_get refs _ hsep hagree (layoutRef e) hk

theorem objOk4_of_layout (l : Lists) (le : Bool) (sc : Scan) (dec : Cu → List RawAttr → List Attr) (cus : List Cu)
    (refs : List (LocRef × Cu)) (objs : List (LocObj (List V4Loc))) (tail : Bytes)
    (hasz : 1 ≤ l.asz) (hd : l.data = encObjs (encV4Loc le l.asz) le objs ++ tail) (hsmall : l.data.length < 2 ^ 63)
    (hrefs : ListsLocScan.locRefs dec false cus = some refs)
    (hobj : ∀ o ∈ objs, o.viewsOk = true ∧ ∀ x ∈ o.list, x.wf l.asz = true)
    (hat : ∀ e ∈ layout (v4LocSize l.asz) 0 objs, ObjAt sc refs e) :
    ∀ e ∈ layout (v4LocSize l.asz) 0 objs, ObjOk4 l le sc e := by
  intro e he
  have hin := layout_facts (encV4Loc le l.asz) (v4LocSize l.asz) le (ListsV4.encV4Loc_length le l.asz) objs 0 e he
  obtain ⟨cu, hcu, href⟩ := (hat e he).unit
  have hgen := (ListsLocScan.locRefs_generation dec false cus refs hrefs _ href).2
  have hlen : (encObjs (encV4Loc le l.asz) le objs).length ≤ l.data.length := by rw [hd]; simp
  have : 1 ≤ v4LocSize l.asz e.2.2.list := by simp only [v4LocSize]; omega
  exact
    { lo := hin.lo
      small := by have := hin.le; have := hin.lo; omega
      viewsOk := (hobj _ hin.mem).1
      wf := (hobj _ hin.mem).2
      views := (hat e he).views
      unit := ⟨cu, hcu, by simpa using hgen⟩
      data := layout_data (encV4Loc le l.asz) (v4LocSize l.asz) le (ListsV4.encV4Loc_length le l.asz) l.data tail objs 0
        (by rw [hd]; simp) e he }

theorem objOk5_of_layout (env : Env) (secs : Secs) (cfg : DwarfCfg) (sc : Scan) (refs : List (LocRef × Cu))
    (us : List LocUnit)
    (hobj : ∀ u ∈ us, ∀ o ∈ u.objs, o.viewsOk = true ∧ ∀ x ∈ o.list.2, x.wf lleKinds cfg.asz = true)
    (haddr : ∀ rc ∈ refs, ∀ e ∈ layoutUnits cfg.le cfg.asz 0 us, rc.1 = layoutRef e →
      ∀ i a, addrOf e.2.2.list.1 i = some a → cuAddr env secs (some rc.2) (.int i) = .ok (.int a))
    (hat : ∀ e ∈ layoutUnits cfg.le cfg.asz 0 us, ObjAt sc refs e) :
    ∀ e ∈ layoutUnits cfg.le cfg.asz 0 us, ObjOk5 env secs cfg.asz sc e := by
  intro e he
  obtain ⟨u, hu, ho⟩ := ((layoutUnits_props cfg.le cfg.asz us 0).1 e he).mem
  obtain ⟨cu, hcu, href⟩ := (hat e he).unit
  exact
    { viewsOk := (hobj u hu _ ho).1
      wf := (hobj u hu _ ho).2
      views := (hat e he).views
      unit := ⟨cu, hcu, haddr _ href e he rfl⟩ }

def demoObjs : List (LocObj (List V4Loc)) :=
  [⟨[0xAA, 0xBB], some [(.uleb 1 1, .uleb 2 2)], [.loc 1 2 [0x50], .base 7]⟩, ⟨[0xCC], none, []⟩]

def demoCfg : DwarfCfg := ⟨true, 32, 4, 2⟩

def demoCu : Cu := ⟨4, 4, 32, Spec.dwarfStructs ⟨true, 32, 4, 4⟩,
  [[⟨"DW_AT_low_pc", "DW_FORM_addr", .int 0⟩],
   [⟨"DW_AT_GNU_locviews", "DW_FORM_sec_offset", .int 2⟩, ⟨"DW_AT_location", "DW_FORM_sec_offset", .int 5⟩],
   [⟨"DW_AT_frame_base", "DW_FORM_sec_offset", .int 33⟩, ⟨"DW_AT_upper_bound", "DW_FORM_data1", .int 9⟩]]⟩

def demoCu5 : Cu := ⟨5, 4, 32, Spec.dwarfStructs ⟨true, 32, 4, 5⟩, [[⟨"DW_AT_location", "DW_FORM_loclistx", .int 0⟩]]⟩

def demoDec : Cu → List RawAttr → List Attr := fun _ die => attrDict (die.map fun a => ⟨a.name, a.form, a.raw⟩)

def demoL : Lists :=
  { data := encObjs (encV4Loc true 4) true demoObjs ++ [1, 2, 3], S := Spec.dwarfStructs demoCfg, asz := 4, version := 4 }

theorem demo_plain : ∀ die ∈ demoCu.dies, ∀ a ∈ die, a.form ≠ "DW_FORM_loclistx" ∧ a.form ≠ "DW_FORM_rnglistx" := by
  intro die hdie a ha
  simp only [demoCu, List.mem_cons, List.not_mem_nil, or_false] at hdie
  rcases hdie with rfl | rfl | rfl <;> simp only [List.mem_cons, List.not_mem_nil, or_false] at ha
  · subst ha; decide
  · rcases ha with rfl | rfl <;> decide
  · rcases ha with rfl | rfl <;> decide

def kBase : Kind := ⟨6, "DW_LLE_base_address", [("address", .addr)]⟩

def kPair : Kind := ⟨4, "DW_LLE_offset_pair", [("start_offset", .uleb), ("end_offset", .uleb), ("loc_expr", .cld)]⟩

def demoUs : List LocUnit :=
  [⟨⟨false, 4, 0, [4]⟩,
    [⟨[], none, ([], [⟨kBase, [.addr 0x1000]⟩, ⟨kPair, [.uleb 1 1, .uleb 1 2, .cld 1 [0x50]]⟩])⟩,
     ⟨[0xEE], some [(.uleb 1 3, .uleb 1 4)], ([], [⟨kPair, [.uleb 1 1, .uleb 1 2, .cld 1 [0x50]]⟩])⟩],
    [0, 0]⟩,
   ⟨⟨true, 8, 0, []⟩, [], []⟩]

def demoCuV5 : Cu := ⟨5, 4, 32, Spec.dwarfStructs ⟨true, 32, 4, 5⟩,
  [[⟨"DW_AT_loclists_base", "DW_FORM_sec_offset", .int 12⟩],
   [⟨"DW_AT_location", "DW_FORM_sec_offset", .int 16⟩],
   [⟨"DW_AT_GNU_locviews", "DW_FORM_sec_offset", .int 28⟩, ⟨"DW_AT_location", "DW_FORM_sec_offset", .int 30⟩]]⟩

def demoL5 : Lists := { data := encLocUnits true 4 demoUs, S := Spec.dwarfStructs demoCfg, asz := 4, version := 5 }

theorem demo_plain5 : ∀ die ∈ demoCuV5.dies, ∀ a ∈ die, a.form ≠ "DW_FORM_loclistx" ∧ a.form ≠ "DW_FORM_rnglistx" := by
  intro die hdie a ha
  simp only [demoCuV5, List.mem_cons, List.not_mem_nil, or_false] at hdie
  rcases hdie with rfl | rfl | rfl <;> simp only [List.mem_cons, List.not_mem_nil, or_false] at ha
  · subst ha; decide
  · subst ha; decide
  · rcases ha with rfl | rfl <;> decide

end PyElf.Proofs.ListsLocWalk
