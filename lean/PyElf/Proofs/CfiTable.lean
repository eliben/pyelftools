/-
  The dict-based table interpreter of the model simulates the
  DWARF §6.4 reference machine of the Spec.  The 28 instructions are a table (`eff`) into nine kinds of effect (`Eff`);
  both machines, the simulation and the row count are said per kind (`reg_order`: Proofs/CfiOrder.lean).
-/
import PyElf.Spec.CFI
import PyElf.Model.CallFrame
import PyElf.Proofs.Values
namespace PyElf.Proofs.Cfi
open PyElf PyElf.Spec PyElf.Model PyElf.Proofs.Engine

def toInstr (i : Cfa) : Instr := ⟨i.opcode, i.operands⟩

def ruleV : RegRule → RuleV
  | .undefined => ⟨"UNDEFINED", .none⟩
  | .same_value => ⟨"SAME_VALUE", .none⟩
  | .offset n => ⟨"OFFSET", .int n⟩
  | .val_offset n => ⟨"VAL_OFFSET", .int n⟩
  | .register r => ⟨"REGISTER", .int r⟩
  | .expression e => ⟨"EXPRESSION", bytesObs e⟩
  | .val_expression e => ⟨"VAL_EXPRESSION", bytesObs e⟩

def cfaV : CfaRule → CfaV
  | .unset => ⟨.none, .int 0, .none⟩
  | .regOff r o => ⟨.int r, .int o, .none⟩
  | .expr e => ⟨.none, .none, bytesObs e⟩

theorem ruleV_obs (r : RegRule) : (ruleV r).toVal = r.obs := by cases r <;> rfl
theorem cfaV_obs (c : CfaRule) : (cfaV c).toVal = c.obs := by cases c <;> rfl

def RegsRel (m : List (Nat × RuleV)) (s : RegMap) : Prop := ∀ r, regGet m r = (s.get r).map ruleV

/-! `cur_line` is a dict: its assignment is `upsert`, its look-up and the Spec's are `find?` by key -/

theorem regSet_eq_upsert (m : List (Nat × RuleV)) (r : Nat) (v : RuleV) : regSet m r v = upsert m r v := by
  induction m with
  | nil => rfl
  | cons kv rest ih => obtain ⟨k, w⟩ := kv; simp only [regSet, upsert, ih]

theorem regGet_eq_find? (m : List (Nat × RuleV)) (r : Nat) : regGet m r = (m.find? (·.1 == r)).map (·.2) := by
  induction m with
  | nil => rfl
  | cons kv rest ih => obtain ⟨k, w⟩ := kv; by_cases h : k = r <;> simp [regGet, h, ih]

theorem RegMap.get_eq_find? (m : RegMap) (r : Nat) : m.get r = (m.find? (·.1 == r)).map (·.2) := by
  induction m with
  | nil => rfl
  | cons kv rest ih => obtain ⟨k, w⟩ := kv; by_cases h : k = r <;> simp [RegMap.get, h, ih]

theorem find?_filter_key {V : Type} (m : List (Nat × V)) (r r' : Nat) :
    ((m.filter (fun kv => kv.1 ≠ r)).find? (·.1 == r')).map (·.2)
      = if r = r' then none else (m.find? (·.1 == r')).map (·.2) := by
  induction m with
  | nil => simp
  | cons kv rest ih =>
    obtain ⟨k, w⟩ := kv
    by_cases hk : k = r
    · subst hk
      by_cases h2 : k = r' <;> simpa [-List.find?_filter, List.filter, h2] using ih
    · by_cases h2 : k = r'
      · subst h2
        have : ¬ r = k := fun h => hk h.symm
        simp [List.filter, hk, this]
      · simpa [-List.find?_filter, List.filter, hk, h2] using ih

theorem regGet_regSet (m : List (Nat × RuleV)) (r : Nat) (v : RuleV) (r' : Nat) :
    regGet (regSet m r v) r' = if r = r' then some v else regGet m r' := by
  rw [regGet_eq_find?, regSet_eq_upsert, find?_upsert, regGet_eq_find?]

theorem regGet_regPop (m : List (Nat × RuleV)) (r r' : Nat) :
    regGet (regPop m r) r' = if r = r' then none else regGet m r' := by
  rw [regGet_eq_find?, regPop, find?_filter_key, regGet_eq_find?]

theorem get_erase (m : RegMap) (r r' : Nat) :
    (m.erase r).get r' = if r = r' then none else m.get r' := by
  rw [RegMap.get_eq_find?, RegMap.erase, find?_filter_key, RegMap.get_eq_find?]

theorem get_insert (m : RegMap) (r : Nat) (v : RegRule) (r' : Nat) :
    (m.insert r v).get r' = if r = r' then some v else m.get r' := by
  induction m with
  | nil => simp [RegMap.insert, RegMap.get]
  | cons kv rest ih =>
    obtain ⟨k, w⟩ := kv
    unfold RegMap.insert
    by_cases h1 : r < k
    · simp only [h1, if_true]
      by_cases h2 : r = r'
      · simp [RegMap.get, h2]
      · simp [RegMap.get, h2]
    · simp only [h1, if_false]
      by_cases h3 : r = k
      · subst h3
        by_cases h2 : r = r' <;> simp [RegMap.get, h2]
      · simp only [h3, if_false]
        by_cases h2 : k = r'
        · subst h2; simp [RegMap.get, h3]
        · simp [RegMap.get, h2, ih]

theorem RegsRel.set {m s} (h : RegsRel m s) (r : Nat) (v : RegRule) :
    RegsRel (regSet m r (ruleV v)) (s.insert r v) := by
  intro r'
  rw [regGet_regSet, get_insert]
  by_cases h2 : r = r' <;> simp [h2, h r']

theorem RegsRel.pop {m s} (h : RegsRel m s) (r : Nat) : RegsRel (regPop m r) (s.erase r) := by
  intro r'
  rw [regGet_regPop, get_erase]
  by_cases h2 : r = r' <;> simp [h2, h r']

theorem RegsRel.nil : RegsRel [] [] := fun _ => rfl

theorem RegsRel.isEmpty {m s} (h : RegsRel m s) : m.isEmpty = s.isEmpty := by
  cases m with
  | nil =>
    cases s with
    | nil => rfl
    | cons kv rest =>
      have := h kv.1
      simp [regGet, RegMap.get] at this
  | cons kv rest =>
    cases s with
    | nil =>
      have := h kv.1
      simp [regGet, RegMap.get] at this
    | cons _ _ => rfl

def cfaName : Cfa → String
  | .advance_loc _ => "DW_CFA_advance_loc" | .offset .. => "DW_CFA_offset" | .restore _ => "DW_CFA_restore"
  | .nop => "DW_CFA_nop" | .set_loc _ => "DW_CFA_set_loc" | .advance_loc1 _ => "DW_CFA_advance_loc1"
  | .advance_loc2 _ => "DW_CFA_advance_loc2" | .advance_loc4 _ => "DW_CFA_advance_loc4"
  | .offset_extended .. => "DW_CFA_offset_extended" | .restore_extended _ => "DW_CFA_restore_extended"
  | .undefined _ => "DW_CFA_undefined" | .same_value _ => "DW_CFA_same_value" | .register .. => "DW_CFA_register"
  | .remember_state => "DW_CFA_remember_state" | .restore_state => "DW_CFA_restore_state"
  | .def_cfa .. => "DW_CFA_def_cfa" | .def_cfa_register _ => "DW_CFA_def_cfa_register"
  | .def_cfa_offset _ => "DW_CFA_def_cfa_offset" | .def_cfa_expression _ => "DW_CFA_def_cfa_expression"
  | .expression .. => "DW_CFA_expression" | .offset_extended_sf .. => "DW_CFA_offset_extended_sf"
  | .def_cfa_sf .. => "DW_CFA_def_cfa_sf" | .def_cfa_offset_sf _ => "DW_CFA_def_cfa_offset_sf"
  | .val_offset .. => "DW_CFA_val_offset" | .val_offset_sf .. => "DW_CFA_val_offset_sf"
  | .val_expression .. => "DW_CFA_val_expression" | .negate_ra_state => "DW_CFA_AARCH64_negate_ra_state"
  | .gnu_args_size _ => "DW_CFA_GNU_args_size"

theorem and_c0_40 : ∀ d < 64, (0x40 + d) &&& 0xc0 = 0x40 := by decide
theorem and_c0_80 : ∀ d < 64, (0x80 + d) &&& 0xc0 = 0x80 := by decide
theorem and_c0_c0 : ∀ d < 64, (0xc0 + d) &&& 0xc0 = 0xc0 := by decide
theorem and_3f_40 : ∀ d < 64, (0x40 + d) &&& 0x3f = d := by decide
theorem and_3f_80 : ∀ d < 64, (0x80 + d) &&& 0x3f = d := by decide
theorem and_3f_c0 : ∀ d < 64, (0xc0 + d) &&& 0x3f = d := by decide

theorem name_ok (asz : Nat) (i : Cfa) (h : i.wf asz = true) :
    instructionName Spec.cfiTables i.opcode = .ok (cfaName i) := by
  cases i with
  | advance_loc d =>
    have hd : d < 64 := by simpa [Cfa.wf] using h
    simp only [instructionName, Cfa.opcode, Spec.cfiTables, and_c0_40 d hd]; rfl
  | offset r o =>
    have hd : r < 64 := by simp [Cfa.wf] at h; exact h.1
    simp only [instructionName, Cfa.opcode, Spec.cfiTables, and_c0_80 r hd]; rfl
  | restore r =>
    have hd : r < 64 := by simpa [Cfa.wf] using h
    simp only [instructionName, Cfa.opcode, Spec.cfiTables, and_c0_c0 r hd]; rfl
  | _ => simp only [Cfa.opcode, cfaName]; rfl

inductive All₂ {α β : Type} (R : α → β → Prop) : List α → List β → Prop
  | nil : All₂ R [] []
  | cons {a b l₁ l₂} : R a b → All₂ R l₁ l₂ → All₂ R (a :: l₁) (b :: l₂)

def RulesRel (l : Line) (r : Rules) : Prop := l.cfa = cfaV r.cfa ∧ RegsRel l.regs r.regs
def LineRel (l : Line) (row : Row) : Prop := l.pc = row.loc ∧ RulesRel l row.rules

structure StRel (s : DState) (t : TState) : Prop where
  pc : s.cur.pc = t.loc
  rules : RulesRel s.cur t.rules
  rows : All₂ LineRel s.table t.rows
  stack : All₂ RulesRel s.stack.reverse t.stack

/-- the CIE side of an FDE run: `last_line_in_CIE` against the CIE's initial rules -/
def InitRel (isFde : Bool) (last : List (Nat × RuleV)) : Option Rules → Prop
  | none => isFde = false
  | some ini => isFde = true ∧ RegsRel last ini.regs

theorem all₂_snoc {α β : Type} {R : α → β → Prop} {l₁ : List α} {l₂ : List β} {a : α} {b : β}
    (h : All₂ R l₁ l₂) (hab : R a b) : All₂ R (l₁ ++ [a]) (l₂ ++ [b]) := by
  induction h with
  | nil => exact .cons hab .nil
  | cons h1 _ ih => exact .cons h1 ih

theorem block_obs (e : Block) : e.obs = bytesObs e.bytes := rfl

local macro "dstep" h1:ident h2:ident h3:ident : tactic =>
  `(tactic| simp [decodeStep, toInstr, cfaName, bind, Except.bind, pure, Except.pure, Instr.arg, Instr.argInt,
      Instr.argReg, Val.asInt, asNat_nat, hdrInt, Cfa.operands, setRule, $h1:ident, $h2:ident, $h3:ident])

/-- what an instruction does to a table state, operands already scaled by the alignment factors (§6.4.2); the standard's
    machine and the library's differ only in how each kind is carried out -/
inductive Eff
  | skip
  | advance (next : Int → Int)
  | cfa (c : CfaRule)
  | cfaReg (r : Nat)
  | cfaOff (o : Int)
  | reg (r : Nat) (v : RegRule)
  | restore (r : Nat)
  | remember
  | recall

def eff (caf daf : Int) : Cfa → Eff
  | .set_loc a => .advance fun _ => a
  | .advance_loc d | .advance_loc1 d | .advance_loc2 d | .advance_loc4 d => .advance (· + d * caf)
  | .def_cfa r o => .cfa (.regOff r.v o.v)
  | .def_cfa_sf r o => .cfa (.regOff r.v (o.v * daf))
  | .def_cfa_expression e => .cfa (.expr e.bytes)
  | .def_cfa_register r => .cfaReg r.v
  | .def_cfa_offset o => .cfaOff o.v
  | .def_cfa_offset_sf o => .cfaOff (o.v * daf)
  | .undefined r => .reg r.v .undefined
  | .same_value r => .reg r.v .same_value
  | .offset r o => .reg r (.offset (o.v * daf))
  | .offset_extended r o | .offset_extended_sf r o => .reg r.v (.offset (o.v * daf))
  | .val_offset r o | .val_offset_sf r o => .reg r.v (.val_offset (o.v * daf))
  | .register r o => .reg r.v (.register o.v)
  | .expression r e => .reg r.v (.expression e.bytes)
  | .val_expression r e => .reg r.v (.val_expression e.bytes)
  | .restore r => .restore r
  | .restore_extended r => .restore r.v
  | .remember_state => .remember
  | .restore_state => .recall
  | .nop | .negate_ra_state | .gnu_args_size _ => .skip

/-- the reference machine, kind by kind -/
def Eff.std (init : Option Rules) (s : TState) : Eff → Option TState
  | .skip => some s
  | .advance next => some { s with rows := s.rows ++ [⟨s.loc, s.rules⟩], loc := next s.loc }
  | .cfa c => some (setCfa s c)
  | .cfaReg r => match s.rules.cfa with | .regOff _ o => some (setCfa s (.regOff r o)) | _ => none
  | .cfaOff o => match s.rules.cfa with | .regOff r _ => some (setCfa s (.regOff r o)) | _ => none
  | .reg r v => some (setReg s r v)
  | .restore r => tstep.restoreReg init s r
  | .remember => some { s with stack := s.rules :: s.stack }
  | .recall => match s.stack with | top :: rest => some { s with rules := top, stack := rest } | [] => none

/-- `_decode_CFI_table`, kind by kind -/
def Eff.lib (isFde : Bool) (last : List (Nat × RuleV)) (s : DState) : Eff → R DState
  | .skip => .ok s
  | .advance next => .ok { s with table := s.table ++ [s.cur], cur := { s.cur with pc := next s.cur.pc } }
  | .cfa c => .ok { s with cur := { s.cur with cfa := cfaV c } }
  | .cfaReg r => .ok { s with cur := { s.cur with cfa := ⟨.int r, s.cur.cfa.offset, .none⟩ } }
  | .cfaOff o => .ok { s with cur := { s.cur with cfa := ⟨s.cur.cfa.reg, .int o, .none⟩ } }
  | .reg r v => .ok (setRule s r (ruleV v))
  | .restore r =>
    if !isFde then .error .dwarfError
    else
      match regGet last r with
      | some v => .ok { s with order := addToOrder s.order r, cur := { s.cur with regs := regSet s.cur.regs r v } }
      | none => .ok { s with order := addToOrder s.order r, cur := { s.cur with regs := regPop s.cur.regs r } }
  | .remember => .ok { s with stack := s.stack ++ [s.cur] }
  | .recall =>
    match s.stack.getLast? with
    | none => .error .indexError
    | some top => .ok { s with stack := s.stack.dropLast, cur := { top with pc := s.cur.pc } }

theorem tstep_eff (caf daf : Int) (init : Option Rules) (s : TState) (i : Cfa) :
    tstep caf daf init s i = (eff caf daf i).std init s := by cases i <;> rfl

/-- the one place where the chain of mnemonic comparisons of `_decode_CFI_table` is walked -/
theorem decodeStep_eq (asz : Nat) (caf daf : Int) (cieH : Fields)
    (hcaf : Fields.getR cieH "code_alignment_factor" = .ok (.int caf))
    (hdaf : Fields.getR cieH "data_alignment_factor" = .ok (.int daf))
    (isFde : Bool) (last : List (Nat × RuleV)) (s : DState) (i : Cfa) (hwf : i.wf asz = true) :
    decodeStep Spec.cfiTables isFde last cieH s (toInstr i) = (eff caf daf i).lib isFde last s := by
  have hname := name_ok asz i hwf
  cases i <;>
    simp [decodeStep, toInstr, cfaName, bind, Except.bind, pure, Except.pure, Instr.arg, Instr.argInt,
      Instr.argReg, Val.asInt, asNat_nat, hdrInt, Cfa.operands, hname, hcaf, hdaf, eff, Eff.lib, cfaV, ruleV]
  -- `restore`, `restore_extended`, `restore_state`: the same `match`, written in two places
  all_goals rfl

theorem RulesRel.reg {l : Line} {r : Rules} (h : RulesRel l r) (k : Nat) (v : RegRule) :
    RulesRel { l with regs := regSet l.regs k (ruleV v) } { r with regs := r.regs.insert k v } := ⟨h.1, h.2.set k v⟩

theorem RulesRel.pop {l : Line} {r : Rules} (h : RulesRel l r) (k : Nat) :
    RulesRel { l with regs := regPop l.regs k } { r with regs := r.regs.erase k } := ⟨h.1, h.2.pop k⟩

theorem RulesRel.cfa {l : Line} {r : Rules} (h : RulesRel l r) (c : CfaRule) :
    RulesRel { l with cfa := cfaV c } { r with cfa := c } := ⟨rfl, h.2⟩

theorem eff_sim {isFde : Bool} {last : List (Nat × RuleV)} {init : Option Rules} (hinit : InitRel isFde last init)
    {s : DState} {t t' : TState} (hrel : StRel s t) (e : Eff) (hstep : e.std init t = some t') :
    ∃ s', e.lib isFde last s = .ok s' ∧ StRel s' t' := by
  cases e with
  | skip => cases hstep; exact ⟨_, rfl, hrel⟩
  | advance next =>
    cases hstep
    exact ⟨_, rfl, { hrel with pc := congrArg next hrel.pc, rows := all₂_snoc hrel.rows ⟨hrel.pc, hrel.rules⟩ }⟩
  | cfa c => cases hstep; exact ⟨_, rfl, { hrel with rules := hrel.rules.cfa c }⟩
  | cfaReg r | cfaOff r =>
    have hcfa := hrel.rules.1
    cases hc : t.rules.cfa with
    | regOff r0 o0 =>
      simp only [Eff.std, hc, Option.some.injEq] at hstep; subst hstep
      rw [hc] at hcfa
      exact ⟨_, rfl, { hrel with rules := ⟨by simp [setCfa, cfaV, hcfa], hrel.rules.2⟩ }⟩
    | unset => simp [Eff.std, hc] at hstep
    | expr e => simp [Eff.std, hc] at hstep
  | reg r v => cases hstep; exact ⟨_, rfl, { hrel with rules := hrel.rules.reg r v }⟩
  | remember =>
    cases hstep
    exact ⟨_, rfl, { hrel with stack := by simpa using All₂.cons hrel.rules hrel.stack }⟩
  | recall =>
    have hstack := hrel.stack
    cases hst : t.stack with
    | nil => simp [Eff.std, hst] at hstep
    | cons top rest =>
      simp only [Eff.std, hst, Option.some.injEq] at hstep; subst hstep
      rw [hst] at hstack
      cases hrev : s.stack.reverse with
      | nil => rw [hrev] at hstack; cases hstack
      | cons l ls =>
        rw [hrev] at hstack
        cases hstack with
        | cons hl hls =>
          have hs : s.stack = ls.reverse ++ [l] := by
            have := congrArg List.reverse hrev
            simpa using this
          simp only [Eff.lib, hs, List.getLast?_append, List.getLast?_singleton, Option.some_or, List.dropLast_concat]
          exact ⟨_, rfl, { hrel with rules := hl, stack := by simpa using hls }⟩
  | restore r =>
    cases init with
    | none => simp [Eff.std, tstep.restoreReg] at hstep
    | some ini =>
      obtain ⟨hf, hlast⟩ := hinit
      subst hf
      cases hg : ini.regs.get r with
      | some v =>
        simp only [Eff.std, tstep.restoreReg, hg, Option.some.injEq] at hstep; subst hstep
        have hl : regGet last r = some (ruleV v) := by rw [hlast r, hg]; rfl
        simp only [Eff.lib, hl, Bool.not_true, Bool.false_eq_true, if_false]
        exact ⟨_, rfl, { hrel with rules := hrel.rules.reg r v }⟩
      | none =>
        simp only [Eff.std, tstep.restoreReg, hg, Option.some.injEq] at hstep; subst hstep
        have hl : regGet last r = none := by rw [hlast r, hg]; rfl
        simp only [Eff.lib, hl, Bool.not_true, Bool.false_eq_true, if_false]
        exact ⟨_, rfl, { hrel with rules := hrel.rules.pop r }⟩

theorem step_sim (asz : Nat) (caf daf : Int) (cieH : Fields)
    (hcaf : Fields.getR cieH "code_alignment_factor" = .ok (.int caf))
    (hdaf : Fields.getR cieH "data_alignment_factor" = .ok (.int daf))
    (isFde : Bool) (last : List (Nat × RuleV)) (init : Option Rules) (hinit : InitRel isFde last init)
    (s : DState) (t t' : TState) (hrel : StRel s t) (i : Cfa) (hwf : i.wf asz = true)
    (hstep : tstep caf daf init t i = some t') :
    ∃ s', decodeStep Spec.cfiTables isFde last cieH s (toInstr i) = .ok s' ∧ StRel s' t' := by
  rw [decodeStep_eq asz caf daf cieH hcaf hdaf isFde last s i hwf]
  exact eff_sim hinit hrel _ (tstep_eff .. ▸ hstep)

theorem run_sim (asz : Nat) (caf daf : Int) (cieH : Fields)
    (hcaf : Fields.getR cieH "code_alignment_factor" = .ok (.int caf))
    (hdaf : Fields.getR cieH "data_alignment_factor" = .ok (.int daf))
    (isFde : Bool) (last : List (Nat × RuleV)) (init : Option Rules) (hinit : InitRel isFde last init)
    (is : List Cfa) : ∀ (s : DState) (t t' : TState), StRel s t → (∀ i ∈ is, i.wf asz = true) →
      trun caf daf init t is = some t' →
      ∃ s', decodeLoop Spec.cfiTables isFde last cieH s (is.map toInstr) = .ok s' ∧ StRel s' t' := by
  induction is with
  | nil =>
    intro s t t' hrel _ hrun
    simp only [trun, Option.some.injEq] at hrun; subst hrun
    exact ⟨s, rfl, hrel⟩
  | cons i is ih =>
    intro s t t' hrel hwf hrun
    simp only [trun] at hrun
    cases hst : tstep caf daf init t i with
    | none => simp [hst] at hrun
    | some t1 =>
      simp only [hst] at hrun
      obtain ⟨s1, h1, hrel1⟩ := step_sim asz caf daf cieH hcaf hdaf isFde last init hinit s t t1 hrel i
        (hwf i (List.mem_cons_self ..)) hst
      obtain ⟨s', h2, hrel'⟩ := ih s1 t1 t' hrel1 (fun j hj => hwf j (List.mem_cons_of_mem _ hj)) hrun
      refine ⟨s', ?_, hrel'⟩
      simp only [List.map_cons, decodeLoop, h1, bind, Except.bind]
      exact h2

/-- does the current line say anything (the condition at the end of `_decode_CFI_table`) -/
def keepLine (c : Line) : Bool :=
  (match c.cfa.reg with | .none => false | _ => true)
    || (match c.cfa.expr with | .none => false | _ => true) || !c.regs.isEmpty

theorem finish_eq (s : DState) :
    finish s = ⟨if keepLine s.cur then s.table ++ [s.cur] else s.table, s.order⟩ := rfl

theorem keep_iff {l : Line} {r : Rules} (h : RulesRel l r) : keepLine l = !r.isEmpty := by
  obtain ⟨hc, hr⟩ := h
  unfold keepLine Rules.isEmpty
  rw [hc, hr.isEmpty]
  cases r.cfa <;> simp [cfaV, bytesObs]

theorem finish_sim {s : DState} {t : TState} (h : StRel s t) : All₂ LineRel (finish s).table t.table := by
  rw [finish_eq, TState.table, keep_iff h.rules]
  cases hE : t.rules.isEmpty
  · simpa using all₂_snoc h.rows ⟨h.pc, h.rules⟩
  · simpa using h.rows

theorem StRel.init (pc : Int) (order : List Nat) :
    StRel ⟨⟨pc, ⟨.none, .int 0, .none⟩, []⟩, [], [], order⟩ ⟨pc, Rules.empty, [], []⟩ :=
  ⟨rfl, ⟨rfl, RegsRel.nil⟩, .nil, .nil⟩

theorem decode_cie (asz : Nat) (caf daf : Int) (h : Fields)
    (hcaf : Fields.getR h "code_alignment_factor" = .ok (.int caf))
    (hdaf : Fields.getR h "data_alignment_factor" = .ok (.int daf))
    (is : List Cfa) (hwf : ∀ i ∈ is, i.wf asz = true) (rows : List Row)
    (hstd : stdTableCie caf daf is = some rows) (off : Nat) (ad : Fields) (ab : Bytes) (fmt : Nat) :
    ∃ d, decodeTable Spec.cfiTables (.cie h (is.map toInstr) off ad ab fmt) = .ok d ∧ All₂ LineRel d.table rows := by
  unfold stdTableCie at hstd
  cases hr : trun caf daf none ⟨0, Rules.empty, [], []⟩ is with
  | none => simp [hr] at hstd
  | some t' =>
    simp only [hr, Option.map_some, Option.some.injEq] at hstd; subst hstd
    obtain ⟨s', h1, hrel⟩ := run_sim asz caf daf h hcaf hdaf false [] none rfl is _ _ t' (StRel.init 0 []) hwf hr
    refine ⟨finish s', ?_, finish_sim hrel⟩
    simp only [decodeTable, h1, bind, Except.bind, pure, Except.pure]

theorem tstep_rows {caf daf : Int} {init : Option Rules} {t t' : TState} {i : Cfa}
    (ha : advances i = false) (hs : tstep caf daf init t i = some t') : t'.rows = t.rows := by
  rw [tstep_eff] at hs
  have hne : ∀ next, eff caf daf i ≠ .advance next := by cases i <;> simp [advances] at ha <;> simp [eff]
  generalize eff caf daf i = e at hs hne
  cases e with
  | advance next => exact absurd rfl (hne next)
  | restore r =>
    simp only [Eff.std, tstep.restoreReg] at hs
    split at hs
    · cases hs
    · split at hs <;> (cases hs; rfl)
  | cfaReg r | cfaOff r | recall => simp only [Eff.std] at hs; split at hs <;> cases hs; rfl
  | _ => cases hs; rfl

theorem trun_rows_nil {caf daf : Int} {init : Option Rules} (is : List Cfa) :
    ∀ (t t' : TState), is.any advances = false → t.rows = [] → trun caf daf init t is = some t' → t'.rows = [] := by
  induction is with
  | nil => intro t t' _ h0 hr; simp only [trun, Option.some.injEq] at hr; subst hr; exact h0
  | cons i is ih =>
    intro t t' ha h0 hr
    simp only [List.any_cons, Bool.or_eq_false_iff] at ha
    simp only [trun] at hr
    cases hst : tstep caf daf init t i with
    | none => simp [hst] at hr
    | some t1 =>
      simp only [hst] at hr
      exact ih t1 t' ha.2 (by rw [tstep_rows ha.1 hst, h0]) hr

theorem all₂_nil_right {α β : Type} {R : α → β → Prop} {l : List α} (h : All₂ R l []) : l = [] := by
  cases h; rfl

theorem decode_fde (asz : Nat) (caf daf : Int) (hc hf : Fields) (loc : Int)
    (hcaf : Fields.getR hc "code_alignment_factor" = .ok (.int caf))
    (hdaf : Fields.getR hc "data_alignment_factor" = .ok (.int daf))
    (hloc : Fields.getR hf "initial_location" = .ok (.int loc))
    (cis fis : List Cfa) (hwfc : ∀ i ∈ cis, i.wf asz = true) (hwff : ∀ i ∈ fis, i.wf asz = true)
    (rows : List Row) (hstd : stdTableFde caf daf cis loc fis = some rows)
    (off coff : Nat) (ad : Fields) (ab fab : Bytes) (lsda : Option Int) (fmt cfmt : Nat) :
    ∃ d, decodeTable Spec.cfiTables
          (.fde hf (fis.map toInstr) off (.cie hc (cis.map toInstr) coff ad ab cfmt) fab lsda fmt) = .ok d
      ∧ All₂ LineRel d.table rows := by
  -- the CIE's run first (it never advances, so its table is its one line or empty), then the FDE's run from that line
  -- under `InitRel`; the two branches differ in whether the CIE's line is kept
  unfold stdTableFde initRules at hstd
  cases hadv : cis.any advances with
  | true => simp [hadv] at hstd
  | false =>
    simp only [hadv, Bool.false_eq_true, if_false] at hstd
    cases hr : trun caf daf none ⟨0, Rules.empty, [], []⟩ cis with
    | none => simp [hr] at hstd
    | some tc =>
      simp only [hr, Option.map_some] at hstd
      cases hr2 : trun caf daf (some tc.rules) ⟨loc, tc.rules, [], []⟩ fis with
      | none => simp [hr2] at hstd
      | some t' =>
        simp only [hr2, Option.map_some, Option.some.injEq] at hstd; subst hstd
        obtain ⟨sc, h1, hrelc⟩ :=
          run_sim asz caf daf hc hcaf hdaf false [] none rfl cis _ _ tc (StRel.init 0 []) hwfc hr
        have hrows0 : tc.rows = [] := trun_rows_nil cis _ tc hadv rfl hr
        have htab0 : sc.table = [] := by
          have := hrelc.rows; rw [hrows0] at this; exact all₂_nil_right this
        have hcd : decodeTable Spec.cfiTables (.cie hc (cis.map toInstr) coff ad ab cfmt) = .ok (finish sc) := by
          simp only [decodeTable, h1, bind, Except.bind, pure, Except.pure]
        have hk := keep_iff hrelc.rules
        cases hE : tc.rules.isEmpty with
        | false =>
          -- the CIE's line is kept: it is `last_line_in_CIE`
          rw [hE] at hk
          have hfin : (finish sc).table = [sc.cur] := by simp [finish_eq, hk, htab0]
          obtain ⟨s', h2, hrel'⟩ := run_sim asz caf daf hc hcaf hdaf true sc.cur.regs (some tc.rules)
            ⟨rfl, hrelc.rules.2⟩ fis ⟨{ sc.cur with pc := loc }, [], [], (finish sc).regOrder⟩
            ⟨loc, tc.rules, [], []⟩ t' ⟨rfl, hrelc.rules, .nil, .nil⟩ hwff hr2
          refine ⟨finish s', ?_, finish_sim hrel'⟩
          rw [decodeTable, hcd]
          simp only [bind, Except.bind, pure, Except.pure, hfin, List.getLast?_singleton,
            hdrInt, hloc, Val.asInt, Entry.header]
          rw [h2]
        | true =>
          -- the CIE's line says nothing and is dropped: the CIE's table is empty, `getLast?` gives the library its
          -- default line and `last = []`, which is the Spec's start from `Rules.empty`
          rw [hE] at hk
          have hfin : (finish sc).table = [] := by simp [finish_eq, hk, htab0]
          have hemp : tc.rules = Rules.empty := by
            have h0 := hE
            unfold Rules.isEmpty at h0
            simp only [Bool.and_eq_true, beq_iff_eq, List.isEmpty_iff] at h0
            cases hrr : tc.rules with
            | mk c r => rw [hrr] at h0; simp only at h0; rw [h0.1, h0.2]; rfl
          rw [hemp] at hr2
          obtain ⟨s', h2, hrel'⟩ := run_sim asz caf daf hc hcaf hdaf true [] (some Rules.empty)
            ⟨rfl, RegsRel.nil⟩ fis ⟨⟨loc, ⟨.none, .int 0, .none⟩, []⟩, [], [], (finish sc).regOrder⟩
            ⟨loc, Rules.empty, [], []⟩ t'
            (StRel.init loc _) hwff hr2
          refine ⟨finish s', ?_, finish_sim hrel'⟩
          rw [decodeTable, hcd]
          simp only [bind, Except.bind, pure, Except.pure, hfin, List.getLast?_nil,
            hdrInt, hloc, Val.asInt, Entry.header]
          rw [h2]

end PyElf.Proofs.Cfi
