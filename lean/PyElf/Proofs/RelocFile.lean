/-
  C08 over whole files.  What opening a byte string that carries an abstract ELF description establishes
  (`Layout d bytes`, `wfZ`; `Setup`, Proofs/ElfSections.lean; `SecAt`, Proofs/ElfFile.lean) composed with the
  relocation-table, RELR, lookup and apply lemmas of Proofs/Reloc*.lean and Proofs/Relr.lean.  The hypotheses about
  the description are the decidable predicates of Spec/RelocFile.lean, unpacked into structures.  The last part composes
  with the mirror of `_read_dwarf_section` that C11 maintains (Model/DwarfView.lean; `C11.applyRelocations_eq`,
  `C11.readDwarfSection_placed`): `applyRelocations_file`, `readDwarfSection_file`, `readOne_file`.
-/
import PyElf.Model.RelocationFile
import PyElf.Spec.RelocFile
import PyElf.Proofs.ImageOpeners
import PyElf.Proofs.Reloc
import PyElf.Proofs.Relr
import PyElf.Proofs.RelocSection
import PyElf.Proofs.RelocSym
import PyElf.Proofs.ContainerFile
import PyElf.Proofs.RelocEnv
import PyElf.Proofs.ContainerReloc
namespace PyElf.Proofs.RelocFile
open PyElf PyElf.Spec PyElf.Spec.C08 PyElf.Model PyElf.Model.Reloc PyElf.Model.C08 PyElf.Proofs PyElf.Proofs.Reloc
  PyElf.Proofs.C15

theorem rawType_eq {s : SecDesc} {n : Int} (h : Fields.get? s.hdr "sh_type" = some (.int n)) : rawType s = some n := by
  simp [rawType, h]

theorem rawType_inv {s : SecDesc} {n : Int} (h : rawType s = some n) : Fields.get? s.hdr "sh_type" = some (.int n) := by
  unfold rawType at h
  split at h
  · cases h; assumption
  · cases h

theorem relFlavour_inv {s : SecDesc} {rela : Bool} (h : relFlavour s = some rela) :
    rawType s = some (if rela then SHT_RELA else SHT_REL) := by
  unfold relFlavour at h
  split at h
  · cases h; simpa using ‹rawType s = some SHT_RELA›
  · split at h
    · cases h; simpa using ‹rawType s = some SHT_REL›
    · cases h

structure RelTableFacts (d : ElfDesc) (i : Nat) (rela : Bool) (es : List RelEntry) : Prop where
  hi : i < d.sections.length
  flavour : relFlavour (d.sections[i]) = some rela
  body : ∃ slack, (d.sections[i]).body = some (encRelTable (relCfgOf d.cfg) rela es ++ slack)
  size : getNatD (d.sections[i]).hdr "sh_size" = (encRelTable (relCfgOf d.cfg) rela es).length
  fit : getNatD (d.sections[i]).hdr "sh_offset" + es.length * relEntSize (relCfgOf d.cfg) rela ≤ 2 ^ 63

structure RelrFacts (d : ElfDesc) (i : Nat) (ws : List Nat) : Prop where
  hi : i < d.sections.length
  raw : rawType (d.sections[i]) = some SHT_RELR
  body : ∃ slack, (d.sections[i]).body = some (encRelr d.le (d.cls / 8) ws ++ slack)
  size : getNatD (d.sections[i]).hdr "sh_size" = (encRelr d.le (d.cls / 8) ws).length
  fit : getNatD (d.sections[i]).hdr "sh_offset" + ws.length * (d.cls / 8) ≤ 2 ^ 63

structure RelocPair (d : ElfDesc) (r : Nat) (rela : Bool) (es : List RelEntry) (syms : List Nat) : Prop where
  hr : r < d.sections.length
  flavour : relFlavour (d.sections[r]) = some rela
  body : ∃ slack, (d.sections[r]).body = some (encRelTable (relCfgOf d.cfg) rela es ++ slack)
  size : getNatD (d.sections[r]).hdr "sh_size" = (encRelTable (relCfgOf d.cfg) rela es).length
  fit : getNatD (d.sections[r]).hdr "sh_offset" + es.length * relEntSize (relCfgOf d.cfg) rela ≤ 2 ^ 63
  hy : getNatD (d.sections[r]).hdr "sh_link" < d.sections.length
  ysym : rawType (d.sections[getNatD (d.sections[r]).hdr "sh_link"]) = some SHT_SYMTAB ∨
         rawType (d.sections[getNatD (d.sections[r]).hdr "sh_link"]) = some SHT_DYNSYM
  ybody : ∃ slack, (d.sections[getNatD (d.sections[r]).hdr "sh_link"]).body
            = some (encSymTable d.le d.cls syms ++ slack)
  yent : getNatD (d.sections[getNatD (d.sections[r]).hdr "sh_link"]).hdr "sh_entsize" = symEntSize d.cls
  ysize : getNatD (d.sections[getNatD (d.sections[r]).hdr "sh_link"]).hdr "sh_size" = syms.length * symEntSize d.cls
  yfit : getNatD (d.sections[getNatD (d.sections[r]).hdr "sh_link"]).hdr "sh_offset"
           + syms.length * symEntSize d.cls ≤ 2 ^ 63

structure PlainTarget (env : Env) (d : ElfDesc) (t : Nat) (sec : Bytes) : Prop where
  ht : t < d.sections.length
  body : (d.sections[t]).body = some sec
  size : getNatD (d.sections[t]).hdr "sh_size" = sec.length
  flags : getNatD (d.sections[t]).hdr "sh_flags" &&& 0x800 = 0
  bound : getNatD (d.sections[t]).hdr "sh_offset" + sec.length < 2 ^ 63
  notNobits : ∀ n, rawType (d.sections[t]) = some n →
    env.enumDecode (shTypeTable d.cfg.mclass) n ≠ some "SHT_NOBITS"

theorem relCfgOfDesc_eq (d : ElfDesc) : relCfgOfDesc d = relCfgOf d.cfg := rfl

theorem prefix_body {tab : Bytes} {body : Option Bytes}
    (h : (match body with
          | some b => tab.isPrefixOf b
          | none => false) = true) : ∃ slack, body = some (tab ++ slack) := by
  cases body with
  | none => cases h
  | some b =>
    simp only at h
    obtain ⟨t, ht⟩ := List.isPrefixOf_iff_prefix.1 h
    exact ⟨t, by rw [ht]⟩

theorem relTableAt_unpack {d : ElfDesc} {i : Nat} {rela : Bool} {es : List RelEntry}
    (h : relTableAt d i rela es = true) : RelTableFacts d i rela es := by
  unfold relTableAt at h
  obtain ⟨hi, h⟩ := sec_cases h (by decide)
  simp only [Bool.and_eq_true, decide_eq_true_eq, relCfgOfDesc_eq] at h
  obtain ⟨⟨⟨h1, h2⟩, h3⟩, h4⟩ := h
  exact ⟨hi, h1, prefix_body h2, of_decide_eq_true h3, of_decide_eq_true h4⟩

theorem relrAt_unpack {d : ElfDesc} {i : Nat} {ws : List Nat} (h : relrAt d i ws = true) : RelrFacts d i ws := by
  unfold relrAt at h
  obtain ⟨hi, h⟩ := sec_cases h (by decide)
  simp only [Bool.and_eq_true, decide_eq_true_eq] at h
  obtain ⟨⟨⟨h1, h2⟩, h3⟩, h4⟩ := h
  exact ⟨hi, h1, prefix_body h2, by simpa using h3, by simpa using h4⟩

theorem relocPairAt_unpack {d : ElfDesc} {r : Nat} {rela : Bool} {es : List RelEntry} {syms : List Nat}
    (h : relocPairAt d r rela es syms = true) : RelocPair d r rela es syms := by
  unfold relocPairAt at h
  rw [Bool.and_eq_true] at h
  obtain ⟨ht, h⟩ := h
  have T := relTableAt_unpack ht
  have hs : d.sections[r]? = some (d.sections[r]'T.hi) := List.getElem?_eq_getElem T.hi
  simp only [hs] at h
  obtain ⟨hyi, h⟩ := sec_cases h (by decide)
  simp only [Bool.and_eq_true, Bool.or_eq_true, decide_eq_true_eq] at h
  obtain ⟨⟨⟨⟨h1, h2⟩, h3⟩, h4⟩, h5⟩ := h
  exact ⟨T.hi, T.flavour, T.body, T.size, T.fit, hyi, h1, prefix_body h2, h3, h4, h5⟩

theorem plainTargetAt_unpack {env : Env} {d : ElfDesc} {t : Nat} {sec : Bytes}
    (h : plainTargetAt env d t sec = true) : PlainTarget env d t sec := by
  unfold plainTargetAt at h
  obtain ⟨hi, h⟩ := sec_cases h (by decide)
  simp only [Bool.and_eq_true, decide_eq_true_eq] at h
  obtain ⟨⟨⟨⟨h1, h2⟩, h3⟩, h4⟩, h5⟩ := h
  refine ⟨hi, h1, h2, h3, h4, ?_⟩
  intro n hn
  rw [hn] at h5
  have h5' : ¬ env.enumDecode (shTypeTable d.mclass) n = some "SHT_NOBITS" := by simpa using h5
  exact h5'

theorem observable_unpack {env : Env} {d : ElfDesc} (h : observable env d = true) : ∃ obs, d.observe env = .ok obs := by
  unfold observable at h
  cases ho : d.observe env with
  | error e => simp [ho, Except.toOption] at h
  | ok obs => exact ⟨obs, rfl⟩

theorem isStr_enumVal (dec : String → Int → Option String) (tbl : String) (n : Int) (s : String) :
    isStr (Engine.enumVal dec tbl n) s = (dec tbl n == some s) := by
  unfold Engine.enumVal
  cases dec tbl n <;> rfl

theorem relName_kind (rela : Bool) (name : Bytes) :
    kindOf (.str (if rela then "SHT_RELA" else "SHT_REL")) name = "RelocationSection" := by
  cases rela <;> rfl

theorem relType_named {env : Env} (he : EnvRel env) {d : ElfDesc} {bytes : Bytes} {hdr : Val} {st : Option Val} {i : Nat}
    {s : SecDesc} {h : Val} (K : SecAt env d bytes hdr st i s h) {rela : Bool} (hfl : relFlavour s = some rela) :
    h.getField "sh_type" = .ok (.str (if rela then "SHT_RELA" else "SHT_REL")) :=
  K.type_named (rawType_inv (relFlavour_inv hfl)) (by cases rela; exact he.rel _; exact he.rela _)

theorem getRelSection_of_rel {env : Env} {f : ElfFile} {n : Nat} {nm : Bytes} {sh ty : Val} {off size es : Nat}
    {t : RelocTable} (h : getSection env f.S f.data f.header f.shstr n = .ok ("RelocationSection", nm, sh))
    (hty : sh.getField "sh_type" = .ok ty) (hoff : sh.getNat "sh_offset" = .ok off) (hsize : sh.getNat "sh_size" = .ok size)
    (hes : sh.getNat "sh_entsize" = .ok es) (hinit : relocSectionInit f.S ty off size es = .ok t) :
    getRelSection env f n = .ok (.rel t) := by
  simp only [getRelSection, h, bind, Except.bind, BEq.rfl, ↓reduceIte, hty, hoff, hsize, hes, hinit]
  rfl

theorem getRelSection_of_relr {env : Env} {f : ElfFile} {n : Nat} {nm : Bytes} {sh : Val} {off size es : Nat}
    {t : RelrTable} (h : getSection env f.S f.data f.header f.shstr n = .ok ("RelrRelocationSection", nm, sh))
    (hoff : sh.getNat "sh_offset" = .ok off) (hsize : sh.getNat "sh_size" = .ok size)
    (hes : sh.getNat "sh_entsize" = .ok es) (hinit : relrInit f.S (some off) size es = .ok t) :
    getRelSection env f n = .ok (.relr t) := by
  have hne : ("RelrRelocationSection" == "RelocationSection") = false := by decide +kernel
  simp only [getRelSection, h, bind, Except.bind, BEq.rfl, hne, Bool.false_eq_true, ↓reduceIte, hoff, hsize, hes, hinit]
  rfl

theorem getRelSection_rel {env : Env} (he : EnvRel env) {d : ElfDesc} {bytes : Bytes} {hdr : Val} {st : Option Val}
    (X : Setup env d bytes hdr st) {i : Nat} (hi : i < d.sections.length) {rela : Bool}
    (hfl : relFlavour (d.sections[i]) = some rela) :
    getRelSection env (fileOf d bytes hdr st) i
      = .ok (.rel (specTable d.cfg (some (getNatD (d.sections[i]).hdr "sh_offset"))
          (getNatD (d.sections[i]).hdr "sh_size") rela)) := by
  obtain ⟨h, K⟩ := X.secAt_lt hi
  have hty := relType_named he K hfl
  have hget := K.get_of_type hty
  rw [relName_kind] at hget
  -- `sh_entsize` is the entry size of the flavour because the section was made: `wfZ`'s clause for the type is the
  -- guard of `_make_section`
  have hc := K.cond
  have hes : getNatD (d.sections[i]).hdr "sh_entsize" = relEntSize (relCfgOf d.cfg) rela := by
    rw [← K.facts.raw "sh_entsize" (by simp [shdrNatKeys]) (by decide)]
    cases rela
    · rw [secCond_rel hty hc]; rfl
    · rw [secCond_rela hty hc]; rfl
  exact getRelSection_of_rel (f := fileOf d bytes hdr st) hget hty K.offset K.size K.entsize
    (hes ▸ relocSectionInit_ok d.cfg X.cls rela _ _)

theorem getRelSection_relr {env : Env} (he : EnvRel env) {d : ElfDesc} {bytes : Bytes} {hdr : Val} {st : Option Val}
    (X : Setup env d bytes hdr st) {i : Nat} (hi : i < d.sections.length)
    (hraw : rawType (d.sections[i]) = some SHT_RELR) :
    getRelSection env (fileOf d bytes hdr st) i
      = .ok (.relr (specRelrTable d.le (d.cls / 8) (some (getNatD (d.sections[i]).hdr "sh_offset"))
          (getNatD (d.sections[i]).hdr "sh_size"))) := by
  obtain ⟨h, K⟩ := X.secAt_lt hi
  have hty := K.type_named (rawType_inv hraw) (he.relr _)
  have hget : getSection env d.S bytes hdr st i = .ok ("RelrRelocationSection", (d.sections[i]).name, h) :=
    K.get_of_type hty
  have hc := K.cond
  have hes : getNatD (d.sections[i]).hdr "sh_entsize" = d.cls / 8 := by
    rw [← K.facts.raw "sh_entsize" (by simp [shdrNatKeys]) (by decide), secCond_relr hty hc]
  exact getRelSection_of_relr (f := fileOf d bytes hdr st) hget K.offset K.size K.entsize (hes ▸ relrInit_spec d.cfg _ _)

theorem kindOf_reloc {ty : Val} {name : Bytes} (h : kindOf ty name = "RelocationSection") :
    ty = .str "SHT_REL" ∨ ty = .str "SHT_RELA" := by
  unfold kindOf at h
  split at h
  -- the two relocation rows close by `rfl`; every other row gives another class name (the stabs row after its own split)
  all_goals first | (left; rfl) | (right; rfl) | (simp at h; done) | (split at h <;> simp at h)

theorem beq_str_of_ne {v : Val} {s : String} (h : v ≠ .str s) : (v == Val.str s) = false := by
  cases v with
  | str x => rw [Val.str_beq]; exact beq_eq_false_iff_ne.2 fun e => h (e ▸ rfl)
  | _ => rfl

theorem kind_reloc_beq (ty : Val) (name : Bytes) :
    (kindOf ty name == "RelocationSection") = (ty == Val.str "SHT_RELA" || ty == Val.str "SHT_REL") := by
  by_cases h4 : ty = .str "SHT_RELA"
  · subst h4; rfl
  by_cases h9 : ty = .str "SHT_REL"
  · subst h9; rfl
  rw [beq_str_of_ne h4, beq_str_of_ne h9]
  exact beq_eq_false_iff_ne.2 fun hk => (kindOf_reloc hk).elim h9 h4

theorem kind_isReloc {env : Env} (he : EnvRel env) (m : String) (n : Int) (name : Bytes) :
    (kindOf (Engine.enumVal env.enumDecode (shTypeTable m) n) name == "RelocationSection") = (decide (n = SHT_RELA) || decide (n = SHT_REL)) := by
  rw [kind_reloc_beq, (he.names m).beq (name := "SHT_RELA") List.mem_cons_self n,
    (he.names m).beq (name := "SHT_REL") (List.mem_cons_of_mem _ List.mem_cons_self) n]
  rfl

theorem relFlavour_isSome {s : SecDesc} {n : Int} (h : rawType s = some n) :
    (relFlavour s).isSome = (decide (n = SHT_RELA) || decide (n = SHT_REL)) := by
  unfold relFlavour
  rw [h]
  by_cases h4 : n = SHT_RELA
  · simp [h4]
  · by_cases h9 : n = SHT_REL
    · simp [h9, SHT_REL, SHT_RELA]
    · simp [h4, h9]

theorem relTest_eq {env : Env} (he : EnvRel env) (m : String) {s : SecDesc} {n : Int} (hraw : rawType s = some n) (target : Bytes) :
    ((kindOf (Engine.enumVal env.enumDecode (shTypeTable m) n) s.name == "RelocationSection") &&
      (s.name == C11.nRel ++ target || s.name == C11.nRela ++ target))
      = relForName target s := by
  rw [kind_isReloc he, show C11.nRel = dotRel from rfl, show C11.nRela = dotRela from rfl]
  unfold relForName namedFor
  rw [relFlavour_isSome hraw]

theorem findRelFrom_spec {env : Env} (he : EnvRel env) {d : ElfDesc} {bytes : Bytes} {hdr : Val} {st : Option Val}
    (X : Setup env d bytes hdr st) (target : Bytes) :
    ∀ (m k : Nat), k + m = d.sections.length →
      findRelFrom env (fileOf d bytes hdr st) target (List.range' k m)
        = match (d.sections.drop k).findIdx? (relForName target) with
          | none => .ok none
          | some j => (getSection env d.S bytes hdr st (k + j)).map fun s => some (k + j, s) := by
  intro m
  -- induction on the sections left; at section `k` the object `get_section` builds is `SecAt`'s, and its test is the
  -- standard's (`relTest_eq`)
  induction m with
  | zero =>
    intro k hk
    have : d.sections.drop k = [] := List.drop_eq_nil_of_le (by omega)
    simp [findRelFrom, this]
  | succ m ih =>
    intro k hk
    have hlt : k < d.sections.length := by omega
    obtain ⟨h, K⟩ := X.secAt_lt hlt
    obtain ⟨n, Kraw, Kty, Kget⟩ := K.typed
    rw [List.range'_succ, findRelFrom]
    show (do
      let s ← getSection env d.S bytes hdr st k
      if s.1 == "RelocationSection" && (s.2.1 == C11.nRel ++ target || s.2.1 == C11.nRela ++ target) then
        pure (some (k, s))
      else findRelFrom env (fileOf d bytes hdr st) target (List.range' (k + 1) m)) = _
    rw [Kget]
    simp only [bind, Except.bind]
    rw [relTest_eq he _ (rawType_eq Kraw) target, List.drop_eq_getElem_cons hlt, List.findIdx?_cons]
    cases hp : relForName target d.sections[k]
    · simp only [Bool.false_eq_true, ↓reduceIte]
      rw [ih (k + 1) (by omega)]
      cases (d.sections.drop (k + 1)).findIdx? (relForName target) with
      | none => rfl
      | some j =>
        simp only [Option.map_some]
        have : k + 1 + j = k + (j + 1) := by omega
        rw [this]
    · simp only [↓reduceIte, Nat.add_zero]
      rw [Kget]
      rfl

theorem fileFind_spec {env : Env} (he : EnvRel env) {d : ElfDesc} {bytes : Bytes} {hdr : Val} {st : Option Val}
    (X : Setup env d bytes hdr st) (target : Bytes) :
    fileFindRelocations env (fileOf d bytes hdr st) target
      = match relSecByName d target with
        | none => .ok none
        | some r => (getSection env d.S bytes hdr st r).map fun s => some (r, s) := by
  unfold fileFindRelocations
  show (do
    let n ← numSections env d.S bytes hdr
    findRelFrom env (fileOf d bytes hdr st) target (List.range n)) = _
  rw [X.numSections]
  simp only [bind, Except.bind]
  rw [List.range_eq_range', findRelFrom_spec he X target d.sections.length 0 (by omega), List.drop_zero]
  unfold relSecByName
  cases d.sections.findIdx? (relForName target) with
  | none => rfl
  | some j => simp only [Nat.zero_add]

theorem applyRelocations_file {P : C11.Params} (he : EnvRel P.env) {d : ElfDesc} {bytes : Bytes} {hdr : Val} {st : Option Val}
    (X : Setup P.env d bytes hdr st) {r : Nat} {rela : Bool} {es : List RelEntry} {syms : List Nat}
    (R : RelocPair d r rela es syms) {rsec : C11.Sec}
    (hrsec : getSection P.env d.S bytes hdr st r = .ok rsec)
    {m : Val} (hm : hdr.getField "e_machine" = .ok m) {a : Arch} (harch : P.machineArchOf m = archString a)
    (hmips : (relCfgOf d.cfg).mips = decide (a = .mips))
    (sec : Bytes) (hwf : WFApply a (relCfgOf d.cfg) rela syms sec.length es = true) :
    C11.applyRelocations P (fileOf d bytes hdr st) rsec sec
      = match applyStd a (relCfgOf d.cfg) rela syms sec es with
        | some b => .ok b
        | none => .error .elfRelocError := by
  -- what is known of the relocation section (`K`) and of the symbol table its `sh_link` designates (`KY`) turns the
  -- call into `applySectionRelocations` over the two tables where the file stores them
  obtain ⟨h, K⟩ := X.secAt_lt R.hr
  have hty := relType_named he K R.flavour
  cases (K.get_of_type hty).symm.trans hrsec
  obtain ⟨hy, KY⟩ := X.secAt_lt R.hy
  have hgetY : getSection P.env d.S bytes hdr st (getNatD (d.sections[r]'R.hr).hdr "sh_link")
      = .ok ("SymbolTableSection", (d.sections[getNatD (d.sections[r]'R.hr).hdr "sh_link"]'R.hy).name, hy) := by
    rcases R.ysym with hs | hs
    · exact KY.get_named (rawType_inv hs) (he.symtab _)
    · exact KY.get_named (rawType_inv hs) (he.dynsym _)
  obtain ⟨slack, hbody⟩ := R.body
  obtain ⟨slack', hybody⟩ := R.ybody
  have hdrop := K.drop_body hbody
  have hdropY := KY.drop_body hybody
  rw [List.append_assoc] at hdrop hdropY
  have hcls' : d.cfg.cls = 32 ∨ d.cfg.cls = 64 := X.cls
  rw [C11.applyRelocations_eq (f := fileOf d bytes hdr st) (rsec := (_, _, h)) (ssec := (_, _, hy)) hcls' rfl hty
    K.offset K.size K.link hgetY rfl KY.offset KY.size KY.entsize hm, harch, R.size]
  exact specTable_apply d.cfg hcls' P.env a hmips rela es syms sec _ hdrop R.fit hwf
    (symtab_answers d.cfg hcls' P.env syms (wfApply_iff.1 hwf).syms hdropY R.yfit R.yent R.ysize)

theorem fileApplyFor_none {P : C11.Params} (he : EnvRel P.env) {d : ElfDesc} {bytes : Bytes} {hdr : Val} {st : Option Val}
    (X : Setup P.env d bytes hdr st) (target : Bytes) (hfind : relSecByName d target = none) (sec : Bytes) :
    fileApplyFor P (fileOf d bytes hdr st) target sec = .ok none := by
  unfold fileApplyFor
  rw [fileFind_spec he X target, hfind]
  rfl

theorem fileApplyFor_spec {P : C11.Params} (he : EnvRel P.env) {d : ElfDesc} {bytes : Bytes} {hdr : Val} {st : Option Val}
    (X : Setup P.env d bytes hdr st) (target : Bytes) {r : Nat} {rela : Bool} {es : List RelEntry} {syms : List Nat}
    (hfind : relSecByName d target = some r) (R : RelocPair d r rela es syms)
    {m : Val} (hm : hdr.getField "e_machine" = .ok m) {a : Arch} (harch : P.machineArchOf m = archString a)
    (hmips : (relCfgOf d.cfg).mips = decide (a = .mips))
    (sec : Bytes) (hwf : WFApply a (relCfgOf d.cfg) rela syms sec.length es = true) :
    fileApplyFor P (fileOf d bytes hdr st) target sec
      = match applyStd a (relCfgOf d.cfg) rela syms sec es with
        | some b => .ok (some b)
        | none => .error .elfRelocError := by
  obtain ⟨h, K⟩ := X.secAt_lt R.hr
  obtain ⟨n, Kraw, Kty, Kget⟩ := K.typed
  unfold fileApplyFor
  rw [fileFind_spec he X target, hfind]
  simp only [Kget, Except.map, bind, Except.bind]
  rw [applyRelocations_file he X R Kget hm harch hmips sec hwf]
  cases applyStd a (relCfgOf d.cfg) rela syms sec es <;> rfl

theorem find?_pointwise {α β : Type} (p : α → Bool) (q : β → Bool) :
    ∀ (ss : List α) (os : List β), ss.length = os.length →
      (∀ i (h1 : i < ss.length) (h2 : i < os.length), q os[i] = p ss[i]) →
      os.find? q = match ss.findIdx? p with
                   | none => none
                   | some j => os[j]? := by
  intro ss
  induction ss with
  | nil =>
    intro os hl _
    cases os with
    | nil => rfl
    | cons o os => simp at hl
  | cons s ss ih =>
    intro os hl hall
    cases os with
    | nil => simp at hl
    | cons o os =>
      have h0 := hall 0 (by simp) (by simp)
      simp only [List.getElem_cons_zero] at h0
      rw [List.find?_cons, List.findIdx?_cons, h0]
      cases hp : p s
      · simp only [Bool.false_eq_true, ↓reduceIte]
        rw [ih os (by simpa using hl) (fun i h1 h2 => by
          have := hall (i + 1) (by simpa using h1) (by simpa using h2)
          simpa using this)]
        cases ss.findIdx? p <;> simp
      · simp

theorem c11_find_spec {env : Env} (he : EnvRel env) {d : ElfDesc} {bytes : Bytes} {hdr : Val} {st : Option Val} {obs : ElfObs}
    (X : Setup env d bytes hdr st) (ho : d.observe env = .ok obs) (target : Bytes) :
    C11.findRelocations obs.sections target
      = match relSecByName d target with
        | none => none
        | some r => obs.sections[r]? := by
  have hlen := (observe_lengths ho).1
  unfold C11.findRelocations relSecByName
  apply find?_pointwise (relForName target) _ d.sections obs.sections hlen.symm
  intro i h1 h2
  obtain ⟨h, K⟩ := X.secAt_lt h1
  obtain ⟨n, Kraw, Kty, Kget⟩ := K.typed
  have hget := getSection_obs X ho h1 h2
  rw [Kget] at hget
  have hobs : obs.sections[i] = (kindOf (Engine.enumVal env.enumDecode (shTypeTable d.mclass) n) (d.sections[i]'K.lt).name,
      (d.sections[i]'K.lt).name, h) := (Except.ok.inj hget).symm
  rw [hobs]
  exact relTest_eq he _ (rawType_eq Kraw) target

theorem PlainTarget.placed {env : Env} {d : ElfDesc} {bytes : Bytes} {hdr : Val} {st : Option Val} {obs : ElfObs}
    (X : Setup env d bytes hdr st) (ho : d.observe env = .ok obs) {t : Nat} {sec : Bytes} (T : PlainTarget env d t sec)
    (ht' : t < obs.sections.length) :
    ∃ kind h ty rest, obs.sections[t] = (kind, (d.sections[t]'T.ht).name, h) ∧
      C11.Placed bytes h ty (getNatD (d.sections[t]'T.ht).hdr "sh_offset") sec rest
        (getNatD (d.sections[t]'T.ht).hdr "sh_flags") (getNatD (d.sections[t]'T.ht).hdr "sh_addr") := by
  obtain ⟨h, K⟩ := X.secAt_lt T.ht
  -- the decoded header of section `t` (`K`) gives every field of `C11.Placed`; only the SHT_NOBITS test needs the
  -- description's word on the type
  obtain ⟨n, Kraw, Kty, -⟩ := K.typed
  have hobs := K.obs ho
  rw [List.getElem?_eq_getElem ht'] at hobs
  have hnb : isStr (Engine.enumVal env.enumDecode (shTypeTable d.mclass) n) "SHT_NOBITS" = false := by
    rw [isStr_enumVal]
    exact beq_eq_false_iff_ne.2 (T.notNobits n (rawType_eq Kraw))
  exact ⟨_, h, _, _, Option.some.inj hobs,
    { hty := Kty, hnobits := hnb, hflags := K.flags, hoff := K.offset, hsize := T.size ▸ K.size,
      haddr := K.facts.getNat (k := "sh_addr") (by simp [shdrNatKeys]) (by decide), hdata := K.drop_body T.body,
      hbound := T.bound }⟩

theorem readDwarfSection_file {P : C11.Params} (he : EnvRel P.env) {d : ElfDesc} {bytes : Bytes} {hdr : Val} {st : Option Val}
    {obs : ElfObs} (X : Setup P.env d bytes hdr st) (ho : d.observe P.env = .ok obs)
    (hph : C11.hasPhantomBytes hdr = .ok false)
    {t : Nat} {sec : Bytes} (T : PlainTarget P.env d t sec) (ht' : t < obs.sections.length)
    {r : Nat} {rela : Bool} {es : List RelEntry} {syms : List Nat}
    (hfind : relSecByName d (d.sections[t]'T.ht).name = some r) (R : RelocPair d r rela es syms)
    {m : Val} (hm : hdr.getField "e_machine" = .ok m) {a : Arch} (harch : P.machineArchOf m = archString a)
    (hmips : (relCfgOf d.cfg).mips = decide (a = .mips))
    (hwf : WFApply a (relCfgOf d.cfg) rela syms sec.length es = true) :
    C11.readDwarfSection P (fileOf d bytes hdr st) obs.sections obs.sections[t] true false
      = match applyStd a (relCfgOf d.cfg) rela syms sec es with
        | some b => .ok ⟨b, (d.sections[t]'T.ht).name, getNatD (d.sections[t]'T.ht).hdr "sh_offset", sec.length,
                         getNatD (d.sections[t]'T.ht).hdr "sh_addr"⟩
        | none => .error (.py .elfRelocError) := by
  -- the plain read of C11's reader (`readDwarfSection_placed`), then its relocation step: the lookup over the
  -- enumerated sections finds section `r` (`c11_find_spec`) and `applyRelocations_file` applies it
  obtain ⟨kind, h, ty, rest, hobs, hp⟩ := T.placed X ho ht'
  have hr' : r < obs.sections.length := by
    have hlen := (observe_lengths ho).1
    have := R.hr
    omega
  have hfr : C11.findRelocations obs.sections (d.sections[t]'T.ht).name = some obs.sections[r] := by
    rw [c11_find_spec he X ho, hfind]
    exact List.getElem?_eq_getElem hr'
  rw [hobs, C11.readDwarfSection_placed (f := fileOf d bytes hdr st) hph _ (kind, _, h) true hp T.flags]
  simp only [C11.relocStep, if_true, C11.Sec.name, hfr,
    applyRelocations_file he X R (getSection_obs X ho R.hr hr') hm harch hmips sec hwf]
  cases applyStd a (relCfgOf d.cfg) rela syms sec es <;> rfl

theorem readDwarfSection_file_untouched {P : C11.Params} (he : EnvRel P.env) {d : ElfDesc} {bytes : Bytes} {hdr : Val} {st : Option Val}
    {obs : ElfObs} (X : Setup P.env d bytes hdr st) (ho : d.observe P.env = .ok obs)
    (hph : C11.hasPhantomBytes hdr = .ok false)
    {t : Nat} {sec : Bytes} (T : PlainTarget P.env d t sec) (ht' : t < obs.sections.length) (relocate : Bool)
    (hno : relocate = false ∨ relSecByName d (d.sections[t]'T.ht).name = none) :
    C11.readDwarfSection P (fileOf d bytes hdr st) obs.sections obs.sections[t] relocate false
      = .ok ⟨sec, (d.sections[t]'T.ht).name, getNatD (d.sections[t]'T.ht).hdr "sh_offset", sec.length,
             getNatD (d.sections[t]'T.ht).hdr "sh_addr"⟩ := by
  obtain ⟨kind, h, ty, rest, hobs, hp⟩ := T.placed X ho ht'
  rw [hobs, C11.readDwarfSection_placed (f := fileOf d bytes hdr st) hph _ (kind, _, h) relocate hp T.flags]
  exact C11.relocStep_noReloc P _ _ _ relocate _ (hno.imp_right fun h0 => by rw [c11_find_spec he X ho]; simp only [C11.Sec.name, h0])

theorem readOne_file {P : C11.Params} (he : EnvRel P.env) {d : ElfDesc} {bytes : Bytes} {hdr : Val} {st : Option Val}
    {obs : ElfObs} (X : Setup P.env d bytes hdr st) (ho : d.observe P.env = .ok obs)
    (hph : C11.hasPhantomBytes hdr = .ok false)
    {t : Nat} {sec : Bytes} (T : PlainTarget P.env d t sec)
    (kn : String × Bytes × Bool) (hidx : d.indexOfName kn.2.1 = some t) (hname : (d.sections[t]'T.ht).name = kn.2.1)
    {r : Nat} {rela : Bool} {es : List RelEntry} {syms : List Nat}
    (hfind : relSecByName d kn.2.1 = some r) (R : RelocPair d r rela es syms)
    {m : Val} (hm : hdr.getField "e_machine" = .ok m) {a : Arch} (harch : P.machineArchOf m = archString a)
    (hmips : (relCfgOf d.cfg).mips = decide (a = .mips))
    (hwf : WFApply a (relCfgOf d.cfg) rela syms sec.length es = true) :
    C11.readOne P (fileOf d bytes hdr st) obs.sections true false kn
      = match applyStd a (relCfgOf d.cfg) rela syms sec es with
        | some b => .ok (kn.1, some ⟨b, kn.2.1, getNatD (d.sections[t]'T.ht).hdr "sh_offset", sec.length,
                         getNatD (d.sections[t]'T.ht).hdr "sh_addr"⟩)
        | none => .error (.py .elfRelocError) := by
  have hlen := (observe_lengths ho).1
  have ht' : t < obs.sections.length := by have := T.ht; omega
  have hsn : C11.secNameOf false kn = kn.2.1 := by simp [C11.secNameOf]
  have hleg : C11.legacyOf false kn = false := by simp [C11.legacyOf]
  rw [C11.readOne_eq, hsn, hleg, C11.getSectionByName_obs ho, hidx]
  simp only [List.getElem?_eq_getElem ht']
  rw [readDwarfSection_file he X ho hph T ht' (by rw [hname]; exact hfind) R hm harch hmips hwf, hname]
  cases applyStd a (relCfgOf d.cfg) rela syms sec es <;> rfl

end PyElf.Proofs.RelocFile
