/-
  A description that prescribes partially (`Option`) against a model that computes with exceptions (`R`):
  `Follows φ s m` — wherever `s` prescribes `a`, `m` returns `φ a`.  Both sides are written as `do` blocks of the
  same shape; the lemmas walk the two in step, so a proof names only the leaves where they differ.
-/
import PyElf.Core.Basic
namespace PyElf.Proofs
open PyElf

variable {α β γ δ ι κ : Type}

def Follows (φ : α → β) (s : Option α) (m : R β) : Prop := ∀ a, s = some a → m = .ok (φ a)

namespace Follows

theorem ok {φ : α → β} {s : Option α} {m : R β} (h : Follows φ s m) {a : α} (hs : s = some a) : m = .ok (φ a) :=
  h a hs

theorem of_eq {φ : α → β} {a : α} {m : R β} (h : m = .ok (φ a)) : Follows φ (some a) m :=
  fun _ e => by cases e; exact h

theorem none {φ : α → β} {m : R β} : Follows φ none m := fun _ e => by cases e

theorem bind {φ : α → β} {ψ : γ → δ} {s : Option α} {m : R β} {g : α → Option γ} {k : β → R δ}
    (h : Follows φ s m) (hk : ∀ a, s = some a → Follows ψ (g a) (k (φ a))) : Follows ψ (s >>= g) (m >>= k) := by
  intro c hc
  cases s with
  | none => cases hc
  | some a => rw [h a rfl]; exact hk a rfl c hc

/-- the description goes on, the model has arrived: what remains to be prescribed only repackages -/
theorem bind_pure {φ : α → β} {ψ : γ → β} {s : Option α} {m : R β} {f : α → γ}
    (h : Follows φ s m) (hf : ∀ a, s = some a → ψ (f a) = φ a) : Follows ψ (s >>= fun a => Pure.pure (f a)) m := by
  intro c hc
  cases s with
  | none => cases hc
  | some a => cases hc; rw [hf a rfl]; exact h a rfl

theorem map_bind {φ : α → β} {ψ : γ → δ} {s : Option α} {m : R β} {f : α → γ} {k : β → R δ}
    (h : Follows φ s m) (hk : ∀ a, s = some a → k (φ a) = .ok (ψ (f a))) : Follows ψ (s.map f) (m >>= k) := by
  intro c hc
  cases s with
  | none => cases hc
  | some a => cases hc; rw [h a rfl]; exact hk a rfl

/-- a step of the model the description does not see -/
theorem skip {ψ : γ → δ} {b : β} {m : R β} {s : Option γ} {k : β → R δ} (h : m = .ok b) (hk : Follows ψ s (k b)) :
    Follows ψ s (m >>= k) := by
  rw [h]; exact hk

theorem ite {φ : α → β} {c : Prop} [Decidable c] {s s' : Option α} {m m' : R β}
    (h : c → Follows φ s m) (h' : ¬ c → Follows φ s' m') :
    Follows φ (if c then s else s') (if c then m else m') := by
  split
  · exact h ‹_›
  · exact h' ‹_›

/-- the description may run over decoded elements (`d`) -/
theorem mapM {φ : α → β} {f : κ → Option α} {g : ι → R β} (d : ι → κ) :
    ∀ l : List ι, (∀ i ∈ l, Follows φ (f (d i)) (g i)) → Follows (List.map φ) ((l.map d).mapM f) (l.mapM g)
  | [], _ => of_eq rfl
  | i :: l, h => by
    rw [List.map_cons, List.mapM_cons, List.mapM_cons]
    exact (h i (by simp)).bind fun a _ => ((mapM d l fun j hj => h j (by simp [hj])).bind fun as _ => of_eq rfl)

theorem mapM_id {f : ι → Option α} {g : ι → R α} (l : List ι) (h : ∀ i ∈ l, Follows id (f i) (g i)) :
    Follows id (l.mapM f) (l.mapM g) := by
  have := mapM (φ := id) id l h
  rwa [List.map_id, List.map_id_fun] at this

end Follows
end PyElf.Proofs
