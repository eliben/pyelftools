/-
  The loop `while pos != end_: item, pos = read(pos); yield item` over a byte string, with fuel: the shape of the three
  loops of Model/Attributes.lean and of `list(generator)` in Model/AttrHistory.lean.  What is proved per loop shape here
  is proved per member there.

  `ItemReads` is what the walk asks of its members.  It is weaker than `Parses` (Proofs/Cut.lean) on purpose: a generator
  yields an OBJECT that is only related to the description and has no statement about a cut (Proofs/AttrGenerators.lean);
  members stated as `Parses` give it through `ItemReads.of_parses` and bring their cut half to `walk_cut`.
  `walk` is in `PyElf.Proofs`, `AllMatch` in `PyElf.Proofs.C20`, the lemmas in `PyElf.Proofs.Walk`.
-/
import PyElf.Proofs.Cut
namespace PyElf.Proofs
open PyElf

def walk {β : Type} (item : Nat → R (β × Nat)) (end_ : Nat) : Nat → Nat → List β → R (List β)
  | 0, pos, acc => if pos = end_ then .ok acc.reverse else .error .outOfFuel
  | fuel+1, pos, acc =>
    if pos = end_ then .ok acc.reverse
    else do
      let r ← item pos
      walk item end_ fuel r.2 (r.1 :: acc)

inductive C20.AllMatch {α β : Type} (R : α → β → Prop) : List α → List β → Prop
  | nil : AllMatch R [] []
  | cons {a : α} {b : β} {l₁ : List α} {l₂ : List β} : R a b → AllMatch R l₁ l₂ → AllMatch R (a :: l₁) (b :: l₂)

theorem C20.AllMatch.length_eq {α β : Type} {R : α → β → Prop} {l₁ : List α} {l₂ : List β} (h : AllMatch R l₁ l₂) :
    l₁.length = l₂.length := by
  induction h with
  | nil => rfl
  | cons _ _ ih => simp [ih]

theorem C20.AllMatch.get {α β : Type} {R : α → β → Prop} {l₁ : List α} {l₂ : List β} (h : AllMatch R l₁ l₂) :
    ∀ (i : Nat) (h₁ : i < l₁.length) (h₂ : i < l₂.length), R l₁[i] l₂[i] := by
  induction h with
  | nil => intro i h₁; simp at h₁
  | cons hr _ ih =>
    intro i h₁ h₂
    cases i with
    | zero => exact hr
    | succ i => exact ih i (by simpa using h₁) (by simpa using h₂)

namespace Walk
variable {α β : Type} {item : Nat → R (β × Nat)}

theorem walk_end (e fuel : Nat) (acc : List β) : walk item e fuel e acc = .ok acc.reverse := by
  cases fuel <;> simp [walk]

theorem walk_step {e fuel pos p : Nat} {b : β} {acc : List β} (h : item pos = .ok (b, p)) (hne : pos ≠ e) :
    walk item e (fuel + 1) pos acc = walk item e fuel p (b :: acc) := by
  rw [walk, if_neg hne, h]; rfl

theorem walk_err {e fuel pos : Nat} {err : Err} {acc : List β} (h : item pos = .error err) (hne : pos ≠ e) :
    walk item e (fuel + 1) pos acc = .error err := by
  rw [walk, if_neg hne, h]; rfl

open C20 (AllMatch)

theorem allMatch_eq_map {obs : α → β} : ∀ {bs : List β} {xs : List α}, AllMatch (fun b x => b = obs x) bs xs → bs = xs.map obs
  | _, _, .nil => rfl
  | _, _, .cons h t => by rw [h, allMatch_eq_map t]; rfl

/-- `pos`: a member has at least one byte, so the walk is not at its end before a member -/
structure ItemReads (item : Nat → R (β × Nat)) (data : Bytes) (enc : α → Bytes) (good : α → Prop) (R : β → α → Prop) : Prop where
  pos : ∀ x, good x → 1 ≤ (enc x).length
  ok : ∀ x p rest, good x → data.drop p = enc x ++ rest → ∃ b, item p = .ok (b, p + (enc x).length) ∧ R b x

section
variable {data : Bytes} {enc : α → Bytes} {good : α → Prop} {R : β → α → Prop} {obs : α → β}

theorem ItemReads.count_le (H : ItemReads item data enc good R) {xs : List α} {pos : Nat} {rest : Bytes}
    (hg : ∀ x ∈ xs, good x) (hd : data.drop pos = xs.flatMap enc ++ rest) : xs.length ≤ data.length := by
  have h1 := Engine.flatMap_length_ge enc xs fun x hx => H.pos x (hg x hx)
  have h2 := length_of_drop hd
  rw [List.length_append] at h2
  omega

theorem walk_prefix_rel (H : ItemReads item data enc good R) :
    ∀ (xs : List α) (pos : Nat) (rest : Bytes) (end_ : Nat),
      (∀ x ∈ xs, good x) → data.drop pos = xs.flatMap enc ++ rest → pos + (xs.flatMap enc).length ≤ end_ →
      ∃ bs, AllMatch R bs xs ∧ ∀ fuel acc, walk item end_ (fuel + xs.length) pos acc
        = walk item end_ fuel (pos + (xs.flatMap enc).length) (bs.reverse ++ acc)
  | [], _, _, _, _, _, _ => ⟨[], .nil, fun _ _ => by simp⟩
  | x :: xs, pos, rest, end_, hg, hd, hle => by
    have hx := hg x (by simp)
    have h1 := H.pos x hx
    rw [List.flatMap_cons, List.append_assoc] at hd
    rw [List.flatMap_cons, List.length_append] at hle ⊢
    obtain ⟨b, hb, hr⟩ := H.ok x pos _ hx hd
    obtain ⟨bs, hm, hw⟩ := walk_prefix_rel H xs _ rest end_ (fun y hy => hg y (by simp [hy])) (drop_add_of_drop hd)
      (by omega)
    refine ⟨b :: bs, .cons hr hm, fun fuel acc => ?_⟩
    rw [show fuel + (x :: xs).length = (fuel + xs.length) + 1 from rfl, walk_step hb (by omega), hw]
    simp [Nat.add_assoc]

theorem walk_prefix (H : ItemReads item data enc good fun b x => b = obs x) (xs : List α) (fuel pos : Nat) (acc : List β)
    (rest : Bytes) (end_ : Nat) (hg : ∀ x ∈ xs, good x) (hd : data.drop pos = xs.flatMap enc ++ rest)
    (hle : pos + (xs.flatMap enc).length ≤ end_) :
    walk item end_ (fuel + xs.length) pos acc
      = walk item end_ fuel (pos + (xs.flatMap enc).length) ((xs.map obs).reverse ++ acc) := by
  obtain ⟨bs, hm, hw⟩ := walk_prefix_rel H xs pos rest end_ hg hd hle
  rw [hw, allMatch_eq_map hm]

theorem walk_all_rel (H : ItemReads item data enc good R) {xs : List α} {fuel pos : Nat} {rest : Bytes}
    (hg : ∀ x ∈ xs, good x) (hd : data.drop pos = xs.flatMap enc ++ rest) (hf : data.length < fuel) :
    ∃ bs, AllMatch R bs xs ∧
      ∀ acc, walk item (pos + (xs.flatMap enc).length) fuel pos acc = .ok (acc.reverse ++ bs) := by
  have hc := H.count_le hg hd
  obtain ⟨f, rfl⟩ : ∃ f, fuel = f + xs.length := ⟨fuel - xs.length, by omega⟩
  obtain ⟨bs, hm, hw⟩ := walk_prefix_rel H xs pos rest _ hg hd (Nat.le_refl _)
  exact ⟨bs, hm, fun acc => by rw [hw, walk_end]; simp⟩

theorem walk_all (H : ItemReads item data enc good fun b x => b = obs x) {xs : List α} {fuel pos : Nat} {rest : Bytes}
    (acc : List β) (hg : ∀ x ∈ xs, good x) (hd : data.drop pos = xs.flatMap enc ++ rest) (hf : data.length < fuel) :
    walk item (pos + (xs.flatMap enc).length) fuel pos acc = .ok (acc.reverse ++ xs.map obs) := by
  obtain ⟨bs, hm, hw⟩ := walk_all_rel H hg hd hf
  rw [hw, allMatch_eq_map hm]

theorem walk_fail (H : ItemReads item data enc good R) {xs : List α} {fuel pos end_ : Nat} {rest : Bytes} {err : Err}
    (acc : List β) (hg : ∀ x ∈ xs, good x) (hd : data.drop pos = xs.flatMap enc ++ rest)
    (hlt : pos + (xs.flatMap enc).length < end_) (hf : data.length < fuel)
    (hitem : item (pos + (xs.flatMap enc).length) = .error err) :
    walk item end_ fuel pos acc = .error err := by
  have hc := H.count_le hg hd
  obtain ⟨f, rfl⟩ : ∃ f, fuel = (f + 1) + xs.length := ⟨fuel - 1 - xs.length, by omega⟩
  obtain ⟨bs, -, hw⟩ := walk_prefix_rel H xs pos rest _ hg hd (Nat.le_of_lt hlt)
  rw [hw, walk_err hitem (by omega)]

theorem flatMap_take_split (enc : α → Bytes) : ∀ (xs : List α) (k : Nat), k < (xs.flatMap enc).length →
    ∃ pre x post j, xs = pre ++ x :: post ∧ j < (enc x).length ∧
      (xs.flatMap enc).take k = pre.flatMap enc ++ (enc x).take j
  | [], k, h => by simp at h
  | x :: xs, k, h => by
    rw [List.flatMap_cons, List.length_append] at h
    rw [List.flatMap_cons, List.take_append]
    by_cases hk : k < (enc x).length
    · exact ⟨[], x, xs, k, rfl, hk, by simp [show k - (enc x).length = 0 by omega]⟩
    · obtain ⟨pre, y, post, j, rfl, hj, e⟩ := flatMap_take_split enc xs (k - (enc x).length) (by omega)
      exact ⟨x :: pre, y, post, j, rfl, hj, by rw [List.take_of_length_le (by omega), e]; simp⟩

theorem walk_cut (H : ItemReads item data enc good R) {err : Err}
    (hcut : ∀ x p j, good x → j < (enc x).length → data.drop p = (enc x).take j → item p = .error err)
    {xs : List α} {fuel pos k end_ : Nat} (acc : List β) (hg : ∀ x ∈ xs, good x)
    (hk : k < (xs.flatMap enc).length) (hd : data.drop pos = (xs.flatMap enc).take k)
    (hle : pos + (xs.flatMap enc).length ≤ end_) (hf : data.length < fuel) :
    walk item end_ fuel pos acc = .error err := by
  obtain ⟨pre, x, post, j, rfl, hj, e⟩ := flatMap_take_split enc xs k hk
  rw [e] at hd
  have hgp : ∀ y ∈ pre, good y := fun y hy => hg y (by simp [hy])
  rw [List.flatMap_append, List.flatMap_cons, List.length_append, List.length_append] at hle
  exact walk_fail H acc hgp hd (by omega) hf
    (hcut x _ j (hg x (by simp)) hj (drop_add_of_drop hd))

/-- `f` is a Spec predicate of the form "good members, then a bad one" (`attrsUnknownTag` …), given by its two
    equations; nothing is known of the members behind the bad one.  The fuel bound is the invariant of the recursion. -/
theorem walk_firstBad (H : ItemReads item data enc good R) [DecidablePred good] {bad : α → Bool} {err : Err}
    (hbad : ∀ x p rest, bad x = true → data.drop p = enc x ++ rest → 1 ≤ (enc x).length ∧ item p = .error err)
    {f : List α → Bool} (f_nil : f [] = false) (f_cons : ∀ x xs, f (x :: xs) = if good x then f xs else bad x) :
    ∀ (xs : List α) (fuel pos end_ : Nat) (rest : Bytes) (acc : List β), f xs = true →
      data.drop pos = xs.flatMap enc ++ rest → pos + (xs.flatMap enc).length ≤ end_ → data.length < fuel + pos →
      walk item end_ fuel pos acc = .error err
  | [], _, _, _, _, _, h, _, _, _ => by simp [f_nil] at h
  | x :: xs, fuel, pos, end_, rest, acc, h, hd, hle, hf => by
    rw [f_cons] at h
    rw [List.flatMap_cons, List.append_assoc] at hd
    rw [List.flatMap_cons, List.length_append] at hle
    have hl := length_of_drop hd
    rw [List.length_append] at hl
    by_cases hx : good x
    · rw [if_pos hx] at h
      have := H.pos x hx
      obtain ⟨fuel, rfl⟩ : ∃ f', fuel = f' + 1 := ⟨fuel - 1, by omega⟩
      obtain ⟨b, hb, -⟩ := H.ok x pos _ hx hd
      rw [walk_step hb (by omega)]
      exact walk_firstBad H hbad f_nil f_cons xs fuel _ end_ rest _ h (drop_add_of_drop hd) (by omega) (by omega)
    · rw [if_neg hx] at h
      obtain ⟨h1, he⟩ := hbad x pos _ h hd
      obtain ⟨fuel, rfl⟩ : ∃ f', fuel = f' + 1 := ⟨fuel - 1, by omega⟩
      exact walk_err he (by omega)

end

section
variable {γ : Type} {data : Bytes} {enc : α → Bytes} {good : α → Prop} {obs : α → β} {err : Err}

theorem ItemReads.of_parses (hpos : ∀ x, good x → 1 ≤ (enc x).length)
    (H : ∀ x, good x → ∀ p, Parses err item data p (enc x) (obs x)) : ItemReads item data enc good fun b x => b = obs x :=
  ⟨hpos, fun x p _ hx hd => ⟨_, (H x hx p).ok hd, rfl⟩⟩

theorem parses_walk (hpos : ∀ x, good x → 1 ≤ (enc x).length)
    (H : ∀ x, good x → ∀ p, Parses err item data p (enc x) (obs x)) {xs : List α} (hg : ∀ x ∈ xs, good x)
    {pos end_ fuel : Nat} (he : end_ = pos + (xs.flatMap enc).length) (hf : data.length < fuel) (f : List β → γ) :
    Parses err (fun q => do let l ← walk item end_ fuel q []; pure (f l, end_)) data pos (xs.flatMap enc)
      (f (xs.map obs)) where
  ok := fun hd => by
    subst he
    simp only [walk_all (ItemReads.of_parses hpos H) [] hg hd hf, Engine.ok_bind]; rfl
  cut := fun hj hd => by
    simp only [walk_cut (ItemReads.of_parses hpos H) (fun x p j hx hj hd => (H x hx p).cut hj hd) [] hg hj hd
      (Nat.le_of_eq he.symm) hf]; rfl

end

/-- the next position comes from the header alone, so the walk over (header; body) members lists the headers -/
theorem walk_fission {γ δ : Type} {step : Nat → R (γ × Nat)} {body : γ → R δ} {mk : γ → δ → β} {e : Nat} :
    ∀ (fuel off : Nat) (acc L : List β),
      walk (fun o => do let r ← step o; let b ← body r.1; pure (mk r.1 b, r.2)) e fuel off acc = .ok L →
      ∃ hs bs, L = acc.reverse ++ bs ∧ AllMatch (fun v h => ∃ b, body h = .ok b ∧ v = mk h b) bs hs ∧
        ∀ accH, walk step e fuel off accH = .ok (accH.reverse ++ hs) := by
  intro fuel
  induction fuel with
  | zero =>
    intro off acc L h
    by_cases hc : off = e
    · subst hc; rw [walk_end] at h; cases h
      exact ⟨[], [], by simp, .nil, fun accH => by rw [walk_end]; simp⟩
    · simp [walk, hc] at h
  | succ fuel ih =>
    intro off acc L h
    by_cases hc : off = e
    · subst hc; rw [walk_end] at h; cases h
      exact ⟨[], [], by simp, .nil, fun accH => by rw [walk_end]; simp⟩
    · rw [walk, if_neg hc] at h
      cases hs : step off with
      | error err => simp [hs, bind, Except.bind] at h
      | ok r =>
        cases hb : body r.1 with
        | error err => simp [hs, hb, bind, Except.bind] at h
        | ok b =>
          simp only [hs, hb, bind, Except.bind, pure, Except.pure] at h
          obtain ⟨hs', bs', hL, hm, hw⟩ := ih _ _ _ h
          exact ⟨r.1 :: hs', mk r.1 b :: bs', by rw [hL]; simp, .cons ⟨b, hb, rfl⟩ hm,
            fun accH => by rw [walk_step (b := r.1) (p := r.2) hs hc, hw]; simp⟩

theorem walk_map {β' : Type} (f : β → β') (item : Nat → R (β × Nat)) (e : Nat) : ∀ (fuel off : Nat) (acc : List β),
    walk (fun o => do let r ← item o; pure (f r.1, r.2)) e fuel off (acc.map f)
      = (walk item e fuel off acc).map (List.map f)
  | 0, off, acc => by by_cases h : off = e <;> simp [walk, h, Except.map]
  | fuel + 1, off, acc => by
    by_cases h : off = e
    · simp [walk, h, Except.map]
    · rw [walk, walk, if_neg h, if_neg h]
      cases item off with
      | error err => rfl
      | ok r => exact walk_map f item e fuel r.2 (r.1 :: acc)

end Walk
end PyElf.Proofs
