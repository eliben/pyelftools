/-
  The cache built by one complete scan on first use (Model/SigCache; generic in the scan, the
  query type and the lookup — type units by signature, RELR relocations, the dynamic, version and symbol caches
  are its instances): invariant, refinement, histories.
-/
import PyElf.Model.SigCache
namespace PyElf.Proofs.SigCache
open PyElf PyElf.Model.SigCache

theorem inv_init {M : Type} (scan : M × Option Err) : Inv scan (St.init : St M) := Or.inl rfl

theorem step_inv {M Q A : Type} (scan : M × Option Err) (look : M → Q → R A) (st : St M) (sig : Q)
    (h : Inv scan st) : Inv scan (step scan look st sig).2 := by
  unfold step
  rcases h with h | ⟨h1, h2⟩
  · rw [h]
    cases hs : scan.2 with
    | some e => exact Or.inl h
    | none => exact Or.inr ⟨hs, rfl⟩
  · rw [h2]
    exact Or.inr ⟨h1, h2⟩

theorem step_answer {M Q A : Type} (scan : M × Option Err) (look : M → Q → R A) (st : St M) (sig : Q)
    (h : Inv scan st) : (step scan look st sig).1 = stateless scan look sig := by
  unfold step stateless
  rcases h with h | ⟨h1, h2⟩
  · rw [h]
    cases hs : scan.2 with
    | some e => rfl
    | none => rfl
  · rw [h2, h1]

theorem run_answers {M Q A : Type} (scan : M × Option Err) (look : M → Q → R A) :
    ∀ (sigs : List Q) (st : St M), Inv scan st →
      (run scan look st sigs).1 = sigs.map (stateless scan look) ∧ Inv scan (run scan look st sigs).2 := by
  intro sigs
  induction sigs with
  | nil => intro st h; exact ⟨rfl, h⟩
  | cons s rest ih =>
    intro st h
    have ha := step_answer scan look st s h
    have hi := step_inv scan look st s h
    obtain ⟨h1, h2⟩ := ih (step scan look st s).2 hi
    simp only [run, List.map_cons]
    exact ⟨by rw [ha, h1], h2⟩

/-- after any history of queries on a fresh object every answer is the stateless one; `fresh` is the form the
    instance states it in -/
theorem history_independent {M Q A : Type} (scan : M × Option Err) (look : M → Q → R A) (fresh : Q → R A)
    (hfresh : ∀ q, stateless scan look q = fresh q) (qs : List Q) :
    (run scan look St.init qs).1 = qs.map fresh := by
  rw [(run_answers scan look qs _ (inv_init scan)).1]
  exact List.map_congr_left (fun q _ => hfresh q)

theorem run_some {M Q A : Type} (scan : M × Option Err) (look : M → Q → R A) :
    ∀ (sigs : List Q) (m : M), (run scan look ⟨some m⟩ sigs).2.map = some m := by
  intro sigs
  induction sigs with
  | nil => intro m; rfl
  | cons s rest ih => intro m; simp only [run, step]; exact ih m

theorem run_published {M Q A : Type} (scan : M × Option Err) (look : M → Q → R A) (sigs : List Q) :
    (run scan look St.init sigs).2.map.isSome = (!sigs.isEmpty && scan.2.isNone) := by
  induction sigs with
  | nil => rfl
  | cons s rest ih =>
    cases hs : scan.2 with
    | some e =>
      have hstep : step scan look St.init s = (.error e, St.init) := by simp [step, St.init, hs]
      simp only [run, hstep]
      rw [ih, hs]
      simp
    | none =>
      have hstep : step scan look St.init s = (look scan.1 s, ⟨some scan.1⟩) := by simp [step, St.init, hs]
      simp only [run, hstep, run_some]
      simp

end PyElf.Proofs.SigCache
