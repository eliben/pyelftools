/-
  `_parse_instructions` splits an encoded instruction stream into exactly the encoded opcodes and operands.  The operands of
  an instruction are a list of at most two, each of one of five kinds (`Opnd`); the reader, the encoder and the observation
  are tied to that list once (`parseInstrArgs_eq`, `enc_eq_opnds`, `operands_eq_opnds`), and reading — success, and the
  error where the data is cut — is said once per kind as a `Parses` fact (`parses_opnd`, `readOpnds_parses`,
  `parseInstr_parses`).
-/
import PyElf.Spec.CFI
import PyElf.Spec.DwarfStructs
import PyElf.Model.CallFrame
import PyElf.Proofs.Cut
import PyElf.Proofs.CfiTable
namespace PyElf.Proofs.Cfi
open PyElf PyElf.Spec PyElf.Model PyElf.Proofs PyElf.Proofs.Engine

/-- the struct fields `_parse_instructions` uses, as the standard prescribes them -/
structure InstrStructs (S : DwarfStructs) (le : Bool) (asz : Nat) : Prop where
  u8 : S.the_Dwarf_uint8 = .uint 1 le
  u16 : S.the_Dwarf_uint16 = .uint 2 le
  u32 : S.the_Dwarf_uint32 = .uint 4 le
  addr : S.the_Dwarf_target_addr = .uint asz le
  uleb : S.the_Dwarf_uleb128 = .uleb
  sleb : S.the_Dwarf_sleb128 = .sleb
  block : S.form "DW_FORM_block" = some (.prefixed .uleb (.uint 1 le))

theorem instrStructs_spec (le : Bool) (fmt asz ver : Nat) :
    InstrStructs (Spec.dwarfStructs ⟨le, fmt, asz, ver⟩) le asz :=
  ⟨rfl, rfl, rfl, rfl, rfl, rfl, rfl⟩

theorem parses_block {env : Env} {data : Bytes} {pos : Nat} {le : Bool} {b : Block} (hw : b.wf = true) :
    Parses .elfParseError (structParse env (.prefixed .uleb (.uint 1 le)) data) data pos b.enc b.obs := by
  simp only [Block.wf, Bool.and_eq_true, decide_eq_true_eq] at hw
  have hlen : (encUlebN b.n b.bytes.length).length = b.n := encUlebN_length _ _
  refine ⟨fun {rest} hd => ?_, fun {j} hj hd => ?_⟩
  · have hd' : data.drop pos = encUlebN b.n b.bytes.length ++ (b.bytes ++ rest) := by rw [hd, Block.enc, List.append_assoc]
    rw [structParse_of_parse (parse_block_uleb (env := env) (le := le) (ctx := []) hw.1 hw.2 hd'), Block.enc,
      List.length_append, hlen, Nat.add_assoc]
    rfl
  · rcases cut_append hd hj with ⟨h, e⟩ | ⟨h, e, -⟩
    · rw [hlen] at h
      have hv := validLEB_take _ j (encUlebN_valid b.n b.bytes.length hw.1) (by omega)
      simp only [structParse, Con.parse, parseUleb_trunc e hv, bind, Except.bind]
    · have h1 := parse_uleb_ok (env := env) (ctx := []) e (encUlebN_valid b.n b.bytes.length hw.1)
      rw [ulebVal_enc_of_lt hw.2, hlen] at h1
      have hl := length_of_drop e
      simp only [List.length_append, hlen, List.length_take] at hl
      exact structParse_error (parse_prefixed_bytes_trunc (le := le) h1 (by omega))

theorem byte_length (x : Nat) : (byte x).length = 1 := rfl
theorem uleb_len (u : ULeb) : u.enc.length = u.n := encUlebN_length _ _
theorem sleb_len (u : SLeb) : u.enc.length = u.n := encSlebN_length _ _
theorem block_len (b : Block) : b.enc.length = b.n + b.bytes.length := by
  simp [Block.enc, encUlebN_length]

/-! `DW_CFA_advance_loc`, `DW_CFA_offset` and `DW_CFA_restore` carry one more operand in the low six bits of the opcode byte
  (`inlArg`); it is no `Opnd`. -/

inductive Opnd
  | uleb (u : ULeb)
  | sleb (s : SLeb)
  | block (b : Block)
  | fixed (n v : Nat)        -- `n` = 1, 2, 4: `DW_CFA_advance_loc1/2/4`
  | addr (v : Nat)           -- a target address: `DW_CFA_set_loc`

def Opnd.enc (le : Bool) (asz : Nat) : Opnd → Bytes
  | .uleb u => u.enc
  | .sleb s => s.enc
  | .block b => b.enc
  | .fixed n v => encNat le n v
  | .addr v => encNat le asz v

def Opnd.obs : Opnd → Val
  | .uleb u => .int u.v
  | .sleb s => .int s.v
  | .block b => b.obs
  | .fixed _ v => .int v
  | .addr v => .int v

def Opnd.wf (asz : Nat) : Opnd → Prop
  | .uleb u => u.wf = true
  | .sleb s => s.wf = true
  | .block b => b.wf = true
  | .fixed n v => (n = 1 ∨ n = 2 ∨ n = 4) ∧ v < 256 ^ n
  | .addr v => v < 256 ^ asz

def Opnd.len (asz : Nat) : Opnd → Nat
  | .uleb u => u.n
  | .sleb s => s.n
  | .block b => b.n + b.bytes.length
  | .fixed n _ => n
  | .addr _ => asz

/-- the struct the reader takes for an operand of this kind -/
def Opnd.conS (S : DwarfStructs) : Opnd → R Con
  | .uleb _ => .ok S.the_Dwarf_uleb128
  | .sleb _ => .ok S.the_Dwarf_sleb128
  | .block _ => formBlock S
  | .fixed n _ => .ok (if n = 1 then S.the_Dwarf_uint8 else if n = 2 then S.the_Dwarf_uint16 else S.the_Dwarf_uint32)
  | .addr _ => .ok S.the_Dwarf_target_addr

def opnds : Cfa → List Opnd
  | .advance_loc _ | .restore _ | .nop | .remember_state | .restore_state | .negate_ra_state => []
  | .offset _ o => [.uleb o]
  | .set_loc a => [.addr a]
  | .advance_loc1 d => [.fixed 1 d]
  | .advance_loc2 d => [.fixed 2 d]
  | .advance_loc4 d => [.fixed 4 d]
  | .offset_extended r o | .register r o | .def_cfa r o | .val_offset r o => [.uleb r, .uleb o]
  | .restore_extended r | .undefined r | .same_value r | .def_cfa_register r | .def_cfa_offset r
  | .gnu_args_size r => [.uleb r]
  | .def_cfa_expression e => [.block e]
  | .expression r e | .val_expression r e => [.uleb r, .block e]
  | .offset_extended_sf r o | .def_cfa_sf r o | .val_offset_sf r o => [.uleb r, .sleb o]
  | .def_cfa_offset_sf o => [.sleb o]

def inlArg : Cfa → List Val
  | .advance_loc d => [.int d]
  | .offset r _ => [.int r]
  | .restore r => [.int r]
  | _ => []

/-- the struct the Spec's bundles give for an operand of this kind -/
def Opnd.con (le : Bool) (asz : Nat) : Opnd → Con
  | .uleb _ => .uleb
  | .sleb _ => .sleb
  | .block _ => .prefixed .uleb (.uint 1 le)
  | .fixed n _ => .uint n le
  | .addr _ => .uint asz le

/-- the operand reads of one branch of `_parse_instructions`, in the order the branch makes them -/
def readOpnds (S : DwarfStructs) (env : Env) (data : Bytes) (pre : List Val) : List Opnd → Nat → R (List Val × Nat)
  | [], p => .ok (pre, p)
  | [o], p => do
    let c ← o.conS S
    let (a, p) ← structParse env c data p
    return (pre ++ [a], p)
  | [o₁, o₂], p => do
    let c₁ ← o₁.conS S
    let (a, p) ← structParse env c₁ data p
    let c₂ ← o₂.conS S
    let (b, p) ← structParse env c₂ data p
    return (pre ++ [a, b], p)
  | _, _ => .error .assertion

theorem enc_eq_opnds (le : Bool) (asz : Nat) (i : Cfa) :
    i.enc le asz = byte i.opcode ++ (opnds i).flatMap (Opnd.enc le asz) := by
  cases i <;> simp [Cfa.enc, Cfa.opcode, opnds, Opnd.enc]

theorem operands_eq_opnds (i : Cfa) : i.operands = inlArg i ++ (opnds i).map Opnd.obs := by
  cases i <;> rfl

theorem opnds_wf {asz : Nat} {i : Cfa} (h : i.wf asz = true) : ∀ o ∈ opnds i, o.wf asz := by
  cases i <;> simp_all [Cfa.wf, opnds, Opnd.wf]

theorem opcode_lt {asz : Nat} {i : Cfa} (h : i.wf asz = true) : i.opcode < 256 := by
  cases i <;> simp_all [Cfa.wf, Cfa.opcode] <;> omega

theorem Opnd.enc_length {le : Bool} {asz : Nat} {o : Opnd} : (o.enc le asz).length = o.len asz := by
  cases o <;> simp [Opnd.enc, Opnd.len, uleb_len, sleb_len, block_len, encNat_length]

/-- which operands opcode byte `i.opcode` makes the reader take: the if/elif chain of `_parse_instructions`, decided
    by evaluation for the opcodes that are a number, and by the two masks for the three primary ones -/
theorem parseInstrArgs_eq (S : DwarfStructs) (env : Env) (data : Bytes) {asz : Nat} (i : Cfa) (hw : i.wf asz = true)
    (p : Nat) :
    parseInstrArgs Spec.cfiTables S env data i.opcode p = readOpnds S env data (inlArg i) (opnds i) p := by
  cases i with
  | advance_loc d =>
    have hd : d < 64 := by simpa [Cfa.wf] using hw
    simp only [parseInstrArgs, Cfa.opcode, Spec.cfiTables, cfaOps, and_c0_40 d hd, and_3f_40 d hd]
    rfl
  | offset r o =>
    have hd : r < 64 := by simp [Cfa.wf] at hw; exact hw.1
    simp only [parseInstrArgs, Cfa.opcode, Spec.cfiTables, cfaOps, and_c0_80 r hd, and_3f_80 r hd]
    rfl
  | restore r =>
    have hd : r < 64 := by simpa [Cfa.wf] using hw
    simp only [parseInstrArgs, Cfa.opcode, Spec.cfiTables, cfaOps, and_c0_c0 r hd, and_3f_c0 r hd]
    rfl
  | _ => simp only [Cfa.opcode]; rfl

theorem conS_eq {S : DwarfStructs} {le : Bool} {asz : Nat} (hS : InstrStructs S le asz) {o : Opnd} (hw : o.wf asz) :
    o.conS S = .ok (o.con le asz) := by
  cases o with
  | uleb u => simp only [Opnd.conS, Opnd.con, hS.uleb]
  | sleb s => simp only [Opnd.conS, Opnd.con, hS.sleb]
  | block b => simp only [Opnd.conS, Opnd.con, formBlock, hS.block]
  | fixed n v => rcases hw.1 with rfl | rfl | rfl <;> simp [Opnd.conS, Opnd.con, hS.u8, hS.u16, hS.u32]
  | addr v => simp only [Opnd.conS, Opnd.con, hS.addr]

theorem parses_opnd {env : Env} {data : Bytes} {le : Bool} {asz : Nat} {o : Opnd} {p : Nat} (hw : o.wf asz) :
    Parses .elfParseError (structParse env (o.con le asz) data) data p (o.enc le asz) o.obs := by
  cases o with
  | uleb u =>
    simp only [Opnd.wf, ULeb.wf, Bool.and_eq_true, decide_eq_true_eq] at hw
    exact parses_uleb hw.1 hw.2
  | sleb s =>
    simp only [Opnd.wf, SLeb.wf, Bool.and_eq_true, decide_eq_true_eq] at hw
    exact parses_sleb hw.1.1 hw.1.2 hw.2
  | block b => exact parses_block hw
  | fixed n v => exact parses_uint hw.2
  | addr v => exact parses_uint hw

theorem readOpnds_parses {S : DwarfStructs} {le : Bool} {asz : Nat} (hS : InstrStructs S le asz) {env : Env} {data : Bytes}
    (pre : List Val) {os : List Opnd} (hlen : os.length ≤ 2) (hw : ∀ o ∈ os, o.wf asz) {p : Nat} :
    Parses .elfParseError (readOpnds S env data pre os) data p (os.flatMap (Opnd.enc le asz)) (pre ++ os.map Opnd.obs) := by
  match os, hlen with
  | [], _ => exact (Parses.pure pre).as rfl (by simp)
  | [o], _ =>
    have hw1 := hw o (by simp)
    exact ((parses_opnd (env := env) hw1).seq_pure (k := fun x => pure (pre ++ [x.1], x.2))
      (by simp only [readOpnds, conS_eq hS hw1]; rfl) rfl).as (by simp) (by simp)
  | [o₁, o₂], _ =>
    have hw1 := hw o₁ (by simp)
    have hw2 := hw o₂ (by simp)
    exact ((parses_opnd (env := env) hw1).seq
      (k := fun x => structParse env (o₂.con le asz) data x.2 >>= fun y => pure (pre ++ [x.1, y.1], y.2))
      (by simp only [readOpnds, conS_eq hS hw1, conS_eq hS hw2]; rfl)
      ((parses_opnd hw2).seq_pure rfl rfl)).as (by simp) (by simp)

theorem opnds_length (i : Cfa) : (opnds i).length ≤ 2 := by
  cases i <;> simp [opnds]

theorem parseInstr_parses {S : DwarfStructs} {le : Bool} {asz : Nat} (hS : InstrStructs S le asz) (env : Env)
    (data : Bytes) (pos : Nat) (i : Cfa) (hw : i.wf asz = true) :
    Parses .elfParseError (parseInstr Spec.cfiTables S env data) data pos (i.enc le asz) (toInstr i) := by
  refine ((parses_byte (env := env) (le := le) (opcode_lt hw)).seq (k := ?k) ?hr ((readOpnds_parses hS (env := env) (inlArg i) (opnds_length i)
    (opnds_wf hw)).seq_pure (k := fun y => pure (⟨i.opcode, y.1⟩, y.2)) ?hr2 rfl)).as (enc_eq_opnds le asz i)
    (by rw [toInstr, operands_eq_opnds])
  case hr => rw [parseInstr, hS.u8]
  case hr2 => simp only [asNat_nat, bind, Except.bind, parseInstrArgs_eq S env data i hw]

theorem parseInstr_ok {S : DwarfStructs} {le : Bool} {asz : Nat} (hS : InstrStructs S le asz) (env : Env)
    (data : Bytes) (pos : Nat) (i : Cfa) (rest : Bytes)
    (hd : data.drop pos = i.enc le asz ++ rest) (hw : i.wf asz = true) :
    parseInstr Spec.cfiTables S env data pos = .ok (toInstr i, pos + (i.enc le asz).length) :=
  (parseInstr_parses hS env data pos i hw).ok hd

theorem enc_length_pos (le : Bool) (asz : Nat) (i : Cfa) : 1 ≤ (i.enc le asz).length := by
  rw [enc_eq_opnds, List.length_append, byte_length]
  omega

theorem parseInstructions_prefix {S : DwarfStructs} {le : Bool} {asz : Nat} (hS : InstrStructs S le asz) (env : Env)
    (data : Bytes) (endOff : Nat) (is : List Cfa) : ∀ (pos fuel : Nat) (rest : Bytes),
      data.drop pos = encInstrs le asz is ++ rest → (∀ i ∈ is, i.wf asz = true) →
      pos + (encInstrs le asz is).length ≤ endOff →
      parseInstructions Spec.cfiTables S env data endOff (fuel + is.length) pos
        = (parseInstructions Spec.cfiTables S env data endOff fuel (pos + (encInstrs le asz is).length)).map
            (fun r => (is.map toInstr ++ r.1, r.2)) := by
  induction is with
  | nil =>
    intro pos fuel rest _ _ _
    cases h : parseInstructions Spec.cfiTables S env data endOff fuel pos <;> simp [encInstrs, h, Except.map]
  | cons i is ih =>
    intro pos fuel rest hd hw hend
    have hlen : (encInstrs le asz (i :: is)).length = (i.enc le asz).length + (encInstrs le asz is).length := by
      simp [encInstrs]
    have hd0 : data.drop pos = i.enc le asz ++ (encInstrs le asz is ++ rest) := by
      rw [hd]; simp [encInstrs, List.append_assoc]
    have h1 := parseInstr_ok hS env data pos i _ hd0 (hw i (List.mem_cons_self ..))
    have hd1 : data.drop (pos + (i.enc le asz).length) = encInstrs le asz is ++ rest := drop_add_of_drop hd0
    have hpos := enc_length_pos le asz i
    have h2 := ih (pos + (i.enc le asz).length) fuel rest hd1 (fun j hj => hw j (List.mem_cons_of_mem _ hj))
      (by rw [hlen] at hend; omega)
    have hlt : pos < endOff := by rw [hlen] at hend; omega
    rw [show fuel + (i :: is).length = (fuel + is.length) + 1 by simp; omega, parseInstructions]
    simp only [hlt, if_true, h1, bind, Except.bind, pure, Except.pure]
    rw [h2, hlen, ← Nat.add_assoc]
    cases parseInstructions Spec.cfiTables S env data endOff fuel
      (pos + (i.enc le asz).length + (encInstrs le asz is).length) <;> simp [Except.map]

theorem parseInstructions_ok {S : DwarfStructs} {le : Bool} {asz : Nat} (hS : InstrStructs S le asz) (env : Env)
    (data : Bytes) (is : List Cfa) (pos fuel : Nat) (rest : Bytes)
    (hd : data.drop pos = encInstrs le asz is ++ rest) (hw : ∀ i ∈ is, i.wf asz = true) (hf : is.length < fuel) :
    parseInstructions Spec.cfiTables S env data (pos + (encInstrs le asz is).length) fuel pos
      = .ok (is.map toInstr, pos + (encInstrs le asz is).length) := by
  obtain ⟨f, rfl⟩ : ∃ f, fuel = f + 1 + is.length := ⟨fuel - 1 - is.length, by omega⟩
  rw [parseInstructions_prefix hS env data _ is pos (f + 1) rest hd hw (Nat.le_refl _), parseInstructions,
    if_neg (Nat.lt_irrefl _)]
  simp [Except.map]

end PyElf.Proofs.Cfi
