/-
  C20, index/handler table entries, in two layers: on EVERY file image the model of `EHABIInfo.get_entry`
  (Model/Ehabi.lean) is the EHABI reference decoder over the image's 32-bit words (`getEntry_eq_std`), and the reference
  decoder inverts the encoding of the abstract entries (`decodeEntry_enc`, Spec/Ehabi.lean on both sides).
  The facts about words and bits are in `PyElf.Proofs.EhabiEntry`, the theorems after them in `PyElf.Proofs`.
-/
import PyElf.Proofs.Engine
import PyElf.Proofs.BitFields
import PyElf.Model.Ehabi
import PyElf.Spec.DwarfStructs
namespace PyElf.Proofs
open PyElf PyElf.Spec PyElf.Proofs.Engine PyElf.Proofs.BitFields

namespace EhabiEntry

theorem land_nat (a b : Nat) : PyInt.land (a : Int) (b : Int) = ((a &&& b : Nat) : Int) := rfl

theorem lor_nat (a b : Nat) : PyInt.lor (a : Int) (b : Int) = ((a ||| b : Nat) : Int) := rfl

theorem land_80000000 (w : Nat) :
    PyInt.land (w : Int) 0x80000000 = ((w / 2 ^ 31 % 2 * 2 ^ 31 : Nat) : Int) := land_field w 1 31

theorem land_70000000 (w : Nat) :
    PyInt.land (w : Int) 0x70000000 = ((w / 2 ^ 28 % 8 * 2 ^ 28 : Nat) : Int) := land_field w 3 28

theorem land_7f000000 (w : Nat) :
    PyInt.land (w : Int) 0x7f000000 = ((w / 2 ^ 24 % 128 * 2 ^ 24 : Nat) : Int) := land_field w 7 24

theorem land_FF (w : Nat) : PyInt.land (w : Int) 0xFF = ((w % 256 : Nat) : Int) := land_low w 8

theorem shr_land_FF0000 (w : Nat) :
    PyInt.shr (PyInt.land (w : Int) 0xFF0000) 16 = ((w / 2 ^ 16 % 256 : Nat) : Int) := shr_land_field w 8 16

theorem shr_land_FF00 (w : Nat) :
    PyInt.shr (PyInt.land (w : Int) 0xFF00) 8 = ((w / 2 ^ 8 % 256 : Nat) : Int) := shr_land_field w 8 8

theorem land_shr_FF (w k : Nat) :
    PyInt.land (PyInt.shr (w : Int) k) 0xFF = ((w / 2 ^ k % 256 : Nat) : Int) := land_shr_field w 8 k

theorem land_shr_7f (w k : Nat) :
    PyInt.land (PyInt.shr (w : Int) k) 0x7f = ((w / 2 ^ k % 128 : Nat) : Int) := land_shr_field w 7 k

theorem byteOf_toNat (w sh : Nat) : (Spec.Ehabi.byteOf w sh).toNat = w / 2 ^ sh % 256 := by
  rw [Spec.Ehabi.byteOf, UInt8.toNat_ofNat']
  omega

/-- the one place where EHABI meets the byte reader: on ANY data (there is no encoder here, `getEntry_eq_std` speaks of
    every file image) a 4-byte integer is the word `wordAt` finds, or the data are too short.  The two structs
    (`parse_table_struct`, `parse_index_struct`) follow from it by the engine's field rules, again as total equations. -/
theorem parse_uint4 (env : Env) (le : Bool) (data : Bytes) (ctx : Fields) (off : Nat) :
    Con.parse env data (.uint 4 le) ctx off
      = match Spec.Ehabi.wordAt le data off with
        | some w => .ok (.int w, off + 4, ctx)
        | none => .error .elfParseError := by
  rw [Con.parse]
  unfold readExact readN Spec.Ehabi.wordAt
  simp only
  split <;> rfl

theorem getInt_word0 (w : Int) (rest : Fields) :
    (Val.record (("word0", .int w) :: rest)).getInt "word0" = .ok w := rfl

theorem getInt_word1 (w0 w1 : Int) :
    (Val.record [("word0", .int w0), ("word1", .int w1)]).getInt "word1" = .ok w1 := rfl

theorem land_80000000_eq_zero {w : Nat} (hw : w < 2 ^ 32) :
    PyInt.land (w : Int) 0x80000000 = 0 ↔ w < 2 ^ 31 := by
  rw [land_80000000]; omega

theorem land_70000000_eq_zero (w : Nat) :
    PyInt.land (w : Int) 0x70000000 = 0 ↔ w / 2 ^ 28 % 8 = 0 := by
  rw [land_70000000]; omega

theorem land_7f000000_eq_zero (w : Nat) :
    PyInt.land (w : Int) 0x7f000000 = 0 ↔ w / 2 ^ 24 % 128 = 0 := by
  rw [land_7f000000]; omega

theorem ints_bytes3 (w : Nat) :
    Model.Ehabi.ints [PyInt.shr (PyInt.land (w : Int) 0xFF0000) 16, PyInt.shr (PyInt.land (w : Int) 0xFF00) 8,
        PyInt.land (w : Int) 0xFF]
      = Spec.Ehabi.codeVal [Spec.Ehabi.byteOf w 16, Spec.Ehabi.byteOf w 8, Spec.Ehabi.byteOf w 0] := by
  rw [shr_land_FF0000, shr_land_FF00, land_FF]
  simp [Model.Ehabi.ints, Spec.Ehabi.codeVal, byteOf_toNat]

theorem parseAt_nat (env : Env) (c : Con) (data : Bytes) (p : Nat) (hp : p < 2 ^ 63) :
    Model.Ehabi.parseAt env c data (p : Int) = structParse env c data p := by
  unfold Model.Ehabi.parseAt
  rw [if_neg (by omega), if_neg (by omega), Int.toNat_natCast]

theorem dispOk_iff (d : Int) : Spec.Ehabi.dispOk d = true ↔ -(2 ^ 30 : Int) ≤ d ∧ d < (2 ^ 30 : Int) := by
  simp [Spec.Ehabi.dispOk]

theorem encPrel31_lt (d : Int) : Spec.Ehabi.encPrel31 d < 2 ^ 31 := ofSigned_lt 31 d

theorem prel31_enc {d : Int} (h : Spec.Ehabi.dispOk d = true) :
    Spec.Ehabi.prel31 (Spec.Ehabi.encPrel31 d) = d := by
  rw [dispOk_iff] at h
  unfold Spec.Ehabi.prel31
  rw [Nat.mod_eq_of_lt (encPrel31_lt d)]
  exact toSigned_ofSigned 31 d (by decide) (by simp; omega) (by simp; omega)

theorem expand_enc {d : Int} (h : Spec.Ehabi.dispOk d = true) (place : Nat) :
    Spec.Ehabi.expand (Spec.Ehabi.encPrel31 d) place = Spec.Ehabi.expectedFn d place := by
  rw [Spec.Ehabi.expand, prel31_enc h, Spec.Ehabi.expectedFn]

theorem expand_enc_tab {place tab : Nat} (h : Spec.Ehabi.dispOk ((tab : Int) - ((place : Int) + 4)) = true)
    (ht : tab < 2 ^ 62) :
    Spec.Ehabi.expand (Spec.Ehabi.encPrel31 ((tab : Int) - ((place : Int) + 4))) (place + 4) = tab := by
  rw [Spec.Ehabi.expand, prel31_enc h]
  simp
  omega

theorem encPrel31_ne_one {d : Int} (h : Spec.Ehabi.dispOk d = true) (hd : d ≠ 1) :
    Spec.Ehabi.encPrel31 d ≠ 1 := by
  intro he
  have := prel31_enc h
  rw [he] at this
  exact hd (by rw [← this]; decide)

theorem byteOf_eq {w sh : Nat} {b : UInt8} (h : w / 2 ^ sh % 256 = b.toNat) : Spec.Ehabi.byteOf w sh = b := by
  rw [Spec.Ehabi.byteOf, h, UInt8.ofNat_toNat]

theorem beWord3 (b0 b1 b2 : UInt8) :
    Spec.Ehabi.beWord [b0, b1, b2] = b0.toNat * 2 ^ 16 + b1.toNat * 2 ^ 8 + b2.toNat := by
  simp [Spec.Ehabi.beWord, beNat, leNat]; omega

theorem beWord2 (b0 b1 : UInt8) :
    Spec.Ehabi.beWord [b0, b1] = b0.toNat * 2 ^ 8 + b1.toNat := by
  simp [Spec.Ehabi.beWord, beNat, leNat]; omega

/-- the fields of a compact-model word: bit 31 set, personality index `i` in bits 24–27 (bits 28–30 clear), then three
    bytes — what `get_entry` and the reference decoder test and extract -/
theorem compactWord_fields {i x y z w : Nat} (hi : i < 8) (hx : x < 256) (hy : y < 256) (hz : z < 256)
    (hw : w = 2 ^ 31 + i * 2 ^ 24 + x * 2 ^ 16 + y * 2 ^ 8 + z) :
    2 ^ 31 ≤ w ∧ w ≠ 1 ∧ w / 2 ^ 28 % 8 = 0 ∧ w / 2 ^ 24 % 128 = i ∧ w / 2 ^ 16 % 256 = x ∧
      w / 2 ^ 8 % 256 = y ∧ w / 2 ^ 0 % 256 = z := by
  subst hw
  refine ⟨?_, ?_, ?_, ?_, ?_, ?_, ?_⟩ <;> omega

theorem wordBytes_beWord {m : Bytes} (h : m.length = 4) :
    Spec.Ehabi.wordBytes (Spec.Ehabi.beWord m) = m := by
  match m, h with
  | [a, b, c, d], _ =>
    have ha := a.toNat_lt; have hb := b.toNat_lt; have hc := c.toNat_lt; have hd := d.toNat_lt
    have e : Spec.Ehabi.beWord [a, b, c, d]
        = a.toNat * 2 ^ 24 + b.toNat * 2 ^ 16 + c.toNat * 2 ^ 8 + d.toNat := by
      simp [Spec.Ehabi.beWord, beNat, leNat]; omega
    obtain ⟨h24, h16, h8, h0⟩ := word_bytes ha hb hc hd
    rw [Spec.Ehabi.wordBytes, e, byteOf_eq (b := a) h24, byteOf_eq (b := b) h16, byteOf_eq (b := c) h8,
      byteOf_eq (b := d) h0]

end EhabiEntry
open EhabiEntry

theorem prel31_eq_std (w place : Nat) :
    Gen.Pure.arm_expand_prel31 (w : Int) (place : Int) = ((Spec.Ehabi.expand w place : Nat) : Int) := by
  have hx : w % 2 ^ 31 < 2 ^ 31 := Nat.mod_lt _ (by decide)
  have e1 : PyInt.land (w : Int) (2147483647 : Int) = ((w % 2 ^ 31 : Nat) : Int) := land_low w 31
  have e2 : ∀ x : Nat, PyInt.land (x : Int) (1073741824 : Int) = ((x / 2 ^ 30 % 2 * 2 ^ 30 : Nat) : Int) :=
    fun x => land_field x 1 30
  have e3 : ∀ x : Nat, x < 2 ^ 31 →
      PyInt.lor (x : Int) (18446744071562067968 : Int) = ((x + 18446744071562067968 : Nat) : Int) := by
    intro x hx
    show ((x ||| 18446744071562067968 : Nat) : Int) = _
    rw [show (18446744071562067968 : Nat) = (2 ^ 33 - 1) <<< 31 from rfl, or_shl_eq_add _ hx]
    rfl
  have e4 : ∀ y : Nat, PyInt.land (y : Int) (18446744073709551615 : Int) = ((y % 2 ^ 64 : Nat) : Int) :=
    fun y => land_low y 64
  unfold Gen.Pure.arm_expand_prel31 Spec.Ehabi.expand Spec.Ehabi.prel31 toSigned
  simp only [e1, e2, show ((31 : Nat) - 1) = 30 from rfl]
  generalize w % 2 ^ 31 = x at hx
  by_cases hlt : x < 2 ^ 30
  · have h0 : x / 2 ^ 30 % 2 * 2 ^ 30 = 0 := by omega
    have hc : ((((0 : Nat) : Int) != (0 : Int)) = true) = False := by simp
    have e5 : (x : Int) + (place : Int) = ((x + place : Nat) : Int) := by omega
    rw [h0]; simp only [hc, if_false, if_pos hlt]
    rw [e5, e4]
    omega
  · have h0 : x / 2 ^ 30 % 2 * 2 ^ 30 = 2 ^ 30 := by omega
    have hc : (((((2 : Nat) ^ 30 : Nat) : Int) != (0 : Int)) = true) = True := by simp
    have e5 : ((x + 18446744071562067968 : Nat) : Int) + (place : Int)
        = ((x + 18446744071562067968 + place : Nat) : Int) := by omega
    rw [h0]; simp only [hc, if_true, if_neg hlt]
    rw [e3 x hx, e5, e4]
    omega

theorem wordAt_lt {le : Bool} {data : Bytes} {off w : Nat}
    (h : Spec.Ehabi.wordAt le data off = some w) : w < 2 ^ 32 := by
  unfold Spec.Ehabi.wordAt at h
  simp only at h
  split at h
  · rename_i hl
    have := decNat_lt le (List.take 4 (List.drop off data))
    rw [hl] at this
    cases h
    exact this
  · cases h

theorem parse_table_struct (env : Env) (le : Bool) (data : Bytes) (off : Nat) :
    structParse env (Spec.ehabiStructs le).EH_table_struct data off
      = match Spec.Ehabi.wordAt le data off with
        | some w => .ok (.record [("word0", .int w)], off + 4)
        | none => .error .elfParseError := by
  have h0 := parse_uint4 env le data [] off
  show structParse env (.struct (.cons (some "word0") false (.uint 4 le) .nil)) data off = _
  cases hw : Spec.Ehabi.wordAt le data off with
  | none =>
    rw [hw] at h0
    exact structParse_error (ctx := []) (parse_struct_error (parseFields_error h0))
  | some w =>
    rw [hw] at h0
    exact structParse_of_parse (ctx := []) (parse_struct (by rw [parseFields_named h0, parseFields_nil]; rfl))

theorem parse_index_struct (env : Env) (le : Bool) (data : Bytes) (off : Nat) :
    structParse env (Spec.ehabiStructs le).EH_index_struct data off
      = match Spec.Ehabi.wordAt le data off, Spec.Ehabi.wordAt le data (off + 4) with
        | some w0, some w1 => .ok (.record [("word0", .int w0), ("word1", .int w1)], off + 8)
        | _, _ => .error .elfParseError := by
  have h0 := parse_uint4 env le data [] off
  show structParse env (.struct (.cons (some "word0") false (.uint 4 le)
    (.cons (some "word1") false (.uint 4 le) .nil))) data off = _
  cases hw0 : Spec.Ehabi.wordAt le data off with
  | none =>
    rw [hw0] at h0
    exact structParse_error (ctx := []) (parse_struct_error (parseFields_error h0))
  | some w0 =>
    rw [hw0] at h0
    have h1 := parse_uint4 env le data (Fields.set [] "word0" (.int w0)) (off + 4)
    cases hw1 : Spec.Ehabi.wordAt le data (off + 4) with
    | none =>
      rw [hw1] at h1
      exact structParse_error (ctx := []) (parse_struct_error (by rw [parseFields_named h0]; exact parseFields_error h1))
    | some w1 =>
      rw [hw1] at h1
      exact structParse_of_parse (ctx := [])
        (parse_struct (by rw [parseFields_named h0, parseFields_named h1, parseFields_nil]; rfl))

theorem moreWords_eq (env : Env) (le : Bool) (data : Bytes) : ∀ (cnt pos : Nat) (acc : List Int),
    Model.Ehabi.moreWords env (Spec.ehabiStructs le) data cnt pos acc
      = match Spec.Ehabi.moreWords (Spec.Ehabi.wordAt le data) cnt pos with
        | some bs => .ok (acc ++ bs.map fun b => (b.toNat : Int))
        | none => .error .elfParseError := by
  intro cnt
  induction cnt with
  | zero => intro pos acc; simp [Model.Ehabi.moreWords, Spec.Ehabi.moreWords]
  | succ n ih =>
    intro pos acc
    rw [Model.Ehabi.moreWords, parse_table_struct, Spec.Ehabi.moreWords]
    cases Spec.Ehabi.wordAt le data pos with
    | none => rfl
    | some w =>
      simp only [bind, Except.bind, getInt_word0, ih, land_shr_FF]
      cases Spec.Ehabi.moreWords (Spec.Ehabi.wordAt le data) n (pos + 4) with
      | none => rfl
      | some more =>
        simp [Spec.Ehabi.wordBytes, byteOf_toNat]

theorem getEntry_eq_std (env : Env) (le : Bool) (data : Bytes) (shOffset shSize n : Nat)
    (hn : n < shSize / 8) (hplace : shOffset + 8 * n + 8 < 2 ^ 63)
    (htab : ∀ w1, Spec.Ehabi.wordAt le data (shOffset + 8 * n + 4) = some w1 →
              Spec.Ehabi.expand w1 (shOffset + 8 * n + 4) < 2 ^ 63) :
    Model.Ehabi.getEntry env (Spec.ehabiStructs le) data shOffset shSize n
      = (match Spec.Ehabi.decodeEntry (Spec.Ehabi.wordAt le data) (shOffset + 8 * n) with
         | some d => .ok (Spec.Ehabi.obsDecoded d)
         | none => .error .elfParseError) := by
  have hplaceI : ((shOffset : Int) + (n : Int) * ((Gen.ehabiEntrySize : Nat) : Int))
      = ((shOffset + 8 * n : Nat) : Int) := by
    simp only [Gen.ehabiEntrySize]; omega
  unfold Model.Ehabi.getEntry
  rw [if_neg (by simp only [Gen.ehabiEntrySize]; omega)]
  simp only [hplaceI]
  generalize hpl : shOffset + 8 * n = place at *
  rw [parseAt_nat _ _ _ _ (by omega), parse_index_struct]
  unfold Spec.Ehabi.decodeEntry
  cases h0 : Spec.Ehabi.wordAt le data place with
  | none => rfl
  | some w0 =>
  cases h1 : Spec.Ehabi.wordAt le data (place + 4) with
  | none => rfl
  | some w1 =>
  have hw0 := wordAt_lt h0
  have hw1 := wordAt_lt h1
  have hpl4 : (place : Int) + 4 = ((place + 4 : Nat) : Int) := by omega
  simp only [bind, Except.bind, getInt_word0, getInt_word1, pure, Except.pure, hpl4, prel31_eq_std]
  -- each test of the library on a masked word is the reference decoder's test on the field; `dec` is what the
  -- statement makes of the decoder's answer
  let dec : Option Spec.Ehabi.Decoded → R Val := fun o =>
    match o with
    | some d => .ok (Spec.Ehabi.obsDecoded d)
    | none => .error .elfParseError
  show _ = dec _
  refine ite_par id dec (not_congr (land_80000000_eq_zero hw0) |>.trans Nat.not_lt) (fun _ => rfl) (fun _ => ?_)
  refine ite_par id dec (by omega : (w1 : Int) = 1 ↔ w1 = 1) (fun _ => rfl) (fun _ => ?_)
  rw [← ite_not (2 ^ 31 ≤ w1)]
  refine ite_par id dec ((land_80000000_eq_zero hw1).trans Nat.not_le.symm) (fun c2 => ?_) (fun _ => ?_)
  · have htab' := htab w1 h1
    generalize Spec.Ehabi.expand w1 (place + 4) = tab at *
    generalize Spec.Ehabi.expand w0 place = fn
    rw [parseAt_nat _ _ _ _ htab', parse_table_struct]
    cases ht : Spec.Ehabi.wordAt le data tab with
    | none => rfl
    | some t =>
    have hwt := wordAt_lt ht
    simp only [getInt_word0, prel31_eq_std, land_shr_7f, land_shr_FF, Int.toNat_natCast]
    refine ite_par id dec (land_80000000_eq_zero hwt) (fun _ => rfl) (fun _ => ?_)
    refine ite_par id dec (not_congr (land_70000000_eq_zero t)) (fun _ => rfl) (fun _ => ?_)
    generalize hidx : t / 2 ^ 24 % 128 = idx
    refine ite_par id dec (by omega : (idx : Int) = 0 ↔ idx = 0) (fun c6 => ?_) (fun _ => ?_)
    · rw [ints_bytes3, c6]
      rfl
    · refine ite_par id dec (by omega : ((idx : Int) = 1 ∨ (idx : Int) = 2) ↔ (idx = 1 ∨ idx = 2)) (fun _ => ?_) (fun _ => rfl)
      rw [moreWords_eq]
      cases Spec.Ehabi.moreWords (Spec.Ehabi.wordAt le data) (t / 2 ^ 16 % 256) (tab + 4) with
      | none => rfl
      | some more =>
        simp [dec, Model.Ehabi.ints, Model.Ehabi.entryObj, Spec.Ehabi.obsDecoded, Spec.Ehabi.entryRecord,
          Spec.Ehabi.codeVal, byteOf_toNat]
  · refine ite_par id dec (not_congr (land_7f000000_eq_zero w1)) (fun _ => rfl) (fun _ => ?_)
    rw [ints_bytes3]
    rfl

theorem moreWords_enc (mem : Nat → Option Nat) : ∀ (more : List Bytes) (off : Nat),
    (∀ m ∈ more, m.length = 4) →
    (∀ i, i < more.length → mem (off + 4 * i) = (more.map Spec.Ehabi.beWord)[i]?) →
    Spec.Ehabi.moreWords mem more.length off = some more.flatten := by
  intro more
  induction more with
  | nil => intro off _ _; rfl
  | cons m more ih =>
    intro off h4 hm
    have h0 := hm 0 (by simp)
    simp at h0
    rw [List.length_cons, Spec.Ehabi.moreWords, h0]
    simp only
    rw [ih (off + 4) (fun x hx => h4 x (by simp [hx]))]
    · simp [wordBytes_beWord (h4 m (by simp))]
    · intro i hi
      have := hm (i + 1) (by simp; omega)
      rw [show off + 4 * (i + 1) = off + 4 + 4 * i by omega] at this
      simpa using this

/-- `hne`: a table reference with displacement 1 (`tab = place + 5`, impossible for 4-aligned tables) encodes as the
    word 1 = EXIDX_CANTUNWIND.  No bound on `place` is needed. -/
theorem decodeEntry_enc (mem : Nat → Option Nat) (e : Spec.Ehabi.Entry) (place tab : Nat)
    (hwf : Spec.Ehabi.entryWf e = true)
    (hd : Spec.Ehabi.dispOk ((tab : Int) - ((place : Int) + 4)) = true)
    (hne : tab ≠ place + 5)
    (ht : tab < 2 ^ 62)
    (h0 : mem place = (Spec.Ehabi.encIndex e place tab)[0]?)
    (h1 : mem (place + 4) = (Spec.Ehabi.encIndex e place tab)[1]?)
    (hT : ∀ i, i < e.tableWords.length → mem (tab + 4 * i) = e.tableWords[i]?) :
    (Spec.Ehabi.decodeEntry mem place).map Spec.Ehabi.obsDecoded
      = some (Spec.Ehabi.obsEntry e place tab) := by
  -- By the entry's shape: the words given at `place` (for a table entry also at `tab`) settle the tests of
  -- `decodeEntry` one after another, a compact word's bit fields through `compactWord_fields`, its bytes by `byteOf_eq`.
  cases e with
  | cantUnwind d =>
    simp only [Spec.Ehabi.entryWf] at hwf
    simp [Spec.Ehabi.encIndex] at h0 h1
    have hlt := encPrel31_lt d
    simp [Spec.Ehabi.decodeEntry, h0, h1, Nat.not_le.2 hlt, expand_enc hwf, Spec.Ehabi.obsEntry]
  | inline d b0 b1 b2 =>
    simp only [Spec.Ehabi.entryWf] at hwf
    simp [Spec.Ehabi.encIndex] at h0 h1
    have hlt := encPrel31_lt d
    have h0' := b0.toNat_lt; have h1' := b1.toNat_lt; have h2' := b2.toNat_lt
    have e3 := beWord3 b0 b1 b2
    generalize hw : 2 ^ 31 + Spec.Ehabi.beWord [b0, b1, b2] = w1 at h1
    obtain ⟨c2, c1, -, c3, f16, f8, f0⟩ :=
      compactWord_fields (i := 0) (w := w1) (by decide) h0' h1' h2' (by rw [← hw, e3]; omega)
    unfold Spec.Ehabi.decodeEntry
    simp only [h0, h1, if_neg (Nat.not_le.2 hlt), if_neg c1, if_pos c2, if_neg (not_not_intro c3), expand_enc hwf]
    rw [byteOf_eq (b := b0) f16, byteOf_eq (b := b1) f8, byteOf_eq (b := b2) f0]
    rfl
  | table d t =>
    simp only [Spec.Ehabi.entryWf, Bool.and_eq_true] at hwf
    obtain ⟨hwd, hwt⟩ := hwf
    simp [Spec.Ehabi.encIndex] at h0 h1
    have hlt := encPrel31_lt d
    have hlt1 := encPrel31_lt ((tab : Int) - ((place : Int) + 4))
    have c1 := encPrel31_ne_one hd (by omega)
    have etab := expand_enc_tab hd ht
    have hT0 := hT 0
    simp only [Spec.Ehabi.Entry.tableWords] at hT hT0
    unfold Spec.Ehabi.decodeEntry
    simp only [h0, h1, if_neg (Nat.not_le.2 hlt), if_neg c1, if_neg (Nat.not_le.2 hlt1), expand_enc hwd, etab]
    cases t with
    | generic p =>
      simp only [Spec.Ehabi.tableEntryWf] at hwt
      simp [Spec.Ehabi.encTableEntry] at hT0
      have hltp := encPrel31_lt p
      simp only [hT0, if_pos hltp, expand_enc hwt]
      rfl
    | su16 b0 b1 b2 =>
      simp [Spec.Ehabi.encTableEntry] at hT0
      have h0' := b0.toNat_lt; have h1' := b1.toNat_lt; have h2' := b2.toNat_lt
      have e3 := beWord3 b0 b1 b2
      generalize hw : 2 ^ 31 + Spec.Ehabi.beWord [b0, b1, b2] = w at hT0
      obtain ⟨c4, -, c5, c6, f16, f8, f0⟩ :=
        compactWord_fields (i := 0) (w := w) (by decide) h0' h1' h2' (by rw [← hw, e3]; omega)
      simp only [hT0, if_neg (Nat.not_lt.2 c4), if_neg (not_not_intro c5), if_pos c6]
      rw [byteOf_eq (b := b0) f16, byteOf_eq (b := b1) f8, byteOf_eq (b := b2) f0]
      rfl
    | long idx b0 b1 more =>
      simp [Spec.Ehabi.tableEntryWf] at hwt
      obtain ⟨⟨hidx, hlen⟩, h4⟩ := hwt
      simp [Spec.Ehabi.encTableEntry] at hT0
      have h0' := b0.toNat_lt; have h1' := b1.toNat_lt
      have e2 := beWord2 b0 b1
      have hmore : Spec.Ehabi.moreWords mem more.length (tab + 4) = some more.flatten := by
        apply moreWords_enc mem more (tab + 4) h4
        intro i hi
        have := hT (i + 1) (by simp [Spec.Ehabi.encTableEntry]; omega)
        rw [show tab + 4 * (i + 1) = tab + 4 + 4 * i by omega] at this
        simpa [Spec.Ehabi.encTableEntry] using this
      generalize hw : 2 ^ 31 + idx * 2 ^ 24 + more.length * 2 ^ 16 + Spec.Ehabi.beWord [b0, b1] = w at hT0
      have c8 : ¬ idx = 0 := by omega
      obtain ⟨c4, -, c5, c6, c7, f8, f0⟩ :=
        compactWord_fields (i := idx) (w := w) (by omega) hlen h0' h1' (by rw [← hw, e2]; omega)
      simp only [hT0, if_neg (Nat.not_lt.2 c4), if_neg (not_not_intro c5), c6, if_neg c8, if_pos hidx, c7, hmore]
      rw [byteOf_eq (b := b0) f8, byteOf_eq (b := b1) f0]
      rfl

end PyElf.Proofs
