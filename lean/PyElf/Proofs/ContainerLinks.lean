/-
  C11, links between files on a section table.  The link structs (`Gnu_debuglink`, `Dwarf_debugsup`,
  `Dwarf_debugaltlink`) as `Engine.Reads` derivations; the debug-link gate when it opens (`core_linked`,
  `core_debuglink`: the checksum decides); what a content says about a supplementary file (`SupLink`) and the view with
  that file's view attached (`ownInfo_with_sup_reads`, `core_with_sup_reads`) — from what the loops deliver (C11's
  `Reads`) alone.
-/
import PyElf.Spec.DwarfStructs
import PyElf.Proofs.Reads
import PyElf.Proofs.ContainerReads
namespace PyElf.Proofs.C11
open PyElf PyElf.Spec PyElf.Model PyElf.Model.C11 PyElf.Spec.C11 PyElf.Proofs

def debuglinkCon (le : Bool) : Con :=
  Spec.st [Spec.f "filename" .cstring,
           Spec.anon (.padding (.sub (Spec.lit 3) (.fmod (.len (Spec.ctx "filename")) (Spec.lit 4))) true),
           Spec.f "checksum" (.uint 4 le)]

theorem spec_debuglink (c : ElfCfg) : (Spec.elfStructs c).Gnu_debuglink = debuglinkCon c.le := rfl

/-- the length of the padding: from the terminated name up to the next 4-byte boundary -/
theorem pad_eval {ctx : Fields} {filename : Bytes} (h : Fields.get? ctx "filename" = some (.bytes filename)) :
    (Expr.sub (Spec.lit 3) (.fmod (.len (Spec.ctx "filename")) (Spec.lit 4))).eval ctx .none >>= Val.asNat
      = .ok (3 - filename.length % 4) := by
  have h1 : PyInt.fmod (filename.length : Int) 4 = (filename.length : Int) % 4 := by
    rw [PyInt.fmod, Int.fmod_eq_emod_of_nonneg _ (by omega)]
  have h2 : ¬ ((3 : Int) - (filename.length : Int) % 4 < 0) := by omega
  have h3 : ((3 : Int) - (filename.length : Int) % 4).toNat = 3 - filename.length % 4 := by omega
  simp [Expr.eval, Spec.lit, Spec.ctx, Fields.getR_of_get? h, Expr.arith, Val.asInt, Val.asNat, bind, Except.bind,
        pure, Except.pure, h1, h2, h3]

theorem debuglink_reads {env : Env} {ctx : Fields} {pos : Nat} {le : Bool} {filename : Bytes} {crc : Nat} {out : Bytes}
    (hnul : ∀ b ∈ filename, b ≠ 0) (hcrc : crc < 256 ^ 4) :
    Engine.Reads (Engine.pr env (debuglinkCon le)) ctx pos
      (filename ++ (0 :: (List.replicate (3 - filename.length % 4) 0 ++ (encNat le 4 crc ++ out))))
      (.record [("filename", .bytes filename), ("checksum", .int crc)])
      (pos + filename.length + 1 + (3 - filename.length % 4) + 4) out ctx :=
  Engine.ReadsF.struct
    (.named (Engine.Reads.cstring hnul) <| .anon (Engine.Reads.zeroPad (pad_eval (by simp [Fields.get?_set]))) <|
      .named (Engine.Reads.uint hcrc) .nil)
    (by simp [Fields.set])

theorem parse_debuglink (env : Env) (S : ElfStructs) (le : Bool) (hS : S.Gnu_debuglink = debuglinkCon le)
    (data : Bytes) (sec : Sec) (off : Nat) (filename : Bytes) (crc : Nat) (rest : Bytes)
    (hoff : sec.hdr.getNat "sh_offset" = .ok off) (hlt : off < 2 ^ 63)
    (hnul : ∀ b ∈ filename, b ≠ 0) (hcrc : crc < 2 ^ 32)
    (hd : data.drop off = encDebuglink le filename crc ++ rest) :
    parseDebuglink env S data sec = .ok (filename, crc) := by
  have hp := (debuglink_reads (env := env) (ctx := []) (le := le) (out := rest) hnul (show crc < 256 ^ 4 by omega)).structParse
    (show data.drop off = _ by rw [hd]; simp [encDebuglink])
  simp only [parseDebuglink, hoff, hS, structParseAt_eq hlt, hp, bind, Except.bind]
  have : ¬ ((crc : Int) < 0) := by omega
  simp [asBytes, Val.getField, Val.getNat, Fields.getR, Fields.get?, Val.asNat, Val.asInt, bind, Except.bind, pure, Except.pure, this]

theorem linkTarget_some (secs : List Sec) (sec : Sec) (ld : Loader)
    (hget : getSectionByName secs nGnuDebuglink = some sec) (hno : hasDwarfInfo secs true = false) :
    linkTarget secs (some ld) true = some (sec, ld) := by
  simp [linkTarget, hget, hno]

/-- the loader is asked for the file (KeyError), its checksum is compared (ELFError), and the result is the TARGET's
    `get_dwarf_info`, same loader, links on -/
theorem core_linked (P : Params) (again : Option Loader → Bytes → Bool → Bool → V DwarfInfo)
    (ld : Loader) (f : ElfFile) (secs : List Sec) (relocate : Bool) (sec : Sec) (filename : Bytes) (crc : Nat)
    (hl : linkTarget secs (some ld) true = some (sec, ld))
    (hp : parseDebuglink P.env f.S f.data sec = .ok (filename, crc)) :
    getDwarfInfoCore P again (some ld) f secs relocate true =
      match ld filename with
      | none => fail .keyError
      | some ext => if P.X.crc32 ext ≠ crc then fail .elfError else again (some ld) ext relocate true := by
  simp only [getDwarfInfoCore, hl, hp, liftR, bind, Except.bind]
  cases ld filename <;> rfl

theorem core_debuglink (P : Params) (again : Option Loader → Bytes → Bool → Bool → V DwarfInfo)
    (ld : Loader) (f : ElfFile) (secs : List Sec) (relocate : Bool) (sec : Sec)
    (off : Nat) (filename ext rest : Bytes) (crc : Nat)
    (hS : f.S.Gnu_debuglink = debuglinkCon f.le)
    (hget : getSectionByName secs nGnuDebuglink = some sec) (hno : hasDwarfInfo secs true = false)
    (hoff : sec.hdr.getNat "sh_offset" = .ok off) (hlt : off < 2 ^ 63)
    (hnul : ∀ b ∈ filename, b ≠ 0) (hcrc : crc < 2 ^ 32)
    (hd : f.data.drop off = encDebuglink f.le filename crc ++ rest) (hfile : ld filename = some ext) :
    getDwarfInfoCore P again (some ld) f secs relocate true =
      if P.X.crc32 ext ≠ crc then fail .elfError else again (some ld) ext relocate true := by
  rw [core_linked P again ld f secs relocate sec filename crc (linkTarget_some secs sec ld hget hno)
    (parse_debuglink P.env f.S f.le hS f.data sec off filename crc rest hoff hlt hnul hcrc hd), hfile]

def altlinkCon : Con := Spec.st [Spec.f "sup_filename" .cstring, Spec.f "sup_checksum" (.bytesN (Spec.lit 20))]
def debugsupCon (le : Bool) : Con :=
  Spec.st [Spec.f "version" (.sint 2 le), Spec.f "is_supplementary" (.uint 1 le), Spec.f "sup_filename" .cstring]

theorem spec_altlink (c : DwarfCfg) : (Spec.dwarfStructs c).Dwarf_debugaltlink = altlinkCon := rfl
theorem spec_debugsup (c : DwarfCfg) : (Spec.dwarfStructs c).Dwarf_debugsup = debugsupCon c.le := rfl

theorem altlink_reads {env : Env} {ctx : Fields} {pos : Nat} {path buildId out : Bytes} (hnul : ∀ b ∈ path, b ≠ 0)
    (hid : buildId.length = 20) :
    Engine.Reads (Engine.pr env altlinkCon) ctx pos (path ++ (0 :: (buildId ++ out)))
      (.record [("sup_filename", .bytes path), ("sup_checksum", .bytes buildId)]) (pos + path.length + 1 + 20) out ctx :=
  Engine.ReadsF.struct (.named (Engine.Reads.cstring hnul) <| .named (Engine.Reads.bytes (Engine.eval_asNat_lit 20 _) hid) .nil)
    (by simp [Fields.set])

theorem parse_altlink (env : Env) (path buildId junk : Bytes) (hnul : ∀ b ∈ path, b ≠ 0) (hid : buildId.length = 20) :
    ∃ v, parseStream env altlinkCon (encAltlink path buildId ++ junk) = .ok v ∧
      v.getField "sup_filename" = .ok (.bytes path) :=
  ⟨_, by rw [parseStream, (altlink_reads (out := junk) hnul hid).structParse (by simp [encAltlink])], by simp [Val.getField, Fields.getR, Fields.get?]⟩

/-- `version` is read back as a signed halfword, whatever it is -/
theorem debugsup_reads {env : Env} {ctx : Fields} {pos : Nat} {le : Bool} {version isSup : Nat} {path out : Bytes}
    (hnul : ∀ b ∈ path, b ≠ 0) (hs : isSup < 256) :
    Engine.Reads (Engine.pr env (debugsupCon le)) ctx pos (encNat le 2 version ++ ([UInt8.ofNat isSup] ++ (path ++ (0 :: out))))
      (.record [("version", .int (toSigned (8 * 2) (decNat le (encNat le 2 version)))), ("is_supplementary", .int isSup),
        ("sup_filename", .bytes path)]) (pos + 2 + 1 + path.length + 1) out ctx :=
  Engine.ReadsF.struct
    (.named (Engine.Reads.sintBytes (encNat_length ..)) <| .named (Engine.Reads.byte hs) <|
      .named (Engine.Reads.cstring hnul) .nil)
    (by simp [Fields.set])

theorem parse_debugsup (env : Env) (le : Bool) (version isSup : Nat) (path checksum junk : Bytes)
    (hnul : ∀ b ∈ path, b ≠ 0) (hs : isSup < 256) :
    ∃ v, parseStream env (debugsupCon le) (encDebugSup le version isSup path checksum ++ junk) = .ok v ∧
      v.getField "sup_filename" = .ok (.bytes path) ∧ v.getInt "is_supplementary" = .ok (isSup : Int) :=
  ⟨_, by rw [parseStream, (debugsup_reads (version := version) hnul hs).structParse
      (by simp only [encDebugSup, List.append_assoc, List.drop_zero]; rfl)],
    by simp [Val.getField, Fields.getR, Fields.get?], by simp [Val.getInt, Val.getField, Fields.getR, Fields.get?, Val.asInt, bind, Except.bind]⟩

theorem parseDebugSupInfo_altlink (env : Env) (DS : DwarfStructs) (hDS : DS.Dwarf_debugaltlink = altlinkCon)
    (ds : List (String × Option Descr)) (d : Descr) (path buildId junk : Bytes)
    (h1 : descrOf ds "debug_sup_sec" = none) (h2 : descrOf ds "gnu_debugaltlink_sec" = some d)
    (hd : d.stream = encAltlink path buildId ++ junk) (hnul : ∀ b ∈ path, b ≠ 0) (hid : buildId.length = 20) :
    parseDebugSupInfo env DS ds = .ok (some path) := by
  obtain ⟨v, hv, hf⟩ := parse_altlink env path buildId junk hnul hid
  simp [parseDebugSupInfo, h1, h2, hDS, hd, hv, hf, asBytes, bind, Except.bind, pure, Except.pure]

theorem parseDebugSupInfo_debugsup (env : Env) (DS : DwarfStructs) (le : Bool) (hDS : DS.Dwarf_debugsup = debugsupCon le)
    (ds : List (String × Option Descr)) (d : Descr) (version : Nat) (path checksum junk : Bytes)
    (h1 : descrOf ds "debug_sup_sec" = some d)
    (hd : d.stream = encDebugSup le version 0 path checksum ++ junk) (hnul : ∀ b ∈ path, b ≠ 0) :
    parseDebugSupInfo env DS ds = .ok (some path) := by
  obtain ⟨v, hv, hf, hi⟩ := parse_debugsup env le version 0 path checksum junk hnul (by omega)
  simp [parseDebugSupInfo, h1, hDS, hd, hv, hf, hi, asBytes, bind, Except.bind, pure, Except.pure]

theorem supplementary_followed (P : Params) (again : Option Loader → Bytes → Bool → Bool → V DwarfInfo)
    (ld : Loader) (f : ElfFile) (ds : List (String × Option Descr)) (DS : DwarfStructs) (path supData : Bytes)
    (hDS : P.dwarfStructsFor ⟨f.le, 32, f.cls / 8, 2⟩ = some DS)
    (hp : parseDebugSupInfo P.env DS ds = .ok (some path)) (hl : ld path = some supData) :
    supplementary P again (some ld) f ds = (again none supData true true).map some := by
  simp only [supplementary, hDS, hp, hl, liftR, bind, Except.bind]
  cases again none supData true true <;> rfl

theorem supplementary_no_loader (P : Params) (again : Option Loader → Bytes → Bool → Bool → V DwarfInfo)
    (f : ElfFile) (ds : List (String × Option Descr)) (DS : DwarfStructs) (path : Option Bytes)
    (hDS : P.dwarfStructsFor ⟨f.le, 32, f.cls / 8, 2⟩ = some DS)
    (hp : parseDebugSupInfo P.env DS ds = .ok path) :
    supplementary P again none f ds = .ok none := by
  simp only [supplementary, hDS, hp, liftR, bind, Except.bind]
  cases path <;> rfl

/-- the path of the supplementary file a content names, if any (DWARF 5 §7.3.6 `.debug_sup`; DWZ `.gnu_debugaltlink`):
    `.debug_sup` with `is_supplementary = 0` names one and takes precedence; `.gnu_debugaltlink` names one; a file
    that is itself a supplementary file (`is_supplementary = 1`) names none -/
inductive SupLink (le : Bool) (content : Content) : Option Bytes → Prop
  | none : content "debug_sup_sec" = Option.none → content "gnu_debugaltlink_sec" = Option.none →
      SupLink le content Option.none
  | debugSup (version : Nat) (path checksum junk : Bytes) (a : Nat) :
      content "debug_sup_sec" = some (encDebugSup le version 0 path checksum ++ junk, a) → (∀ b ∈ path, b ≠ 0) →
      SupLink le content (some path)
  | altlink (path buildId junk : Bytes) (a : Nat) :
      content "debug_sup_sec" = Option.none →
      content "gnu_debugaltlink_sec" = some (encAltlink path buildId ++ junk, a) → (∀ b ∈ path, b ≠ 0) →
      buildId.length = 20 → SupLink le content (some path)
  | isSup (version : Nat) (path checksum junk : Bytes) (a : Nat) :
      content "debug_sup_sec" = some (encDebugSup le version 1 path checksum ++ junk, a) → (∀ b ∈ path, b ≠ 0) →
      content "gnu_debugaltlink_sec" = Option.none → SupLink le content Option.none

theorem parseDebugSupInfo_isSup (env : Env) (DS : DwarfStructs) (le : Bool) (hDS : DS.Dwarf_debugsup = debugsupCon le)
    (ds : List (String × Option Descr)) (d : Descr) (version : Nat) (path checksum junk : Bytes)
    (h1 : descrOf ds "debug_sup_sec" = some d) (h2 : descrOf ds "gnu_debugaltlink_sec" = none)
    (hd : d.stream = encDebugSup le version 1 path checksum ++ junk) (hnul : ∀ b ∈ path, b ≠ 0) :
    parseDebugSupInfo env DS ds = .ok none := by
  obtain ⟨v, hv, hf, hi⟩ := parse_debugsup env le version 1 path checksum junk hnul (by omega)
  simp [parseDebugSupInfo, h1, h2, hDS, hd, hv, hi, bind, Except.bind, pure, Except.pure]

theorem parseDebugSupInfo_of_link (env : Env) (DS : DwarfStructs) (le : Bool)
    (hA : DS.Dwarf_debugaltlink = altlinkCon) (hS : DS.Dwarf_debugsup = debugsupCon le)
    (ds : List (String × Option Descr)) (names : List (String × Bytes × Bool)) (content : Content) (p : Option Bytes)
    (hv : secViews ds = contentView names content)
    (hk1 : "debug_sup_sec" ∈ names.map (·.1)) (hk2 : "gnu_debugaltlink_sec" ∈ names.map (·.1))
    (h : SupLink le content p) : parseDebugSupInfo env DS ds = .ok p := by
  cases h with
  | none h1 h2 =>
    exact parseDebugSupInfo_none env DS ds (descrOf_none_of_content ds names content _ hv h1)
      (descrOf_none_of_content ds names content _ hv h2)
  | debugSup version path checksum junk a h1 hnul =>
    obtain ⟨d, hd, hs⟩ := descrOf_of_content ds names content _ _ _ hv hk1 h1
    exact parseDebugSupInfo_debugsup env DS le hS ds d version path checksum junk hd hs hnul
  | altlink path buildId junk a h1 h2 hnul hid =>
    obtain ⟨d, hd, hs⟩ := descrOf_of_content ds names content _ _ _ hv hk2 h2
    exact parseDebugSupInfo_altlink env DS hA ds d path buildId junk
      (descrOf_none_of_content ds names content _ hv h1) hd hs hnul hid
  | isSup version path checksum junk a h1 hnul h2 =>
    obtain ⟨d, hd, hs⟩ := descrOf_of_content ds names content _ _ _ hv hk1 h1
    exact parseDebugSupInfo_isSup env DS le hS ds d version path checksum junk hd
      (descrOf_none_of_content ds names content _ hv h2) hs hnul

structure SupOk (P : Params) (f : ElfFile) : Prop where
  hk1 : "debug_sup_sec" ∈ P.names.map (·.1)
  hk2 : "gnu_debugaltlink_sec" ∈ P.names.map (·.1)
  hDS : ∃ DS, P.dwarfStructsFor ⟨f.le, 32, f.cls / 8, 2⟩ = some DS ∧
    DS.Dwarf_debugaltlink = altlinkCon ∧ DS.Dwarf_debugsup = debugsupCon f.le

theorem ownInfo_no_loader_reads {P : Params} {f : ElfFile}
    (hs : SupOk P f) (again : Option Loader → Bytes → Bool → Bool → V DwarfInfo)
    (secs : List Sec) (relocate followLinks : Bool) (content : Content) (m : Val)
    (hm : f.header.getField "e_machine" = .ok m)
    (hh : Reads P f secs relocate content) (p : Option Bytes) (hsl : SupLink f.le content p) :
    (ownInfo P again none f secs relocate followLinks).map DwarfInfo.view
      = .ok (.mk f.le (f.cls / 8) (P.machineArchOf m) (contentView P.names content) none) := by
  obtain ⟨ds, hds, hv⟩ := readAll_reads P f secs relocate content P.names hh
  obtain ⟨DS, hDS, hA, hS⟩ := hs.hDS
  have hp := parseDebugSupInfo_of_link P.env DS f.le hA hS ds P.names content p hv hs.hk1 hs.hk2 hsl
  cases followLinks <;>
    simp [ownInfo, supplementary_no_loader P again f ds DS p hDS hp, hds, hm, liftR, bind, Except.bind,
          pure, Except.pure, Except.map, DwarfInfo.view] <;>
    exact hv

theorem ownInfo_with_sup_reads {P : Params} {f : ElfFile}
    (hs : SupOk P f) (again : Option Loader → Bytes → Bool → Bool → V DwarfInfo) (ld : Loader)
    (secs : List Sec) (relocate : Bool) (content : Content) (m : Val)
    (hm : f.header.getField "e_machine" = .ok m)
    (hh : Reads P f secs relocate content) (path supData : Bytes) (hsl : SupLink f.le content (some path))
    (hld : ld path = some supData) (sv : View)
    (hsv : (again none supData true true).map DwarfInfo.view = .ok sv) :
    (ownInfo P again (some ld) f secs relocate true).map DwarfInfo.view
      = .ok (.mk f.le (f.cls / 8) (P.machineArchOf m) (contentView P.names content) (some sv)) := by
  obtain ⟨ds, hds, hv⟩ := readAll_reads P f secs relocate content P.names hh
  obtain ⟨DS, hDS, hA, hS⟩ := hs.hDS
  have hp := parseDebugSupInfo_of_link P.env DS f.le hA hS ds P.names content (some path) hv hs.hk1 hs.hk2 hsl
  have hsupp := supplementary_followed P again ld f ds DS path supData hDS hp hld
  cases ha : again none supData true true with
  | error e => simp [ha, Except.map] at hsv
  | ok si =>
    simp only [ha, Except.map, Except.ok.injEq] at hsv hsupp
    subst hsv
    simp [ownInfo, hsupp, hds, hm, liftR, bind, Except.bind, pure, Except.pure, Except.map, DwarfInfo.view]
    exact hv

theorem core_with_sup_reads {P : Params} {f fs : ElfFile} (hs : SupOk P f) (hss : SupOk P fs)
    (fuel : Nat) (ld : Loader) (secs secsS : List Sec) (relocate : Bool) (content contentS : Content) (m mS : Val)
    (hm : f.header.getField "e_machine" = .ok m) (hmS : fs.header.getField "e_machine" = .ok mS)
    (hh : Reads P f secs relocate content)
    (hlink : linkTarget secs (some ld) true = none)
    (path supData : Bytes) (hsl : SupLink f.le content (some path)) (hld : ld path = some supData)
    (hloadS : load P supData = .ok (fs, secsS))
    (hhS : Reads P fs secsS true contentS)
    (pS : Option Bytes) (hslS : SupLink fs.le contentS pS) :
    (getDwarfInfoCore P (getDwarfInfo P (fuel + 1)) (some ld) f secs relocate true).map DwarfInfo.view
      = .ok (.mk f.le (f.cls / 8) (P.machineArchOf m) (contentView P.names content)
          (some (.mk fs.le (fs.cls / 8) (P.machineArchOf mS) (contentView P.names contentS) none))) := by
  rw [core_unlinked P _ (some ld) f secs relocate true hlink]
  refine ownInfo_with_sup_reads hs _ ld secs relocate content m hm hh path supData hsl hld _ ?_
  have := dwarfView_loaded P fuel none supData true true fs secsS hloadS
  unfold dwarfView at this
  rw [this, core_unlinked P _ none fs secsS true true (linkTarget_none_of secsS none true (Or.inr (Or.inl rfl)))]
  exact ownInfo_no_loader_reads hss _ secsS true true contentS mS hmS hhS pS hslS

end PyElf.Proofs.C11
