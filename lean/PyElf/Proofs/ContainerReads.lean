/-
  C11, a file that stores a content, and the layer the view theorems rest on.  `Holds` says the file stores a
  `Content` keyword by keyword (`HoldsEnc`: with the encodings drawn from a set).  Everything `get_dwarf_info` does
  after the per-section loop depends on the loop only through WHAT IT DELIVERED: `Reads P f secs relocate content`
  says the loop delivers `content` (per keyword: bytes, length, address).  A file that stores a content delivers it:
  `Holds.reads` (no relocation applies) and `HoldsR.reads` (Proofs/ContainerReloc.lean; relocations applied).
  With the debug-link gate closed the view is the content (`ownInfo_reads`, `core_reads`); what hangs on links is in
  Proofs/ContainerLinks.lean.
-/
import PyElf.Proofs.Container
namespace PyElf.Proofs.C11
open PyElf PyElf.Spec PyElf.Model PyElf.Model.C11 PyElf.Spec.C11 PyElf.Proofs

/-- the logical debug content of a file: per DWARFInfo keyword, the bytes and the load address -/
abbrev Content := String → Option (Bytes × Nat)

/-- every entry of the reader's table is absent where the content has nothing, and otherwise found (by
    `get_section_by_name`) in a section storing that content — in the legacy format precisely where the reader expects it -/
def Holds (P : Params) (deflate : Nat → Bytes → Bytes) (f : ElfFile) (secs : List Sec) (relocate : Bool)
    (content : Content) : Prop :=
  ∀ kn ∈ P.names,
    match content kn.1 with
    | none => getSectionByName secs (secNameOf (hasSection secs nZdebugInfo) kn) = none
    | some (payload, addr) =>
      ∃ sec e off, getSectionByName secs (secNameOf (hasSection secs nZdebugInfo) kn) = some sec ∧
        NoReloc secs relocate sec.name ∧
        Stores deflate f.data f.cls f.le sec e payload addr off ∧
        e.legacy = legacyOf (hasSection secs nZdebugInfo) kn

def contentView (names : List (String × Bytes × Bool)) (content : Content) : List (String × Option SecView) :=
  names.map fun kn => (kn.1, (content kn.1).map fun pa => ⟨pa.1, pa.1.length, pa.2⟩)

def secViews (ds : List (String × Option Descr)) : List (String × Option SecView) :=
  ds.map fun p => (p.1, p.2.map Descr.view)

def HoldsEnc (P : Params) (deflate : Nat → Bytes → Bytes) (f : ElfFile) (secs : List Sec) (relocate : Bool)
    (content : Content) (allowed : Enc → Prop) : Prop :=
  ∀ kn ∈ P.names,
    match content kn.1 with
    | none => getSectionByName secs (secNameOf (hasSection secs nZdebugInfo) kn) = none
    | some (payload, addr) =>
      ∃ sec e off, getSectionByName secs (secNameOf (hasSection secs nZdebugInfo) kn) = some sec ∧
        NoReloc secs relocate sec.name ∧
        Stores deflate f.data f.cls f.le sec e payload addr off ∧
        e.legacy = legacyOf (hasSection secs nZdebugInfo) kn ∧ allowed e

theorem HoldsEnc.holds {P : Params} {deflate : Nat → Bytes → Bytes} {f : ElfFile} {secs : List Sec} {relocate : Bool}
    {content : Content} {allowed : Enc → Prop} (h : HoldsEnc P deflate f secs relocate content allowed) :
    Holds P deflate f secs relocate content := by
  intro kn hk
  have := h kn hk
  cases hc : content kn.1 with
  | none => simpa [hc] using this
  | some pa =>
    obtain ⟨payload, addr⟩ := pa
    simp only [hc] at this ⊢
    obtain ⟨sec, e, off, h1, h2, h3, h4, _⟩ := this
    exact ⟨sec, e, off, h1, h2, h3, h4⟩

def viewOf (vs : List (String × Option SecView)) (kw : String) : Option SecView :=
  match vs.find? (·.1 == kw) with
  | some (_, d) => d
  | none => none

theorem descrOf_view (ds : List (String × Option Descr)) (kw : String) :
    (descrOf ds kw).map Descr.view = viewOf (secViews ds) kw := by
  induction ds with
  | nil => rfl
  | cons d ds ih =>
    simp only [descrOf, viewOf, secViews, List.map_cons, List.find?_cons] at ih ⊢
    by_cases h : (d.1 == kw) = true
    · simp [h]
    · simp only [h]
      exact ih

theorem viewOf_contentView_none (names : List (String × Bytes × Bool)) (content : Content) (kw : String)
    (h : content kw = none) : viewOf (contentView names content) kw = none := by
  induction names with
  | nil => rfl
  | cons kn rest ih =>
    simp only [viewOf, contentView, List.map_cons, List.find?_cons] at ih ⊢
    by_cases hk : (kn.1 == kw) = true
    · have : kn.1 = kw := by simpa using hk
      simp [hk, this, h]
    · simp only [hk]
      exact ih

theorem descrOf_none_of_content (ds : List (String × Option Descr)) (names : List (String × Bytes × Bool))
    (content : Content) (kw : String) (hv : secViews ds = contentView names content) (h : content kw = none) :
    descrOf ds kw = none := by
  have := descrOf_view ds kw
  rw [hv, viewOf_contentView_none names content kw h] at this
  cases hd : descrOf ds kw with
  | none => rfl
  | some d => simp [hd] at this

theorem viewOf_contentView_some (names : List (String × Bytes × Bool)) (content : Content) (kw : String)
    (hk : kw ∈ names.map (·.1)) :
    viewOf (contentView names content) kw = (content kw).map fun pa => ⟨pa.1, pa.1.length, pa.2⟩ := by
  induction names with
  | nil => simp at hk
  | cons kn rest ih =>
    simp only [viewOf, contentView, List.map_cons, List.find?_cons] at ih ⊢
    by_cases hkn : (kn.1 == kw) = true
    · have : kn.1 = kw := by simpa using hkn
      simp [hkn, this]
    · simp only [hkn]
      have : kn.1 ≠ kw := by simpa using hkn
      have hk' : kw ∈ rest.map (·.1) := by
        simp only [List.map_cons, List.mem_cons] at hk
        rcases hk with h | h
        · exact absurd h.symm this
        · exact h
      exact ih hk'

theorem descrOf_of_content (ds : List (String × Option Descr)) (names : List (String × Bytes × Bool))
    (content : Content) (kw : String) (payload : Bytes) (addr : Nat)
    (hv : secViews ds = contentView names content) (hk : kw ∈ names.map (·.1))
    (h : content kw = some (payload, addr)) : ∃ d, descrOf ds kw = some d ∧ d.stream = payload := by
  have := descrOf_view ds kw
  rw [hv, viewOf_contentView_some names content kw hk, h] at this
  cases hd : descrOf ds kw with
  | none => simp [hd] at this
  | some d =>
    refine ⟨d, rfl, ?_⟩
    simp only [hd, Option.map_some, Option.some.injEq] at this
    have := congrArg SecView.stream this
    simpa [Descr.view] using this

theorem parseDebugSupInfo_none (env : Env) (DS : DwarfStructs) (ds : List (String × Option Descr))
    (h1 : descrOf ds "debug_sup_sec" = none) (h2 : descrOf ds "gnu_debugaltlink_sec" = none) :
    parseDebugSupInfo env DS ds = .ok none := by
  simp [parseDebugSupInfo, h1, h2, pure, Except.pure]

theorem readAll_error (P : Params) (f : ElfFile) (secs : List Sec) (relocate zfile : Bool) :
    ∀ (names : List (String × Bytes × Bool)) (kn : String × Bytes × Bool), kn ∈ names →
      (∃ e, readOne P f secs relocate zfile kn = .error e) →
      ∃ e, readAll P f secs relocate zfile names = .error e := by
  intro names
  induction names with
  | nil => intro kn h; cases h
  | cons k rest ih =>
    intro kn hmem ⟨e, he⟩
    cases hk : readOne P f secs relocate zfile k with
    | error e' => exact ⟨e', by simp [readAll, hk, bind, Except.bind]⟩
    | ok d =>
      rcases List.mem_cons.mp hmem with rfl | hmem
      · rw [he] at hk; cases hk
      · obtain ⟨e', he'⟩ := ih kn hmem ⟨e, he⟩
        exact ⟨e', by simp [readAll, hk, he', bind, Except.bind]⟩

def kwView (content : Content) (kw : String) : Option SecView :=
  (content kw).map fun pa => ⟨pa.1, pa.1.length, pa.2⟩

def Reads (P : Params) (f : ElfFile) (secs : List Sec) (relocate : Bool) (content : Content) : Prop :=
  ∀ kn ∈ P.names, ∃ od, readOne P f secs relocate (hasSection secs nZdebugInfo) kn = .ok (kn.1, od) ∧
    od.map Descr.view = kwView content kn.1

theorem readAll_reads (P : Params) (f : ElfFile) (secs : List Sec) (relocate : Bool) (content : Content) :
    ∀ (names : List (String × Bytes × Bool)),
      (∀ kn ∈ names, ∃ od, readOne P f secs relocate (hasSection secs nZdebugInfo) kn = .ok (kn.1, od) ∧
        od.map Descr.view = kwView content kn.1) →
      ∃ ds, readAll P f secs relocate (hasSection secs nZdebugInfo) names = .ok ds ∧
        secViews ds = contentView names content := by
  intro names
  induction names with
  | nil => intro _; exact ⟨[], rfl, rfl⟩
  | cons kn rest ih =>
    intro h
    obtain ⟨ds, hds, hv⟩ := ih (fun k hk => h k (List.mem_cons_of_mem _ hk))
    obtain ⟨od, hod, hview⟩ := h kn List.mem_cons_self
    refine ⟨(kn.1, od) :: ds, ?_, ?_⟩
    · simp [readAll, hod, hds, bind, Except.bind, pure, Except.pure]
    · simp only [secViews, contentView, List.map_cons] at hv ⊢
      rw [hv, hview]
      rfl

theorem Holds.reads {P : Params} {deflate : Nat → Bytes → Bytes} {f : ElfFile} (hf : FileOk P deflate f)
    {secs : List Sec} {relocate : Bool} {content : Content} (hh : Holds P deflate f secs relocate content) :
    Reads P f secs relocate content := by
  intro kn hk
  have := hh kn hk
  cases hc : content kn.1 with
  | none =>
    simp only [hc] at this
    exact ⟨none, readOne_absent P f secs relocate _ kn this, by simp [kwView, hc]⟩
  | some pa =>
    obtain ⟨payload, addr⟩ := pa
    simp only [hc] at this
    obtain ⟨sec, e, off, hget, hnr, hst, hleg⟩ := this
    refine ⟨some (goodDescr sec payload addr off), ?_, by simp [kwView, hc, goodDescr, Descr.view]⟩
    rw [readOne_stores hf secs relocate _ kn hget hst hleg, relocStep_noReloc P f secs sec relocate _ hnr]
    rfl

theorem linkTarget_none_of (secs : List Sec) (loader : Option Loader) (followLinks : Bool)
    (h : getSectionByName secs nGnuDebuglink = none ∨ loader = none ∨ hasDwarfInfo secs true = true ∨ followLinks = false) :
    linkTarget secs loader followLinks = none := by
  unfold linkTarget
  rcases h with h | h | h | h
  · rw [h]
  · rw [h]; cases getSectionByName secs nGnuDebuglink <;> rfl
  · cases getSectionByName secs nGnuDebuglink <;> cases loader <;> simp [h]
  · cases getSectionByName secs nGnuDebuglink <;> cases loader <;> simp [h]

theorem core_unlinked (P : Params) (again : Option Loader → Bytes → Bool → Bool → V DwarfInfo)
    (loader : Option Loader) (f : ElfFile) (secs : List Sec) (relocate followLinks : Bool)
    (h : linkTarget secs loader followLinks = none) :
    getDwarfInfoCore P again loader f secs relocate followLinks = ownInfo P again loader f secs relocate followLinks := by
  simp [getDwarfInfoCore, h]

/-- `hsup`: `follow_links=False`, or nothing names a supplementary file -/
theorem ownInfo_reads {P : Params} {f : ElfFile}
    (again : Option Loader → Bytes → Bool → Bool → V DwarfInfo) (loader : Option Loader)
    (secs : List Sec) (relocate followLinks : Bool) (content : Content) (m : Val)
    (hm : f.header.getField "e_machine" = .ok m)
    (hh : Reads P f secs relocate content)
    (hsup : followLinks = false ∨
      ((∃ DS, P.dwarfStructsFor ⟨f.le, 32, f.cls / 8, 2⟩ = some DS) ∧
        content "debug_sup_sec" = none ∧ content "gnu_debugaltlink_sec" = none)) :
    (ownInfo P again loader f secs relocate followLinks).map DwarfInfo.view
      = .ok (.mk f.le (f.cls / 8) (P.machineArchOf m) (contentView P.names content) none) := by
  obtain ⟨ds, hds, hv⟩ := readAll_reads P f secs relocate content P.names hh
  rcases hsup with h | ⟨⟨DS, hDS⟩, h1, h2⟩
  · subst h
    simp [ownInfo, hds, hm, liftR, bind, Except.bind, pure, Except.pure, Except.map, DwarfInfo.view]
    exact hv
  · have e1 := descrOf_none_of_content ds P.names content _ hv h1
    have e2 := descrOf_none_of_content ds P.names content _ hv h2
    cases followLinks <;>
      simp [ownInfo, supplementary, hds, hm, hDS, parseDebugSupInfo_none P.env DS ds e1 e2, liftR, bind, Except.bind,
            pure, Except.pure, Except.map, DwarfInfo.view] <;>
      exact hv

theorem core_reads {P : Params} {f : ElfFile}
    (again : Option Loader → Bytes → Bool → Bool → V DwarfInfo) (loader : Option Loader)
    (secs : List Sec) (relocate followLinks : Bool) (content : Content) (m : Val)
    (hm : f.header.getField "e_machine" = .ok m)
    (hh : Reads P f secs relocate content)
    (hlink : linkTarget secs loader followLinks = none)
    (hsup : followLinks = false ∨
      ((∃ DS, P.dwarfStructsFor ⟨f.le, 32, f.cls / 8, 2⟩ = some DS) ∧
        content "debug_sup_sec" = none ∧ content "gnu_debugaltlink_sec" = none)) :
    (getDwarfInfoCore P again loader f secs relocate followLinks).map DwarfInfo.view
      = .ok (.mk f.le (f.cls / 8) (P.machineArchOf m) (contentView P.names content) none) := by
  rw [core_unlinked P again loader f secs relocate followLinks hlink]
  exact ownInfo_reads again loader secs relocate followLinks content m hm hh hsup

theorem dwarfView_loaded (P : Params) (fuel : Nat) (loader : Option Loader) (data : Bytes) (relocate followLinks : Bool)
    (f : ElfFile) (secs : List Sec) (hload : load P data = .ok (f, secs)) :
    dwarfView P (fuel + 1) loader data relocate followLinks
      = (getDwarfInfoCore P (getDwarfInfo P fuel) loader f secs relocate followLinks).map DwarfInfo.view := by
  simp only [dwarfView, getDwarfInfo, hload, liftR, bind, Except.bind]

end PyElf.Proofs.C11
