/-
  The two layouts of a `DynDesc` as C01 images.  The container of each layout is an `ElfDesc`; what C01 knows of the
  opened file (`Setup`: Proofs/ElfSections.lean, `SecAt`: Proofs/ElfFile.lean, `SegAt`: Proofs/ElfView.lean) is what
  `ELFFile` hands to dynamic.py, and the dynamic tables sit where the description puts them.  From that: the `Dyn`
  objects the two constructors build, `TableView`, `SegsView`, the string-table placement, and the `DynamicSection` of
  the full layout (`secSide_base`).  `DynDesc.wf` taken apart (`wf_unpack`) and in the parts the theorems ask for.
-/
import PyElf.Proofs.Dynamic
import PyElf.Proofs.ElfView
import PyElf.Spec.DynamicExt
namespace PyElf.Proofs.Dynamic
open PyElf PyElf.Spec PyElf.Spec.Dynamic PyElf.Model PyElf.Model.Dynamic PyElf.Proofs
open PyElf.Proofs.C15 (fileOf)

theorem regions_inv {d : DynDesc} {full : Bool} {rs : List (Nat × Bytes)} (h : d.regions full = some rs) :
    ∃ c b, (d.container full).regions = some c ∧ d.blobs full = some b ∧
      rs = c ++ b.filter (fun r => !r.2.isEmpty) := by
  unfold DynDesc.regions at h
  cases hc : (d.container full).regions with
  | none => simp [hc] at h
  | some c =>
    cases hb : d.blobs full with
    | none => simp [hc, hb] at h
    | some b =>
      simp only [hc, hb, Option.bind_eq_bind, Option.bind_some, Option.pure_def, Option.some.injEq] at h
      exact ⟨c, b, rfl, rfl, h.symm⟩

theorem layout_container {d : DynDesc} {full : Bool} {bytes : Bytes} (hl : DynLayout d full bytes) :
    Layout (d.container full) bytes := by
  obtain ⟨rs, hrs, hall⟩ := hl
  obtain ⟨c, b, hc, -, rfl⟩ := regions_inv hrs
  exact ⟨c, hc, fun r hr => hall r (List.mem_append_left _ hr)⟩

theorem layout_blobs {d : DynDesc} {full : Bool} {bytes : Bytes} (hl : DynLayout d full bytes) :
    ∃ b, d.blobs full = some b ∧ ∀ r ∈ b, ∃ rest, bytes.drop r.1 = r.2 ++ rest := by
  obtain ⟨rs, hrs, hall⟩ := hl
  obtain ⟨c, b, -, hb, rfl⟩ := regions_inv hrs
  refine ⟨b, hb, fun r hr => ?_⟩
  by_cases he : r.2 = []
  · exact ⟨bytes.drop r.1, by rw [he]; rfl⟩
  · have : r ∈ c ++ b.filter (fun r => !r.2.isEmpty) := by
      apply List.mem_append_right
      rw [List.mem_filter]
      exact ⟨hr, by simpa using he⟩
    exact ⟨_, drop_of_readN (hall r this)⟩

/-- what the description's tables are, and where -/
structure BlobFacts (d : DynDesc) (full : Bool) (b : List (Nat × Bytes)) : Prop where
  tags : ∃ tb, d.tagBytes = some tb ∧ (d.dynOff, tb) ∈ b ∧
    (full = true → ∀ o, d.secDynOff = some o → (o, tb) ∈ b)
  str : (d.strOff, d.strtab) ∈ b
  syms : ∃ sb, d.symBytes = some sb ∧ (d.symOff, sb) ∈ b
  sysv : ∀ h o, d.sysv = some (h, o) → (o, h.enc d.le) ∈ b
  gnu : ∀ h o, d.gnu = some (h, o) → (o, h.enc d.le d.w) ∈ b

theorem blob_facts {d : DynDesc} {full : Bool} {b : List (Nat × Bytes)} (h : d.blobs full = some b) :
    BlobFacts d full b := by
  unfold DynDesc.blobs at h
  simp only [Option.bind_eq_bind, Option.bind_eq_some_iff, Option.pure_def, Option.some.injEq] at h
  obtain ⟨tb, htb, sb, hsb, rs, -, rfl⟩ := h
  refine ⟨⟨tb, htb, by simp, ?_⟩, by simp, ⟨sb, hsb, by simp⟩, ?_, ?_⟩
  · intro hf o ho
    subst hf
    simp [ho]
  · intro hh o ho
    simp [DynDesc.hashBlobs, ho]
  · intro hh o ho
    simp [DynDesc.hashBlobs, ho]

/-- a section type code as the reader reports it -/
def shTy (env : Env) (m : String) (c : Nat) : Val :=
  match env.enumDecode (shTypeTable m) (c : Int) with
  | some s => .str s
  | none => .int c

def decPhdr (env : Env) (d : DynDesc) (p : Fields) : Option Val :=
  match d.S.Elf_Phdr.decodeRaw env [] (.record p) with
  | .ok h => some h
  | .error _ => none

theorem phdrs_eq (env : Env) (d : DynDesc) : d.phdrs env = d.segments.filterMap (decPhdr env d) := rfl

theorem phdrs_get {env : Env} {d : DynDesc} (hlen : (d.phdrs env).length = d.segments.length)
    (i : Nat) (h1 : i < d.segments.length) (h2 : i < (d.phdrs env).length) :
    d.S.Elf_Phdr.decodeRaw env [] (.record d.segments[i]) = .ok (d.phdrs env)[i] := by
  have := filterMap_full (decPhdr env d) d.segments hlen i h1 h2
  unfold decPhdr at this
  cases hd : d.S.Elf_Phdr.decodeRaw env [] (.record d.segments[i]) with
  | error e => simp [hd] at this
  | ok h =>
    simp only [hd, Option.some.injEq] at this
    rw [this]; rfl

theorem container_segments (d : DynDesc) (full : Bool) : (d.container full).segments = d.segments := rfl

theorem segs_decode {env : Env} {d : DynDesc} {full : Bool} (hlen : (d.phdrs env).length = d.segments.length) :
    ∀ p ∈ (d.container full).segments, ∃ h, (d.container full).S.Elf_Phdr.decodeRaw env [] (.record p) = .ok h := by
  intro p hp
  rw [container_segments] at hp
  obtain ⟨i, hi, rfl⟩ := List.getElem_of_mem hp
  exact ⟨_, phdrs_get hlen i hi (by omega)⟩

theorem segAt_phdrs {env : Env} {d : DynDesc} {full : Bool} {bytes : Bytes} {hdr : Val} {st : Option Val}
    (X : Setup env (d.container full) bytes hdr st) (hlen : (d.phdrs env).length = d.segments.length)
    (i : Nat) (hi : i < (d.phdrs env).length) :
    SegAt env (d.container full) bytes hdr st i (d.segments[i]'(by omega)) (d.phdrs env)[i] :=
  have hi' : i < d.segments.length := by omega
  X.segAt (j := i) (List.getElem?_eq_getElem hi') (phdrs_get hlen i hi' hi)

theorem segsView_of {env : Env} {d : DynDesc} {full : Bool} {bytes : Bytes} {hdr : Val} {st : Option Val}
    (X : Setup env (d.container full) bytes hdr st) (hlen : (d.phdrs env).length = d.segments.length) :
    SegsView (realIfc env (fileOf (d.container full) bytes hdr st)) (d.phdrs env) where
  num := (X.numSegments).trans (by rw [container_segments, hlen])
  get := fun i hi => ⟨_, (segAt_phdrs X hlen i hi).get⟩
  ok := fun h hh => by
    obtain ⟨i, hi, rfl⟩ := List.getElem_of_mem hh
    have V := segAt_phdrs X hlen i hi
    exact ⟨_, _, _, _, V.ty, V.vaddr, V.filesz, V.offset⟩

/-- the gABI names of the section types the full layout uses, in every machine's table -/
structure ShTypes (env : Env) : Prop where
  null : ∀ m, shTy env m 0 = .str "SHT_NULL"
  progbits : ∀ m, shTy env m 1 = .str "SHT_PROGBITS"
  strtab : ∀ m, shTy env m 3 = .str "SHT_STRTAB"
  dynamic : ∀ m, shTy env m 6 = .str "SHT_DYNAMIC"
  dynsym : ∀ m, shTy env m 11 = .str "SHT_DYNSYM"

theorem sections_length (d : DynDesc) : d.sections.length = d.decoys + 5 := by
  simp [DynDesc.sections]

theorem sections_at_dynstr (d : DynDesc) (h : d.decoys + 1 < d.sections.length) :
    d.sections[d.decoys + 1] = d.secDynstr := by
  simp [DynDesc.sections, List.getElem_append_right]

theorem sections_at_dynamic (d : DynDesc) (h : d.decoys + 3 < d.sections.length) :
    d.sections[d.decoys + 3] = d.secDynamic := by
  simp [DynDesc.sections, List.getElem_append_right]

theorem sections_at_shstrtab (d : DynDesc) (h : d.decoys + 4 < d.sections.length) :
    d.sections[d.decoys + 4] = d.secShstrtab := by
  simp [DynDesc.sections, List.getElem_append_right]

theorem sections_other (d : DynDesc) (i : Nat) (hi : i < d.sections.length) (hne : i ≠ d.decoys + 3) :
    ∃ c, Fields.get? (d.sections[i]).hdr "sh_type" = some (.int (c : Nat)) ∧ (c = 0 ∨ c = 1 ∨ c = 3 ∨ c = 11) := by
  have hlen := sections_length d
  have hmem : d.sections[i] ∈ [secNull, secDecoy, d.secDynstr, d.secDynsym, d.secShstrtab] := by
    by_cases h0 : i = 0
    · subst h0; simp [DynDesc.sections]
    · by_cases h1 : i ≤ d.decoys
      · have : d.sections[i] = secDecoy := by
          obtain ⟨j, rfl⟩ : ∃ j, i = j + 1 := ⟨i - 1, by omega⟩
          simp only [DynDesc.sections, List.getElem_cons_succ]
          rw [List.getElem_append_left (by simp; omega)]
          simp
        simp [this]
      · by_cases h2 : i = d.decoys + 1
        · subst h2; simp [sections_at_dynstr]
        · by_cases h3 : i = d.decoys + 2
          · subst h3
            have : d.sections[d.decoys + 2] = d.secDynsym := by
              simp [DynDesc.sections, List.getElem_append_right]
            simp [this]
          · have h4 : i = d.decoys + 4 := by omega
            subst h4; simp [sections_at_shstrtab]
  simp only [List.mem_cons, List.not_mem_nil, or_false] at hmem
  rcases hmem with h | h | h | h | h <;> rw [h]
  · exact ⟨0, by simp [secNull, secHdr, Fields.get?], by simp⟩
  · exact ⟨1, by simp [secDecoy, secHdr, Fields.get?], by simp⟩
  · exact ⟨3, by simp [DynDesc.secDynstr, secHdr, Fields.get?], by simp⟩
  · exact ⟨11, by simp [DynDesc.secDynsym, secHdr, Fields.get?], by simp⟩
  · exact ⟨3, by simp [DynDesc.secShstrtab, secHdr, Fields.get?], by simp⟩

theorem container_sections_full (d : DynDesc) : (d.container true).sections = d.sections := rfl
theorem container_sections_stripped (d : DynDesc) : (d.container false).sections = [] := rfl

/-- what `get_section(i)` of the full layout returns, for the sections dynamic.py looks at -/
structure SecView (env : Env) (d : DynDesc) (f : ElfFile) : Prop where
  /-- every section but `.dynamic` is of another class -/
  other : ∀ i, i < d.decoys + 5 → i ≠ d.decoys + 3 → ∃ kind nm sh o,
    getSection env f.S f.data f.header f.shstr i = .ok (kind, nm, sh) ∧ kind ≠ "DynamicSection" ∧
    sh.getNat "sh_offset" = .ok o
  dynamic : ∃ nm sh, getSection env f.S f.data f.header f.shstr (d.decoys + 3) = .ok ("DynamicSection", nm, sh) ∧
    sh.getNat "sh_offset" = .ok (d.secDynOff.getD d.dynOff) ∧ sh.getNat "sh_link" = .ok (d.decoys + 1) ∧
    sh.getField "sh_type" = .ok (.str "SHT_DYNAMIC")
  dynstr : ∃ nm sh, getSection env f.S f.data f.header f.shstr (d.decoys + 1) = .ok ("StringTableSection", nm, sh) ∧
    sh.getNat "sh_offset" = .ok d.strOff

/-- `shTy` shows a name exactly when the table has it -/
theorem shTy_named {env : Env} {m : String} {c : Nat} {nm : String} (h : shTy env m c = .str nm) :
    env.enumDecode (shTypeTable m) (c : Int) = some nm := by
  unfold shTy at h
  cases hd : env.enumDecode (shTypeTable m) (c : Int) with
  | none => rw [hd] at h; cases h
  | some s => rw [hd] at h; cases h; rfl

theorem secView_of {env : Env} (T : ShTypes env) {d : DynDesc} {bytes : Bytes} {hdr : Val} {st : Option Val}
    (X : Setup env (d.container true) bytes hdr st) : SecView env d (fileOf (d.container true) bytes hdr st) := by
  have hlen := sections_length d
  have at_ : ∀ {i : Nat} {s : SecDesc} (hi : i < d.sections.length), d.sections[i] = s →
      (d.container true).sections[i]? = some s := fun hi hs => hs ▸ List.getElem?_eq_getElem hi
  refine ⟨?_, ?_, ?_⟩
  · intro i hi hne
    obtain ⟨h, V⟩ := X.secAt (at_ (by omega : i < d.sections.length) rfl)
    obtain ⟨c, hc, hcs⟩ := sections_other d i (by omega) hne
    have hty : ∃ t, t ≠ "SHT_DYNAMIC" ∧ h.getField "sh_type" = .ok (.str t) := by
      rcases hcs with rfl | rfl | rfl | rfl
      · exact ⟨_, by decide, V.type_named hc (shTy_named (T.null _))⟩
      · exact ⟨_, by decide, V.type_named hc (shTy_named (T.progbits _))⟩
      · exact ⟨_, by decide, V.type_named hc (shTy_named (T.strtab _))⟩
      · exact ⟨_, by decide, V.type_named hc (shTy_named (T.dynsym _))⟩
    obtain ⟨t, hne', hty⟩ := hty
    exact ⟨_, _, h, _, V.get_of_type hty, fun hk => hne' (Val.str.inj (kindOf_dynamic hk)), V.offset⟩
  · obtain ⟨h, V⟩ := X.secAt (at_ (by omega) (sections_at_dynamic d (by omega)))
    have hty := V.type_named (v := 6) (by simp [DynDesc.secDynamic, secHdr, Fields.get?]) (shTy_named (T.dynamic _))
    refine ⟨_, h, V.get_of_type hty, ?_, ?_, hty⟩
    · rw [V.offset]
      simp [DynDesc.secDynamic, secHdr, getNatD, Fields.get?]
    · rw [V.link]
      simp [DynDesc.secDynamic, secHdr, getNatD, Fields.get?]
  · obtain ⟨h, V⟩ := X.secAt (at_ (by omega) (sections_at_dynstr d (by omega)))
    have hty := V.type_named (v := 3) (by simp [DynDesc.secDynstr, secHdr, Fields.get?]) (shTy_named (T.strtab _))
    refine ⟨_, h, V.get_of_type hty, ?_⟩
    rw [V.offset]
    simp [DynDesc.secDynstr, secHdr, getNatD, Fields.get?]

theorem findFirst_none {α : Type} (get : Nat → R α) (p : α → Bool) : ∀ (k i : Nat),
    (∀ j, i ≤ j → j < i + k → ∃ y, get j = .ok y ∧ p y = false) → findFirst get p k i = .ok none := by
  intro k
  induction k with
  | zero => intro i _; rfl
  | succ k ih =>
    intro i h
    obtain ⟨y, hy, hp⟩ := h i (Nat.le_refl _) (by omega)
    rw [findFirst]
    simp only [hy, hp, bind, Except.bind, Bool.false_eq_true, if_false]
    exact ih (i + 1) (fun j h1 h2 => h j (by omega) (by omega))

theorem findFirst_at {α : Type} (get : Nat → R α) (p : α → Bool) (x : α) (j : Nat) (hx : get j = .ok x)
    (hp : p x = true) : ∀ (k i : Nat), i ≤ j → j < i + k →
    (∀ l, i ≤ l → l < j → ∃ y, get l = .ok y ∧ p y = false) → findFirst get p k i = .ok (some x) := by
  intro k
  induction k with
  | zero => intro i h1 h2; omega
  | succ k ih =>
    intro i h1 h2 hb
    rw [findFirst]
    by_cases hij : i = j
    · subst hij
      simp [hx, hp, bind, Except.bind, pure, Except.pure]
    · obtain ⟨y, hy, hpy⟩ := hb i (Nat.le_refl _) (by omega)
      simp only [hy, hpy, bind, Except.bind, Bool.false_eq_true, if_false]
      exact ih (i + 1) (by omega) (by omega) (fun l h3 h4 => hb l (by omega) h4)

section search
variable {env : Env} {f : ElfFile} {poff : Nat}

theorem segFind_none : ∀ l : List Nat,
    (∀ i ∈ l, ∃ kind nm sh o, getSection env f.S f.data f.header f.shstr i = .ok (kind, nm, sh) ∧
      sh.getNat "sh_offset" = .ok o ∧ (kind ≠ "DynamicSection" ∨ o ≠ poff)) →
    dynOfSegment.find env f poff l = .ok none := by
  intro l
  induction l with
  | nil => intro _; rfl
  | cons i rest ih =>
    intro h
    obtain ⟨kind, nm, sh, o, hget, ho, hne⟩ := h i (by simp)
    rw [dynOfSegment.find]
    have hc : (kind == "DynamicSection" && o == poff) = false := by
      rcases hne with h1 | h1
      · simp [h1]
      · simp [h1]
    simp only [hget, ho, bind, Except.bind, hc, Bool.false_eq_true, if_false]
    exact ih (fun j hj => h j (by simp [hj]))

theorem segFind_some (l₁ l₂ : List Nat) (j lk : Nat) (nm nm' : Bytes) (sh h : Val) (k : String)
    (hb : ∀ i ∈ l₁, ∃ kind nm sh o, getSection env f.S f.data f.header f.shstr i = .ok (kind, nm, sh) ∧
      sh.getNat "sh_offset" = .ok o ∧ (kind ≠ "DynamicSection" ∨ o ≠ poff))
    (hj : getSection env f.S f.data f.header f.shstr j = .ok ("DynamicSection", nm, sh))
    (ho : sh.getNat "sh_offset" = .ok poff) (hl : sh.getNat "sh_link" = .ok lk)
    (hk : getSection env f.S f.data f.header f.shstr lk = .ok (k, nm', h)) :
    dynOfSegment.find env f poff (l₁ ++ j :: l₂) = .ok (some (.section k h)) := by
  induction l₁ with
  | nil =>
    rw [List.nil_append, dynOfSegment.find]
    simp [hj, ho, hl, hk, bind, Except.bind, pure, Except.pure]
  | cons i rest ih =>
    obtain ⟨kind, nm0, sh0, o, hget, ho0, hne⟩ := hb i (by simp)
    rw [List.cons_append, dynOfSegment.find]
    have hc : (kind == "DynamicSection" && o == poff) = false := by
      rcases hne with h1 | h1
      · simp [h1]
      · simp [h1]
    simp only [hget, ho0, bind, Except.bind, hc, Bool.false_eq_true, if_false]
    exact ih (fun j hj => hb j (by simp [hj]))

end search

theorem segKind_dyn (ty : Val) : (segKindOf ty == "DynamicSegment") = isName ty "PT_DYNAMIC" := by
  cases ty <;> simp [isName, segKindOf]
  rename_i t
  by_cases h1 : t = "PT_INTERP"
  · subst h1; simp
  · by_cases h2 : t = "PT_DYNAMIC"
    · subst h2; simp
    · by_cases h3 : t = "PT_NOTE"
      · subst h3; simp
      · simp [h1, h2, h3]

/-- is this decoded program header a PT_DYNAMIC one? (the predicate of `dynSegOk`) -/
def isDynPh (h : Val) : Bool :=
  match h.getField "p_type" with
  | .ok ty => isName ty "PT_DYNAMIC"
  | _ => false

theorem dynSeg_inv {env : Env} {d : DynDesc} (h : dynSegOk env d = true) :
    ∃ j, ∃ hj : j < (d.phdrs env).length,
      (∀ i (hi : i < j), isDynPh ((d.phdrs env)[i]'(by omega)) = false) ∧ isDynPh (d.phdrs env)[j] = true ∧
      (d.phdrs env)[j].getNat "p_offset" = .ok d.dynOff ∧
      ∃ fsz, (d.phdrs env)[j].getNat "p_filesz" = .ok fsz ∧ fsz ≠ 0 := by
  unfold dynSegOk at h
  change (match (d.phdrs env).filter isDynPh with
    | h :: _ => (match h.getNat "p_offset", h.getNat "p_filesz" with
                 | .ok o, .ok fsz => o == d.dynOff && fsz != 0
                 | _, _ => false)
    | [] => false) = true at h
  cases hf : (d.phdrs env).filter isDynPh with
  | nil => simp [hf] at h
  | cons a as =>
    simp only [hf] at h
    obtain ⟨l₁, l₂, hl, hb, ha, -⟩ := List.filter_eq_cons_iff.1 hf
    have hj : l₁.length < (d.phdrs env).length := by rw [hl]; simp
    have hget : (d.phdrs env)[l₁.length] = a := by simp [hl]
    refine ⟨l₁.length, hj, ?_, by rw [hget]; exact ha, ?_⟩
    · intro i hi
      have : (d.phdrs env)[i]'(by omega) = l₁[i] := by simp [hl, List.getElem_append_left hi]
      rw [this]
      simpa using hb _ (List.getElem_mem hi)
    · rw [hget]
      cases h1 : a.getNat "p_offset" with
      | error e => simp [h1] at h
      | ok o =>
        cases h2 : a.getNat "p_filesz" with
        | error e => simp [h1, h2] at h
        | ok fsz =>
          simp only [h1, h2, Bool.and_eq_true, beq_iff_eq, bne_iff_ne, ne_eq] at h
          exact ⟨by rw [h.1], fsz, rfl, h.2⟩

theorem sizeof_dyn (d : DynDesc) : sizeofR d.S.Elf_Dyn = .ok (2 * d.w) := by
  have : d.S.Elf_Dyn = dynCon d.le d.w (dTagTable d.mclass d.solaris) := spec_dyn d.cfg
  unfold sizeofR
  rw [this, dyn_sizeof]

theorem dynamicSegment_of {env : Env} {d : DynDesc} {full : Bool} {bytes : Bytes} {hdr : Val} {sh : Option Val}
    (X : Setup env (d.container full) bytes hdr sh) (hlen : (d.phdrs env).length = d.segments.length)
    (hdyn : dynSegOk env d = true) (st : Option StrTab)
    (hfind : dynOfSegment.find env (fileOf (d.container full) bytes hdr sh) d.dynOff
      (List.range (d.container full).sections.length) = .ok st) :
    dynamicSegment env (fileOf (d.container full) bytes hdr sh) = .ok (some ⟨st, d.dynOff, false, 2 * d.w⟩) := by
  obtain ⟨j, hj, hbefore, hat, hoff, fsz, hfsz, hne⟩ := dynSeg_inv hdyn
  have key : ∀ i (hi : i < (d.phdrs env).length), ∃ ty,
      getSegment env (d.container full).S bytes hdr sh i = .ok (segKindOf ty, (d.phdrs env)[i]) ∧
      (segKindOf ty == "DynamicSegment") = isDynPh (d.phdrs env)[i] := by
    intro i hi
    have V := segAt_phdrs X hlen i hi
    exact ⟨_, V.get, by rw [segKind_dyn]; simp [isDynPh, V.ty]⟩
  obtain ⟨ty, hget, hk⟩ := key j hj
  unfold dynamicSegment
  simp only [fileOf] at hfind ⊢
  rw [show numSegments env _ bytes hdr sh = .ok d.segments.length from X.numSegments]
  simp only [bind, Except.bind]
  rw [findFirst_at _ _ _ j hget (by simpa [hat] using hk) _ 0 (Nat.zero_le _) (by omega)
    (fun l _ hl => by
      obtain ⟨ty', hget', hk'⟩ := key l (by omega)
      exact ⟨_, hget', by simpa [hbefore l hl] using hk'⟩)]
  simp only
  unfold dynOfSegment
  rw [show numSections env _ bytes hdr = .ok (d.container full).sections.length from X.numSections,
    show sizeofR (d.container full).S.Elf_Dyn = .ok (2 * d.w) from sizeof_dyn d]
  simp only [bind, Except.bind, hoff, hfind, hfsz, pure, Except.pure]
  simp [hne]

theorem range_split (k : Nat) : List.range (k + 5) = List.range (k + 3) ++ (k + 3) :: [k + 4] := by
  rw [show k + 5 = (k + 4).succ from rfl, List.range_succ, show k + 4 = (k + 3).succ from rfl, List.range_succ]
  simp

theorem segFind_full_match {env : Env} {d : DynDesc} {f : ElfFile} (SV : SecView env d f)
    (h : d.secDynOff = none) :
    ∃ hstr, hstr.getNat "sh_offset" = .ok d.strOff ∧
      dynOfSegment.find env f d.dynOff (List.range (d.container true).sections.length)
        = .ok (some (.section "StringTableSection" hstr)) := by
  obtain ⟨nm, sh, hget, hoff, hlink, -⟩ := SV.dynamic
  obtain ⟨nm', hstr, hget', hoff'⟩ := SV.dynstr
  refine ⟨hstr, hoff', ?_⟩
  rw [container_sections_full, sections_length, range_split]
  rw [h] at hoff
  apply segFind_some _ _ _ _ _ _ _ _ _ _ hget hoff hlink hget'
  intro i hi
  have hi' : i < d.decoys + 3 := by simpa using hi
  obtain ⟨kind, nm0, sh0, o, hg, hk, ho⟩ := SV.other i (by omega) (by omega)
  exact ⟨kind, nm0, sh0, o, hg, ho, Or.inl hk⟩

theorem segFind_full_nomatch {env : Env} {d : DynDesc} {f : ElfFile} (SV : SecView env d f)
    (o : Nat) (h : d.secDynOff = some o) (hne : o ≠ d.dynOff) :
    dynOfSegment.find env f d.dynOff (List.range (d.container true).sections.length) = .ok none := by
  rw [container_sections_full, sections_length]
  apply segFind_none
  intro i hi
  have hi' : i < d.decoys + 5 := by simpa using hi
  by_cases h3 : i = d.decoys + 3
  · subst h3
    obtain ⟨nm, sh, hget, hoff, -, -⟩ := SV.dynamic
    rw [h] at hoff
    exact ⟨_, nm, sh, o, hget, hoff, Or.inr hne⟩
  · obtain ⟨kind, nm0, sh0, o0, hg, hk, ho⟩ := SV.other i hi' h3
    exact ⟨kind, nm0, sh0, o0, hg, ho, Or.inl hk⟩

theorem dynamicSection_full {env : Env} {d : DynDesc} {bytes : Bytes} {hdr : Val} {st : Option Val}
    (X : Setup env (d.container true) bytes hdr st) (SV : SecView env d (fileOf (d.container true) bytes hdr st)) :
    ∃ hstr, hstr.getNat "sh_offset" = .ok d.strOff ∧
      dynamicSection env (fileOf (d.container true) bytes hdr st)
        = .ok (some ⟨some (.section "StringTableSection" hstr), d.secDynOff.getD d.dynOff, false, 2 * d.w⟩) := by
  obtain ⟨nm, sh, hget, hoff, hlink, hty⟩ := SV.dynamic
  obtain ⟨nm', hstr, hget', hoff'⟩ := SV.dynstr
  refine ⟨hstr, hoff', ?_⟩
  unfold dynamicSection
  simp only [fileOf] at hget hget' ⊢
  rw [show numSections env _ bytes hdr = .ok (d.container true).sections.length from X.numSections,
    container_sections_full, sections_length]
  simp only [bind, Except.bind]
  rw [findFirst_at _ _ _ (d.decoys + 3) hget (by simp) _ 0 (Nat.zero_le _) (by omega)
    (fun l _ hl => by
      obtain ⟨kind, nm0, sh0, o, hg, hk, -⟩ := SV.other l (by omega) (by omega)
      exact ⟨_, hg, by simpa using hk⟩)]
  simp only
  have hsz : sizeofR (d.container true).S.Elf_Dyn = .ok (2 * d.w) := sizeof_dyn d
  unfold dynOfSection
  simp only [bind, Except.bind, hlink, hget', hoff, hty, hsz, pure, Except.pure]
  rfl

theorem dynamicSection_stripped {env : Env} {d : DynDesc} {bytes : Bytes} {hdr : Val} {st : Option Val}
    (X : Setup env (d.container false) bytes hdr st) :
    dynamicSection env (fileOf (d.container false) bytes hdr st) = .ok none := by
  unfold dynamicSection
  simp only [fileOf]
  rw [show numSections env _ bytes hdr = .ok (d.container false).sections.length from X.numSections,
    container_sections_stripped]
  rfl

theorem tableView_of {d : DynDesc} {bytes : Bytes} (hw : 1 ≤ d.w) (hsmall : bytes.length < 2 ^ 63)
    (dy : Dyn) (hne : dy.empty = false) (hts : dy.tagsize = 2 * d.w)
    (tb : Bytes) (htb : d.tagBytes = some tb) (rest : Bytes) (hpl : bytes.drop dy.offset = tb ++ rest) :
    TableView d.S bytes dy d.le d.w (dTagTable d.mclass d.solaris) d.tags where
  con := spec_dyn d.cfg
  wpos := hw
  nonempty := hne
  tagsize := hts
  placed := ⟨tb, rest, by
    have : d.S.Elf_Dyn = dynCon d.le d.w (dTagTable d.mclass d.solaris) := spec_dyn d.cfg
    rw [← this]; exact htb, hpl⟩
  small := hsmall

structure DynWf (env : Env) (d : DynDesc) (full : Bool) : Prop where
  term : hasTerminator d.tags = true
  strings : stringsOk d = true
  dynSeg : dynSegOk env d = true
  strtab : ptrOk env d DT_STRTAB (some d.strOff) = true
  symtab : ptrOk env d DT_SYMTAB (some d.symOff) = true
  hash : ptrOk env d DT_HASH (d.sysv.map (·.2)) = true
  gnuHash : ptrOk env d DT_GNU_HASH (d.gnu.map (·.2)) = true
  copy : ∀ o, d.secDynOff = some o → o ≠ d.dynOff
  phlen : (d.phdrs env).length = d.segments.length

/-- `DynDesc.wf` taken apart.  Its conjuncts in the order of Spec/Dynamic.lean: 1 terminator, 2 regions disjoint,
    3 addresses unambiguous, 4 strings, 5 PT_DYNAMIC, 6–13 the pointers of DT_STRTAB, DT_SYMTAB, DT_HASH, DT_GNU_HASH,
    DT_REL, DT_RELA, DT_RELR, DT_JMPREL, 14 relocation sizes, 15 the section's copy lies elsewhere, 16 decoys,
    17 segment count, 18 every program header decodes.  `DynWf` names the ones the theorems use; the regions stand beside it. -/
theorem wf_unpack {env : Env} {d : DynDesc} {full : Bool} (h : d.wf env full = true) :
    DynWf env d full ∧ (match d.regions full with | some rs => regionsDisjoint (sortRegions rs) | none => false) = true := by
  unfold DynDesc.wf at h
  simp only [Bool.and_eq_true, decide_eq_true_eq] at h
  obtain ⟨⟨⟨⟨⟨⟨⟨⟨⟨⟨⟨⟨⟨⟨⟨⟨⟨h1, h2⟩, -⟩, h4⟩, h5⟩, h6⟩, h7⟩, h8⟩, h9⟩, -⟩, -⟩, -⟩, -⟩, -⟩, h15⟩, -⟩, -⟩, h18⟩ := h
  refine ⟨⟨h1, h4, h5, h6, h7, h8, h9, ?_, h18⟩, h2⟩
  intro o ho
  rw [ho] at h15
  simpa using h15

theorem dyn_wf {env : Env} {d : DynDesc} {full : Bool} (h : d.wf env full = true) : DynWf env d full := (wf_unpack h).1

theorem wf_regions {env : Env} {d : DynDesc} {full : Bool} (h : d.wf env full = true) :
    (match d.regions full with | some rs => regionsDisjoint (sortRegions rs) | none => false) = true := (wf_unpack h).2

theorem ptrOk_some {env : Env} {d : DynDesc} {t : Int} {o : Nat} (h : ptrOk env d t (some o) = true) :
    ∃ a, firstVal d.live t = some a ∧ mapAddr (d.phdrs env) a = some o := by
  unfold ptrOk at h
  cases hf : firstVal d.live t with
  | none => simp [hf] at h
  | some a => exact ⟨a, rfl, by simpa [hf] using h⟩

theorem ptrOk_none {env : Env} {d : DynDesc} {t : Int} (h : ptrOk env d t none = true) :
    firstVal d.live t = none := by
  unfold ptrOk at h
  cases hf : firstVal d.live t with
  | none => rfl
  | some a => simp [hf] at h

theorem stringsOk_tags {d : DynDesc} (h : stringsOk d = true) : StringsOk d.sunw d.strtab d.live := by
  unfold stringsOk at h
  simp only [Bool.and_eq_true, List.all_eq_true, Bool.or_eq_true] at h
  intro t ht
  rcases h.1 t ht with h1 | h1
  · exact Or.inl h1
  · exact Or.inr h1

theorem stringsOk_syms {d : DynDesc} (h : stringsOk d = true) :
    ∀ s ∈ d.syms, (strAt d.strtab (getNatD s "st_name")).isSome := by
  unfold stringsOk at h
  simp only [Bool.and_eq_true, List.all_eq_true] at h
  exact h.2

theorem w_pos {env : Env} {d : DynDesc} {full : Bool} (hc : (d.container full).wf env = true) : 1 ≤ d.w := by
  have := (wf_facts hc).cls
  have h2 : (d.container full).cls = d.cls := rfl
  rw [h2] at this
  unfold DynDesc.w
  rcases this with h | h <;> rw [h] <;> decide

theorem wf_base {env : Env} {d : DynDesc} {full : Bool} (h : d.wf env full = true) : d.wfBase env = true := by
  have W := dyn_wf h
  have hcopy : (match d.secDynOff with | some o => o != d.dynOff | none => true) = true := by
    cases hs : d.secDynOff with
    | none => rfl
    | some o => simpa using W.copy o hs
  simp only [DynDesc.wfBase, Bool.and_eq_true, decide_eq_true_eq]
  exact ⟨⟨W.dynSeg, hcopy⟩, W.phlen⟩

structure BaseWf (env : Env) (d : DynDesc) : Prop where
  dynSeg : dynSegOk env d = true
  copy : ∀ o, d.secDynOff = some o → o ≠ d.dynOff
  phlen : (d.phdrs env).length = d.segments.length

theorem base_wf {env : Env} {d : DynDesc} (h : d.wfBase env = true) : BaseWf env d := by
  simp only [DynDesc.wfBase, Bool.and_eq_true, decide_eq_true_eq] at h
  obtain ⟨⟨h1, h2⟩, h3⟩ := h
  refine ⟨h1, ?_, h3⟩
  intro o ho
  rw [ho] at h2
  simpa using h2

/-- the four routes of `_get_stringtable`, each with what it says of the layout: the section link needs the full layout
    with `.dynamic` at the segment's offset; otherwise the constructor finds no section and DT_STRTAB decides -/
theorem strRoute_cases (env : Env) (d : DynDesc) (full : Bool) :
    (d.strRoute env full = .link ∧ full = true ∧ d.secDynOff = none) ∨
    ((full = false ∨ d.secDynOff.isSome = true) ∧
      ((∃ o, d.strRoute env full = .pointer ∧ d.strPtrOff env = some o) ∨
       (d.strRoute env full = .byName ∧ full = true ∧ d.strPtrOff env = none) ∨
       (d.strRoute env full = .none ∧ full = false ∧ d.strPtrOff env = none))) := by
  unfold DynDesc.strRoute
  cases full with
  | false =>
    refine Or.inr ⟨Or.inl rfl, ?_⟩
    cases d.strPtrOff env with
    | some o => exact Or.inl ⟨o, rfl, rfl⟩
    | none => exact Or.inr (Or.inr ⟨rfl, rfl, rfl⟩)
  | true =>
    cases hs : d.secDynOff with
    | none => exact Or.inl ⟨rfl, rfl, rfl⟩
    | some x =>
      refine Or.inr ⟨Or.inr rfl, ?_⟩
      cases d.strPtrOff env with
      | some o => exact Or.inl ⟨o, rfl, rfl⟩
      | none => exact Or.inr (Or.inl ⟨rfl, rfl, rfl⟩)

theorem wf_strOk {env : Env} {d : DynDesc} {full : Bool} (h : d.wf env full = true) : d.strOk env full = true := by
  obtain ⟨a, ha, ho⟩ := ptrOk_some (dyn_wf h).strtab
  have hp : d.strPtrOff env = some d.strOff := by simp [DynDesc.strPtrOff, ha, ho]
  unfold DynDesc.strOk
  rcases strRoute_cases env d full with ⟨hr, -⟩ | ⟨-, ⟨o, hr, -⟩ | ⟨-, -, hn⟩ | ⟨-, -, hn⟩⟩
  · rw [hr]
  · rw [hr, hp]; simp
  · rw [hp] at hn; cases hn
  · rw [hp] at hn; cases hn

theorem wf_tags {env : Env} {d : DynDesc} {full : Bool} (h : d.wf env full = true) : d.wfTags env full = true := by
  have W := dyn_wf h
  simp [DynDesc.wfTags, W.term, W.strings, wf_strOk h]

theorem wf_syms {env : Env} {d : DynDesc} {full : Bool} (h : d.wf env full = true) : d.wfSyms env = true :=
  (dyn_wf h).symtab

theorem wf_hash {env : Env} {d : DynDesc} {full : Bool} (h : d.wf env full = true) : d.wfHash env = true := by
  have W := dyn_wf h
  simp [DynDesc.wfHash, W.hash, W.gnuHash]

theorem wfTags_parts {env : Env} {d : DynDesc} {full : Bool} (ht : d.wfTags env full = true) :
    hasTerminator d.tags = true ∧ stringsOk d = true ∧ d.strOk env full = true := by
  simpa only [DynDesc.wfTags, Bool.and_eq_true, and_assoc] using ht

structure WFParts (env : Env) (d : DynDesc) : Prop where
  full : d.wf env true = true
  stripped : d.wf env false = true
  cFull : (d.container true).wf env = true
  cStripped : (d.container false).wf env = true

theorem WF_parts {env : Env} {d : DynDesc} (h : d.WF env = true) : WFParts env d := by
  simp only [DynDesc.WF, Bool.and_eq_true] at h
  exact ⟨h.1.1.1, h.1.1.2, h.1.2, h.2⟩

/-- the image of either layout, opened: what C01 knows of the file, and the dynamic tables where the description puts
    them -/
theorem image_opened {env : Env} {d : DynDesc} {full : Bool} {bytes : Bytes}
    (hc : (d.container full).wf env = true) (hl : DynLayout d full bytes) :
    ∃ hdr st b, Setup env (d.container full) bytes hdr st ∧
      (d.container full).S.Elf_Ehdr.decodeRaw env [] (d.container full).ehdrRaw = .ok hdr ∧
      openElf env specSF specMC bytes = .ok (fileOf (d.container full) bytes hdr st) ∧
      BlobFacts d full b ∧ ∀ r ∈ b, ∃ rest, bytes.drop r.1 = r.2 ++ rest := by
  obtain ⟨hdr, st, X, hd, hopen⟩ := opened (wf_imp_wfZ hc) (layout_container hl)
  obtain ⟨b, hbl, hplaced⟩ := layout_blobs hl
  exact ⟨hdr, st, b, X, hd, hopen, blob_facts hbl, hplaced⟩

/-- the `DynamicSection` of the full layout with the string table its `sh_link` names -/
structure SecSide (env : Env) (d : DynDesc) (bytes : Bytes) (f : ElfFile) (dy : Dyn) (tab : StrTab) : Prop where
  sec : dynamicSection env f = .ok (some dy)
  view : TableView f.S f.data dy d.le d.w (dTagTable d.mclass d.solaris) d.tags
  strtab : getStringtable env f.S f.data (realIfc env f) dy = .ok (some tab)
  serves : Serves f.data tab d.strtab

theorem secSide_base {env : Env} (T : ShTypes env) {d : DynDesc} {bytes : Bytes}
    (hc : (d.container true).wf env = true) (hb : d.wfBase env = true)
    (hl : DynLayout d true bytes) (hsmall : bytes.length < 2 ^ 63) :
    ∃ hdr st dy tab, openElf env specSF specMC bytes = .ok (fileOf (d.container true) bytes hdr st) ∧
      SecSide env d bytes (fileOf (d.container true) bytes hdr st) dy tab := by
  obtain ⟨hdr, sh, b, X, -, hopen, B, hplaced⟩ := image_opened hc hl
  obtain ⟨tb, htb, hmem, hcopy⟩ := B.tags
  obtain ⟨srest, hsrest⟩ := hplaced _ B.str
  obtain ⟨hstr, hoff, hsec⟩ := dynamicSection_full X (secView_of T X)
  have hpl : ∃ rest, bytes.drop (d.secDynOff.getD d.dynOff) = tb ++ rest := by
    cases hsd : d.secDynOff with
    | none => exact hplaced _ hmem
    | some o => exact hplaced _ (hcopy rfl o hsd)
  obtain ⟨rest, hrest⟩ := hpl
  exact ⟨hdr, sh, _, _, hopen, hsec, tableView_of (w_pos hc) hsmall _ rfl rfl tb htb rest hrest,
    getStringtable_given rfl, serves_section hoff hsrest hsmall⟩

end PyElf.Proofs.Dynamic
