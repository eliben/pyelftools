/-
  The symbol count recovered from a GNU hash table
  (`GNUHashTable.get_number_of_symbols`: highest bucket, walk its chain to the entry with bit 0 set).  Bucket values are
  the starts of the chains in table order, so the maximum is the start of the last non-empty bucket
  (`split_last_nonempty`, `pyMax_bucketStarts`) and the walk from it ends the table (`walk_chain`).
-/
import PyElf.Proofs.Dynamic
namespace PyElf.Proofs.Dynamic
open PyElf PyElf.Spec PyElf.Spec.Dynamic PyElf.Model PyElf.Model.Dynamic PyElf.Proofs

def flatLen (B : List (List Nat)) : Nat := (B.map List.length).sum

theorem flatLen_cons (b : List Nat) (B : List (List Nat)) : flatLen (b :: B) = b.length + flatLen B := by
  simp [flatLen]

theorem flatLen_append (P Q : List (List Nat)) : flatLen (P ++ Q) = flatLen P + flatLen Q := by
  simp [flatLen]

theorem flatLen_empty (E : List (List Nat)) (h : ∀ e ∈ E, e = []) : flatLen E = 0 := by
  induction E with
  | nil => rfl
  | cons e E ih =>
    rw [flatLen_cons, h e (by simp), ih (fun x hx => h x (by simp [hx]))]; rfl

theorem split_last_nonempty : ∀ B : List (List Nat),
    (∀ b ∈ B, b = []) ∨ ∃ P b E, B = P ++ b :: E ∧ b ≠ [] ∧ ∀ e ∈ E, e = [] := by
  intro B
  induction B with
  | nil => left; simp
  | cons x B ih =>
    rcases ih with h | ⟨P, b, E, rfl, hb, hE⟩
    · by_cases hx : x = []
      · left; intro b hb
        rcases List.mem_cons.mp hb with h' | h'
        · rw [h']; exact hx
        · exact h b h'
      · right; exact ⟨[], x, B, rfl, hx, h⟩
    · right; exact ⟨x :: P, b, E, rfl, hb, hE⟩

theorem bucketStarts_length (cur : Nat) (B : List (List Nat)) : (bucketStarts cur B).length = B.length := by
  induction B generalizing cur with
  | nil => rfl
  | cons b B ih => simp [bucketStarts, ih]

theorem bucketStarts_append (cur : Nat) (P Q : List (List Nat)) :
    bucketStarts cur (P ++ Q) = bucketStarts cur P ++ bucketStarts (cur + flatLen P) Q := by
  induction P generalizing cur with
  | nil => simp [bucketStarts, flatLen]
  | cons p P ih =>
    simp only [List.cons_append, bucketStarts, ih, flatLen_cons]
    rw [Nat.add_assoc]

theorem bucketStarts_le (cur : Nat) (P : List (List Nat)) : ∀ x ∈ bucketStarts cur P, x ≤ cur + flatLen P := by
  induction P generalizing cur with
  | nil => intro x hx; simp [bucketStarts] at hx
  | cons p P ih =>
    intro x hx
    simp only [bucketStarts, List.mem_cons] at hx
    rw [flatLen_cons]
    rcases hx with h | h
    · subst h; split <;> omega
    · have := ih (cur + p.length) x h; omega

theorem bucketStarts_empty (cur : Nat) (E : List (List Nat)) (h : ∀ e ∈ E, e = []) :
    ∀ x ∈ bucketStarts cur E, x = 0 := by
  induction E generalizing cur with
  | nil => intro x hx; simp [bucketStarts] at hx
  | cons e E ih =>
    intro x hx
    have he : e = [] := h e (by simp)
    simp only [bucketStarts, he, List.isEmpty_nil, if_true, List.length_nil, Nat.add_zero, List.mem_cons] at hx
    rcases hx with h' | h'
    · exact h'
    · exact ih cur (fun y hy => h y (by simp [hy])) x h'

theorem chainWords_length : ∀ b : List Nat, (chainWords b).length = b.length
  | [] => rfl
  | [_] => rfl
  | _ :: y :: rest => by simp [chainWords, chainWords_length (y :: rest)]

theorem flatMap_chain_length (P : List (List Nat)) : (P.flatMap chainWords).length = flatLen P := by
  induction P with
  | nil => rfl
  | cons p P ih => simp [List.flatMap_cons, chainWords_length, ih, flatLen_cons]

theorem flatMap_chain_empty (E : List (List Nat)) (h : ∀ e ∈ E, e = []) : E.flatMap chainWords = [] := by
  induction E with
  | nil => rfl
  | cons e E ih =>
    rw [List.flatMap_cons, h e (by simp), ih (fun x hx => h x (by simp [hx]))]; rfl

theorem pyMax_fold (M : Nat) : ∀ (xs : List Nat) (m : Nat), m ≤ M → (∀ x ∈ xs, x ≤ M) → (m = M ∨ M ∈ xs) →
    (xs.map fun (x : Nat) => Val.int (x : Int)).foldlM
      (fun (m : Int) v => do let b ← v.asInt; pure (if b > m then b else m)) (m : Int) = .ok (M : Int) := by
  intro xs
  induction xs with
  | nil =>
    intro m _ _ h
    rcases h with h | h
    · simp [h, pure, Except.pure]
    · simp at h
  | cons x xs ih =>
    intro m hm hall h
    simp only [List.map_cons, List.foldlM_cons, Val.asInt, bind, Except.bind, pure, Except.pure]
    have hx : x ≤ M := hall x (by simp)
    by_cases hgt : (x : Int) > (m : Int)
    · simp only [hgt, if_true]
      apply ih x hx (fun y hy => hall y (by simp [hy]))
      rcases h with h | h
      · subst h; omega
      · rcases List.mem_cons.mp h with h' | h'
        · left; exact h'.symm
        · right; exact h'
    · simp only [hgt, if_false]
      apply ih m hm (fun y hy => hall y (by simp [hy]))
      rcases h with h | h
      · left; exact h
      · rcases List.mem_cons.mp h with h' | h'
        · left; subst h'; omega
        · right; exact h'

theorem pyMax_eq (xs : List Nat) (M : Nat) (hmem : M ∈ xs) (hall : ∀ x ∈ xs, x ≤ M) :
    pyMax (xs.map fun (x : Nat) => Val.int (x : Int)) = .ok (M : Int) := by
  cases xs with
  | nil => simp at hmem
  | cons x xs =>
    simp only [List.map_cons, pyMax, Val.asInt, bind, Except.bind]
    apply pyMax_fold M xs x (hall x (by simp)) (fun y hy => hall y (by simp [hy]))
    rcases List.mem_cons.mp hmem with h | h
    · left; exact h.symm
    · right; exact h

theorem chainWords_cons2 (x y : Nat) (rest : List Nat) :
    chainWords (x :: y :: rest) = x / 2 * 2 :: chainWords (y :: rest) := rfl

theorem walk_chain (data : Bytes) (le : Bool) :
    ∀ (b : List Nat), b ≠ [] → (∀ x ∈ b, x < 2 ^ 32) → ∀ (rest : Bytes) (pos idx fuel : Nat),
      data.drop pos = encWords le 4 (chainWords b) ++ rest → b.length ≤ fuel →
      gnuNumSymbols.walk data le 4 fuel pos idx = .ok (idx + b.length) := by
  -- every stored word has bit 0 cleared except the chain's last, where the walk stops
  intro b
  induction b with
  | nil => intro h; exact absurd rfl h
  | cons x b ih =>
    intro _ hlt rest pos idx fuel hd hfuel
    cases fuel with
    | zero => simp at hfuel
    | succ fuel =>
      have hx : x < 2 ^ 32 := hlt x (by simp)
      cases b with
      | nil =>
        have hw : chainWords [x] = [x / 2 * 2 + 1] := rfl
        rw [hw, encWords_cons, List.append_assoc] at hd
        have hr : readN data pos 4 = encNat le 4 (x / 2 * 2 + 1) := by
          simp [readN, hd, encNat_length]
        rw [gnuNumSymbols.walk]
        simp only [hr, encNat_length, bne_self_eq_false, Bool.false_eq_true, if_false, decNat_encNat,
          bind, Except.bind, pure, Except.pure]
        have hle : x / 2 * 2 ≤ x := Nat.div_mul_le_self x 2
        have e256 : (256 : Nat) ^ 4 = 4294967296 := by decide
        have : (x / 2 * 2 + 1) % 256 ^ 4 % 2 = 1 := by
          rw [e256, Nat.mod_eq_of_lt (show x / 2 * 2 + 1 < 4294967296 by omega)]; omega
        simp [this]
      | cons y b =>
        rw [chainWords_cons2, encWords_cons, List.append_assoc] at hd
        have hr : readN data pos 4 = encNat le 4 (x / 2 * 2) := by
          simp [readN, hd, encNat_length]
        have hd' : data.drop (pos + 4) = encWords le 4 (chainWords (y :: b)) ++ rest := by
          have := drop_add_of_drop hd; rwa [encNat_length] at this
        rw [gnuNumSymbols.walk]
        simp only [hr, encNat_length, bne_self_eq_false, Bool.false_eq_true, if_false, decNat_encNat,
          bind, Except.bind, pure, Except.pure]
        have hle : x / 2 * 2 ≤ x := Nat.div_mul_le_self x 2
        have e256 : (256 : Nat) ^ 4 = 4294967296 := by decide
        have : ¬ ((x / 2 * 2) % 256 ^ 4 % 2 = 1) := by
          rw [e256, Nat.mod_eq_of_lt (show x / 2 * 2 < 4294967296 by omega)]; omega
        simp only [this, if_false]
        rw [ih (by simp) (fun z hz => hlt z (by simp [hz])) rest (pos + 4) (idx + 1) fuel hd' (by simpa using hfuel)]
        simp; omega

theorem encWords_append (le : Bool) (n : Nat) (xs ys : List Nat) :
    encWords le n (xs ++ ys) = encWords le n xs ++ encWords le n ys := by
  simp [encWords]

theorem hashed_eq (h : GnuHash) : h.hashed = flatLen h.buckets := rfl

theorem pyMax_bucketStarts (so : Nat) (B : List (List Nat)) (hB : 1 ≤ B.length) :
    ((∀ b ∈ B, b = []) ∧ pyMax ((bucketStarts so B).map fun (x : Nat) => Val.int (x : Int)) = .ok ((0 : Nat) : Int)) ∨
    ∃ P b E, B = P ++ b :: E ∧ b ≠ [] ∧ (∀ e ∈ E, e = []) ∧
      pyMax ((bucketStarts so B).map fun (x : Nat) => Val.int (x : Int)) = .ok ((so + flatLen P : Nat) : Int) := by
  rcases split_last_nonempty B with hall | ⟨P, b, E, hB', hb, hE⟩
  · left
    have hz := bucketStarts_empty so B hall
    have hne : bucketStarts so B ≠ [] := by
      intro e
      have hbl := bucketStarts_length so B
      rw [e] at hbl; simp at hbl; omega
    obtain ⟨x, hx⟩ := List.exists_mem_of_ne_nil _ hne
    have hx0 : x = 0 := hz x hx
    subst hx0
    exact ⟨hall, pyMax_eq _ 0 hx (fun y hy => by rw [hz y hy]; exact Nat.le_refl 0)⟩
  · right
    have hst : bucketStarts so B
        = bucketStarts so P ++ (so + flatLen P) :: bucketStarts (so + flatLen P + b.length) E := by
      rw [hB', bucketStarts_append]
      have : b.isEmpty = false := by cases b with | nil => exact absurd rfl hb | cons _ _ => rfl
      simp [bucketStarts, this]
    have hM : so + flatLen P ∈ bucketStarts so B := by rw [hst]; simp
    have hmax : ∀ x ∈ bucketStarts so B, x ≤ so + flatLen P := by
      intro x hx
      rw [hst] at hx
      rcases List.mem_append.mp hx with h' | h'
      · exact bucketStarts_le _ _ x h'
      · rcases List.mem_cons.mp h' with h'' | h''
        · omega
        · rw [bucketStarts_empty _ E hE x h'']; omega
    exact ⟨P, b, E, hB', hb, hE, pyMax_eq _ _ hM hmax⟩

theorem gnuNumSymbols_parsed (env : Env) (S : ElfStructs) (le : Bool) (w : Nat)
    (hG : S.Gnu_Hash = HashHeader.gnuCon le w) (hW : S.Elf_word = .uint 4 le) (hX : S.Elf_xword = .uint w le)
    (data : Bytes) (off : Nat) (hoff : off < 2 ^ 63) {so sh p : Nat} {bloom bk : List Nat}
    (hp : structParse env (HashHeader.gnuCon le w) data off = .ok (HashHeader.gnuRec w so sh bloom bk, p))
    (hbk : ∀ x ∈ bk, x < 2 ^ 32) :
    gnuNumSymbols env S data le off =
      (pyMax (bk.map fun (x : Nat) => Val.int (x : Int))).bind fun m =>
        if m < (so : Int) then .ok so
        else (seekCheck (off + 4 * 4 + bloom.length * w + bk.length * 4 + (m.toNat - so) * 4)).bind fun _ =>
          gnuNumSymbols.walk data le 4
            ((data.length - (off + 4 * 4 + bloom.length * w + bk.length * 4 + (m.toNat - so) * 4)) / 4 + 2)
            (off + 4 * 4 + bloom.length * w + bk.length * 4 + (m.toNat - so) * 4) m.toNat := by
  have sW : sizeofR S.Elf_word = .ok 4 := by rw [hW]; rfl
  have sX : sizeofR S.Elf_xword = .ok w := by rw [hX]; rfl
  unfold gnuNumSymbols
  rw [structParseAt_eq hoff, hG, hp]
  simp only [bind, Except.bind, pure, Except.pure, sW, sX, HashHeader.gnuRec_bloom_size, HashHeader.gnuRec_nbuckets,
    HashHeader.gnuRec_symoffset, HashHeader.gnuRec_buckets, HashHeader.wordsVal_of_lt (n := 4) hbk, asList]

theorem gnuNumSymbols_eq (env : Env) (S : ElfStructs) (le : Bool) (w : Nat)
    (hG : S.Gnu_Hash = HashHeader.gnuCon le w) (hW : S.Elf_word = .uint 4 le) (hX : S.Elf_xword = .uint w le)
    (h : GnuHash) (nsyms : Nat) (hwf : h.wf nsyms = true)
    (data : Bytes) (off : Nat) (rest : Bytes) (hd : data.drop off = h.enc le w ++ rest)
    (hsmall : data.length < 2 ^ 63) :
    gnuNumSymbols env S data le off = .ok nsyms := by
  simp only [GnuHash.wf, Bool.and_eq_true, decide_eq_true_eq, List.all_eq_true] at hwf
  obtain ⟨⟨⟨⟨⟨⟨⟨w1, w2⟩, w3⟩, w4⟩, w5⟩, w6⟩, w7⟩, w8⟩ := hwf
  rw [hashed_eq] at w3
  -- the header and the two arrays, then the chain words
  obtain ⟨hp, hchain⟩ := HashHeader.structParse_gnu env le w h.symoffset h.shift h.bloom (bucketStarts h.symoffset h.buckets)
    (by rw [bucketStarts_length]; exact w5) (by omega) w6 w7
    (rest := encWords le 4 (h.buckets.flatMap chainWords) ++ rest)
    (by rw [hd]; simp [GnuHash.enc, encWords, List.flatMap, bucketStarts_length])
  rw [bucketStarts_length] at hp hchain
  have hoff : off < 2 ^ 63 := by
    have := congrArg List.length hd
    simp [GnuHash.enc, encNat_length] at this
    omega
  -- the bucket array holds its values (all below 2^32)
  have hstarts : ∀ x ∈ bucketStarts h.symoffset h.buckets, x < 2 ^ 32 := by
    intro x hx
    have := bucketStarts_le h.symoffset h.buckets x hx
    omega
  rw [gnuNumSymbols_parsed env S le w hG hW hX data off hoff hp hstarts, bucketStarts_length]
  rcases pyMax_bucketStarts h.symoffset h.buckets w2 with ⟨hall, hmax⟩ | ⟨P, b, E, hB, hb, hE, hmax⟩
  · -- no hashed symbol: every bucket is 0, the count is symoffset
    rw [hmax]
    have hlt : ((0 : Nat) : Int) < (h.symoffset : Int) := by omega
    simp only [Except.bind, hlt, if_true]
    rw [flatLen_empty _ hall] at w3
    simp at w3; rw [w3]
  · -- the last non-empty bucket starts at symoffset + |P|, its chain ends the table
    rw [hmax]
    have hge : ¬ (((h.symoffset + flatLen P : Nat) : Int) < (h.symoffset : Int)) := by omega
    simp only [Except.bind, hge, if_false, Int.toNat_natCast]
    have hfl : flatLen h.buckets = flatLen P + b.length := by
      rw [hB, flatLen_append, flatLen_cons, flatLen_empty E hE]; omega
    have hwords : h.buckets.flatMap chainWords = P.flatMap chainWords ++ chainWords b := by
      rw [hB, List.flatMap_append, List.flatMap_cons, flatMap_chain_empty E hE]; simp
    rw [hwords, encWords_append, List.append_assoc] at hchain
    have hdb := drop_add_of_drop hchain
    rw [encWords_length, flatMap_chain_length] at hdb
    have hpos : off + 4 * 4 + h.bloom.length * w + h.buckets.length * 4 + (h.symoffset + flatLen P - h.symoffset) * 4
        = off + 16 + w * h.bloom.length + 4 * h.buckets.length + flatLen P * 4 := by
      rw [Nat.mul_comm w]; omega
    rw [hpos]
    have hlenb : (data.drop (off + 16 + w * h.bloom.length + 4 * h.buckets.length + flatLen P * 4)).length
        = b.length * 4 + rest.length := by
      rw [hdb]; simp [encWords_length, chainWords_length]
    rw [List.length_drop] at hlenb
    have hbpos : 0 < b.length := by cases b with | nil => exact absurd rfl hb | cons _ _ => simp
    rw [seekCheck_ok (by omega)]
    simp only
    rw [walk_chain data le b hb (fun x hx => w8 b (by rw [hB]; simp) x hx) rest _ _ _ hdb (by omega)]
    congr 1; omega

end PyElf.Proofs.Dynamic
