/-
  By-name lookups end to end: `get_section_index`, `has_section`, `get_section_by_name`
  (Model/ElfLookup.lean) on a byte string that carries a well-formed description answer exactly
  what the description says (`ElfDesc.indexOfName`), and `indexOfName` is characterised: the last
  section bearing the name, nothing when no section bears it.  Namespace `PyElf.Proofs.C01`.
-/
import PyElf.Model.ElfLookup
import PyElf.Proofs.ElfView
namespace PyElf.Proofs.C01
open PyElf PyElf.Spec PyElf.Model PyElf.Model.C01 PyElf.Proofs

theorem indexOfName_some {d : ElfDesc} {name : Bytes} {i : Nat} (h : d.indexOfName name = some i) :
    ∃ hi : i < d.sections.length, (d.sections[i]).name = name ∧
      ∀ j (hj : j < d.sections.length), i < j → (d.sections[j]).name ≠ name := by
  rw [indexOfName_eq_lastIdx] at h
  obtain ⟨h2, h3⟩ := lastIdx_some h
  simp only [List.getElem?_map, Option.map_eq_some_iff] at h2
  obtain ⟨s, hs, hname⟩ := h2
  obtain ⟨hi, rfl⟩ := List.getElem?_eq_some_iff.1 hs
  refine ⟨hi, hname, fun j hj hij hc => h3 j hij ?_⟩
  simp only [List.getElem?_map, List.getElem?_eq_getElem hj, Option.map_some, hc]

theorem indexOfName_none {d : ElfDesc} {name : Bytes} (h : d.indexOfName name = none) :
    ∀ s ∈ d.sections, s.name ≠ name := by
  rw [indexOfName_eq_lastIdx, lastIdx_eq_none] at h
  exact fun s hs e => h (List.mem_map.2 ⟨s, hs, e⟩)

theorem dictHas_eq (m : List (Bytes × Nat)) (name : Bytes) : dictHas m name = (dictGet m name).isSome := by
  unfold dictHas dictGet
  induction m with
  | nil => rfl
  | cons p m ih =>
    simp only [List.any_cons, List.find?_cons]
    cases hp : (p.1 == name) <;> simp [ih]

section gen
variable {env : Env} {d : ElfDesc} {bytes : Bytes} {hdr : Val} {st : Option Val} {obs : ElfObs}

theorem makeSectionNameMap_gen (X : Setup env d bytes hdr st) (ho : d.observe env = .ok obs) :
    makeSectionNameMap env d.S bytes hdr st = .ok (sectionNameMap obs.sections) := by
  unfold makeSectionNameMap
  rw [X.iterSections ho]
  rfl

theorem getSectionIndex_gen (X : Setup env d bytes hdr st) (ho : d.observe env = .ok obs) (name : Bytes) :
    getSectionIndex env d.S bytes hdr st name = .ok (d.indexOfName name) := by
  unfold getSectionIndex
  rw [makeSectionNameMap_gen X ho]
  simp only [bind, Except.bind, pure, Except.pure, dictGet, lookup_exact_aux ho]

theorem hasSection_gen (X : Setup env d bytes hdr st) (ho : d.observe env = .ok obs) (name : Bytes) :
    hasSection env d.S bytes hdr st name = .ok (d.indexOfName name).isSome := by
  unfold hasSection
  rw [makeSectionNameMap_gen X ho]
  simp only [bind, Except.bind, pure, Except.pure, dictHas_eq, dictGet, lookup_exact_aux ho]

theorem getSectionByName_gen (X : Setup env d bytes hdr st) (ho : d.observe env = .ok obs) (name : Bytes) :
    getSectionByName env d.S bytes hdr st name
      = .ok (match d.indexOfName name with
             | none => none
             | some i => obs.sections[i]?) := by
  unfold getSectionByName
  rw [makeSectionNameMap_gen X ho]
  simp only [bind, Except.bind, dictGet, lookup_exact_aux ho]
  cases hi : d.indexOfName name with
  | none => rfl
  | some i =>
    obtain ⟨hlt, -, -⟩ := indexOfName_some hi
    have hi' : i < obs.sections.length := (observe_lengths ho).1 ▸ hlt
    simp only [getSection_obs X ho hlt hi', List.getElem?_eq_getElem hi']
    rfl

end gen

end PyElf.Proofs.C01
