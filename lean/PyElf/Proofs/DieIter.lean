/-
  Iterating a unit.  Nothing here looks at bytes: the walk is driven by `G` (the DIE found at an offset); if `G` returns
  the entries of `flatten` at their offsets (`Covered`), the walk yields exactly `flatten`.  `Tiles`: the entries of
  `flatten` lie back to back over the bytes of the encoded tree.  Last part: the same from the unit's top entry, which
  `get_top_DIE` translates with other values (`flattenUnit`, `flattenUnitP`).
-/
import PyElf.Spec.DieTree
import PyElf.Model.Die
import PyElf.Proofs.Primitives
namespace PyElf.Proofs.C04
open PyElf PyElf.Spec PyElf.Spec.C04 PyElf.Model.C04 PyElf.Proofs

def Covered (G : Nat → R DieObs) (l : List DieObs) : Prop := ∀ d ∈ l, G d.offset = .ok d

theorem Covered.mono {G : Nat → R DieObs} {l l' : List DieObs} (h : Covered G l) (hs : ∀ d ∈ l', d ∈ l) :
    Covered G l' := fun d hd => h d (hs d hd)

/-! `sibTarget` is the Spec's reading of DW_AT_sibling, `siblingNext` what `iter_DIE_children` computes from it; the two
  agree arm by arm. -/

theorem sib_none {cuOff : Nat} {d : DieObs} (h : sibTarget cuOff d = none) : siblingNext cuOff d = none := by
  unfold sibTarget attrFind at h
  unfold siblingNext attrGet?
  split at h
  · rename_i h0; rw [h0]
  · rename_i a h0
    split at h <;> first | (split at h <;> first | cases h | (split at h <;> cases h)) | cases h

theorem sib_some {cuOff x : Nat} {d : DieObs} (h : sibTarget cuOff d = some (some x)) :
    siblingNext cuOff d = some (.ok x) := by
  -- both read the same attribute and branch alike on its form: unit-relative forms add `cuOff`, DW_FORM_ref_addr does
  -- not; each `split at h` is followed into the model's matching branch, every other branch gives `h` no value
  unfold sibTarget attrFind at h
  unfold siblingNext attrGet?
  split at h
  · cases h
  · rename_i a h0
    rw [h0]
    split at h
    · rename_i f v hf hv
      simp only [hf, hv]
      split at h
      · rename_i hc
        have hc' : unitRefForms.contains f = true := hc
        simp only [hc', if_true, Val.asInt, bind, Except.bind, pure, Except.pure]
        injection h with h; injection h with h; rw [h]
      · rename_i hc
        have hc' : ¬ unitRefForms.contains f = true := hc
        split at h
        · rename_i hr
          subst hr
          have hd : unitRefForms.contains "DW_FORM_ref_addr" = false := by decide
          simp only [hd, if_true, Val.asInt, bind, Except.bind, pure, Except.pure, Bool.false_eq_true, if_false]
          injection h with h; injection h with h; rw [h]
        · cases h
    · cases h

/-- what `iter_DIE_children` finds for an entry that owns children and satisfies `sibOk`: no DW_AT_sibling,
    or one that designates `next` -/
theorem siblingNext_of_sibOk {cuOff next : Nat} {d : DieObs} (h : sibOk cuOff d next = true) (hk : d.kids = true) :
    siblingNext cuOff d = none ∨ siblingNext cuOff d = some (.ok next) := by
  unfold sibOk at h
  rw [hk] at h
  simp only [Bool.not_true, Bool.false_or] at h
  split at h
  · rename_i h0; exact Or.inl (sib_none h0)
  · rename_i x h0
    have e : x = next := by simpa using h
    exact Or.inr (e ▸ sib_some h0)
  · cases h

theorem entryObs_kids (nm : Names) (c : DwarfCfg) (ρ : Val → Val → Val) (off : Nat) (n : Node) :
    (entryObs nm c ρ off n).kids = n.decl.children := by
  cases h : n.decl.children <;> simp [entryObs, DieObs.kids, h]

theorem entryObs_isNull {nm : Names} (hnm : ∀ x, nm.tag x ≠ Val.none) (c : DwarfCfg) (ρ : Val → Val → Val) (off : Nat)
    (n : Node) : (entryObs nm c ρ off n).isNull = false := by
  have := hnm n.decl.tag
  unfold DieObs.isNull entryObs
  cases h : nm.tag n.decl.tag <;> simp_all

theorem count_pos (t : Tree) : 1 ≤ t.count := by
  cases t; simp [Tree.count]

theorem encTree_length (c : DwarfCfg) (n : Node) (kids : List Tree) (nl : Nat) :
    (encTree c (.mk n kids nl)).length
      = (encEntry c n).length + (if n.decl.children then (encForest c kids).length + nl else 0) := by
  rw [encTree]
  cases n.decl.children <;> simp [encUlebN_length]

theorem flattenP_getLast (nm : Names) (c : DwarfCfg) (ρ : Val → Val → Val) (parent : Option Nat) (off : Nat)
    (n : Node) (kids : List Tree) (nl : Nat) (h : n.decl.children = true) :
    (flattenP nm c ρ parent off (.mk n kids nl)).getLast?
      = some (nullObs (off + (encEntry c n).length + (encForest c kids).length) nl, some off) := by
  rw [flattenP]
  simp only [h, if_true]
  rw [← List.cons_append, List.getLast?_concat]

theorem covered_forest_tail {G : Nat → R DieObs} {nm : Names} {c : DwarfCfg} {ρ : Val → Val → Val} {off nl : Nat}
    {t : Tree} {ts : List Tree}
    (h : Covered G (flattenForest nm c ρ off (t :: ts) ++ [nullObs (off + (encForest c (t :: ts)).length) nl])) :
    Covered G (flattenForest nm c ρ (off + (encTree c t).length) ts ++
      [nullObs (off + (encTree c t).length + (encForest c ts).length) nl]) := by
  apply h.mono
  intro d hd
  rw [encForest, List.length_append, ← Nat.add_assoc]
  simp only [flattenForest, List.mem_append] at hd ⊢
  rcases hd with hd | hd
  · exact Or.inl (Or.inr hd)
  · exact Or.inr hd

theorem Covered.kids {G : Nat → R DieObs} {nm : Names} {c : DwarfCfg} {ρ : Val → Val → Val} {off nl : Nat} {n : Node}
    {kids : List Tree} (h : Covered G (flatten nm c ρ off (.mk n kids nl)).tail) (hk : n.decl.children = true) :
    Covered G (flattenForest nm c ρ (off + (encEntry c n).length) kids ++
      [nullObs (off + (encEntry c n).length + (encForest c kids).length) nl]) := by
  simpa [flatten, hk] using h

theorem sibsOk_kids {nm : Names} {c : DwarfCfg} {ρ : Val → Val → Val} {cuOff off nl : Nat} {n : Node} {kids : List Tree}
    (h : sibsOk nm c ρ cuOff off (.mk n kids nl) = true) (hk : n.decl.children = true) :
    sibsOkForest nm c ρ cuOff (off + (encEntry c n).length) kids = true := by
  simpa [sibsOk, hk] using h

theorem count_kids {n : Node} {kids : List Tree} {nl fuel : Nat} (h : (Tree.mk n kids nl).count ≤ fuel)
    (hk : n.decl.children = true) : countForest kids + 2 ≤ fuel := by
  simp only [Tree.count, hk, if_true] at h; omega

theorem Covered.head {G : Nat → R DieObs} {nm : Names} {c : DwarfCfg} {ρ : Val → Val → Val} {off : Nat} {t : Tree}
    {ts : List Tree} {l : List DieObs} (h : Covered G (flattenForest nm c ρ off (t :: ts) ++ l)) :
    Covered G (flatten nm c ρ off t).tail :=
  h.mono fun d hd => by simp [flattenForest, List.mem_of_mem_tail hd]

/--
  Where `iter_DIE_children` goes on behind the child at `off`.  It has three routes — past the entry when the child owns
  no children, behind the terminator of the child's own list, or where DW_AT_sibling points — and under `sibOk` each of
  them arrives at the end of the child's tree.
-/
theorem next_sibling {nm : Names} {c : DwarfCfg} {ρ : Val → Val → Val} {cuOff off : Nat} {n : Node} (kids : List Tree)
    (nl : Nat) (hs : sibOk cuOff (entryObs nm c ρ off n) (off + (encTree c (.mk n kids nl)).length) = true) :
    (n.decl.children = false ∧ off + (entryObs nm c ρ off n).size = off + (encTree c (.mk n kids nl)).length) ∨
    (n.decl.children = true ∧ siblingNext cuOff (entryObs nm c ρ off n) = none ∧
      (nullObs (off + (encEntry c n).length + (encForest c kids).length) nl).offset +
          (nullObs (off + (encEntry c n).length + (encForest c kids).length) nl).size
        = off + (encTree c (.mk n kids nl)).length) ∨
    (n.decl.children = true ∧
      siblingNext cuOff (entryObs nm c ρ off n) = some (.ok (off + (encTree c (.mk n kids nl)).length))) := by
  cases hk : n.decl.children with
  | false => exact Or.inl ⟨rfl, by rw [encTree_length, hk]; simp [entryObs]⟩
  | true =>
    rcases siblingNext_of_sibOk hs (by rw [entryObs_kids, hk]) with h0 | h0
    · exact Or.inr (Or.inl ⟨rfl, h0, by rw [encTree_length, hk]; simp [nullObs, Nat.add_assoc]⟩)
    · exact Or.inr (Or.inr ⟨rfl, h0⟩)

mutual
theorem subtree_flatten {nm : Names} (hnm : ∀ x, nm.tag x ≠ Val.none) (c : DwarfCfg) (ρ : Val → Val → Val)
    (G : Nat → R DieObs) (cuOff : Nat) :
    ∀ (t : Tree) (off : Nat) (parent : Option Nat) (fuel : Nat), t.count ≤ fuel →
      Covered G (flatten nm c ρ off t).tail → sibsOk nm c ρ cuOff off t = true →
      subtree G cuOff fuel (entryObs nm c ρ off t.root) parent = .ok (flattenP nm c ρ parent off t)
  | .mk n kids nl, off, parent, fuel, hf, hcov, hsib => by
    have hpos := count_pos (.mk n kids nl)
    obtain ⟨f, rfl⟩ : ∃ f, fuel = f + 1 := ⟨fuel - 1, by omega⟩
    simp only [Tree.root, subtree, entryObs_kids]
    cases hk : n.decl.children with
    | false => simp [flattenP, hk]
    | true =>
      simp only [if_true]
      have hsz : (entryObs nm c ρ off n).offset + (entryObs nm c ρ off n).size = off + (encEntry c n).length := rfl
      have hoff : (entryObs nm c ρ off n).offset = off := rfl
      rw [hsz, hoff]
      rw [childWalk_flatten hnm c ρ G cuOff kids (off + (encEntry c n).length) off nl f (by have := count_kids hf hk; omega)
        (hcov.kids hk) (sibsOk_kids hsib hk)]
      simp [flattenP, hk, bind, Except.bind, pure, Except.pure]
/-- `iter_DIE_children` consumed by `_iter_DIE_subtree`: the sibling list at `off`, then the null entry -/
theorem childWalk_flatten {nm : Names} (hnm : ∀ x, nm.tag x ≠ Val.none) (c : DwarfCfg) (ρ : Val → Val → Val)
    (G : Nat → R DieObs) (cuOff : Nat) :
    ∀ (ts : List Tree) (off parent nl fuel : Nat), countForest ts + 1 ≤ fuel →
      Covered G (flattenForest nm c ρ off ts ++ [nullObs (off + (encForest c ts).length) nl]) →
      sibsOkForest nm c ρ cuOff off ts = true →
      childWalk G cuOff fuel parent off
        = .ok (flattenForestP nm c ρ parent off ts ++ [(nullObs (off + (encForest c ts).length) nl, some parent)],
               nullObs (off + (encForest c ts).length) nl)
  | [], off, parent, nl, fuel, hf, hcov, _ => by
    obtain ⟨f, rfl⟩ : ∃ f, fuel = f + 1 := ⟨fuel - 1, by omega⟩
    have hG : G off = .ok (nullObs off nl) := by
      have := hcov (nullObs (off + (encForest c []).length) nl) (by simp [flattenForest])
      simpa [encForest, nullObs] using this
    simp [childWalk, hG, bind, Except.bind, pure, Except.pure, nullObs, DieObs.isNull, flattenForestP, encForest]
  | (.mk n kids nl') :: ts, off, parent, nl, fuel, hf, hcov, hsib => by
    obtain ⟨f, rfl⟩ : ∃ f, fuel = f + 1 := ⟨fuel - 1, by omega⟩
    have hpos := count_pos (.mk n kids nl')
    simp only [countForest] at hf
    have hG : G off = .ok (entryObs nm c ρ off n) := by
      have := hcov (entryObs nm c ρ off n) (by simp [flattenForest, flatten])
      simpa [entryObs] using this
    simp only [sibsOkForest, Bool.and_eq_true] at hsib
    obtain ⟨⟨hs1, hs2⟩, hs3⟩ := hsib
    have hsub := subtree_flatten hnm c ρ G cuOff (.mk n kids nl') off (some parent) f (by omega) hcov.head hs2
    simp only [Tree.root] at hsub
    have hlen : (encForest c (.mk n kids nl' :: ts)).length
        = (encTree c (.mk n kids nl')).length + (encForest c ts).length := by
      rw [encForest, List.length_append]
    have hcovR := covered_forest_tail hcov
    have hrest := childWalk_flatten hnm c ρ G cuOff ts (off + (encTree c (.mk n kids nl')).length) parent nl f
      (by omega) hcovR hs3
    rw [childWalk]
    simp only [hG, bind, Except.bind, entryObs_isNull hnm, Bool.false_eq_true, if_false, hsub]
    rw [entryObs_kids]
    rcases next_sibling kids nl' hs1 with ⟨hk, e⟩ | ⟨hk, h0, e⟩ | ⟨hk, h0⟩
    · simp only [hk, Bool.not_false, if_true, pure, Except.pure]
      rw [e, hrest]
      simp [flattenForestP, hlen, Nat.add_assoc, pure, Except.pure]
    · simp only [hk, Bool.not_true, Bool.false_eq_true, if_false, h0, flattenP_getLast nm c ρ _ off n kids nl' hk, pure,
        Except.pure]
      rw [e, hrest]
      simp [flattenForestP, hlen, Nat.add_assoc, pure, Except.pure]
    · simp only [hk, Bool.not_true, Bool.false_eq_true, if_false, h0]
      rw [hrest]
      simp [flattenForestP, hlen, Nat.add_assoc, pure, Except.pure]
end

def Tiles : Nat → List DieObs → Nat → Prop
  | start, [], stop => start = stop
  | start, d :: l, stop => d.offset = start ∧ Tiles (start + d.size) l stop

theorem Tiles.append {a b c : Nat} : ∀ {l₁ l₂ : List DieObs}, Tiles a l₁ b → Tiles b l₂ c → Tiles a (l₁ ++ l₂) c
  | [], _, h1, h2 => by simp only [Tiles] at h1; subst h1; simpa using h2
  | d :: l, _, h1, h2 => by
    simp only [Tiles, List.cons_append] at h1 ⊢
    exact ⟨h1.1, Tiles.append h1.2 h2⟩

theorem tiles_offset_ge : ∀ (l : List DieObs) (a b : Nat), Tiles a l b → ∀ d ∈ l, a ≤ d.offset := by
  intro l
  induction l with
  | nil => intro a b _ d hd; simp at hd
  | cons x l ih =>
    intro a b h d hd
    simp only [Tiles] at h
    rcases List.mem_cons.1 hd with rfl | hd
    · omega
    · have := ih _ b h.2 d hd; omega

theorem tiles_end_le : ∀ (l : List DieObs) (a b : Nat), Tiles a l b → ∀ d ∈ l, d.offset + d.size ≤ b := by
  intro l
  induction l with
  | nil => intro a b _ d hd; simp at hd
  | cons x l ih =>
    intro a b h d hd
    simp only [Tiles] at h
    rcases List.mem_cons.1 hd with rfl | hd
    · -- the head ends where the next entry begins, and that one ends before `b`; the last entry ends at `b`
      cases l with
      | nil => simp only [Tiles] at h; omega
      | cons y l' =>
        have := tiles_offset_ge (y :: l') _ b h.2 y List.mem_cons_self
        have := ih _ b h.2 y List.mem_cons_self
        omega
    · exact ih _ b h.2 d hd

mutual
theorem flatten_tiles (nm : Names) (c : DwarfCfg) (ρ : Val → Val → Val) :
    ∀ (t : Tree) (off : Nat), Tiles off (flatten nm c ρ off t) (off + (encTree c t).length)
  | .mk n kids nl, off => by
    rw [flatten, encTree_length]
    cases hk : n.decl.children with
    | false => simp [Tiles, entryObs]
    | true =>
      simp only [if_true, Tiles]
      refine ⟨rfl, ?_⟩
      have h1 := flattenForest_tiles nm c ρ kids (off + (encEntry c n).length)
      have h2 : Tiles (off + (encEntry c n).length + (encForest c kids).length)
          [nullObs (off + (encEntry c n).length + (encForest c kids).length) nl]
          (off + ((encEntry c n).length + ((encForest c kids).length + nl))) := by
        simp [Tiles, nullObs, Nat.add_assoc]
      exact Tiles.append h1 h2
theorem flattenForest_tiles (nm : Names) (c : DwarfCfg) (ρ : Val → Val → Val) :
    ∀ (ts : List Tree) (off : Nat), Tiles off (flattenForest nm c ρ off ts) (off + (encForest c ts).length)
  | [], off => by simp [flattenForest, encForest, Tiles]
  | t :: ts, off => by
    rw [flattenForest, encForest, List.length_append, ← Nat.add_assoc]
    exact Tiles.append (flatten_tiles nm c ρ t off) (flattenForest_tiles nm c ρ ts (off + (encTree c t).length))
end

mutual
theorem flattenP_fst (nm : Names) (c : DwarfCfg) (ρ : Val → Val → Val) :
    ∀ (t : Tree) (parent : Option Nat) (off : Nat), (flattenP nm c ρ parent off t).map (·.1) = flatten nm c ρ off t
  | .mk n kids nl, parent, off => by
    rw [flattenP, flatten]
    cases hk : n.decl.children with
    | false => simp
    | true => simp [flattenForestP_fst nm c ρ kids off (off + (encEntry c n).length)]
theorem flattenForestP_fst (nm : Names) (c : DwarfCfg) (ρ : Val → Val → Val) :
    ∀ (ts : List Tree) (parent off : Nat), (flattenForestP nm c ρ parent off ts).map (·.1) = flattenForest nm c ρ off ts
  | [], _, _ => by simp [flattenForestP, flattenForest]
  | t :: ts, parent, off => by
    rw [flattenForestP, flattenForest, List.map_append, flattenP_fst nm c ρ t (some parent) off,
      flattenForestP_fst nm c ρ ts parent (off + (encTree c t).length)]
end

end PyElf.Proofs.C04

/-! `flattenUnitP` belongs to namespace `Props.C04`, whose statements speak of it; the lemmas about it are in this
  file. -/

namespace PyElf.Props.C04
open PyElf PyElf.Spec PyElf.Spec.C04

def flattenUnitP (nm : Names) (c : DwarfCfg) (ρtop ρ : Val → Val → Val) (off : Nat) (t : Tree) :
    List (DieObs × Option Nat) :=
  (entryObs nm c ρtop off t.root, none) :: (flattenP nm c ρ none off t).tail

end PyElf.Props.C04

namespace PyElf.Proofs.C04
open PyElf PyElf.Spec PyElf.Spec.C04 PyElf.Model.C04 PyElf.Proofs

theorem flatUnitP_fst (nm : Names) (c : DwarfCfg) (ρtop ρ : Val → Val → Val) (off : Nat) (t : Tree) :
    (Props.C04.flattenUnitP nm c ρtop ρ off t).map (·.1) = flattenUnit nm c ρtop ρ off t := by
  obtain ⟨n, kids, nl⟩ := t
  have h := flattenP_fst nm c ρ (.mk n kids nl) none off
  rw [flattenP, flatten] at h
  simp only [List.map_cons, List.cons.injEq] at h
  simp only [Props.C04.flattenUnitP, flattenUnit, Tree.root, List.map_cons, flattenP, List.tail_cons, h.2]

theorem flattenUnit_root (nm : Names) (c : DwarfCfg) (ρt ρ : Val → Val → Val) (off : Nat) (t : Tree) :
    ∃ rest, flattenUnit nm c ρt ρ off t = entryObs nm c ρt off t.root :: rest := by
  obtain ⟨n, kids, nl⟩ := t
  exact ⟨_, rfl⟩

theorem Covered.unit_tail {G : Nat → R DieObs} {nm : Names} {c : DwarfCfg} {ρtop ρ : Val → Val → Val} {off : Nat} {t : Tree}
    (h : Covered G (flattenUnit nm c ρtop ρ off t)) : Covered G (flatten nm c ρ off t).tail := by
  obtain ⟨n, kids, nl⟩ := t
  apply h.mono
  intro d hd
  simp only [flatten, List.tail_cons] at hd
  simp only [flattenUnit, List.mem_cons]
  exact Or.inr hd

/-- `_iter_DIE_subtree` looks at the entry it starts from only through its offset, size and child flag: the top entry,
    whose values are resolved with `ρtop`, is walked like the same entry resolved with `ρ` -/
theorem subtree_root_congr (G : Nat → R DieObs) (cuOff fuel : Nat) (d d' : DieObs) (parent : Option Nat)
    (h1 : d.offset = d'.offset) (h2 : d.size = d'.size) (h3 : d.kids = d'.kids) :
    subtree G cuOff fuel d parent
      = (subtree G cuOff fuel d' parent).map (fun l => (d, parent) :: l.tail) := by
  cases fuel with
  | zero => simp [subtree, Except.map]
  | succ f =>
    simp only [subtree, h1, h2, h3]
    cases d'.kids with
    | false => simp [Except.map]
    | true =>
      simp only [if_true, bind, Except.bind]
      cases childWalk G cuOff f d'.offset (d'.offset + d'.size) <;> simp [Except.map, pure, Except.pure]

theorem iter_dies_flatten {nm : Names} (hnm : ∀ x, nm.tag x ≠ Val.none) (c : DwarfCfg) (ρtop ρ : Val → Val → Val)
    (G : Nat → R DieObs) (cuOff dieOff fuel : Nat) (t : Tree) (hfuel : t.count ≤ fuel)
    (hG : Covered G (flattenUnit nm c ρtop ρ dieOff t))
    (hsib : sibsOk nm c ρ cuOff dieOff t = true) :
    iterDIEs G cuOff dieOff fuel = .ok (Props.C04.flattenUnitP nm c ρtop ρ dieOff t) := by
  obtain ⟨n, kids, nl⟩ := t
  have htop : G dieOff = .ok (entryObs nm c ρtop dieOff n) := by
    have := hG (entryObs nm c ρtop dieOff n) (by simp [flattenUnit])
    simpa [entryObs] using this
  have hsub := subtree_flatten hnm c ρ G cuOff (.mk n kids nl) dieOff none fuel hfuel hG.unit_tail hsib
  unfold iterDIEs
  simp only [htop, bind, Except.bind]
  rw [subtree_root_congr G cuOff fuel (entryObs nm c ρtop dieOff n) (entryObs nm c ρ dieOff n) none rfl rfl
    (by rw [entryObs_kids, entryObs_kids])]
  simp only [Tree.root] at hsub
  rw [hsub]
  rfl

theorem flattenUnit_tiles (nm : Names) (c : DwarfCfg) (ρtop ρ : Val → Val → Val) (t : Tree) (off : Nat) :
    Tiles off (flattenUnit nm c ρtop ρ off t) (off + (encTree c t).length) := by
  obtain ⟨n, kids, nl⟩ := t
  have h := flatten_tiles nm c ρ (.mk n kids nl) off
  rw [flatten] at h
  rw [flattenUnit]
  exact ⟨rfl, h.2⟩

end PyElf.Proofs.C04
