/-
  C19, the loops of the enumeration battery other than the section / segment walks (notes, dynamic tags, the GNU hash
  chain walk, the hash-table header arrays), on every byte string: the fuel the models give them always suffices, and
  what they yield is bounded by the file size.  Fuel: `NF` through the `Only` calculus, the engine itself by `nf_parse`
  of Proofs/EngineFuel.lean (whose namespace this file continues); each model loop by an induction whose invariant
  says how far an index that still succeeds can be from the end of the data.
-/
import PyElf.Model.Notes
import PyElf.Model.Dynamic
import PyElf.Model.Symbols
import PyElf.Proofs.ElfErrors
import PyElf.Proofs.Engine
import PyElf.Proofs.HashHeader
import PyElf.Proofs.Notes
namespace PyElf.Proofs.ElfLoops
open PyElf PyElf.Spec PyElf.Model PyElf.Proofs PyElf.Proofs.ElfErrors

theorem arrayLoop_stops (step : Nat → Fields → PRes) {e : Err} :
    ∀ (m n pos : Nat) (ctx : Fields) (acc : List Val), m ≤ n →
      arrayLoop step m pos ctx acc = .error e → arrayLoop step n pos ctx acc = .error e := by
  intro m
  induction m with
  | zero => intro n pos ctx acc _ h; rw [arrayLoop] at h; cases h
  | succ m ih =>
    intro n pos ctx acc hmn h
    obtain ⟨n', rfl⟩ : ∃ n', n = n' + 1 := ⟨n - 1, by omega⟩
    rw [arrayLoop] at h ⊢
    cases hs : step pos ctx with
    | error e' => rw [hs] at h; exact h
    | ok r =>
      obtain ⟨v, p, c⟩ := r
      rw [hs] at h
      exact ih n' p c _ (by omega) h

theorem parse_uint_full {env : Env} {data : Bytes} {k : Nat} {le : Bool} {ctx : Fields} {pos : Nat} {v : Val} {p : Nat}
    {c' : Fields} (hk : 0 < k) (h : Con.parse env data (.uint k le) ctx pos = .ok (v, p, c')) :
    v = .int (decNat le (readN data pos k)) ∧ p = pos + k ∧ c' = ctx ∧ pos + k ≤ data.length := by
  rw [Con.parse] at h
  by_cases hl : data.length < pos + k
  · rw [readExact_trunc hk hl] at h; cases h
  · rw [readExact_of_len (by rw [readN_length]; omega)] at h
    cases h
    exact ⟨rfl, rfl, rfl, by omega⟩

theorem arrayLoop_uint_ok_bound (env : Env) (data : Bytes) (k : Nat) (le : Bool) (hk : 0 < k) :
    ∀ (n pos : Nat) (ctx : Fields) (acc : List Val) (r : Val × Nat × Fields),
      arrayLoop (fun p c => Con.parse env data (.uint k le) c p) n pos ctx acc = .ok r →
      r.2.1 = pos + n * k ∧ r.2.2 = ctx ∧ (0 < n → pos + n * k ≤ data.length) := by
  intro n
  induction n with
  | zero =>
    intro pos ctx acc r h
    rw [arrayLoop] at h; cases h
    exact ⟨by simp, rfl, by omega⟩
  | succ n ih =>
    intro pos ctx acc r h
    rw [arrayLoop] at h
    cases hs : Con.parse env data (.uint k le) ctx pos with
    | error e => simp only [hs] at h; cases h
    | ok r1 =>
      obtain ⟨v, p, c⟩ := r1
      simp only [hs] at h
      obtain ⟨-, rfl, rfl, h3⟩ := parse_uint_full hk hs
      obtain ⟨i1, i2, i3⟩ := ih _ _ _ r h
      refine ⟨by rw [i1, Nat.succ_mul]; omega, i2, fun _ => ?_⟩
      rw [Nat.succ_mul]
      cases n with
      | zero => simp; omega
      | succ n' => have := i3 (by omega); omega

theorem arrayLoop_uint_fails (env : Env) (data : Bytes) (k : Nat) (le : Bool) (hk : 0 < k)
    (n pos : Nat) (ctx : Fields) (acc : List Val) (hn : 0 < n) (h : data.length < pos + n * k) :
    arrayLoop (fun p c => Con.parse env data (.uint k le) c p) n pos ctx acc = .error .elfParseError := by
  cases hr : arrayLoop (fun p c => Con.parse env data (.uint k le) c p) n pos ctx acc with
  | ok r => have := (arrayLoop_uint_ok_bound env data k le hk n pos ctx acc r hr).2.2 hn; omega
  | error e =>
    have := arrayLoop_only (P := TameErr false) (step := fun p c => Con.parse env data (.uint k le) c p)
      (fun p c => tame_parse env data false (.uint k le) rfl c p) n pos ctx acc e hr
    rw [tameErr_false this]

structure NotesLoopFree (S : ElfStructs) : Prop where
  nhdr : Con.loopFree S.Elf_Nhdr = true
  abi : Con.loopFree S.Elf_abi = true
  prps : Con.loopFree S.Elf_Prpsinfo = true
  ntfile : Con.loopFree S.Elf_Nt_File = true
  prop : Con.loopFree S.Elf_Prop = true

theorem notesLoopFree_spec (c : ElfCfg) : NotesLoopFree (elfStructs c) where
  nhdr := by rfl
  abi := by rfl
  prps := by simp only [elfStructs]; (repeat' split) <;> rfl
  ntfile := by rfl
  prop := by rfl

theorem nhdr_sizeofCon (c : ElfCfg) : sizeofCon (elfStructs c).Elf_Nhdr = .ok 12 := by rfl

theorem nf_setItem (o : Val) (k : String) (v : Val) : NF (setItem o k v) := by
  unfold setItem; split
  · exact Only.ok _
  · exact Only.error (by decide)

theorem nf_cstringParseBytes (chunk : Bytes) : NF (cstringParseBytes chunk) := by
  unfold cstringParseBytes; split
  · exact Only.ok _
  · exact Only.error (by decide)

theorem roundup_ge (n k : Nat) : n ≤ Model.roundup n k := by
  rw [PyElf.Proofs.Notes.roundup_eq]; omega

theorem nf_gnuPropLoop {S : ElfStructs} (hS : Con.loopFree S.Elf_Prop = true) (env : Env) (cls : Nat) (data : Bytes)
    (noteEnd : Nat) : ∀ fuel off props, noteEnd - off < fuel → NF (gnuPropLoop S env cls data noteEnd fuel off props) := by
  intro fuel
  induction fuel with
  | zero => intro off props h; omega
  | succ fuel ih =>
    intro off props h
    rw [gnuPropLoop]
    split
    · rename_i hlt
      refine Only.bind (nf_structParse hS data off) ?_
      rintro ⟨p, q⟩ _
      refine Only.bind (nf_getNat _ _) (fun dsz _ => ?_)
      apply ih
      have := roundup_ge (dsz + 8) (if cls = 32 then 2 else 3)
      omega
    · exact Only.ok _

theorem nf_structParse_val {env : Env} {c : Con} (hc : Con.loopFree c = true) (data : Bytes) (pos : Nat) :
    NF (do let (v, _) ← structParse env c data pos; return v : R Val) :=
  Only.bind (nf_structParse hc data pos) (fun _ _ => Only.pure _)

theorem nf_decodeDesc {S : ElfStructs} (hS : NotesLoopFree S) (env : Env) (cls : Nat) (data : Bytes)
    (ty nm : Val) (descData : Bytes) (descsz offset : Nat) :
    NF (decodeDesc S env cls data ty nm descData descsz offset) :=
  Only.ite (fun _ => nf_structParse_val hS.abi data offset) fun _ =>
  Only.ite (fun _ => Only.ok _) fun _ =>
  Only.ite (fun _ => Only.ok _) fun _ =>
  Only.ite (fun _ => nf_structParse_val hS.prps data offset) fun _ =>
  Only.ite (fun _ => nf_structParse_val hS.ntfile data offset) fun _ =>
  Only.ite (fun _ => Only.bind (nf_gnuPropLoop hS.prop env cls data _ _ _ _ (by omega)) (fun _ _ => Only.pure _)) fun _ =>
  Only.ok _

theorem nf_noteRest {S : ElfStructs} (hS : NotesLoopFree S) (env : Env) (cls : Nat) (data : Bytes)
    (nOffset : Nat) (note : Val) (offset sp : Nat) : NF (noteRest S env cls data nOffset note offset sp) := by
  unfold noteRest
  refine Only.bind (nf_getNat _ _) (fun descsz _ => ?_)
  split
  refine Only.bind (nf_setItem _ _ _) (fun _ _ => ?_)
  refine Only.bind (nf_getField _ _) (fun _ _ => ?_)
  refine Only.bind (nf_getField _ _) (fun _ _ => ?_)
  refine Only.bind (nf_decodeDesc hS env cls data _ _ _ _ _) (fun _ _ => ?_)
  refine Only.bind (nf_setItem _ _ _) (fun _ _ => ?_)
  refine Only.bind (nf_setItem _ _ _) (fun _ _ => ?_)
  exact Only.pure _

theorem nf_noteAt {S : ElfStructs} (hS : NotesLoopFree S) (env : Env) (cls : Nat) (data : Bytes)
    (nhdrSize offset : Nat) : NF (noteAt S env cls data nhdrSize offset) := by
  unfold noteAt
  refine Only.bind (nf_structParse hS.nhdr data offset) ?_
  rintro ⟨note, q⟩ _
  refine Only.bind (nf_setItem _ _ _) (fun _ _ => ?_)
  refine Only.bind (nf_getField _ _) (fun _ _ => ?_)
  split
  · refine Only.bind (nf_asNat _) (fun _ _ => ?_)
    dsimp only
    refine Only.bind (nf_cstringParseBytes _) (fun _ _ => ?_)
    refine Only.bind (nf_setItem _ _ _) (fun _ _ => ?_)
    exact nf_noteRest hS env cls data _ _ _ _
  · refine Only.bind (nf_setItem _ _ _) (fun _ _ => ?_)
    exact nf_noteRest hS env cls data _ _ _ _

def Adv (x : Nat) (r : R (Val × Nat)) : Prop := ∀ v o, r = .ok (v, o) → x ≤ o

theorem Adv.bind {α : Type} {x : Nat} {a : R α} {f : α → R (Val × Nat)} (h : ∀ a', Adv x (f a')) : Adv x (a >>= f) := by
  intro v o hr
  cases a with
  | error e => cases hr
  | ok a' => exact h a' v o hr

theorem Adv.pure {x o : Nat} {v : Val} (h : x ≤ o) : Adv x (Pure.pure (v, o) : R (Val × Nat)) := by
  intro v' o' hr; cases hr; exact h

theorem noteRest_adv (S : ElfStructs) (env : Env) (cls : Nat) (data : Bytes)
    (nOffset : Nat) (note : Val) (offset sp : Nat) : Adv offset (noteRest S env cls data nOffset note offset sp) := by
  unfold noteRest
  refine Adv.bind (fun descsz => ?_)
  split
  refine Adv.bind (fun _ => Adv.bind (fun _ => Adv.bind (fun _ => Adv.bind (fun _ => Adv.bind (fun _ => Adv.bind (fun _ => ?_))))))
  exact Adv.pure (by omega)

theorem noteAt_adv (S : ElfStructs) (env : Env) (cls : Nat) (data : Bytes) (nhdrSize offset : Nat) :
    Adv (offset + nhdrSize) (noteAt S env cls data nhdrSize offset) := by
  unfold noteAt
  refine Adv.bind ?_
  rintro ⟨note, q⟩
  refine Adv.bind (fun _ => Adv.bind (fun _ => ?_))
  split
  · refine Adv.bind (fun _ => ?_)
    dsimp only
    refine Adv.bind (fun _ => Adv.bind (fun _ => ?_))
    intro v o h
    have := noteRest_adv S env cls data _ _ _ _ v o h
    omega
  · refine Adv.bind (fun _ => ?_)
    exact noteRest_adv S env cls data _ _ _ _

/-- the fuel `size + 1` of `iterNotes` always suffices (header size ≥ 1) -/
theorem nf_iterNotesLoop {S : ElfStructs} (hS : NotesLoopFree S) (env : Env) (cls : Nat) (data : Bytes)
    (n end_ : Nat) (hn : 0 < n) : ∀ fuel offset acc, end_ - offset < fuel →
      NF (iterNotesLoop S env cls data n end_ fuel offset acc) := by
  intro fuel
  induction fuel with
  | zero => intro offset acc h; omega
  | succ fuel ih =>
    intro offset acc h
    rw [iterNotesLoop]
    split
    · rename_i hle
      cases hr : noteAt S env cls data n offset with
      | error e => exact Only.error (nf_noteAt hS env cls data n offset e hr)
      | ok r =>
        obtain ⟨note, offset'⟩ := r
        simp only
        have := noteAt_adv S env cls data n offset note offset' hr
        exact ih _ _ (by omega)
    · exact Only.ok _

theorem iterNotesLoop_count (S : ElfStructs) (env : Env) (cls : Nat) (data : Bytes)
    (n end_ : Nat) (hn : 0 < n) : ∀ fuel offset acc notes,
      iterNotesLoop S env cls data n end_ fuel offset acc = .ok notes →
      notes.length ≤ acc.length + (end_ - offset) / n := by
  intro fuel
  induction fuel with
  | zero => intro offset acc notes h; rw [iterNotesLoop] at h; cases h
  | succ fuel ih =>
    intro offset acc notes h
    rw [iterNotesLoop] at h
    split at h
    · rename_i hle
      cases hr : noteAt S env cls data n offset with
      | error e => rw [hr] at h; cases h
      | ok r =>
        obtain ⟨note, offset'⟩ := r
        rw [hr] at h
        simp only at h
        have hadv := noteAt_adv S env cls data n offset note offset' hr
        have := ih _ _ _ h
        simp only [List.length_append, List.length_cons, List.length_nil] at this
        have h1 : (end_ - offset') / n ≤ (end_ - offset - n) / n := Nat.div_le_div_right (by omega)
        have h2 : (end_ - offset) / n = (end_ - offset - n) / n + 1 := Nat.div_eq_sub_div hn (by omega)
        omega
    · cases h; exact Nat.le_add_right _ _

theorem iterNotes_bounds {S : ElfStructs} (hS : NotesLoopFree S) (env : Env) (cls : Nat) (data : Bytes)
    {n : Nat} (hsz : sizeofCon S.Elf_Nhdr = .ok n) (hn : 0 < n) (offset size : Nat) :
    NF (iterNotes S env cls data offset size) ∧
    ∀ notes, iterNotes S env cls data offset size = .ok notes → notes.length ≤ size / n := by
  unfold iterNotes
  rw [hsz]
  simp only [bind, Except.bind]
  refine ⟨nf_iterNotesLoop hS env cls data n _ hn _ _ _ (by omega), fun notes h => ?_⟩
  have := iterNotesLoop_count S env cls data n _ hn _ _ _ _ h
  simpa using this

open PyElf.Model.Dynamic in
structure DynOK (S : ElfStructs) (sz : Nat) : Prop where
  fixed : S.Elf_Dyn.fixed = true
  size : S.Elf_Dyn.sizeof = some sz
  pos : 0 < sz
  lf : Con.loopFree S.Elf_Dyn = true

theorem dyn_spec (c : ElfCfg) : (elfStructs c).Elf_Dyn
    = .struct (.cons (some "d_tag") false (.enum (.sint (c.cls / 8) c.le) (dTagTable c.mclass c.solaris) true)
        (.cons (some "d_val") false (.uint (c.cls / 8) c.le)
        (.cons (some "d_ptr") false (.value (.ctx "d_val")) .nil))) := rfl

theorem dynOK_spec (c : ElfCfg) (hc : c.cls = 32 ∨ c.cls = 64) : DynOK (elfStructs c) (2 * (c.cls / 8)) where
  fixed := by
    have : 1 ≤ c.cls / 8 := by rcases hc with h | h <;> rw [h] <;> decide
    rw [dyn_spec]
    simp [Con.fixed, ConFields.fixed, this]
  size := by
    rw [dyn_spec]
    simp [Con.sizeof, ConFields.sizeof]
    omega
  pos := by rcases hc with h | h <;> rw [h] <;> decide
  lf := by rfl

structure IfcNF (ifc : Dynamic.FileIfc) : Prop where
  numSegments : NF ifc.numSegments
  getSegment : ∀ i, NF (ifc.getSegment i)
  sectionByName : ∀ nm, NF (ifc.sectionByName nm)

section dyn
open PyElf.Model.Dynamic
variable {env : Env} {S : ElfStructs} {data : Bytes} {d : Dyn} {sz : Nat}

theorem nf_getTagRaw (hD : DynOK S sz) (n : Nat) : NF (getTagRaw env S data d n) := by
  unfold getTagRaw
  simp only
  split
  · exact Only.bind (Only.throw (by decide)) (fun _ _ => Only.bind (nf_structParseAt hD.lf data _) (fun r _ => by
      obtain ⟨v, q⟩ := r; exact Only.pure _))
  · exact Only.bind (nf_structParseAt hD.lf data _) (fun r _ => by obtain ⟨v, q⟩ := r; exact Only.pure _)

theorem getTagRaw_ok_bound (hD : DynOK S sz) {n : Nat} {v : Val} (h : getTagRaw env S data d n = .ok v) :
    d.offset + n * d.tagsize + sz ≤ data.length := by
  unfold getTagRaw at h
  simp only at h
  split at h
  · simp [bind, Except.bind, throw, throwThe, MonadExceptOf.throw] at h
  · obtain ⟨r, hr, _⟩ := bind_ok.1 h
    exact structParseAt_ok_bound hD.fixed hD.size hD.pos hr

theorem getTagRaw_ok_index (hD : DynOK S sz) (ht : 0 < d.tagsize) {n : Nat} {v : Val}
    (h : getTagRaw env S data d n = .ok v) : n ≤ (data.length - d.offset) / d.tagsize := by
  have := getTagRaw_ok_bound hD h
  rw [Nat.le_div_iff_mul_le ht]
  omega

/- `tagFuel = (len − offset)/tagsize + 2`: index `n` can succeed only for `n ≤ (len − offset)/tagsize`
   (`getTagRaw_ok_index`), so the walk makes at most `(len − offset)/tagsize + 1` successful steps and one failing
   one; the invariant `n ≤ … + 1`, `… + 2 ≤ n + fuel` says exactly that and starts at `n = 0`, `fuel = tagFuel`. -/
theorem nf_firstTagRaw_go (hD : DynOK S sz) (ht : 0 < d.tagsize) (type : Option String) :
    ∀ fuel n, n ≤ (data.length - d.offset) / d.tagsize + 1 → (data.length - d.offset) / d.tagsize + 2 ≤ n + fuel →
      NF (firstTagRaw.go env S data d type fuel n) := by
  intro fuel
  induction fuel with
  | zero => intro n h1 h2; omega
  | succ fuel ih =>
    intro n h1 h2
    rw [firstTagRaw.go]
    refine Only.bind (nf_getTagRaw hD n) (fun tag htag => ?_)
    refine Only.bind (nf_getField _ _) (fun t _ => ?_)
    split
    · exact Only.pure _
    · split
      · exact Only.pure _
      · have := getTagRaw_ok_index hD ht htag
        exact ih (n + 1) (by omega) (by omega)

theorem nf_firstTagRaw (hD : DynOK S sz) (ht : 0 < d.tagsize) (type : Option String) :
    NF (firstTagRaw env S data d type) := by
  unfold firstTagRaw
  split
  · exact Only.pure _
  · exact nf_firstTagRaw_go hD ht type _ 0 (Nat.zero_le _) (by unfold tagFuel; exact Nat.le_of_eq (Nat.zero_add _).symm)

theorem nf_addressOffsetFirst_go {ifc : FileIfc} (hI : IfcNF ifc) (start : Nat) :
    ∀ k i, NF (addressOffsetFirst.go ifc start k i) := by
  intro k
  induction k with
  | zero => intro i; rw [addressOffsetFirst.go]; exact Only.pure _
  | succ k ih =>
    intro i
    rw [addressOffsetFirst.go]
    refine Only.bind (hI.getSegment i) ?_
    rintro ⟨nm, ph⟩ _
    refine Only.bind (nf_getField _ _) (fun _ _ => ?_)
    split
    · refine Only.bind (nf_getNat _ _) (fun _ _ => Only.bind (nf_getNat _ _) (fun _ _ => ?_))
      split
      · exact Only.bind (nf_getNat _ _) (fun _ _ => Only.pure _)
      · exact ih _
    · exact ih _

theorem nf_getTableOffset {ifc : FileIfc} (hD : DynOK S sz) (ht : 0 < d.tagsize) (hI : IfcNF ifc) (name : String) :
    NF (getTableOffset env S data ifc d name) := by
  unfold getTableOffset
  refine Only.bind (nf_firstTagRaw hD ht _) (fun r _ => ?_)
  split
  · exact Only.pure _
  · refine Only.bind (nf_getNat _ _) (fun ptr _ => Only.bind ?_ (fun _ _ => Only.pure _))
    unfold addressOffsetFirst
    exact Only.bind hI.numSegments (fun _ _ => nf_addressOffsetFirst_go hI _ _ _)

theorem nf_getStringtable {ifc : FileIfc} (hD : DynOK S sz) (ht : 0 < d.tagsize) (hI : IfcNF ifc) :
    NF (getStringtable env S data ifc d) := by
  unfold getStringtable
  split
  · exact Only.pure _
  · refine Only.bind (nf_getTableOffset hD ht hI _) ?_
    rintro ⟨a, off⟩ _
    simp only
    split
    · exact Only.pure _
    · refine Only.bind (hI.sectionByName _) (fun r _ => ?_)
      split <;> exact Only.pure _

theorem nf_strTabGetString (data : Bytes) (tab : StrTab) (off : Nat) : NF (tab.getString data off) := by
  cases tab with
  | «section» kind hdr =>
    simp only [StrTab.getString]
    split
    · exact Only.error (by decide)
    · exact nf_getString data hdr off
  | dynamic toff =>
    simp only [StrTab.getString]
    refine Only.bind (nf_parseCStringAt data _) (fun r _ => ?_)
    split <;> exact Only.pure _

theorem nf_mkTag (data : Bytes) {st : R (Option StrTab)} (hst : NF st) (entry : Val) : NF (mkTag data st entry) := by
  unfold mkTag
  refine Only.bind hst (fun r _ => ?_)
  split
  · refine Only.bind (nf_getField _ _) (fun _ _ => ?_)
    split
    · exact Only.bind (nf_getNat _ _) (fun _ _ => Only.bind (nf_strTabGetString _ _ _) (fun _ _ => Only.pure _))
    · exact Only.pure _
  · exact Only.throw (by decide)

theorem nf_foldTags_go {σ : Type} (hD : DynOK S sz) (ht : 0 < d.tagsize) (type : Option String)
    {step : σ → DTag → R σ} (hstep : ∀ s t, NF (step s t)) {st : R (Option StrTab)} (hst : NF st) :
    ∀ fuel n s, n ≤ (data.length - d.offset) / d.tagsize + 1 → (data.length - d.offset) / d.tagsize + 2 ≤ n + fuel →
      NF (foldTags.go env S data d type step st fuel n s) := by
  intro fuel
  induction fuel with
  | zero => intro n s h1 h2; omega
  | succ fuel ih =>
    intro n s h1 h2
    rw [foldTags.go]
    refine Only.bind (nf_getTagRaw hD n) (fun tag htag => ?_)
    refine Only.bind (nf_getField _ _) (fun t _ => ?_)
    have hidx := getTagRaw_ok_index hD ht htag
    have hjp : ∀ s', NF (if isStr t "DT_NULL" = true then (pure s' : R σ)
        else foldTags.go env S data d type step st fuel (n + 1) s') := by
      intro s'
      split
      · exact Only.pure _
      · exact ih (n + 1) s' (by omega) (by omega)
    dsimp only
    split
    · exact Only.bind (nf_mkTag data hst tag) (fun _ _ => Only.bind (hstep _ _) (fun s' _ => hjp s'))
    · exact Only.bind (Only.pure _) (fun s' _ => hjp s')

theorem nf_foldTags {σ : Type} {ifc : FileIfc} (hD : DynOK S sz) (ht : 0 < d.tagsize) (hI : IfcNF ifc)
    (type : Option String) {step : σ → DTag → R σ} (hstep : ∀ s t, NF (step s t)) (init : σ) :
    NF (foldTags env S data ifc d type step init) := by
  unfold foldTags
  split
  · exact Only.pure _
  · exact nf_foldTags_go hD ht type hstep (nf_getStringtable hD ht hI) _ 0 init (Nat.zero_le _) (by unfold tagFuel; exact Nat.le_of_eq (Nat.zero_add _).symm)

theorem nf_iterTags {ifc : FileIfc} (hD : DynOK S sz) (ht : 0 < d.tagsize) (hI : IfcNF ifc) (type : Option String) :
    NF (iterTags env S data ifc d type) := by
  unfold iterTags
  exact Only.bind (nf_foldTags hD ht hI type (fun _ _ => Only.pure _) []) (fun _ _ => Only.pure _)

theorem foldTags_go_count (hD : DynOK S sz) (ht : 0 < d.tagsize) (type : Option String) (st : R (Option StrTab)) :
    ∀ fuel n (acc acc' : List DTag), n ≤ (data.length - d.offset) / d.tagsize + 1 →
      foldTags.go env S data d type (fun acc t => pure (t :: acc)) st fuel n acc = .ok acc' →
      acc'.length + n ≤ acc.length + (data.length - d.offset) / d.tagsize + 1 := by
  intro fuel
  induction fuel with
  | zero => intro n acc acc' _ h; rw [foldTags.go] at h; cases h
  | succ fuel ih =>
    intro n acc acc' h1 h
    rw [foldTags.go] at h
    obtain ⟨tag, htag, h⟩ := bind_ok.1 h
    obtain ⟨t, _, h⟩ := bind_ok.1 h
    have hidx := getTagRaw_ok_index hD ht htag
    have hjp : ∀ s' : List DTag, s'.length ≤ acc.length + 1 →
        (if isStr t "DT_NULL" = true then (pure s' : R (List DTag))
          else foldTags.go env S data d type (fun acc t => pure (t :: acc)) st fuel (n + 1) s') = .ok acc' →
        acc'.length + n ≤ acc.length + (data.length - d.offset) / d.tagsize + 1 := by
      intro s' hs' hr
      split at hr
      · cases hr; omega
      · have := ih (n + 1) s' acc' (by omega) hr
        omega
    dsimp only at h
    split at h
    · obtain ⟨tg, _, h⟩ := bind_ok.1 h
      obtain ⟨s', hs', h⟩ := bind_ok.1 h
      cases hs'
      exact hjp _ (by simp) h
    · obtain ⟨s', hs', h⟩ := bind_ok.1 h
      cases hs'
      exact hjp _ (by omega) h

theorem iterTags_count {ifc : FileIfc} (hD : DynOK S sz) (ht : 0 < d.tagsize) (type : Option String) {l : List DTag}
    (h : iterTags env S data ifc d type = .ok l) : l.length ≤ (data.length - d.offset) / d.tagsize + 1 := by
  unfold iterTags at h
  obtain ⟨acc, hacc, h⟩ := bind_ok.1 h
  cases h
  unfold foldTags at hacc
  split at hacc
  · cases hacc; simp
  · have := foldTags_go_count hD ht type _ _ 0 [] acc (Nat.zero_le _) hacc
    simpa using this

end dyn

theorem readHashWord_ok {le : Bool} {data : Bytes} {pos w : Nat} (h : readHashWord le data pos = .ok w) :
    pos + 4 ≤ data.length := by
  unfold readHashWord at h
  simp only at h
  split at h
  · rename_i hl
    rw [readN_length] at hl
    omega
  · cases h

theorem readHashWord_only (le : Bool) (data : Bytes) (pos : Nat) :
    Only (fun e => e = .structError) (readHashWord le data pos) := by
  unfold readHashWord
  simp only
  split
  · exact Only.ok _
  · exact Only.error rfl

/-- C03's model of the chain walk; fuel `len + 1` -/
theorem gnuCountLoop_only (le : Bool) (data : Bytes) : ∀ fuel pos maxIdx, data.length - pos < fuel →
    Only (fun e => e = .structError) (gnuCountLoop le data fuel pos maxIdx) := by
  intro fuel
  induction fuel with
  | zero => intro pos maxIdx h; omega
  | succ fuel ih =>
    intro pos maxIdx h
    rw [gnuCountLoop]
    cases hr : readHashWord le data pos with
    | error e => exact Only.error (readHashWord_only le data pos e hr)
    | ok cur =>
      simp only
      have := readHashWord_ok hr
      split
      · exact Only.ok _
      · exact ih _ _ (by omega)

theorem gnuCountLoop_steps (le : Bool) (data : Bytes) : ∀ fuel pos maxIdx r,
    gnuCountLoop le data fuel pos maxIdx = .ok r → maxIdx < r ∧ r - maxIdx ≤ (data.length - pos) / 4 := by
  intro fuel
  induction fuel with
  | zero => intro pos maxIdx r h; rw [gnuCountLoop] at h; cases h
  | succ fuel ih =>
    intro pos maxIdx r h
    rw [gnuCountLoop] at h
    cases hr : readHashWord le data pos with
    | error e => rw [hr] at h; cases h
    | ok cur =>
      rw [hr] at h
      simp only at h
      have := readHashWord_ok hr
      split at h
      · cases h; omega
      · have := ih _ _ _ h
        omega

theorem nf_foldlM {α β : Type} (f : β → α → R β) (hf : ∀ b a, NF (f b a)) : ∀ (l : List α) (b : β),
    NF (List.foldlM f b l) := by
  intro l
  induction l with
  | nil => intro b; exact Only.pure _
  | cons y ys ih => intro b; rw [List.foldlM_cons]; exact Only.bind (hf _ _) (fun _ _ => ih _)

theorem nf_listMax (v : Val) : NF (listMax v) := by
  unfold listMax
  split
  · exact Only.error (by decide)
  · rename_i x xs
    exact Only.bind (nf_asNat _) (fun a _ => nf_foldlM _ (fun _ _ => Only.bind (nf_asNat _) (fun _ _ => Only.pure _)) _ _)
  · exact Only.error (by decide)

theorem nf_gnuHashCount (le : Bool) (data : Bytes) (g : GnuHash) : NF (gnuHashCount le data g) := by
  unfold gnuHashCount
  refine Only.bind (nf_getField _ _) (fun _ _ => Only.bind (nf_listMax _) (fun _ _ => Only.bind (nf_getNat _ _) (fun _ _ => ?_)))
  split
  · exact Only.ok _
  · exact (gnuCountLoop_only le data _ _ _ (by omega)).mono (fun e he => by subst he; decide)

/-- C09's model of the same walk -/
theorem walk_only (data : Bytes) (le : Bool) : ∀ fuel p idx, (data.length - p) / 4 + 2 ≤ fuel →
    Only (fun e => e = .structError) (Dynamic.gnuNumSymbols.walk data le 4 fuel p idx) := by
  intro fuel
  induction fuel with
  | zero => intro p idx h; omega
  | succ fuel ih =>
    intro p idx h
    rw [Dynamic.gnuNumSymbols.walk]
    split
    · exact Only.bind (Only.throw rfl) (fun _ h => by cases h)
    · rename_i hl
      have hlen : p + 4 ≤ data.length := by
        have := readN_length data p 4
        simp only [bne_iff_ne, ne_eq, Decidable.not_not] at hl
        omega
      dsimp only
      split
      · exact Only.pure _
      · exact ih _ _ (by omega)

theorem walk_steps (data : Bytes) (le : Bool) : ∀ fuel p idx r,
    Dynamic.gnuNumSymbols.walk data le 4 fuel p idx = .ok r → idx < r ∧ r - idx ≤ (data.length - p) / 4 := by
  intro fuel
  induction fuel with
  | zero => intro p idx r h; rw [Dynamic.gnuNumSymbols.walk] at h; cases h
  | succ fuel ih =>
    intro p idx r h
    rw [Dynamic.gnuNumSymbols.walk] at h
    split at h
    · simp [bind, Except.bind, throw, throwThe, MonadExceptOf.throw] at h
    · rename_i hl
      have hlen : p + 4 ≤ data.length := by
        have := readN_length data p 4
        simp only [bne_iff_ne, ne_eq, Decidable.not_not] at hl
        omega
      dsimp only at h
      split at h
      · cases h; omega
      · have := ih _ _ _ h
        omega

theorem nf_pyMax (l : List Val) : NF (Dynamic.pyMax l) := by
  unfold Dynamic.pyMax
  split
  · exact Only.error (by decide)
  · rename_i x xs
    exact Only.bind (nf_asInt _) (fun a _ => nf_foldlM _ (fun _ _ => Only.bind (nf_asInt _) (fun _ _ => Only.pure _)) _ _)

theorem word_sizeofR (c : ElfCfg) : sizeofR (elfStructs c).Elf_word = .ok 4 := by rfl

theorem nf_gnuNumSymbols (env : Env) (c : ElfCfg) (data : Bytes) (le : Bool) (off : Nat) :
    NF (Dynamic.gnuNumSymbols env (elfStructs c) data le off) := by
  unfold Dynamic.gnuNumSymbols
  refine Only.bind (nf_structParseAt (by rfl) data off) ?_
  rintro ⟨params, q⟩ _
  rw [word_sizeofR]
  refine Only.bind (Only.ok _) (fun ws hws => ?_)
  cases hws
  refine Only.bind (nf_sizeofR _) (fun _ _ => Only.bind (nf_getNat _ _) (fun _ _ => Only.bind (nf_getNat _ _) (fun _ _ => ?_)))
  refine Only.bind (nf_getField _ _) (fun _ _ => Only.bind ?_ (fun _ _ => Only.bind (nf_pyMax _) (fun _ _ =>
    Only.bind (nf_getNat _ _) (fun _ _ => ?_))))
  · unfold Dynamic.asList; split
    · exact Only.ok _
    · exact Only.error (by decide)
  · split
    · exact Only.pure _
    · refine Only.bind ?_ (fun _ _ => ?_)
      · unfold seekCheck; split
        · exact Only.error (by decide)
        · exact Only.ok _
      · exact (walk_only data le _ _ _ (Nat.le_refl _)).mono (fun e he => by subst he; decide)

theorem parseFields_named_ok {env : Env} {data : Bytes} {nm : String} {c : Con} {rest : ConFields}
    {obj ctx : Fields} {pos : Nat} {r : Fields × Nat × Fields}
    (h : Con.parseFields env data (.cons (some nm) false c rest) obj ctx pos = .ok r) :
    ∃ v p c', Con.parse env data c ctx pos = .ok (v, p, c') ∧
      Con.parseFields env data rest (Fields.set obj nm v) (Fields.set c' nm v) p = .ok r := by
  rw [Engine.parseFields_cons_named] at h
  obtain ⟨⟨v, p, c'⟩, h1, h2⟩ := bind_ok.1 h
  exact ⟨v, p, c', h1, h2⟩

theorem parseFields_uint_ok {env : Env} {data : Bytes} {nm : String} {k : Nat} {le : Bool} {rest : ConFields}
    {obj ctx : Fields} {pos : Nat} {r : Fields × Nat × Fields} (hk : 0 < k)
    (h : Con.parseFields env data (.cons (some nm) false (.uint k le) rest) obj ctx pos = .ok r) :
    pos + k ≤ data.length ∧
    Con.parseFields env data rest (Fields.set obj nm (.int (decNat le (readN data pos k))))
      (Fields.set ctx nm (.int (decNat le (readN data pos k)))) (pos + k) = .ok r := by
  obtain ⟨v, p, c', h1, h2⟩ := parseFields_named_ok h
  obtain ⟨rfl, rfl, rfl, hl⟩ := parse_uint_full hk h1
  exact ⟨hl, h2⟩

theorem parseFields_array_ctx_ok {env : Env} {data : Bytes} {nm key : String} {k : Nat} {le : Bool} {rest : ConFields}
    {obj ctx : Fields} {pos n : Nat} {r : Fields × Nat × Fields} (hk : 0 < k)
    (hkey : Fields.get? ctx key = some (.int (n : Int)))
    (h : Con.parseFields env data (.cons (some nm) false (.array (.ctx key) (.uint k le)) rest) obj ctx pos = .ok r) :
    (0 < n → pos + n * k ≤ data.length) ∧
    ∃ v, Con.parseFields env data rest (Fields.set obj nm v) (Fields.set ctx nm v) (pos + n * k) = .ok r := by
  obtain ⟨v, p, c', h1, h2⟩ := parseFields_named_ok h
  rw [Engine.parse_array_ctx hkey] at h1
  obtain ⟨e1, e2, e3⟩ := arrayLoop_uint_ok_bound env data k le hk n pos ctx [] _ h1
  simp only at e1 e2
  subst e1; subst e2
  exact ⟨e3, v, h2⟩

theorem structParse_struct_ok {env : Env} {data : Bytes} {fs : ConFields} {off : Nat} {r : Val × Nat}
    (h : structParse env (.struct fs) data off = .ok r) :
    ∃ obj cx, Con.parseFields env data fs [] [] off = .ok (obj, r.2, cx) := by
  unfold structParse at h
  obtain ⟨⟨v, p, cx⟩, hP, hp⟩ := bind_ok.1 h
  simp only [pure, Except.pure, Except.ok.injEq] at hp
  subst hp
  obtain ⟨obj, cx', -, hF⟩ := parse_struct_ok hP
  exact ⟨obj, cx', hF⟩

end PyElf.Proofs.ElfLoops
