/-
  C10, one unit whose entries are laid out as a tree (`TW`), and what that buys: child iteration, the ancestor
  search and subtree iteration answer the tree's children / parent / pre-order flattening in EVERY cache state
  satisfying `UT`, suspended generators included.  `TW` / `UT` are the unit-level halves of the file hypothesis
  `TreeWF` and of the invariant `InvT` of Proofs/HistoryState.lean.
  Everything rests on ONE navigation step, `childNext_pos`: a `next()` of a child generator suspended at a position
  `Pos` of a sibling list, in any such cache state, reports the next entry of the list (or ends at the null entry),
  whichever shortcut the code takes to find where it starts; `W` is what a nested full iteration must do for it.
  `die.iter_siblings()` is the child generator of the owner with the entry itself filtered out (`SibRem`).

  The shape of the hypothesis is C04's (`Spec/DieTree.lean` `flatten` / `sibOk`, proved of the parser in Props/C04);
  here the tree carries this property's `DIE` records and the null entry closing a sibling list is its last element.
-/
import PyElf.Proofs.History
namespace PyElf.Proofs.C10
open PyElf PyElf.Model.Lookup PyElf.Model.C10 PyElf.Proofs.Lookup

inductive DTree
  | mk (d : DIE) (kids : List DTree)

def DTree.d : DTree → DIE | .mk d _ => d
def DTree.kids : DTree → List DTree | .mk _ k => k

mutual
/-- the tree `n` occupies exactly `[s, e)` -/
def Lay : Nat → DTree → Nat → Prop
  | s, .mk d kids, e =>
    d.offset = s ∧ 0 < d.size ∧ (d.isNull = true → d.hasChildren = false) ∧
    (d.hasChildren = true → LayK (s + d.size) kids e ∧ (d.sibling = none ∨ d.sibling = some e)) ∧
    (d.hasChildren = false → kids = [] ∧ e = s + d.size)
/-- a sibling list occupying `[s, e)`: non-null entries, then exactly one null entry -/
def LayK : Nat → List DTree → Nat → Prop
  | _, [], _ => False
  | s, t :: ts, e => ∃ m, Lay s t m ∧ (t.d.isNull = true → ts = [] ∧ e = m) ∧ (t.d.isNull = false → LayK m ts e)
end

mutual
def cnt : DTree → Nat
  | .mk _ kids => 1 + cntF kids
def cntF : List DTree → Nat
  | [] => 0
  | t :: ts => cnt t + cntF ts
end

mutual
/-- pre-order list of the subtrees of a tree, each with the entry that owns it -/
def ents : Option DIE → DTree → List (DTree × Option DIE)
  | p, .mk d kids => (.mk d kids, p) :: entsF d kids
def entsF : DIE → List DTree → List (DTree × Option DIE)
  | _, [] => []
  | p, t :: ts => ents (some p) t ++ entsF p ts
end

theorem lay_def (s : Nat) (n : DTree) (e : Nat) :
    Lay s n e ↔ (n.d.offset = s ∧ 0 < n.d.size ∧ (n.d.isNull = true → n.d.hasChildren = false) ∧
      (n.d.hasChildren = true → LayK (s + n.d.size) n.kids e ∧ (n.d.sibling = none ∨ n.d.sibling = some e)) ∧
      (n.d.hasChildren = false → n.kids = [] ∧ e = s + n.d.size)) := by
  cases n; rw [Lay]; rfl

section
variable {s e : Nat} {n : DTree}

theorem Lay.off (h : Lay s n e) : n.d.offset = s := ((lay_def _ _ _).mp h).1

theorem Lay.size_pos (h : Lay s n e) : 0 < n.d.size := ((lay_def _ _ _).mp h).2.1

theorem Lay.nullLeaf (h : Lay s n e) (hn : n.d.isNull = true) : n.d.hasChildren = false :=
  ((lay_def _ _ _).mp h).2.2.1 hn

theorem Lay.kids (h : Lay s n e) (hc : n.d.hasChildren = true) : LayK (s + n.d.size) n.kids e :=
  (((lay_def _ _ _).mp h).2.2.2.1 hc).1

theorem Lay.sib (h : Lay s n e) (hc : n.d.hasChildren = true) : n.d.sibling = none ∨ n.d.sibling = some e :=
  (((lay_def _ _ _).mp h).2.2.2.1 hc).2

theorem Lay.leaf (h : Lay s n e) (hc : n.d.hasChildren = false) : n.kids = [] ∧ e = s + n.d.size :=
  ((lay_def _ _ _).mp h).2.2.2.2 hc

end

theorem ents_def (p : Option DIE) (n : DTree) : ents p n = (n, p) :: entsF n.d n.kids := by
  cases n; rw [ents]; rfl

theorem cnt_def (n : DTree) : cnt n = 1 + cntF n.kids := by
  cases n; rw [cnt]; rfl

theorem cnt_pos (n : DTree) : 1 ≤ cnt n := by rw [cnt_def]; omega

theorem cntF_mem {c : DTree} : ∀ {ts : List DTree}, c ∈ ts → cnt c ≤ cntF ts
  | [], h => by cases h
  | t :: ts, h => by
    rw [cntF]
    rcases List.mem_cons.mp h with rfl | h
    · omega
    · have := cntF_mem h; omega

theorem cnt_kid {c n : DTree} (h : c ∈ n.kids) : cnt c < cnt n := by
  have := cntF_mem h; rw [cnt_def n]; omega

mutual
theorem lay_cnt : ∀ (n : DTree) (s e : Nat), Lay s n e → s + cnt n ≤ e
  | .mk d kids, s, e, h => by
    rw [Lay] at h
    obtain ⟨_, h2, _, h4, h5⟩ := h
    rw [cnt]
    cases hc : d.hasChildren with
    | true => have := layK_cnt kids _ _ (h4 hc).1; omega
    | false => obtain ⟨hk, he⟩ := h5 hc; subst hk; simp only [cntF]; omega
theorem layK_cnt : ∀ (ts : List DTree) (s e : Nat), LayK s ts e → s + cntF ts ≤ e
  | [], s, e, h => by rw [LayK] at h; exact h.elim
  | t :: ts, s, e, h => by
    rw [LayK] at h
    obtain ⟨m, h1, h2, h3⟩ := h
    have := lay_cnt t s m h1
    rw [cntF]
    cases hn : t.d.isNull with
    | true => obtain ⟨hts, he⟩ := h2 hn; subst hts; simp only [cntF]; omega
    | false => have := layK_cnt ts m e (h3 hn); omega
end

def offLt (a b : DTree × Option DIE) : Prop := a.1.d.offset < b.1.d.offset

theorem pairwise_unique {α} {f : α → Nat} : ∀ {l : List α}, l.Pairwise (fun a b => f a < f b) →
    ∀ {a b : α}, a ∈ l → b ∈ l → f a = f b → a = b
  | [], _, a, b, ha, _, _ => by cases ha
  | x :: l, h, a, b, ha, hb, hab => by
    obtain ⟨h1, h2⟩ := List.pairwise_cons.mp h
    rcases List.mem_cons.mp ha with ha' | ha' <;> rcases List.mem_cons.mp hb with hb' | hb'
    · rw [ha', hb']
    · subst ha'; have := h1 b hb'; omega
    · subst hb'; have := h1 a ha'; omega
    · exact pairwise_unique h2 ha' hb' hab

theorem ents_self (p : Option DIE) (n : DTree) : (n, p) ∈ ents p n := by rw [ents_def]; exact List.mem_cons_self

mutual
theorem ents_sub : ∀ (t : DTree) (p : Option DIE) (n : DTree) (q : Option DIE), (n, q) ∈ ents p t →
    ∀ x ∈ ents q n, x ∈ ents p t
  | .mk d kids, p, n, q, h, x, hx => by
    rw [ents] at h
    rcases List.mem_cons.mp h with h | h
    · injection h with h1 h2; subst h1 h2; exact hx
    · rw [ents]; exact List.mem_cons_of_mem _ (entsF_sub kids d n q h x hx)
theorem entsF_sub : ∀ (ts : List DTree) (p : DIE) (n : DTree) (q : Option DIE), (n, q) ∈ entsF p ts →
    ∀ x ∈ ents q n, x ∈ entsF p ts
  | [], p, n, q, h, x, hx => by simp [entsF] at h
  | t :: ts, p, n, q, h, x, hx => by
    rw [entsF] at h ⊢
    rcases List.mem_append.mp h with h | h
    · exact List.mem_append_left _ (ents_sub t (some p) n q h x hx)
    · exact List.mem_append_right _ (entsF_sub ts p n q h x hx)
end

mutual
theorem ents_lay : ∀ (t : DTree) (p : Option DIE) (s e : Nat), Lay s t e → ∀ n q, (n, q) ∈ ents p t →
    ∃ e', Lay n.d.offset n e' ∧ s ≤ n.d.offset ∧ e' ≤ e
  | .mk d kids, p, s, e, hl, n, q, h => by
    rw [ents] at h
    rcases List.mem_cons.mp h with h | h
    · injection h with h1 h2; subst h1
      have : d.offset = s := by rw [Lay] at hl; exact hl.1
      exact ⟨e, by simpa [DTree.d, this] using hl, by simp [DTree.d, this], Nat.le_refl _⟩
    · rw [Lay] at hl
      obtain ⟨_, _, _, h4, h5⟩ := hl
      cases hc : d.hasChildren with
      | true =>
        obtain ⟨e', h1, h2, h3⟩ := entsF_lay kids d _ _ (h4 hc).1 n q h
        exact ⟨e', h1, by omega, h3⟩
      | false => obtain ⟨hk, _⟩ := h5 hc; subst hk; simp [entsF] at h
theorem entsF_lay : ∀ (ts : List DTree) (p : DIE) (s e : Nat), LayK s ts e → ∀ n q, (n, q) ∈ entsF p ts →
    ∃ e', Lay n.d.offset n e' ∧ s ≤ n.d.offset ∧ e' ≤ e
  | [], p, s, e, hl, n, q, h => by simp [entsF] at h
  | t :: ts, p, s, e, hl, n, q, h => by
    rw [LayK] at hl
    obtain ⟨m, h1, h2, h3⟩ := hl
    have hlt := lay_cnt t s m h1
    rw [entsF] at h
    cases hn : t.d.isNull with
    | true =>
      obtain ⟨hts, he⟩ := h2 hn; subst hts
      simp only [entsF, List.append_nil] at h
      obtain ⟨e', a, b, c⟩ := ents_lay t (some p) s m h1 n q h
      exact ⟨e', a, b, by omega⟩
    | false =>
      have hle := layK_cnt ts m e (h3 hn)
      rcases List.mem_append.mp h with h | h
      · obtain ⟨e', a, b, c⟩ := ents_lay t (some p) s m h1 n q h
        exact ⟨e', a, b, by omega⟩
      · obtain ⟨e', a, b, c⟩ := entsF_lay ts p m e (h3 hn) n q h
        exact ⟨e', a, by omega, c⟩
end

theorem ents_bounds (n : DTree) (p : Option DIE) (s e : Nat) (h : Lay s n e) (x : DTree × Option DIE) (hx : x ∈ ents p n) :
    s ≤ x.1.d.offset ∧ x.1.d.offset < e := by
  obtain ⟨e', h1, h2, h3⟩ := ents_lay n p s e h x.1 x.2 hx
  have := lay_cnt _ _ _ h1; have := cnt_pos x.1; omega

theorem entsF_bounds (ts : List DTree) (p : DIE) (s e : Nat) (h : LayK s ts e) (x : DTree × Option DIE)
    (hx : x ∈ entsF p ts) : s ≤ x.1.d.offset ∧ x.1.d.offset < e := by
  obtain ⟨e', h1, h2, h3⟩ := entsF_lay ts p s e h x.1 x.2 hx
  have := lay_cnt _ _ _ h1; have := cnt_pos x.1; omega

mutual
theorem ents_sorted : ∀ (n : DTree) (p : Option DIE) (s e : Nat), Lay s n e → (ents p n).Pairwise offLt
  | .mk d kids, p, s, e, h => by
    rw [Lay] at h
    obtain ⟨h1, h2, _, h4, h5⟩ := h
    rw [ents]
    cases hc : d.hasChildren with
    | true =>
      refine List.pairwise_cons.mpr ⟨?_, entsF_sorted kids d _ _ (h4 hc).1⟩
      intro x hx
      have := entsF_bounds kids d _ _ (h4 hc).1 x hx
      show d.offset < x.1.d.offset
      omega
    | false => obtain ⟨hk, _⟩ := h5 hc; subst hk; simp [entsF]
theorem entsF_sorted : ∀ (ts : List DTree) (p : DIE) (s e : Nat), LayK s ts e → (entsF p ts).Pairwise offLt
  | [], p, s, e, h => by simp [entsF]
  | t :: ts, p, s, e, h => by
    rw [LayK] at h
    obtain ⟨m, h1, h2, h3⟩ := h
    rw [entsF]
    cases hn : t.d.isNull with
    | true =>
      obtain ⟨hts, he⟩ := h2 hn; subst hts
      simp only [entsF, List.append_nil]
      exact ents_sorted t (some p) s m h1
    | false =>
      refine List.pairwise_append.mpr ⟨ents_sorted t (some p) s m h1, entsF_sorted ts p m e (h3 hn), ?_⟩
      intro a ha b hb
      have := ents_bounds t (some p) s m h1 a ha
      have := entsF_bounds ts p m e (h3 hn) b hb
      show a.1.d.offset < b.1.d.offset
      omega
end

theorem mem_entsF_of_mem {k : DTree} (p : DIE) : ∀ {ts : List DTree}, k ∈ ts → (k, some p) ∈ entsF p ts
  | [], h => by cases h
  | t :: ts, h => by
    rw [entsF]
    rcases List.mem_cons.mp h with rfl | h
    · exact List.mem_append_left _ (ents_self _ _)
    · exact List.mem_append_right _ (mem_entsF_of_mem p h)

theorem ents_kid {t : DTree} {p q : Option DIE} {n k : DTree} (h : (n, q) ∈ ents p t) (hk : k ∈ n.kids) :
    (k, some n.d) ∈ ents p t := by
  apply ents_sub t p n q h
  rw [ents_def]
  exact List.mem_cons_of_mem _ (mem_entsF_of_mem n.d hk)

mutual
theorem ents_parent : ∀ (t : DTree) (p0 : Option DIE) (x : DTree × Option DIE), x ∈ ents p0 t →
    x = (t, p0) ∨ ∃ n q, (n, q) ∈ ents p0 t ∧ x.2 = some n.d ∧ x.1 ∈ n.kids
  | .mk d kids, p0, x, h => by
    rw [ents] at h
    rcases List.mem_cons.mp h with h | h
    · exact Or.inl h
    · right
      rcases entsF_parent kids d x h with ⟨h1, h2⟩ | ⟨n, q, h1, h2, h3⟩
      · exact ⟨.mk d kids, p0, ents_self _ _, h1, h2⟩
      · exact ⟨n, q, by rw [ents]; exact List.mem_cons_of_mem _ h1, h2, h3⟩
theorem entsF_parent : ∀ (ts : List DTree) (p : DIE) (x : DTree × Option DIE), x ∈ entsF p ts →
    (x.2 = some p ∧ x.1 ∈ ts) ∨ ∃ n q, (n, q) ∈ entsF p ts ∧ x.2 = some n.d ∧ x.1 ∈ n.kids
  | [], p, x, h => by simp [entsF] at h
  | t :: ts, p, x, h => by
    rw [entsF] at h ⊢
    rcases List.mem_append.mp h with h | h
    · rcases ents_parent t (some p) x h with h1 | ⟨n, q, h1, h2, h3⟩
      · left; rw [h1]; exact ⟨rfl, List.mem_cons_self⟩
      · exact Or.inr ⟨n, q, List.mem_append_left _ h1, h2, h3⟩
    · rcases entsF_parent ts p x h with ⟨h1, h2⟩ | ⟨n, q, h1, h2, h3⟩
      · exact Or.inl ⟨h1, List.mem_cons_of_mem _ h2⟩
      · exact Or.inr ⟨n, q, List.mem_append_right _ h1, h2, h3⟩
end

theorem layK_last : ∀ (ts : List DTree) (s e : Nat), LayK s ts e →
    ∃ z, ts.getLast? = some z ∧ z.d.isNull = true ∧ z.d.hasChildren = false ∧ z.d.offset + z.d.size = e ∧
      ∀ k ∈ ts, k.d.isNull = true → k = z
  | [], s, e, h => by rw [LayK] at h; exact h.elim
  | [t], s, e, h => by
    rw [LayK] at h
    obtain ⟨m, h1, h2, h3⟩ := h
    cases hn : t.d.isNull with
    | true =>
      obtain ⟨_, he⟩ := h2 hn
      have hc := h1.nullLeaf hn
      exact ⟨t, rfl, hn, hc, by have := (h1.leaf hc).2; have := h1.off; omega, fun k hk _ => List.mem_singleton.mp hk⟩
    | false => have := h3 hn; rw [LayK] at this; exact this.elim
  | t :: t' :: ts, s, e, h => by
    rw [LayK] at h
    obtain ⟨m, h1, h2, h3⟩ := h
    cases hn : t.d.isNull with
    | true => obtain ⟨hts, _⟩ := h2 hn; cases hts
    | false =>
      obtain ⟨z, hz, r1, r2, r3, r4⟩ := layK_last (t' :: ts) m e (h3 hn)
      refine ⟨z, by rw [List.getLast?_cons_cons]; exact hz, r1, r2, r3, fun k hk hkn => ?_⟩
      rcases List.mem_cons.mp hk with rfl | hk
      · rw [hn] at hkn; cases hkn
      · exact r4 k hk hkn

/-- the pure side of a unit: laid out from the first DIE offset, and the parse at every entry's offset is that entry -/
structure TW (PD : Nat → R DIE) (dieOff : Nat) (t : DTree) : Prop where
  hPo : ∀ o d, PD o = .ok d → d.offset = o
  lay : ∃ e, Lay dieOff t e
  cov : ∀ x ∈ ents none t, PD x.1.d.offset = .ok x.1.d

def lastKid (n : DTree) : Option DIE := (n.kids.getLast?).map (·.d)
def kidsOut (ts : List DTree) : List DIE := (ts.map (·.d)).filter (fun d => !d.isNull)

/-- `UCore`, and the `_parent` / `_terminator` links set so far are the tree's -/
structure UT (PD : Nat → R DIE) (dieOff : Nat) (t : DTree) (u : UnitCache) : Prop where
  core : UCore PD dieOff u
  par : ∀ k p, assocGet? u.parent k = some p → ∃ x ∈ ents none t, x.1.d.offset = k ∧ x.2 = some p
  term : ∀ k z, assocGet? u.term k = some z →
    ∃ x ∈ ents none t, x.1.d.offset = k ∧ x.1.d.hasChildren = true ∧ lastKid x.1 = some z

theorem ut_empty (PD : Nat → R DIE) (dieOff : Nat) (t : DTree) (pos : Nat) : UT PD dieOff t (UnitCache.empty pos) :=
  { core := ucore_empty _ _ _, par := fun k p h => by simp [UnitCache.empty, assocGet?] at h,
    term := fun k z h => by simp [UnitCache.empty, assocGet?] at h }

theorem ut_congr {PD : Nat → R DIE} {dieOff : Nat} {t : DTree} {u u' : UnitCache} (h : UT PD dieOff t u)
    (hc : UCore PD dieOff u') (h1 : u'.parent = u.parent) (h2 : u'.term = u.term) : UT PD dieOff t u' :=
  { core := hc, par := by rw [h1]; exact h.par, term := by rw [h2]; exact h.term }

section unit
variable {PD : Nat → R DIE} {dieOff : Nat} {t : DTree}

theorem tw_root (tw : TW PD dieOff t) : t.d.offset = dieOff := by
  obtain ⟨e, he⟩ := tw.lay
  exact he.off

theorem tw_top (tw : TW PD dieOff t) : PD dieOff = .ok t.d := by
  have := tw.cov _ (ents_self none t)
  rwa [tw_root tw] at this

theorem tw_low (tw : TW PD dieOff t) {x : DTree × Option DIE} (hx : x ∈ ents none t) : dieOff ≤ x.1.d.offset := by
  obtain ⟨e, he⟩ := tw.lay
  exact (ents_bounds t none _ _ he x hx).1

theorem tw_unique (tw : TW PD dieOff t) {x y : DTree × Option DIE} (hx : x ∈ ents none t) (hy : y ∈ ents none t)
    (h : x.1.d.offset = y.1.d.offset) : x = y := by
  obtain ⟨e, he⟩ := tw.lay
  exact pairwise_unique (f := fun a => a.1.d.offset) (ents_sorted t none _ _ he) hx hy h

theorem owner_unique (tw : TW PD dieOff t) {x : DTree × Option DIE} {n n' : DTree} {q q' : Option DIE}
    (hn : (n, q) ∈ ents none t) (hn' : (n', q') ∈ ents none t) (hp : x.2 = some n.d) (hp' : x.2 = some n'.d) :
    n = n' := by
  have hd : n.d = n'.d := by rw [hp] at hp'; injection hp'
  exact congrArg Prod.fst (tw_unique tw hn hn' (by rw [hd]))

theorem tw_lay (tw : TW PD dieOff t) {n : DTree} {q : Option DIE} (h : (n, q) ∈ ents none t) :
    ∃ e', Lay n.d.offset n e' := by
  obtain ⟨e, he⟩ := tw.lay
  obtain ⟨e', h1, _⟩ := ents_lay t none _ _ he n q h
  exact ⟨e', h1⟩

theorem tw_cnt {n : DTree} {q : Option DIE} (h : (n, q) ∈ ents none t) {e : Nat}
    (he : Lay dieOff t e) : cnt n ≤ e - dieOff := by
  obtain ⟨e', h1, h2, h3⟩ := ents_lay t none _ _ he n q h
  have := lay_cnt n _ _ h1
  omega

theorem getTopDIE_tw (tw : TW PD dieOff t) {u : UnitCache} (hu : UT PD dieOff t u) :
    ∃ u', getTopDIE PD dieOff u = (.ok t.d, u') ∧ UT PD dieOff t u' := by
  obtain ⟨h1, h2, _⟩ := getTopDIE_spec tw.hPo hu.core
  obtain ⟨h3, h4⟩ := getTopDIE_maps (PD := PD) (dieOff := dieOff) u
  rw [tw_top tw] at h1
  exact pair_of_fst_snd ⟨h1, ut_congr hu h2 h3 h4⟩

theorem getCachedDIE_tw (tw : TW PD dieOff t) {u : UnitCache} (hu : UT PD dieOff t u) {x : DTree × Option DIE}
    (hx : x ∈ ents none t) :
    ∃ u', getCachedDIE PD dieOff u x.1.d.offset = (.ok x.1.d, u') ∧ UT PD dieOff t u' := by
  obtain ⟨h1, h2⟩ := getCachedDIE_spec tw.hPo hu.core (tw_low tw hx)
  obtain ⟨h3, h4⟩ := getCachedDIE_maps (PD := PD) (dieOff := dieOff) u x.1.d.offset
  rw [tw_top tw, tw.cov x hx] at h1
  exact pair_of_fst_snd ⟨h1, ut_congr hu h2 h3 h4⟩

theorem ut_setParent {u : UnitCache} (hu : UT PD dieOff t u) {x : DTree × Option DIE} (hx : x ∈ ents none t) {p : DIE}
    (hp : x.2 = some p) : UT PD dieOff t { u with parent := assocSet u.parent x.1.d.offset p } :=
  { core := ucore_congr hu.core rfl rfl
    par := assocSet_forall (P := fun k p => ∃ x ∈ ents none t, x.1.d.offset = k ∧ x.2 = some p) hu.par ⟨x, hx, rfl, hp⟩
    term := hu.term }

theorem ut_setTerm {u : UnitCache} (hu : UT PD dieOff t u) {x : DTree × Option DIE} (hx : x ∈ ents none t)
    (hc : x.1.d.hasChildren = true) {z : DIE} (hz : lastKid x.1 = some z) :
    UT PD dieOff t { u with term := assocSet u.term x.1.d.offset z } :=
  { core := ucore_congr hu.core rfl rfl
    par := hu.par
    term := assocSet_forall (P := fun k z => ∃ x ∈ ents none t, x.1.d.offset = k ∧ x.1.d.hasChildren = true ∧
      lastKid x.1 = some z) hu.term ⟨x, hx, rfl, hc, hz⟩ }

/-- what a full `iter_DIE_children(c)` does; afterwards the terminator of `c` is known and carries its `_parent`.
    Fuel `2 * cnt c + 1`: `drain` and `childNext` call each other, so every entry of the subtree (nested full
    iterations included) costs two units, the closing `none` one. -/
def W (PD : Nat → R DIE) (dieOff : Nat) (t c : DTree) : Prop :=
  ∀ fuel u, 2 * cnt c + 1 ≤ fuel → UT PD dieOff t u →
    ∃ u', drain PD dieOff fuel (ChildIter.new c.d) u [] = (.ok (kidsOut c.kids), u') ∧ UT PD dieOff t u' ∧
      (c.d.hasChildren = true → ∃ z, lastKid c = some z ∧ assocGet? u'.term c.d.offset = some z ∧
        assocGet? u'.parent z.offset = some c.d)

/-- the code after `yield child`: whichever shortcut applies (no children, DW_AT_sibling, a cached `_terminator`, a
    nested full iteration), the next sibling starts where the child's subtree ends -/
theorem nextCur_pos (tw : TW PD dieOff t) {c : DTree} {q : Option DIE} {m : Nat} (hc : (c, q) ∈ ents none t)
    (hlay : Lay c.d.offset c m) (hW : W PD dieOff t c) {it : ChildIter} (hl : it.last = some c.d)
    (hcur : it.cur = c.d.offset) {f : Nat} (hf : 2 * cnt c + 1 ≤ f) {u : UnitCache} (hu : UT PD dieOff t u) :
    ∃ u', nextCur (fun it u acc => drain PD dieOff f it u acc) it u = (.ok m, u') ∧ UT PD dieOff t u' := by
  unfold nextCur
  rw [hl]
  simp only
  cases hch : c.d.hasChildren with
  | false =>
    simp only [Bool.not_false, if_true]
    refine ⟨u, ?_, hu⟩
    rw [hcur, (hlay.leaf hch).2]
  | true =>
    simp only [Bool.not_true, Bool.false_eq_true, if_false]
    have lk := hlay.kids hch
    have ls := hlay.sib hch
    obtain ⟨z, hz1, hz2, hz3, hz4, _⟩ := layK_last _ _ _ lk
    have hlast : lastKid c = some z.d := by simp [lastKid, hz1]
    cases hs : c.d.sibling with
    | some s =>
      simp only
      rcases ls with ls | ls
      · rw [hs] at ls; cases ls
      · rw [hs] at ls; injection ls with ls; subst ls; exact ⟨u, rfl, hu⟩
    | none =>
      simp only
      cases hg : assocGet? u.term c.d.offset with
      | some z' =>
        simp only
        obtain ⟨x, hx, hx1, hx2, hx3⟩ := hu.term _ _ hg
        have : x = (c, q) := tw_unique tw hx hc hx1
        subst this
        rw [hlast] at hx3; injection hx3 with hx3; subst hx3
        exact ⟨u, by rw [hz4], hu⟩
      | none =>
        simp only
        obtain ⟨u', hd, hu', hz⟩ := hW f u hf hu
        rw [hd]
        simp only
        obtain ⟨z', hz'1, hz'2, _⟩ := hz hch
        rw [hlast] at hz'1; injection hz'1 with hz'1; subst hz'1
        rw [hz'2]
        exact ⟨u', by simp only [hz4], hu'⟩

/-- a suspended `iter_DIE_children(n)` generator: `ts` is the part of the sibling list not yet produced, it
    starts at `m`; `w` bounds the fuel the next step needs: the size of the subtree of the child yielded last (a
    nested full iteration may have to walk it), any positive number before the first child -/
structure Pos (t n : DTree) (ci : ChildIter) (m : Nat) (ts : List DTree) (w : Nat) : Prop where
  die : ci.die = n.d
  nd : ci.done = false
  hc : n.d.hasChildren = true
  suf : ∃ pre, n.kids = pre ++ ts
  lay : ∃ e, LayK m ts e
  wpos : 1 ≤ w
  last : (ci.last = none ∧ m = n.d.offset + n.d.size) ∨
         (∃ c q, ci.last = some c.d ∧ ci.cur = c.d.offset ∧ Lay c.d.offset c m ∧ (c, q) ∈ ents none t ∧ c ∈ n.kids ∧
            w = cnt c)

theorem nextCur_at (tw : TW PD dieOff t) {n : DTree}
    (hW : ∀ c q, (c, q) ∈ ents none t → c ∈ n.kids → W PD dieOff t c) {ci : ChildIter} {m : Nat} {ts : List DTree}
    {w : Nat} (hp : Pos t n ci m ts w) {f : Nat} (hf : 2 * w + 1 ≤ f) {u : UnitCache} (hu : UT PD dieOff t u) :
    ∃ u', nextCur (fun it u acc => drain PD dieOff f it u acc) ci u = (.ok m, u') ∧ UT PD dieOff t u' := by
  rcases hp.last with ⟨hl, hm⟩ | ⟨c, q, hl, hcur, hlay, hc, hck, hw⟩
  · refine ⟨u, ?_, hu⟩
    unfold nextCur; rw [hl]; simp only; rw [hp.die, hm]
  · subst hw; exact nextCur_pos tw hc hlay (hW c q hc hck) hl hcur hf hu

theorem childStep_eq {D : Drain} {it : ChildIter} {u u1 u2 : UnitCache} {cur : Nat} {child : DIE}
    (hd : it.done = false) (hc : it.die.hasChildren = true) (h1 : nextCur D it u = (.ok cur, u1))
    (h2 : getCachedDIE PD dieOff u1 cur = (.ok child, u2)) :
    childStep PD dieOff D it u =
      (if child.isNull then
        (.ok none, { it with done := true },
          { u2 with parent := assocSet u2.parent child.offset it.die, term := assocSet u2.term it.die.offset child })
       else (.ok (some child), { it with started := true, cur := cur, last := some child },
          { u2 with parent := assocSet u2.parent child.offset it.die })) := by
  unfold childStep
  simp only [hd, hc, h1, h2, Bool.false_eq_true, if_false, Bool.not_true]

theorem childNext_pos (tw : TW PD dieOff t) {n : DTree} {q : Option DIE} (hn : (n, q) ∈ ents none t)
    (hW : ∀ c q, (c, q) ∈ ents none t → c ∈ n.kids → W PD dieOff t c) {ci : ChildIter} {m : Nat} {k : DTree}
    {ts : List DTree} {w : Nat} (hp : Pos t n ci m (k :: ts) w) {fuel : Nat} (hf : 2 * w + 2 ≤ fuel) {u : UnitCache}
    (hu : UT PD dieOff t u) :
    (k.d.isNull = true → ∃ u', childNext PD dieOff fuel ci u = (.ok none, { ci with done := true }, u') ∧
        UT PD dieOff t u' ∧ ts = [] ∧ assocGet? u'.term n.d.offset = some k.d ∧
        assocGet? u'.parent k.d.offset = some n.d) ∧
    (k.d.isNull = false → ∃ ci' u' m', childNext PD dieOff fuel ci u = (.ok (some k.d), ci', u') ∧
        UT PD dieOff t u' ∧ Pos t n ci' m' ts (cnt k) ∧ assocGet? u'.parent k.d.offset = some n.d) := by
  obtain ⟨f, rfl⟩ : ∃ f, fuel = f + 1 := ⟨fuel - 1, by omega⟩
  obtain ⟨u1, h1, hu1⟩ := nextCur_at tw hW hp (f := f) (by omega) hu
  obtain ⟨e, hlk⟩ := hp.lay
  rw [LayK] at hlk
  obtain ⟨m', lk1, lk2, lk3⟩ := hlk
  have hkm : k.d.offset = m := lk1.off
  obtain ⟨pre, hpre⟩ := hp.suf
  have hkk : k ∈ n.kids := by rw [hpre]; simp
  have hke : (k, some n.d) ∈ ents none t := ents_kid hn hkk
  obtain ⟨u2, h2, hu2⟩ := getCachedDIE_tw tw hu1 hke
  simp only at h2
  rw [hkm] at h2
  have hstep := childStep_eq (PD := PD) (dieOff := dieOff) hp.nd (by rw [hp.die]; exact hp.hc) h1 h2
  rw [childNext, hstep]
  have hP := ut_setParent hu2 hke (p := n.d) rfl
  constructor
  · intro hnull
    simp only [hnull, if_true]
    obtain ⟨hts, _⟩ := lk2 hnull
    have hlast : lastKid n = some k.d := by simp [lastKid, hpre, hts]
    have hT := ut_setTerm hP hn hp.hc hlast
    refine ⟨_, rfl, ?_, hts, ?_, ?_⟩
    · rw [hp.die]; exact hT
    · simp only [hp.die, assocGet_set_self]
    · simp only [hp.die, assocGet_set_self]
  · intro hnn
    simp only [hnn, Bool.false_eq_true, if_false]
    refine ⟨_, _, m', rfl, ?_, ?_, ?_⟩
    · rw [hp.die]; exact hP
    · exact { die := hp.die, nd := hp.nd, hc := hp.hc, suf := ⟨pre ++ [k], by rw [hpre]; simp⟩,
              lay := ⟨e, lk3 hnn⟩, wpos := cnt_pos k,
              last := Or.inr ⟨k, some n.d, rfl, hkm.symm, by rw [hkm]; exact lk1, hke, hkk, rfl⟩ }
    · simp only [hp.die, assocGet_set_self]

/-- by recursion on the rest `ts` of the sibling list: one `childNext_pos` each, ending at the null entry; fuel: two
    per entry of the subtrees still to come -/
theorem drain_pos (tw : TW PD dieOff t) {n : DTree} {q : Option DIE} (hn : (n, q) ∈ ents none t)
    (hW : ∀ c q, (c, q) ∈ ents none t → c ∈ n.kids → W PD dieOff t c) :
    ∀ (ts : List DTree) (ci : ChildIter) (m w fuel : Nat) (u : UnitCache) (acc : List DIE), Pos t n ci m ts w →
      2 * w + 2 * cntF ts + 1 ≤ fuel → UT PD dieOff t u →
      ∃ u' z, drain PD dieOff fuel ci u acc = (.ok (acc ++ kidsOut ts), u') ∧ UT PD dieOff t u' ∧
        (ts.getLast?).map (·.d) = some z ∧ assocGet? u'.term n.d.offset = some z ∧
        assocGet? u'.parent z.offset = some n.d
  | [], ci, m, w, fuel, u, acc, hp, _, _ => by obtain ⟨e, h⟩ := hp.lay; rw [LayK] at h; exact h.elim
  | k :: ts, ci, m, w, fuel, u, acc, hp, hf, hu => by
    have hw := hp.wpos
    have hk := cnt_pos k
    rw [cntF] at hf
    obtain ⟨f, rfl⟩ : ∃ f, fuel = f + 1 := ⟨fuel - 1, by omega⟩
    obtain ⟨hA, hB⟩ := childNext_pos tw hn hW hp (fuel := f) (by omega) hu
    rw [drain]
    cases hnull : k.d.isNull with
    | true =>
      obtain ⟨u', h1, hu', hts, h2, h3⟩ := hA hnull
      subst hts
      rw [h1]
      refine ⟨u', k.d, ?_, hu', rfl, h2, h3⟩
      simp [kidsOut, hnull]
    | false =>
      obtain ⟨ci', u', m', h1, hu', hp', _⟩ := hB hnull
      rw [h1]
      simp only
      obtain ⟨u'', z, h2, hu'', hz, r⟩ :=
        drain_pos tw hn hW ts ci' m' (cnt k) f u' (acc ++ [k.d]) hp' (by omega) hu'
      refine ⟨u'', z, ?_, hu'', ?_, r⟩
      · rw [h2]; simp [kidsOut, hnull]
      · cases ts with
        | nil => simp at hz
        | cons t' ts' => rw [List.getLast?_cons_cons]; exact hz

theorem W_of_kids (tw : TW PD dieOff t) {n : DTree} {q : Option DIE} (hn : (n, q) ∈ ents none t)
    (hW : ∀ c q, (c, q) ∈ ents none t → c ∈ n.kids → W PD dieOff t c) : W PD dieOff t n := by
  intro fuel u hf hu
  obtain ⟨e, hlay⟩ := tw_lay tw hn
  cases hch : n.d.hasChildren with
  | false =>
    obtain ⟨hk, _⟩ := hlay.leaf hch
    obtain ⟨f, rfl⟩ : ∃ f, fuel = f + 2 := ⟨fuel - 2, by have := cnt_pos n; omega⟩
    refine ⟨u, ?_, hu, by intro h; cases h⟩
    rw [drain, childNext]
    simp [childStep, ChildIter.new, hch, hk, kidsOut]
  | true =>
    have hp : Pos t n (ChildIter.new n.d) (n.d.offset + n.d.size) n.kids 1 :=
      { die := rfl, nd := rfl, hc := hch, suf := ⟨[], rfl⟩, lay := ⟨e, hlay.kids hch⟩, wpos := Nat.le_refl _,
        last := Or.inl ⟨rfl, rfl⟩ }
    obtain ⟨u', z, h1, hu', hz, h2, h3⟩ :=
      drain_pos tw hn hW n.kids _ _ _ fuel u [] hp (by rw [cnt_def] at hf; omega) hu
    exact ⟨u', by simpa using h1, hu', fun _ => ⟨z, hz, h2, h3⟩⟩

theorem drain_tree (tw : TW PD dieOff t) {n : DTree} {q : Option DIE} (hn : (n, q) ∈ ents none t) :
    W PD dieOff t n := by
  suffices h : ∀ (N : Nat) (n : DTree) (q : Option DIE), cnt n ≤ N → (n, q) ∈ ents none t → W PD dieOff t n from
    h (cnt n) n q (Nat.le_refl _) hn
  intro N
  induction N with
  | zero => intro n q h; have := cnt_pos n; omega
  | succ N ih =>
    intro n q h hn
    exact W_of_kids tw hn (fun c q' hc hck => ih c q' (by have := cnt_kid hck; omega) hc)

/-- `childNext_pos` with the nested iterations answered by `drain_tree` and the fuel bounded by the unit's extent;
    the side condition `hw`, which `FrameAt` and `ChildRem` carry beside every `Pos`, serves only to bound `w` so -/
theorem childNext_at (tw : TW PD dieOff t) {e : Nat} (he : Lay dieOff t e) {n : DTree} {q : Option DIE}
    (hn : (n, q) ∈ ents none t) {ci : ChildIter} {m : Nat} {ts : List DTree} {w : Nat} (hp : Pos t n ci m ts w)
    (hw : w = 1 ∨ ∃ c q', (c, q') ∈ ents none t ∧ w = cnt c) {fuel : Nat} (hf : 2 * (e - dieOff) + 2 ≤ fuel)
    {u : UnitCache} (hu : UT PD dieOff t u) :
    ∃ k ts', ts = k :: ts' ∧ (k, some n.d) ∈ ents none t ∧
      (k.d.isNull = true → ∃ u', childNext PD dieOff fuel ci u = (.ok none, { ci with done := true }, u') ∧
        UT PD dieOff t u' ∧ ts' = [] ∧ assocGet? u'.term n.d.offset = some k.d) ∧
      (k.d.isNull = false → ∃ ci' u' m', childNext PD dieOff fuel ci u = (.ok (some k.d), ci', u') ∧
        UT PD dieOff t u' ∧ Pos t n ci' m' ts' (cnt k)) := by
  have hwb : w ≤ e - dieOff := by
    rcases hw with rfl | ⟨c, q', hc, rfl⟩
    · have := tw_cnt hn he; have := cnt_pos n; omega
    · exact tw_cnt hc he
  cases ts with
  | nil => obtain ⟨e', h'⟩ := hp.lay; rw [LayK] at h'; exact h'.elim
  | cons k ts' =>
    obtain ⟨hA, hB⟩ := childNext_pos tw hn (fun c q hc _ => drain_tree tw hc) hp (fuel := fuel) (by omega) hu
    obtain ⟨pre, hpre⟩ := hp.suf
    refine ⟨k, ts', rfl, ents_kid hn (by rw [hpre]; simp), fun h => ?_, fun h => ?_⟩
    · obtain ⟨u', h1, hu', hts, h2, _⟩ := hA h
      exact ⟨u', h1, hu', hts, h2⟩
    · obtain ⟨ci', u', m', h1, hu', hp', _⟩ := hB h
      exact ⟨ci', u', m', h1, hu', hp'⟩

theorem foldl_parent_get (search : DIE) : ∀ (cs : List DIE) (u : UnitCache),
    (cs.foldl (fun u c => { u with parent := assocSet u.parent c.offset search }) u).term = u.term ∧
    (∀ k, (∃ c ∈ cs, c.offset = k) →
      assocGet? (cs.foldl (fun u c => { u with parent := assocSet u.parent c.offset search }) u).parent k = some search) ∧
    (∀ k, (¬ ∃ c ∈ cs, c.offset = k) →
      assocGet? (cs.foldl (fun u c => { u with parent := assocSet u.parent c.offset search }) u).parent k
        = assocGet? u.parent k)
  | [], u => by
    refine ⟨rfl, ?_, fun k _ => rfl⟩
    intro k h; obtain ⟨c, hc, _⟩ := h; cases hc
  | c :: cs, u => by
    obtain ⟨h1, h2, h3⟩ := foldl_parent_get search cs { u with parent := assocSet u.parent c.offset search }
    simp only [List.foldl_cons]
    refine ⟨h1, ?_, ?_⟩
    · intro k hk
      by_cases hin : ∃ c' ∈ cs, c'.offset = k
      · exact h2 k hin
      · rw [h3 k hin]
        obtain ⟨c', hc', hk'⟩ := hk
        rcases List.mem_cons.mp hc' with rfl | hc'
        · subst hk'; simp only [assocGet_set_self]
        · exact absurd ⟨c', hc', hk'⟩ hin
    · intro k hk
      have hin : ¬ ∃ c' ∈ cs, c'.offset = k := fun ⟨c', hc', hk'⟩ => hk ⟨c', List.mem_cons_of_mem _ hc', hk'⟩
      rw [h3 k hin]
      have hne : k ≠ c.offset := fun h => hk ⟨c, List.mem_cons_self, h.symm⟩
      simp only [assocGet_set_other _ _ _ _ hne]

theorem kidsOut_length_le (ts : List DTree) : (kidsOut ts).length ≤ ts.length :=
  Nat.le_trans (List.length_filter_le _ _) (by rw [List.length_map]; exact Nat.le_refl _)

theorem kids_length_le : ∀ (ts : List DTree), ts.length ≤ cntF ts
  | [] => by simp [cntF]
  | t :: ts => by have := kids_length_le ts; have := cnt_pos t; rw [cntF]; simp only [List.length_cons]; omega

theorem mem_kidsOut {ts : List DTree} {c : DIE} (h : c ∈ kidsOut ts) : ∃ k ∈ ts, c = k.d := by
  unfold kidsOut at h
  obtain ⟨h1, _⟩ := List.mem_filter.mp h
  obtain ⟨k, hk, rfl⟩ := List.mem_map.mp h1
  exact ⟨k, hk, rfl⟩

theorem foldl_parent_ut {n : DTree} {q : Option DIE} (hn : (n, q) ∈ ents none t) :
    ∀ (cs : List DIE) (u : UnitCache), (∀ c ∈ cs, ∃ k ∈ n.kids, c = k.d) → UT PD dieOff t u →
      UT PD dieOff t (cs.foldl (fun u c => { u with parent := assocSet u.parent c.offset n.d }) u)
  | [], u, _, hu => hu
  | c :: cs, u, hcs, hu => by
    obtain ⟨k, hk, rfl⟩ := hcs c List.mem_cons_self
    exact foldl_parent_ut hn cs _ (fun c hc => hcs c (List.mem_cons_of_mem _ hc))
      (ut_setParent hu (ents_kid hn hk) rfl)

theorem foldl_pick_none (o : Nat) : ∀ (l : List DIE) (init : DIE), (∀ c ∈ l, o < c.offset) →
    l.foldl (fun p c => if c.offset ≤ o then c else p) init = init
  | [], _, _ => rfl
  | c :: l, init, h => by
    have : ¬ c.offset ≤ o := by have := h c List.mem_cons_self; omega
    simp only [List.foldl_cons, this, if_false]
    exact foldl_pick_none o l init (fun c hc => h c (List.mem_cons_of_mem _ hc))

/-- `prev` of `_search_ancestor_offspring`: the child whose subtree contains the entry looked for.  The code folds
    "the last child not behind `x`" over the non-null children, starting from `init` (the entry searched, for the whole
    list; the candidate so far, in the induction), and then prefers the terminator if that is not behind `x` -/
theorem pick_spec (p : DIE) (x : DTree × Option DIE) : ∀ (ts : List DTree) (s e : Nat) (init : DIE), LayK s ts e →
    x ∈ entsF p ts → ∃ k ∈ ts, x ∈ ents (some p) k ∧ ∃ z, (ts.getLast?).map (·.d) = some z ∧
      (if z.offset ≤ x.1.d.offset then z
       else (kidsOut ts).foldl (fun p c => if c.offset ≤ x.1.d.offset then c else p) init) = k.d
  | [], s, e, init, h, _ => by rw [LayK] at h; exact h.elim
  | t' :: ts, s, e, init, h, hx => by
    rw [LayK] at h
    obtain ⟨m, h1, h2, h3⟩ := h
    rw [entsF] at hx
    cases hn : t'.d.isNull with
    | true =>
      obtain ⟨hts, _⟩ := h2 hn; subst hts
      simp only [entsF, List.append_nil] at hx
      have hb := ents_bounds t' (some p) s m h1 x hx
      have ho : t'.d.offset = s := h1.off
      refine ⟨t', List.mem_cons_self, hx, t'.d, rfl, ?_⟩
      have : t'.d.offset ≤ x.1.d.offset := by omega
      simp only [this, if_true]
    | false =>
      have hlk := h3 hn
      obtain ⟨z, hz1, _, _, hz4, _⟩ := layK_last ts m e hlk
      have hzm : z ∈ ts := List.mem_of_getLast? hz1
      have hzb := entsF_bounds ts p m e hlk _ (mem_entsF_of_mem p hzm)
      have hlast : ((t' :: ts).getLast?).map (·.d) = some z.d := by
        cases ts with
        | nil => cases hzm
        | cons a as => rw [List.getLast?_cons_cons, hz1]; rfl
      have hko : kidsOut (t' :: ts) = t'.d :: kidsOut ts := by simp [kidsOut, hn]
      rcases List.mem_append.mp hx with hx | hx
      · have hb := ents_bounds t' (some p) s m h1 x hx
        have ho : t'.d.offset = s := h1.off
        refine ⟨t', List.mem_cons_self, hx, z.d, hlast, ?_⟩
        have h1' : ¬ z.d.offset ≤ x.1.d.offset := by simp only at hzb; omega
        have h2' : t'.d.offset ≤ x.1.d.offset := by omega
        simp only [h1', if_false, hko, List.foldl_cons, h2', if_true]
        apply foldl_pick_none
        intro c hc
        obtain ⟨k, hk, rfl⟩ := mem_kidsOut hc
        have := entsF_bounds ts p m e hlk _ (mem_entsF_of_mem p hk)
        simp only at this; omega
      · obtain ⟨k, hk, hxk, z', hz', hpick⟩ :=
          pick_spec p x ts m e (if t'.d.offset ≤ x.1.d.offset then t'.d else init) hlk hx
        refine ⟨k, List.mem_cons_of_mem _ hk, hxk, z', ?_, ?_⟩
        · rw [hlast]; rw [hz1] at hz'; exact hz'
        · rw [hko, List.foldl_cons]; exact hpick

/-- the ancestor search from the subtree `n` containing `self`: nothing to do if `self` is `n`; otherwise the code
    drains `n`'s children (which sets their `_parent` and `n`'s terminator), picks the child `k` whose subtree contains
    `self` (`pick_spec`) — `k` now has its parent — and, unless `k` is `self`, searches on from `k`.  Induction on the
    size of `n`; afterwards `self` has a `_parent`, or is the root the search started at -/
theorem searchLoop_spec (tw : TW PD dieOff t) (self : DTree × Option DIE) :
    ∀ (N : Nat) (n : DTree) (q : Option DIE), cnt n ≤ N → (n, q) ∈ ents none t → self ∈ ents q n →
      ∀ fuel u, 2 * cnt n + 2 ≤ fuel → UT PD dieOff t u →
      ∃ u', searchLoop PD dieOff self.1.d fuel n.d u = (.ok (), u') ∧ UT PD dieOff t u' ∧
        ((self = (n, q) ∧ u' = u) ∨ ∃ p, assocGet? u'.parent self.1.d.offset = some p) := by
  intro N
  induction N with
  | zero => intro n q h; have := cnt_pos n; omega
  | succ N ih =>
    intro n q hN hn hself fuel u hf hu
    obtain ⟨f, rfl⟩ : ∃ f, fuel = f + 1 := ⟨fuel - 1, by omega⟩
    rw [ents_def] at hself
    rcases List.mem_cons.mp hself with hs | hs
    · subst hs
      refine ⟨u, ?_, hu, Or.inl ⟨rfl, rfl⟩⟩
      rw [searchLoop]; simp
    · obtain ⟨e, hlay⟩ := tw_lay tw hn
      have hch : n.d.hasChildren = true := by
        cases hc : n.d.hasChildren with
        | true => rfl
        | false => rw [(hlay.leaf hc).1] at hs; simp [entsF] at hs
      have lk := hlay.kids hch
      have hsz := hlay.size_pos
      have hb := entsF_bounds _ _ _ _ lk self hs
      obtain ⟨u1, hd, hu1, hz⟩ := drain_tree tw hn f u (by omega) hu
      obtain ⟨z, hz1, hz2, hz3⟩ := hz hch
      obtain ⟨k, hk, hxk, z', hz', hpick⟩ := pick_spec n.d self n.kids _ _ n.d lk hs
      have hzz : z' = z := by
        have : lastKid n = some z' := hz'
        rw [hz1] at this; injection this with this; exact this.symm
      subst hzz
      have hke := ents_kid hn hk
      have hkb := entsF_bounds _ _ _ _ lk _ (mem_entsF_of_mem n.d hk)
      obtain ⟨g1, g2, g3⟩ := foldl_parent_get n.d (kidsOut n.kids) u1
      have hu2 := foldl_parent_ut (PD := PD) (dieOff := dieOff) hn (kidsOut n.kids) u1
        (fun c hc => mem_kidsOut hc) hu1
      have hlt : n.d.offset < self.1.d.offset := by omega
      rw [searchLoop]
      simp only [hlt, if_true, hd, hch, g1, hz2, hpick]
      have hne : ¬ k.d.offset = n.d.offset := by simp only at hkb; omega
      simp only [hne, if_false]
      have hkp : ∃ p, assocGet? ((kidsOut n.kids).foldl
          (fun u c => { u with parent := assocSet u.parent c.offset n.d }) u1).parent k.d.offset = some p := by
        by_cases hin : ∃ c ∈ kidsOut n.kids, c.offset = k.d.offset
        · exact ⟨n.d, g2 _ hin⟩
        · rw [g3 _ hin]
          cases hkn : k.d.isNull with
          | false =>
            exact absurd ⟨k.d, by simp [kidsOut, hkn]; exact ⟨k, hk, rfl⟩, rfl⟩ hin
          | true =>
            obtain ⟨zt, hzt1, _, _, _, honly⟩ := layK_last _ _ _ lk
            have hzt : lastKid n = some zt.d := by simp [lastKid, hzt1]
            rw [hz1] at hzt; injection hzt with hzt
            have hsame : k = zt := honly k hk hkn
            rw [hsame, ← hzt]; exact ⟨_, hz3⟩
      by_cases hsk : self = (k, some n.d)
      · subst hsk
        obtain ⟨f', rfl⟩ : ∃ f', f = f' + 1 := ⟨f - 1, by have := cnt_pos n; omega⟩
        refine ⟨_, ?_, hu2, Or.inr hkp⟩
        rw [searchLoop]; simp
      · obtain ⟨u3, h3, hu3, hr⟩ := ih k (some n.d) (by have := cnt_kid hk; omega) hke hxk f _
          (by have := cnt_kid hk; omega) hu2
        refine ⟨u3, h3, hu3, ?_⟩
        rcases hr with ⟨hr, _⟩ | hr
        · exact absurd hr hsk
        · exact Or.inr hr

theorem getParent_spec (tw : TW PD dieOff t) {self : DTree × Option DIE} (hself : self ∈ ents none t) {e : Nat}
    (he : Lay dieOff t e) {fuel : Nat} (hf : 2 * (e - dieOff) + 2 ≤ fuel) {u : UnitCache} (hu : UT PD dieOff t u) :
    ∃ u', getParent PD dieOff fuel self.1.d u = (.ok self.2, u') ∧ UT PD dieOff t u' := by
  -- a `_parent` link that is set is the tree's (`UT.par`); otherwise the search from the top entry sets it
  -- (`searchLoop_spec`), or `self` is the top entry
  unfold getParent
  cases hg : assocGet? u.parent self.1.d.offset with
  | some p =>
    simp only
    obtain ⟨x, hx, hx1, hx2⟩ := hu.par _ _ hg
    have : x = self := tw_unique tw hx hself hx1
    subst this
    exact ⟨u, by rw [hx2], hu⟩
  | none =>
    simp only
    obtain ⟨u1, h1, hu1⟩ := getTopDIE_tw tw hu
    obtain ⟨m1, m2⟩ := getTopDIE_maps (PD := PD) (dieOff := dieOff) u
    rw [h1] at m1 m2
    simp only at m1 m2
    rw [h1]
    simp only
    have hc := tw_cnt (ents_self none t) he
    obtain ⟨u2, h2, hu2, hr⟩ := searchLoop_spec tw self (cnt t) t none (Nat.le_refl _) (ents_self none t) hself fuel u1
      (by omega) hu1
    rw [h2]
    simp only
    refine ⟨u2, ?_, hu2⟩
    rcases hr with ⟨hr, hr2⟩ | ⟨p, hp⟩
    · subst hr hr2; rw [m1, hg]
    · obtain ⟨x, hx, hx1, hx2⟩ := hu2.par _ _ hp
      have : x = self := tw_unique tw hx hself hx1
      subst this
      rw [hp, hx2]

mutual
def subs : DTree → List DTree
  | .mk d kids => .mk d kids :: subsF kids
def subsF : List DTree → List DTree
  | [] => []
  | t :: ts => subs t ++ subsF ts
end

theorem subs_def (n : DTree) : subs n = n :: subsF n.kids := by cases n; rw [subs]; rfl

mutual
theorem subs_length : ∀ (n : DTree), (subs n).length = cnt n
  | .mk d kids => by rw [subs, cnt, List.length_cons, subsF_length kids]; omega
theorem subsF_length : ∀ (ts : List DTree), (subsF ts).length = cntF ts
  | [] => by rw [subsF, cntF]; rfl
  | t :: ts => by rw [subsF, cntF, List.length_append, subs_length t, subsF_length ts]
end

mutual
theorem ents_fst : ∀ (n : DTree) (p : Option DIE), (ents p n).map (·.1) = subs n
  | .mk d kids, p => by rw [ents, subs, List.map_cons, entsF_fst kids d]
theorem entsF_fst : ∀ (ts : List DTree) (p : DIE), (entsF p ts).map (·.1) = subsF ts
  | [], p => by rw [entsF, subsF]; rfl
  | t :: ts, p => by rw [entsF, subsF, List.map_append, ents_fst t (some p), entsF_fst ts p]
end

/-- the entries of a tree in pre-order (what `iter_DIEs` must yield); `flatK`: those of a sibling list -/
def flatT (n : DTree) : List DIE := (subs n).map (·.d)

def flatK (ts : List DTree) : List DIE := (subsF ts).map (·.d)

theorem flatK_cons (k : DTree) (ts : List DTree) : flatK (k :: ts) = k.d :: (flatK k.kids ++ flatK ts) := by
  simp [flatK, subsF, subs_def]

theorem flatT_def (n : DTree) : flatT n = n.d :: flatK n.kids := by simp [flatT, flatK, subs_def]

theorem mem_flatT {n : DTree} {d : DIE} (p : Option DIE) : d ∈ flatT n ↔ ∃ x ∈ ents p n, x.1.d = d := by
  unfold flatT
  rw [← ents_fst n p]
  simp

/-- a frame of the subtree generator that is inside `for c in die.iter_children()` of an entry owning children;
    `ts` = the part of its sibling list not yet produced -/
def FrameAt (t : DTree) (fr : Frame) (ts : List DTree) : Prop :=
  ∃ n q m w, (n, q) ∈ ents none t ∧ fr.die = n.d ∧ fr.phase = 1 ∧ Pos t n fr.ci m ts w ∧
    ((w = 1) ∨ ∃ c q', (c, q') ∈ ents none t ∧ w = cnt c)

inductive RestOK (t : DTree) : List Frame → List DIE → Prop
  | nil : RestOK t [] []
  | cons {fr : Frame} {ts : List DTree} {rest : List Frame} {r : List DIE} :
      FrameAt t fr ts → RestOK t rest r → RestOK t (fr :: rest) (flatK ts ++ r)

/-- the suspended `iter_DIEs()` generator stack `st` still has to produce exactly `rem`.  Three shapes: every frame is
    inside the sibling list of its entry; the top frame is that of a childless entry just yielded (its `for` loop ends
    at once); the generator has not started -/
def StackOK (t : DTree) (st : List Frame) (rem : List DIE) : Prop :=
  RestOK t st rem ∨
  (∃ fr rest, st = fr :: rest ∧ fr.phase = 1 ∧ fr.die.hasChildren = false ∧ RestOK t rest rem) ∨
  (st = [⟨t.d, 0, ChildIter.new t.d⟩] ∧ rem = flatT t)

theorem frameAt_new {n : DTree} {q : Option DIE} (tw : TW PD dieOff t) (hn : (n, q) ∈ ents none t)
    (hc : n.d.hasChildren = true) : FrameAt t ⟨n.d, 1, ChildIter.new n.d⟩ n.kids := by
  obtain ⟨e, hlay⟩ := tw_lay tw hn
  exact ⟨n, q, n.d.offset + n.d.size, 1, hn, rfl, rfl,
    { die := rfl, nd := rfl, hc := hc, suf := ⟨[], rfl⟩, lay := ⟨e, hlay.kids hc⟩, wpos := Nat.le_refl _,
      last := Or.inl ⟨rfl, rfl⟩ }, Or.inl rfl⟩

/-- a freshly pushed frame `_iter_DIE_subtree(n)` after its `yield n` -/
theorem stackOK_push {n : DTree} {q : Option DIE} (tw : TW PD dieOff t) (hn : (n, q) ∈ ents none t)
    {rest : List Frame} {r : List DIE} (hr : RestOK t rest r) :
    StackOK t (⟨n.d, 1, ChildIter.new n.d⟩ :: rest) (flatK n.kids ++ r) := by
  cases hc : n.d.hasChildren with
  | true => exact Or.inl (RestOK.cons (frameAt_new tw hn hc) hr)
  | false =>
    obtain ⟨e, hlay⟩ := tw_lay tw hn
    rw [(hlay.leaf hc).1]
    exact Or.inr (Or.inl ⟨_, _, rfl, rfl, hc, by simpa [flatK, subsF] using hr⟩)

theorem subNext_rest (tw : TW PD dieOff t) {e : Nat} (he : Lay dieOff t e) {fr : Frame} {rest : List Frame}
    {rem : List DIE} (h : RestOK t (fr :: rest) rem) {fuel : Nat} (hf : 2 * (e - dieOff) + 3 ≤ fuel) {u : UnitCache}
    (hu : UT PD dieOff t u) :
    ∃ x rem' st' u', rem = x :: rem' ∧ subNext PD dieOff fuel (fr :: rest) u = (.ok (some x), st', u') ∧
      StackOK t st' rem' ∧ UT PD dieOff t u' := by
  -- the top frame is inside a sibling list: one `childNext_at`; a null entry is yielded as the owner's terminator
  -- and the frame popped, any other entry is yielded and its own frame pushed
  cases h with
  | cons hfr hrest =>
    rename_i ts r
    obtain ⟨n, q, m, w, hn, hdie, hph, hp, hw⟩ := hfr
    obtain ⟨f, rfl⟩ : ∃ f, fuel = f + 1 := ⟨fuel - 1, by omega⟩
    obtain ⟨k, ts', rfl, hke, hA, hB⟩ := childNext_at tw he hn hp hw (fuel := f) (by omega) hu
    obtain ⟨ek, hlk⟩ := tw_lay tw hke
    rw [subNext]
    have hph' : ¬ fr.phase = 0 := by omega
    have hch' : fr.die.hasChildren = true := by rw [hdie]; exact hp.hc
    simp only [hph', if_false, hch', Bool.not_true, Bool.false_eq_true]
    cases hnull : k.d.isNull with
    | true =>
      obtain ⟨u', h1, hu', hts, h2⟩ := hA hnull
      subst hts
      rw [h1]
      simp only [hdie, h2]
      have hkc : k.d.hasChildren = false := hlk.nullLeaf hnull
      refine ⟨k.d, r, rest, u', ?_, rfl, Or.inl hrest, hu'⟩
      rw [flatK_cons, (hlk.leaf hkc).1]; simp [flatK, subsF]
    | false =>
      obtain ⟨ci', u', m', h1, hu', hp'⟩ := hB hnull
      rw [h1]
      simp only
      refine ⟨k.d, flatK k.kids ++ (flatK ts' ++ r), _, u', ?_, rfl, ?_, hu'⟩
      · rw [flatK_cons]; simp
      · apply stackOK_push tw hke
        exact RestOK.cons ⟨n, q, m', cnt k, hn, hdie, hph, hp', Or.inr ⟨k, _, hke, rfl⟩⟩ hrest

theorem subNext_ok (tw : TW PD dieOff t) {e : Nat} (he : Lay dieOff t e) {st : List Frame} {rem : List DIE}
    (h : StackOK t st rem) {fuel : Nat} (hf : 2 * (e - dieOff) + 4 ≤ fuel) {u : UnitCache} (hu : UT PD dieOff t u) :
    ∃ st' u', subNext PD dieOff fuel st u = (.ok rem.head?, st', u') ∧ StackOK t st' rem.tail ∧ UT PD dieOff t u' := by
  -- by the shape of the stack (`StackOK`): inside sibling lists, `subNext_rest`; a childless entry on top is popped,
  -- then `subNext_rest` below it; not started, the root is yielded and its frame pushed
  rcases h with h | ⟨fr, rest, rfl, hph, hch, h⟩ | ⟨rfl, rfl⟩
  · cases st with
    | nil =>
      cases h
      obtain ⟨f, rfl⟩ : ∃ f, fuel = f + 1 := ⟨fuel - 1, by omega⟩
      exact ⟨[], u, by rw [subNext]; rfl, Or.inl RestOK.nil, hu⟩
    | cons fr rest =>
      obtain ⟨x, rem', st', u', rfl, h1, h2, h3⟩ := subNext_rest tw he h (fuel := fuel) (by omega) hu
      exact ⟨st', u', h1, h2, h3⟩
  · obtain ⟨f, rfl⟩ : ∃ f, fuel = f + 1 := ⟨fuel - 1, by omega⟩
    rw [subNext]
    have hph' : ¬ fr.phase = 0 := by omega
    simp only [hph', if_false, hch, Bool.not_false, if_true]
    cases rest with
    | nil =>
      cases h
      obtain ⟨f', rfl⟩ : ∃ f', f = f' + 1 := ⟨f - 1, by omega⟩
      exact ⟨[], u, by rw [subNext]; rfl, Or.inl RestOK.nil, hu⟩
    | cons fr' rest' =>
      obtain ⟨x, rem', st', u', rfl, h1, h2, h3⟩ := subNext_rest tw he h (fuel := f) (by omega) hu
      exact ⟨st', u', h1, h2, h3⟩
  · obtain ⟨f, rfl⟩ : ∃ f, fuel = f + 1 := ⟨fuel - 1, by omega⟩
    rw [subNext]
    simp only [if_true]
    refine ⟨_, u, by rw [flatT_def]; rfl, ?_, hu⟩
    rw [flatT_def, List.tail_cons]
    have := stackOK_push tw (ents_self none t) RestOK.nil
    simpa using this

/-- what a suspended `iter_DIE_children` generator still has to produce -/
def ChildRem (t : DTree) (ci : ChildIter) (rem : List DIE) : Prop :=
  (ci.done = true ∧ rem = []) ∨ (ci.done = false ∧ ci.die.hasChildren = false ∧ rem = []) ∨
  (∃ n q m ts w, (n, q) ∈ ents none t ∧ Pos t n ci m ts w ∧ ((w = 1) ∨ ∃ c q', (c, q') ∈ ents none t ∧ w = cnt c) ∧
    rem = kidsOut ts)

theorem childRem_new (tw : TW PD dieOff t) {n : DTree} {q : Option DIE} (hn : (n, q) ∈ ents none t) :
    ChildRem t (ChildIter.new n.d) (kidsOut n.kids) := by
  obtain ⟨e, hlay⟩ := tw_lay tw hn
  cases hc : n.d.hasChildren with
  | true =>
    obtain ⟨n', q', m, w, h1, _, _, h4, h5⟩ := frameAt_new tw hn hc
    exact Or.inr (Or.inr ⟨n', q', m, _, w, h1, h4, h5, rfl⟩)
  | false => rw [(hlay.leaf hc).1]; exact Or.inr (Or.inl ⟨rfl, hc, rfl⟩)

theorem childNext_rem (tw : TW PD dieOff t) {e : Nat} (he : Lay dieOff t e) {ci : ChildIter} {rem : List DIE}
    (h : ChildRem t ci rem) {fuel : Nat} (hf : 2 * (e - dieOff) + 3 ≤ fuel) {u : UnitCache} (hu : UT PD dieOff t u) :
    ∃ ci' u', childNext PD dieOff fuel ci u = (.ok rem.head?, ci', u') ∧ ChildRem t ci' rem.tail ∧
      UT PD dieOff t u' := by
  obtain ⟨f, rfl⟩ : ∃ f, fuel = f + 1 := ⟨fuel - 1, by omega⟩
  rcases h with ⟨hd, rfl⟩ | ⟨hd, hc, rfl⟩ | ⟨n, q, m, ts, w, hn, hp, hw, rfl⟩
  · refine ⟨ci, u, ?_, Or.inl ⟨hd, rfl⟩, hu⟩
    rw [childNext]; unfold childStep; simp [hd]
  · refine ⟨{ ci with done := true }, u, ?_, Or.inl ⟨rfl, rfl⟩, hu⟩
    rw [childNext]; unfold childStep; simp [hd, hc]
  · obtain ⟨k, ts', rfl, hke, hA, hB⟩ := childNext_at tw he hn hp hw (fuel := f + 1) (by omega) hu
    cases hnull : k.d.isNull with
    | true =>
      obtain ⟨u', h1, hu', hts, _⟩ := hA hnull
      subst hts
      refine ⟨{ ci with done := true }, u', ?_, Or.inl ⟨rfl, ?_⟩, hu'⟩
      · rw [h1]; simp [kidsOut, hnull]
      · simp [kidsOut, hnull]
    | false =>
      obtain ⟨ci', u', m', h1, hu', hp'⟩ := hB hnull
      have hko : kidsOut (k :: ts') = k.d :: kidsOut ts' := by simp [kidsOut, hnull]
      refine ⟨ci', u', ?_, Or.inr (Or.inr ⟨n, q, m', ts', cnt k, hn, hp', Or.inr ⟨k, _, hke, rfl⟩, ?_⟩), hu'⟩
      · rw [h1, hko]; rfl
      · rw [hko]; rfl

/-- `if sibling is not self` -/
def sibFilter (o : Nat) (r : List DIE) : List DIE := r.filter (fun s => s.offset != o)

theorem sibFilter_cons_eq {o : Nat} {x : DIE} (r : List DIE) (h : x.offset = o) : sibFilter o (x :: r) = sibFilter o r := by
  simp [sibFilter, h]

theorem sibFilter_cons_ne {o : Nat} {x : DIE} (r : List DIE) (h : ¬ x.offset = o) :
    sibFilter o (x :: r) = x :: sibFilter o r := by
  simp [sibFilter, h]

theorem childRem_length {e : Nat} (he : Lay dieOff t e) {ci : ChildIter} {r : List DIE}
    (h : ChildRem t ci r) : r.length ≤ e - dieOff := by
  rcases h with ⟨_, rfl⟩ | ⟨_, _, rfl⟩ | ⟨n, q, m, ts, w, hn, hp, _, rfl⟩
  · simp
  · simp
  · have h1 := tw_cnt hn he
    obtain ⟨pre, hpre⟩ := hp.suf
    have h2 := kidsOut_length_le ts
    have h3 : ts.length ≤ n.kids.length := by rw [hpre]; simp
    have h4 := kids_length_le n.kids
    have h5 := cnt_def n
    omega

theorem sibSkip_rem (tw : TW PD dieOff t) {e : Nat} (he : Lay dieOff t e) (self : DIE) {fuel : Nat}
    (hf : 2 * (e - dieOff) + 3 ≤ fuel) :
    ∀ (n : Nat) (ci : ChildIter) (r : List DIE) (u : UnitCache), ChildRem t ci r → r.length < n → UT PD dieOff t u →
      ∃ ci' r' u', sibSkip PD dieOff fuel self n ci u = (.ok (sibFilter self.offset r).head?, ci', u') ∧
        ChildRem t ci' r' ∧ sibFilter self.offset r' = (sibFilter self.offset r).tail ∧ UT PD dieOff t u' := by
  intro n
  induction n with
  | zero => intro ci r u _ hlen; omega
  | succ n ih =>
    intro ci r u hr hlen hu
    obtain ⟨ci1, u1, h1, hr1, hu1⟩ := childNext_rem tw he hr (fuel := fuel) hf hu
    rw [sibSkip, h1]
    cases r with
    | nil => exact ⟨ci1, [], u1, rfl, by simpa using hr1, rfl, hu1⟩
    | cons x r' =>
      simp only [List.head?_cons, List.tail_cons] at hr1 ⊢
      by_cases hx : x.offset = self.offset
      · simp only [hx, if_true]
        obtain ⟨ci2, r2, u2, h2, hr2, hf2, hu2⟩ := ih ci1 r' u1 hr1 (by simp only [List.length_cons] at hlen; omega) hu1
        refine ⟨ci2, r2, u2, ?_, hr2, ?_, hu2⟩
        · rw [h2, sibFilter_cons_eq r' hx]
        · rw [hf2, sibFilter_cons_eq r' hx]
      · simp only [hx, if_false]
        refine ⟨ci1, r', u1, ?_, hr1, ?_, hu1⟩
        · rw [sibFilter_cons_ne r' hx]; rfl
        · rw [sibFilter_cons_ne r' hx]; rfl

/-- a suspended `iter_siblings()` generator of the entry `self` still has to produce `rem` -/
def SibRem (t : DTree) (self : DIE) (ci : Option ChildIter) (rem : List DIE) : Prop :=
  ∃ x ∈ ents none t, x.1.d = self ∧ ∃ n q, (n, q) ∈ ents none t ∧ x.2 = some n.d ∧
    ((ci = none ∧ rem = sibFilter self.offset (kidsOut n.kids)) ∨
     (∃ ci' r, ci = some ci' ∧ ChildRem t ci' r ∧ rem = sibFilter self.offset r))

theorem sibNext_rem (tw : TW PD dieOff t) {e : Nat} (he : Lay dieOff t e) {self : DIE} {ci : Option ChildIter}
    {rem : List DIE} (h : SibRem t self ci rem) {fuel : Nat} (hf : 2 * (e - dieOff) + 3 ≤ fuel) {u : UnitCache}
    (hu : UT PD dieOff t u) :
    ∃ ci' u', sibNext PD dieOff fuel self ci u = (.ok rem.head?, ci', u') ∧ SibRem t self ci' rem.tail ∧
      UT PD dieOff t u' := by
  obtain ⟨x, hx, rfl, n, q, hn, hp, hcase⟩ := h
  have key : ∀ (ci0 : ChildIter) (r : List DIE) (u0 : UnitCache), ChildRem t ci0 r → UT PD dieOff t u0 →
      ∃ ci' u', ((sibSkip PD dieOff fuel x.1.d fuel ci0 u0).1, some (sibSkip PD dieOff fuel x.1.d fuel ci0 u0).2.1,
          (sibSkip PD dieOff fuel x.1.d fuel ci0 u0).2.2)
        = ((.ok (sibFilter x.1.d.offset r).head? : R (Option DIE)), ci', u') ∧
        SibRem t x.1.d ci' (sibFilter x.1.d.offset r).tail ∧ UT PD dieOff t u' := by
    intro ci0 r u0 hr hu0
    have hlen := childRem_length he hr
    obtain ⟨ci1, r1, u1, h1, hr1, hf1, hu1⟩ := sibSkip_rem tw he x.1.d hf fuel ci0 r u0 hr (by omega) hu0
    refine ⟨some ci1, u1, by rw [h1], ?_, hu1⟩
    exact ⟨x, hx, rfl, n, q, hn, hp, Or.inr ⟨ci1, r1, rfl, hr1, hf1.symm⟩⟩
  rcases hcase with ⟨rfl, rfl⟩ | ⟨ci0, r, rfl, hr, rfl⟩
  · obtain ⟨u1, h1, hu1⟩ := getParent_spec tw hx he (fuel := fuel) (by omega) hu
    simp only [sibNext, h1, hp]
    exact key _ _ u1 (childRem_new tw hn) hu1
  · simp only [sibNext]
    exact key ci0 r u hr hu

end unit
end PyElf.Proofs.C10
