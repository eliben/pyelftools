/-
  C20, order-independence of the build-attributes API (Model/AttrHistory.lean).  The three kinds of generator are one
  resumable `walk` (`ResumesAs`), so a resumed generator answers the same wherever the shared stream stands and
  `list(generator)` is what the walk over its members returns (`collect_of_walk`); in any history the `next` calls on a
  generator are answered as when it is advanced alone (`interleaving_irrelevant`); the levelwise observation returns
  the tree the nested one returns (`levelwise_of_nested`).
-/
import PyElf.Model.AttrHistory
import PyElf.Proofs.Attrs
namespace PyElf.Proofs.C20
open PyElf PyElf.Model PyElf.Model.C20 PyElf.Model.Attr PyElf.Proofs.Attrs

section
variable {env : Env} {S : ElfStructs} {data : Bytes}

/-- `mk off` resumes as the test of `walk` against `e`, then `step off` = member, next offset, position of the stream -/
def ResumesAs (env : Env) (S : ElfStructs) (data : Bytes) (mk : Nat → Gen) (e : Nat) (step : Nat → R (Item × Nat × Nat)) :
    Prop :=
  ∀ off pos, Gen.resume env S data (mk off) pos
    = if off = e then .ok (none, pos) else do let r ← step off; pure (some (r.1, mk r.2.1), r.2.2)

/-- the header steps of the nested loops (Proofs/Attrs.lean), yielding the object instead of reading the body -/
def stepSubsecs (env : Env) (S : ElfStructs) (data : Bytes) (sec : SecObj) (offset : Nat) : R (Item × Nat × Nat) := do
  let r ← subsecHdrStep env S data offset
  pure (.subsec { arch := sec.arch, offset, length := r.1.1, vendor := r.1.2.1, subsubStart := r.2 }, r.1.2.2, r.2)

def stepSubsubs (env : Env) (S : ElfStructs) (data : Bytes) (ss : SubsecObj) (offset : Nat) : R (Item × Nat × Nat) := do
  let r ← subsubHdrStep (attributeAt ss.arch env S data) offset
  pure (.subsub { arch := ss.arch, offset, header := r.1.1, attrStart := r.2 }, r.1.2, r.2)

def stepAttrs (env : Env) (S : ElfStructs) (data : Bytes) (sss : SubsubObj) (offset : Nat) : R (Item × Nat × Nat) :=
  do let r ← attributeAt sss.arch env S data offset; pure (.attr r.1.toVal, r.2, r.2)

def genItem (step : Nat → R (Item × Nat × Nat)) (off : Nat) : R (Item × Nat) := do let r ← step off; pure (r.1, r.2.1)

theorem resumesAs_subsecs (sec : SecObj) :
    ResumesAs env S data (.subsecs sec) (sec.shOffset + sec.dataSize) (stepSubsecs env S data sec) := by
  intro off pos
  simp only [Gen.resume, subsecsResume, stepSubsecs, subsecHdrStep]
  split
  · rfl
  · simp only [bind_assoc, pure_bind]; rfl

theorem resumesAs_subsubs (ss : SubsecObj) :
    ResumesAs env S data (.subsubs ss) (ss.offset + ss.length) (stepSubsubs env S data ss) := by
  intro off pos
  simp only [Gen.resume, subsubsResume, stepSubsubs, subsubHdrStep]
  split
  · rfl
  · simp only [bind_assoc, pure_bind]; rfl

theorem resumesAs_attrs (sss : SubsubObj) {hv : Nat} (hhv : sss.header.value.asNat = .ok hv) :
    ResumesAs env S data (.attrs sss) (sss.offset + hv) (stepAttrs env S data sss) := by
  intro off pos
  simp only [Gen.resume, attrsResume, stepAttrs, hhv, Engine.ok_bind]
  split
  · rfl
  · simp only [bind_assoc, pure_bind]; rfl

theorem resume_cases_of {mk : Nat → Gen} {e : Nat} {step : Nat → R (Item × Nat × Nat)}
    (H : ResumesAs env S data mk e step) (off : Nat) :
    (∀ q, Gen.resume env S data (mk off) q = .ok (none, q)) ∨
    (∃ x q, ∀ q', Gen.resume env S data (mk off) q' = .ok (some x, q)) ∨
    (∃ err, ∀ q', Gen.resume env S data (mk off) q' = .error err) := by
  by_cases h : off = e
  · left; intro q; rw [H, if_pos h]
  · right
    cases hs : step off with
    | error err => right; exact ⟨err, fun q' => by rw [H, if_neg h, hs]; rfl⟩
    | ok r => left; exact ⟨_, _, fun q' => by rw [H, if_neg h, hs]; rfl⟩

theorem resume_cases (g : Gen) :
    (∀ q, Gen.resume env S data g q = .ok (none, q)) ∨
    (∃ x q, ∀ q', Gen.resume env S data g q' = .ok (some x, q)) ∨
    (∃ e, ∀ q', Gen.resume env S data g q' = .error e) := by
  cases g with
  | subsecs o offset => exact resume_cases_of (resumesAs_subsecs o) offset
  | subsubs o offset => exact resume_cases_of (resumesAs_subsubs o) offset
  | attrs o offset =>
    cases hv : o.header.value.asNat with
    | error e => right; right; exact ⟨e, fun q' => by simp [Gen.resume, attrsResume, hv, bind, Except.bind]⟩
    | ok v => exact resume_cases_of (resumesAs_attrs o hv) offset
  | done => left; intro q; rfl

theorem collect_of_walk {mk : Nat → Gen} {e : Nat} {step : Nat → R (Item × Nat × Nat)}
    (H : ResumesAs env S data mk e step) : ∀ (fuel off : Nat) (acc L : List Item),
      walk (genItem step) e fuel off acc = .ok L →
      ∀ pos, ∃ q, Gen.collect env S data (fuel + 1) (mk off) pos acc = .ok (L, q) := by
  intro fuel
  induction fuel with
  | zero =>
    intro off acc L h pos
    by_cases hc : off = e
    · rw [hc, Walk.walk_end] at h
      exact ⟨pos, by rw [Gen.collect, H, if_pos hc]; cases h; rfl⟩
    · simp [walk, hc] at h
  | succ fuel ih =>
    intro off acc L h pos
    by_cases hc : off = e
    · rw [hc, Walk.walk_end] at h
      exact ⟨pos, by rw [Gen.collect, H, if_pos hc]; cases h; rfl⟩
    · rw [walk, if_neg hc, genItem] at h
      cases hs : step off with
      | error err => rw [hs] at h; cases h
      | ok r =>
        rw [hs] at h
        obtain ⟨q, hq⟩ := ih r.2.1 (r.1 :: acc) L h r.2.2
        exact ⟨q, by rw [Gen.collect, H, if_neg hc, hs]; exact hq⟩

/-- a function of the generator alone: the stream position does not enter -/
def nextAns (env : Env) (S : ElfStructs) (data : Bytes) (gen : Gen) : Ans × Gen :=
  match Gen.resume env S data gen 0 with
  | .ok (none, _) => (.stop, .done)
  | .ok (some (x, g'), _) => (.item x, g')
  | .error e => (.err e, .done)

theorem step_next {fuel : Nat} {st : HState} {g : Nat} {gen : Gen} (hg : st.gens[g]? = some gen) :
    (step env S data fuel st (.next g)).1 = (nextAns env S data gen).1 ∧
    (step env S data fuel st (.next g)).2.gens = st.gens.set g (nextAns env S data gen).2 := by
  unfold step nextAns
  simp only [hg]
  rcases resume_cases (env := env) (S := S) (data := data) gen with h | ⟨x, q, h⟩ | ⟨e, h⟩
  · simp [h]
  · obtain ⟨x1, x2⟩ := x; simp [h]
  · simp [h]

theorem listOf_gens (fuel : Nat) (st : HState) (gen : Gen) :
    (listOf env S data fuel st gen).2.gens = st.gens := by
  unfold listOf
  split <;> rfl

theorem step_other {fuel : Nat} {st : HState} {g : Nat} {gen : Gen} (hg : st.gens[g]? = some gen)
    {op : Op} (hop : op.isNext g = false) :
    (step env S data fuel st op).2.gens[g]? = some gen := by
  have hlt : g < st.gens.length := (List.getElem?_eq_some_iff.1 hg).1
  cases op with
  | seek n => exact hg
  | openSec arch off size => simp only [step]; split <;> exact hg
  | iterSubsecs o => simp only [step, newGen]; rw [List.getElem?_append_left hlt]; exact hg
  | iterSubsubs o => simp only [step, newGen]; rw [List.getElem?_append_left hlt]; exact hg
  | iterAttrs o => simp only [step, newGen]; rw [List.getElem?_append_left hlt]; exact hg
  | next g' =>
    have hne : g' ≠ g := by simpa [Op.isNext] using hop
    simp only [step]
    cases hg' : st.gens[g']? with
    | none => exact hg
    | some gen' =>
      simp only
      split
      · simp only [List.getElem?_set_ne hne]; exact hg
      · simp only [List.getElem?_set_ne hne]; exact hg
      · simp only [List.getElem?_set_ne hne]; exact hg
  | listSubsecs o => simp only [step, listOf_gens]; exact hg
  | listSubsubs o => simp only [step, listOf_gens]; exact hg
  | listAttrs o => simp only [step, listOf_gens]; exact hg

def nextAnswers (env : Env) (S : ElfStructs) (data : Bytes) (g fuel : Nat) : HState → List Op → List Ans
  | _, [] => []
  | st, op :: ops =>
    let r := step env S data fuel st op
    if op.isNext g then r.1 :: nextAnswers env S data g fuel r.2 ops else nextAnswers env S data g fuel r.2 ops

def soloAnswers (env : Env) (S : ElfStructs) (data : Bytes) : Gen → Nat → List Ans
  | _, 0 => []
  | gen, n+1 => (nextAns env S data gen).1 :: soloAnswers env S data (nextAns env S data gen).2 n

theorem interleaving_irrelevant (fuel g : Nat) : ∀ (ops : List Op) (st : HState) (gen : Gen),
    st.gens[g]? = some gen →
    nextAnswers env S data g fuel st ops = soloAnswers env S data gen (ops.countP (Op.isNext g)) := by
  intro ops
  induction ops with
  | nil => intro st gen _; rfl
  | cons op ops ih =>
    intro st gen hg
    by_cases hop : op.isNext g = true
    · have hopg : op = .next g := by
        cases op <;> simp [Op.isNext] at hop
        rw [hop]
      subst hopg
      obtain ⟨h1, h2⟩ := step_next (env := env) (S := S) (data := data) (fuel := fuel) hg
      have hlt : g < st.gens.length := (List.getElem?_eq_some_iff.1 hg).1
      have hg' : (step env S data fuel st (.next g)).2.gens[g]? = some (nextAns env S data gen).2 := by
        rw [h2, List.getElem?_set_self hlt]
      simp only [nextAnswers, hop, if_true, List.countP_cons_of_pos hop, soloAnswers, h1]
      rw [ih _ _ hg']
    · have hop' : op.isNext g = false := by simpa using hop
      simp only [nextAnswers, hop', Bool.false_eq_true, if_false, List.countP_cons_of_neg hop]
      exact ih _ _ (step_other hg hop')

theorem answers_independent_of_history (fuel g : Nat) (st st' : HState) (gen : Gen)
    (hg : st.gens[g]? = some gen) (hg' : st'.gens[g]? = some gen) (ops ops' : List Op)
    (hc : ops.countP (Op.isNext g) = ops'.countP (Op.isNext g)) :
    nextAnswers env S data g fuel st ops = nextAnswers env S data g fuel st' ops' := by
  rw [interleaving_irrelevant fuel g ops st gen hg, interleaving_irrelevant fuel g ops' st' gen hg', hc]

theorem nextAns_done : nextAns env S data .done = (.stop, .done) := rfl

theorem solo_done : ∀ n, soloAnswers env S data .done n = List.replicate n .stop := by
  intro n
  induction n with
  | zero => rfl
  | succ n ih => simp [soloAnswers, nextAns_done, ih, List.replicate_succ]

theorem solo_of_collect : ∀ (fuel : Nat) (gen : Gen) (pos : Nat) (acc xs : List Item) (q : Nat),
    Gen.collect env S data fuel gen pos acc = .ok (xs, q) →
    ∃ ys, xs = acc.reverse ++ ys ∧
      ∀ k, soloAnswers env S data gen (ys.length + k) = ys.map .item ++ List.replicate k .stop := by
  intro fuel
  induction fuel with
  | zero => intro gen pos acc xs q h; simp [Gen.collect] at h
  | succ fuel ih =>
    intro gen pos acc xs q h
    rw [Gen.collect] at h
    rcases resume_cases (env := env) (S := S) (data := data) gen with hr | ⟨x, p, hr⟩ | ⟨e, hr⟩
    · simp only [hr, bind, Except.bind, pure, Except.pure, Except.ok.injEq, Prod.mk.injEq] at h
      refine ⟨[], by simp [h.1], ?_⟩
      intro k
      have hna : nextAns env S data gen = (.stop, .done) := by simp [nextAns, hr]
      cases k with
      | zero => rfl
      | succ k => simp [soloAnswers, hna, solo_done, List.replicate_succ]
    · obtain ⟨x1, g'⟩ := x
      simp only [hr, bind, Except.bind] at h
      obtain ⟨ys, hxs, hsolo⟩ := ih g' p (x1 :: acc) xs q h
      refine ⟨x1 :: ys, by simp [hxs], ?_⟩
      intro k
      have hna : nextAns env S data gen = (.item x1, g') := by simp [nextAns, hr]
      rw [show (x1 :: ys).length + k = (ys.length + k) + 1 by simp; omega]
      simp [soloAnswers, hna, hsolo]
    · simp [hr, bind, Except.bind] at h

theorem solo_prefix : ∀ (n m : Nat) (gen : Gen),
    (soloAnswers env S data gen (n + m)).take n = soloAnswers env S data gen n := by
  intro n
  induction n with
  | zero => intro m gen; simp [soloAnswers]
  | succ n ih =>
    intro m gen
    rw [show n + 1 + m = (n + m) + 1 by omega]
    simp only [soloAnswers, List.take_succ_cons, ih]

theorem solo_of_list {fuel : Nat} {gen : Gen} {pos : Nat} {xs : List Item} {q : Nat}
    (h : Gen.collect env S data fuel gen pos [] = .ok (xs, q)) (k : Nat) :
    soloAnswers env S data gen (xs.length + k) = xs.map .item ++ List.replicate k .stop := by
  obtain ⟨ys, hxs, hsolo⟩ := solo_of_collect fuel gen pos [] xs q h
  simp only [List.reverse_nil, List.nil_append] at hxs
  subst hxs
  exact hsolo k

/-! A member of the nested walk is a yielded object (the generator's member) and then a body that does not move the walk:
  the next offset comes from the header alone (`walk_fission`).  So the nested walk lists the objects the generator
  lists, and the passes of the levelwise observation compute the bodies. -/

/-- what the nested observation adds to a yielded object -/
def bodySubsub (env : Env) (S : ElfStructs) (data : Bytes) : Item → R (List Val)
  | .subsub o => do
    let hv ← o.header.value.asNat
    attributesLoop (attributeAt o.arch env S data) (o.offset + hv) (data.length + 2) o.attrStart []
  | _ => .error .typeError

def mkSubsub : Item → List Val → Val
  | .subsub o, attrs =>
    .record [("tag", o.header.tag), ("value", o.header.value), ("extra", o.header.extra), ("attributes", .list attrs)]
  | _, _ => .none

def bodySubsec (env : Env) (S : ElfStructs) (data : Bytes) : Item → R (List Val)
  | .subsec o =>
    subsubLoop (attributeAt o.arch env S data) data.length (o.offset + o.length) (data.length + 2) o.subsubStart []
  | _ => .error .typeError

def mkSubsec : Item → List Val → Val
  | .subsec o, subs => .record [("length", .int o.length), ("vendor_name", o.vendor), ("subsubsections", .list subs)]
  | _, _ => .none

theorem subsubItem_eq (ss : SubsecObj) : subsubItem (attributeAt ss.arch env S data) data.length
    = (fun off => do
      let r ← genItem (stepSubsubs env S data ss) off
      let b ← bodySubsub env S data r.1
      pure (mkSubsub r.1 b, r.2)) := by
  funext off
  simp only [subsubItem, genItem, stepSubsubs, subsubHdrStep, bind_assoc, pure_bind, bodySubsub, mkSubsub]
  cases attributeAt ss.arch env S data off with
  | error _ => rfl
  | ok r => simp only [Engine.ok_bind]; cases r.1.value.asNat <;> rfl

theorem subsecItem_eq (sec : SecObj) : subsecItem sec.arch env S data
    = (fun off => do
      let r ← genItem (stepSubsecs env S data sec) off
      let b ← bodySubsec env S data r.1
      pure (mkSubsec r.1 b, r.2)) := by
  funext off
  simp only [subsecItem, genItem, stepSubsecs, subsecHdrStep, bind_assoc, pure_bind, bodySubsec, mkSubsec]

theorem collect_attrs_of_loop {o : SubsubObj} {hv : Nat} (hhv : o.header.value.asNat = .ok hv) {fuel : Nat} {L : List Val}
    (h : attributesLoop (attributeAt o.arch env S data) (o.offset + hv) fuel o.attrStart [] = .ok L) (pos : Nat) :
    ∃ q, Gen.collect env S data (fuel + 1) (.attrs o o.attrStart) pos [] = .ok (L.map .attr, q) := by
  rw [attributesLoop_eq_walk] at h
  have := Walk.walk_map Item.attr (attrItem (attributeAt o.arch env S data)) (o.offset + hv) fuel o.attrStart []
  rw [h] at this
  refine collect_of_walk (resumesAs_attrs o hhv) fuel _ [] _ (Eq.trans ?_ this) pos
  congr 1
  funext p
  simp only [genItem, stepAttrs, attrItem]
  cases attributeAt o.arch env S data p <;> rfl

theorem attrsOf_ok {vs : List Val} {hs : List Item}
    (hm : AllMatch (fun v h => ∃ b, bodySubsub env S data h = .ok b ∧ v = mkSubsub h b) vs hs) :
    ∀ pos acc, ∃ q, attrsOf env S data (data.length + 3) hs pos acc = .ok (acc.reverse ++ vs, q) := by
  induction hm with
  | nil => intro pos acc; exact ⟨pos, by simp [attrsOf]⟩
  | @cons v h vs hs hv _ ih =>
    intro pos acc
    obtain ⟨b, hb, rfl⟩ := hv
    cases h with
    | subsub o =>
      cases hhv : o.header.value.asNat with
      | error e => simp [bodySubsub, hhv, bind, Except.bind] at hb
      | ok n =>
        simp only [bodySubsub, hhv, Engine.ok_bind] at hb
        obtain ⟨q1, h1⟩ := collect_attrs_of_loop hhv hb pos
        obtain ⟨q2, h2⟩ := ih q1 (mkSubsub (.subsub o) b :: acc)
        refine ⟨q2, ?_⟩
        rw [attrsOf, h1]
        simp only [Engine.ok_bind, List.map_map]
        rw [show (itemVal ∘ Item.attr) = id from rfl, List.map_id]
        exact h2.trans (by simp)
    | subsec _ => simp [bodySubsub] at hb
    | attr _ => simp [bodySubsub] at hb

theorem pass23_ok {Ls : List Val} {hs : List Item}
    (hm : AllMatch (fun v h => ∃ b, bodySubsec env S data h = .ok b ∧ v = mkSubsec h b) Ls hs) :
    ∃ lv2, (∀ pos acc, ∃ q, pass2 env S data (data.length + 3) hs pos acc = .ok (acc.reverse ++ lv2, q)) ∧
      ∀ pos acc, pass3 env S data (data.length + 3) lv2 pos acc = .ok (acc.reverse ++ Ls) := by
  induction hm with
  | nil => exact ⟨[], fun pos acc => ⟨pos, by simp [pass2]⟩, fun pos acc => by simp [pass3]⟩
  | @cons v h Ls hs hv _ ih =>
    obtain ⟨lv2, ih2, ih3⟩ := ih
    obtain ⟨b, hb, rfl⟩ := hv
    cases h with
    | subsec o =>
      simp only [bodySubsec] at hb
      rw [subsubLoop_eq_walk, subsubItem_eq] at hb
      obtain ⟨ys, bs, hL, hmm, hw⟩ := Walk.walk_fission _ _ _ _ hb
      simp only [List.reverse_nil, List.nil_append] at hL
      subst hL
      refine ⟨(o, ys) :: lv2, fun pos acc => ?_, fun pos acc => ?_⟩
      · obtain ⟨q1, h1⟩ := collect_of_walk (resumesAs_subsubs o) _ _ [] _ (hw []) pos
        obtain ⟨q2, h2⟩ := ih2 q1 ((o, ys) :: acc)
        refine ⟨q2, ?_⟩
        rw [pass2]
        simp only [List.reverse_nil, List.nil_append] at h1
        rw [h1]
        exact h2.trans (by simp)
      · obtain ⟨q1, h1⟩ := attrsOf_ok hmm pos []
        rw [pass3, h1]
        exact (ih3 q1 _).trans (by simp [mkSubsec])
    | subsub _ => simp [bodySubsec] at hb
    | attr _ => simp [bodySubsec] at hb

theorem levelwise_of_nested (arch : Spec.Attr.Arch) (shOffset shSize : Nat) (v : Val)
    (h : attributesSection arch env S data shOffset shSize = .ok v) :
    levelwise env S data arch shOffset shSize = .ok v := by
  -- the nested run, taken apart: format byte, then the subsection walk `hsl`; `walk_fission` turns it into the list `xs`
  -- of yielded subsections (what pass 1 collects) and their bodies, which `pass23_ok` hands to passes 2 and 3
  unfold attributesSection at h
  cases hb : parseInt env S.Elf_byte data shOffset with
  | error e => simp [hb, bind, Except.bind] at h
  | ok r =>
    obtain ⟨fv, subsecStart⟩ := r
    simp only [hb, bind, Except.bind] at h
    by_cases hfv : fv ≠ 0x41
    · simp [hfv] at h
    · simp only [hfv, if_false] at h
      let sec : SecObj := { arch, shOffset, dataSize := shSize, subsecStart }
      cases hsl : subsecLoop arch env S data (shOffset + shSize) (data.length + 2) subsecStart [] with
      | error e => simp [hsl] at h
      | ok subs =>
        simp only [hsl, pure, Except.pure, Except.ok.injEq] at h
        rw [subsecLoop_eq_walk, subsecItem_eq sec] at hsl
        obtain ⟨xs, Ls, hL, hm, hw⟩ := Walk.walk_fission _ _ _ _ hsl
        simp only [List.reverse_nil, List.nil_append] at hL
        obtain ⟨q1, hq1⟩ := collect_of_walk (resumesAs_subsecs sec) _ _ [] _ (hw []) subsecStart
        obtain ⟨lv2, hp2, hp3⟩ := pass23_ok hm
        obtain ⟨q2, hq2⟩ := hp2 q1 []
        have hq3 := hp3 q2 []
        unfold levelwise openSec
        simp only [hb, bind, Except.bind, hfv, if_false, pure, Except.pure]
        simp only [List.reverse_nil, List.nil_append] at hq1 hq2 hq3
        show (Gen.collect env S data (data.length + 3) (.subsecs sec sec.subsecStart) subsecStart [] >>= _) = _
        rw [hq1]
        simp only [bind, Except.bind]
        simp only [hq2, hq3, ← hL, h]

end

end PyElf.Proofs.C20
