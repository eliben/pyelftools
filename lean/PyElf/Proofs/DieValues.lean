/-
  Value translation (`DIE._translate_attr_value`) against the
  standard's `Spec.C04.resolve`, under an explicit layout of the referenced sections.
-/
import PyElf.Spec.DieTree
import PyElf.Model.Die
import PyElf.Proofs.Primitives
import PyElf.Proofs.DieEntry
import PyElf.Proofs.Follows
namespace PyElf.Proofs.C04
open PyElf PyElf.Spec PyElf.Spec.C04 PyElf.Model PyElf.Model.C04 PyElf.Proofs

/-- the unit sees the sections `secs`, with its DWARF format and address size; every section is addressable by a
    `Py_ssize_t` -/
structure SecsOK (U : UnitCtx) (c : DwarfCfg) (secs : Sections) : Prop where
  secsEq : U.secs = secs
  fmt : U.fmt = c.fmt
  asz : U.addrSize = c.asz
  fmtOK : c.fmt = 32 ∨ c.fmt = 64
  aszPos : 1 ≤ c.asz
  small : ∀ s, (secs.str = some s ∨ secs.lineStr = some s ∨ secs.addr = some s ∨ secs.strOffsets = some s ∨
            secs.loclists = some s ∨ secs.rnglists = some s) → s.length < 2 ^ 63

/-! the disjuncts of `SecsOK.small`, by section name -/

section
variable {U : UnitCtx} {c : DwarfCfg} {secs : Sections} (hS : SecsOK U c secs) {s : Bytes}
include hS
theorem SecsOK.str (h : secs.str = some s) : s.length < 2 ^ 63 := hS.small s (Or.inl h)
theorem SecsOK.lineStr (h : secs.lineStr = some s) : s.length < 2 ^ 63 := hS.small s (Or.inr (Or.inl h))
theorem SecsOK.addr (h : secs.addr = some s) : s.length < 2 ^ 63 := hS.small s (Or.inr (Or.inr (Or.inl h)))
theorem SecsOK.strOffsets (h : secs.strOffsets = some s) : s.length < 2 ^ 63 :=
  hS.small s (Or.inr (Or.inr (Or.inr (Or.inl h))))
theorem SecsOK.loclists (h : secs.loclists = some s) : s.length < 2 ^ 63 :=
  hS.small s (Or.inr (Or.inr (Or.inr (Or.inr (Or.inl h)))))
theorem SecsOK.rnglists (h : secs.rnglists = some s) : s.length < 2 ^ 63 :=
  hS.small s (Or.inr (Or.inr (Or.inr (Or.inr (Or.inr h)))))
end

/-- the base attributes the cached top entry presents are the unit's bases -/
structure BasesOK (top : List AttrObs) (b : Bases) : Prop where
  strOffsets : ∀ v, b.strOffsets = some v → getBaseOffset top "DW_AT_str_offsets_base" = .ok (.int v)
  addr : ∀ v, b.addr = some v → getBaseOffset top "DW_AT_addr_base" = .ok (.int v)
  loclists : ∀ v, b.loclists = some v → getBaseOffset top "DW_AT_loclists_base" = .ok (.int v)
  rnglists : ∀ v, b.rnglists = some v → getBaseOffset top "DW_AT_rnglists_base" = .ok (.int v)

theorem getString_stringAt {sec : Option Bytes} {s : Bytes} {v : Nat} (hs : sec = some s) (hlt : v < s.length)
    (hsz : s.length < 2 ^ 63) : getString sec (.int v) = .ok (stringAt s v) := by
  subst hs
  have hneg : ¬ ((v : Int) < 0) := by omega
  simp only [getString, Val.asInt, bind, Except.bind, hneg, if_false, Int.toNat_natCast,
    parseCStringAt_eq (show v < 2 ^ 63 by omega), pure, Except.pure, stringAt]
  cases firstNul (List.drop v s) <;> simp

theorem structParseAtInt_uint {env : Env} {data : Bytes} {le : Bool} {n pos a : Nat}
    (h : uintAt le data pos n = some a) (hn : 1 ≤ n) (hsz : data.length < 2 ^ 63) :
    structParseAtInt env (.uint n le) data (pos : Int) = .ok (.int a, pos + n) := by
  unfold uintAt at h
  simp only at h
  split at h
  · rename_i hl
    injection h with h
    have hlen : pos < data.length := by
      rw [List.length_take, List.length_drop] at hl; omega
    have h1 : ¬ ((pos : Int) < -((2 ^ 63 : Nat) : Int)) := by omega
    have h2 : ¬ ((pos : Int) < 0) := by omega
    have h3 : ¬ pos ≥ 2 ^ 63 := by omega
    simp only [structParseAtInt, h1, h2, if_false, Int.toNat_natCast, structParseAt, h3, structParse, bind, Except.bind,
      pure, Except.pure]
    rw [Con.parse]
    simp only [readExact, readN, hl, if_true, bind, Except.bind, pure, Except.pure, h]
  · cases h

theorem stringAt?_some {s : Bytes} {o : Nat} {v : Val} (h : stringAt? s o = some v) : o < s.length ∧ v = stringAt s o := by
  unfold stringAt? at h
  split at h
  · rename_i hl; injection h with h; exact ⟨hl, h.symm⟩
  · cases h

theorem getString_follows {sec : Option Bytes} (hsmall : ∀ s, sec = some s → s.length < 2 ^ 63) (o : Nat) :
    Follows id (sec >>= fun s => stringAt? s o) (getString sec (.int o)) := by
  intro v hv
  cases hsec : sec with
  | none => rw [hsec] at hv; cases hv
  | some s =>
    rw [hsec] at hv
    obtain ⟨hlt, rfl⟩ := stringAt?_some hv
    exact getString_stringAt rfl hlt (hsmall s hsec)

/-- forms whose raw value must be a number for the translation to make sense -/
def intForms : List String :=
  ["DW_FORM_strp", "DW_FORM_line_strp", "DW_FORM_flag"] ++ Spec.C04.strxForms ++ Spec.C04.addrxForms
    ++ ["DW_FORM_loclistx", "DW_FORM_rnglistx"]

theorem offsetSize_eq {U : UnitCtx} {c : DwarfCfg} {secs : Sections} (hS : SecsOK U c secs) :
    (if U.fmt = 32 then (4 : Int) else 8) = ((c.fmt / 8 : Nat) : Int) := by
  rw [hS.fmt]
  rcases hS.fmtOK with h | h <;> rw [h] <;> rfl

theorem offSize_pos {U : UnitCtx} {c : DwarfCfg} {secs : Sections} (hS : SecsOK U c secs) : 1 ≤ c.fmt / 8 := by
  rcases hS.fmtOK with h | h <;> rw [h] <;> decide +kernel

theorem the_offset_eq (c : DwarfCfg) : (Spec.dwarfStructs c).the_Dwarf_offset = .uint (c.fmt / 8) c.le := rfl
theorem the_addr_eq (c : DwarfCfg) : (Spec.dwarfStructs c).the_Dwarf_target_addr = .uint c.asz c.le := rfl

theorem cast_slot (base v n : Nat) : (base : Int) + (v : Int) * (n : Int) = ((base + v * n : Nat) : Int) := by
  push_cast; rfl

theorem pyAddInt_slot (base n w : Nat) : pyAddInt (.int base) ((n : Int) * (w : Int)) = .ok ((base + n * w : Nat) : Int) := by
  simp only [pyAddInt, Val.asInt, bind, Except.bind, pure, Except.pure, cast_slot]

/-! `resolve` and `translate`, arm by arm: the arms are stated here by the form they are about.  The compiler's `resolve.eq_n` / `translate.eq_n` are numbered by
  the order of the `match` arms; they are cited in this section and, for the two long right-hand sides (`resolve.eq_5`,
  `translate.eq_6`: a form name that is none of the four special ones), in `translate_plain` and `translate_resolve`. -/

theorem resolve_strp (c : DwarfCfg) (secs : Sections) (b : Bases) (v : Int) :
    resolve c secs b (.str "DW_FORM_strp") (.int v) = secs.str.bind fun s => stringAt? s v.toNat := resolve.eq_1 c secs b v

theorem resolve_line_strp (c : DwarfCfg) (secs : Sections) (b : Bases) (v : Int) :
    resolve c secs b (.str "DW_FORM_line_strp") (.int v) = secs.lineStr.bind fun s => stringAt? s v.toNat :=
  resolve.eq_2 c secs b v

theorem resolve_flag (c : DwarfCfg) (secs : Sections) (b : Bases) (v : Int) :
    resolve c secs b (.str "DW_FORM_flag") (.int v) = some (.bool (v ≠ 0)) := resolve.eq_3 c secs b v

theorem resolve_flag_present (c : DwarfCfg) (secs : Sections) (b : Bases) (raw : Val) :
    resolve c secs b (.str "DW_FORM_flag_present") raw = some (.bool true) := resolve.eq_4 c secs b raw

theorem resolve_plain (c : DwarfCfg) (secs : Sections) (b : Bases) (f : String) (v : Int)
    (h1 : f ∉ ["DW_FORM_strp", "DW_FORM_line_strp", "DW_FORM_flag", "DW_FORM_flag_present", "DW_FORM_loclistx",
      "DW_FORM_rnglistx"])
    (h2 : Spec.C04.strxForms.contains f = false) (h3 : Spec.C04.addrxForms.contains f = false) :
    resolve c secs b (.str f) (.int v) = some (.int v) := by
  simp only [List.mem_cons, List.not_mem_nil, or_false, not_or] at h1
  rw [resolve.eq_5 c secs b f v h1.1 h1.2.1 h1.2.2.1 h1.2.2.2.1, h2, h3, if_neg (by simp), if_neg (by simp),
    if_neg h1.2.2.2.2.1, if_neg h1.2.2.2.2.2]

theorem resolve_not_int (c : DwarfCfg) (secs : Sections) (b : Bases) (form raw : Val)
    (hp : form ≠ .str "DW_FORM_flag_present") (h : ∀ (f : String) (v : Int), form = .str f → raw = .int v → False) :
    resolve c secs b form raw = some raw :=
  resolve.eq_6 c secs b form raw hp (fun v e => h _ v e) (fun v e => h _ v e) (fun v e => h _ v e) h

theorem translate_strp (U : UnitCtx) (ti : Option (List AttrObs)) (raw : Val) :
    translate U ti (.str "DW_FORM_strp") raw = getString U.secs.str raw := translate.eq_1 U ti raw

theorem translate_line_strp (U : UnitCtx) (ti : Option (List AttrObs)) (raw : Val) :
    translate U ti (.str "DW_FORM_line_strp") raw = getString U.secs.lineStr raw := translate.eq_2 U ti raw

theorem translate_flag (U : UnitCtx) (ti : Option (List AttrObs)) (raw : Val) :
    translate U ti (.str "DW_FORM_flag") raw = .ok (.bool (!(raw == .int 0))) := translate.eq_3 U ti raw

theorem translate_flag_present (U : UnitCtx) (ti : Option (List AttrObs)) (raw : Val) :
    translate U ti (.str "DW_FORM_flag_present") raw = .ok (.bool true) := translate.eq_4 U ti raw

theorem translate_none_other (U : UnitCtx) (raw : Val) {f : String} (h1 : ¬ f = "DW_FORM_strp")
    (h2 : ¬ f = "DW_FORM_line_strp") (h3 : ¬ f = "DW_FORM_flag") (h4 : ¬ f = "DW_FORM_flag_present") :
    translate U none (.str f) raw = .ok raw := translate.eq_5 U raw f h1 h2 h3 h4

theorem strx_not_addrx {name : String} (h : Spec.C04.strxForms.contains name = true) :
    Model.C04.addrxForms.contains name = false ∧ Model.C04.strxForms.contains name = true := by
  simp only [Spec.C04.strxForms, List.contains_eq_mem, List.mem_cons, List.not_mem_nil, or_false, decide_eq_true_eq] at h
  rcases h with rfl | rfl | rfl | rfl | rfl <;> decide +kernel

theorem addrx_not_strx {name : String} (h : Spec.C04.addrxForms.contains name = true) :
    Model.C04.addrxForms.contains name = true ∧ Spec.C04.strxForms.contains name = false := by
  simp only [Spec.C04.addrxForms, List.contains_eq_mem, List.mem_cons, List.not_mem_nil, or_false, decide_eq_true_eq] at h
  rcases h with rfl | rfl | rfl | rfl | rfl <;> decide +kernel

theorem mem_intForms_strx {name : String} (h : Spec.C04.strxForms.contains name = true) : name ∈ intForms := by
  have : name ∈ Spec.C04.strxForms := by simpa using h
  simp [intForms, this]

theorem mem_intForms_addrx {name : String} (h : Spec.C04.addrxForms.contains name = true) : name ∈ intForms := by
  have : name ∈ Spec.C04.addrxForms := by simpa using h
  simp [intForms, this]

/-- the value an attribute has while `translate_indirect` is off (the unit's top entry while it is being
    parsed): the index forms stay raw, everything else is resolved -/
def preResolve (c : DwarfCfg) (secs : Sections) (b : Bases) (form raw : Val) : Option Val :=
  match form with
  | .str f => if indexForms.contains f then some raw else resolve c secs b form raw
  | _ => some raw

theorem indexForms_mem {name : String} (h : indexForms.contains name = true) :
    Spec.C04.strxForms.contains name = true ∨ Spec.C04.addrxForms.contains name = true ∨ name = "DW_FORM_loclistx"
      ∨ name = "DW_FORM_rnglistx" := by
  simp only [indexForms, Model.C04.strxForms, Model.C04.addrxForms, List.contains_eq_mem, List.mem_append, List.mem_cons,
    List.not_mem_nil, or_false, decide_eq_true_eq] at h
  rcases h with ((h | h | h | h | h) | (h | h | h | h | h)) | (h | h) <;> subst h <;> decide +kernel

theorem not_indexForms {name : String} (h : indexForms.contains name = false) :
    Model.C04.strxForms.contains name = false ∧ Model.C04.addrxForms.contains name = false ∧ ¬ name = "DW_FORM_loclistx"
      ∧ ¬ name = "DW_FORM_rnglistx" := by
  simp only [indexForms, List.contains_eq_mem, List.mem_append, List.mem_cons,
    List.not_mem_nil, or_false, decide_eq_false_iff_not, not_or] at h
  obtain ⟨⟨h1, h2⟩, h3, h4⟩ := h
  exact ⟨by simpa using h1, by simpa using h2, h3, h4⟩

theorem index_not_special {name : String} (hi : indexForms.contains name = true) :
    ¬ name = "DW_FORM_strp" ∧ ¬ name = "DW_FORM_line_strp" ∧ ¬ name = "DW_FORM_flag" ∧ ¬ name = "DW_FORM_flag_present" := by
  refine ⟨fun e => ?_, fun e => ?_, fun e => ?_, fun e => ?_⟩
  all_goals
    rw [e] at hi
    exact absurd hi (by decide +kernel)

theorem translate_plain {U : UnitCtx} {c : DwarfCfg} {secs : Sections} (hS : SecsOK U c secs)
    (ti : Option (List AttrObs)) (b : Bases) (name : String) (r v : Val) (hni : indexForms.contains name = false)
    (hint : name ∈ intForms → ∃ n : Nat, r = .int n) (hres : resolve c secs b (.str name) r = some v) :
    translate U ti (.str name) r = .ok v := by
  obtain ⟨hs, ha, hl, hr⟩ := not_indexForms hni
  by_cases h1 : name = "DW_FORM_strp"
  · subst h1
    obtain ⟨n, rfl⟩ := hint (by decide +kernel)
    rw [resolve_strp, Int.toNat_natCast] at hres
    rw [translate_strp, hS.secsEq]
    exact getString_follows (fun _ hs => hS.str hs) n v hres
  by_cases h2 : name = "DW_FORM_line_strp"
  · subst h2
    obtain ⟨n, rfl⟩ := hint (by decide +kernel)
    rw [resolve_line_strp, Int.toNat_natCast] at hres
    rw [translate_line_strp, hS.secsEq]
    exact getString_follows (fun _ hs => hS.lineStr hs) n v hres
  by_cases h3 : name = "DW_FORM_flag"
  · subst h3
    obtain ⟨n, rfl⟩ := hint (by decide +kernel)
    rw [resolve_flag] at hres
    injection hres with hres
    subst hres
    rw [translate_flag]
    by_cases h0 : n = 0 <;> simp [h0, BEq.beq, Val.beq]
  by_cases h4 : name = "DW_FORM_flag_present"
  · subst h4
    rw [resolve_flag_present] at hres
    injection hres with hres
    subst hres
    exact translate_flag_present U ti r
  -- any other form that is not an index form: `resolve` leaves the value raw …
  have hv : v = r := by
    cases r with
    | int w =>
      have hs' : Spec.C04.strxForms.contains name = false := hs
      have ha' : Spec.C04.addrxForms.contains name = false := ha
      rw [resolve_plain c secs b name w (by simp [h1, h2, h3, h4, hl, hr]) hs' ha'] at hres
      injection hres with hres; exact hres.symm
    | _ =>
      rw [resolve_not_int c secs b _ _ (fun e => h4 (Val.str.inj e)) (fun _ _ _ e => by cases e)] at hres
      injection hres with hres; exact hres.symm
  subst hv
  -- … and so does the library
  cases ti with
  | none => exact translate_none_other U v h1 h2 h3 h4
  | some top =>
    rw [translate.eq_6 U v name top h1 h2 h3 h4]
    simp only [ha, hs, Bool.false_eq_true, if_false, hl, hr]

/-- one slot of a table section, as each reader of such a table takes it: the base attribute of the top entry, the
    address `base + n·w`, the unsigned field of `w` bytes there -/
theorem slot_follows {γ δ : Type} {ψ : γ → δ} {env : Env} {top : List AttrObs} {baseName : String} {obase : Option Nat}
    {le : Bool} {sec : Bytes} {n w : Nat} (hw : 1 ≤ w) (hsmall : sec.length < 2 ^ 63)
    (hb : ∀ base, obase = some base → getBaseOffset top baseName = .ok (.int base))
    {g : Nat → Nat → Option γ} {k : Val → Val × Nat → R δ}
    (hk : ∀ base o, Follows ψ (g base o) (k (.int base) (.int o, base + n * w + w))) :
    Follows ψ (obase >>= fun base => uintAt le sec (base + n * w) w >>= g base)
      (getBaseOffset top baseName >>= fun base => (Val.int n).asInt >>= fun idx => pyAddInt base (idx * (w : Int)) >>=
        fun pos => structParseAtInt env (.uint w le) sec pos >>= k base) :=
  Follows.bind (φ := fun base : Nat => Val.int base) hb fun base _ =>
    Follows.skip (b := (n : Int)) rfl (Follows.skip (pyAddInt_slot base n w)
      (Follows.bind (φ := fun o : Nat => (Val.int o, base + n * w + w)) (fun o ho => structParseAtInt_uint ho hw hsmall)
        fun o _ => hk base o))

theorem resolveViaOffsetTable_follows {U : UnitCtx} {c : DwarfCfg} {nm : Names} {secs : Sections} (hU : UnitOK U c nm)
    (hS : SecsOK U c secs) {osec : Option Bytes} {obase : Option Nat} {top : List AttrObs} {baseName : String} {n : Nat}
    (hsmall : ∀ s, osec = some s → s.length < 2 ^ 63)
    (hb : ∀ base, obase = some base → getBaseOffset top baseName = .ok (.int base)) :
    Follows id (do let sec ← osec
                   let base ← obase
                   let o ← uintAt c.le sec (base + n * (c.fmt / 8)) (c.fmt / 8)
                   pure (Val.int (base + o)))
      (resolveViaOffsetTable U osec top (.int n) baseName) := by
  cases osec with
  | none => exact Follows.none
  | some sec =>
    unfold resolveViaOffsetTable
    rw [offsetSize_eq hS, hU.structs.offset, the_offset_eq]
    exact slot_follows (offSize_pos hS) (hsmall sec rfl) hb fun base o => Follows.of_eq rfl

theorem translate_resolve {U : UnitCtx} {c : DwarfCfg} {nm : Names} {secs : Sections} (hU : UnitOK U c nm)
    (hS : SecsOK U c secs) {top : List AttrObs} {b : Bases} (hB : BasesOK top b) (name : String) (r v : Val)
    (hint : name ∈ intForms → ∃ n : Nat, r = .int n) (hres : resolve c secs b (.str name) r = some v) :
    translate U (some top) (.str name) r = .ok v := by
  cases hi : indexForms.contains name with
  | false => exact translate_plain hS (some top) b name r v hi hint hres
  | true =>
    -- an index form: a number, and neither a string offset nor a flag
    have hn : ∃ n : Nat, r = .int n := by
      rcases indexForms_mem hi with h | h | h | h
      · exact hint (mem_intForms_strx h)
      · exact hint (mem_intForms_addrx h)
      · exact hint (by rw [h]; decide +kernel)
      · exact hint (by rw [h]; decide +kernel)
    obtain ⟨n, rfl⟩ := hn
    obtain ⟨h1, h2, h3, h4⟩ := index_not_special hi
    refine Follows.ok (φ := id) ?_ hres
    rw [translate.eq_6 U _ name top h1 h2 h3 h4, resolve.eq_5 c secs b name n h1 h2 h3 h4, Int.toNat_natCast, hS.secsEq]
    rcases indexForms_mem hi with hs | ha | hl | hr
    · -- strx*: the string at the offset stored in the slot of `.debug_str_offsets`
      obtain ⟨ha, hs'⟩ := strx_not_addrx hs
      rw [if_pos hs, if_neg (by rw [ha]; exact Bool.false_ne_true), if_pos hs']
      cases hso : secs.strOffsets with
      | none => exact Follows.none
      | some so =>
        rw [offsetSize_eq hS, hU.structs.offset, the_offset_eq]
        exact slot_follows (offSize_pos hS) (hS.strOffsets hso) hB.strOffsets
          fun base o => getString_follows (fun _ hs => hS.str hs) o
    · -- addrx*: the address in the slot of `.debug_addr`
      obtain ⟨ha', hs⟩ := addrx_not_strx ha
      rw [if_neg (by rw [hs]; exact Bool.false_ne_true), if_pos ha, if_pos ha']
      cases hsec : secs.addr with
      | none => exact Follows.none
      | some sec =>
        rw [hS.asz, hU.structs.addr, the_addr_eq]
        exact slot_follows hS.aszPos (hS.addr hsec) hB.addr fun base a => Follows.of_eq rfl
    · -- loclistx: the slot of the offset table of `.debug_loclists`
      subst hl
      rw [if_neg (by decide +kernel), if_neg (by decide +kernel), if_pos rfl, if_neg (by decide +kernel),
        if_neg (by decide +kernel), if_pos rfl]
      exact resolveViaOffsetTable_follows hU hS
        (fun _ hs => hS.loclists hs) hB.loclists
    · -- rnglistx: … of `.debug_rnglists`
      subst hr
      rw [if_neg (by decide +kernel), if_neg (by decide +kernel), if_neg (by decide +kernel), if_pos rfl,
        if_neg (by decide +kernel), if_neg (by decide +kernel), if_neg (by decide +kernel), if_pos rfl]
      exact resolveViaOffsetTable_follows hU hS
        (fun _ hs => hS.rnglists hs) hB.rnglists

theorem translate_none {U : UnitCtx} {c : DwarfCfg} {secs : Sections}
    (hS : SecsOK U c secs) (b : Bases) (name : String) (r v : Val)
    (hint : name ∈ intForms → ∃ n : Nat, r = .int n) (hres : preResolve c secs b (.str name) r = some v) :
    translate U none (.str name) r = .ok v := by
  unfold preResolve at hres
  cases hi : indexForms.contains name with
  | false =>
    simp only [hi, Bool.false_eq_true, if_false] at hres
    exact translate_plain hS none b name r v hi hint hres
  | true =>
    -- an index form stays raw while the top entry is being parsed
    simp only [hi, if_true, Option.some.injEq] at hres
    subst hres
    obtain ⟨h1, h2, h3, h4⟩ := index_not_special hi
    exact translate_none_other U r h1 h2 h3 h4

end PyElf.Proofs.C04
