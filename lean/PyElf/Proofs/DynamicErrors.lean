/-
  What dynamic.py does when the dynamic information is incomplete: no string table, a symbol table pointer that maps
  nowhere.  Each lemma states the exact exception class.  (A table that runs off the end of the file: Proofs/DynamicTrunc.lean.)
-/
import PyElf.Proofs.Dynamic
namespace PyElf.Proofs.Dynamic
open PyElf PyElf.Spec PyElf.Spec.Dynamic PyElf.Model PyElf.Model.Dynamic PyElf.Proofs

theorem mkTag_none (data : Bytes) (entry : Val) : mkTag data (.ok none) entry = .error .elfError := rfl

theorem tags_pos_of_term {tags : List (Int × Nat)} (h : hasTerminator tags = true) : 0 < tags.length := by
  cases tags with
  | nil => simp [hasTerminator] at h
  | cons _ _ => simp

section nostr
variable {env : Env} {S : ElfStructs} {data : Bytes} {d : Dyn} {le : Bool} {w : Nat} {tbl : String}
  {tags : List (Int × Nat)} {ifc : FileIfc} {hs : List Val}

theorem tags_no_strtab (V : TableView S data d le w tbl tags) (hpos : 0 < tags.length)
    (hst : getStringtable env S data ifc d = .ok none) :
    iterTags env S data ifc d none = .error .elfError ∧ numTags env S data ifc d = .error .elfError ∧
    ∀ n, n < tags.length → getTag env S data ifc d n = .error .elfError := by
  have hf := tagFuel_ge V
  obtain ⟨fuel, hfuel⟩ : ∃ k, tagFuel data d = k + 1 := ⟨tagFuel data d - 1, by omega⟩
  have hget : ∀ n, n < tags.length → getTag env S data ifc d n = .error .elfError := by
    intro n hn
    unfold getTag
    simp only [getTagRaw_view V n hn, hst, bind, Except.bind, mkTag_none]
  refine ⟨?_, ?_, hget⟩
  · unfold iterTags foldTags
    simp only [V.nonempty, Bool.false_eq_true, if_false, hfuel, bind, Except.bind]
    rw [foldTags.go]
    simp only [getTagRaw_view V 0 hpos, hst, bind, Except.bind, getField_tag, tagMatches, if_true, mkTag_none]
  · unfold numTags
    simp only [V.nonempty, Bool.false_eq_true, if_false, hfuel]
    rw [numTags.go, hget 0 hpos]
    rfl

theorem getSymbol_no_strtab (V : TableView S data d le w tbl tags) (hnull : NullIs env tbl)
    (hterm : hasTerminator tags = true) (SV : SegsView ifc hs)
    (hsymtab : TagIs env tbl "DT_SYMTAB" DT_SYMTAB)
    {a symOff : Nat} (ha : firstVal (liveTags tags) DT_SYMTAB = some a) (ho : mapAddr hs a = some symOff)
    {syms : List Fields} {es : List Val} (Y : SymView env S data symOff syms es)
    (hst : getStringtable env S data ifc d = .ok none) (i : Nat) (h1 : i < syms.length) :
    getSymbol env S data ifc d i = .error .attributeError := by
  rw [getSymbol_eq V hnull hterm SV hsymtab ha ho Y i h1 (by rw [Y.len]; exact h1), hst]
  rfl

theorem getSymbol_unmapped (V : TableView S data d le w tbl tags) (hnull : NullIs env tbl)
    (hterm : hasTerminator tags = true) (SV : SegsView ifc hs)
    (hsymtab : TagIs env tbl "DT_SYMTAB" DT_SYMTAB)
    (hno : (firstVal (liveTags tags) DT_SYMTAB).bind (mapAddr hs) = none) (i : Nat) :
    getSymbol env S data ifc d i = .error .elfError := by
  unfold getSymbol
  rw [getTableOffset_view V hnull hterm SV "DT_SYMTAB" DT_SYMTAB hsymtab, hno]
  cases firstVal (liveTags tags) DT_SYMTAB <;> rfl

end nostr

end PyElf.Proofs.Dynamic
