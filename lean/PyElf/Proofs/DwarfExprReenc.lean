/-
  C12, writing back: re-encoding the observation of a minimally encoded expression gives its bytes again
  (`reencArgs_ok` for an operand list, `reencOps_ok` for expressions nested to any depth).  Namespace `PyElf.Proofs`.
-/
import PyElf.Proofs.DwarfExpr
namespace PyElf.Proofs
open PyElf PyElf.Spec PyElf.Model PyElf.Proofs.Engine

theorem valBytes?_obs (b : Bytes) : valBytes? (b.map fun x => Val.int x.toNat) = some b := by
  induction b with
  | nil => rfl
  | cons x b ih =>
    have hx : x.toNat < 256 := x.toNat_lt
    simp only [List.map_cons, valBytes?, ih]
    show (match valNat? (Val.int (Int.ofNat x.toNat)), some b with
      | some n, some r => if n < 256 then some (UInt8.ofNat n :: r) else none
      | _, _ => none) = some (x :: b)
    simp [valNat?, hx]

theorem opMinimal_plain (c : DwarfCfg) (opc : Nat) (args : List Arg) :
    opMinimal c (.plain opc args) = args.all argMinimal := by rw [opMinimal]

theorem opsMinimal_cons (c : DwarfCfg) (o : Op) (os : List Op) :
    opsMinimal c (o :: os) = (opMinimal c o && opsMinimal c os) := by rw [opsMinimal]

/-- the observed value is read back and encoded minimally, which is the operand's own encoding because that is minimal
    (`hmin`) -/
theorem reencArgs_ok : ∀ (ks : List ArgKind) (as : List Arg), argsFit ks as = true → as.all argMinimal = true →
    reencArgs ks (as.flatMap obsArg) = some (encArgs ks as) := by
  intro ks
  induction ks with
  | nil =>
    intro as hfit _
    cases as with
    | nil => rfl
    | cons a as => simp [argsFit] at hfit
  | cons k ks ih =>
    intro as hfit hmin
    cases as with
    | nil => simp [argsFit] at hfit
    | cons a as =>
      simp only [argsFit, Bool.and_eq_true] at hfit
      simp only [List.all_cons, Bool.and_eq_true] at hmin
      have ih' := ih as hfit.2 hmin.2
      obtain ⟨hfit1, -⟩ := hfit
      obtain ⟨hmin1, -⟩ := hmin
      cases k <;> cases a <;> simp only [argFit, Bool.false_eq_true] at hfit1
      case u.u n le v =>
        simp only [List.flatMap_cons, obsArg, List.singleton_append, encArgs, encArg]
        show reencArgs (.u n le :: ks) (Val.int (Int.ofNat v) :: _) = _
        simp [reencArgs, valNat?, ih']
      case s.s n le v =>
        simp only [List.flatMap_cons, obsArg, List.singleton_append, encArgs, encArg]
        simp [reencArgs, valInt?, ih']
      case uleb.uleb n v =>
        simp only [argMinimal, beq_iff_eq] at hmin1
        simp only [List.flatMap_cons, obsArg, List.singleton_append, encArgs, encArg]
        show reencArgs (.uleb :: ks) (Val.int (Int.ofNat v) :: _) = _
        simp [reencArgs, valNat?, ih', hmin1]
      case sleb.sleb n v =>
        simp only [argMinimal, beq_iff_eq] at hmin1
        simp only [List.flatMap_cons, obsArg, List.singleton_append, encArgs, encArg]
        simp [reencArgs, valInt?, ih', hmin1]
      case block.block n b =>
        simp only [argMinimal, beq_iff_eq] at hmin1
        simp only [List.flatMap_cons, obsArg, obsBytes, List.singleton_append, encArgs, encArg]
        simp [reencArgs, valBytes?_obs, ih', hmin1]
      case block1.block1 b =>
        simp only [List.flatMap_cons, obsArg, obsBytes, List.singleton_append, encArgs, encArg]
        simp [reencArgs, valBytes?_obs, ih']
      case wasm.wasm le k n v =>
        simp only [argMinimal, Bool.or_eq_true, decide_eq_true_eq, beq_iff_eq] at hmin1
        simp only [Bool.and_eq_true, Bool.or_eq_true, decide_eq_true_eq] at hfit1
        simp only [List.flatMap_cons, obsArg, List.cons_append, List.nil_append, encArgs, encArg]
        show reencArgs (.wasm le :: ks) (Val.int (Int.ofNat k) :: Val.int (Int.ofNat v) :: _) = _
        by_cases hk : k ≤ 2
        · have hn : n = ulebLen v := by
            rcases hmin1 with h | h
            · omega
            · exact h
          simp [reencArgs, valNat?, ih', hk, hn]
        · simp [reencArgs, valNat?, ih', hk]

theorem argsFit_expr_false (as : List Arg) : argsFit [.expr] as = false := by
  cases as with
  | nil => rfl
  | cons a as => cases a <;> simp [argsFit, argFit]

/-- a plain operation's signature is not `[.expr]` (`argsFit_expr_false`); an entry-value operation re-encodes its nested
    observation on the fuel left.  Fuel: one unit per operation and per nesting level; the encoded length + 1 bounds both. -/
theorem reencOps_ok (c : DwarfCfg) : ∀ ops : List Op, WFops c ops = true → opsMinimal c ops = true →
    ∀ (fuel off : Nat), (encodeOps c ops).length + 1 ≤ fuel →
      reencOps c fuel (annotate c off ops) = some (encodeOps c ops) := by
  intro ops
  induction ops using ops_induction with
  | hnil =>
    intro _ _ fuel off hf
    cases fuel with
    | zero => omega
    | succ fuel => simp [annotate, encodeOps, reencOps]
  | hplain opc args ops ih =>
    intro hwf hmin fuel off hf
    rw [WFops_cons, Bool.and_eq_true] at hwf
    rw [opsMinimal_cons, Bool.and_eq_true, opMinimal_plain] at hmin
    obtain ⟨hop, hrest⟩ := hwf
    obtain ⟨ks, hs, hop⟩ := WFop_plain.1 hop
    have hne : ks ≠ [.expr] := by
      intro h; rw [h, argsFit_expr_false] at hop; exact absurd hop (by decide)
    rw [encodeOps_cons, encodeOp, hs] at hf ⊢
    simp only [Option.getD_some] at hf ⊢
    cases fuel with
    | zero => omega
    | succ fuel =>
      have hf' : (encodeOps c ops).length + 1 ≤ fuel := by
        simp only [List.length_cons, List.length_append] at hf; omega
      rw [annotate_cons, obsOp, obsRecord]
      show reencOps c (fuel + 1) (Val.record [("op", Val.int (Int.ofNat opc)), _, ("args", Val.list _), _] :: _) = _
      rw [reencOps]
      simp only [hs, if_neg hne, reencArgs_ok ks args hop hmin.1, ih hrest hmin.2 fuel _ hf']
  | hentry opc n body ops ihb ih =>
    intro hwf hmin fuel off hf
    rw [WFops_cons, Bool.and_eq_true] at hwf
    rw [opsMinimal_cons, Bool.and_eq_true, opMinimal, Bool.and_eq_true, beq_iff_eq] at hmin
    obtain ⟨hop, hrest⟩ := hwf
    obtain ⟨hs, hn, hlen, hbody⟩ := WFop_entry.1 hop
    obtain ⟨⟨hnmin, hbmin⟩, hrmin⟩ := hmin
    rw [encodeOps_cons, encodeOp] at hf ⊢
    cases fuel with
    | zero => omega
    | succ fuel =>
      have hlenB : (encodeOps c body).length + 1 ≤ fuel := by
        simp only [List.length_cons, List.length_append, encUlebN_length] at hf; omega
      have hf' : (encodeOps c ops).length + 1 ≤ fuel := by
        simp only [List.length_cons, List.length_append] at hf; omega
      rw [annotate_cons, obsOp, obsRecord]
      show reencOps c (fuel + 1) (Val.record [("op", Val.int (Int.ofNat opc)), _, ("args", Val.list _), _] :: _) = _
      rw [reencOps]
      simp only [hs, if_true, nestedBody?, ihb hbody hbmin fuel 0 hlenB, ih hrest hrmin fuel _ hf', ← hnmin]

end PyElf.Proofs
