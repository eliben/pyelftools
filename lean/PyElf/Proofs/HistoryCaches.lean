/-
  C10: the cache layer around the base state machine (`Model/HistoryCaches.lean`).
  * abbreviation tables: in every state whose caches hold parse results (`AbInv`) `cu.get_abbrev_table()` answers
    the pure parse at the unit's `debug_abbrev_offset` — so the `File` the base step runs on IS the stateless
    `pureFile X`, and every theorem about the base machine applies verbatim;
  * line programs: the cached `LineProgram` object answers what a fresh parse / decode answers (`LPWF`: units that
    share a program have the same structs; decoding does not change the header — the DW_LNE_define_file finding);
  * CFI: `Proofs/HistoryCfi.lean`.
-/
import PyElf.Model.HistoryCaches
import PyElf.Proofs.HistoryState
import PyElf.Proofs.HistoryCfi
namespace PyElf.Proofs.C10
open PyElf PyElf.Model.Lookup PyElf.Model.C10 PyElf.Proofs.Lookup

/-- the stateless meaning of `cu.get_abbrev_table()` -/
def pureTable (X : XFile) (cu : Nat) : R Nat :=
  if X.abbrevOff cu < X.abbrevSize then X.parseAbbrev (X.abbrevOff cu) else .error .dwarfError

/-- the stateless `File`: every DIE is built with the pure parse of its unit's table -/
def pureFile (X : XFile) : File := fileWith X (pureTable X)

structure AbInv (X : XFile) (a : AbState) : Prop where
  cache : ∀ k t, assocGet? a.cache k = some t → X.parseAbbrev k = .ok t
  memo : ∀ cu t, assocGet? a.memo cu = some t → pureTable X cu = .ok t

theorem abInv_init (X : XFile) : AbInv X ⟨[], []⟩ :=
  { cache := fun k t h => by simp [assocGet?] at h, memo := fun k t h => by simp [assocGet?] at h }

section ab
variable {X : XFile} {a : AbState}

theorem diTable_spec (h : AbInv X a) (off : Nat) :
    (diTable X a off).1 = (if off < X.abbrevSize then X.parseAbbrev off else .error .dwarfError) ∧
      AbInv X (diTable X a off).2 := by
  unfold diTable
  by_cases hlt : off < X.abbrevSize
  · simp only [hlt, if_true]
    cases hg : assocGet? a.cache off with
    | some t => exact ⟨(h.cache off t hg).symm, h⟩
    | none =>
      simp only
      cases hp : X.parseAbbrev off with
      | error e => exact ⟨rfl, h⟩
      | ok t =>
        exact ⟨rfl, { cache := assocSet_forall (P := fun k t => X.parseAbbrev k = .ok t) h.cache hp, memo := h.memo }⟩
  · simp only [hlt, if_false]
    exact ⟨trivial, h⟩

theorem cuTable_spec (h : AbInv X a) (cu : Nat) :
    (cuTable X a cu).1 = pureTable X cu ∧ AbInv X (cuTable X a cu).2 := by
  unfold cuTable
  cases hg : assocGet? a.memo cu with
  | some t => exact ⟨(h.memo cu t hg).symm, h⟩
  | none =>
    simp only
    obtain ⟨h1, h2⟩ := diTable_spec h (X.abbrevOff cu)
    generalize diTable X a (X.abbrevOff cu) = x at h1 h2
    obtain ⟨r, a'⟩ := x
    simp only at h1 h2
    cases r with
    | error e => exact ⟨h1, h2⟩
    | ok t =>
      exact ⟨h1, { cache := h2.cache, memo := assocSet_forall (P := fun k t => pureTable X k = .ok t) h2.memo h1.symm }⟩

theorem syncUnit_inv (h : AbInv X a) (p : Nat × UnitCache) : AbInv X (syncUnit X a p) := by
  unfold syncUnit
  split
  · exact (cuTable_spec h p.1).2
  · exact h

theorem foldl_syncUnit_inv : ∀ (us : List (Nat × UnitCache)) (a : AbState), AbInv X a → AbInv X (us.foldl (syncUnit X) a)
  | [], _, h => h
  | p :: us, _, h => foldl_syncUnit_inv us _ (syncUnit_inv h p)

end ab

theorem fileOf_eq {X : XFile} {xs : XState} (h : AbInv X xs.ab) : fileOf X xs = pureFile X := by
  unfold fileOf pureFile
  rw [show tableFor X xs.ab = pureTable X from funext fun cu => (cuTable_spec h cu).1]

/-- `DW_AT_stmt_list` of the unit's top DIE -/
def topStmt (X : XFile) (c : CU) : R (Option Nat) := ((pureFile X).parseDIE c.cuOffset c.cuDieOffset).map (·.stmt)

/-- units that point at the same line program have the same structs (the cached object was parsed with those of
    the unit that asked first), and decoding the entries does not change the header (no DW_LNE_define_file) -/
structure LPWF (X : XFile) (cs : List CU) : Prop where
  share : ∀ c ∈ cs, ∀ c' ∈ cs, ∀ o, topStmt X c = .ok (some o) → topStmt X c' = .ok (some o) →
    X.lpKey c.cuOffset = X.lpKey c'.cuOffset
  stable : ∀ k o h e h', X.lpParse k o = .ok h → X.lpDecode k o = .ok (e, h') → h' = h

/-- every cached `LineProgram` is the pure parse at its offset, its memorised entries the pure decoding -/
def LInv (X : XFile) (cs : List CU) (lines : List (Nat × LPObj)) : Prop :=
  ∀ o obj, assocGet? lines o = some obj →
    (∃ c ∈ cs, topStmt X c = .ok (some o) ∧ obj.key = X.lpKey c.cuOffset) ∧ X.lpParse obj.key o = .ok obj.hdr ∧
    (∀ e, obj.entries = some e → ∃ h', X.lpDecode obj.key o = .ok (e, h'))

/-- the stateless meaning of `line_program_for_CU` (header, optionally the entries) for structs `k`, offset `o` -/
def pureLP (X : XFile) (k o : Nat) (decode : Bool) : R XAns :=
  match X.lpParse k o with
  | .error e => .error e
  | .ok h =>
    if decode then
      match X.lpDecode k o with
      | .error e => .error e
      | .ok (e, h') => .ok (.lp o h' (some e))
    else .ok (.lp o h none)

/-- the part of `line_program_for_CU` behind `DW_AT_stmt_list` -/
theorem lpTail_spec {X : XFile} {cs : List CU} (lw : LPWF X cs) {xs : XState} (hl : LInv X cs xs.lines)
    {c : CU} (hc : c ∈ cs) {o : Nat} (hs : topStmt X c = .ok (some o)) (decode : Bool) :
    ∃ lines', LInv X cs lines' ∧
      lpTail X xs c.cuOffset o decode = (pureLP X (X.lpKey c.cuOffset) o decode, { xs with lines := lines' }) := by
  -- `tail`: what `get_entries()` does to an object at hand; both branches below (cached object, fresh parse) end in it
  have tail : ∀ (lines1 : List (Nat × LPObj)) (obj : LPObj), LInv X cs lines1 → obj.key = X.lpKey c.cuOffset →
      X.lpParse obj.key o = .ok obj.hdr → (∀ e, obj.entries = some e → ∃ h', X.lpDecode obj.key o = .ok (e, h')) →
      ∃ lines', LInv X cs lines' ∧
        (if decode then
            match lpEntries X lines1 o obj with
            | (.error e, lines) => ((.error e : R XAns), ({ xs with lines := lines } : XState))
            | (.ok (e, h), lines) => (.ok (.lp o h (some e)), { xs with lines := lines })
          else (.ok (.lp o obj.hdr none), { xs with lines := lines1 }))
          = (pureLP X (X.lpKey c.cuOffset) o decode, { xs with lines := lines' }) := by
    intro lines1 obj hl1 hk hp he
    rw [← hk]
    cases decode with
    | false =>
      refine ⟨lines1, hl1, ?_⟩
      simp only [pureLP, hp, Bool.false_eq_true, if_false]
    | true =>
      simp only [pureLP, hp, if_true]
      unfold lpEntries
      cases hent : obj.entries with
      | some e =>
        obtain ⟨h', hd⟩ := he e hent
        have := lw.stable _ _ _ _ _ hp hd
        subst this
        exact ⟨lines1, hl1, by simp only [hd]⟩
      | none =>
        simp only
        cases hd : X.lpDecode obj.key o with
        | error e => exact ⟨lines1, hl1, rfl⟩
        | ok eh =>
          obtain ⟨e, h'⟩ := eh
          have hh := lw.stable _ _ _ _ _ hp hd
          refine ⟨assocSet lines1 o { obj with hdr := h', entries := some e },
            assocSet_forall hl1 ⟨⟨c, hc, hs, hk⟩, ?_, ?_⟩, rfl⟩
          · show X.lpParse obj.key o = .ok h'
            rw [hh]; exact hp
          · intro e' he'
            injection he' with he'
            subst he'
            exact ⟨h', hd⟩
  unfold lpTail lpFetch
  cases hg : assocGet? xs.lines o with
  | some obj =>
    obtain ⟨⟨c', hc', hs', hk'⟩, hp, he⟩ := hl o obj hg
    have hk : obj.key = X.lpKey c.cuOffset := by rw [hk']; exact lw.share c' hc' c hc o hs' hs
    exact tail xs.lines obj hl hk hp he
  | none =>
    simp only
    cases hp : X.lpParse (X.lpKey c.cuOffset) o with
    | error e => exact ⟨xs.lines, hl, by simp only [pureLP, hp]⟩
    | ok h =>
      simp only
      exact tail _ ⟨X.lpKey c.cuOffset, h, none⟩ (assocSet_forall hl ⟨⟨c, hc, hs, rfl⟩, hp, fun e he => by cases he⟩) rfl hp
        (fun e he => by cases he)

structure XWF (X : XFile) (cs : List CU) (T : Nat → DTree) : Prop where
  file : FileWF (pureFile X) cs
  tree : TreeWF (pureFile X) cs T
  lp : LPWF X cs
  cfi : ∀ eh, CfiWF X eh
  cfiFuel : ∀ eh, pureAll X eh ≠ .error .outOfFuel

structure XInvT (X : XFile) (cs : List CU) (T : Nat → DTree) (g : Ghost) (xs : XState) : Prop where
  base : InvT (pureFile X) cs T g xs.base
  ab : AbInv X xs.ab
  lines : LInv X cs xs.lines
  cfiD : CObjInv X false xs.cfiD
  cfiE : CObjInv X true xs.cfiE

theorem xinvT_init (X : XFile) (cs : List CU) (T : Nat → DTree) : XInvT X cs T [] XState.init :=
  { base := invT_init _ cs T, ab := abInv_init X, lines := fun o obj h => by simp [XState.init, assocGet?] at h,
    cfiD := cobj_new X false, cfiE := cobj_new X true }

def XOpValid (X : XFile) (cs : List CU) (T : Nat → DTree) : XOp → Prop
  | .base op => OpValidT (pureFile X) cs T op
  | .abbrevCU cu => ∃ c ∈ cs, c.cuOffset = cu
  | .lp cu _ => ∃ c ∈ cs, c.cuOffset = cu
  | _ => True

def xghostStep (g : Ghost) : XOp → Ghost
  | .base op => ghostStep g op
  | _ => g

def xghost (ops : List XOp) : Ghost := ops.foldl xghostStep []

section xstate
variable {X : XFile} {cs : List CU} {T : Nat → DTree} {g : Ghost} {xs : XState}

theorem xstep_lp (w : XWF X cs T) (hinv : XInvT X cs T g xs) {c : CU} (hc : c ∈ cs) (decode : Bool) :
    (xstep X xs (.lp c.cuOffset decode)).1
        = (match topStmt X c with
            | .error e => .error e
            | .ok none => .ok .none
            | .ok (some o) => pureLP X (X.lpKey c.cuOffset) o decode) ∧
      XInvT X cs T g (xstep X xs (.lp c.cuOffset decode)).2 := by
  have hb := step_invT w.file w.tree hinv.base (op := .lp c.cuOffset decode) (show OpValidT _ cs T (.lp c.cuOffset decode) from ⟨c, hc, rfl⟩)
  obtain ⟨b, e, _⟩ := pair_of_fst_snd (step_lp w.file hinv.base.base hc decode)
  rw [e] at hb
  simp only [xstep, fileOf_eq hinv.ab, e]
  have hab : AbInv X (syncAb X { xs with base := b }).ab := foldl_syncUnit_inv _ _ hinv.ab
  have hsync : XInvT X cs T g (syncAb X { xs with base := b }) :=
    { hinv with base := hb, ab := hab }
  unfold topStmt
  cases hp : (pureFile X).parseDIE c.cuOffset c.cuDieOffset with
  | error e =>
    simp only [Except.map]
    exact ⟨trivial, hsync⟩
  | ok top =>
    cases hst : top.stmt with
    | none => simp only [Except.map, hst]; exact ⟨trivial, hsync⟩
    | some o =>
      simp only [Except.map, hst]
      have hs : topStmt X c = .ok (some o) := by simp [topStmt, hp, Except.map, hst]
      obtain ⟨lines', hl', heq⟩ := lpTail_spec w.lp (xs := syncAb X { xs with base := b }) hinv.lines hc hs decode
      rw [heq]
      exact ⟨rfl, { hinv with base := hb, ab := hab, lines := hl' }⟩

theorem xstep_abbrevCU (w : XWF X cs T) (hinv : XInvT X cs T g xs) {c : CU} (hc : c ∈ cs) :
    (xstep X xs (.abbrevCU c.cuOffset)).1 = (pureTable X c.cuOffset).map XAns.tbl ∧
      XInvT X cs T g (xstep X xs (.abbrevCU c.cuOffset)).2 := by
  have hb := step_invT w.file w.tree hinv.base (op := .cuAt c.cuOffset) (show OpValidT _ cs T (.cuAt c.cuOffset) from ⟨c, hc, rfl⟩)
  obtain ⟨b, e1, _⟩ := pair_of_fst_snd (step_cuAt w.file hinv.base.base hc)
  obtain ⟨a', e2, h2⟩ := pair_of_fst_snd (cuTable_spec hinv.ab c.cuOffset)
  rw [e1] at hb
  simp only [xstep, fileOf_eq hinv.ab, e1, e2]
  cases pureTable X c.cuOffset <;> exact ⟨rfl, { hinv with base := hb, ab := h2 }⟩

theorem xstep_abbrevAt (hinv : XInvT X cs T g xs) (off : Nat) :
    (xstep X xs (.abbrevAt off)).1
        = (if off < X.abbrevSize then X.parseAbbrev off else .error .dwarfError).map XAns.tbl ∧
      XInvT X cs T g (xstep X xs (.abbrevAt off)).2 := by
  obtain ⟨a', e, h2⟩ := pair_of_fst_snd (diTable_spec hinv.ab off)
  simp only [xstep, e]
  cases (if off < X.abbrevSize then X.parseAbbrev off else .error .dwarfError) <;> exact ⟨rfl, { hinv with ab := h2 }⟩

theorem xstep_invT (w : XWF X cs T) (hinv : XInvT X cs T g xs) {op : XOp} (hv : XOpValid X cs T op) :
    XInvT X cs T (xghostStep g op) (xstep X xs op).2 := by
  cases op with
  | base op =>
    have hb := step_invT w.file w.tree hinv.base (op := op) hv
    simp only [xstep, fileOf_eq hinv.ab, xghostStep]
    exact { hinv with base := hb, ab := foldl_syncUnit_inv _ _ hinv.ab }
  | abbrevCU cu => obtain ⟨c, hc, rfl⟩ := hv; exact (xstep_abbrevCU w hinv hc).2
  | abbrevAt off => exact (xstep_abbrevAt hinv off).2
  | lp cu decode =>
    obtain ⟨c, hc, rfl⟩ := hv
    exact (xstep_lp w hinv hc decode).2
  | cfi eh => simp only [xstep, xghostStep]; exact hinv
  | cfiObj eh =>
    cases eh with
    | true =>
      simp only [xstep, xghostStep, if_true]
      exact { hinv with cfiE := (cfiGetEntries_spec (w.cfi true) (w.cfiFuel true) hinv.cfiE).2 }
    | false =>
      simp only [xstep, xghostStep, Bool.false_eq_true, if_false]
      exact { hinv with cfiD := (cfiGetEntries_spec (w.cfi false) (w.cfiFuel false) hinv.cfiD).2 }

theorem xrun_invT (w : XWF X cs T) : ∀ (ops : List XOp) (xs : XState) (g : Ghost), XInvT X cs T g xs →
    (∀ op ∈ ops, XOpValid X cs T op) → XInvT X cs T (ops.foldl xghostStep g) (xrun X xs ops) := by
  intro ops
  induction ops with
  | nil => intro xs g h _; exact h
  | cons op ops ih =>
    intro xs g h hv
    exact ih _ _ (xstep_invT w h (hv op (by simp))) (fun o ho => hv o (List.mem_cons_of_mem _ ho))

/-- the base queries (`Query`), and all operations on abbreviation tables, line programs and CFI entries -/
def XQuery : XOp → Prop
  | .base op => Query op
  | _ => True

theorem xstep_cfi (w : XWF X cs T) (hinv : XInvT X cs T g xs) (eh : Bool) :
    (xstep X xs (.cfi eh)).1 = (pureAll X eh).map XAns.cfi ∧ (xstep X xs (.cfiObj eh)).1 = (pureAll X eh).map XAns.cfi := by
  constructor
  · simp only [xstep]
    rw [(cfiGetEntries_spec (w.cfi eh) (w.cfiFuel eh) (cobj_new X eh)).1]
  · cases eh with
    | true =>
      simp only [xstep, if_true]
      rw [(cfiGetEntries_spec (w.cfi true) (w.cfiFuel true) hinv.cfiE).1]
    | false =>
      simp only [xstep, Bool.false_eq_true, if_false]
      rw [(cfiGetEntries_spec (w.cfi false) (w.cfiFuel false) hinv.cfiD).1]

theorem xstep_answer_eq (w : XWF X cs T) {xs xs' : XState} {g' : Ghost} (hinv : XInvT X cs T g xs)
    (hinv' : XInvT X cs T g' xs') {op : XOp} (hv : XOpValid X cs T op) (hq : XQuery op) :
    (xstep X xs op).1 = (xstep X xs' op).1 := by
  cases op with
  | base op =>
    simp only [xstep, fileOf_eq hinv.ab, fileOf_eq hinv'.ab]
    rw [step_answer_eqT w.file w.tree hinv.base hinv'.base hv hq]
  | abbrevCU cu =>
    obtain ⟨c, hc, rfl⟩ := hv
    rw [(xstep_abbrevCU w hinv hc).1, (xstep_abbrevCU w hinv' hc).1]
  | abbrevAt off => rw [(xstep_abbrevAt hinv off).1, (xstep_abbrevAt hinv' off).1]
  | lp cu decode =>
    obtain ⟨c, hc, rfl⟩ := hv
    rw [(xstep_lp w hinv hc decode).1, (xstep_lp w hinv' hc decode).1]
  | cfi eh => rfl
  | cfiObj eh => rw [(xstep_cfi w hinv eh).2, (xstep_cfi w hinv' eh).2]

end xstate
end PyElf.Proofs.C10
