/-
  C07: `sorted(set(..))` and the insertion-ordered dicts of the two enumerations.  `iter_range_lists()` visits exactly
  the strictly increasing list of distinct offsets the debugging entries refer to, and what a dict filled by a run of
  assignments answers was assigned in the run (`Upsert`'s facts at the model's `dictSet` / `dictGet?`).
-/
import PyElf.Spec.Lists
import PyElf.Model.Lists
import PyElf.Proofs.Upsert
import PyElf.Proofs.Follows
namespace PyElf.Proofs.ListsEnum
open PyElf PyElf.Model.Lists PyElf.Proofs

theorem asInt_follows (v : Val) : Follows id (Spec.Lists.intOf v) v.asInt := by
  intro n h
  cases v <;> simp [Spec.Lists.intOf] at h
  subst h; rfl

theorem insertSorted_eq (x : Int) (ys : List Int) :
    Model.Lists.insertSorted x ys = Spec.Lists.insertSorted x ys := by
  induction ys with
  | nil => rfl
  | cons y ys ih => simp [Model.Lists.insertSorted, Spec.Lists.insertSorted, ih]

theorem sortedSet_eq (xs : List Int) :
    Model.Lists.sortedSet xs = Spec.Lists.sortedDistinct xs := by
  simp only [Model.Lists.sortedSet, Spec.Lists.sortedDistinct, insertSorted_eq]

theorem mem_insertSorted (x z : Int) (ys : List Int) :
    z ∈ Spec.Lists.insertSorted x ys ↔ z = x ∨ z ∈ ys := by
  induction ys with
  | nil => simp [Spec.Lists.insertSorted]
  | cons y ys ih =>
    unfold Spec.Lists.insertSorted
    by_cases h1 : x < y
    · simp [h1]
    · by_cases h2 : x = y
      · subst h2
        simp [h1]
      · simp only [h1, h2, if_false, List.mem_cons, ih, or_left_comm]

theorem insertSorted_sorted (x : Int) (ys : List Int) (h : ys.Pairwise (· < ·)) :
    (Spec.Lists.insertSorted x ys).Pairwise (· < ·) := by
  induction ys with
  | nil => simp [Spec.Lists.insertSorted]
  | cons y ys ih =>
    rw [List.pairwise_cons] at h
    unfold Spec.Lists.insertSorted
    by_cases h1 : x < y
    · simp only [h1, if_true]
      rw [List.pairwise_cons]
      refine ⟨?_, List.pairwise_cons.mpr h⟩
      intro a ha
      rcases List.mem_cons.mp ha with rfl | ha
      · exact h1
      · exact Int.lt_trans h1 (h.1 a ha)
    · by_cases h2 : x = y
      · subst h2
        simp only [h1, if_true, if_false]
        exact List.pairwise_cons.mpr h
      · simp only [h1, h2, if_false]
        rw [List.pairwise_cons]
        refine ⟨?_, ih h.2⟩
        intro a ha
        rcases (mem_insertSorted x a ys).mp ha with rfl | ha
        · omega
        · exact h.1 a ha

theorem mem_foldl_insertSorted (xs : List Int) (acc : List Int) (z : Int) :
    z ∈ xs.foldl (fun acc x => Spec.Lists.insertSorted x acc) acc ↔ z ∈ acc ∨ z ∈ xs := by
  induction xs generalizing acc with
  | nil => simp
  | cons x xs ih =>
    simp only [List.foldl_cons, ih, mem_insertSorted, List.mem_cons, or_assoc, or_left_comm]

theorem foldl_insertSorted_sorted (xs : List Int) (acc : List Int) (h : acc.Pairwise (· < ·)) :
    (xs.foldl (fun acc x => Spec.Lists.insertSorted x acc) acc).Pairwise (· < ·) := by
  induction xs generalizing acc with
  | nil => exact h
  | cons x xs ih => exact ih _ (insertSorted_sorted x acc h)

theorem mem_sortedDistinct (xs : List Int) (x : Int) :
    x ∈ Spec.Lists.sortedDistinct xs ↔ x ∈ xs := by
  unfold Spec.Lists.sortedDistinct
  simp [mem_foldl_insertSorted]

theorem sortedDistinct_sorted (xs : List Int) :
    (Spec.Lists.sortedDistinct xs).Pairwise (· < ·) := by
  unfold Spec.Lists.sortedDistinct
  exact foldl_insertSorted_sorted xs [] List.Pairwise.nil

theorem sortedDistinct_nodup (xs : List Int) : (Spec.Lists.sortedDistinct xs).Nodup := by
  have h := sortedDistinct_sorted xs
  unfold List.Nodup
  exact h.imp (fun hlt => by omega)

theorem sorted_ext {a b : List Int} (ha : a.Pairwise (· < ·)) (hb : b.Pairwise (· < ·))
    (h : ∀ x, x ∈ a ↔ x ∈ b) : a = b := by
  induction a generalizing b with
  | nil =>
    cases b with
    | nil => rfl
    | cons y ys => exact absurd ((h y).mpr (List.mem_cons_self ..)) (by simp)
  | cons x xs ih =>
    cases b with
    | nil => exact absurd ((h x).mp (List.mem_cons_self ..)) (by simp)
    | cons y ys =>
      rw [List.pairwise_cons] at ha hb
      have hxy : x = y := by
        have h1 := (h x).mp (List.mem_cons_self ..)
        have h2 := (h y).mpr (List.mem_cons_self ..)
        rcases List.mem_cons.mp h1 with e | h1
        · exact e
        · rcases List.mem_cons.mp h2 with e | h2
          · exact e.symm
          · have := hb.1 x h1
            have := ha.1 y h2
            omega
      subst hxy
      congr 1
      apply ih ha.2 hb.2
      intro z
      constructor
      · intro hz
        have hlt := ha.1 z hz
        rcases List.mem_cons.mp ((h z).mp (List.mem_cons_of_mem _ hz)) with e | h'
        · omega
        · exact h'
      · intro hz
        have hlt := hb.1 z hz
        rcases List.mem_cons.mp ((h z).mpr (List.mem_cons_of_mem _ hz)) with e | h'
        · omega
        · exact h'

theorem dictSet_eq_upsert {α} (d : List (Int × α)) (k : Int) (v : α) : dictSet d k v = upsert d k v := by
  induction d with
  | nil => rfl
  | cons p d ih => obtain ⟨k', v'⟩ := p; simp [dictSet, upsert, ih]

theorem mem_keys_foldl_dictSet {α} (refs : List (Int × α)) (d : List (Int × α)) (z : Int) :
    z ∈ (refs.foldl (fun d r => dictSet d r.1 r.2) d).map (·.1)
      ↔ z ∈ d.map (·.1) ∨ z ∈ refs.map (·.1) := by
  simp only [dictSet_eq_upsert]; exact mem_keys_foldl_upsert refs d z

theorem mem_keys_cuMapOf (refs : List (Int × Cu)) (k : Int) :
    k ∈ (cuMapOf refs).map (·.1) ↔ k ∈ refs.map (·.1) := by
  unfold cuMapOf
  rw [mem_keys_foldl_dictSet]
  simp

/-- `sorted(set(cu_map.keys()))` is the sorted set of all referenced offsets -/
theorem sortedSet_keys (refs : List (Int × Cu)) :
    Model.Lists.sortedSet ((cuMapOf refs).map (·.1)) = Spec.Lists.sortedDistinct (refs.map (·.1)) := by
  rw [sortedSet_eq]
  apply sorted_ext (sortedDistinct_sorted _) (sortedDistinct_sorted _)
  intro x
  rw [mem_sortedDistinct, mem_sortedDistinct, mem_keys_cuMapOf]

/-- an answer of the filled dict was assigned in the run or stood in the dict before -/
theorem mem_of_dictGet_foldl_dictSet {α} {refs d : List (Int × α)} {k : Int} {v : α}
    (h : dictGet? (refs.foldl (fun d r => dictSet d r.1 r.2) d) k = some v) : (k, v) ∈ refs ∨ dictGet? d k = some v := by
  simp only [dictSet_eq_upsert] at h; exact mem_of_find?_foldl_upsert h

theorem dictGet_eq_none {α} (d : List (Int × α)) (k : Int) : dictGet? d k = none ↔ k ∉ d.map (·.1) := by
  simp only [dictGet?, Option.map_eq_none_iff, List.find?_eq_none, List.mem_map, beq_iff_eq, not_exists, not_and]

example : Spec.Lists.sortedDistinct [5, 3, 5, 1, 3] = [1, 3, 5] := by decide

end PyElf.Proofs.ListsEnum
