/-
  `_make_section_name_map` (dict overwrite: the last section bearing a name wins) against the description's
  `indexOfName`: both are the last index at which the name occurs (`lastIdx`, Proofs/LastIndex.lean; `idxs` is the
  description's own list of the indices bearing the name).
-/
import PyElf.Proofs.ElfLayout
import PyElf.Proofs.Upsert
import PyElf.Proofs.LastIndex
namespace PyElf.Proofs
open PyElf PyElf.Spec PyElf.Model PyElf.Proofs.Engine

def idxs (name : Bytes) : List Bytes → Nat → List Nat
  | [], _ => []
  | nm :: rest, i => if nm == name then i :: idxs name rest (i + 1) else idxs name rest (i + 1)

/-- the dict assignment of `_make_section_name_map` rewrites every entry under the key; on a dict with distinct
    keys, which is all it ever builds, that is `upsert` -/
theorem nameMap_step_eq_upsert (nm : Bytes) (i : Nat) : ∀ (m : List (Bytes × Nat)), (m.map (·.1)).Nodup →
    (if m.any (·.1 == nm) then m.map (fun (k, v) => if k == nm then (k, i) else (k, v)) else m ++ [(nm, i)])
      = upsert m nm i
  | [], _ => rfl
  | (k, v) :: m, hn => by
    rw [List.map_cons, List.nodup_cons] at hn
    have ih := nameMap_step_eq_upsert nm i m hn.2
    by_cases hk : k = nm
    · subst hk
      -- no other entry bears the key: the rewrite leaves the tail alone
      have hid : m.map (fun (p : Bytes × Nat) => if p.1 == k then (p.1, i) else (p.1, p.2)) = m := by
        rw [List.map_congr_left (g := id) fun p hp => by
          have : ¬ p.1 = k := fun e => hn.1 (e ▸ List.mem_map.2 ⟨p, hp, rfl⟩)
          simp [this], List.map_id]
      simp only [List.any_cons, beq_self_eq_true, Bool.true_or, if_true, List.map_cons, upsert]
      exact congrArg _ hid
    · have hb : (k == nm) = false := by simpa using hk
      simp only [List.any_cons, hb, Bool.false_or, List.map_cons, Bool.false_eq_true, if_false, upsert, hk,
        List.cons_append]
      rw [← ih]
      split <;> rfl

theorem nodup_keys_upsert {m : List (Bytes × Nat)} (h : (m.map (·.1)).Nodup) (nm : Bytes) (i : Nat) :
    ((upsert m nm i).map (·.1)).Nodup := by
  rw [keys_upsert]
  split
  · exact h
  · rename_i hnot
    exact List.nodup_append.2 ⟨h, by simp, fun a ha b hb => by
      rw [List.mem_singleton.1 hb]; exact fun e => hnot (e ▸ ha)⟩

theorem nameMap_go_find (name : Bytes) :
    ∀ (secs : List (String × Bytes × Val)) (i : Nat) (m : List (Bytes × Nat)), (m.map (·.1)).Nodup →
      ((sectionNameMap.go secs i m).find? (·.1 == name)).map (·.2)
        = match lastIdx (secs.map (·.2.1)) name with
          | some j => some (i + j)
          | none => (m.find? (·.1 == name)).map (·.2) := by
  intro secs
  induction secs with
  | nil => intro i m _; simp [sectionNameMap.go, lastIdx]
  | cons s rest ih =>
    intro i m hm
    obtain ⟨k, nm, v⟩ := s
    rw [sectionNameMap.go]
    simp only []
    rw [nameMap_step_eq_upsert nm i m hm, ih _ _ (nodup_keys_upsert hm nm i)]
    simp only [List.map_cons, lastIdx]
    cases h : lastIdx (rest.map (·.2.1)) name with
    | some j => simp; omega
    | none =>
      simp only [find?_upsert]
      by_cases hs : nm = name <;> simp [hs]

theorem idxs_getLast (n : Bytes) : ∀ (l : List Bytes) (i : Nat),
    (idxs n l i).getLast? = (lastIdx l n).map (· + i) := by
  intro l
  induction l with
  | nil => intro i; simp [idxs, lastIdx]
  | cons x rest ih =>
    intro i
    simp only [idxs, lastIdx]
    by_cases hx : x = n
    · simp only [hx, beq_self_eq_true, if_true, getLast?_cons_or, ih]
      cases lastIdx rest n with
      | none => simp
      | some j => simp; omega
    · have hb : (x == n) = false := by simpa using hx
      simp only [hb, Bool.false_eq_true, if_false, ih, hx]
      cases lastIdx rest n with
      | none => simp
      | some j => simp; omega

theorem idxs_eq_filter {α : Type} (f : α → Bytes) (name : Bytes) :
    ∀ (l : List α) (i : Nat),
      (((List.range' i l.length).zip l).filter (fun p => f p.2 == name)).map (·.1)
        = idxs name (l.map f) i := by
  intro l
  induction l with
  | nil => intro i; simp [idxs]
  | cons a l ih =>
    intro i
    simp only [List.length_cons, List.range'_succ, List.zip_cons_cons, List.map_cons, idxs,
      List.filter_cons]
    split <;> simp [ih]

theorem indexOfName_eq_lastIdx (d : ElfDesc) (name : Bytes) :
    d.indexOfName name = lastIdx (d.sections.map (·.name)) name := by
  unfold ElfDesc.indexOfName
  rw [List.range_eq_range', idxs_eq_filter (fun s : SecDesc => s.name), idxs_getLast]
  cases lastIdx (d.sections.map (·.name)) name <;> simp

theorem lookup_exact_aux {env : Env} {d : ElfDesc} {obs : ElfObs} (ho : d.observe env = .ok obs)
    (name : Bytes) :
    ((sectionNameMap obs.sections).find? (·.1 == name)).map (·.2) = d.indexOfName name := by
  unfold sectionNameMap
  rw [nameMap_go_find _ _ _ _ (by simp), observe_names ho, indexOfName_eq_lastIdx]
  cases lastIdx (d.sections.map (·.name)) name <;> simp

end PyElf.Proofs
