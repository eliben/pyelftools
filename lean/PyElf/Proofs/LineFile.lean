/-
  From the view `get_dwarf_info` delivers (C11) to the `DWARFInfo` of
  Proofs/LineInfo.lean.  When the file's content holds, per keyword, the encoded sections of a forest and a
  `.debug_line` description, the `DWARFInfo` built from the view is — up to `.debug_types`, which the line-program
  code never looks at — C04's `forestDInfo` with Proofs/LineInfo's `lineWorld`.  Continues the namespace
  `PyElf.Proofs.LineInfo`.
-/
import PyElf.Model.LineFile
import PyElf.Proofs.LineInfo
import PyElf.Proofs.ContainerReads
namespace PyElf.Proofs.LineInfo
open PyElf PyElf.Spec PyElf.Spec.LineSec PyElf.Model.LineInfo
open PyElf.Spec.C04 (Forest infoSec encTables)
open PyElf.Model.C11 (View SecView)
open PyElf.Proofs.C11 (Content contentView)
open PyElf.Props.C04 (forestDInfo genBundles)

theorem viewSec_eq_viewOf (secs : List (String × Option SecView)) (k : String) :
    viewSec secs k = (Proofs.C11.viewOf secs k).map (·.stream) := by
  unfold viewSec Proofs.C11.viewOf
  cases h : secs.find? (·.1 == k) with
  | none => rfl
  | some p => obtain ⟨_, _ | sv⟩ := p <;> rfl

theorem viewSec_contentView (content : Content) (k : String) (names : List (String × Bytes × Bool))
    (hk : k ∈ names.map (·.1)) : viewSec (contentView names content) k = (content k).map (·.1) := by
  rw [viewSec_eq_viewOf, Proofs.C11.viewOf_contentView_some names content k hk]
  cases content k <;> rfl

/-- the keywords the line-program path reads -/
def lineKeys : List String :=
  ["debug_info_sec", "debug_abbrev_sec", "debug_types_sec", "debug_str_sec", "debug_line_str_sec", "debug_addr_sec",
   "debug_str_offsets_sec", "debug_loclists_sec", "debug_rnglists_sec", "debug_line_sec"]

/-- the content of a file, per keyword, is the encoding of the forest `F` and of the `.debug_line` description -/
structure ContentIs (content : Content) (F : Forest) (L : List LineUnitDesc) (tail : Bytes) : Prop where
  info : (content "debug_info_sec").map (·.1) = some (infoSec F)
  abbr : (content "debug_abbrev_sec").map (·.1) = some (encTables F.tables)
  line : (content "debug_line_sec").map (·.1) = some (encLineSec L tail)
  str : (content "debug_str_sec").map (·.1) = F.secs.str
  lineStr : (content "debug_line_str_sec").map (·.1) = F.secs.lineStr
  addr : (content "debug_addr_sec").map (·.1) = F.secs.addr
  strOffsets : (content "debug_str_offsets_sec").map (·.1) = F.secs.strOffsets
  loclists : (content "debug_loclists_sec").map (·.1) = F.secs.loclists
  rnglists : (content "debug_rnglists_sec").map (·.1) = F.secs.rnglists

/-- each of the ten keywords is found in the view (`viewSec_contentView`) with the bytes `ContentIs` says the file
    holds, and the bundle the model picks for the default configuration is the regenerated one (`genBundles_S0`) -/
theorem viewLinePrograms_content (names : List (String × Bytes × Bool)) (hnames : ∀ k ∈ lineKeys, k ∈ names.map (·.1))
    (content : Content) (F : Forest) (L : List LineUnitDesc) (tail : Bytes) (hc : ContentIs content F L tail)
    (dasz : Nat) (hdasz : dasz = 4 ∨ dasz = 8) (arch : String) :
    viewLinePrograms (.mk F.le dasz arch (contentView names content) none)
      = infoLinePrograms (forestDInfo F dasz) (genBundles F.le dasz).S0 (lineWorld L tail none) := by
  have hk : ∀ k ∈ lineKeys, viewSec (contentView names content) k = (content k).map (·.1) :=
    fun k h => viewSec_contentView content k names (hnames k h)
  simp only [lineKeys, List.forall_mem_cons] at hk
  obtain ⟨k1, k2, k3, k4, k5, k6, k7, k8, k9, k10, -⟩ := hk
  unfold viewLinePrograms dinfoOfView
  simp only [k1, k2, k3, k4, k5, k6, k7, k8, k9, k10,
    hc.info, hc.abbr, hc.line, hc.str, hc.lineStr, hc.addr, hc.strOffsets, hc.loclists, hc.rnglists]
  have hS0 : Model.dwarfStructsFor ⟨F.le, 32, dasz, 2⟩ = some (genBundles F.le dasz).S0 :=
    Props.C04.genBundles_S0 F.le dasz hdasz
  show (match Model.dwarfStructsFor ⟨F.le, 32, dasz, 2⟩ with
        | some S0 => infoLinePrograms _ S0 _
        | none => _) = _
  rw [hS0]
  -- `infoLinePrograms` does not read the `types` field
  rfl

end PyElf.Proofs.LineInfo
