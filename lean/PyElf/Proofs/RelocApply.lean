/-
  Applying one relocation: the recipe tables against the psABI table
  (kernel-evaluated walks), the calc functions against the formulas — both behind `recipe_of_psabi` /
  `recipe_of_unlisted` — the read–compute–wrap–write step, and what applying one relocation comes to on every
  entry (`applyWithSym_outcome`, over the order of tests `applyTree`, which `Spec.applyAfterSym` follows by `rfl`);
  at the end, the domain with room for R_*_NONE inside the full one.
-/
import PyElf.Spec.Reloc
import PyElf.Model.Relocation
import PyElf.Proofs.Primitives
import PyElf.Proofs.Reloc
namespace PyElf.Proofs.Reloc
open PyElf PyElf.Spec PyElf.Model PyElf.Model.Reloc PyElf.Proofs

/-- `get_machine_arch()` strings the `if/elif` chain of `_do_apply_relocation` tests -/
def archString : Arch → String
  | .x86 => "x86" | .x64 => "x64" | .arm => "ARM" | .aarch64 => "AArch64" | .mips => "MIPS"
  | .ppc64 => "64-bit PowerPC" | .s390 => "IBM S/390" | .loongarch => "LoongArch"

/-- the recipe dict the chain consults for an architecture / flavour -/
def recipeTable : Arch → Bool → String
  | .x86, _ => "_RELOCATION_RECIPES_X86"
  | .x64, _ => "_RELOCATION_RECIPES_X64"
  | .arm, _ => "_RELOCATION_RECIPES_ARM"
  | .aarch64, _ => "_RELOCATION_RECIPES_AARCH64"
  | .mips, true => "_RELOCATION_RECIPES_MIPS_RELA"
  | .mips, false => "_RELOCATION_RECIPES_MIPS_REL"
  | .ppc64, _ => "_RELOCATION_RECIPES_PPC64"
  | .s390, _ => "_RELOCATION_RECIPES_S390X"
  | .loongarch, _ => "_RELOCATION_RECIPES_LOONGARCH"

def allAF : List (Arch × Bool) :=
  [(.x86, false), (.x86, true), (.x64, false), (.x64, true), (.arm, false), (.arm, true), (.aarch64, false),
   (.aarch64, true), (.mips, false), (.mips, true), (.ppc64, false), (.ppc64, true), (.s390, false), (.s390, true),
   (.loongarch, false), (.loongarch, true)]

theorem mem_allAF (a : Arch) (rela : Bool) : (a, rela) ∈ allAF := by
  cases a <;> cases rela <;> decide +kernel

def entsOf (a : Arch) (rela : Bool) : List (Int × Nat × Bool × String) :=
  match Gen.relocRecipes.find? (·.1 == recipeTable a rela) with
  | some (_, e) => e
  | none => []

/-- which formula (with which use of the addend) a calc function computes -/
def calcMatches (name : String) (hasAddend rela : Bool) (fm : Formula) : Bool :=
  match name, fm with
  | "reloc_calc_identity", .keep => !hasAddend || rela
  | "reloc_calc_sym_plus_addend", .sa => hasAddend && rela
  | "reloc_calc_sym_plus_value", .sa => !hasAddend && !rela
  | "reloc_calc_sym_plus_value", .add => hasAddend && rela
  | "reloc_calc_sym_plus_addend_pcrel", .sap => hasAddend && rela
  | "reloc_calc_sym_plus_value_pcrel", .sap => !hasAddend && !rela
  | "reloc_calc_value_minus_sym_addend", .sub => hasAddend && rela
  | _, _ => false

def widthOk (w bytesize : Nat) (fm : Formula) : Bool :=
  if fm = .keep then w == 0 && (bytesize == 4 || bytesize == 8)
  else bytesize == w && (w == 1 || w == 2 || w == 4 || w == 8)

def rowOk (ents : List (Int × Nat × Bool × String)) (rela : Bool) (t : Nat) : Option (Nat × Formula) → Bool
  | some (w, fm) =>
    match ents.find? (·.1 == (t : Int)) with
    | some (_, b, ha, nm) => widthOk w b fm && calcMatches nm ha rela fm
    | none => false
  | none => false

/-- one recipe dict, looked up once: every type the psABI table lists for this machine and flavour has a recipe of the
    right width and formula, and every key of the dict is a listed type (or the unclaimed R_ARM_CALL) -/
def recipesOk (a : Arch) (rela : Bool) : Bool :=
  match Gen.relocRecipes.find? (·.1 == recipeTable a rela) with
  | none => false
  | some (_, ents) =>
    (psabiTypes.all fun x => !(x.1 == a && x.2.1 == rela) || rowOk ents rela x.2.2 (psabi a rela x.2.2)) &&
    ents.all fun en => decide (0 ≤ en.1) && ((psabi a rela en.1.toNat).isSome || unclaimed a rela en.1.toNat)

/-- kernel-checked walk over the machines' recipe dicts, each in the flavour its supplement uses -/
theorem recipes_walk : (allAF.filter fun x => flavourOk x.1 x.2).all (fun x => recipesOk x.1 x.2) = true := by
  decide +kernel

theorem psabiTypes_complete {a : Arch} {rela : Bool} {t : Nat} {x : Nat × Formula} (h : psabi a rela t = some x) :
    (a, rela, t) ∈ psabiTypes := by
  unfold psabi at h
  -- one goal per row; `cases h` closes the last (`none`) and names the row in the others
  split at h <;> cases h
  -- the row is in the list; for the MIPS rows that leave the flavour open, in either flavour
  all_goals first | decide +kernel | (cases rela <;> decide +kernel)

theorem psabi_flavour {a : Arch} {rela : Bool} {t : Nat} {x : Nat × Formula} (h : psabi a rela t = some x) :
    flavourOk a rela = true :=
  List.all_eq_true.mp (by decide +kernel : psabiTypes.all (fun x => flavourOk x.1 x.2.1) = true) _ (psabiTypes_complete h)

theorem walk_facts {a : Arch} {rela : Bool} (hf : flavourOk a rela = true) :
    (∃ nm, Gen.relocRecipes.find? (·.1 == recipeTable a rela) = some (nm, entsOf a rela)) ∧
    (∀ t, (a, rela, t) ∈ psabiTypes → rowOk (entsOf a rela) rela t (psabi a rela t) = true) ∧
    ∀ en ∈ entsOf a rela, 0 ≤ en.1 ∧ ((psabi a rela en.1.toNat).isSome = true ∨ unclaimed a rela en.1.toNat = true) := by
  have h := List.all_eq_true.mp recipes_walk (a, rela) (List.mem_filter.mpr ⟨mem_allAF a rela, hf⟩)
  unfold entsOf
  simp only [recipesOk] at h
  cases hfind : Gen.relocRecipes.find? (·.1 == recipeTable a rela) with
  | none => simp [hfind] at h
  | some p =>
    obtain ⟨nm, ents⟩ := p
    simp only [hfind, Bool.and_eq_true, List.all_eq_true, decide_eq_true_eq, Bool.or_eq_true] at h
    refine ⟨⟨nm, rfl⟩, fun t ht => ?_, h.2⟩
    simpa using h.1 (a, rela, t) ht

def toRecipe (en : Int × Nat × Bool × String) : Recipe := ⟨en.2.1, en.2.2.1, en.2.2.2⟩

theorem recipeGet_eq {a : Arch} {rela : Bool} (hf : flavourOk a rela = true) (t : Int) :
    recipeGet (recipeTable a rela) t = .ok (((entsOf a rela).find? (·.1 == t)).map toRecipe) := by
  obtain ⟨nm, hfind⟩ := (walk_facts hf).1
  unfold recipeGet
  rw [hfind]
  simp only
  cases (entsOf a rela).find? (·.1 == t) with
  | none => rfl
  | some en => obtain ⟨k, b, ha, c⟩ := en; rfl

theorem recipe_listed {a : Arch} {rela : Bool} {t w : Nat} {fm : Formula} (h : psabi a rela t = some (w, fm)) :
    ∃ en, (entsOf a rela).find? (·.1 == (t : Int)) = some en ∧ widthOk w en.2.1 fm = true ∧
      calcMatches en.2.2.2 en.2.2.1 rela fm = true := by
  have hw := (walk_facts (psabi_flavour h)).2.1 t (psabiTypes_complete h)
  simp only [h, rowOk] at hw
  cases hf : (entsOf a rela).find? (·.1 == (t : Int)) with
  | none => simp [hf] at hw
  | some en =>
    obtain ⟨k, b, ha, c⟩ := en
    simp only [hf, Bool.and_eq_true] at hw
    exact ⟨_, rfl, hw.1, hw.2⟩

theorem calcMatches_sound {nm : String} {ha rela : Bool} {fm : Formula} (h : calcMatches nm ha rela fm = true) :
    ∃ fn, Gen.relocCalc nm = some fn ∧ (ha = true → rela = true) ∧
      ∀ V S P A : Int, fn V S P (if ha then A else 0) = fm.eval S (if rela then A else V) P V := by
  unfold calcMatches at h
  split at h
  -- the last row of the table is `false`; on each of the seven others the two Booleans are settled by `h`, the calc
  -- function is the generated one and the equation is linear arithmetic
  all_goals first
    | (exfalso; exact Bool.false_ne_true h)
    | (cases ha <;> cases rela <;> simp at h <;>
        (refine ⟨_, rfl, by simp, ?_⟩
         intro V S P A
         simp [Formula.eval, Gen.Pure.reloc_calc_identity, Gen.Pure.reloc_calc_sym_plus_addend,
           Gen.Pure.reloc_calc_sym_plus_value, Gen.Pure.reloc_calc_sym_plus_addend_pcrel,
           Gen.Pure.reloc_calc_sym_plus_value_pcrel, Gen.Pure.reloc_calc_value_minus_sym_addend] <;> omega))

theorem calcMatches_identity {nm : String} {ha rela : Bool} {fm : Formula} (h : calcMatches nm ha rela fm = true) :
    nm = "reloc_calc_identity" ↔ fm = .keep := by
  unfold calcMatches at h
  split at h <;> first | (exfalso; exact Bool.false_ne_true h) | simp

/-- a recipe `r` of the library, with calc function `fn`, for a type the psABI table lists with width `w` and formula `fm` -/
structure RecipeFor (rela : Bool) (w : Nat) (fm : Formula) (r : Recipe) (fn : Int → Int → Int → Int → Int) : Prop where
  identity : r.calcName = "reloc_calc_identity" ↔ fm = .keep
  width : fm ≠ .keep → r.bytesize = w
  size : r.bytesize = 1 ∨ r.bytesize = 2 ∨ r.bytesize = 4 ∨ r.bytesize = 8
  fn_eq : Gen.relocCalc r.calcName = some fn
  addend : r.hasAddend = true → rela = true
  formula : ∀ V S P A : Int, fn V S P (if r.hasAddend then A else 0) = fm.eval S (if rela then A else V) P V

theorem recipe_of_psabi {a : Arch} {rela : Bool} {t w : Nat} {fm : Formula} (h : psabi a rela t = some (w, fm)) :
    ∃ r fn, recipeGet (recipeTable a rela) (t : Int) = .ok (some r) ∧ RecipeFor rela w fm r fn := by
  obtain ⟨en, hfind, hwd, hcm⟩ := recipe_listed h
  obtain ⟨fn, hfn, himp, hcalc⟩ := calcMatches_sound hcm
  refine ⟨toRecipe en, fn, by rw [recipeGet_eq (psabi_flavour h), hfind]; rfl, calcMatches_identity hcm, ?_, ?_, hfn, himp,
    hcalc⟩
  -- both facts about the width are read off `widthOk`, which treats `keep` (no field; the dict says 4 or 8) apart
  · intro hk
    simp only [widthOk, hk, ↓reduceIte, Bool.and_eq_true, beq_iff_eq] at hwd
    exact hwd.1
  · show en.2.1 = 1 ∨ en.2.1 = 2 ∨ en.2.1 = 4 ∨ en.2.1 = 8
    unfold widthOk at hwd
    split at hwd <;> simp only [Bool.and_eq_true, Bool.or_eq_true, beq_iff_eq] at hwd
    · rcases hwd.2 with h | h <;> simp [h]
    · rw [hwd.1]; rcases hwd.2 with ((h | h) | h) | h <;> simp [h]

theorem recipe_of_unlisted {a : Arch} {rela : Bool} {t : Nat} (hf : flavourOk a rela = true)
    (h : psabi a rela t = none) (hu : unclaimed a rela t = false) :
    recipeGet (recipeTable a rela) (t : Int) = .ok none := by
  rw [recipeGet_eq hf]
  cases hfind : (entsOf a rela).find? (·.1 == (t : Int)) with
  | none => rfl
  | some en =>
    -- a key of the dict is a listed type or the unclaimed one
    exfalso
    have hk2 := (walk_facts hf).2.2 en (List.mem_of_find?_eq_some hfind)
    have : en.1 = (t : Int) := by simpa using List.find?_some hfind
    rw [this] at hk2
    simp [h, hu] at hk2

theorem field_length {stream : Bytes} {off n : Nat} (h : off + n ≤ stream.length) :
    ((stream.drop off).take n).length = n := by simp; omega

theorem writeField_same (le : Bool) (w : Nat) (sec : Bytes) (off : Nat) (h : off + w ≤ sec.length) :
    writeField le w sec off (readField le w sec off : Int) = sec := by
  unfold writeField readField
  have hl := field_length h
  have hlt := Engine.decNat_lt le ((sec.drop off).take w)
  rw [hl, pow256] at hlt
  have : (((decNat le ((sec.drop off).take w) : Nat) : Int) % ((2 ^ (8 * w) : Nat) : Int)).toNat
      = decNat le ((sec.drop off).take w) := by
    rw [← Int.natCast_emod, Int.toNat_natCast, Nat.mod_eq_of_lt hlt]
  rw [this]
  have h2 := encNat_decNat le ((sec.drop off).take w)
  rw [hl] at h2
  rw [h2, List.append_assoc, ← List.drop_drop, List.take_append_drop, List.take_append_drop]

theorem bytesize_test {n : Nat} (hb : n = 1 ∨ n = 2 ∨ n = 4 ∨ n = 8) :
    (!(decide (n = 4) || decide (n = 8) || decide (n = 1) || decide (n = 2))) = false := by
  rcases hb with h | h | h | h <;> simp [h]

theorem applyRecipe_ok {le : Bool} {stream : Bytes} {r : Recipe} {S : Int} {off : Nat} {addendField : R Int}
    {fn : Int → Int → Int → Int → Int} {A : Int}
    (hb : r.bytesize = 1 ∨ r.bytesize = 2 ∨ r.bytesize = 4 ∨ r.bytesize = 8)
    (hoff : off + r.bytesize ≤ stream.length) (hlt : off < 2 ^ 63)
    (hfn : Gen.relocCalc r.calcName = some fn)
    (hadd : (if r.hasAddend then addendField else pure 0) = .ok A) :
    applyRecipe le stream r S off addendField
      = .ok (writeField le r.bytesize stream off (fn (readField le r.bytesize stream off) S off A)) := by
  unfold applyRecipe
  have hb' := bytesize_test hb
  have hmod : ∀ x : Int, PyInt.fmod x (((2 ^ (r.bytesize * 8) : Nat)) : Int) = x % ((2 ^ (8 * r.bytesize) : Nat) : Int) := by
    intro x
    rw [Nat.mul_comm]
    exact Int.fmod_eq_emod_of_nonneg _ (Int.natCast_nonneg _)
  simp only [hb', Bool.false_eq_true, ↓reduceIte, readExact_ok (List.take_append_drop _ _).symm (field_length hoff), hfn, bind, Except.bind, pure, Except.pure,
    if_neg (show ¬ off ≥ 2 ^ 63 by omega), hmod]
  cases hh : r.hasAddend
  · simp only [hh, Bool.false_eq_true, ↓reduceIte, pure, Except.pure] at hadd ⊢
    cases hadd
    rfl
  · simp only [hh, ↓reduceIte] at hadd ⊢
    subst hadd
    rfl

/-- the field is not inside the stream, or the seek overflows -/
theorem applyRecipe_short {le : Bool} {stream : Bytes} {r : Recipe} {S : Int} {off : Nat} {addendField : R Int}
    (hb : r.bytesize = 1 ∨ r.bytesize = 2 ∨ r.bytesize = 4 ∨ r.bytesize = 8)
    (hout : ¬ (off + r.bytesize ≤ stream.length ∧ off < 2 ^ 63)) :
    applyRecipe le stream r S off addendField = .error .elfParseError := by
  unfold applyRecipe
  have hb' := bytesize_test hb
  simp only [hb', Bool.false_eq_true, ↓reduceIte, bind, Except.bind]
  split
  · rfl
  · have hl : ((stream.drop off).take r.bytesize).length ≠ r.bytesize := by
      simp only [List.length_take, List.length_drop]; omega
    simp only [readExact, readN, hl, ↓reduceIte]

def relObsFields (c : RelCfg) (e : RelEntry) : Fields :=
  [("r_offset", .int e.offset)] ++
    (if c.packed then
       [("r_sym", .int e.sym), ("r_ssym", .int e.ssym), ("r_type3", .int e.type3), ("r_type2", .int e.type2),
        ("r_type", .int e.type), ("r_info_sym", .int e.sym), ("r_info_ssym", .int e.ssym),
        ("r_info_type", .int e.type), ("r_info_type2", .int e.type2), ("r_info_type3", .int e.type3),
        ("r_info", .int (rInfo c e))]
     else
       [("r_info", .int (rInfo c e)), ("r_info_sym", .int e.sym), ("r_info_type", .int e.type)])

theorem observeRel_eq (c : RelCfg) (rela : Bool) (e : RelEntry) :
    observeRel c rela e = .record (relObsFields c e ++ if rela then [("r_addend", .int e.addend)] else []) := rfl

theorem relObsFields_get? (c : RelCfg) (e : RelEntry) :
    Fields.get? (relObsFields c e) "r_offset" = some (.int e.offset) ∧
    Fields.get? (relObsFields c e) "r_info_sym" = some (.int e.sym) ∧
    Fields.get? (relObsFields c e) "r_info_type" = some (.int e.type) ∧
    Fields.get? (relObsFields c e) "r_addend" = none := by
  cases hp : c.packed <;> simp [relObsFields, hp, Fields.get?]

theorem obs_get? {c : RelCfg} {e : RelEntry} {k : String} {v : Val} (rela : Bool)
    (h : Fields.get? (relObsFields c e) k = some v) : (observeRel c rela e).getField k = .ok v := by
  rw [observeRel_eq, Val.getField_record]
  exact Fields.getR_of_get? (by rw [Fields.get?_append, h]; rfl)

theorem obs_isRela (c : RelCfg) (rela : Bool) (e : RelEntry) : entryIsRela (observeRel c rela e) = rela := by
  rw [observeRel_eq]
  show (Fields.get? _ "r_addend").isSome = rela
  rw [Fields.get?_append, (relObsFields_get? c e).2.2.2]
  cases rela <;> rfl

theorem obs_type (c : RelCfg) (rela : Bool) (e : RelEntry) :
    (observeRel c rela e).getInt "r_info_type" = .ok (e.type : Int) :=
  Val.getInt_of_getField (obs_get? rela (relObsFields_get? c e).2.2.1)

theorem obs_offset (c : RelCfg) (rela : Bool) (e : RelEntry) :
    (observeRel c rela e).getNat "r_offset" = .ok e.offset :=
  Val.getNat_of_getField (obs_get? rela (relObsFields_get? c e).1)

theorem obs_sym (c : RelCfg) (rela : Bool) (e : RelEntry) :
    (observeRel c rela e).getNat "r_info_sym" = .ok e.sym :=
  Val.getNat_of_getField (obs_get? rela (relObsFields_get? c e).2.1)

theorem obs_addend (c : RelCfg) (e : RelEntry) :
    (observeRel c true e).getInt "r_addend" = .ok e.addend := by
  apply Val.getInt_of_getField
  rw [observeRel_eq, Val.getField_record]
  exact Fields.getR_of_get? (by rw [Fields.get?_append, (relObsFields_get? c e).2.2.2]; rfl)

theorem obs_sub (c : RelCfg) (hp : c.packed = true) (rela : Bool) (e : RelEntry) :
    (observeRel c rela e).getInt "r_type2" = .ok (e.type2 : Int) ∧
    (observeRel c rela e).getInt "r_type3" = .ok (e.type3 : Int) ∧
    (observeRel c rela e).getInt "r_ssym" = .ok (e.ssym : Int) := by
  have g : Fields.get? (relObsFields c e) "r_type2" = some (.int e.type2) ∧
      Fields.get? (relObsFields c e) "r_type3" = some (.int e.type3) ∧
      Fields.get? (relObsFields c e) "r_ssym" = some (.int e.ssym) := by simp [relObsFields, hp, Fields.get?]
  exact ⟨Val.getInt_of_getField (obs_get? rela g.1), Val.getInt_of_getField (obs_get? rela g.2.1),
    Val.getInt_of_getField (obs_get? rela g.2.2)⟩

theorem chooseRecipe_spec (a : Arch) (c : RelCfg) (rela : Bool) (e : RelEntry)
    (hm : c.mips = decide (a = .mips)) :
    chooseRecipe (archString a) c.cls (observeRel c rela e) =
      if !flavourOk a rela then .error .elfRelocError
      else if c.packed && (e.type2 ≠ 0 || e.type3 ≠ 0 || e.ssym ≠ 0) then .error .elfRelocError
      else recipeGet (recipeTable a rela) (e.type : Int) := by
  unfold chooseRecipe
  simp only [obs_isRela, obs_type, bind, Except.bind]
  cases a
  case mips =>
    -- the one machine with a test on the entry: the sub-fields of an ELF64 entry, in either flavour
    by_cases h64 : c.cls = 64
    · have hp : c.packed = true := by simp [RelCfg.packed, h64, hm]
      obtain ⟨h2, h3, h4⟩ := obs_sub c hp rela e
      cases rela <;> simp [archString, flavourOk, recipeTable, hp, h2, h3, h4, h64]
    · cases rela <;> simp [archString, flavourOk, recipeTable, RelCfg.packed, h64]
  all_goals cases rela <;> simp [archString, flavourOk, recipeTable, RelCfg.packed, hm]

/-- The order of tests of `_do_apply_relocation` once the symbol value is known, which `Spec.applyAfterSym` follows too,
    with the four kinds of result left open.  `applyTree_rel` is the one case analysis over it. -/
def applyTree {α : Type} (a : Arch) (c : RelCfg) (rela : Bool) (e : RelEntry) (early unlisted keep : α)
    (field : Nat → Formula → α) : α :=
  if !flavourOk a rela then early
  else if c.packed && (e.type2 ≠ 0 || e.type3 ≠ 0 || e.ssym ≠ 0) then early
  else
    match psabi a rela e.type with
    | none => unlisted
    | some (w, fm) => if fm = .keep then keep else field w fm

theorem applyAfterSym_eq (a : Arch) (c : RelCfg) (rela : Bool) (s : Nat) (sec : Bytes) (e : RelEntry) :
    applyAfterSym a c rela s sec e = applyTree a c rela e none none (some sec) fun w fm =>
      some (writeField c.le w sec e.offset (fm.eval s (if rela then e.addend else (readField c.le w sec e.offset : Int))
        e.offset (readField c.le w sec e.offset : Int))) := rfl

section tree
variable {α β : Type} {a : Arch} {c : RelCfg} {rela : Bool} {e : RelEntry} {x u k : α} {f : Nat → Formula → α}

/-- two trees over the same entry are related when their leaves are, the field leaves where the field leaf is reached -/
theorem applyTree_rel (R : α → β → Prop) {x' u' k' : β} {f' : Nat → Formula → β} (hx : R x x') (hu : R u u') (hk : R k k')
    (hf : ∀ w fm, psabi a rela e.type = some (w, fm) → fm ≠ .keep → R (f w fm) (f' w fm)) :
    R (applyTree a c rela e x u k f) (applyTree a c rela e x' u' k' f') := by
  unfold applyTree
  cases flavourOk a rela with
  | false => exact hx
  | true =>
  cases (c.packed && (decide (e.type2 ≠ 0) || decide (e.type3 ≠ 0) || decide (e.ssym ≠ 0))) with
  | true => exact hx
  | false =>
  cases hps : psabi a rela e.type with
  | none => exact hu
  | some wf =>
    obtain ⟨w, fm⟩ := wf
    by_cases hkeep : fm = .keep
    · simp only [hkeep, ↓reduceIte, Bool.not_true, Bool.false_eq_true]; exact hk
    · simp only [hkeep, ↓reduceIte, Bool.not_true, Bool.false_eq_true]; exact hf w fm hps hkeep

theorem applyTree_cases (P : α → Prop) (hx : P x) (hu : P u) (hk : P k)
    (hf : ∀ w fm, psabi a rela e.type = some (w, fm) → fm ≠ .keep → P (f w fm)) : P (applyTree a c rela e x u k f) :=
  applyTree_rel (β := Unit) (fun y _ => P y) (x' := ()) (u' := ()) (k' := ()) (f' := fun _ _ => ()) hx hu hk hf

theorem applyTree_early (h : (!flavourOk a rela || c.packed && (e.type2 ≠ 0 || e.type3 ≠ 0 || e.ssym ≠ 0)) = true) :
    applyTree a c rela e x u k f = x := by
  unfold applyTree
  cases hf : flavourOk a rela with
  | false => rfl
  | true =>
    rw [hf] at h
    rw [if_neg (by simp), if_pos (by simpa using h)]

theorem applyTree_unlisted (hps : psabi a rela e.type = none) : applyTree a c rela e x x k f = x := by
  unfold applyTree
  rw [hps]
  simp only [ite_self]

theorem applyTree_listed (hf : flavourOk a rela = true)
    (hnc : (c.packed && (decide (e.type2 ≠ 0) || decide (e.type3 ≠ 0) || decide (e.ssym ≠ 0))) = false)
    {w : Nat} {fm : Formula} (hps : psabi a rela e.type = some (w, fm)) :
    applyTree a c rela e x u k f = if fm = .keep then k else f w fm := by
  unfold applyTree
  rw [hf, hnc, hps]
  rfl

end tree

/-- The whole of `_do_apply_relocation` once the symbol value is known, for every entry whose type is not the unclaimed
    one: the decision tree of `Spec.applyAfterSym` with the library's error at each leaf, and the case the Spec leaves
    outside its domain (the field is not inside the section: the read comes up short). -/
theorem applyWithSym_outcome (a : Arch) (c : RelCfg) (hm : c.mips = decide (a = .mips)) (rela : Bool) (sec : Bytes)
    (e : RelEntry) (s : Int) (hu : psabi a rela e.type = none → unclaimed a rela e.type = false) :
    applyWithSym c.le c.cls (archString a) sec (observeRel c rela e) s =
      applyTree a c rela e (.error .elfRelocError) (.error .elfRelocError) (.ok sec) fun w fm =>
        if e.offset + w ≤ sec.length ∧ e.offset < 2 ^ 63 then
          .ok (writeField c.le w sec e.offset (fm.eval s (if rela then e.addend else (readField c.le w sec e.offset : Int))
            e.offset (readField c.le w sec e.offset : Int)))
        else .error .elfParseError := by
  unfold applyWithSym applyTree
  rw [chooseRecipe_spec a c rela e hm]
  cases hf : flavourOk a rela with
  | false => rfl
  | true =>
  cases hcomp : (c.packed && (decide (e.type2 ≠ 0) || decide (e.type3 ≠ 0) || decide (e.ssym ≠ 0))) with
  | true => rfl
  | false =>
  simp only [Bool.not_true, Bool.false_eq_true, ↓reduceIte]
  cases hps : psabi a rela e.type with
  | none => rw [recipe_of_unlisted hf hps (hu hps)]; rfl
  | some wf =>
    obtain ⟨w, fm⟩ := wf
    obtain ⟨r, fn, hget, R⟩ := recipe_of_psabi hps
    simp only [hget, bind, Except.bind, obs_offset]
    by_cases hk : fm = .keep
    · simp only [R.identity.2 hk, hk, ↓reduceIte, pure, Except.pure]
    · have hnm : ¬ r.calcName = "reloc_calc_identity" := fun h => hk (R.identity.1 h)
      simp only [hnm, hk, ↓reduceIte, ← R.width hk]
      split
      · rename_i hin
        have hadd : (if r.hasAddend then (observeRel c rela e).getInt "r_addend" else pure 0)
            = .ok (if r.hasAddend then e.addend else 0) := by
          cases hh : r.hasAddend
          · rfl
          · have := R.addend hh; subst this
            simp only [↓reduceIte, obs_addend]
        rw [applyRecipe_ok R.size hin.1 hin.2 R.fn_eq hadd, R.formula]
      · exact applyRecipe_short R.size ‹_›

/-- the unclaimed type belongs to a machine whose entries pass the two tests that come before any recipe -/
theorem unclaimed_of_early {a : Arch} {c : RelCfg} (hm : c.mips = decide (a = .mips)) {rela : Bool} {e : RelEntry}
    (h : (!flavourOk a rela || c.packed && (e.type2 ≠ 0 || e.type3 ≠ 0 || e.ssym ≠ 0)) = true) (t : Nat) :
    unclaimed a rela t = false := by
  unfold unclaimed
  split
  · simp [flavourOk, RelCfg.packed, hm] at h
  · rfl

theorem applyWithSym_early (a : Arch) (c : RelCfg) (hm : c.mips = decide (a = .mips)) (rela : Bool) (sec : Bytes)
    (e : RelEntry) (s : Int)
    (h : (!flavourOk a rela || c.packed && (e.type2 ≠ 0 || e.type3 ≠ 0 || e.ssym ≠ 0)) = true) :
    applyWithSym c.le c.cls (archString a) sec (observeRel c rela e) s = .error .elfRelocError := by
  rw [applyWithSym_outcome a c hm rela sec e s fun _ => unclaimed_of_early hm h _, applyTree_early h]

theorem applyWithSym_unlisted (a : Arch) (c : RelCfg) (hm : c.mips = decide (a = .mips)) (rela : Bool) (sec : Bytes)
    (e : RelEntry) (s : Int) (hu : unclaimed a rela e.type = false) (hps : psabi a rela e.type = none) :
    applyWithSym c.le c.cls (archString a) sec (observeRel c rela e) s = .error .elfRelocError := by
  rw [applyWithSym_outcome a c hm rela sec e s fun _ => hu, applyTree_unlisted hps]

theorem applyWithSym_listed (a : Arch) (c : RelCfg) (hm : c.mips = decide (a = .mips)) (rela : Bool) (sec : Bytes)
    (e : RelEntry) (s : Int) (hf : flavourOk a rela = true)
    (hnc : (c.packed && (decide (e.type2 ≠ 0) || decide (e.type3 ≠ 0) || decide (e.ssym ≠ 0))) = false)
    {w : Nat} {fm : Formula} (hps : psabi a rela e.type = some (w, fm)) :
    applyWithSym c.le c.cls (archString a) sec (observeRel c rela e) s =
      if fm = .keep then .ok sec
      else if e.offset + w ≤ sec.length ∧ e.offset < 2 ^ 63 then
        .ok (writeField c.le w sec e.offset (fm.eval s (if rela then e.addend else (readField c.le w sec e.offset : Int))
          e.offset (readField c.le w sec e.offset : Int)))
      else .error .elfParseError := by
  rw [applyWithSym_outcome a c hm rela sec e s (fun h => by rw [hps] at h; cases h), applyTree_listed hf hnc hps]

/-- `Spec.WFApplyOne` by its parts -/
structure ApplyOne (a : Arch) (c : RelCfg) (rela : Bool) (L : Nat) (e : RelEntry) : Prop where
  rel : WFRel c rela e = true
  claimed : unclaimed a rela e.type = false
  fits : ∀ {w : Nat} {fm : Formula}, psabi a rela e.type = some (w, fm) → fm ≠ .keep → e.offset + w ≤ L

theorem wfApplyOne_iff {a : Arch} {c : RelCfg} {rela : Bool} {L : Nat} {e : RelEntry} :
    WFApplyOne a c rela L e = true ↔ ApplyOne a c rela L e := by
  simp only [WFApplyOne, Bool.and_eq_true, Bool.not_eq_true']
  constructor
  · rintro ⟨⟨h1, h2⟩, h3⟩
    refine ⟨h1, h2, fun {w fm} hps hk => ?_⟩
    rw [hps] at h3
    simpa [hk] using h3
  · rintro ⟨h1, h2, h3⟩
    refine ⟨⟨h1, h2⟩, ?_⟩
    cases hps : psabi a rela e.type with
    | none => rfl
    | some wf =>
      by_cases hk : wf.2 = .keep
      · simp [hk]
      · simp [h3 hps hk]

theorem applyWithSym_eq_std (a : Arch) (c : RelCfg) (hm : c.mips = decide (a = .mips)) (rela : Bool) (sec : Bytes)
    (e : RelEntry) (s : Nat) (hwf : WFApplyOne a c rela sec.length e = true) (hlen : sec.length < 2 ^ 63) :
    applyWithSym c.le c.cls (archString a) sec (observeRel c rela e) (s : Int) =
      match applyAfterSym a c rela s sec e with
      | some b => .ok b
      | none => .error .elfRelocError := by
  have W := wfApplyOne_iff.1 hwf
  rw [applyWithSym_outcome a c hm rela sec e s fun _ => W.claimed, applyAfterSym_eq]
  refine applyTree_rel (fun (x : R Bytes) (y : Option Bytes) => x = match y with
    | some b => .ok b
    | none => .error .elfRelocError) rfl rfl rfl ?_
  intro w fm hps hk
  have hin := W.fits hps hk
  exact if_pos ⟨hin, by omega⟩

theorem doApply_rejects_sym (env : Env) (S : ElfStructs) (le : Bool) (cls : Nat) (arch : String) (data : Bytes)
    (symtab : SymTab) (stream : Bytes) (c : RelCfg) (rela : Bool) (e : RelEntry)
    (hent : symtab.shEntsize ≠ 0) (h : e.sym ≥ symtab.shSize / symtab.shEntsize) :
    doApplyRelocation env S le cls arch data symtab stream (observeRel c rela e) = .error .elfRelocError := by
  unfold doApplyRelocation
  simp only [obs_sym, bind, Except.bind, hent, ↓reduceIte, h]

theorem doApply_with_sym (env : Env) (S : ElfStructs) (le : Bool) (cls : Nat) (arch : String) (data : Bytes)
    (symtab : SymTab) (stream : Bytes) (c : RelCfg) (rela : Bool) (e : RelEntry) (symv : Val) (s : Int)
    (hent : symtab.shEntsize ≠ 0) (h : e.sym < symtab.shSize / symtab.shEntsize)
    (hparse : seekParse env S.Elf_Sym data (symtab.shOffset + e.sym * symtab.shEntsize) = .ok symv)
    (hval : symv.getInt "st_value" = .ok s) :
    doApplyRelocation env S le cls arch data symtab stream (observeRel c rela e)
      = applyWithSym le cls arch stream (observeRel c rela e) s := by
  unfold doApplyRelocation
  have h' : ¬ e.sym ≥ symtab.shSize / symtab.shEntsize := by omega
  simp only [obs_sym, bind, Except.bind, hent, ↓reduceIte, h', hparse, hval]

theorem writeField_frame (le : Bool) (w : Nat) (sec : Bytes) (off : Nat) (v : Int) (h : off + w ≤ sec.length) :
    (writeField le w sec off v).length = sec.length ∧
    (writeField le w sec off v).take off = sec.take off ∧
    (writeField le w sec off v).drop (off + w) = sec.drop (off + w) ∧
    readField le w (writeField le w sec off v) off = (v % ((2 ^ (8 * w) : Nat) : Int)).toNat := by
  have hl : (sec.take off).length = off := by simp; omega
  have he : (encNat le w (v % ((2 ^ (8 * w) : Nat) : Int)).toNat).length = w := encNat_length _ _ _
  have hlt : (v % ((2 ^ (8 * w) : Nat) : Int)).toNat < 256 ^ w := by
    have hpos : (0 : Int) < ((2 ^ (8 * w) : Nat) : Int) := Int.natCast_pos.mpr (Nat.two_pow_pos _)
    have h1 := Int.emod_lt_of_pos v hpos
    have h2 := Int.emod_nonneg v (Int.ne_of_gt hpos)
    rw [pow256]
    omega
  generalize hB : encNat le w (v % ((2 ^ (8 * w) : Nat) : Int)).toNat = B at he hlt
  have hAB : (sec.take off ++ B).length = off + w := by rw [List.length_append, hl, he]
  refine ⟨?_, ?_, ?_, ?_⟩
  · simp only [writeField, hB, List.length_append, hl, he, List.length_drop]; omega
  · simp only [writeField, hB, List.append_assoc]
    exact List.take_left' hl
  · simp only [writeField, hB]
    exact List.drop_left' hAB
  · simp only [writeField, readField, hB, List.append_assoc]
    rw [List.drop_left' hl, List.take_left' he, ← hB, decNat_encNat_of_lt le hlt]

theorem not_composite {c : RelCfg} {e : RelEntry} (hsingle : c.packed = true → e.type2 = 0 ∧ e.type3 = 0 ∧ e.ssym = 0) :
    (c.packed && (decide (e.type2 ≠ 0) || decide (e.type3 ≠ 0) || decide (e.ssym ≠ 0))) = false := by
  cases hp : c.packed
  · rfl
  · obtain ⟨h2, h3, h4⟩ := hsingle hp
    simp [h2, h3, h4]

theorem wfApplyOne_of_room {a : Arch} {c : RelCfg} {rela : Bool} {L : Nat} {e : RelEntry}
    (h : WFApplyOneRoom a c rela L e = true) : WFApplyOne a c rela L e = true := by
  simp only [WFApplyOneRoom, Bool.and_eq_true, Bool.not_eq_true'] at h
  obtain ⟨⟨⟨h1, h2⟩, _⟩, h4⟩ := h
  refine wfApplyOne_iff.2 ⟨h1, h2, fun {w fm} hps _ => ?_⟩
  simp only [hps, decide_eq_true_eq] at h4
  split at h4 <;> omega

end PyElf.Proofs.Reloc
