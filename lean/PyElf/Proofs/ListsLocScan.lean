/-
  C07: the DIE scan at the start of `LocationLists.iter_location_lists()`.

  1. what the scan does with one debugging entry is `Spec.Lists.dieLocRefs` (the
     references the decision table finds in it), applied to the three containers;
  2. when the references agree with a layout of objects (`refsAgree`), the three
     containers are: the objects' offsets in increasing order, views offset ↦ list
     offset for exactly the objects with views, list offset ↦ a unit that refers to it.
-/
import PyElf.Spec.Lists
import PyElf.Model.Lists
import PyElf.Proofs.ListsCls
import PyElf.Proofs.ListsEnum
import PyElf.Proofs.ListFacts
namespace PyElf.Proofs.ListsLocScan
open PyElf PyElf.Model.Lists PyElf.Spec.Lists PyElf.Proofs

def toDie (a : Attr) : DieAttr := ⟨a.name, a.form, a.value⟩

def applyRef (cu : Cu) (st : Scan) (r : LocRef) : Scan :=
  match r.1 with
  | some v => { st with locviews := dictSet st.locviews v r.2, cuMap := dictSet st.cuMap r.2 cu,
                        allOffsets := setAdd st.allOffsets v }
  | none => { st with allOffsets := setAdd st.allOffsets r.2, cuMap := dictSet st.cuMap r.2 cu }

theorem scanAttr_eq (cu : Cu) (nv : Bool) (st : Scan) (a : Attr) :
    scanAttr cu (!nv) st a =
      if ((a.name != "DW_AT_location" || nv) && classify a.name a.form cu.version == .list) = true then do
        let listOffset ← a.value.asInt
        return { st with allOffsets := setAdd st.allOffsets listOffset,
                         cuMap := dictSet st.cuMap listOffset cu }
      else return st := by
  unfold scanAttr
  rw [Bool.and_assoc, ListsCls.classify_list, Bool.not_not]

theorem foldlM_scanAttr (cu : Cu) (nv : Bool) : ∀ (d : List Attr) (st : Scan),
    Follows (fun rs => rs.foldl (applyRef cu) st)
      (((d.map toDie).filter fun a => (a.name != "DW_AT_location" || nv)
          && classify a.name a.form cu.version == .list).mapM
        fun a => (intOf a.value).map fun lo => ((none, lo) : LocRef))
      (d.foldlM (scanAttr cu (!nv)) st)
  | [], _ => .of_eq rfl
  | a :: d, st => by
    rw [List.foldlM_cons, List.map_cons, List.filter_cons, scanAttr_eq]
    show Follows _ (List.mapM _ (if ((a.name != "DW_AT_location" || nv)
      && classify a.name a.form cu.version == .list) = true then _ else _)) _
    split
    · rw [List.mapM_cons]
      exact Follows.bind (φ := applyRef cu st) ((ListsEnum.asInt_follows a.value).map_bind fun _ _ => rfl) fun r _ =>
        (foldlM_scanAttr cu nv d _).bind_pure fun _ _ => rfl
    · exact .skip rfl (foldlM_scanAttr cu nv d st)

theorem findAttr_toDie (d : List Attr) (n : String) :
    (d.map toDie).find? (fun a => a.name == n) = (findAttr d n).map toDie := by
  unfold findAttr
  rw [List.find?_map]
  rfl

theorem scanViews_follows (cu : Cu) (st : Scan) (d : List Attr) :
    Follows (fun rs => rs.foldl (applyRef cu) st)
      (match (findAttr d "DW_AT_GNU_locviews").map toDie with
        | none => some []
        | some va =>
          match (findAttr d "DW_AT_location").map toDie with
          | none => none
          | some la =>
            if classify la.name la.form cu.version = .list then do
              let v ← intOf va.value
              let lo ← intOf la.value
              pure [(some v, lo)]
            else none)
      (scanViews cu st d) := by
  unfold scanViews
  cases findAttr d "DW_AT_GNU_locviews" with
  | none => exact .of_eq rfl
  | some va =>
    cases hl : findAttr d "DW_AT_location" with
    | none => exact .none
    | some la =>
      have hname : la.name = "DW_AT_location" := by simpa using List.find?_some hl
      show Follows _ (if classify la.name la.form cu.version = .list then _ else _) _
      split
      · rename_i hcl
        have hll : attributeHasLocList la.name la.form cu.version = true := by
          rw [hname, ListsCls.hasLocList_location, ← hname, hcl]; rfl
        simp only [hll, Bool.not_true, Bool.false_eq_true, if_false]
        exact (ListsEnum.asInt_follows va.value).bind fun v _ => (ListsEnum.asInt_follows la.value).bind fun lo _ => .of_eq rfl
      · exact .none

theorem scanDie_follows (env : Env) (secs : Secs) (cu : Cu) (st : Scan) (die : List RawAttr) (d : List Attr)
    (hd : dieAttrs env secs cu die = .ok d) :
    Follows (fun rs => rs.foldl (applyRef cu) st) (dieLocRefs cu.version (d.map toDie)) (scanDie env secs cu st die) := by
  unfold scanDie dieLocRefs
  rw [findAttr_toDie, findAttr_toDie]
  refine .skip hd ((scanViews_follows cu st d).bind fun ws _ => ?_)
  have hnv : (findAttr d "DW_AT_GNU_locviews").isSome = !((findAttr d "DW_AT_GNU_locviews").map toDie).isNone := by
    cases findAttr d "DW_AT_GNU_locviews" <;> rfl
  rw [hnv]
  exact (foldlM_scanAttr cu _ d _).bind_pure fun rs _ => (List.foldl_append ..)

def applyRefs (st : Scan) (rs : List (LocRef × Cu)) : Scan := rs.foldl (fun st rc => applyRef rc.2 st rc.1) st

def dieRefsList (cu : Cu) : List (List Attr) → Option (List (LocRef × Cu))
  | [] => some []
  | d :: rest => do
      let here ← dieLocRefs cu.version (d.map toDie)
      let more ← dieRefsList cu rest
      pure (here.map (·, cu) ++ more)

/-- `dec cu die` is the decoded form of a debugging entry -/
def locRefs (dec : Cu → List RawAttr → List Attr) (ver5 : Bool) : List Cu → Option (List (LocRef × Cu))
  | [] => some []
  | cu :: rest => do
      let here ← if decide (cu.version ≥ 5) == ver5 then dieRefsList cu (cu.dies.map (dec cu)) else some []
      let more ← locRefs dec ver5 rest
      pure (here ++ more)

theorem dieRefsList_cons_some {cu : Cu} {d : List Attr} {rest : List (List Attr)} {rs : List (LocRef × Cu)}
    (h : dieRefsList cu (d :: rest) = some rs) :
    ∃ here more, dieLocRefs cu.version (d.map toDie) = some here ∧ dieRefsList cu rest = some more
      ∧ rs = here.map (·, cu) ++ more := by
  simp only [dieRefsList, Option.bind_eq_bind, Option.bind_eq_some_iff, Option.pure_def, Option.some.injEq] at h
  obtain ⟨here, h1, more, h2, rfl⟩ := h
  exact ⟨here, more, h1, h2, rfl⟩

theorem locRefs_cons_some {dec : Cu → List RawAttr → List Attr} {ver5 : Bool} {cu : Cu} {cus : List Cu}
    {rs : List (LocRef × Cu)} (h : locRefs dec ver5 (cu :: cus) = some rs) :
    ∃ here more, (if decide (cu.version ≥ 5) == ver5 then dieRefsList cu (cu.dies.map (dec cu)) else some []) = some here
      ∧ locRefs dec ver5 cus = some more ∧ rs = here ++ more := by
  rw [locRefs] at h
  split at h <;> rename_i hg <;>
    simp only [Option.bind_eq_bind, Option.bind_eq_some_iff, Option.pure_def, Option.some.injEq] at h <;>
    obtain ⟨here, h1, more, h2, rfl⟩ := h
  · exact ⟨here, more, by rw [if_pos hg, h1], h2, rfl⟩
  · exact ⟨here, more, by rw [if_neg hg, h1], h2, rfl⟩

theorem applyRefs_append (st : Scan) (a b : List (LocRef × Cu)) :
    applyRefs st (a ++ b) = applyRefs (applyRefs st a) b := by
  simp [applyRefs, List.foldl_append]

theorem applyRefs_map (cu : Cu) (st : Scan) (rs : List LocRef) :
    applyRefs st (rs.map (·, cu)) = rs.foldl (applyRef cu) st := by
  simp [applyRefs, List.foldl_map]

theorem foldlM_scanDie (env : Env) (secs : Secs) (cu : Cu) (dec : List RawAttr → List Attr) :
    ∀ (dies : List (List RawAttr)) (st : Scan), (∀ die ∈ dies, dieAttrs env secs cu die = .ok (dec die)) →
      Follows (applyRefs st) (dieRefsList cu (dies.map dec)) (dies.foldlM (scanDie env secs cu) st)
  | [], _, _ => .of_eq rfl
  | die :: dies, st, hdec => by
    rw [List.foldlM_cons]
    exact (scanDie_follows env secs cu st die _ (hdec die (by simp))).bind fun here _ =>
      (foldlM_scanDie env secs cu dec dies _ fun x hx => hdec x (by simp [hx])).bind_pure fun more _ => by
        rw [applyRefs_append, applyRefs_map]

theorem foldlM_scanCu (env : Env) (secs : Secs) (ver5 : Bool) (dec : Cu → List RawAttr → List Attr) :
    ∀ (cus : List Cu) (st : Scan),
      (∀ cu ∈ cus, (decide (cu.version ≥ 5) == ver5) = true →
        ∀ die ∈ cu.dies, dieAttrs env secs cu die = .ok (dec cu die)) →
      Follows (applyRefs st) (locRefs dec ver5 cus) (cus.foldlM (scanCu env secs ver5) st)
  | [], _, _ => .of_eq rfl
  | cu :: cus, st, hdec => by
    have ih := fun st' => foldlM_scanCu env secs ver5 dec cus st' fun x hx => hdec x (by simp [hx])
    rw [List.foldlM_cons, locRefs, scanCu]
    split
    · rename_i hg
      exact (foldlM_scanDie env secs cu (dec cu) cu.dies st (hdec cu (by simp) hg)).bind fun here _ =>
        (ih _).bind_pure fun more _ => applyRefs_append st here more
    · exact .skip rfl ((ih st).bind_pure fun _ _ => rfl)

theorem scanDies_refs (env : Env) (secs : Secs) (ver5 : Bool) (dec : Cu → List RawAttr → List Attr)
    (cus : List Cu) (rs : List (LocRef × Cu))
    (hdec : ∀ cu ∈ cus, (decide (cu.version ≥ 5) == ver5) = true →
      ∀ die ∈ cu.dies, dieAttrs env secs cu die = .ok (dec cu die))
    (hr : locRefs dec ver5 cus = some rs) :
    scanDies env secs ver5 cus
      = .ok { applyRefs {} rs with allOffsets := sortedSet (applyRefs {} rs).allOffsets } := by
  unfold scanDies
  rw [(foldlM_scanCu env secs ver5 dec cus {} hdec).ok hr]
  rfl

theorem locRefs_generation (dec : Cu → List RawAttr → List Attr) (ver5 : Bool) :
    ∀ (cus : List Cu) (rs : List (LocRef × Cu)), locRefs dec ver5 cus = some rs →
      ∀ rc ∈ rs, rc.2 ∈ cus ∧ (decide (rc.2.version ≥ 5) == ver5) = true := by
  have hdl : ∀ (cu : Cu) (ds : List (List Attr)) (rs : List (LocRef × Cu)),
      dieRefsList cu ds = some rs → ∀ rc ∈ rs, rc.2 = cu := by
    intro cu ds
    induction ds with
    | nil => intro rs h; simp [dieRefsList] at h; subst h; simp
    | cons d ds ih =>
      intro rs h rc hrc
      obtain ⟨here, more, _, h2, rfl⟩ := dieRefsList_cons_some h
      rcases List.mem_append.mp hrc with hm | hm
      · obtain ⟨r, _, rfl⟩ := List.mem_map.mp hm
        rfl
      · exact ih more h2 rc hm
  intro cus
  induction cus with
  | nil => intro rs h; simp [locRefs] at h; subst h; simp
  | cons cu cus ih =>
    intro rs h rc hrc
    obtain ⟨here, more, h1, h2, rfl⟩ := locRefs_cons_some h
    rcases List.mem_append.mp hrc with hm | hm
    · by_cases hg : (decide (cu.version ≥ 5) == ver5) = true
      · rw [if_pos hg] at h1
        rw [hdl cu _ here h1 rc hm]
        exact ⟨by simp, hg⟩
      · rw [if_neg hg] at h1
        cases h1
        cases hm
    · have := ih more h2 rc hm
      exact ⟨by simp [this.1], this.2⟩

/-- where the walker meets the object of a reference: at its view pairs, else at the list -/
def key (r : LocRef) : Int := r.1.getD r.2

theorem mem_setAdd (s : List Int) (x z : Int) : z ∈ setAdd s x ↔ z ∈ s ∨ z = x := by
  unfold setAdd
  by_cases h : s.contains x = true
  · rw [if_pos h]
    have := List.contains_iff_mem.mp h
    constructor
    · intro hz; exact Or.inl hz
    · rintro (hz | hz)
      · exact hz
      · subst hz; exact this
  · rw [if_neg h]; simp

theorem applyRef_allOffsets (cu : Cu) (st : Scan) (r : LocRef) (z : Int) :
    z ∈ (applyRef cu st r).allOffsets ↔ z ∈ st.allOffsets ∨ z = key r := by
  obtain ⟨v, lo⟩ := r
  cases v <;> simp [applyRef, key, mem_setAdd]

theorem mem_allOffsets (rs : List (LocRef × Cu)) (st : Scan) (z : Int) :
    z ∈ (applyRefs st rs).allOffsets ↔ z ∈ st.allOffsets ∨ z ∈ rs.map (fun rc => key rc.1) := by
  induction rs generalizing st with
  | nil => simp [applyRefs]
  | cons rc rs ih =>
    have : applyRefs st (rc :: rs) = applyRefs (applyRef rc.2 st rc.1) rs := rfl
    rw [this, ih, applyRef_allOffsets]
    simp only [List.map_cons, List.mem_cons, or_assoc]

def viewEntries (rs : List (LocRef × Cu)) : List (Int × Int) :=
  rs.filterMap fun rc => rc.1.1.map fun v => (v, rc.1.2)

theorem applyRefs_locviews (rs : List (LocRef × Cu)) (st : Scan) :
    (applyRefs st rs).locviews = (viewEntries rs).foldl (fun d r => dictSet d r.1 r.2) st.locviews := by
  induction rs generalizing st with
  | nil => rfl
  | cons rc rs ih =>
    have : applyRefs st (rc :: rs) = applyRefs (applyRef rc.2 st rc.1) rs := rfl
    rw [this, ih]
    obtain ⟨⟨v, lo⟩, cu⟩ := rc
    cases v <;> simp [applyRef, viewEntries]

theorem applyRefs_cuMap (rs : List (LocRef × Cu)) (st : Scan) :
    (applyRefs st rs).cuMap = (rs.map fun rc => (rc.1.2, rc.2)).foldl (fun d r => dictSet d r.1 r.2) st.cuMap := by
  induction rs generalizing st with
  | nil => rfl
  | cons rc rs ih =>
    have : applyRefs st (rc :: rs) = applyRefs (applyRef rc.2 st rc.1) rs := rfl
    rw [this, ih]
    obtain ⟨⟨v, lo⟩, cu⟩ := rc
    cases v <;> simp [applyRef]

theorem pairwise_mem_cases {α} {R : α → α → Prop} {l : List α} (h : l.Pairwise R) {a b : α}
    (ha : a ∈ l) (hb : b ∈ l) : a = b ∨ R a b ∨ R b a := by
  by_cases e : a = b
  · exact .inl e
  · exact .inr (Engine.pairwise_mem (R := fun x y => R x y ∨ R y x) (fun _ _ => Or.symm) (h.imp Or.inl) ha hb e)

/-- as laid out: an object's views do not start after its list, the next object starts after the list's first byte -/
structure Separated (ks : List LocRef) : Prop where
  le : ∀ k ∈ ks, key k ≤ k.2
  lt : ks.Pairwise (fun a b => a.2 < key b)

theorem Separated.key_inj {ks : List LocRef} (h : Separated ks) {a b : LocRef} (ha : a ∈ ks) (hb : b ∈ ks)
    (hk : key a = key b) : a = b := by
  rcases pairwise_mem_cases h.lt ha hb with e | e | e
  · exact e
  · have := h.le a ha; omega
  · have := h.le b hb; omega

theorem Separated.list_inj {ks : List LocRef} (h : Separated ks) {a b : LocRef} (ha : a ∈ ks) (hb : b ∈ ks)
    (hk : a.2 = b.2) : a = b := by
  rcases pairwise_mem_cases h.lt ha hb with e | e | e
  · exact e
  · have := h.le b hb; omega
  · have := h.le a ha; omega

theorem Separated.keys_sorted {ks : List LocRef} (h : Separated ks) : (ks.map key).Pairwise (· < ·) := by
  rw [List.pairwise_map]
  have hle := h.le
  refine List.Pairwise.imp_of_mem ?_ h.lt
  intro a b ha _ hab
  have := hle a ha
  omega

theorem agree_unpack {rs ks : List LocRef} (h : refsAgree rs ks = true) :
    (∀ r ∈ rs, r ∈ ks) ∧ (∀ k ∈ ks, k ∈ rs) := by
  simp only [refsAgree, Bool.and_eq_true, List.all_eq_true, List.contains_iff_mem] at h
  exact h

theorem allOffsets_eq (rs : List (LocRef × Cu)) (ks : List LocRef) (hs : Separated ks)
    (ha : refsAgree (rs.map (·.1)) ks = true) :
    sortedSet (applyRefs {} rs).allOffsets = ks.map key := by
  obtain ⟨h1, h2⟩ := agree_unpack ha
  rw [ListsEnum.sortedSet_eq]
  apply ListsEnum.sorted_ext (ListsEnum.sortedDistinct_sorted _) hs.keys_sorted
  intro x
  rw [ListsEnum.mem_sortedDistinct, mem_allOffsets]
  simp only [List.mem_map]
  constructor
  · rintro (h | ⟨rc, hrc, rfl⟩)
    · simp at h
    · exact ⟨rc.1, h1 rc.1 (List.mem_map.mpr ⟨rc, hrc, rfl⟩), rfl⟩
  · rintro ⟨k, hk, rfl⟩
    obtain ⟨rc, hrc, e⟩ := List.mem_map.mp (h2 k hk)
    exact Or.inr ⟨rc, hrc, by rw [e]⟩

theorem mem_viewEntries {rs : List (LocRef × Cu)} {p : Int × Int} (h : p ∈ viewEntries rs) :
    ((some p.1, p.2) : LocRef) ∈ rs.map (·.1) := by
  unfold viewEntries at h
  obtain ⟨rc, hrc, e⟩ := List.mem_filterMap.mp h
  obtain ⟨⟨v, lo⟩, cu⟩ := rc
  cases v with
  | none => simp at e
  | some v =>
    simp at e
    subst e
    exact List.mem_map.mpr ⟨_, hrc, rfl⟩

/-- what the dict answers at a key was assigned by a reference with that key, and that is the key's own reference: keys are
  injective on `ks` (`Separated.key_inj`) -/
theorem locviews_get (rs : List (LocRef × Cu)) (ks : List LocRef) (hs : Separated ks)
    (ha : refsAgree (rs.map (·.1)) ks = true) (k : LocRef) (hk : k ∈ ks) :
    dictGet? (applyRefs {} rs).locviews (key k) = k.1.map fun _ => k.2 := by
  obtain ⟨h1, h2⟩ := agree_unpack ha
  rw [applyRefs_locviews]
  cases hg : dictGet? _ (key k) with
  | some lo =>
    have hm := (ListsEnum.mem_of_dictGet_foldl_dictSet hg).resolve_right (by simp [dictGet?])
    rw [← hs.key_inj (h1 _ (mem_viewEntries hm)) hk rfl]; rfl
  | none =>
    obtain ⟨v, lo⟩ := k
    cases v with
    | none => rfl
    | some v =>
      obtain ⟨rc, hrc, e⟩ := List.mem_map.mp (h2 _ hk)
      have hm : (v, lo) ∈ viewEntries rs := List.mem_filterMap.mpr ⟨rc, hrc, by rw [e]; rfl⟩
      exact absurd ((ListsEnum.mem_keys_foldl_dictSet _ _ _).2 (.inr (List.mem_map_of_mem (f := (·.1)) hm)))
        ((ListsEnum.dictGet_eq_none _ _).1 hg)

theorem cuMap_get (rs : List (LocRef × Cu)) (ks : List LocRef) (hs : Separated ks)
    (ha : refsAgree (rs.map (·.1)) ks = true) (k : LocRef) (hk : k ∈ ks) :
    ∃ cu, dictGet? (applyRefs {} rs).cuMap k.2 = some cu ∧ (k, cu) ∈ rs := by
  obtain ⟨h1, h2⟩ := agree_unpack ha
  rw [applyRefs_cuMap]
  cases hg : dictGet? _ k.2 with
  | some cu =>
    obtain ⟨rc, hrc, e⟩ := List.mem_map.mp
      ((ListsEnum.mem_of_dictGet_foldl_dictSet hg).resolve_right (by simp [dictGet?]))
    obtain ⟨e1, e2⟩ := Prod.mk.inj e
    refine ⟨cu, rfl, ?_⟩
    rw [← hs.list_inj (h1 _ (List.mem_map_of_mem hrc)) hk e1, ← e2]
    exact hrc
  | none =>
    obtain ⟨rc, hrc, e⟩ := List.mem_map.mp (h2 _ hk)
    refine ((ListsEnum.dictGet_eq_none _ _).1 hg ((ListsEnum.mem_keys_foldl_dictSet _ _ _).2
      (.inr (List.mem_map.2 ⟨(rc.1.2, rc.2), List.mem_map.2 ⟨rc, hrc, rfl⟩, by rw [e]⟩)))).elim

end PyElf.Proofs.ListsLocScan
