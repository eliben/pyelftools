/-
  C11: `_file_crc32` reads the file in chunks and folds `binascii.crc32(chunk, running)` over them.  Under the
  streaming law of CRC-32 — the ONLY assumption, `crc (a ++ b) init = crc b (crc a init)` — the chunked fold is the
  one-shot checksum of the whole file, for every positive chunk size.  The Spec's CRC-32 (Spec/ContainerCrc.lean: the
  function of the GDB manual) satisfies the law.
-/
import PyElf.Model.DwarfViewCrc
import PyElf.Spec.ContainerCrc
namespace PyElf.Proofs.C11
open PyElf PyElf.Model PyElf.Model.C11 PyElf.Spec.C11

def CrcStreaming (crc : Bytes → Nat → Nat) : Prop :=
  ∀ (a b : Bytes) (init : Nat), crc (a ++ b) init = crc b (crc a init)

theorem fileCrc32Loop_nil (crc : Bytes → Nat → Nat) (n c : Nat) : fileCrc32Loop crc n [] c = c := by
  rw [fileCrc32Loop]; simp

theorem fileCrc32Loop_zero (crc : Bytes → Nat → Nat) (rest : Bytes) (c : Nat) : fileCrc32Loop crc 0 rest c = c := by
  rw [fileCrc32Loop]; simp

/-- loop invariant: from any point of the file and any running value, the loop returns the CRC of
    what is left, continued from the running value -/
theorem fileCrc32Loop_eq {crc : Bytes → Nat → Nat} (h : CrcStreaming crc) (n : Nat) (hn : 0 < n) :
    ∀ (k : Nat) (rest : Bytes) (c : Nat), rest.length ≤ k → rest ≠ [] → fileCrc32Loop crc n rest c = crc rest c := by
  intro k
  induction k with
  | zero =>
    intro rest c hk hne
    exact absurd (List.eq_nil_of_length_eq_zero (by omega)) hne
  | succ k ih =>
    intro rest c hk hne
    have htake : rest.take n ≠ [] := by
      simp only [ne_eq, List.take_eq_nil_iff, not_or]
      exact ⟨by omega, hne⟩
    rw [fileCrc32Loop, dif_neg htake]
    by_cases hd : rest.drop n = []
    · rw [hd, fileCrc32Loop_nil]
      have : rest.take n = rest := by
        have := List.take_append_drop n rest
        rw [hd, List.append_nil] at this
        exact this
      rw [this]
    · have hlen : (rest.drop n).length ≤ k := by
        have : rest.length ≠ 0 := fun e => hne (List.eq_nil_of_length_eq_zero e)
        simp only [List.length_drop]; omega
      rw [ih (rest.drop n) _ hlen hd, ← h, List.take_append_drop]

/-- 0 for an empty file, where `binascii.crc32` is never called -/
theorem fileCrc32_eq_oneshot {crc : Bytes → Nat → Nat} (h : CrcStreaming crc) (n : Nat) (hn : 0 < n) (data : Bytes) :
    fileCrc32 crc n data = if data = [] then 0 else crc data 0 := by
  unfold fileCrc32
  by_cases hd : data = []
  · rw [if_pos hd, hd, fileCrc32Loop_nil]
  · rw [if_neg hd]
    exact fileCrc32Loop_eq h n hn data.length data 0 (Nat.le_refl _) hd

theorem fileCrc32_eq_oneshot' {crc : Bytes → Nat → Nat} (h : CrcStreaming crc) (h0 : crc [] 0 = 0) (n : Nat) (hn : 0 < n)
    (data : Bytes) : fileCrc32 crc n data = crc data 0 := by
  rw [fileCrc32_eq_oneshot h n hn]
  split
  · next e => rw [e, h0]
  · rfl

/-- a chunk size of 0 would read nothing: the checksum of every file would be 0 -/
theorem fileCrc32_chunk_zero (crc : Bytes → Nat → Nat) (data : Bytes) : fileCrc32 crc 0 data = 0 :=
  fileCrc32Loop_zero crc data 0

theorem spec_crc32_streaming : CrcStreaming (fun d init => crc32 d init) := by
  intro a b init
  simp only [crc32, List.foldl_append, Nat.xor_assoc, Nat.xor_self, Nat.xor_zero]

theorem spec_crc32_nil : crc32 [] 0 = 0 := by decide

end PyElf.Proofs.C11
