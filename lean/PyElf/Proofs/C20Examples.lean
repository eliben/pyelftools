/-
  C20, concrete objects for the non-vacuity of the whole-file theorems: a 32-bit little-endian ARM
  shared object with an `.ARM.attributes` section, a section `.x` (in the place of `.ARM.extab`) holding two handler-table
  entries 4 bytes in, a section `.i` (`.ARM.exidx`) of four entries placed AFTER it (negative table
  references), a second, later section that also bears the name `.ARM.attributes`, and a RISC-V
  big-endian executable.  Bodies come from the Spec encoders; offsets are computed from their lengths.
-/
import PyElf.Spec.C20File
namespace PyElf.Proofs.C20
open PyElf PyElf.Spec PyElf.Spec.C20

def exShdr (ty flags off size link : Nat) : Fields :=
  [("sh_type", .int ty), ("sh_flags", .int flags), ("sh_addr", .int 0), ("sh_offset", .int off), ("sh_size", .int size),
   ("sh_link", .int link), ("sh_info", .int 0), ("sh_addralign", .int 4), ("sh_entsize", .int 0)]

/-- two vendor subsections, file / section / symbol scopes, padded ULEB128s, NTBS, compatibility, nested tag -/
def exArmSec : Attr.Section :=
  [⟨[0x61, 0x65, 0x61, 0x62, 0x69], [⟨⟨1, 1⟩, [], [⟨⟨6, 1⟩, .simple (.int ⟨10, 2⟩)⟩, ⟨⟨5, 1⟩, .simple (.str [0x41, 0x39])⟩]⟩]⟩,
   ⟨[0x67], [⟨⟨2, 1⟩, [⟨1, 1⟩, ⟨300, 3⟩], [⟨⟨32, 1⟩, .compat ⟨1, 1⟩ [0x67]⟩]⟩,
             ⟨⟨3, 2⟩, [], [⟨⟨65, 1⟩, .also ⟨6, 1⟩ (.int ⟨3, 1⟩)⟩]⟩]⟩]

def exArmSec2 : Attr.Section := [⟨[0x62], [⟨⟨1, 1⟩, [], [⟨⟨7, 1⟩, .simple (.int ⟨65, 1⟩)⟩]⟩]⟩]

def exEntries : List Ehabi.Entry :=
  [.cantUnwind (-0x100), .inline 0x40 0x97 0x84 0x08,
   .table (-4) (.long 1 0xb2 0x81 [[0x01, 0xb0, 0xb0, 0xb0]]), .table 8 (.generic (-0x200))]

/-- ".ARM.attributes", ".x", ".i", ".s" at 1, 17, 20, 23 of the section-name table -/
def nAttr : Bytes := [0x2e, 0x41, 0x52, 0x4d, 0x2e, 0x61, 0x74, 0x74, 0x72, 0x69, 0x62, 0x75, 0x74, 0x65, 0x73]
def nExtab : Bytes := [0x2e, 0x78]
def nExidx : Bytes := [0x2e, 0x69]
def nStr : Bytes := [0x2e, 0x73]
def exNameTab : Bytes := [0] ++ nAttr ++ [0] ++ nExtab ++ [0] ++ nExidx ++ [0] ++ nStr ++ [0]

def exArmFile : ElfDesc :=
  let attr := Attr.encSection true exArmSec
  let attr2 := Attr.encSection true exArmSec2
  let aOff := 320
  let xOff := aOff + attr.length + 3
  let xpre := 4
  let extab := [0xde, 0xad, 0xbe, 0xef] ++ Ehabi.encWords true (tableWordsOf exEntries) ++ [0x55]
  let iOff := xOff + extab.length + 1
  let exidx := Ehabi.encExidxFrom true iOff exEntries (Ehabi.tableOffsets (xOff + xpre) exEntries)
  let a2Off := iOff + exidx.length + 2
  let sOff := a2Off + attr2.length
  { cls := 32, le := true, mclass := "EM_ARM", solaris := false, core := false,
    ehdr := [("EI_VERSION", .int 1), ("EI_OSABI", .int 0), ("EI_ABIVERSION", .int 0), ("e_type", .int 3),
             ("e_machine", .int 40), ("e_version", .int 1), ("e_entry", .int 0), ("e_flags", .int 0),
             ("e_ehsize", .int 52)],
    shoff := 56, phoff := 0, shentsize := 40, phentsize := 0,
    sections :=
      [⟨[], exShdr 0 0 0 0 0, none, 0⟩,
       ⟨nAttr, exShdr 0x70000003 0 aOff attr.length 0, some attr, 1⟩,
       ⟨nExtab, exShdr 1 2 xOff extab.length 0, some extab, 17⟩,
       ⟨nExidx, exShdr 0x70000001 0x82 iOff exidx.length 2, some exidx, 20⟩,
       ⟨nAttr, exShdr 0x70000003 0 a2Off attr2.length 0, some attr2, 1⟩,
       ⟨nStr, exShdr 3 0 sOff exNameTab.length 0, some exNameTab, 23⟩],
    segments := [], shstrndx := 5 }

def exRiscvSec : Attr.Section :=
  [⟨[0x72, 0x69, 0x73, 0x63, 0x76], [⟨⟨1, 1⟩, [], [⟨⟨5, 1⟩, .simple (.str [0x72, 0x76])⟩, ⟨⟨4, 2⟩, .simple (.int ⟨16, 1⟩)⟩]⟩]⟩]

def exRiscvFile : ElfDesc :=
  let attr := Attr.encSection false exRiscvSec
  { cls := 64, le := false, mclass := "EM_RISCV", solaris := false, core := false,
    ehdr := [("EI_VERSION", .int 1), ("EI_OSABI", .int 0), ("EI_ABIVERSION", .int 0), ("e_type", .int 2),
             ("e_machine", .int 243), ("e_version", .int 1), ("e_entry", .int 0), ("e_flags", .int 0),
             ("e_ehsize", .int 64)],
    shoff := 400, phoff := 0, shentsize := 64, phentsize := 0,
    sections :=
      [⟨[], exShdr 0 0 0 0 0, none, 0⟩,
       ⟨nStr, exShdr 3 0 70 exNameTab.length 0, some exNameTab, 23⟩,
       ⟨nAttr, exShdr 0x70000003 0 200 attr.length 0, some attr, 1⟩],
    segments := [], shstrndx := 1 }

/-- an attribute with tag 33 (not an ARM public tag) after a well-formed one, in the second
    sub-subsection of the second subsection; a (well-formed) subsection after it -/
def exUnknownTagSec : Attr.Section :=
  [⟨[0x61], [⟨⟨1, 1⟩, [], [⟨⟨6, 1⟩, .simple (.int ⟨10, 2⟩)⟩]⟩]⟩,
   ⟨[0x62], [⟨⟨1, 1⟩, [], []⟩,
             ⟨⟨2, 1⟩, [⟨7, 1⟩], [⟨⟨8, 1⟩, .simple (.int ⟨1, 1⟩)⟩, ⟨⟨33, 2⟩, .simple (.int ⟨5, 1⟩)⟩, ⟨⟨9, 1⟩, .simple (.int ⟨2, 1⟩)⟩]⟩]⟩,
   ⟨[0x63], [⟨⟨1, 1⟩, [], []⟩]⟩]

end PyElf.Proofs.C20
