/-
  `Con.parse` on composite constructs, per constructor an equation (`…_eq`, `parseFields_cons_*`) and, where proofs
  step through a success, its hypothesis form (`parse_struct`, `parseFields_named`, …): enums over integer
  readers, struct fields one at a time, conditionals, counted arrays, `Switch`, raw bytes and padding of a computed
  length.  The primitive readers and the two loops are in Proofs/Primitives.lean.  These are the raw material of
  the rules of Proofs/Reads.lean (a struct read off its encoding), Proofs/Cut.lean (the same struct cut short) and
  Proofs/Fixed.lean (the fixed-shape fragment); a lemma about a particular struct goes through those, not through
  these.
-/
import PyElf.Core.Construct
import PyElf.Spec.Primitives
import PyElf.Proofs.Primitives
namespace PyElf.Proofs.Engine
open PyElf PyElf.Spec PyElf.Proofs

/-- how an `Enum(..., _default_=Pass)` presents a number: its name, or the number itself -/
def enumVal (ed : String → Int → Option String) (tbl : String) (n : Int) : Val :=
  match ed tbl n with
  | some s => .str s
  | none => .int n

theorem parse_struct_eq (env : Env) (data : Bytes) (fs : ConFields) (ctx : Fields) (pos : Nat) :
    Con.parse env data (.struct fs) ctx pos
      = (Con.parseFields env data fs [] [] pos).map fun r => (.record r.1, r.2.1, ctx) := by
  rw [Con.parse]
  cases Con.parseFields env data fs [] [] pos <;> rfl

theorem parseFields_cons_named (env : Env) (data : Bytes) (nm : String) (c : Con) (rest : ConFields)
    (obj ctx : Fields) (pos : Nat) :
    Con.parseFields env data (.cons (some nm) false c rest) obj ctx pos
      = Con.parse env data c ctx pos >>= fun r =>
          Con.parseFields env data rest (Fields.set obj nm r.1) (Fields.set r.2.2 nm r.1) r.2.1 := by
  rw [Con.parseFields]
  cases Con.parse env data c ctx pos <;> rfl

theorem parseFields_cons_anon (env : Env) (data : Bytes) (c : Con) (rest : ConFields)
    (obj ctx : Fields) (pos : Nat) :
    Con.parseFields env data (.cons none false c rest) obj ctx pos
      = Con.parse env data c ctx pos >>= fun r => Con.parseFields env data rest obj r.2.2 r.2.1 := by
  rw [Con.parseFields]
  cases Con.parse env data c ctx pos <;> rfl

theorem parseFields_cons_emb (env : Env) (data : Bytes) (nm : Option String) (c : Con) (rest : ConFields)
    (obj ctx : Fields) (pos : Nat) :
    Con.parseFields env data (.cons nm true c rest) obj ctx pos
      = Con.parseEmb env data c obj ctx pos >>= fun r => Con.parseFields env data rest r.1 r.2.2 r.2.1 := by
  rw [Con.parseFields]
  cases Con.parseEmb env data c obj ctx pos <;> rfl

theorem parse_value_eq (env : Env) (data : Bytes) (e : Expr) (ctx : Fields) (pos : Nat) :
    Con.parse env data (.value e) ctx pos = (e.eval ctx .none).map fun v => (v, pos, ctx) := by
  rw [Con.parse]
  cases e.eval ctx .none <;> rfl

theorem parse_streamOffset (env : Env) (data : Bytes) (ctx : Fields) (pos : Nat) :
    Con.parse env data .streamOffset ctx pos = .ok (.int pos, pos, ctx) := by
  rw [Con.parse]

theorem parseCase_eq (env : Env) (data : Bytes) (k : Val) :
    (cases : ConCases) → (ctx : Fields) → (pos : Nat) →
      Con.parseCase env data k cases ctx pos = (cases.find k).map (fun c => Con.parse env data c ctx pos)
  | .nil, ctx, pos => by simp [Con.parseCase, ConCases.find]
  | .cons k' c rest, ctx, pos => by
    rw [Con.parseCase, ConCases.find]
    split
    · simp
    · exact parseCase_eq env data k rest ctx pos

theorem parseCaseEmb_eq (env : Env) (data : Bytes) (k : Val) :
    (cases : ConCases) → (obj ctx : Fields) → (pos : Nat) →
      Con.parseCaseEmb env data k cases obj ctx pos
        = (cases.find k).map (fun c => Con.parseEmb env data c obj ctx pos)
  | .nil, obj, ctx, pos => by simp [Con.parseCaseEmb, ConCases.find]
  | .cons k' c rest, obj, ctx, pos => by
    rw [Con.parseCaseEmb, ConCases.find]
    split
    · simp
    · exact parseCaseEmb_eq env data k rest obj ctx pos

theorem parse_enum_int {env : Env} {data : Bytes} {sub : Con} {tbl : String} {pass : Bool} {ctx ctx' : Fields}
    {pos p : Nat} {n : Int} (h : Con.parse env data sub ctx pos = .ok (.int n, p, ctx')) :
    Con.parse env data (.enum sub tbl pass) ctx pos =
      match env.enumDecode tbl n with
      | some s => .ok (.str s, p, ctx')
      | none => if pass then .ok (.int n, p, ctx') else .error .elfParseError := by
  rw [Con.parse, h]
  simp only [bind, Except.bind]
  cases env.enumDecode tbl n <;> simp [pure, Except.pure]

theorem parse_enum_pass {env : Env} {data : Bytes} {sub : Con} {tbl : String} {ctx ctx' : Fields}
    {pos p : Nat} {n : Int} (h : Con.parse env data sub ctx pos = .ok (.int n, p, ctx')) :
    Con.parse env data (.enum sub tbl true) ctx pos = .ok (enumVal env.enumDecode tbl n, p, ctx') := by
  rw [parse_enum_int h, enumVal]
  cases env.enumDecode tbl n <;> simp

theorem parse_enum_named {env : Env} {data : Bytes} {sub : Con} {tbl : String} {pass : Bool} {ctx ctx' : Fields}
    {pos p : Nat} {n : Int} {s : String} (h : Con.parse env data sub ctx pos = .ok (.int n, p, ctx'))
    (hs : env.enumDecode tbl n = some s) :
    Con.parse env data (.enum sub tbl pass) ctx pos = .ok (.str s, p, ctx') := by
  rw [parse_enum_int h, hs]

theorem parse_enum_error {env : Env} {data : Bytes} {sub : Con} {tbl : String} {pass : Bool} {ctx : Fields}
    {pos : Nat} {e : Err} (h : Con.parse env data sub ctx pos = .error e) :
    Con.parse env data (.enum sub tbl pass) ctx pos = .error e := by
  rw [Con.parse, h]; rfl

theorem parseFields_nil {env : Env} {data : Bytes} {obj ctx : Fields} {pos : Nat} :
    Con.parseFields env data .nil obj ctx pos = .ok (obj, pos, ctx) := by
  rw [Con.parseFields]

theorem parseFields_named {env : Env} {data : Bytes} {nm : String} {c : Con} {rest : ConFields}
    {obj ctx ctx' : Fields} {pos p : Nat} {v : Val} (h : Con.parse env data c ctx pos = .ok (v, p, ctx')) :
    Con.parseFields env data (.cons (some nm) false c rest) obj ctx pos
      = Con.parseFields env data rest (Fields.set obj nm v) (Fields.set ctx' nm v) p := by
  rw [parseFields_cons_named, h]; rfl

theorem parseFields_embedded {env : Env} {data : Bytes} {c : Con} {rest : ConFields}
    {obj obj' ctx ctx' : Fields} {pos p : Nat} (h : Con.parseEmb env data c obj ctx pos = .ok (obj', p, ctx')) :
    Con.parseFields env data (.cons none true c rest) obj ctx pos = Con.parseFields env data rest obj' ctx' p := by
  rw [Con.parseFields]
  simp [h, bind, Except.bind]

theorem parseFields_anon {env : Env} {data : Bytes} {c : Con} {rest : ConFields}
    {obj ctx ctx' : Fields} {pos p : Nat} {v : Val} (h : Con.parse env data c ctx pos = .ok (v, p, ctx')) :
    Con.parseFields env data (.cons none false c rest) obj ctx pos = Con.parseFields env data rest obj ctx' p := by
  rw [parseFields_cons_anon, h]; rfl

theorem parseFields_error {env : Env} {data : Bytes} {nm : Option String} {c : Con} {rest : ConFields}
    {obj ctx : Fields} {pos : Nat} {e : Err} (h : Con.parse env data c ctx pos = .error e) :
    Con.parseFields env data (.cons nm false c rest) obj ctx pos = .error e := by
  cases nm with
  | none => rw [parseFields_cons_anon, h]; rfl
  | some nm => rw [parseFields_cons_named, h]; rfl

theorem parse_struct {env : Env} {data : Bytes} {fs : ConFields} {ctx obj c' : Fields} {pos p : Nat}
    (h : Con.parseFields env data fs [] [] pos = .ok (obj, p, c')) :
    Con.parse env data (.struct fs) ctx pos = .ok (.record obj, p, ctx) := by
  rw [Con.parse, h]; rfl

theorem parse_struct_error {env : Env} {data : Bytes} {fs : ConFields} {ctx : Fields} {pos : Nat} {e : Err}
    (h : Con.parseFields env data fs [] [] pos = .error e) : Con.parse env data (.struct fs) ctx pos = .error e := by
  rw [Con.parse, h]; rfl

theorem parse_value {env : Env} {data : Bytes} {e : Expr} {ctx : Fields} {pos : Nat} {v : Val}
    (h : e.eval ctx .none = .ok v) : Con.parse env data (.value e) ctx pos = .ok (v, pos, ctx) := by
  rw [Con.parse, h]; rfl

theorem parse_ite_true {env : Env} {data : Bytes} {c : Expr} {t e : Con} {ctx : Fields} {pos : Nat} {v : Val}
    (h : c.eval ctx .none = .ok v) (ht : v.truthy = true) :
    Con.parse env data (.ifThenElse c t e) ctx pos = Con.parse env data t ctx pos := by
  rw [Con.parse, h]; simp [bind, Except.bind, ht]

theorem parse_ite_false {env : Env} {data : Bytes} {c : Expr} {t e : Con} {ctx : Fields} {pos : Nat} {v : Val}
    (h : c.eval ctx .none = .ok v) (ht : v.truthy = false) :
    Con.parse env data (.ifThenElse c t e) ctx pos = Con.parse env data e ctx pos := by
  rw [Con.parse, h]; simp [bind, Except.bind, ht]

theorem parseEmb_ite_true {env : Env} {data : Bytes} {c : Expr} {t e : Con} {obj ctx : Fields} {pos : Nat} {v : Val}
    (h : c.eval ctx .none = .ok v) (ht : v.truthy = true) :
    Con.parseEmb env data (.ifThenElse c t e) obj ctx pos = Con.parseEmb env data t obj ctx pos := by
  rw [Con.parseEmb, h]; simp [bind, Except.bind, ht]

theorem parseEmb_ite_false {env : Env} {data : Bytes} {c : Expr} {t e : Con} {obj ctx : Fields} {pos : Nat} {v : Val}
    (h : c.eval ctx .none = .ok v) (ht : v.truthy = false) :
    Con.parseEmb env data (.ifThenElse c t e) obj ctx pos = Con.parseEmb env data e obj ctx pos := by
  rw [Con.parseEmb, h]; simp [bind, Except.bind, ht]

theorem parseEmb_struct {env : Env} {data : Bytes} {fs : ConFields} {obj ctx : Fields} {pos : Nat} :
    Con.parseEmb env data (.struct fs) obj ctx pos = Con.parseFields env data fs obj ctx pos := by
  rw [Con.parseEmb]

theorem parseEmb_switch {env : Env} {data : Bytes} {key : Expr} {cases : ConCases} {dflt c : Con}
    {obj ctx : Fields} {pos : Nat} {k : Val} (hk : key.eval ctx .none = .ok k)
    (hc : Con.parseCaseEmb env data k cases obj ctx pos = some (Con.parseEmb env data c obj ctx pos)) :
    Con.parseEmb env data (.switch key cases dflt) obj ctx pos = Con.parseEmb env data c obj ctx pos := by
  rw [Con.parseEmb, hk]; simp [bind, Except.bind, hc]

theorem parseEmb_switch_eq {env : Env} {data : Bytes} {key : Expr} {cases : ConCases} {dflt : Con} {obj ctx : Fields}
    {pos : Nat} {k : Val} (hk : key.eval ctx .none = .ok k) :
    Con.parseEmb env data (.switch key cases dflt) obj ctx pos = Con.parseEmb env data (lookupCase k cases dflt) obj ctx pos := by
  rw [Con.parseEmb, hk]
  simp only [bind, Except.bind, parseCaseEmb_eq, lookupCase]
  cases ConCases.find k cases <;> rfl

theorem eval_ite_true {c t e : Expr} {cx : Fields} {o v : Val} (h : c.eval cx o = .ok v) (hv : v.truthy = true) :
    (Expr.ite c t e).eval cx o = t.eval cx o := by
  rw [Expr.eval, h]; simp [bind, Except.bind, hv]

theorem eval_ite_false {c t e : Expr} {cx : Fields} {o v : Val} (h : c.eval cx o = .ok v) (hv : v.truthy = false) :
    (Expr.ite c t e).eval cx o = e.eval cx o := by
  rw [Expr.eval, h]; simp [bind, Except.bind, hv]

theorem eval_startsWith {a : Expr} {p : String} {cx : Fields} {o : Val} {s : String} (h : a.eval cx o = .ok (.str s)) :
    (Expr.startsWith a p).eval cx o = .ok (.bool (p.toList.isPrefixOf s.toList)) := by
  rw [Expr.eval, h]; rfl

theorem parse_array {env : Env} {data : Bytes} {count : Expr} {sub : Con} {ctx : Fields} {pos : Nat} {n : Int}
    (hc : count.eval ctx .none = .ok (.int n)) :
    Con.parse env data (.array count sub) ctx pos
      = arrayLoop (fun p c => Con.parse env data sub c p) n.toNat pos ctx [] := by
  rw [Con.parse, hc]; rfl

theorem parse_array_ctx {env : Env} {data : Bytes} {k : String} {sub : Con} {ctx : Fields} {pos n : Nat}
    (hk : Fields.get? ctx k = some (.int (n : Int))) :
    Con.parse env data (.array (.ctx k) sub) ctx pos
      = arrayLoop (fun p c => Con.parse env data sub c p) n pos ctx [] := by
  rw [parse_array (n := n) (by rw [Expr.eval, Fields.getR_of_get? hk]), Int.toNat_natCast]

theorem parse_switch {env : Env} {data : Bytes} {key : Expr} {cases : ConCases} {dflt : Con} {ctx : Fields}
    {pos : Nat} {k : Val} (hk : key.eval ctx .none = .ok k) :
    Con.parse env data (.switch key cases dflt) ctx pos
      = Con.parse env data (lookupCase k cases dflt) ctx pos := by
  rw [Con.parse, hk]
  simp only [bind, Except.bind, parseCase_eq, lookupCase]
  cases ConCases.find k cases <;> rfl

theorem parse_bytesN_len {env : Env} {data : Bytes} {len : Expr} {ctx : Fields} {pos k : Nat}
    (hl : len.eval ctx .none >>= Val.asNat = .ok k) :
    Con.parse env data (.bytesN len) ctx pos = (readExact data pos k).map fun bs => (.bytes bs, pos + k, ctx) := by
  rw [Con.parse]
  cases he : len.eval ctx .none with
  | error e => rw [he] at hl; cases hl
  | ok v =>
    rw [he] at hl
    simp only [bind, Except.bind] at hl ⊢
    rw [hl]
    simp only
    cases readExact data pos k <;> rfl

theorem parse_padding_len {env : Env} {data : Bytes} {len : Expr} {strict : Bool} {ctx : Fields} {pos k : Nat}
    (hl : len.eval ctx .none >>= Val.asNat = .ok k) :
    Con.parse env data (.padding len strict) ctx pos
      = (readExact data pos k).bind fun bs =>
          if strict && !(bs.all (· == 0)) then .error .elfParseError else .ok (.bytes bs, pos + k, ctx) := by
  rw [Con.parse]
  cases he : len.eval ctx .none with
  | error e => rw [he] at hl; cases hl
  | ok v =>
    rw [he] at hl
    simp only [bind, Except.bind] at hl ⊢
    rw [hl]
    simp only
    cases readExact data pos k <;> rfl

end PyElf.Proofs.Engine
