/-
  C02, the accessors of Model/Contents.lean against Spec/Contents.lean.  A decoded header carries numeric fields
  (`IsShdr` / `IsPhdr` / `IsChdr`) and reports type codes by name or as integers; what the code tests of the names is
  a hypothesis (`NobitsNaming`, `ZlibNaming`, `PTypeNaming`; discharged from the decoding tables in
  Proofs/ContentsHyps.lean).  Under these every accessor has ONE normal form over all field values
  (`sectionNew_eq`, `sectionData_eq`, `segmentData_eq`, `getInterpName_eq`, `getString_eq`, `addressOffsetsOf_eq`,
  `sectionInSegment_eq`): the success and error theorems of Props/C02 are its branches.
-/
import PyElf.Proofs.Primitives
import PyElf.Spec.Symbols
import PyElf.Spec.ContentsImage
import PyElf.Proofs.ElfCodec
import PyElf.Proofs.Utils
import PyElf.Spec.Contents
import PyElf.Model.Contents
namespace PyElf.Proofs.C02
open PyElf PyElf.Spec PyElf.Model PyElf.Proofs PyElf.Proofs.Engine
open PyElf.Spec.C02
open PyElf.Model.C02
open PyElf.Proofs.Engine (parseFields_named)

/-- `decT`: how `sh_type` codes are reported, a standard name or the raw integer -/
structure IsShdr (decT : Nat → Val) (sh : Val) (s : Sec) : Prop where
  ty : sh.getField "sh_type" = .ok (decT s.shType)
  flags : sh.getField "sh_flags" = .ok (.int s.flags)
  addr : sh.getField "sh_addr" = .ok (.int s.addr)
  offset : sh.getField "sh_offset" = .ok (.int s.offset)
  size : sh.getField "sh_size" = .ok (.int s.size)
  addralign : sh.getField "sh_addralign" = .ok (.int s.addralign)

structure IsPhdr (decP : Nat → Val) (ph : Val) (g : Seg) : Prop where
  ty : ph.getField "p_type" = .ok (decP g.ptype)
  offset : ph.getField "p_offset" = .ok (.int g.offset)
  vaddr : ph.getField "p_vaddr" = .ok (.int g.vaddr)
  filesz : ph.getField "p_filesz" = .ok (.int g.filesz)
  memsz : ph.getField "p_memsz" = .ok (.int g.memsz)

structure IsChdr (decC : Nat → Val) (v : Val) (c : Chdr) : Prop where
  ty : v.getField "ch_type" = .ok (decC c.chType)
  size : v.getField "ch_size" = .ok (.int c.chSize)
  align : v.getField "ch_addralign" = .ok (.int c.chAlign)

/-- `Enum(..., _default_=Pass)` -/
def NameOrInt (dec : Nat → Val) : Prop := ∀ n, dec n = .int n ∨ ∃ s, dec n = .str s

def NobitsNaming (decT : Nat → Val) : Prop := ∀ n, decT n = .str "SHT_NOBITS" ↔ n = SHT_NOBITS

structure ZlibNaming (decC : Nat → Val) : Prop where
  zlib : ∀ n, decC n = .str "ELFCOMPRESS_ZLIB" ↔ n = ELFCOMPRESS_ZLIB
  nameOrInt : NameOrInt decC

/-- the seven segment types `section_in_segment` names, and the PT_GNU_SFRAME / PT_GNU_MBIND range, which it tests
    as integers -/
structure PTypeNaming (decP : Nat → Val) : Prop where
  load : ∀ n, decP n = .str "PT_LOAD" ↔ n = PT_LOAD
  dynamic : ∀ n, decP n = .str "PT_DYNAMIC" ↔ n = PT_DYNAMIC
  phdr : ∀ n, decP n = .str "PT_PHDR" ↔ n = PT_PHDR
  tls : ∀ n, decP n = .str "PT_TLS" ↔ n = PT_TLS
  ehFrame : ∀ n, decP n = .str "PT_GNU_EH_FRAME" ↔ n = PT_GNU_EH_FRAME
  stack : ∀ n, decP n = .str "PT_GNU_STACK" ↔ n = PT_GNU_STACK
  relro : ∀ n, decP n = .str "PT_GNU_RELRO" ↔ n = PT_GNU_RELRO
  nameOrInt : NameOrInt decP
  unnamed : ∀ n, PT_GNU_SFRAME ≤ n → n ≤ PT_GNU_MBIND_HI → decP n = .int n

theorem isStr_iff (v : Val) (s : String) : isStr v s = true ↔ v = .str s := by
  cases v <;> simp [isStr]

theorem isStr_eq_beq {dec : Nat → Val} {name : String} {code : Nat}
    (h : ∀ n, dec n = .str name ↔ n = code) (n : Nat) : isStr (dec n) name = (n == code) := by
  by_cases hn : n = code
  · simp [hn, (isStr_iff _ _).2 ((h code).2 rfl)]
  · have : ¬ (isStr (dec n) name = true) := fun e => hn ((h n).1 ((isStr_iff _ _).1 e))
    simp [hn, this]

theorem land_nat (a b : Nat) : PyInt.land (a : Int) (b : Int) = ((a &&& b : Nat) : Int) := Engine.land_nat a b

def decCOf (env : Env) : Nat → Val := nameOr env.enumDecode "ENUM_ELFCOMPRESS_TYPE"

theorem firstNul_split : ∀ (l s : Bytes), firstNul l = some s →
    (∀ b ∈ s, b ≠ 0) ∧ ∃ rest, l = s ++ [0] ++ rest
  | [], s, h => by simp [firstNul] at h
  | b :: l, s, h => by
    by_cases hb : b = 0
    · simp [firstNul, hb] at h
      subst h; subst hb
      exact ⟨by simp, l, by simp⟩
    · simp only [firstNul, hb, if_false, Option.map_eq_some_iff] at h
      obtain ⟨s', hs', rfl⟩ := h
      obtain ⟨h1, rest, h2⟩ := firstNul_split l s' hs'
      refine ⟨?_, rest, by simp [h2]⟩
      intro x hx
      rcases List.mem_cons.1 hx with rfl | hx
      · exact hb
      · exact h1 x hx

theorem firstNul_take (l : Bytes) (n : Nat) (s : Bytes) (h : firstNul (l.take n) = some s) : firstNul l = some s := by
  rw [← List.take_append_drop n l]
  exact Engine.firstNul_append_of_some _ h

theorem firstNul_none : ∀ (l : Bytes), firstNul l = none → ∀ b ∈ l, b ≠ 0
  | [], _, b, hb => by simp at hb
  | a :: l, h, b, hb => by
    by_cases ha : a = 0
    · simp [firstNul, ha] at h
    · simp only [firstNul, ha, if_false, Option.map_eq_none_iff] at h
      rcases List.mem_cons.1 hb with rfl | hb
      · exact ha
      · exact firstNul_none l h b hb

theorem getString_eq (file : Bytes) {st : Val} {toff : Nat} (off : Nat)
    (h : st.getField "sh_offset" = .ok (.int toff)) :
    getString file st off =
      if 2 ^ 63 ≤ toff + off then .error .overflowError else .ok ((firstNul (file.drop (toff + off))).getD []) :=
  getString_at file off (Val.getNat_of_getField h)

theorem stringAt_extent (file : Bytes) (toff size off : Nat) (str : Bytes)
    (h : stringAt (extent file toff size) off = some str) : firstNul (file.drop (toff + off)) = some str := by
  unfold stringAt extent at h
  rw [List.drop_take, List.drop_drop] at h
  exact firstNul_take _ _ _ h

theorem guard_bind {α : Type} (c : Prop) [Decidable c] (e : Err) (k : Unit → R α) :
    Except.bind (if c then (.error e : R Unit) else .ok ()) k = if c then .error e else k () := by
  split <;> rfl

/-- what `Section.__init__` makes of a section not flagged compressed -/
def plainObj (sh : Val) (s : Sec) : SectionObj :=
  { header := sh, compressed := 0, ctype := none, dsize := .int s.size, dalign := .int s.addralign }

/-- ... and for one flagged compressed whose compression header decodes to `ch` -/
def zObj (decC : Nat → Val) (sh : Val) (s : Sec) (ch : Chdr) : SectionObj :=
  { header := sh, compressed := ((s.flags &&& 0x800 : Nat) : Int), ctype := some (decC ch.chType),
    dsize := .int ch.chSize, dalign := .int ch.chAlign }

theorem compressed_iff (s : Sec) : s.compressed = true ↔ ((s.flags &&& 0x800 : Nat) : Int) ≠ 0 := by
  simp [Sec.compressed, shFlags]

theorem sectionNew_eq (env : Env) (S : ElfStructs) (file : Bytes) {decT : Nat → Val} {sh : Val} {s : Sec}
    (hsh : IsShdr decT sh s) :
    sectionNew env S shFlags file sh =
      if s.compressed = true then
        (structParseAt env S.Elf_Chdr file s.offset).bind fun p =>
          (p.1.getField "ch_type").bind fun t => (p.1.getField "ch_size").bind fun z =>
            (p.1.getField "ch_addralign").bind fun a =>
              .ok { header := sh, compressed := ((s.flags &&& 0x800 : Nat) : Int), ctype := some t, dsize := z, dalign := a }
      else .ok (plainObj sh s) := by
  unfold sectionNew
  simp only [Val.getInt_of_getField hsh.flags, bind, Except.bind, land_nat, shFlags, bne_iff_ne, compressed_iff,
    Val.getNat_of_getField hsh.offset, hsh.size, hsh.addralign, pure, Except.pure, plainObj]
  split
  · rfl
  · rename_i h; rw [Decidable.not_not.1 h]

theorem sectionNew_plain (env : Env) (S : ElfStructs) (file : Bytes) {decT : Nat → Val} {sh : Val} {s : Sec}
    (hsh : IsShdr decT sh s) (hc : s.compressed = false) :
    sectionNew env S shFlags file sh = .ok (plainObj sh s) := by
  rw [sectionNew_eq env S file hsh, hc]; rfl

theorem sectionNew_compressed (env : Env) (S : ElfStructs) (file : Bytes) {decT decC : Nat → Val} {sh chv : Val}
    {s : Sec} {ch : Chdr} {p : Nat} (hsh : IsShdr decT sh s) (hc : s.compressed = true)
    (hparse : structParseAt env S.Elf_Chdr file s.offset = .ok (chv, p)) (hch : IsChdr decC chv ch) :
    sectionNew env S shFlags file sh = .ok (zObj decC sh s ch) := by
  rw [sectionNew_eq env S file hsh, if_pos hc, hparse]
  simp only [Except.bind, hch.ty, hch.size, hch.align, zObj]

/-- the error for a compression type other than ELFCOMPRESS_ZLIB: `'{:#0x}'.format(c_type)` on a NAMED
    type (a str) is a ValueError, before ELFCompressionError can be raised -/
def unknownTypeErr : Val → Err
  | .str _ => .valueError
  | _ => .elfCompressionError

/-- `decompress(z, want + 1)` and the size check of `Section.data()` -/
def zlibStep (zlib : Bytes → Nat → R Bytes) (z : Bytes) (want : Nat) : R Bytes :=
  if 2 ^ 63 ≤ want + 1 then .error .overflowError
  else (zlib z (want + 1)).bind fun r => if r.length = want then .ok r else .error .elfCompressionError

/-- on whatever `Section.__init__` may have stored; OverflowError is where `seek` / `read` / `bytes * n` / `decompress`
    would need more than a `Py_ssize_t` -/
theorem sectionData_eq (zlib : Bytes → Nat → R Bytes) (S : ElfStructs) (file : Bytes) {decT : Nat → Val}
    (hT : NobitsNaming decT) {sh : Val} {s : Sec} (hsh : IsShdr decT sh s) (comp : Int) (ct : Option Val) (n : Nat)
    (al : Val) :
    sectionData zlib S file ⟨sh, comp, ct, .int n, al⟩ =
      if s.nobits = true then (if 2 ^ 63 ≤ n then .error .overflowError else .ok (List.replicate n 0))
      else if comp = 0 then
        (if 2 ^ 63 ≤ s.offset then .error .overflowError else if 2 ^ 63 ≤ n then .error .overflowError
         else .ok (extent file s.offset n))
      else match ct with
        | none => .error .attributeError
        | some c =>
          if isStr c "ELFCOMPRESS_ZLIB" = true then
            (sizeofR S.Elf_Chdr).bind fun h =>
              if 2 ^ 63 ≤ s.offset + h then .error .overflowError
              else (readInt file (s.offset + h) ((s.size : Int) - (h : Nat))).bind fun z => zlibStep zlib z n
          else .error (unknownTypeErr c) := by
  unfold sectionData
  simp only [bind, seekCheck, readCheck, ge_iff_le, guard_bind]
  simp only [hsh.ty, isStr_eq_beq hT, Except.bind, asNat_nat, Val.getNat_of_getField hsh.offset,
    Val.getInt_of_getField hsh.size, Sec.nobits, zlibStep, throw, throwThe, MonadExceptOf.throw, pure,
    Except.pure, bne_iff_ne, ne_eq, ite_not]
  rcases ct with _ | c
  · rfl
  · cases c <;> rfl

theorem sectionData_plain (zlib : Bytes → Nat → R Bytes) (S : ElfStructs) (file : Bytes) {decT : Nat → Val}
    (hT : NobitsNaming decT) {sh : Val} {s : Sec} (hsh : IsShdr decT sh s) :
    sectionData zlib S file (plainObj sh s) =
      if s.nobits = true then
        (if 2 ^ 63 ≤ s.size then .error .overflowError else .ok (List.replicate s.size 0))
      else if 2 ^ 63 ≤ s.offset then .error .overflowError
      else if 2 ^ 63 ≤ s.size then .error .overflowError
      else .ok (extent file s.offset s.size) := by
  rw [plainObj, sectionData_eq zlib S file hT hsh, if_pos rfl]

theorem sectionData_z (zlib : Bytes → Nat → R Bytes) (S : ElfStructs) (file : Bytes) {decT decC : Nat → Val}
    (hT : NobitsNaming decT) (hC : ZlibNaming decC) {sh : Val} {s : Sec} (ch : Chdr) (hsh : IsShdr decT sh s)
    (hc : s.compressed = true) :
    sectionData zlib S file (zObj decC sh s ch) =
      if s.nobits = true then (if 2 ^ 63 ≤ ch.chSize then .error .overflowError else .ok (List.replicate ch.chSize 0))
      else if ch.chType = ELFCOMPRESS_ZLIB then
        (sizeofR S.Elf_Chdr).bind fun h =>
          if 2 ^ 63 ≤ s.offset + h then .error .overflowError
          else (readInt file (s.offset + h) ((s.size : Int) - (h : Nat))).bind fun z => zlibStep zlib z ch.chSize
      else .error (unknownTypeErr (decC ch.chType)) := by
  rw [zObj, sectionData_eq zlib S file hT hsh, if_neg ((compressed_iff s).1 hc)]
  simp only [isStr_eq_beq hC.zlib, beq_iff_eq]

theorem readInt_payload (cls : Nat) (file : Bytes) {s : Sec} (hfull : chdrSize cls ≤ s.size) (hs : s.size < 2 ^ 63) :
    readInt file (s.offset + chdrSize cls) ((s.size : Int) - (chdrSize cls : Nat)) = .ok (payload cls file s) := by
  have q1 : ¬ ((s.size : Int) - ((chdrSize cls : Nat) : Int) < 0) := by omega
  have q2 : ((s.size : Int) - ((chdrSize cls : Nat) : Int)).toNat = s.size - chdrSize cls := by omega
  have q3 : ¬ (s.size - chdrSize cls ≥ 2 ^ 63) := by omega
  unfold readInt
  simp only [if_neg q1, q2, readCheck, bind, Except.bind, pure, Except.pure, if_neg q3]
  rfl

/-- what `data()` answers on a compressed section whose stream `z` is within reach of `seek` / `read` -/
def zOutcome (zlib : Bytes → Nat → R Bytes) (decC : Nat → Val) (ch : Chdr) (z : Bytes) : R Bytes :=
  if ch.chType = ELFCOMPRESS_ZLIB then zlibStep zlib z ch.chSize else .error (unknownTypeErr (decC ch.chType))

theorem sectionData_zobj (zlib : Bytes → Nat → R Bytes) (S : ElfStructs) (cls : Nat) (file : Bytes)
    {decT decC : Nat → Val} (hT : NobitsNaming decT) (hC : ZlibNaming decC) {sh : Val} {s : Sec} (ch : Chdr)
    (hsh : IsShdr decT sh s) (hnb : s.nobits = false) (hc : s.compressed = true)
    (hsz : S.Elf_Chdr.sizeof = some (chdrSize cls))
    (ho : s.offset + chdrSize cls < 2 ^ 63) (hfull : chdrSize cls ≤ s.size) (hs : s.size < 2 ^ 63) :
    sectionData zlib S file (zObj decC sh s ch) = zOutcome zlib decC ch (payload cls file s) := by
  rw [sectionData_z zlib S file hT hC ch hsh hc, hnb, if_neg (by decide), zOutcome, sizeofR, hsz]
  simp only [Except.bind, if_neg (Nat.not_le.2 ho), readInt_payload cls file hfull hs]

theorem zlibStep_inflated {zlib : Bytes → Nat → R Bytes} {z P : Bytes} {want : Nat} (hw : want + 1 < 2 ^ 63)
    (hz : zlib z (want + 1) = .ok (P.take (want + 1))) :
    zlibStep zlib z want = if P.length = want then .ok P else .error .elfCompressionError := by
  rw [zlibStep, if_neg (Nat.not_le.2 hw), hz]
  simp only [Except.bind, List.length_take]
  by_cases hl : P.length = want
  · rw [if_pos hl, if_pos (by omega), List.take_of_length_le (by omega)]
  · rw [if_neg hl, if_neg (by omega)]

/-- `hz`: zlib's `decompress(z, n)` returns the first `n` bytes of the inflated stream `P` -/
theorem zOutcome_inflated {zlib : Bytes → Nat → R Bytes} {decC : Nat → Val} (hC : ZlibNaming decC) {ch : Chdr} {z P : Bytes}
    (inflate : Bytes → Option Bytes) (hw : ch.chSize + 1 < 2 ^ 63) (hP : inflate z = some P)
    (hz : ∀ n, 0 < n → zlib z n = .ok (P.take n)) :
    (zOutcome zlib decC ch z).toOption = inflatedOf inflate ch z ∧
    (ch.chType = ELFCOMPRESS_ZLIB → P.length = ch.chSize → zOutcome zlib decC ch z = .ok P) ∧
    (ch.chType = ELFCOMPRESS_ZLIB → P.length ≠ ch.chSize → zOutcome zlib decC ch z = .error .elfCompressionError) ∧
    (ch.chType ≠ ELFCOMPRESS_ZLIB →
      zOutcome zlib decC ch z = .error .elfCompressionError ∨ zOutcome zlib decC ch z = .error .valueError) := by
  have hzl : ch.chType = ELFCOMPRESS_ZLIB →
      zOutcome zlib decC ch z = if P.length = ch.chSize then .ok P else .error .elfCompressionError :=
    fun hty => by rw [zOutcome, if_pos hty, zlibStep_inflated hw (hz _ (by omega))]
  refine ⟨?_, fun hty hl => by rw [hzl hty, if_pos hl], fun hty hl => by rw [hzl hty, if_neg hl], fun hty => ?_⟩
  · by_cases hty : ch.chType = ELFCOMPRESS_ZLIB
    · rw [hzl hty]
      simp only [inflatedOf, hty, hP, if_true]
      by_cases hl : P.length = ch.chSize <;> simp [hl, Except.toOption]
    · simp [zOutcome, inflatedOf, hty, Except.toOption]
  · rw [zOutcome, if_neg hty]
    rcases hC.nameOrInt ch.chType with h | ⟨n, h⟩ <;> rw [h]
    · exact Or.inl rfl
    · exact Or.inr rfl

theorem zOutcome_rejected {zlib : Bytes → Nat → R Bytes} {decC : Nat → Val} {ch : Chdr} {z : Bytes}
    (hty : ch.chType = ELFCOMPRESS_ZLIB) :
    (∀ e, ch.chSize + 1 < 2 ^ 63 → zlib z (ch.chSize + 1) = .error e → zOutcome zlib decC ch z = .error e) ∧
    (2 ^ 63 ≤ ch.chSize + 1 → zOutcome zlib decC ch z = .error .overflowError) := by
  rw [zOutcome, if_pos hty, zlibStep]
  exact ⟨fun e hw hz => by rw [if_neg (Nat.not_le_of_lt hw), hz]; rfl, fun hw => if_pos hw⟩

/-- for a section flagged compressed and not SHT_NOBITS the Spec's `dataOf` is `inflatedOf` of its payload -/
theorem dataOf_z (inflate : Bytes → Option Bytes) (cls : Nat) (file : Bytes) {s : Sec} (ch : Chdr) (hnb : s.nobits = false)
    (hc : s.compressed = true) : dataOf inflate cls file s (some ch) = inflatedOf inflate ch (payload cls file s) := by
  simp only [dataOf, inflatedOf, hnb, hc, Bool.false_eq_true, if_false, if_true]
  rfl

theorem Chdr.fits_facts {cls : Nat} {c : Chdr} (h : c.fits cls = true) :
    c.chType < 2 ^ 32 ∧ c.chSize < 2 ^ cls ∧ c.chAlign < 2 ^ cls := by
  simp only [Chdr.fits, Bool.and_eq_true, decide_eq_true_eq] at h
  exact ⟨h.1.1, h.1.2, h.2⟩

/-- `ElfCodec.chdr_parse` spells the layout and the size as if-expressions (it cannot see Spec/Contents.lean): this
    folds them back into `encChdr` / `chdrSize` / `IsChdr` -/
theorem chdr_roundtrip (env : Env) (cfg : ElfCfg) (hc : cfg.cls = 32 ∨ cfg.cls = 64) (c : Chdr)
    (hfit : c.fits cfg.cls = true) (data : Bytes) (pos : Nat) (rest : Bytes)
    (hd : data.drop pos = encChdr cfg.cls cfg.le c ++ rest) (hp : pos < 2 ^ 63) :
    ∃ v, structParseAt env (Spec.elfStructs cfg).Elf_Chdr data pos = .ok (v, pos + chdrSize cfg.cls) ∧
      IsChdr (decCOf env) v c ∧ (Spec.elfStructs cfg).Elf_Chdr.sizeof = some (chdrSize cfg.cls) := by
  obtain ⟨w1, w2, w3⟩ := Chdr.fits_facts hfit
  obtain ⟨v, h1, h2, h3, h4, h5⟩ := chdr_parse env cfg hc w1 w2 w3 hd
  exact ⟨v, by rw [structParseAt_eq hp]; exact h1, ⟨h2, h3, h4⟩, h5⟩

theorem segmentData_eq {decP : Nat → Val} (file : Bytes) {ph : Val} {g : Seg} (hph : IsPhdr decP ph g) :
    segmentData file ph =
      if 2 ^ 63 ≤ g.offset then .error .overflowError else if 2 ^ 63 ≤ g.filesz then .error .overflowError
      else .ok (segData file g) := by
  unfold segmentData
  simp only [bind, seekCheck, readCheck, ge_iff_le, guard_bind]
  simp only [Val.getNat_of_getField hph.offset, Val.getNat_of_getField hph.filesz, Except.bind, pure, Except.pure]
  rfl

theorem getInterpName_eq (env : Env) {decP : Nat → Val} (file : Bytes) {ph : Val} {g : Seg} (hph : IsPhdr decP ph g) :
    getInterpName env file ph =
      if 2 ^ 63 ≤ g.offset then .error .elfParseError
      else match interpName file g with
        | some path => .ok path
        | none => .error .elfParseError := by
  unfold getInterpName
  simp only [Val.getNat_of_getField hph.offset, bind, Except.bind]
  by_cases ho : 2 ^ 63 ≤ g.offset
  · rw [structParseAt_big ho, if_pos ho]
  · rw [structParseAt_eq (Nat.lt_of_not_le ho), if_neg ho]
    cases hs : interpName file g with
    | some path =>
      obtain ⟨h1, rest, h2⟩ := firstNul_split _ _ hs
      rw [structParse_of_parse (parse_cstring_ok (env := env) (ctx := []) h1 h2)]
      rfl
    | none =>
      simp only [structParse, Con.parse, parseCString_unterminated (data := file) (pos := g.offset) (firstNul_none _ hs) rfl,
        bind, Except.bind]

inductive ArePhdrs (decP : Nat → Val) : List Val → List Seg → Prop
  | nil : ArePhdrs decP [] []
  | cons {ph g phs segs} : IsPhdr decP ph g → ArePhdrs decP phs segs → ArePhdrs decP (ph :: phs) (g :: segs)

theorem addressOffsetsOf_eq {decP : Nat → Val} (hP : PTypeNaming decP) (start size : Nat) :
    ∀ (phs : List Val) (segs : List Seg), ArePhdrs decP phs segs →
      addressOffsetsOf (start : Int) (size : Int) phs = .ok ((addrOffsets segs start size).map Int.ofNat) := by
  intro phs segs h
  induction h with
  | nil => rfl
  | @cons ph g phs segs hph _ ih =>
    have e1 := isStr_eq_beq hP.load g.ptype
    rw [addressOffsetsOf]
    simp only [hph.ty, bind, Except.bind, e1, Val.getInt_of_getField hph.vaddr, Val.getInt_of_getField hph.filesz,
      Val.getInt_of_getField hph.offset, pure, Except.pure, ih]
    simp only [addrOffsets, List.filter_cons]
    by_cases p : g.ptype = PT_LOAD
    · by_cases a : g.vaddr ≤ start
      · have a' : ((start : Int) ≥ (g.vaddr : Int)) := by omega
        by_cases b : start + size ≤ g.vaddr + g.filesz
        · have b' : ((start : Int) + (size : Int) ≤ (g.vaddr : Int) + (g.filesz : Int)) := by omega
          have c : ((start : Int) - (g.vaddr : Int) + (g.offset : Int)) = Int.ofNat (start - g.vaddr + g.offset) := by
            simp only [Int.ofNat_eq_natCast]; omega
          simp [p, a, a', b, b', c]
        · have b' : ¬ ((start : Int) + (size : Int) ≤ (g.vaddr : Int) + (g.filesz : Int)) := by omega
          simp [p, a, a', b, b']
      · have a' : ¬ ((start : Int) ≥ (g.vaddr : Int)) := by omega
        simp [p, a, a']
    · simp [p]

theorem bne_def' {α : Type} [BEq α] (a b : α) : (a != b) = !(a == b) := rfl

theorem cast_beq_zero (n : Nat) : (((n : Nat) : Int) == 0) = (n == 0) := by
  cases n <;> rfl

theorem withinPy_ok (x base sz l : Int) :
    withinPy x base (.ok sz) (.ok l) =
      .ok (decide (x ≥ base) && decide (x - base + sz ≤ l) && (l == 0 || decide (x - base ≤ l - 1))) := by
  unfold withinPy
  simp only [bind, Except.bind, pure, Except.pure]
  cases decide (x ≥ base) <;> cases decide (x - base + sz ≤ l) <;> cases (l == 0) <;> rfl

theorem within_cast (x size base len : Nat) :
    (decide ((x : Int) ≥ base) && decide ((x : Int) - base + size ≤ len) &&
      (((len : Int) == 0) || decide ((x : Int) - base ≤ (len : Int) - 1))) = within x size base len := by
  apply Bool.eq_iff_iff.2
  simp only [within, Bool.or_eq_true, Bool.and_eq_true, beq_iff_eq, decide_eq_true_eq]
  omega

theorem withinPy_eq (x size base len : Nat) :
    withinPy (x : Int) (base : Int) (.ok (size : Int)) (.ok (len : Int)) = .ok (within x size base len) := by
  rw [withinPy_ok, within_cast]

theorem isSframeOrMbind_int (n : Nat) :
    isSframeOrMbind (.int (n : Int)) =
      (n == PT_GNU_SFRAME || (decide (PT_GNU_MBIND_LO ≤ n) && decide (n ≤ PT_GNU_MBIND_HI))) := by
  apply Bool.eq_iff_iff.2
  simp only [isSframeOrMbind, PT_GNU_SFRAME, PT_GNU_MBIND_LO, PT_GNU_MBIND_HI, Bool.or_eq_true, Bool.and_eq_true,
    beq_iff_eq, decide_eq_true_eq]
  omega

theorem isSframeOrMbind_eq {decP : Nat → Val} (hP : PTypeNaming decP) (n : Nat) :
    isSframeOrMbind (decP n) =
      (n == PT_GNU_SFRAME || (decide (PT_GNU_MBIND_LO ≤ n) && decide (n ≤ PT_GNU_MBIND_HI))) := by
  rcases hP.nameOrInt n with h | ⟨s, h⟩
  · rw [h, isSframeOrMbind_int]
  · by_cases hr : PT_GNU_SFRAME ≤ n ∧ n ≤ PT_GNU_MBIND_HI
    · have := hP.unnamed n hr.1 hr.2
      rw [h] at this; cases this
    · rw [h]
      symm
      apply Bool.eq_false_iff.2
      simp only [PT_GNU_SFRAME, PT_GNU_MBIND_LO, PT_GNU_MBIND_HI, ne_eq, Bool.or_eq_true, Bool.and_eq_true,
        beq_iff_eq, decide_eq_true_eq] at hr ⊢
      omega

theorem ok_ite (c : Prop) [Decidable c] (a b : Bool) :
    (if c then (Except.ok a : R Bool) else .ok b) = .ok (if c then a else b) := by split <;> rfl

theorem sectionInSegment_eq {decP decT : Nat → Val} (hP : PTypeNaming decP) (hT : NobitsNaming decT)
    {ph sh : Val} {g : Seg} {s : Sec} (hph : IsPhdr decP ph g) (hsh : IsShdr decT sh s) :
    sectionInSegment shFlags ph sh = .ok (inSegmentStrict g s) := by
  have e1 := isStr_eq_beq hP.load g.ptype
  have e2 := isStr_eq_beq hP.dynamic g.ptype
  have e3 := isStr_eq_beq hP.phdr g.ptype
  have e4 := isStr_eq_beq hP.tls g.ptype
  have e5 := isStr_eq_beq hP.ehFrame g.ptype
  have e6 := isStr_eq_beq hP.stack g.ptype
  have e7 := isStr_eq_beq hP.relro g.ptype
  have e8 := isStr_eq_beq hT s.shType
  have e9 := isSframeOrMbind_eq hP g.ptype
  unfold sectionInSegment
  simp only [hph.ty, hsh.ty, Val.getInt_of_getField hsh.flags, Val.getInt_of_getField hsh.addr, Val.getInt_of_getField hph.vaddr,
    Val.getInt_of_getField hsh.size, Val.getInt_of_getField hph.memsz, Val.getInt_of_getField hsh.offset, Val.getInt_of_getField hph.offset,
    Val.getInt_of_getField hph.filesz, bind, Except.bind, land_nat, withinPy_eq, isAnyStr, List.any_cons, List.any_nil,
    e1, e2, e3, e4, e5, e6, e7, e8, e9, Bool.or_false, shFlags, pure, Except.pure]
  simp only [inSegmentStrict, typeOk, allocOk, fileOk, vmaOk, loadLike, Sec.tls, Sec.alloc, Sec.nobits, shFlags,
    bne_def', cast_beq_zero, Bool.or_assoc]
  generalize (s.flags &&& 1024 == 0) = tz
  generalize (s.flags &&& 2 == 0) = az
  generalize ((g.ptype == PT_TLS) || ((g.ptype == PT_GNU_RELRO) || (g.ptype == PT_LOAD))) = t1
  generalize ((g.ptype == PT_LOAD) || ((g.ptype == PT_DYNAMIC) || ((g.ptype == PT_GNU_EH_FRAME) ||
    ((g.ptype == PT_GNU_RELRO) || ((g.ptype == PT_GNU_STACK) || ((g.ptype == PT_GNU_SFRAME) ||
      decide (PT_GNU_MBIND_LO ≤ g.ptype) && decide (g.ptype ≤ PT_GNU_MBIND_HI))))))) = ll
  generalize (g.ptype == PT_TLS) = pt
  generalize (g.ptype == PT_PHDR) = pp
  generalize (s.shType == SHT_NOBITS) = nb
  generalize within s.addr s.size g.vaddr g.memsz = w1
  generalize within s.offset s.size g.offset g.filesz = w2
  -- every branch answers, so the control flow is one Boolean expression; what is left is a tautology in nine atoms
  simp only [ok_ite]
  congr 1
  revert tz az t1 ll pt pp nb w1 w2
  decide

end PyElf.Proofs.C02
