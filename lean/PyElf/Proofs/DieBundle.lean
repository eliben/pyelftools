/-
  Agreement of two struct bundles on the fields the DIE code reads.  The entry / value / unit layers ask of a unit's
  bundle `U.S` this agreement with `Spec.dwarfStructs c` (`UnitOK.structs`), not equality: Props/TieC04 `gen_bundles`
  proves exactly this of every REGENERATED bundle, so the section theorems hold of the model as the driver runs it
  (`Model.dwarfStructsFor`), and an unrelated struct of the bundle (line program header, CIE, …) may change without
  touching them.
-/
import PyElf.Core.Bundles
namespace PyElf.Proofs.C04
open PyElf

structure BundleEq (S S' : DwarfStructs) : Prop where
  forms : S.forms = S'.forms
  decl : S.Dwarf_abbrev_declaration = S'.Dwarf_abbrev_declaration
  cu : S.Dwarf_CU_header = S'.Dwarf_CU_header
  tu : S.Dwarf_TU_header = S'.Dwarf_TU_header
  uleb : S.the_Dwarf_uleb128 = S'.the_Dwarf_uleb128
  offset : S.the_Dwarf_offset = S'.the_Dwarf_offset
  addr : S.the_Dwarf_target_addr = S'.the_Dwarf_target_addr
  u32 : S.the_Dwarf_uint32 = S'.the_Dwarf_uint32

theorem BundleEq.refl (S : DwarfStructs) : BundleEq S S := ⟨rfl, rfl, rfl, rfl, rfl, rfl, rfl, rfl⟩

theorem BundleEq.form {S S' : DwarfStructs} (h : BundleEq S S') (f : String) : S.form f = S'.form f := by
  unfold DwarfStructs.form; rw [h.forms]

theorem BundleEq.formFn {S S' : DwarfStructs} (h : BundleEq S S') : S.form = S'.form := funext h.form

end PyElf.Proofs.C04
