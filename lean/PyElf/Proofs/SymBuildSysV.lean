/-
  The System V hash table BUILDER (`Spec.buildSysV`, the linker's push-front construction) produces, for every list of
  names, a table satisfying `WFSysV`; moreover the chain of every bucket is exactly the symbols of that bucket in
  descending index order.
-/
import PyElf.Proofs.SysVLookup
import PyElf.Proofs.ListFacts
namespace PyElf.Proofs.C03
open PyElf PyElf.Spec PyElf.Model PyElf.Proofs

def sbk (names : List Bytes) (nb i : Nat) : Nat := (elfHash32 (names.getD i [])).toNat % nb

def sysvStep (names : List Bytes) (nb : Nat) (st : List Nat × List Nat) (i : Nat) : List Nat × List Nat :=
  match names[i]? with
  | none => st
  | some nm => (st.1.set ((elfHash32 nm).toNat % nb) i, st.2.set i (st.1.getD ((elfHash32 nm).toNat % nb) 0))

def sysvFold (names : List Bytes) (nb : Nat) : List Nat × List Nat :=
  (List.range' 1 (names.length - 1)).foldl (sysvStep names nb) (List.replicate nb 0, List.replicate names.length 0)

theorem buildSysV_eq (names : List Bytes) (nb : Nat) :
    buildSysV names nb = ⟨nb, names.length, (sysvFold names nb).1, (sysvFold names nb).2⟩ := by
  have hr : (List.range names.length).drop 1 = List.range' 1 (names.length - 1) := by
    rw [List.range_eq_range', List.drop_range']
  unfold buildSysV sysvFold
  simp only [hr]
  rfl

/-- every link points strictly downwards: chains end -/
def Dec (C : List Nat) : Prop := ∀ j v, j ≠ 0 → C[j]? = some v → v < j

theorem chainFrom_set_stable {C : List Nat} (hd : Dec C) (k v : Nat) :
    ∀ fuel s, s < k → chainFrom (C.set k v) fuel s = chainFrom C fuel s := by
  intro fuel
  induction fuel with
  | zero => intro s _; rfl
  | succ f ih =>
    intro s hs
    simp only [chainFrom]
    by_cases h0 : s = 0
    · simp [h0]
    · simp only [h0, if_false]
      have hne : k ≠ s := by omega
      rw [List.getElem?_set_ne hne]
      cases hc : C[s]? with
      | none => rfl
      | some nx =>
        have := hd s nx h0 hc
        simp only
        rw [ih nx (by omega)]

theorem chainFrom_fuel {C : List Nat} (hd : Dec C) :
    ∀ f1 f2 s, s + 1 ≤ f1 → s + 1 ≤ f2 → chainFrom C f1 s = chainFrom C f2 s := by
  intro f1
  induction f1 with
  | zero => intro f2 s h; omega
  | succ f ih =>
    intro f2 s h1 h2
    obtain ⟨g, rfl⟩ : ∃ g, f2 = g + 1 := ⟨f2 - 1, by omega⟩
    simp only [chainFrom]
    by_cases h0 : s = 0
    · simp [h0]
    · simp only [h0, if_false]
      cases hc : C[s]? with
      | none => rfl
      | some nx =>
        have := hd s nx h0 hc
        simp only
        rw [ih g nx (by omega) (by omega)]

/-- the symbols `1 ≤ i < k` of bucket `b`, descending -/
def bucketList (names : List Bytes) (nb k b : Nat) : List Nat :=
  ((List.range' 1 (k - 1)).filter fun i => sbk names nb i == b).reverse

theorem bucketList_succ (names : List Bytes) (nb k b : Nat) (hk : 1 ≤ k) :
    bucketList names nb (k + 1) b
      = if sbk names nb k = b then k :: bucketList names nb k b else bucketList names nb k b := by
  have h1 : k + 1 - 1 = (k - 1) + 1 := by omega
  have h2 : 1 + 1 * (k - 1) = k := by omega
  unfold bucketList
  rw [h1, List.range'_concat, h2, List.filter_append, List.reverse_append]
  by_cases hb : sbk names nb k = b
  · simp [hb]
  · simp [hb]

theorem mem_bucketList (names : List Bytes) (nb k b i : Nat) :
    i ∈ bucketList names nb k b ↔ 1 ≤ i ∧ i < k ∧ sbk names nb i = b := by
  simp only [bucketList, List.mem_reverse, List.mem_filter, List.mem_range'_1, beq_iff_eq]
  omega

/-- the builder's state once symbols `1 … k-1` are placed: both arrays have their final lengths and hold only
    indices below `k`, every chain link goes down, and the chain of bucket `b` is `bucketList names nb k b` -/
structure SInv (names : List Bytes) (nb k : Nat) (st : List Nat × List Nat) : Prop where
  blen : st.1.length = nb
  clen : st.2.length = names.length
  blt : ∀ v ∈ st.1, v < k
  clt : ∀ v ∈ st.2, v < k
  dec : Dec st.2
  chain : ∀ b, b < nb → chainFrom st.2 (names.length + 1) (st.1.getD b 0) = some (bucketList names nb k b)

theorem sinv_init (names : List Bytes) (nb : Nat) :
    SInv names nb 1 (List.replicate nb 0, List.replicate names.length 0) where
  blen := by simp
  clen := by simp
  blt := by intro v hv; have := (List.mem_replicate.mp hv).2; omega
  clt := by intro v hv; have := (List.mem_replicate.mp hv).2; omega
  dec := by
    intro j v hj hv
    rw [List.getElem?_replicate] at hv
    split at hv
    · have := Option.some.inj hv; omega
    · exact absurd hv (by simp)
  chain := by
    intro b hb
    have : (List.replicate nb 0).getD b 0 = 0 := by
      simp [List.getD_eq_getElem?_getD, hb]
    simp only [this]
    simp [chainFrom, bucketList]

theorem getD_mem {l : List Nat} {b : Nat} (hb : b < l.length) : l.getD b 0 ∈ l := by
  rw [Engine.getD_of_lt l b 0 hb]; exact List.getElem_mem hb

theorem sinv_step (names : List Bytes) (nb k : Nat) (st : List Nat × List Nat) (hk1 : 1 ≤ k) (hkn : k < names.length)
    (hnb : 1 ≤ nb) (I : SInv names nb k st) : SInv names nb (k + 1) (sysvStep names nb st k) := by
  -- the step sets bucket `b = sbk k` to `k` and `chains[k]` to the old bucket value: lengths, bounds and `Dec` are
  -- immediate; for the chains, bucket `b` gains `k` in front of its old chain, and a chain that starts below `k` never
  -- reads `chains[k]` (`chainFrom_set_stable`)
  have hget : names[k]? = some names[k] := List.getElem?_eq_getElem hkn
  have hD : names.getD k [] = names[k] := Engine.getD_of_lt names k [] hkn
  obtain ⟨B, C⟩ := st
  have hstep : sysvStep names nb (B, C) k
      = (B.set (sbk names nb k) k, C.set k (B.getD (sbk names nb k) 0)) := by
    simp only [sysvStep, hget, sbk, hD]
  rw [hstep]
  have hbl : sbk names nb k < B.length := by rw [I.blen]; exact Nat.mod_lt _ hnb
  have hold : B.getD (sbk names nb k) 0 < k := I.blt _ (getD_mem hbl)
  have hkC : k < C.length := by rw [I.clen]; exact hkn
  have hdec' : Dec (C.set k (B.getD (sbk names nb k) 0)) := by
    intro j v hj hv
    rw [List.getElem?_set] at hv
    by_cases hjk : k = j
    · subst hjk
      simp only [if_true, hkC] at hv
      have := Option.some.inj hv; omega
    · simp only [hjk, if_false] at hv
      exact I.dec j v hj hv
  refine ⟨by simpa using I.blen, by simpa using I.clen, ?_, ?_, hdec', ?_⟩
  · intro v hv
    rcases List.mem_or_eq_of_mem_set hv with h | h
    · have := I.blt v h; omega
    · omega
  · intro v hv
    rcases List.mem_or_eq_of_mem_set hv with h | h
    · have := I.clt v h; omega
    · omega
  · intro b hb
    rw [bucketList_succ names nb k b hk1]
    by_cases hbb : sbk names nb k = b
    · subst hbb
      have h1 : (B.set (sbk names nb k) k).getD (sbk names nb k) 0 = k := by
        rw [List.getD_eq_getElem?_getD, List.getElem?_set_self hbl]; rfl
      have hk0 : k ≠ 0 := by omega
      simp only [h1, if_true]
      rw [chainFrom]
      simp only [hk0, if_false, List.getElem?_set_self hkC]
      rw [chainFrom_set_stable I.dec k _ _ _ hold,
        chainFrom_fuel I.dec names.length (names.length + 1) _ (by omega) (by omega), I.chain _ hb]
      rfl
    · have h1 : (B.set (sbk names nb k) k).getD b 0 = B.getD b 0 := by
        rw [List.getD_eq_getElem?_getD, List.getElem?_set_ne hbb, ← List.getD_eq_getElem?_getD]
      have hbl' : b < B.length := by rw [I.blen]; exact hb
      have hlt : B.getD b 0 < k := I.blt _ (getD_mem hbl')
      simp only [h1, hbb, if_false]
      rw [chainFrom_set_stable I.dec k _ _ _ hlt]
      exact I.chain b hb

theorem foldl_range'_inv {σ : Type} (Inv : Nat → σ → Prop) (step : σ → Nat → σ) :
    ∀ (c s : Nat) (st : σ), Inv s st → (∀ j st, s ≤ j → j < s + c → Inv j st → Inv (j + 1) (step st j)) →
      Inv (s + c) ((List.range' s c).foldl step st) := by
  intro c
  induction c with
  | zero => intro s st h _; simpa using h
  | succ c ih =>
    intro s st h hs
    rw [List.range'_succ, List.foldl_cons]
    have := ih (s + 1) (step st s) (hs s st (Nat.le_refl _) (by omega) h)
      (fun j st' h1 h2 hI => hs j st' (by omega) (by omega) hI)
    rwa [show s + 1 + c = s + (c + 1) by omega] at this

theorem sinv_final (names : List Bytes) (nb : Nat) (hn : 1 ≤ names.length) (hnb : 1 ≤ nb) :
    SInv names nb names.length (sysvFold names nb) := by
  have := foldl_range'_inv (SInv names nb) (sysvStep names nb) (names.length - 1) 1 _ (sinv_init names nb)
    (fun j st h1 h2 hI => sinv_step names nb j st h1 (by omega) hnb hI)
  rwa [show 1 + (names.length - 1) = names.length by omega] at this

theorem buildSysV_bucketChain (names : List Bytes) (nb : Nat) (hn : 1 ≤ names.length) (hnb : 1 ≤ nb) (name : Bytes) :
    sysvBucketChain (buildSysV names nb) name
      = some (bucketList names nb names.length ((elfHash32 name).toNat % nb)) := by
  have I := sinv_final names nb hn hnb
  have hb : (elfHash32 name).toNat % nb < nb := Nat.mod_lt _ hnb
  have hbl : (elfHash32 name).toNat % nb < (sysvFold names nb).1.length := by rw [I.blen]; exact hb
  rw [buildSysV_eq]
  simp only [sysvBucketChain, List.getElem?_eq_getElem hbl]
  have := I.chain _ hb
  rwa [Engine.getD_of_lt _ _ 0 hbl] at this

/-- any size ≥ 1 (entry 0 is the null symbol), duplicates and empty names included -/
theorem buildSysV_wf (names : List Bytes) (nb : Nat) (hn : 1 ≤ names.length) (hn32 : names.length < 2 ^ 32)
    (hnb : 1 ≤ nb) (hnb32 : nb < 2 ^ 32) : WFSysV names (buildSysV names nb) = true := by
  have I := sinv_final names nb hn hnb
  have hchain := buildSysV_bucketChain names nb hn hnb
  rw [buildSysV_eq] at hchain ⊢
  refine WFSysV_iff.mpr ⟨{ nb := hnb, blen := I.blen, clen := I.clen, n := rfl, ends := ?_, hashed := ?_ },
    { nc32 := hn32, nb32 := hnb32, blt := I.blt, clt := I.clt }⟩
  · intro v hv
    obtain ⟨b, hb, rfl⟩ := List.mem_iff_getElem.mp hv
    have hb' : b < nb := by rw [← I.blen]; exact hb
    have := I.chain b hb'
    rw [Engine.getD_of_lt _ b 0 hb] at this
    simp [this]
  · intro i hi1 hin
    exact ⟨_, hchain _, (mem_bucketList names nb names.length _ i).mpr ⟨hi1, hin, rfl⟩⟩

end PyElf.Proofs.C03
