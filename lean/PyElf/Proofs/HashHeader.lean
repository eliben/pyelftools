/-
  The two hash-table structs of hash.py (`Elf_Hash`, `Gnu_Hash`): four-byte header words, then arrays counted by them.
  Stated over the word lists that are stored, whoever describes them: the SysV / GNU tables of the symbol look-ups and the
  tables of the dynamic segment are instances.  A word is read back modulo its size (`wordsVal`), so nothing is asked of
  the words; a described table whose words fit reads back as written (`wordsVal_of_lt`).
-/
import PyElf.Proofs.Reads
import PyElf.Spec.ElfStructs
namespace PyElf.Proofs.HashHeader
open PyElf PyElf.Spec PyElf.Proofs PyElf.Proofs.Engine

def wordsVal (n : Nat) (ws : List Nat) : Val := .list (ws.map fun x => .int ((x % 256 ^ n : Nat) : Int))

theorem wordsVal_of_lt {n : Nat} {ws : List Nat} (h : ∀ w ∈ ws, w < 256 ^ n) :
    wordsVal n ws = .list (ws.map fun (x : Nat) => Val.int (x : Int)) := by
  unfold wordsVal
  rw [List.map_congr_left fun x hx => by rw [Nat.mod_eq_of_lt (h x hx)]]

theorem words_length (le : Bool) (n : Nat) (ws : List Nat) : (ws.flatMap (encNat le n)).length = n * ws.length := by
  rw [Engine.length_flatMap_const _ n ws fun x _ => encNat_length le n x, Nat.mul_comm]

def hashCon (le : Bool) : Con :=
  st [f "nbuckets" (.uint 4 le), f "nchains" (.uint 4 le),
      f "buckets" (.array (ctx "nbuckets") (.uint 4 le)), f "chains" (.array (ctx "nchains") (.uint 4 le))]

theorem spec_hash (c : ElfCfg) : (elfStructs c).Elf_Hash = hashCon c.le := rfl

def hashRec (buckets chains : List Nat) : Val :=
  .record [("nbuckets", .int buckets.length), ("nchains", .int chains.length),
           ("buckets", wordsVal 4 buckets), ("chains", wordsVal 4 chains)]

theorem hash_reads {env : Env} {le : Bool} {buckets chains : List Nat} (hb : buckets.length < 2 ^ 32)
    (hc : chains.length < 2 ^ 32) {cx : Fields} {off : Nat} {rest : Bytes} :
    Reads (pr env (hashCon le)) cx off
      (encNat le 4 buckets.length ++ (encNat le 4 chains.length ++
        (buckets.flatMap (encNat le 4) ++ (chains.flatMap (encNat le 4) ++ rest))))
      (hashRec buckets chains) (off + 8 + 4 * (buckets.length + chains.length)) rest cx :=
  (ReadsF.struct
    (rec := [("nbuckets", .int buckets.length), ("nchains", .int chains.length),
             ("buckets", wordsVal 4 buckets), ("chains", wordsVal 4 chains)])
    (.named (Reads.uint (v := buckets.length) (by omega)) <|
      .named (Reads.uint (v := chains.length) (by omega)) <|
      .named (Reads.words (ws := buckets) (eval_ctx (by simp [Fields.get?_set]))) <|
      .named (Reads.words (ws := chains) (eval_ctx (by simp [Fields.get?_set]))) .nil)
    (by simp [Fields.set, wordsVal])).as rfl rfl (by rw [words_length, words_length]; omega)

theorem structParse_hash (env : Env) (le : Bool) (buckets chains : List Nat) (hb : buckets.length < 2 ^ 32)
    (hc : chains.length < 2 ^ 32) {data : Bytes} {off : Nat} {rest : Bytes}
    (hd : data.drop off = encNat le 4 buckets.length ++ encNat le 4 chains.length ++ buckets.flatMap (encNat le 4)
      ++ chains.flatMap (encNat le 4) ++ rest) :
    structParse env (hashCon le) data off = .ok (hashRec buckets chains, off + 8 + 4 * (buckets.length + chains.length)) :=
  (hash_reads (rest := rest) hb hc).structParse (by rw [hd]; simp only [List.append_assoc])

theorem hashRec_nchains (buckets chains : List Nat) : (hashRec buckets chains).getNat "nchains" = .ok chains.length :=
  Val.getNat_record_int (by simp [Fields.get?])

def gnuCon (le : Bool) (w : Nat) : Con :=
  st [f "nbuckets" (.uint 4 le), f "symoffset" (.uint 4 le), f "bloom_size" (.uint 4 le), f "bloom_shift" (.uint 4 le),
      f "bloom" (.array (ctx "bloom_size") (.uint w le)), f "buckets" (.array (ctx "nbuckets") (.uint 4 le))]

theorem spec_gnu (c : ElfCfg) : (elfStructs c).Gnu_Hash = gnuCon c.le (c.cls / 8) := rfl

def gnuRec (w symoffset shift : Nat) (bloom buckets : List Nat) : Val :=
  .record [("nbuckets", .int buckets.length), ("symoffset", .int symoffset), ("bloom_size", .int bloom.length),
           ("bloom_shift", .int shift), ("bloom", wordsVal w bloom), ("buckets", wordsVal 4 buckets)]

/-- what follows the bucket words (the chain words) is left to read -/
theorem gnu_reads {env : Env} {le : Bool} {w symoffset shift : Nat} {bloom buckets : List Nat}
    (h1 : buckets.length < 2 ^ 32) (h2 : symoffset < 2 ^ 32) (h3 : bloom.length < 2 ^ 32) (h4 : shift < 2 ^ 32)
    {cx : Fields} {off : Nat} {rest : Bytes} :
    Reads (pr env (gnuCon le w)) cx off
      (encNat le 4 buckets.length ++ (encNat le 4 symoffset ++ (encNat le 4 bloom.length ++ (encNat le 4 shift ++
        (bloom.flatMap (encNat le w) ++ (buckets.flatMap (encNat le 4) ++ rest))))))
      (gnuRec w symoffset shift bloom buckets) (off + 16 + w * bloom.length + 4 * buckets.length) rest cx :=
  (ReadsF.struct
    (rec := [("nbuckets", .int buckets.length), ("symoffset", .int symoffset), ("bloom_size", .int bloom.length),
             ("bloom_shift", .int shift), ("bloom", wordsVal w bloom), ("buckets", wordsVal 4 buckets)])
    (.named (Reads.uint (v := buckets.length) (by omega)) <|
      .named (Reads.uint (v := symoffset) (by omega)) <|
      .named (Reads.uint (v := bloom.length) (by omega)) <|
      .named (Reads.uint (v := shift) (by omega)) <|
      .named (Reads.words (ws := bloom) (eval_ctx (by simp [Fields.get?_set]))) <|
      .named (Reads.words (ws := buckets) (eval_ctx (by simp [Fields.get?_set]))) .nil)
    (by simp [Fields.set, wordsVal])).as rfl rfl (by rw [words_length, words_length])

theorem structParse_gnu (env : Env) (le : Bool) (w symoffset shift : Nat) (bloom buckets : List Nat)
    (h1 : buckets.length < 2 ^ 32) (h2 : symoffset < 2 ^ 32) (h3 : bloom.length < 2 ^ 32) (h4 : shift < 2 ^ 32)
    {data : Bytes} {off : Nat} {rest : Bytes}
    (hd : data.drop off = encNat le 4 buckets.length ++ encNat le 4 symoffset ++ encNat le 4 bloom.length
      ++ encNat le 4 shift ++ bloom.flatMap (encNat le w) ++ buckets.flatMap (encNat le 4) ++ rest) :
    structParse env (gnuCon le w) data off
      = .ok (gnuRec w symoffset shift bloom buckets, off + 16 + w * bloom.length + 4 * buckets.length) ∧
    data.drop (off + 16 + w * bloom.length + 4 * buckets.length) = rest :=
  have R := gnu_reads (env := env) (le := le) (w := w) (cx := []) (off := off) (rest := rest) h1 h2 h3 h4
  have hd' := hd.trans (by simp only [List.append_assoc])
  ⟨R.structParse hd', (R.ok hd').2⟩

section fields
variable (w symoffset shift : Nat) (bloom buckets : List Nat)

theorem gnuRec_bloom_size : (gnuRec w symoffset shift bloom buckets).getNat "bloom_size" = .ok bloom.length :=
  Val.getNat_record_int (by simp [Fields.get?])

theorem gnuRec_nbuckets : (gnuRec w symoffset shift bloom buckets).getNat "nbuckets" = .ok buckets.length :=
  Val.getNat_record_int (by simp [Fields.get?])

theorem gnuRec_symoffset : (gnuRec w symoffset shift bloom buckets).getNat "symoffset" = .ok symoffset :=
  Val.getNat_record_int (by simp [Fields.get?])

theorem gnuRec_buckets : (gnuRec w symoffset shift bloom buckets).getField "buckets" = .ok (wordsVal 4 buckets) :=
  Val.getField_record_get? (by simp [Fields.get?])

end fields

end PyElf.Proofs.HashHeader
