/-
  The two descriptions behind the non-vacuity `example`s of Props/C01.lean, which says what is in them: `exD` inside
  `wfZ` and outside `wf`, `exC` of the shape `extnumOnly`.  The environment decodes just the codes they use.
  Namespace `PyElf.Proofs.C01.Ex`.
-/
import PyElf.Proofs.ElfTables
import PyElf.Proofs.ElfCodec
import PyElf.Spec.ElfNoNames
namespace PyElf.Proofs.C01.Ex
open PyElf PyElf.Spec PyElf.Model PyElf.Proofs PyElf.Proofs.Engine

def exEnv : Env :=
  ⟨fun t n =>
    if t = "ENUM_EI_CLASS" then (if n = 1 then some "ELFCLASS32" else if n = 2 then some "ELFCLASS64" else none)
    else if t = "ENUM_EI_DATA" then (if n = 1 then some "ELFDATA2LSB" else if n = 2 then some "ELFDATA2MSB" else none)
    else if t = "ENUM_SH_TYPE_BASE" then
      (if n = 0 then some "SHT_NULL" else if n = 1 then some "SHT_PROGBITS" else if n = 2 then some "SHT_SYMTAB"
       else if n = 3 then some "SHT_STRTAB" else none)
    else if t = "ENUM_P_TYPE_BASE" then (if n = 1 then some "PT_LOAD" else if n = 4 then some "PT_NOTE" else none)
    else if t = "ENUM_E_TYPE" then (if n = 4 then some "ET_CORE" else none)
    else none,
   fun _ => none⟩

def exShdr (ty flags off size link entsize : Nat) : Fields :=
  [("sh_type", .int ty), ("sh_flags", .int flags), ("sh_addr", .int 0), ("sh_offset", .int off), ("sh_size", .int size),
   ("sh_link", .int link), ("sh_info", .int 0), ("sh_addralign", .int 1), ("sh_entsize", .int entsize)]

/-- `"\0.a\0.a\0"` -/
def exTab : Bytes := [0, 0x2e, 0x61, 0, 0x2e, 0x61, 0]

def exSecs : List SecDesc :=
  [⟨[], exShdr 0 0 0 5 2 0, none, 0⟩,                                                    -- sh_size = 5 sections, sh_link = 2
   ⟨[0x2e, 0x61], exShdr 1 0x800 332 12 0 0, some [1, 0, 0, 0, 9, 0, 0, 0, 1, 0, 0, 0], 1⟩,  -- ".a", SHF_COMPRESSED, Chdr only
   ⟨[0x2e, 0x61], exShdr 3 0 344 7 0 0, some exTab, 4⟩,                                    -- ".a" again: the name table
   ⟨[], exShdr 2 0 351 0 2 16, none, 0⟩,                                                   -- an empty symbol table → section 2
   ⟨[], exShdr 1 0 334 14 0 0, none, 0⟩]                                                   -- [334, 348): overlaps sections 1 and 2

def exD : ElfDesc :=
  { cls := 32, le := true, mclass := "default", solaris := false, core := false,
    ehdr := [("EI_VERSION", .int 1), ("e_type", .int 1), ("e_machine", .int 0xfe01), ("e_version", .int 1), ("e_ehsize", .int 52)],
    shoff := 52, phoff := 292, shentsize := 48, phentsize := 40,
    sections := exSecs,
    segments := [[("p_type", .int 1), ("p_offset", .int 0), ("p_vaddr", .int 0), ("p_paddr", .int 0), ("p_filesz", .int 0),
                  ("p_memsz", .int 0), ("p_flags", .int 5), ("p_align", .int 4096)]],
    shstrndx := 2, xShnum := true, xShstrndx := true }

def exRegs : List (Nat × Bytes) :=
  [(0, [127, 69, 76, 70, 1, 1, 1, 0, 0, 0, 0, 0, 0, 0, 0, 0, 1, 0, 1, 254, 1, 0, 0, 0, 0, 0, 0, 0, 36, 1, 0, 0, 52, 0, 0, 0,
        0, 0, 0, 0, 52, 0, 40, 0, 1, 0, 48, 0, 0, 0, 255, 255]),
   (52, [0, 0, 0, 0, 0, 0, 0, 0, 0, 0, 0, 0, 0, 0, 0, 0, 0, 0, 0, 0, 5, 0, 0, 0, 2, 0, 0, 0, 0, 0, 0, 0, 1, 0, 0, 0, 0, 0, 0, 0]),
   (100, [1, 0, 0, 0, 1, 0, 0, 0, 0, 8, 0, 0, 0, 0, 0, 0, 76, 1, 0, 0, 12, 0, 0, 0, 0, 0, 0, 0, 0, 0, 0, 0, 1, 0, 0, 0, 0, 0, 0, 0]),
   (148, [4, 0, 0, 0, 3, 0, 0, 0, 0, 0, 0, 0, 0, 0, 0, 0, 88, 1, 0, 0, 7, 0, 0, 0, 0, 0, 0, 0, 0, 0, 0, 0, 1, 0, 0, 0, 0, 0, 0, 0]),
   (196, [0, 0, 0, 0, 2, 0, 0, 0, 0, 0, 0, 0, 0, 0, 0, 0, 95, 1, 0, 0, 0, 0, 0, 0, 2, 0, 0, 0, 0, 0, 0, 0, 1, 0, 0, 0, 16, 0, 0, 0]),
   (244, [0, 0, 0, 0, 1, 0, 0, 0, 0, 0, 0, 0, 0, 0, 0, 0, 78, 1, 0, 0, 14, 0, 0, 0, 0, 0, 0, 0, 0, 0, 0, 0, 1, 0, 0, 0, 0, 0, 0, 0]),
   (292, [1, 0, 0, 0, 0, 0, 0, 0, 0, 0, 0, 0, 0, 0, 0, 0, 0, 0, 0, 0, 0, 0, 0, 0, 5, 0, 0, 0, 0, 16, 0, 0]),
   (332, [1, 0, 0, 0, 9, 0, 0, 0, 1, 0, 0, 0]),
   (344, [0, 46, 97, 0, 46, 97, 0])]

def exObsHdr (nm : Nat) (ty : String) (flags off size link entsize : Nat) : Val :=
  .record [("sh_name", .int nm), ("sh_type", .str ty), ("sh_flags", .int flags), ("sh_addr", .int 0), ("sh_offset", .int off),
           ("sh_size", .int size), ("sh_link", .int link), ("sh_info", .int 0), ("sh_addralign", .int 1), ("sh_entsize", .int entsize)]

def exHdrs : List Val :=
  [exObsHdr 0 "SHT_NULL" 0 0 5 2 0, exObsHdr 1 "SHT_PROGBITS" 2048 332 12 0 0, exObsHdr 4 "SHT_STRTAB" 0 344 7 0 0,
   exObsHdr 0 "SHT_SYMTAB" 0 351 0 2 16, exObsHdr 0 "SHT_PROGBITS" 0 334 14 0 0]

/-! Both examples are ELF32 LSB: their section and program headers go through the closed forms of
    Proofs/ElfCodec.lean; only the file headers are encoded and decoded by unfolding. -/

theorem sec32_enc (d : ElfDesc) (hc : d.cls = 32) {nm ty fl ad off sz ln inf al es : Nat}
    (h : nm < 256 ^ 4 ∧ ty < 256 ^ 4 ∧ fl < 256 ^ 4 ∧ ad < 256 ^ 4 ∧ off < 256 ^ 4 ∧ sz < 256 ^ 4 ∧ ln < 256 ^ 4 ∧
      inf < 256 ^ 4 ∧ al < 256 ^ 4 ∧ es < 256 ^ 4) :
    d.S.Elf_Shdr.encodeRaw (.record (shdrRaw nm ty fl ad off sz ln inf al es))
      = some (encNat d.le 4 nm ++ (encNat d.le 4 ty ++ (encNat d.le 4 fl ++ (encNat d.le 4 ad ++ (encNat d.le 4 off ++
          (encNat d.le 4 sz ++ (encNat d.le 4 ln ++ (encNat d.le 4 inf ++ (encNat d.le 4 al ++ (encNat d.le 4 es ++ [])))))))))) := by
  have h8 : d.cfg.cls / 8 = 4 := by
    show d.cls / 8 = 4
    rw [hc]
  obtain ⟨a1, a2, a3, a4, a5, a6, a7, a8, a9, a10⟩ := h
  have := shdr_encodeRaw d.cfg ⟨a1, a2, a7, a8⟩ (by rw [h8]; exact ⟨a3, a4, a5, a6, a9, a10⟩)
  rwa [h8] at this

theorem exD_enc (nm : Bytes) (ty flags off size link entsize : Nat) (b : Option Bytes) (k : Nat)
    (h : k < 256 ^ 4 ∧ ty < 256 ^ 4 ∧ flags < 256 ^ 4 ∧ off < 256 ^ 4 ∧ size < 256 ^ 4 ∧ link < 256 ^ 4 ∧
      entsize < 256 ^ 4) :
    exD.S.Elf_Shdr.encodeRaw (SecDesc.raw ⟨nm, exShdr ty flags off size link entsize, b, k⟩)
      = some (encNat true 4 k ++ (encNat true 4 ty ++ (encNat true 4 flags ++ (encNat true 4 0 ++ (encNat true 4 off ++
          (encNat true 4 size ++ (encNat true 4 link ++ (encNat true 4 0 ++ (encNat true 4 1 ++ (encNat true 4 entsize ++ [])))))))))) :=
  sec32_enc exD rfl ⟨h.1, h.2.1, h.2.2.1, by decide, h.2.2.2.1, h.2.2.2.2.1, h.2.2.2.2.2.1, by decide, by decide,
    h.2.2.2.2.2.2⟩

theorem seg32_enc (d : ElfDesc) (hc : d.cls = 32) {ty off va pa fsz msz fl al : Nat}
    (h : ty < 256 ^ 4 ∧ off < 256 ^ 4 ∧ va < 256 ^ 4 ∧ pa < 256 ^ 4 ∧ fsz < 256 ^ 4 ∧ msz < 256 ^ 4 ∧ fl < 256 ^ 4 ∧
      al < 256 ^ 4) :
    d.S.Elf_Phdr.encodeRaw (.record (phdrRaw ty off va pa fsz msz fl al))
      = some (encNat d.le 4 ty ++ (encNat d.le 4 off ++ (encNat d.le 4 va ++ (encNat d.le 4 pa ++
          (encNat d.le 4 fsz ++ (encNat d.le 4 msz ++ (encNat d.le 4 fl ++ (encNat d.le 4 al ++ [])))))))) :=
  phdr_encodeRaw32 d.cfg hc h

theorem exD_ehdr_enc : exD.S.Elf_Ehdr.encodeRaw exD.ehdrRaw = some (exRegs[0]!).2 := by
  rw [show exD.S.Elf_Ehdr = .struct (ehdrFields exD.cfg) from rfl]
  simp [ehdrFields, identFields, ElfDesc.cfg, ElfDesc.ehdrRaw, exD, exSecs, exRegs, mkFields, f, anon, enumOf, lit,
    Expr.litNat?, Con.encodeRaw, ConFields.encodeRaw, Con.encodeRawList, Fields.get?, encNat, natLE]

theorem exD_regions : exD.regions = some exRegs := by
  have hs : exD.sections.mapM (fun s => exD.S.Elf_Shdr.encodeRaw s.raw)
      = some (((exRegs.drop 1).take 5).map (·.2)) := by
    show List.mapM _ exSecs = _
    simp only [exSecs, List.mapM_cons, List.mapM_nil, Option.bind_eq_bind, Option.bind_some, Option.pure_def,
      exD_enc, Nat.reducePow, Nat.reduceLT, and_self]
    decide +kernel
  have hp : exD.segments.mapM (fun p => exD.S.Elf_Phdr.encodeRaw (.record p)) = some [(exRegs[6]!).2] := by
    show List.mapM _ [phdrRaw 1 0 0 0 0 0 5 4096] = _
    simp only [List.mapM_cons, List.mapM_nil, Option.bind_eq_bind, Option.bind_some, Option.pure_def,
      seg32_enc exD rfl, Nat.reducePow, Nat.reduceLT, and_self]
    decide +kernel
  unfold ElfDesc.regions
  simp only [exD_ehdr_enc, hs, hp, Option.bind_eq_bind, Option.bind_some, Option.pure_def]
  decide +kernel

theorem exD_dec (nm : Bytes) (ty flags off size link entsize : Nat) (b : Option Bytes) (k : Nat) (s : String)
    (hs : exEnv.enumDecode "ENUM_SH_TYPE_BASE" ty = some s) :
    exD.S.Elf_Shdr.decodeRaw exEnv [] (SecDesc.raw ⟨nm, exShdr ty flags off size link entsize, b, k⟩)
      = .ok (exObsHdr k s flags off size link entsize) := by
  have h := shdr_decodeRaw exEnv exD.cfg [] k ty flags 0 off size link 0 1 entsize
  have ht : enumVal exEnv.enumDecode (shTypeTable exD.cfg.mclass) ty = .str s := by
    rw [show shTypeTable exD.cfg.mclass = "ENUM_SH_TYPE_BASE" from rfl, enumVal, hs]
  rw [ht] at h
  exact h

theorem exD_decHdr (i : Nat) : exD.decHdr exEnv i = exHdrs[i]? := by
  match i with
  | 0 => exact congrArg Except.toOption (exD_dec _ _ _ _ _ _ _ _ _ "SHT_NULL" (by decide +kernel))
  | 1 => exact congrArg Except.toOption (exD_dec _ _ _ _ _ _ _ _ _ "SHT_PROGBITS" (by decide +kernel))
  | 2 => exact congrArg Except.toOption (exD_dec _ _ _ _ _ _ _ _ _ "SHT_STRTAB" (by decide +kernel))
  | 3 => exact congrArg Except.toOption (exD_dec _ _ _ _ _ _ _ _ _ "SHT_SYMTAB" (by decide +kernel))
  | 4 => exact congrArg Except.toOption (exD_dec _ _ _ _ _ _ _ _ _ "SHT_PROGBITS" (by decide +kernel))
  | n + 5 => rfl

theorem exD_secs (i : Nat) (hi : i < 5) : exD.secOkZ exEnv 4 i = true := by
  have hsec : exD.sections = exSecs := rfl
  have hcls : exD.cls = 32 := rfl
  match i, hi with
  | 0, _ | 1, _ | 2, _ | 3, _ | 4, _ =>
    simp [ElfDesc.secOkZ, exD_decHdr, exHdrs, exObsHdr, hsec, exSecs, hcls, fieldNat, typeIn, Val.getField, Fields.getR,
      Fields.get?, bodyOf]

/-- the compressed section keeps the example outside `wf` -/
theorem exD_sec1_not_secOk : exD.secOk exEnv 4 1 = false := by
  have hsec : exD.sections = exSecs := rfl
  rw [ElfDesc.secOk]
  simp only [hsec, exSecs, exD_decHdr, exHdrs, List.getElem?_cons_zero, List.getElem?_cons_succ]
  decide +kernel

theorem exD_cfgOk : exD.cfgOk exEnv = true := by
  simp [ElfDesc.cfgOk, ElfDesc.S, ElfDesc.cfg, ElfDesc.ehdrRaw, exD, elfStructs, st, mkFields, f, anon, enumOf, lit, Expr.litNat?,
    Con.decodeRaw, ConFields.decodeRaw, Con.decodeRawList, Fields.get?, Fields.set, exEnv, Except.toOption, bind, Except.bind,
    pure, Except.pure, Val.getField, Fields.getR]

theorem exD_wfZ : exD.wfZ exEnv = true := by
  have hn : exD.sections.length = 5 := rfl
  have hm : exD.segments.length = 1 := rfl
  have h1 : exD.escapesOk = true := by decide +kernel
  have h2 : exD.namesOk = true := by decide +kernel
  have h3 : exD.S.Elf_Shdr.sizeof = some 40 := dS_shdr_sizeof exD
  have h4 : exD.S.Elf_Phdr.sizeof = some 32 := by decide +kernel
  have h5 : (List.range 5).all (fun i => exD.secOkZ exEnv 4 i) = true := by
    simp only [List.all_eq_true, List.mem_range]
    exact exD_secs
  have h6 : regionsDisjoint exRegs = true := by decide +kernel
  have h8 : machineClasses.contains exD.mclass = true := by decide +kernel
  have hs : sortRegions exRegs = exRegs := List.mergeSort_of_pairwise (by decide +kernel)
  unfold ElfDesc.wfZ
  simp only [exD_regions, hs, exD_cfgOk, hn, hm, h1, h2, h3, h4, h5, h6, h8]
  decide

theorem exD_not_wf : exD.wf exEnv = false := by
  cases hw : exD.wf exEnv with
  | false => rfl
  | true =>
    exfalso
    unfold ElfDesc.wf at hw
    simp only [Bool.and_eq_true, List.all_eq_true, List.mem_range] at hw
    have := hw.1.2 1 (by decide)
    rw [exD_sec1_not_secOk] at this
    cases this

theorem exD_assembles : ∃ bytes, exD.assemble 0 = some bytes := by
  unfold ElfDesc.assemble
  rw [exD_regions]
  exact ⟨_, rfl⟩

theorem exD_observes : ∃ obs, exD.observe exEnv = .ok obs := by
  refine observe_ok (ehdr_decodes_of_cfgOk exD_cfgOk) ?_ ?_
  · intro s hs
    obtain ⟨i, hi, rfl⟩ := List.mem_iff_getElem.1 hs
    have hd := exD_decHdr i
    match i, hi with
    | 0, _ | 1, _ | 2, _ | 3, _ | 4, _ =>
      obtain ⟨_, h⟩ := decHdr_some hd
      exact ⟨_, _, h, rfl⟩
  · intro p hp
    rw [show exD.segments = [phdrRaw 1 0 0 0 0 0 5 4096] from rfl, List.mem_singleton] at hp
    subst hp
    exact ⟨_, _, phdr_decodeRaw32 exEnv exD.cfg rfl [] _ _ _ _ _ _ _ _, rfl⟩

/-- the name borne by two sections designates the last of them -/
theorem exD_lookup : exD.indexOfName [0x2e, 0x61] = some 2 := by decide +kernel

/-! `exC`: a core file shaped like the Linux kernel's for ≥ 0xffff segments; PN_XNUM is used although 2 would fit. -/

def exC : ElfDesc :=
  { cls := 32, le := true, mclass := "default", solaris := false, core := true,
    ehdr := [("EI_VERSION", .int 1), ("e_type", .int 4), ("e_machine", .int 0xfe01), ("e_version", .int 1), ("e_ehsize", .int 52)],
    shoff := 52, phoff := 92, shentsize := 40, phentsize := 32,
    sections := [⟨[], [("sh_type", .int 0), ("sh_flags", .int 0), ("sh_addr", .int 0), ("sh_offset", .int 0), ("sh_size", .int 1),
                       ("sh_link", .int 0), ("sh_info", .int 2), ("sh_addralign", .int 0), ("sh_entsize", .int 0)], none, 0⟩],
    segments := [[("p_type", .int 4), ("p_offset", .int 156), ("p_vaddr", .int 0), ("p_paddr", .int 0), ("p_filesz", .int 0),
                  ("p_memsz", .int 0), ("p_flags", .int 0), ("p_align", .int 0)],
                 [("p_type", .int 1), ("p_offset", .int 4096), ("p_vaddr", .int 0x8048000), ("p_paddr", .int 0), ("p_filesz", .int 0),
                  ("p_memsz", .int 4096), ("p_flags", .int 5), ("p_align", .int 4096)]],
    shstrndx := 0, xPhnum := true }

def exCRegs : List (Nat × Bytes) :=
  [(0, [127, 69, 76, 70, 1, 1, 1, 0, 0, 0, 0, 0, 0, 0, 0, 0, 4, 0, 1, 254, 1, 0, 0, 0, 0, 0, 0, 0, 92, 0, 0, 0, 52, 0, 0, 0,
        0, 0, 0, 0, 52, 0, 32, 0, 255, 255, 40, 0, 1, 0, 0, 0]),
   (52, [0, 0, 0, 0, 0, 0, 0, 0, 0, 0, 0, 0, 0, 0, 0, 0, 0, 0, 0, 0, 1, 0, 0, 0, 0, 0, 0, 0, 2, 0, 0, 0, 0, 0, 0, 0, 0, 0, 0, 0]),
   (92, [4, 0, 0, 0, 156, 0, 0, 0, 0, 0, 0, 0, 0, 0, 0, 0, 0, 0, 0, 0, 0, 0, 0, 0, 0, 0, 0, 0, 0, 0, 0, 0]),
   (124, [1, 0, 0, 0, 0, 16, 0, 0, 0, 128, 4, 8, 0, 0, 0, 0, 0, 0, 0, 0, 0, 16, 0, 0, 5, 0, 0, 0, 0, 16, 0, 0])]

theorem exC_sections : exC.sections = [⟨[], (shdrRaw 0 0 0 0 0 1 0 2 0 0).tail, none, 0⟩] := rfl

theorem exC_segments : exC.segments = [phdrRaw 4 156 0 0 0 0 0 0, phdrRaw 1 4096 0x8048000 0 0 4096 5 4096] := rfl

theorem exC_ehdr_enc : exC.S.Elf_Ehdr.encodeRaw exC.ehdrRaw = some (exCRegs[0]!).2 := by
  rw [show exC.S.Elf_Ehdr = .struct (ehdrFields exC.cfg) from rfl]
  simp [ehdrFields, identFields, ElfDesc.cfg, ElfDesc.ehdrRaw, exC, exCRegs, mkFields, f, anon, enumOf, lit,
    Expr.litNat?, Con.encodeRaw, ConFields.encodeRaw, Con.encodeRawList, Fields.get?, encNat, natLE]

theorem exC_regions : exC.regions = some exCRegs := by
  have hs : exC.sections.mapM (fun s => exC.S.Elf_Shdr.encodeRaw s.raw) = some [(exCRegs[1]!).2] := by
    rw [exC_sections]
    show List.mapM _ [_] = _
    simp only [List.mapM_cons, List.mapM_nil, Option.bind_eq_bind, Option.bind_some, Option.pure_def, SecDesc.raw,
      shdrRaw, List.tail_cons]
    rw [show (("sh_name", Val.int (0 : Nat)) :: _ : Fields) = shdrRaw 0 0 0 0 0 1 0 2 0 0 from rfl,
      sec32_enc exC rfl (by decide)]
    decide +kernel
  have hp : exC.segments.mapM (fun p => exC.S.Elf_Phdr.encodeRaw (.record p))
      = some [(exCRegs[2]!).2, (exCRegs[3]!).2] := by
    rw [exC_segments]
    simp only [List.mapM_cons, List.mapM_nil, Option.bind_eq_bind, Option.bind_some, Option.pure_def,
      seg32_enc exC rfl, Nat.reducePow, Nat.reduceLT, and_self]
    decide +kernel
  unfold ElfDesc.regions
  simp only [exC_ehdr_enc, hs, hp, Option.bind_eq_bind, Option.bind_some, Option.pure_def]
  decide +kernel

theorem exC_cfgOk : exC.cfgOk exEnv = true := by
  simp [ElfDesc.cfgOk, ElfDesc.S, ElfDesc.cfg, ElfDesc.ehdrRaw, exC, elfStructs, st, mkFields, f, anon, enumOf, lit, Expr.litNat?,
    Con.decodeRaw, ConFields.decodeRaw, Con.decodeRawList, Fields.get?, Fields.set, exEnv, Except.toOption, bind, Except.bind,
    pure, Except.pure, Val.getField, Fields.getR]

def exCHdr : Val :=
  .record [("sh_name", .int 0), ("sh_type", .str "SHT_NULL"), ("sh_flags", .int 0), ("sh_addr", .int 0),
    ("sh_offset", .int 0), ("sh_size", .int 1), ("sh_link", .int 0), ("sh_info", .int 2), ("sh_addralign", .int 0),
    ("sh_entsize", .int 0)]

theorem exC_dec0 :
    exC.S.Elf_Shdr.decodeRaw exEnv [] (SecDesc.raw ⟨[], (shdrRaw 0 0 0 0 0 1 0 2 0 0).tail, none, 0⟩) = .ok exCHdr := by
  have h := shdr_decodeRaw exEnv exC.cfg [] 0 0 0 0 0 1 0 2 0 0
  have ht : enumVal exEnv.enumDecode (shTypeTable exC.cfg.mclass) ((0 : Nat) : Int) = .str "SHT_NULL" := by
    rw [show shTypeTable exC.cfg.mclass = "ENUM_SH_TYPE_BASE" from rfl, enumVal,
      show exEnv.enumDecode "ENUM_SH_TYPE_BASE" ((0 : Nat) : Int) = some "SHT_NULL" from by decide +kernel]
  rw [ht] at h
  exact h

theorem exC_extnumOnly : Spec.C01.extnumOnly exEnv exC = true := by
  have h1 : exC.escapesOk = true := by decide +kernel
  have h3 : exC.S.Elf_Shdr.sizeof = some 40 := dS_shdr_sizeof exC
  have h4 : exC.S.Elf_Phdr.sizeof = some 32 := by decide +kernel
  unfold Spec.C01.extnumOnly
  rw [exC_sections]
  simp only [exC_dec0, exC_cfgOk, h1, h3, h4]
  decide +kernel

theorem exC_decHdr0 : exC.decHdr exEnv 0 = some exCHdr :=
  congrArg Except.toOption exC_dec0

/-- a file without a name table is well formed: the general theorems apply to it as well -/
theorem exC_wf : exC.wf exEnv = true := by
  have hn : exC.sections.length = 1 := rfl
  have hm : exC.segments.length = 2 := rfl
  have h1 : exC.escapesOk = true := by decide +kernel
  have h2 : exC.namesOk = true := by decide +kernel
  have h3 : exC.S.Elf_Shdr.sizeof = some 40 := dS_shdr_sizeof exC
  have h4 : exC.S.Elf_Phdr.sizeof = some 32 := by decide +kernel
  have h5 : (List.range 1).all (fun i => exC.secOk exEnv 4 i) = true := by
    have h0 : exC.secOk exEnv 4 0 = true := by
      rw [ElfDesc.secOk]
      simp only [exC_sections, exC_decHdr0, List.getElem?_cons_zero]
      decide +kernel
    simp [List.range, List.range.loop, h0]
  have hs : sortRegions exCRegs = exCRegs := List.mergeSort_of_pairwise (by decide +kernel)
  have h6 : regionsDisjoint exCRegs = true := by decide +kernel
  have h8 : machineClasses.contains exC.mclass = true := by decide +kernel
  have h9 : exC.shstrndx = 0 := rfl
  unfold ElfDesc.wf
  simp only [exC_regions, hs, exC_cfgOk, hn, hm, h1, h2, h3, h4, h5, h6, h8, h9]
  decide

theorem exC_layout : ∃ bytes, Layout exC bytes := by
  have hs : sortRegions exCRegs = exCRegs := List.mergeSort_of_pairwise (by decide +kernel)
  have hd : regionsDisjoint (sortRegions exCRegs) = true := by rw [hs]; decide +kernel
  have ha : ∃ bytes, exC.assemble 0 = some bytes := by
    unfold ElfDesc.assemble
    rw [exC_regions]
    exact ⟨_, rfl⟩
  obtain ⟨bytes, hb⟩ := ha
  exact ⟨bytes, layout_of_disjoint exC_regions hd hb⟩

theorem exC_observes : ∃ obs, exC.observe exEnv = .ok obs := by
  refine observe_ok (ehdr_decodes_of_cfgOk exC_cfgOk) ?_ ?_
  · intro s hs
    rw [exC_sections, List.mem_singleton] at hs
    subst hs
    exact ⟨_, _, exC_dec0, rfl⟩
  · intro p hp
    rw [exC_segments] at hp
    simp only [List.mem_cons, List.not_mem_nil, or_false] at hp
    rcases hp with rfl | rfl
    · exact ⟨_, _, phdr_decodeRaw32 exEnv exC.cfg rfl [] _ _ _ _ _ _ _ _, rfl⟩
    · exact ⟨_, _, phdr_decodeRaw32 exEnv exC.cfg rfl [] _ _ _ _ _ _ _ _, rfl⟩

end PyElf.Proofs.C01.Ex
