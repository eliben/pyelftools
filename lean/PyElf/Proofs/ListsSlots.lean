/-
  C07: indexed forms and indexed addresses against the BYTES of the table sections.

  The look-ups are stated for the section as it is — "the fixed-width unsigned integer in slot `base + i·size`"
  (`Spec.C04.uintAt`, the reading C04's `resolve` uses), the slot's position being all that has to be seekable:
  `resolveViaOffsetTable_at`, `getAddr_at`; `uintAt_table` is the slot of a section given as `pre ++ table ++ rest`.
  On top of them, with the definitions of Model/ListsForest: `specValue` is the value
  DWARF 5 §7.28 / §7.29 / §7.5.5 give an attribute of a debugging entry as far as the list code is concerned,
  `specDec` the decoded entry, and `dieAttrs_spec` says that is what `Model.Lists.dieAttrs` computes — for EVERY
  form, indexed ones included.
-/
import PyElf.Spec.DieTree
import PyElf.Model.ListsForest
import PyElf.Proofs.Primitives
import PyElf.Proofs.ListsSeek
import PyElf.Proofs.Follows
namespace PyElf.Proofs.ListsSlots
open PyElf PyElf.Spec PyElf.Model.Lists PyElf.Proofs
open PyElf.Spec.C04 (uintAt)

theorem structParse_uintAt {env : Env} {data : Bytes} {le : Bool} {n pos a : Nat}
    (h : uintAt le data pos n = some a) :
    structParse env (.uint n le) data pos = .ok (.int a, pos + n) := by
  unfold uintAt at h
  simp only at h
  split at h
  · rename_i hl
    injection h with h
    rw [Engine.structParse_of_parse (parse_uint_ok (List.take_append_drop n _).symm hl), h]
  · cases h

theorem uintAt_pos_lt {data : Bytes} {le : Bool} {n pos a : Nat} (h : uintAt le data pos n = some a) (hn : 1 ≤ n) :
    pos < data.length := by
  unfold uintAt at h
  simp only at h
  split at h
  · rename_i hl
    rw [List.length_take, List.length_drop] at hl; omega
  · cases h

theorem uintAt_table (le : Bool) (n : Nat) (pre rest : Bytes) (xs : List Nat) (i : Nat) (hi : i < xs.length)
    (hwf : ∀ a ∈ xs, a < 256 ^ n) :
    uintAt le (pre ++ xs.flatMap (encNat le n) ++ rest) (pre.length + i * n) n = some (xs[i]'hi) := by
  unfold uintAt
  rw [Engine.drop_entry (fun _ _ => encNat_length le n _) hi (drop_pre pre _ rest), List.take_left' (encNat_length le n _)]
  simp only [encNat_length, if_true, decNat_encNat_of_lt le (hwf _ (List.getElem_mem hi))]

/-- only the slot's position has to be seekable, not the section -/
theorem resolveViaOffsetTable_at (env : Env) (cu : Cu) (le : Bool) (data : Bytes) (baseName : String) (b i o : Nat)
    (hS : cu.S.the_Dwarf_offset = .uint (oszOf cu) le) (hb : getBaseOffset cu baseName = .ok (.int b))
    (hu : uintAt le data (b + i * oszOf cu) (oszOf cu) = some o) (hsmall : b + i * oszOf cu < 2 ^ 63) :
    resolveViaOffsetTable env (some data) cu (.int i) baseName = .ok (.int ((b + o : Nat) : Int)) := by
  have hsz : (if cu.fmt = 32 then (4 : Int) else 8) = (oszOf cu : Int) := by
    unfold oszOf; split <;> rfl
  have hpos : (b : Int) + (i : Int) * (oszOf cu : Int) = ((b + i * oszOf cu : Nat) : Int) := by simp
  unfold resolveViaOffsetTable
  simp only [hb, bind, Except.bind, Val.asInt, hsz, hpos, ListsSeek.seekParseInt_nat hsmall, hS, structParse_uintAt hu,
    addV, pure, Except.pure]
  simp

theorem getAddr_at (env : Env) (secs : Secs) (cu : Cu) (le : Bool) (data : Bytes) (b i a : Nat)
    (hS : cu.S.the_Dwarf_target_addr = .uint cu.asz le) (hsec : secs.addr = some data)
    (hb : getBaseOffset cu "DW_AT_addr_base" = .ok (.int b))
    (hu : uintAt le data (b + i * cu.asz) cu.asz = some a) (hsmall : b + i * cu.asz < 2 ^ 63) :
    cuAddr env secs (some cu) (.int i) = .ok (.int a) := by
  have hpos : (b : Int) + (i : Int) * (cu.asz : Int) = ((b + i * cu.asz : Nat) : Int) := by simp
  unfold cuAddr getAddr
  simp only [hsec, hb, bind, Except.bind, Val.asInt, hpos, ListsSeek.seekParseInt_nat hsmall, hS, structParse_uintAt hu,
    pure, Except.pure]

theorem oszOf_pos (cu : Cu) : 1 ≤ oszOf cu := by unfold oszOf; split <;> decide

theorem resolveViaOffsetTable_follows (env : Env) (cu : Cu) (le : Bool) (sec : Option Bytes) (baseName : String)
    (raw : Val) (hS : cu.S.the_Dwarf_offset = .uint (oszOf cu) le)
    (hsmall : ∀ d, sec = some d → d.length < 2 ^ 63) :
    Follows id (slotValue le sec (getBaseOffset cu baseName) (oszOf cu) raw)
      (resolveViaOffsetTable env sec cu raw baseName) := by
  unfold slotValue
  split
  · rename_i data b i hb
    refine fun v h => ?_
    obtain ⟨o, hu, rfl⟩ := Option.map_eq_some_iff.1 h
    have := uintAt_pos_lt hu (oszOf_pos cu)
    have := hsmall data rfl
    exact resolveViaOffsetTable_at env cu le data baseName b i o hS hb hu (by omega)
  · exact .none

theorem getAddr_follows (env : Env) (secs : Secs) (cu : Cu) (le : Bool) (i : Nat)
    (hS : cu.S.the_Dwarf_target_addr = .uint cu.asz le) (hasz : 1 ≤ cu.asz)
    (hsmall : ∀ d, secs.addr = some d → d.length < 2 ^ 63) :
    Follows (fun a : Nat => Val.int a) (addrSlot le secs cu i) (cuAddr env secs (some cu) (.int i)) := by
  unfold addrSlot
  split
  · rename_i data b hsec hb
    intro a h
    have := uintAt_pos_lt h hasz
    have := hsmall data hsec
    exact getAddr_at env secs cu le data b i a hS hsec hb h (by omega)
  · exact .none

theorem translateAttrValue_follows (env : Env) (secs : Secs) (cu : Cu) (le : Bool) (a : RawAttr)
    (hS : cu.S.the_Dwarf_offset = .uint (oszOf cu) le)
    (hl : ∀ d, secs.loclists = some d → d.length < 2 ^ 63) (hr : ∀ d, secs.rnglists = some d → d.length < 2 ^ 63) :
    Follows id (specValue le secs cu a) (translateAttrValue env secs cu a.form a.raw) :=
  .ite (fun _ => resolveViaOffsetTable_follows env cu le _ _ _ hS hl)
    fun _ => .ite (fun _ => resolveViaOffsetTable_follows env cu le _ _ _ hS hr) fun _ => .of_eq rfl

theorem dieAttrs_spec (env : Env) (secs : Secs) (cu : Cu) (le : Bool) (die : List RawAttr)
    (hS : cu.S.the_Dwarf_offset = .uint (oszOf cu) le)
    (hl : ∀ d, secs.loclists = some d → d.length < 2 ^ 63) (hr : ∀ d, secs.rnglists = some d → d.length < 2 ^ 63)
    (h : dieResolves le secs cu die = true) :
    dieAttrs env secs cu die = .ok (specDec le secs cu die) := by
  unfold dieAttrs specDec
  rw [Engine.mapM_ok_of_forall die _ (fun a => ⟨a.name, a.form, (specValue le secs cu a).getD .none⟩)]
  · rfl
  · intro a ha
    obtain ⟨v, hv⟩ := Option.isSome_iff_exists.1 (List.all_eq_true.1 h a ha)
    rw [(translateAttrValue_follows env secs cu le a hS hl hr).ok hv, hv]
    rfl

theorem dieResolves_plain (le : Bool) (secs : Secs) (cu : Cu) (die : List RawAttr)
    (h : ∀ a ∈ die, a.form ≠ "DW_FORM_loclistx" ∧ a.form ≠ "DW_FORM_rnglistx") : dieResolves le secs cu die = true := by
  simp only [dieResolves, List.all_eq_true]
  intro a ha
  simp [specValue, (h a ha).1, (h a ha).2]

end PyElf.Proofs.ListsSlots
