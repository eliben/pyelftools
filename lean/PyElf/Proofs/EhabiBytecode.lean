/-
  C20, byte-code half: the EHABI byte-code decoder model (`Model.Ehabi.decode` driven by the generated
  dispatch table `Gen.ehabiRing`) agrees with the disassembly prescribed by EHABI32 table 4
  (`Spec.Ehabi.ehabiStd`), and raises IndexError exactly when the array ends inside an instruction.
  `decode_eq_std` is in `PyElf.Proofs`, what it rests on in `PyElf.Proofs.EhabiBytecode`.
-/
import PyElf.Model.Ehabi
import PyElf.Proofs.Primitives
namespace PyElf.Proofs
open PyElf PyElf.Spec PyElf.Model
open PyElf.Model.Ehabi (handler byteAt findHandler hits calculateRange printGPR printRegisters popD
  ulebBuffer decodeLoop)
open PyElf.Spec.Ehabi (step Insn regsRange regsMask splitUleb gprName render decodeFuel ehabiStd)

namespace EhabiBytecode

/-- the handler the ring picks for opcode `o`, along the ranges of table 4.  The ring lists `11001yyy` with mask 0xc8,
    so it also catches 0xd8–0xdf, 0xe8–0xef, 0xf8–0xff before `11xxxyyy`; both handlers print "spare". -/
def cls (o : Nat) : String :=
  if o < 0x40 then "_decode_00xxxxxx"
  else if o < 0x80 then "_decode_01xxxxxx"
  else if o < 0x90 then "_decode_1000iiii_iiiiiiii"
  else if o = 0x9d then "_decode_10011101"
  else if o = 0x9f then "_decode_10011111"
  else if o < 0xa0 then "_decode_1001nnnn"
  else if o < 0xa8 then "_decode_10100nnn"
  else if o < 0xb0 then "_decode_10101nnn"
  else if o = 0xb0 then "_decode_10110000"
  else if o = 0xb1 then "_decode_10110001_0000iiii"
  else if o = 0xb2 then "_decode_10110010_uleb128"
  else if o = 0xb3 then "_decode_10110011_sssscccc"
  else if o < 0xb8 then "_decode_101101nn"
  else if o < 0xc0 then "_decode_10111nnn"
  else if o < 0xc6 then "_decode_11000nnn"
  else if o = 0xc6 then "_decode_11000110_sssscccc"
  else if o = 0xc7 then "_decode_11000111_0000iiii"
  else if o = 0xc8 then "_decode_11001000_sssscccc"
  else if o = 0xc9 then "_decode_11001001_sssscccc"
  else if o < 0xd0 then "_decode_11001yyy"
  else if o < 0xd8 then "_decode_11010nnn"
  else if o % 16 ≥ 8 then "_decode_11001yyy"
  else "_decode_11xxxyyy"

/-- For `String`-valued functions `rfl` on the tables compares evaluated literals syntactically, where `decide` would
    run `String.decEq` 256 times; the 16 × 16 grid keeps the evaluation 16 deep. -/
theorem eq_on_bytes_of_grid {α : Type} (f g : Nat → α)
    (h : (List.range 16).map (fun hi => (List.range 16).map fun lo => f (16 * hi + lo))
      = (List.range 16).map fun hi => (List.range 16).map fun lo => g (16 * hi + lo)) :
    ∀ o < 256, f o = g o := by
  intro o ho
  have h1 := congrArg (fun l => (l[o / 16]?).bind (·[o % 16]?)) h
  have e : 16 * (o / 16) + o % 16 = o := Nat.div_add_mod o 16
  have h16 : o / 16 < 16 := by omega
  have hm : o % 16 < 16 := by omega
  simpa [h16, hm, e] using h1

theorem findHandler_cls : ∀ o < 256, findHandler Gen.ehabiRing o = some (cls o) :=
  eq_on_bytes_of_grid _ _ (by rfl)

theorem and_pow_ne_zero (mask i : Nat) : (mask &&& 2 ^ i ≠ 0) ↔ mask.testBit i = true := by
  constructor
  · intro h
    cases hb : mask.testBit i with
    | true => rfl
    | false =>
      exfalso; apply h
      apply Nat.eq_of_testBit_eq; intro j
      rw [Nat.testBit_and, Nat.testBit_two_pow, Nat.zero_testBit]
      by_cases hij : i = j
      · subst hij; simp [hb]
      · simp [hij]
  · intro h h0
    have : (mask &&& 2 ^ i).testBit i = true := by
      rw [Nat.testBit_and, Nat.testBit_two_pow_self, h]; rfl
    rw [h0, Nat.zero_testBit] at this
    cases this

theorem hits_eq (mask : Nat) : hits mask = (List.range 32).filter (fun i => mask.testBit i) := by
  unfold hits
  apply List.filter_congr
  intro i _
  rw [Nat.one_shiftLeft]
  by_cases h : mask.testBit i = true
  · simp [h, (and_pow_ne_zero mask i).2 h]
  · have := mt (and_pow_ne_zero mask i).1 h
    simp only [Bool.not_eq_true] at h
    simp [h]
    simpa using this

theorem filter_range'_window (s e : Nat) : ∀ (n a : Nat),
    (List.range' a n).filter (fun i => decide (s ≤ i) && decide (i < e))
      = List.range' (max a s) (min (a + n) e - max a s)
  | 0, a => by simp; omega
  | n + 1, a => by
    rw [List.range'_succ, List.filter_cons, filter_range'_window s e n (a + 1)]
    by_cases h1 : s ≤ a <;> by_cases h2 : a < e
    · have : max a s = a := by omega
      have h3 : min (a + (n + 1)) e - a = (min (a + 1 + n) e - max (a + 1) s) + 1 := by omega
      simp only [h1, h2, decide_true, Bool.and_self, if_true, this, h3, List.range'_succ]
      congr 2; omega
    · have : min (a + 1 + n) e - max (a + 1) s = 0 := by omega
      simp [h1, h2, this]; omega
    · simp only [h1, decide_false, Bool.false_and, Bool.false_eq_true, if_false]
      congr 1 <;> omega
    · simp only [h1, decide_false, Bool.false_and, Bool.false_eq_true, if_false]
      congr 1 <;> omega

theorem hits_calculateRange (s c : Nat) : hits (calculateRange s c) = regsRange s c := by
  have hf : (fun i => ((2 ^ (c + 1) - 1) <<< s).testBit i)
      = fun i => decide (s ≤ i) && decide (i < s + (c + 1)) := by
    funext i
    rw [Nat.testBit_shiftLeft, Nat.testBit_two_pow_sub_one]
    by_cases h : s ≤ i <;> simp [h] <;> omega
  have hg : (fun (i : Nat) => decide (i < 32)) = fun i => decide (0 ≤ i) && decide (i < 32) := by
    funext i; simp
  rw [hits_eq, calculateRange, regsRange, Nat.one_shiftLeft, List.range_eq_range', hf, hg,
    filter_range'_window, filter_range'_window]
  congr 1 <;> omega

theorem hits_shl_mask (m s w : Nat) (h : s + w ≤ 32) : hits ((m % 2 ^ w) <<< s) = regsMask m s w := by
  have hf : (fun i => ((m % 2 ^ w) <<< s).testBit i)
      = fun i => m.testBit (i - s) && (decide (s ≤ i) && decide (i < s + w)) := by
    funext i
    rw [Nat.testBit_shiftLeft, Nat.testBit_mod_two_pow]
    by_cases h1 : s ≤ i
    · have h2 : i - s < w ↔ i < s + w := by omega
      simp [h1, h2, Bool.and_comm]
    · simp [h1]
  rw [hits_eq, hf, ← List.filter_filter, List.range_eq_range', filter_range'_window, regsMask]
  rw [show max 0 s = s by omega, show min (0 + 32) (s + w) - s = w by omega, List.range'_eq_map_range,
    List.filter_map, List.range_eq_range']
  congr 1
  · funext i; omega
  · apply List.filter_congr; intro i _; simp

theorem mem_regsRange {s c x : Nat} (h : x ∈ regsRange s c) : x < s + c + 1 := by
  simp only [regsRange, List.mem_filter, List.mem_range'_1] at h
  omega

theorem mem_regsMask {m s w x : Nat} (h : x ∈ regsMask m s w) : x < s + w := by
  simp only [regsMask, List.mem_map, List.mem_filter, List.mem_range] at h
  obtain ⟨i, ⟨hi, _⟩, rfl⟩ := h
  omega

def gprGood (mask : Nat) (regs : List Nat) : Bool := hits mask == regs && regs.all (· < 16)

theorem gprGood_iff {mask : Nat} {regs : List Nat} :
    gprGood mask regs = true ↔ hits mask = regs ∧ ∀ x ∈ regs, x < 16 := by
  simp only [gprGood, Bool.and_eq_true, beq_iff_eq, List.all_eq_true, decide_eq_true_eq]

theorem and_3f_shl (n : Nat) : ((n &&& 0x3f) <<< 2) + 4 = n % 64 * 4 + 4 := by
  rw [show (0x3f : Nat) = 2 ^ 6 - 1 from rfl, Nat.and_two_pow_sub_one_eq_mod, Nat.shiftLeft_eq]

theorem and_f (n : Nat) : n &&& 0x0f = n % 16 := Nat.and_two_pow_sub_one_eq_mod n 4

theorem and_7 (n : Nat) : n &&& 0x07 = n % 8 := Nat.and_two_pow_sub_one_eq_mod n 3

/-- `handler` at each name of the ring, the fields in the row order of `cls` and named by the row's bit pattern.  One
    declaration for all names: reaching the k-th alternative of the string `match` costs k string comparisons, and within
    one declaration every literal is expanded only once. -/
structure HandlerEqs (arr : Bytes) (idx : Nat) : Prop where
  r00xxxxxx : handler "_decode_00xxxxxx" arr idx = (do
      let opcode ← byteAt arr idx
      return ("vsp = vsp + " ++ toString (((opcode &&& 0x3f) <<< 2) + 4), idx + 1))
  r01xxxxxx : handler "_decode_01xxxxxx" arr idx = (do
      let opcode ← byteAt arr idx
      return ("vsp = vsp - " ++ toString (((opcode &&& 0x3f) <<< 2) + 4), idx + 1))
  r1000iiii : handler "_decode_1000iiii_iiiiiiii" arr idx = (do
      let op0 ← byteAt arr idx
      let op1 ← byteAt arr (idx + 1)
      let gprMask := (op1 <<< 4) ||| ((op0 &&& 0x0f) <<< 12)
      if gprMask = 0 then return ("refuse to unwind", idx + 2)
      else return ("pop " ++ (← printGPR gprMask), idx + 2))
  r10011101 : handler "_decode_10011101" arr idx = .ok ("reserved (ARM MOVrr)", idx + 1)
  r10011111 : handler "_decode_10011111" arr idx = .ok ("reserved (WiMMX MOVrr)", idx + 1)
  r1001nnnn : handler "_decode_1001nnnn" arr idx = (do
      let opcode ← byteAt arr idx
      return ("vsp = r" ++ toString (opcode &&& 0x0f), idx + 1))
  r10100nnn : handler "_decode_10100nnn" arr idx = (do
      let opcode ← byteAt arr idx
      return ("pop " ++ (← printGPR (calculateRange 4 (opcode &&& 0x07))), idx + 1))
  r10101nnn : handler "_decode_10101nnn" arr idx = (do
      let opcode ← byteAt arr idx
      return ("pop " ++ (← printGPR (calculateRange 4 (opcode &&& 0x07) ||| (1 <<< 14))), idx + 1))
  r10110000 : handler "_decode_10110000" arr idx = .ok ("finish", idx + 1)
  r10110001 : handler "_decode_10110001_0000iiii" arr idx = (do
      let op1 ← byteAt arr (idx + 1)
      if (op1 &&& 0xf0) ≠ 0 ∨ op1 = 0x00 then return ("spare", idx + 2)
      else return ("pop " ++ (← printGPR (op1 &&& 0x0f)), idx + 2))
  r10110010 : handler "_decode_10110010_uleb128" arr idx = (do
      let b ← byteAt arr (idx + 1)
      let (buf, idx') ← ulebBuffer arr (arr.length + 1) (idx + 2) [b]
      let value := buf.reverse.foldl (fun v b => (v <<< 7) + (b &&& 0x7F)) 0
      return ("vsp = vsp + " ++ toString (0x204 + (value <<< 2)), idx'))
  r10110011 : handler "_decode_10110011_sssscccc" arr idx = popD arr idx 0 "d"
  r101101nn : handler "_decode_101101nn" arr idx = .ok ("spare", idx + 1)
  r10111nnn : handler "_decode_10111nnn" arr idx = (do
      let opcode ← byteAt arr idx
      return ("pop " ++ printRegisters (calculateRange 8 (opcode &&& 0x07)) "d", idx + 1))
  r11000nnn : handler "_decode_11000nnn" arr idx = (do
      let opcode ← byteAt arr idx
      return ("pop " ++ printRegisters (calculateRange 10 (opcode &&& 0x07)) "wR", idx + 1))
  r11000110 : handler "_decode_11000110_sssscccc" arr idx = popD arr idx 0 "wR"
  r11000111 : handler "_decode_11000111_0000iiii" arr idx = (do
      let op1 ← byteAt arr (idx + 1)
      if (op1 &&& 0xf0) ≠ 0 ∨ op1 = 0x00 then return ("spare", idx + 2)
      else return ("pop " ++ printRegisters (op1 &&& 0x0f) "wCGR", idx + 2))
  r11001000 : handler "_decode_11001000_sssscccc" arr idx = popD arr idx 16 "d"
  r11001001 : handler "_decode_11001001_sssscccc" arr idx = popD arr idx 0 "d"
  r11001yyy : handler "_decode_11001yyy" arr idx = .ok ("spare", idx + 1)
  r11010nnn : handler "_decode_11010nnn" arr idx = (do
      let opcode ← byteAt arr idx
      return ("pop " ++ printRegisters (calculateRange 8 (opcode &&& 0x07)) "d", idx + 1))
  r11xxxyyy : handler "_decode_11xxxyyy" arr idx = .ok ("spare", idx + 1)

theorem handler_eqs (arr : Bytes) (idx : Nat) : HandlerEqs arr idx :=
  ⟨rfl, rfl, rfl, rfl, rfl, rfl, rfl, rfl, rfl, rfl, rfl, rfl, rfl, rfl, rfl, rfl, rfl, rfl, rfl, rfl, rfl, rfl⟩

theorem fact_names : ∀ i < 16, Gen.ehabiGprNames[i]? = some (gprName i) := by decide +kernel

def gprLookup (i : Nat) : R String :=
  match Gen.ehabiGprNames[i]? with
  | some s => .ok s
  | none => .error .indexError

theorem printGPR_def (mask : Nat) :
    printGPR mask = (do let names ← (hits mask).mapM gprLookup; return Model.Ehabi.braces names) := rfl

theorem printGPR_good {mask : Nat} {regs : List Nat} (h : gprGood mask regs = true) :
    printGPR mask = .ok (Spec.Ehabi.braces (regs.map gprName)) := by
  obtain ⟨h1, h2⟩ := gprGood_iff.1 h
  rw [printGPR_def, h1, Engine.mapM_ok_of_forall regs gprLookup gprName fun a ha => by
    unfold gprLookup; rw [fact_names a (h2 a ha)]]
  rfl

theorem splitUleb_append : ∀ (l u r : Bytes), splitUleb l = some (u, r) → l = u ++ r ∧ u ≠ [] := by
  intro l
  induction l with
  | nil => intro u r h; simp [splitUleb] at h
  | cons b bs ih =>
    intro u r h
    rw [splitUleb] at h
    by_cases hb : b.toNat < 128
    · rw [if_pos hb] at h
      simp only [Option.some.injEq, Prod.mk.injEq] at h
      obtain ⟨rfl, rfl⟩ := h
      simp
    · rw [if_neg hb] at h
      cases hs : splitUleb bs with
      | none => rw [hs] at h; simp at h
      | some p =>
        obtain ⟨u', r'⟩ := p
        rw [hs] at h
        simp only [Option.map_some, Option.some.injEq, Prod.mk.injEq] at h
        obtain ⟨rfl, rfl⟩ := h
        obtain ⟨e, _⟩ := ih u' r' hs
        simp [e]

def ulebOut (pre : List Nat) (pos : Nat) : Option (Bytes × Bytes) → R (List Nat × Nat)
  | some (u, _) => .ok (pre ++ u.map (·.toNat), pos + u.length - 1)
  | none => .error .indexError

theorem ulebBuffer_spec (arr : Bytes) : ∀ (bs : Bytes) (b : UInt8) (pre : List Nat) (fuel pos : Nat),
    arr.drop pos = bs → bs.length + 1 ≤ fuel →
    ulebBuffer arr fuel pos (pre ++ [b.toNat]) = ulebOut pre pos (splitUleb (b :: bs)) := by
  intro bs
  induction bs with
  | nil =>
    intro b pre fuel pos hd hf
    cases fuel with
    | zero => omega
    | succ fuel =>
      rw [ulebBuffer, List.getLast?_concat, splitUleb]
      simp only [ne_eq, and_80_aux _ b.toNat_lt]
      by_cases hb : b.toNat < 128
      · rw [if_neg (fun h => h hb), if_pos hb]; simp [ulebOut]
      · rw [if_pos hb, if_neg hb]
        simp [byteAt, drop_nil_inv hd, splitUleb, ulebOut, bind, Except.bind]
  | cons b' bs ih =>
    intro b pre fuel pos hd hf
    cases fuel with
    | zero => omega
    | succ fuel =>
      obtain ⟨hb', hd'⟩ := drop_cons_inv hd
      rw [ulebBuffer, List.getLast?_concat, splitUleb]
      simp only [ne_eq, and_80_aux _ b.toNat_lt]
      by_cases hb : b.toNat < 128
      · rw [if_neg (fun h => h hb), if_pos hb]; simp [ulebOut]
      · rw [if_pos hb, if_neg hb]
        simp only [byteAt, hb', bind, Except.bind]
        rw [ih b' (pre ++ [b.toNat]) fuel (pos + 1) hd' (by simpa using hf)]
        cases hs : splitUleb (b' :: bs) with
        | none => simp [ulebOut]
        | some p =>
          obtain ⟨u, r⟩ := p
          simp only [ulebOut, Option.map_some, List.map_cons, List.length_cons, List.append_assoc,
            List.singleton_append]
          congr 2
          omega

theorem uleb_fold (u : Bytes) :
    (u.map (·.toNat)).reverse.foldl (fun v b => (v <<< 7) + (b &&& 0x7F)) 0 = ulebVal u := by
  induction u with
  | nil => rfl
  | cons b u ih =>
    rw [List.map_cons, List.reverse_cons, List.foldl_append, ih]
    simp only [List.foldl_cons, List.foldl_nil, ulebVal, and_7F, Nat.shiftLeft_eq]
    omega

theorem render_vspAdd (n : Nat) : render (.vspAdd n) = "vsp = vsp + " ++ toString n := rfl
theorem render_vspSub (n : Nat) : render (.vspSub n) = "vsp = vsp - " ++ toString n := rfl
theorem render_vspReg (r : Nat) : render (.vspReg r) = "vsp = r" ++ toString r := rfl

/-- the spec's reading of the next instruction, as the model's handler must return it -/
def conv (idx : Nat) : Option (Bytes × Insn × Bytes) → R (String × Nat)
  | some (ib, insn, _) => .ok (render insn, idx + ib.length)
  | none => .error .indexError

theorem byteAt_of_drop {arr : Bytes} {idx : Nat} {b : UInt8} {t : Bytes} (h : arr.drop idx = b :: t) :
    byteAt arr idx = .ok b.toNat := by
  unfold byteAt; rw [(drop_cons_inv h).1]

theorem byteAt_of_drop_nil {arr : Bytes} {idx : Nat} (h : arr.drop idx = []) :
    byteAt arr idx = .error .indexError := by
  unfold byteAt; rw [drop_nil_inv h]

theorem byteAt1_nil {arr : Bytes} {idx : Nat} {op : UInt8} (h : arr.drop idx = [op]) :
    byteAt arr (idx + 1) = .error .indexError := byteAt_of_drop_nil (drop_cons_inv h).2

theorem byteAt1_cons {arr : Bytes} {idx : Nat} {op b : UInt8} {r : Bytes} (h : arr.drop idx = op :: b :: r) :
    byteAt arr (idx + 1) = .ok b.toNat := byteAt_of_drop (drop_cons_inv h).2

theorem fact_sssscccc : ∀ b < 256, (b &&& 0xf0) >>> 4 = b / 16 ∧ (b &&& 0x0f) >>> 0 = b % 16 := by
  decide +kernel

theorem popD_nil {arr : Bytes} {idx : Nat} {op : UInt8} (h : arr.drop idx = [op]) (base : Nat) (pfx : String) :
    popD arr idx base pfx = .error .indexError := by
  unfold popD; rw [byteAt1_nil h]; rfl

theorem popD_cons {arr : Bytes} {idx : Nat} {op b : UInt8} {r : Bytes} (h : arr.drop idx = op :: b :: r)
    (base : Nat) (pfx : String) :
    popD arr idx base pfx
      = .ok (render (.popRegs pfx (regsRange (base + b.toNat / 16) (b.toNat % 16))), idx + 2) := by
  obtain ⟨e1, e2⟩ := fact_sssscccc _ b.toNat_lt
  unfold popD; rw [byteAt1_cons h]
  simp only [bind, Except.bind, pure, Except.pure, printRegisters, e1, e2, hits_calculateRange]
  rfl

theorem fact_1000iiii (a b : Nat) (ha : a < 16) (hb : b < 256) :
    (((b <<< 4) ||| (a <<< 12) = 0) = (a * 256 + b = 0)) ∧
      gprGood ((b <<< 4) ||| (a <<< 12)) (regsMask (a * 256 + b) 4 12) = true := by
  have e : (b <<< 4) ||| (a <<< 12) = (a * 256 + b) <<< 4 := by
    rw [or_shl_eq_add _ (by rw [Nat.shiftLeft_eq]; omega), Nat.shiftLeft_eq, Nat.shiftLeft_eq]; omega
  rw [e]
  constructor
  · rw [Nat.shiftLeft_eq]; apply propext; omega
  · have hm : (a * 256 + b) % 2 ^ 12 = a * 256 + b := Nat.mod_eq_of_lt (by omega)
    refine gprGood_iff.2 ⟨?_, fun x hx => by have := mem_regsMask hx; omega⟩
    rw [← hm, hits_shl_mask _ 4 12 (by decide), hm]

theorem fact_10100nnn (o : Nat) : gprGood (calculateRange 4 (o &&& 0x07)) (regsRange 4 (o % 8)) = true := by
  rw [and_7, gprGood_iff]
  exact ⟨hits_calculateRange 4 _, fun x hx => by have := mem_regsRange hx; omega⟩

theorem fact_10101nnn_aux : ∀ n < 8,
    gprGood (calculateRange 4 n ||| (1 <<< 14)) (regsRange 4 n ++ [14]) = true := by decide +kernel

theorem fact_10101nnn (o : Nat) :
    gprGood (calculateRange 4 (o &&& 0x07) ||| (1 <<< 14)) (regsRange 4 (o % 8) ++ [14]) = true := by
  rw [and_7]; exact fact_10101nnn_aux _ (Nat.mod_lt _ (by decide))

theorem fact_0000iiii_spare : ∀ b < 256, ((b &&& 0xf0) ≠ 0 ∨ b = 0x00) ↔ (b = 0 ∨ 16 ≤ b) := by decide +kernel

theorem hits_0000iiii (b : Nat) : hits (b &&& 0x0f) = regsMask b 0 4 := by
  rw [and_f, ← hits_shl_mask b 0 4 (by decide)]; rfl

theorem fact_10110001 (b : Nat) : gprGood (b &&& 0x0f) (regsMask b 0 4) = true :=
  gprGood_iff.2 ⟨hits_0000iiii b, fun x hx => by have := mem_regsMask hx; omega⟩

/-- the handler the ring selects for opcode `op` does what table 4 says: `cls` and the Spec's `step` test the opcode
    ranges in the same order, so it is one fact per row (`11001yyy` also catches what `step` leaves to its last row).
    The cases and the fields of `handler_eqs` bear the row's bit pattern. -/
theorem handler_step (arr : Bytes) (idx : Nat) (op : UInt8) (rest : Bytes)
    (hd : arr.drop idx = op :: rest) :
    handler (cls op.toNat) arr idx = conv idx (step (op :: rest)) := by
  have h0 : byteAt arr idx = .ok op.toNat := byteAt_of_drop hd
  have ho := op.toNat_lt
  have H := handler_eqs arr idx
  rw [step, cls]
  generalize op.toNat = o at *
  refine ite_par (handler · arr idx) (conv idx) Iff.rfl (fun _ => ?r00xxxxxx) fun _ =>
    ite_par (handler · arr idx) (conv idx) Iff.rfl (fun _ => ?r01xxxxxx) fun _ =>
    ite_par (handler · arr idx) (conv idx) Iff.rfl (fun _ => ?r1000iiii) fun _ =>
    ite_par (handler · arr idx) (conv idx) Iff.rfl (fun _ => ?r10011101) fun _ =>
    ite_par (handler · arr idx) (conv idx) Iff.rfl (fun _ => ?r10011111) fun _ =>
    ite_par (handler · arr idx) (conv idx) Iff.rfl (fun _ => ?r1001nnnn) fun _ =>
    ite_par (handler · arr idx) (conv idx) Iff.rfl (fun _ => ?r10100nnn) fun _ =>
    ite_par (handler · arr idx) (conv idx) Iff.rfl (fun _ => ?r10101nnn) fun _ =>
    ite_par (handler · arr idx) (conv idx) Iff.rfl (fun _ => ?r10110000) fun _ =>
    ite_par (handler · arr idx) (conv idx) Iff.rfl (fun _ => ?r10110001) fun _ =>
    ite_par (handler · arr idx) (conv idx) Iff.rfl (fun _ => ?r10110010) fun _ =>
    ite_par (handler · arr idx) (conv idx) Iff.rfl (fun _ => ?r10110011) fun _ =>
    ite_par (handler · arr idx) (conv idx) Iff.rfl (fun _ => ?r101101nn) fun _ =>
    ite_par (handler · arr idx) (conv idx) Iff.rfl (fun _ => ?r10111nnn) fun _ =>
    ite_par (handler · arr idx) (conv idx) Iff.rfl (fun _ => ?r11000nnn) fun _ =>
    ite_par (handler · arr idx) (conv idx) Iff.rfl (fun _ => ?r11000110) fun _ =>
    ite_par (handler · arr idx) (conv idx) Iff.rfl (fun _ => ?r11000111) fun _ =>
    ite_par (handler · arr idx) (conv idx) Iff.rfl (fun _ => ?r11001000) fun _ =>
    ite_par (handler · arr idx) (conv idx) Iff.rfl (fun _ => ?r11001001) fun _ =>
    ite_par (handler · arr idx) (conv idx) Iff.rfl (fun _ => ?r11001yyy) fun _ =>
    ite_par (handler · arr idx) (conv idx) Iff.rfl (fun _ => ?r11010nnn) fun _ => ?last
  case r00xxxxxx =>
    rw [H.r00xxxxxx, h0]
    simp only [bind, Except.bind, pure, Except.pure, conv, render_vspAdd, and_3f_shl o, List.length_singleton]
  case r01xxxxxx =>
    rw [H.r01xxxxxx, h0]
    simp only [bind, Except.bind, pure, Except.pure, conv, render_vspSub, and_3f_shl o, List.length_singleton]
  case r1000iiii =>
    rw [H.r1000iiii, h0]
    cases rest with
    | nil => rw [byteAt1_nil hd]; rfl
    | cons b r =>
      rw [byteAt1_cons hd]
      obtain ⟨e1, e2⟩ := fact_1000iiii (o % 16) b.toNat (by omega) b.toNat_lt
      simp only [bind, Except.bind, pure, Except.pure, conv, and_f o]
      by_cases hz : o % 16 * 256 + b.toNat = 0
      · rw [if_pos hz, if_pos (by rw [e1]; exact hz)]; rfl
      · rw [if_neg hz, if_neg (by rw [e1]; exact hz), printGPR_good e2]; rfl
  case r10011101 => rw [H.r10011101]; rfl
  case r10011111 => rw [H.r10011111]; rfl
  case r1001nnnn =>
    rw [H.r1001nnnn, h0]
    simp only [bind, Except.bind, pure, Except.pure, conv, render_vspReg, and_f o, List.length_singleton]
  case r10100nnn =>
    rw [H.r10100nnn, h0]
    simp only [bind, Except.bind, pure, Except.pure, printGPR_good (fact_10100nnn o)]
    rfl
  case r10101nnn =>
    rw [H.r10101nnn, h0]
    simp only [bind, Except.bind, pure, Except.pure, printGPR_good (fact_10101nnn o)]
    rfl
  case r10110000 => rw [H.r10110000]; rfl
  case r10110001 =>
    rw [H.r10110001]
    cases rest with
    | nil => rw [byteAt1_nil hd]; rfl
    | cons b r =>
      rw [byteAt1_cons hd]
      have e1 := fact_0000iiii_spare _ b.toNat_lt
      simp only [bind, Except.bind, pure, Except.pure, conv]
      by_cases hz : b.toNat = 0 ∨ 16 ≤ b.toNat
      · rw [if_pos hz, if_pos (e1.2 hz)]; rfl
      · rw [if_neg hz, if_neg (fun h => hz (e1.1 h)), printGPR_good (fact_10110001 _)]; rfl
  case r10110010 =>
    rw [H.r10110010]
    cases rest with
    | nil => rw [byteAt1_nil hd]; rfl
    | cons b bs =>
      rw [byteAt1_cons hd]
      have hd2 : arr.drop (idx + 2) = bs := (drop_cons_inv (drop_cons_inv hd).2).2
      have hl := length_of_drop hd2
      have hu := ulebBuffer_spec arr bs b [] (arr.length + 1) (idx + 2) hd2 (by omega)
      simp only [List.nil_append] at hu
      simp only [bind, Except.bind, pure, Except.pure, hu]
      cases hs : splitUleb (b :: bs) with
      | none => rfl
      | some p =>
        obtain ⟨u, r⟩ := p
        simp only [ulebOut, conv, render_vspAdd, List.nil_append, List.length_cons]
        rw [uleb_fold, Nat.shiftLeft_eq, show idx + 2 + u.length - 1 = idx + (u.length + 1) by omega]
  case r10110011 =>
    rw [H.r10110011]
    cases rest with
    | nil => rw [popD_nil hd]; rfl
    | cons b r => rw [popD_cons hd 0 "d", Nat.zero_add]; rfl
  case r101101nn => rw [H.r101101nn]; rfl
  case r10111nnn =>
    rw [H.r10111nnn, h0]
    simp only [bind, Except.bind, pure, Except.pure, printRegisters, and_7, hits_calculateRange]
    rfl
  case r11000nnn =>
    rw [H.r11000nnn, h0]
    simp only [bind, Except.bind, pure, Except.pure, printRegisters, and_7, hits_calculateRange]
    rfl
  case r11000110 =>
    rw [H.r11000110]
    cases rest with
    | nil => rw [popD_nil hd]; rfl
    | cons b r => rw [popD_cons hd 0 "wR", Nat.zero_add]; rfl
  case r11000111 =>
    rw [H.r11000111]
    cases rest with
    | nil => rw [byteAt1_nil hd]; rfl
    | cons b r =>
      rw [byteAt1_cons hd]
      have e1 := fact_0000iiii_spare _ b.toNat_lt
      simp only [bind, Except.bind, pure, Except.pure, conv, printRegisters, hits_0000iiii]
      by_cases hz : b.toNat = 0 ∨ 16 ≤ b.toNat
      · rw [if_pos hz, if_pos (e1.2 hz)]; rfl
      · rw [if_neg hz, if_neg (fun h => hz (e1.1 h))]; rfl
  case r11001000 =>
    rw [H.r11001000]
    cases rest with
    | nil => rw [popD_nil hd]; rfl
    | cons b r => rw [popD_cons hd 16 "d"]; rfl
  case r11001001 =>
    rw [H.r11001001]
    cases rest with
    | nil => rw [popD_nil hd]; rfl
    | cons b r => rw [popD_cons hd 0 "d", Nat.zero_add]; rfl
  case r11001yyy => rw [H.r11001yyy]; rfl
  case r11010nnn =>
    rw [H.r11010nnn, h0]
    simp only [bind, Except.bind, pure, Except.pure, printRegisters, and_7, hits_calculateRange]
    rfl
  case last =>
    split
    · rw [H.r11001yyy]; rfl
    · rw [H.r11xxxyyy]; rfl

def SplitsOff (l : Bytes) (x : Option (Bytes × Insn × Bytes)) : Prop :=
  ∀ ib insn r, x = some (ib, insn, r) → l = ib ++ r ∧ ib ≠ []

theorem splitsOff_ite {l : Bytes} {c : Prop} [Decidable c] {a b : Option (Bytes × Insn × Bytes)}
    (ha : SplitsOff l a) (hb : SplitsOff l b) : SplitsOff l (if c then a else b) := by
  by_cases h : c
  · rw [if_pos h]; exact ha
  · rw [if_neg h]; exact hb

/-- every row of `step` returns a non-empty prefix.  After `splitsOff_ite` there is one goal per row.  The first alternative
    closes the ULEB128 row 10110010, the only one that asks `splitUleb` (what it splits off is a prefix:
    `splitUleb_append`); the second closes all the others: `cases rest` decides the rows with one operand byte
    (`[op, b]`, or nothing when the array ends) and is idle on the rows without operand (`[op]`). -/
theorem step_good (op : UInt8) (rest : Bytes) : SplitsOff (op :: rest) (step (op :: rest)) := by
  rw [step]
  repeat' apply splitsOff_ite
  all_goals
    first
    | (intro ib insn r h
       cases hs : splitUleb rest with
       | none => rw [hs] at h; simp at h
       | some p =>
         obtain ⟨u, r0⟩ := p
         rw [hs] at h
         simp only [Option.some.injEq, Prod.mk.injEq] at h
         obtain ⟨rfl, _, rfl⟩ := h
         simp [(splitUleb_append _ _ _ hs).1])
    | (intro ib insn r h
       cases rest <;> simp only [Option.some.injEq, Prod.mk.injEq, reduceCtorEq] at h <;>
         (obtain ⟨rfl, _, rfl⟩ := h; simp))

theorem step_some {l ib : Bytes} {insn : Insn} {r : Bytes} (h : step l = some (ib, insn, r)) :
    l = ib ++ r ∧ ib ≠ [] := by
  cases l with
  | nil => simp [step] at h
  | cons op rest => exact step_good op rest ib insn r h

theorem decodeFuel_nil (f : Nat) : decodeFuel f [] = some [] := by cases f <;> rfl

theorem decodeFuel_cons_none {f : Nat} {b : UInt8} {t : Bytes} (hs : step (b :: t) = none) :
    decodeFuel (f + 1) (b :: t) = none := by
  rw [decodeFuel, hs]; simp

theorem decodeFuel_cons_some {f : Nat} {b : UInt8} {t ib rest : Bytes} {i : Insn}
    (hs : step (b :: t) = some (ib, i, rest)) :
    decodeFuel (f + 1) (b :: t) = (decodeFuel f rest).map ((ib, i) :: ·) := by
  rw [decodeFuel, hs]; simp

theorem decodeFuel_stable : ∀ (f1 f2 : Nat) (bs : Bytes), bs.length ≤ f1 → bs.length ≤ f2 →
    decodeFuel f1 bs = decodeFuel f2 bs := by
  intro f1
  induction f1 with
  | zero =>
    intro f2 bs h1 _
    have : bs = [] := List.eq_nil_of_length_eq_zero (by omega)
    subst this; rw [decodeFuel_nil, decodeFuel_nil]
  | succ f1 ih =>
    intro f2 bs h1 h2
    cases bs with
    | nil => rw [decodeFuel_nil, decodeFuel_nil]
    | cons b t =>
      cases f2 with
      | zero => simp at h2
      | succ f2 =>
        cases hs : step (b :: t) with
        | none => rw [decodeFuel_cons_none hs, decodeFuel_cons_none hs]
        | some p =>
          obtain ⟨ib, i, rest⟩ := p
          obtain ⟨happ, hne⟩ := step_some hs
          have hl : rest.length < (b :: t).length := by
            have : 0 < ib.length := List.length_pos_iff.2 hne
            rw [happ, List.length_append]; omega
          rw [decodeFuel_cons_some hs, decodeFuel_cons_some hs, ih f2 rest (by omega) (by omega)]

theorem decode_of_step_none {b : UInt8} {t : Bytes} (hs : step (b :: t) = none) :
    Spec.Ehabi.decode (b :: t) = none := by
  unfold Spec.Ehabi.decode
  rw [List.length_cons, decodeFuel_cons_none hs]

theorem decode_of_step_some {b : UInt8} {t ib rest : Bytes} {i : Insn}
    (hs : step (b :: t) = some (ib, i, rest)) :
    Spec.Ehabi.decode (b :: t) = (Spec.Ehabi.decode rest).map ((ib, i) :: ·) := by
  obtain ⟨happ, hne⟩ := step_some hs
  have hl : rest.length < (b :: t).length := by
    have : 0 < ib.length := List.length_pos_iff.2 hne
    rw [happ, List.length_append]; omega
  unfold Spec.Ehabi.decode
  rw [List.length_cons, decodeFuel_cons_some hs]
  rw [decodeFuel_stable t.length rest.length rest (by simp at hl; omega) (Nat.le_refl _)]

def outR (acc : List (Bytes × String)) : Option (List (Bytes × Insn)) → R (List (Bytes × String))
  | some l => .ok (acc.reverse ++ l.map fun (b, i) => (b, render i))
  | none => .error .indexError

theorem decodeLoop_spec (arr : Bytes) : ∀ (fuel idx : Nat) (acc : List (Bytes × String)),
    idx ≤ arr.length → arr.length + 1 ≤ fuel + idx →
    decodeLoop Gen.ehabiRing arr fuel idx acc = outR acc (Spec.Ehabi.decode (arr.drop idx)) := by
  intro fuel
  induction fuel with
  | zero => intro idx acc h1 h2; omega
  | succ fuel ih =>
    intro idx acc h1 h2
    rw [decodeLoop]
    by_cases hlt : idx < arr.length
    · rw [if_pos hlt]
      cases hd : arr.drop idx with
      | nil => have := length_of_drop hd; simp at this; omega
      | cons op rest =>
        have hlen := length_of_drop hd
        rw [byteAt_of_drop hd]
        simp only [bind, Except.bind]
        rw [findHandler_cls _ op.toNat_lt]
        simp only
        rw [handler_step arr idx op rest hd]
        cases hs : step (op :: rest) with
        | none => rw [decode_of_step_none hs]; rfl
        | some p =>
          obtain ⟨ib, insn, rest'⟩ := p
          obtain ⟨happ, hne⟩ := step_some hs
          have hpos : 0 < ib.length := List.length_pos_iff.2 hne
          have hd' : arr.drop idx = ib ++ rest' := hd.trans happ
          have hdrop : arr.drop (idx + ib.length) = rest' := drop_add_of_drop hd'
          have htake : (op :: rest).take (idx + ib.length - idx) = ib := by
            rw [happ, Nat.add_sub_cancel_left]; simp
          have hlen' : arr.length - idx = ib.length + rest'.length := by
            rw [length_of_drop hd', List.length_append]
          simp only [conv]
          rw [htake, ih (idx + ib.length) _ (by omega) (by omega), hdrop, decode_of_step_some hs]
          cases Spec.Ehabi.decode rest' with
          | none => rfl
          | some l => simp [outR]
    · rw [if_neg hlt]
      have : arr.drop idx = [] := List.drop_eq_nil_of_le (by omega)
      rw [this]
      simp [Spec.Ehabi.decode, decodeFuel, outR]

end EhabiBytecode

open EhabiBytecode in
theorem decode_eq_std (arr : Bytes) :
    Model.Ehabi.decode Gen.ehabiRing arr
      = (match Spec.Ehabi.ehabiStd arr with
         | some l => .ok l
         | none => .error .indexError) := by
  unfold Model.Ehabi.decode
  rw [decodeLoop_spec arr (arr.length + 1) 0 [] (Nat.zero_le _) (by omega), List.drop_zero]
  unfold ehabiStd
  cases Spec.Ehabi.decode arr with
  | none => rfl
  | some l => simp [outR]

end PyElf.Proofs
