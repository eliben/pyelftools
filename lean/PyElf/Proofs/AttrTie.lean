/-
  The regenerated enum environment decodes attribute tags exactly as the Spec's tag tables name them, given that the
  regenerated tables of the two tag enums are the Spec's (`genEnumDecode_tags`).
-/
import PyElf.Model.Env
import PyElf.Spec.Attributes
import PyElf.Proofs.Utils
import PyElf.Proofs.Attrs
namespace PyElf.Proofs
open PyElf

theorem foldl_decode_eq_nameIn (tbl : List (String × Int)) (t : Nat) (init : Option String) :
    tbl.foldl (fun acc (p : String × Int) => if p.2 = (t : Int) then some p.1 else acc) init
      = (match Spec.Attr.nameIn tbl t with
         | some k => some k
         | none => init) := by
  induction tbl generalizing init with
  | nil => rfl
  | cons p rest ih =>
    obtain ⟨k, x⟩ := p
    rw [List.foldl_cons, ih, Spec.Attr.nameIn]
    cases Spec.Attr.nameIn rest t with
    | some k' => rfl
    | none => by_cases h : x = (t : Int) <;> simp [h]

theorem decodeIn_eq_nameIn (tbl : List (String × Int)) (t : Nat) :
    Model.decodeIn tbl (t : Int) = Spec.Attr.nameIn tbl t := by
  have := foldl_decode_eq_nameIn tbl t none
  unfold Model.decodeIn
  rw [show (fun acc (x : String × Int) => match x with | (k, x) => if x = (t : Int) then some k else acc)
        = (fun acc (p : String × Int) => if p.2 = (t : Int) then some p.1 else acc) from rfl, this]
  cases Spec.Attr.nameIn tbl t <;> rfl

theorem genEnumDecode_of_table {tid : String} {tbl : List (String × Int)}
    (h : (Gen.tables.find? (·.1 == tid)).map (·.2.1) = some tbl) (t : Nat) :
    Model.genEnumDecode tid (t : Int) = Spec.Attr.nameIn tbl t := by
  unfold Model.genEnumDecode
  cases hf : Gen.tables.find? (·.1 == tid) with
  | none => simp [hf] at h
  | some x =>
    obtain ⟨a, b, c⟩ := x
    simp [hf] at h
    subst h
    exact decodeIn_eq_nameIn b t

theorem genEnumDecode_tags
    (harm : (Gen.tables.find? (·.1 == "ENUM_ATTR_TAG_ARM")).map (·.2.1) = some Spec.Attr.armTags)
    (hrv : (Gen.tables.find? (·.1 == "ENUM_ATTR_TAG_RISCV")).map (·.2.1) = some Spec.Attr.riscvTags)
    (arch : Spec.Attr.Arch) (t : Nat) :
    Model.elfEnv.enumDecode (tagTableId arch) (t : Int) = Spec.Attr.tagName arch t := by
  rw [Engine.elfEnv_enumDecode]
  cases arch
  · exact genEnumDecode_of_table harm t
  · exact genEnumDecode_of_table hrv t

end PyElf.Proofs
