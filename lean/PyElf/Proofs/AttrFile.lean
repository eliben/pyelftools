/-
  C20 over whole files, build attributes: composition of C01's theorems (Proofs/ElfView.lean) about opening a byte
  string that carries an abstract ELF description (`Layout d bytes`) with the attribute walk (Proofs/Attrs.lean).
-/
import PyElf.Model.AttrFile
import PyElf.Spec.C20File
import PyElf.Proofs.ElfView
import PyElf.Proofs.Attrs
import PyElf.Proofs.C20Sec
namespace PyElf.Proofs.C20
open PyElf PyElf.Spec PyElf.Spec.C20 PyElf.Model PyElf.Model.C20 PyElf.Proofs
open PyElf.Proofs.C15 (fileOf)

theorem kindOf_attr (arch : Spec.Attr.Arch) (name : Bytes) :
    kindOf (.str (attrTypeName arch)) name = attrKindName arch := by
  cases arch <;> rfl

theorem archOfKind_attr (arch : Spec.Attr.Arch) : archOfKind (attrKindName arch) = some arch := by
  cases arch <;> rfl

theorem dataSize_plain {env : Env} {S : ElfStructs} {data : Bytes} {sh : Val} {flags size : Nat}
    (h1 : sh.getNat "sh_flags" = .ok flags) (h2 : sh.getNat "sh_size" = .ok size) (hz : flags &&& 0x800 = 0) :
    dataSize env S data sh = .ok size := by
  unfold dataSize
  simp only [h1, bind, Except.bind, hz]
  simpa using h2

structure AttrSecFacts (arch : Spec.Attr.Arch) (d : ElfDesc) (sd : SecDesc) (sec : Spec.Attr.Section) : Prop where
  mclass : d.mclass = mclassOf arch
  ty : Fields.get? sd.hdr "sh_type" = some (.int 0x70000003)
  plain : getNatD sd.hdr "sh_flags" &&& 0x800 = 0
  wf : Spec.Attr.sectionWf arch d.le sec = true
  body : sd.body = some (Spec.Attr.encSection d.le sec)
  size : getNatD sd.hdr "sh_size" = (Spec.Attr.encSection d.le sec).length

theorem attrSecAt_unpack {arch : Spec.Attr.Arch} {d : ElfDesc} {i : Nat} {sec : Spec.Attr.Section}
    (h : attrSecAt arch d i sec = true) : ∃ sd, d.sections[i]? = some sd ∧ AttrSecFacts arch d sd sec := by
  unfold attrSecAt at h
  cases hs : d.sections[i]? with
  | none => simp [hs] at h
  | some sd =>
    simp only [hs, Bool.and_eq_true, beq_iff_eq] at h
    obtain ⟨⟨⟨⟨⟨h1, h2⟩, h3⟩, h4⟩, h5⟩, h6⟩ := h
    exact ⟨sd, rfl, h1, rawIs_true h2, h3, h4, body_beq_true h5, h6⟩

theorem fileAttrSection_reduce {env : Env} (he : EnvC20 env) {arch : Spec.Attr.Arch}
    {d : ElfDesc} {bytes : Bytes}
    (hwf : d.wfZ env = true) (hl : Layout d bytes)
    {i : Nat} {sd : SecDesc} (hsd : d.sections[i]? = some sd)
    (hm : d.mclass = mclassOf arch) (hty : Fields.get? sd.hdr "sh_type" = some (.int 0x70000003))
    (hplain : getNatD sd.hdr "sh_flags" &&& 0x800 = 0) :
    fileAttrSection env specSF specMC bytes i
      = (Model.Attr.attributesSection arch env (elfStructs d.cfg) bytes (getNatD sd.hdr "sh_offset")
          (getNatD sd.hdr "sh_size")).map fun t => (attrKindName arch, t) := by
  obtain ⟨hdr, st, X, -, hopen⟩ := opened hwf hl
  obtain ⟨sh, V⟩ := X.secAt hsd
  have hget := V.get_named hty (hm ▸ he.attr arch)
  unfold fileAttrSection attrTreeOf
  simp only [hopen, fileOf, bind, Except.bind, hget, kindOf_attr, archOfKind_attr, V.offset,
    dataSize_plain V.flags V.size hplain]
  rw [show d.S = elfStructs d.cfg from rfl]
  cases Model.Attr.attributesSection arch env (elfStructs d.cfg) bytes (getNatD sd.hdr "sh_offset")
    (getNatD sd.hdr "sh_size") <;> rfl

theorem fileAttrSection_ok {env : Env} (he : EnvC20 env) {arch : Spec.Attr.Arch}
    (htags : ∀ t : Nat, env.enumDecode (tagTableId arch) (t : Int) = Spec.Attr.tagName arch t)
    {d : ElfDesc} {bytes : Bytes}
    (hwf : d.wfZ env = true) (hl : Layout d bytes)
    {i : Nat} {sd : SecDesc} (hsd : d.sections[i]? = some sd) {sec : Spec.Attr.Section}
    (F : AttrSecFacts arch d sd sec) :
    fileAttrSection env specSF specMC bytes i = .ok (attrKindName arch, Spec.Attr.obsSection arch d.le sec) := by
  rw [fileAttrSection_reduce he hwf hl hsd F.mclass F.ty F.plain, F.size]
  exact congrArg (Except.map _) (attrs_roundtrip_at arch env d.cfg sec bytes _ _ htags F.wf
    (body_drop hl (List.mem_of_getElem? hsd) F.body))

theorem fileAttrSection_error {env : Env} (he : EnvC20 env) {arch : Spec.Attr.Arch} {d : ElfDesc} {bytes : Bytes}
    (hwf : d.wfZ env = true) (hl : Layout d bytes) {i : Nat} {sd : SecDesc} (hsd : d.sections[i]? = some sd)
    (hm : d.mclass = mclassOf arch) (hty : Fields.get? sd.hdr "sh_type" = some (.int 0x70000003))
    (hplain : getNatD sd.hdr "sh_flags" &&& 0x800 = 0) {e : Err}
    (h : Model.Attr.attributesSection arch env (elfStructs d.cfg) bytes (getNatD sd.hdr "sh_offset")
      (getNatD sd.hdr "sh_size") = .error e) :
    fileAttrSection env specSF specMC bytes i = .error e := by
  rw [fileAttrSection_reduce he hwf hl hsd hm hty hplain, h]
  rfl

theorem fileAttrSectionByName_eq {env : Env} {d : ElfDesc} {bytes : Bytes} {obs : ElfObs}
    (hwf : d.wfZ env = true) (hl : Layout d bytes) (ho : d.observe env = .ok obs) (name : Bytes) :
    fileAttrSectionByName env specSF specMC bytes name =
      match d.indexOfName name with
      | none => .ok none
      | some i => (fileAttrSection env specSF specMC bytes i).map some := by
  obtain ⟨st, X, hopen⟩ := opened_obs hwf hl ho
  -- `Setup.byName` with, for `G`, what `get_section(i)` and the walk make of the opened file
  have hb := X.byName ho name fun i => do
    let r ← getSection env d.S bytes obs.header st i
    return (r.1, ← attrTreeOf env ⟨bytes, d.cls, d.le, d.S, obs.header, st⟩ r.1 r.2.2)
  unfold fileAttrSectionByName fileAttrSection
  simp only [hopen, fileOf, Engine.ok_bind]
  refine Eq.trans ?_ hb
  simp only [bind_assoc, pure_bind]
  rfl

end PyElf.Proofs.C20
