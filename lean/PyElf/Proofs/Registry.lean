/-
  C17: the search tree is a faithful representation of its association list, and the Bool checks the kernel
  evaluates imply the Prop-level statements of Spec/RegistryTree.lean.  What the kernel runs is cheaper than those
  mirrors: `decodesWalk` is `decodesStdB` with its repeated pass computed once (proved equal to it); `reverseWalkB`
  tries a linear walk of its own first (`sublistCoverB`, sound by itself) and falls back on `reverseConsistentB`.
-/
import PyElf.Spec.RegistryTree
import PyElf.Proofs.ListFacts
namespace PyElf.Proofs.Registry
open PyElf.Spec

theorem alookup_append (A B : List (Nat × List Int)) (q : Nat) :
    alookup (A ++ B) q = match alookup A q with | some x => some x | none => alookup B q := by
  induction A with
  | nil => simp [alookup]
  | cons a A ih =>
    obtain ⟨k, vs⟩ := a
    simp only [List.cons_append, alookup]
    by_cases h : q = k
    · simp [h]
    · simp [h, ih]

theorem bounded_node {lo hi k : Nat} {l r : RTree} {n : String} {vs : List Int}
    (h : (RTree.node l k n vs r).bounded lo hi = true) :
    lo ≤ k ∧ k < hi ∧ l.bounded lo k = true ∧ r.bounded (k + 1) hi = true := by
  simp only [RTree.bounded, Bool.and_eq_true] at h
  obtain ⟨h1, h2, h3, h4⟩ := h
  exact ⟨Nat.le_of_ble_eq_true h1, by simpa [Nat.blt_eq] using h2, h3, h4⟩

theorem bounded_notin : ∀ (t : RTree) (lo hi q : Nat), t.bounded lo hi = true → (q < lo ∨ hi ≤ q) →
    alookup t.toList q = none
  | .leaf, _, _, _, _, _ => by simp [RTree.toList, alookup]
  | .node l k n vs r, lo, hi, q, h, hq => by
    obtain ⟨h1, h2, h3, h4⟩ := bounded_node h
    have hl := bounded_notin l lo k q h3 (by omega)
    have hr := bounded_notin r (k + 1) hi q h4 (by omega)
    have hne : q ≠ k := by omega
    simp [RTree.toList, alookup_append, hl, alookup, hne, hr]

theorem lookup_eq : ∀ (t : RTree) (lo hi : Nat), t.bounded lo hi = true → ∀ q, t.lookup q = alookup t.toList q
  | .leaf, _, _, _, _ => by simp [RTree.lookup, RTree.toList, alookup]
  | .node l k n vs r, lo, hi, h, q => by
    obtain ⟨h1, h2, h3, h4⟩ := bounded_node h
    have ihl := lookup_eq l lo k h3 q
    have ihr := lookup_eq r (k + 1) hi h4 q
    simp only [RTree.lookup, RTree.toList, alookup_append, alookup]
    by_cases hlt : q < k
    · have hb : Nat.blt q k = true := by simpa [Nat.blt_eq] using hlt
      have hr := bounded_notin r (k + 1) hi q h4 (by omega)
      have hne : q ≠ k := by omega
      simp only [hb, ihl, hne, if_false, hr]
      cases alookup l.toList q <;> rfl
    · have hb : Nat.blt q k = false := Bool.eq_false_iff.2 fun hc => hlt (by simpa [Nat.blt_eq] using hc)
      have hl := bounded_notin l lo k q h3 (by omega)
      simp only [hb, hl]
      by_cases hgt : k < q
      · have hb2 : Nat.blt k q = true := by simpa [Nat.blt_eq] using hgt
        have hne : q ≠ k := by omega
        simp only [hb2, ihr, hne, if_false]
      · have hb2 : Nat.blt k q = false := Bool.eq_false_iff.2 fun hc => hgt (by simpa [Nat.blt_eq] using hc)
        have he : q = k := by omega
        subst he
        simp only [hb2, if_true]

theorem memInt_true {v : Int} : ∀ {l : List Int}, memInt v l = true → v ∈ l
  | [], h => by simp [memInt] at h
  | x :: xs, h => by
    simp only [memInt] at h
    by_cases hx : x = v
    · simp [hx]
    · simp only [hx, decide_false] at h
      exact List.mem_cons_of_mem _ (memInt_true h)

theorem memPair_true {k : Nat} {v : Int} : ∀ {l : List (Nat × Int)}, memPair k v l = true → (k, v) ∈ l
  | [], h => by simp [memPair] at h
  | (k', v') :: xs, h => by
    simp only [memPair] at h
    by_cases hk : Nat.beq k k' = true
    · by_cases hv : v' = v
      · have : k = k' := Nat.eq_of_beq_eq_true hk
        simp [this, hv]
      · have hd : decide (v' = v) = false := by simp [hv]
        rw [hk, hd] at h
        exact List.mem_cons_of_mem _ (memPair_true h)
    · rw [Bool.eq_false_iff.2 hk] at h
      exact List.mem_cons_of_mem _ (memPair_true h)

theorem conformsB_sound {t : RTree} {lo hi : Nat} (ht : t.bounded lo hi = true) :
    ∀ {T : List (Nat × Int)}, conformsB t T = true → Conforms t.toList T
  | [], _ => by intro k v hm; simp at hm
  | (k0, v0) :: rest, h => by
    intro k v hm vs hl
    simp only [conformsB] at h
    rcases List.mem_cons.mp hm with he | hm'
    · obtain ⟨hk, hv⟩ := Prod.mk.inj he
      subst hk; subst hv
      rw [lookup_eq t lo hi ht, hl] at h
      simp only at h
      cases hmem : memInt v vs with
      | true => exact memInt_true hmem
      | false => rw [hmem] at h; simp at h
    · have hrest : conformsB t rest = true := by
        cases hlk : t.lookup k0 with
        | none => rw [hlk] at h; exact h
        | some vs0 =>
          rw [hlk] at h
          simp only at h
          cases hm0 : memInt v0 vs0 with
          | true => rw [hm0] at h; exact h
          | false => rw [hm0] at h; simp at h
      exact conformsB_sound ht hrest k v hm' vs hl

theorem hasValue_true {v : Int} : ∀ {l : List (Nat × Int)}, hasValue v l = true → ∃ k, (k, v) ∈ l
  | [], h => by simp [hasValue] at h
  | (k, x) :: xs, h => by
    simp only [hasValue] at h
    by_cases hx : x = v
    · exact ⟨k, by simp [hx]⟩
    · have hd : decide (x = v) = false := by simp [hx]
      rw [hd] at h
      obtain ⟨k', hk'⟩ := hasValue_true h
      exact ⟨k', List.mem_cons_of_mem _ hk'⟩

theorem hasValue_eq_false {v : Int} : ∀ {l : List (Nat × Int)}, (∀ e ∈ l, e.2 ≠ v) → hasValue v l = false
  | [], _ => rfl
  | (_, x) :: l, h => by
    have hd : decide (x = v) = false := decide_eq_false (h _ List.mem_cons_self)
    simp only [hasValue, hd]
    exact hasValue_eq_false fun e he => h e (List.mem_cons_of_mem _ he)

theorem decodeKey_split {T : List (Nat × Int)} {v : Int} {k' : Nat} (h : decodeKey T v = some k') :
    ∃ A B, T = A ++ (k', v) :: B ∧ hasValue v B = false := by
  obtain ⟨A, ⟨k, x⟩, B, hT, hx, hk, hB⟩ :=
    Engine.foldl_last_none (fun e : Nat × Int => e.2) (fun e => e.1) (T := T) (v := v) h
  exact ⟨A, B, by rw [hT, ← hx, ← hk], hasValue_eq_false hB⟩

theorem decodeKey_mem {T : List (Nat × Int)} {v : Int} {k' : Nat} (h : decodeKey T v = some k') : (k', v) ∈ T := by
  obtain ⟨A, B, hT, _⟩ := decodeKey_split h
  simp [hT]

/-- consequence of conformance alone: a reported name that the registry defines has the code as (one of) its
    registry value(s) — "a code found in a file is reported under its standard name" -/
theorem decode_reports_standard_name {R : List (Nat × List Int)} {T : List (Nat × Int)} (hc : Conforms R T)
    {v : Int} {k' : Nat} (h : decodeKey T v = some k') {vs : List Int} (hl : alookup R k' = some vs) : v ∈ vs :=
  hc k' v (decodeKey_mem h) vs hl

theorem anyKnown_false {t : RTree} {v : Int} : ∀ {T : List (Nat × Int)}, anyKnown t v T = false →
    ∀ k, (k, v) ∈ T → t.lookup k = none
  | [], _, k, hm => by simp at hm
  | (k0, x) :: rest, h, k, hm => by
    simp only [anyKnown] at h
    by_cases hx : x = v
    · have hd : decide (x = v) = true := by simp [hx]
      rw [hd] at h
      simp only at h
      cases hl : t.lookup k0 with
      | some vs => rw [hl] at h; simp at h
      | none =>
        rw [hl] at h
        simp only at h
        rcases List.mem_cons.mp hm with he | hm'
        · obtain ⟨hk, _⟩ := Prod.mk.inj he
          rw [hk]; exact hl
        · exact anyKnown_false h k hm'
    · have hd : decide (x = v) = false := by simp [hx]
      rw [hd] at h
      simp only at h
      rcases List.mem_cons.mp hm with he | hm'
      · obtain ⟨_, hv⟩ := Prod.mk.inj he
        exact absurd hv.symm hx
      · exact anyKnown_false h k hm'

theorem decodesStdB_last {t : RTree} {exc T : List (Nat × Int)} {k' : Nat} {v : Int} {B : List (Nat × Int)}
    (hB : hasValue v B = false) : ∀ (A : List (Nat × Int)),
    decodesStdB t exc T (A ++ (k', v) :: B) = true → okLast t exc T k' v = true
  | [], h => by
    simp only [List.nil_append, decodesStdB] at h
    unfold okLast
    cases hl : t.lookup k' with
    | some vs =>
      rw [hl] at h
      simp only [hB, Bool.or_false] at h ⊢
      cases hm : memInt v vs with
      | true => rfl
      | false => rw [hm] at h; simp at h
    | none =>
      rw [hl] at h
      simp only [hB, Bool.false_or] at h ⊢
      cases hm : (memPair k' v exc || !anyKnown t v T) with
      | true => rfl
      | false => rw [hm] at h; simp at h
  | (k0, v0) :: A, h => by
    simp only [List.cons_append, decodesStdB] at h
    apply decodesStdB_last hB A
    split at h
    · exact h
    · simp at h

theorem decodesStdB_sound {t : RTree} {lo hi : Nat} (ht : t.bounded lo hi = true) {exc T : List (Nat × Int)}
    (h : decodesStdB t exc T T = true) : DecodesStd t.toList exc T := by
  intro k' v hdec ⟨k, vs, hmem, hl⟩
  obtain ⟨A, B, hT, hB⟩ := decodeKey_split hdec
  -- only the walked list is split; the table the walk consults stays `T`
  have hok : okLast t exc T k' v = true := decodesStdB_last hB A (by rw [← hT]; exact h)
  unfold okLast at hok
  cases hlk : t.lookup k' with
  | some vs' =>
    rw [hlk] at hok
    left
    exact ⟨vs', by rw [← lookup_eq t lo hi ht]; exact hlk, memInt_true hok⟩
  | none =>
    rw [hlk] at hok
    simp only [Bool.or_eq_true, Bool.not_eq_true'] at hok
    rcases hok with hp | hn
    · right
      exact ⟨memPair_true hp, by rw [← lookup_eq t lo hi ht]; exact hlk⟩
    · have := anyKnown_false hn k hmem
      rw [lookup_eq t lo hi ht, hl] at this
      cases this

def knownVals (t : RTree) : List (Nat × Int) → List Int
  | [] => []
  | (k, v) :: rest => match t.lookup k with | some _ => v :: knownVals t rest | none => knownVals t rest

theorem anyKnown_eq (t : RTree) (v : Int) : ∀ T : List (Nat × Int), anyKnown t v T = memInt v (knownVals t T)
  | [] => rfl
  | (k, x) :: rest => by
    simp only [anyKnown, knownVals]
    cases t.lookup k with
    | none => cases decide (x = v) <;> exact anyKnown_eq t v rest
    | some vs => simp only [memInt]; cases decide (x = v) <;> simp [anyKnown_eq t v rest]

/-- `decodesStdB` with the walk `anyKnown t v T` (one pass over `T` for every name the registries do not know)
    replaced by a lookup in the list `kv = knownVals t T`, computed once -/
def decodesWalk (t : RTree) (exc : List (Nat × Int)) (kv : List Int) : List (Nat × Int) → Bool
  | [] => true
  | (k', v) :: rest =>
    match (match t.lookup k' with
           | some vs => memInt v vs || hasValue v rest
           | none => memPair k' v exc || (!(memInt v kv) || hasValue v rest)) with
    | true => decodesWalk t exc kv rest
    | false => false

theorem decodesWalk_eq (t : RTree) (exc T : List (Nat × Int)) :
    ∀ S, decodesWalk t exc (knownVals t T) S = decodesStdB t exc T S
  | [] => rfl
  | (k', v) :: rest => by
    simp only [decodesWalk, decodesStdB, anyKnown_eq, decodesWalk_eq t exc T rest,
      Bool.or_comm (!memInt v (knownVals t T))]
    rfl

theorem decodesWalk_sound {t : RTree} {lo hi : Nat} (ht : t.bounded lo hi = true) {exc T : List (Nat × Int)}
    (h : decodesWalk t exc (knownVals t T) T = true) : DecodesStd t.toList exc T :=
  decodesStdB_sound ht (by rw [← decodesWalk_eq]; exact h)

theorem listEqB_eq : ∀ {a b : List (Nat × Int)}, listEqB a b = true → a = b
  | [], [], _ => rfl
  | [], _ :: _, h => by simp [listEqB] at h
  | _ :: _, [], h => by simp [listEqB] at h
  | (k, v) :: a, (k', v') :: b, h => by
    simp only [listEqB, Bool.and_eq_true, decide_eq_true_eq] at h
    obtain ⟨h1, h2, h3⟩ := h
    rw [Nat.eq_of_beq_eq_true h1, h2, listEqB_eq h3]

theorem reverseConsistentB_sound {M T : List (Nat × Int)} (h : reverseConsistentB M T = true) :
    ReverseConsistent M T := by
  unfold reverseConsistentB at h
  rcases Bool.or_eq_true _ _ |>.mp h with he | hq
  · have := listEqB_eq he
    subst this
    exact ⟨fun _ _ hm => hm, fun k v hm => ⟨k, hm⟩⟩
  · simp only [Bool.and_eq_true, subsetB, coversB, List.all_eq_true] at hq
    obtain ⟨hs, hc⟩ := hq
    exact ⟨fun k v hm => memPair_true (hs (k, v) hm), fun k v hm => hasValue_true (hc (k, v) hm)⟩

/-- `M` is `T` with some entries left out, each of them sharing its code with a later entry of `M`
    (a reverse dictionary keeps one name per code): one simultaneous walk -/
def sublistCoverB : List (Nat × Int) → List (Nat × Int) → Bool
  | [], [] => true
  | _, [] => false
  | M, (k', v') :: T =>
    match M with
    | (k, v) :: M' =>
      match Nat.beq k k' && decide (v = v') with
      | true => sublistCoverB M' T
      | false => hasValue v' M && sublistCoverB M T
    | [] => false

theorem sublistCoverB_sound : ∀ (T M : List (Nat × Int)), sublistCoverB M T = true → ReverseConsistent M T
  | [], [], _ => ⟨fun _ _ h => (nomatch h), fun _ _ h => (nomatch h)⟩
  | [], _ :: _, h => by simp [sublistCoverB] at h
  | (k', v') :: T, [], h => by simp [sublistCoverB] at h
  | (k', v') :: T, (k, v) :: M', h => by
    simp only [sublistCoverB] at h
    split at h
    · rename_i he
      simp only [Bool.and_eq_true, decide_eq_true_eq] at he
      obtain ⟨hk, hv⟩ := he
      have hk := Nat.eq_of_beq_eq_true hk
      subst hk; subst hv
      obtain ⟨h1, h2⟩ := sublistCoverB_sound T M' h
      refine ⟨?_, ?_⟩
      · intro a b hm
        rcases List.mem_cons.mp hm with e | hm
        · rw [e]; exact List.mem_cons_self
        · exact List.mem_cons_of_mem _ (h1 a b hm)
      · intro a b hm
        rcases List.mem_cons.mp hm with e | hm
        · cases e; exact ⟨k, List.mem_cons_self⟩
        · obtain ⟨c, hc⟩ := h2 a b hm; exact ⟨c, List.mem_cons_of_mem _ hc⟩
    · simp only [Bool.and_eq_true] at h
      obtain ⟨hv, hr⟩ := h
      obtain ⟨h1, h2⟩ := sublistCoverB_sound T ((k, v) :: M') hr
      refine ⟨fun a b hm => List.mem_cons_of_mem _ (h1 a b hm), ?_⟩
      intro a b hm
      rcases List.mem_cons.mp hm with e | hm
      · cases e; exact hasValue_true hv
      · exact h2 a b hm

/-- the walk first; the quadratic check only for a map that is not a sub-list of its table -/
def reverseWalkB (M T : List (Nat × Int)) : Bool := sublistCoverB M T || reverseConsistentB M T

theorem reverseWalkB_sound {M T : List (Nat × Int)} (h : reverseWalkB M T = true) : ReverseConsistent M T := by
  rcases (Bool.or_eq_true _ _).mp h with h | h
  · exact sublistCoverB_sound T M h
  · exact reverseConsistentB_sound h

end PyElf.Proofs.Registry
