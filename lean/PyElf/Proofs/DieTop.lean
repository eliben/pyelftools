/-
  The unit's top entry (`get_top_DIE`: parse with `translate_indirect`
  off, then `_translate_indirect_attributes`), and the end-to-end discharge of the translation
  hypotheses from "every attribute value resolves" (`Spec.C04.resolve … = some _`).
-/
import PyElf.Spec.DieTree
import PyElf.Model.Die
import PyElf.Proofs.DieEntry
import PyElf.Proofs.DieUnit
import PyElf.Proofs.DieValues
namespace PyElf.Proofs.C04
open PyElf PyElf.Spec PyElf.Spec.C04 PyElf.Model PyElf.Model.C04 PyElf.Proofs

/-- is this attribute in one of the index forms `_translate_indirect_attributes` re-translates? -/
def isIndex (a : AttrObs) : Bool :=
  match a.form with
  | .str f => indexForms.contains f
  | _ => false

def upd (g : AttrObs → Val) (a : AttrObs) : AttrObs := if isIndex a then { a with value := g a } else a

theorem upd_name (g : AttrObs → Val) (a : AttrObs) : (upd g a).name = a.name := by
  unfold upd; split <;> rfl

theorem attrSet_mid : ∀ (pre : List AttrObs) (x a : AttrObs) (post : List AttrObs),
    (∀ b ∈ pre, (b.name == a.name) = false) → (x.name == a.name) = true →
    attrSet (pre ++ x :: post) a = pre ++ a :: post := by
  intro pre
  induction pre with
  | nil => intro x a post _ hx; simp [attrSet, hx]
  | cons p pre ih =>
    intro x a post hpre hx
    have hp := hpre p (by simp)
    simp only [List.cons_append, attrSet, hp, Bool.false_eq_true, if_false]
    rw [ih x a post (fun b hb => hpre b (by simp [hb])) hx]

/-- `_translate_indirect_attributes`: every attribute in an index form gets the value `g` assigns, provided the
    translation at the moment the loop reaches it (with the dict as it then is) yields it.  That a name equals itself
    under `Val`'s `==` is what lets the assignment find the attribute's own slot (`namesOf_refl`). -/
theorem retranslate_spec (U : UnitCtx) (g : AttrObs → Val) :
    ∀ (post pre : List AttrObs), NamesDistinct (pre ++ post) → (∀ a ∈ post, (a.name == a.name) = true) →
      (∀ p1 a p2, post = p1 ++ a :: p2 → isIndex a = true →
        translate U (some ((pre ++ p1).map (upd g) ++ a :: p2)) a.form a.raw = .ok (g a)) →
      retranslate U post (pre.map (upd g) ++ post) = .ok ((pre ++ post).map (upd g)) := by
  intro post
  induction post with
  | nil => intro pre _ _ _; simp [retranslate]
  | cons a post ih =>
    intro pre hd hrefl htr
    have hnext : ∀ cur, cur = (pre ++ [a]).map (upd g) ++ post →
        retranslate U post cur = .ok ((pre ++ a :: post).map (upd g)) := by
      intro cur hc
      rw [hc]
      have := ih (pre ++ [a]) (by simpa [List.append_assoc] using hd) (fun x hx => hrefl x (by simp [hx]))
        (fun p1 x p2 hp hx => by
          have := htr (a :: p1) x p2 (by rw [hp]; rfl) hx
          simpa [List.append_assoc] using this)
      simpa [List.append_assoc] using this
    rw [retranslate]
    by_cases hi : isIndex a = true
    · have ht := htr [] a post rfl hi
      simp only [List.append_nil] at ht
      have hform : ∃ f, a.form = .str f ∧ indexForms.contains f = true := by
        unfold isIndex at hi
        split at hi
        · rename_i f hf; exact ⟨f, hf, hi⟩
        · cases hi
      obtain ⟨f, hf, hc⟩ := hform
      have hpre : ∀ b ∈ pre.map (upd g), (b.name == ({ a with value := g a } : AttrObs).name) = false := by
        intro b hb
        obtain ⟨b0, hb0, rfl⟩ := List.mem_map.1 hb
        rw [upd_name]
        exact (List.pairwise_append.1 hd).2.2 b0 hb0 a List.mem_cons_self
      simp only [hf, hc, if_true, bind, Except.bind]
      rw [← hf, ht]
      simp only
      rw [attrSet_mid _ a _ post hpre (hrefl a (by simp))]
      apply hnext
      simp [upd, hi]
    · have hi' : isIndex a = false := by simpa using hi
      have hu : upd g a = a := by simp [upd, hi']
      cases hform : a.form with
      | str f =>
        have hc : indexForms.contains f = false := by simpa [isIndex, hform] using hi'
        simp only [hc, Bool.false_eq_true, if_false]
        apply hnext
        simp [hu]
      | _ =>
        simp only
        apply hnext
        simp [hu]

/-- every attribute value that has an operand resolves (`Spec.C04.resolve … = some _`: the string /
    table reference does not dangle) -/
def ResolvesAll (c : DwarfCfg) (secs : Sections) (b : Bases) (nm : Names) : List AttrSpec → List AttrV → Prop
  | s :: ss, a :: as =>
    (s.form ≠ FORM_implicit_const → (resolve c secs b (nm.form a.form) (rawVal a.op)).isSome = true)
      ∧ ResolvesAll c secs b nm ss as
  | _, _ => True

/-- the resolved value: by definition the Spec's `resolveD` (`None` never shows where `ResolvesAll` holds) -/
def rho (c : DwarfCfg) (secs : Sections) (b : Bases) : Val → Val → Val := fun f r => (resolve c secs b f r).getD .none
/-- … while the index forms are still raw -/
def rho0 (c : DwarfCfg) (secs : Sections) (b : Bases) : Val → Val → Val := fun f r => (preResolve c secs b f r).getD .none

def isNumCls : Option Cls → Bool
  | some (.fixed _) | some .u24 | some .uleb => true
  | _ => false

/-- whether a form's operand is a number does not depend on the configuration (only its width does) -/
theorem isNumCls_formClass (c : DwarfCfg) :
    formCodes.all (fun k => isNumCls (formClass c k) == isNumCls (formClass ⟨true, 32, 4, 2⟩ k)) = true := by
  cases c; rfl

/-- the forms whose value is translated as a number have a numeric operand (names are compared for the
    other forms only) -/
theorem intForms_cls :
    formCodes.all (fun k => isNumCls (formClass ⟨true, 32, 4, 2⟩ k) || !(intForms.contains ((formName k).getD ""))) = true := by
  decide +kernel

theorem raw_int_of_intForm {c : DwarfCfg} {k : Nat} {cl : Cls} {op : Operand} (hcl : formClass c k = some cl)
    (hwf : wfOperand cl op = true) (hm : (formName k).getD "" ∈ intForms) : ∃ n : Nat, rawVal op = .int n := by
  have hk := formClass_some_mem hcl
  have h := List.all_eq_true.1 intForms_cls k hk
  have hc : intForms.contains ((formName k).getD "") = true := by simpa using hm
  rw [← beq_iff_eq.1 (List.all_eq_true.1 (isNumCls_formClass c) k hk), hc, hcl] at h
  simp only [Bool.not_true, Bool.or_false] at h
  cases cl <;> simp only [isNumCls, Bool.false_eq_true] at h <;> cases op <;>
    first | (simp [wfOperand] at hwf; done) | exact ⟨_, rfl⟩

theorem wfAttr_cls {c : DwarfCfg} {s : AttrSpec} {a : AttrV} (h : wfAttr c s a = true) (hC : s.form ≠ FORM_implicit_const) :
    ∃ cl, formClass c a.form = some cl ∧ wfOperand cl a.op = true := by
  unfold wfAttr at h
  by_cases hI : s.form = FORM_indirect
  · rw [if_pos hI] at h
    simp only [Bool.and_eq_true] at h
    cases hcl : formClass c a.form with
    | none => rw [hcl] at h; cases h.2
    | some cl => rw [hcl] at h; exact ⟨cl, rfl, h.2⟩
  · rw [if_neg hI, if_neg hC] at h
    simp only [Bool.and_eq_true] at h
    cases hcl : formClass c a.form with
    | none => rw [hcl] at h; cases h.2
    | some cl => rw [hcl] at h; exact ⟨cl, rfl, h.2⟩

theorem wfAttr_implicit {c : DwarfCfg} {s : AttrSpec} {a : AttrV} (h : wfAttr c s a = true) (hC : s.form = FORM_implicit_const) :
    a.form = FORM_implicit_const := by
  unfold wfAttr at h
  have hI : ¬ s.form = FORM_indirect := by rw [hC]; decide
  rw [if_neg hI, if_pos hC] at h
  simp only [Bool.and_eq_true, beq_iff_eq] at h
  rw [h.1.2, hC]

theorem resolvesAll_zip {c : DwarfCfg} {secs : Sections} {b : Bases} {nm : Names} :
    ∀ {ss : List AttrSpec} {as : List AttrV}, ResolvesAll c secs b nm ss as → ∀ p ∈ ss.zip as,
      p.1.form ≠ FORM_implicit_const → (resolve c secs b (nm.form p.2.form) (rawVal p.2.op)).isSome = true
  | [], _, _, p, hp => by simp at hp
  | _ :: _, [], _, p, hp => by simp at hp
  | s :: ss, a :: as, h, p, hp => by
    rcases List.mem_cons.1 hp with rfl | hp
    · exact h.1
    · exact resolvesAll_zip h.2 p hp

theorem resolved_pair {U : UnitCtx} {c : DwarfCfg} {nm : Names} {secs : Sections} {b : Bases} (hU : UnitOK U c nm)
    {ss : List AttrSpec} {as : List AttrV} (hwf : wfAttrs c ss as = true) (hres : ResolvesAll c secs b nm ss as)
    {p : AttrSpec × AttrV} (hp : p ∈ ss.zip as) (hC : p.1.form ≠ FORM_implicit_const) :
    nm.form p.2.form = .str ((formName p.2.form).getD "") ∧
      ((formName p.2.form).getD "" ∈ intForms → ∃ n : Nat, rawVal p.2.op = .int n) ∧
      ∃ v, resolve c secs b (.str ((formName p.2.form).getD "")) (rawVal p.2.op) = some v := by
  obtain ⟨cl, hcl, hop⟩ := wfAttr_cls (wfAttrs_zip hwf p hp) hC
  have hfa := hU.formNames p.2.form (formClass_some_mem hcl)
  have hsome := resolvesAll_zip hres p hp hC
  rw [hfa] at hsome
  exact ⟨hfa, raw_int_of_intForm hcl hop, Option.isSome_iff_exists.1 hsome⟩

theorem transOK_some {U : UnitCtx} {c : DwarfCfg} {nm : Names} {secs : Sections} (hU : UnitOK U c nm)
    (hS : SecsOK U c secs) {top : List AttrObs} {b : Bases} (hB : BasesOK top b)
    (specs : List AttrSpec) (attrs : List AttrV) (hwf : wfAttrs c specs attrs = true)
    (hres : ResolvesAll c secs b nm specs attrs) : TransOK U (some top) nm (rho c secs b) specs attrs :=
  transOK_of_zip fun p hp hC => by
    obtain ⟨hfa, hint, v, hr⟩ := resolved_pair hU hwf hres hp hC
    rw [hfa, translate_resolve hU hS hB _ _ v hint hr]
    simp [rho, hr]

theorem transOK_none {U : UnitCtx} {c : DwarfCfg} {nm : Names} {secs : Sections} (hU : UnitOK U c nm)
    (hS : SecsOK U c secs) (b : Bases)
    (specs : List AttrSpec) (attrs : List AttrV) (hwf : wfAttrs c specs attrs = true)
    (hres : ResolvesAll c secs b nm specs attrs) : TransOK U none nm (rho0 c secs b) specs attrs :=
  transOK_of_zip fun p hp hC => by
    obtain ⟨hfa, hint, v, hr⟩ := resolved_pair hU hwf hres hp hC
    have hp' : preResolve c secs b (.str ((formName p.2.form).getD "")) (rawVal p.2.op)
        = some (if indexForms.contains ((formName p.2.form).getD "") then rawVal p.2.op else v) := by
      unfold preResolve
      simp only [hr]
      split <;> rfl
    rw [hfa, translate_none hS b _ _ _ hint hp']
    simp [rho0, hp']

/-- the dict `l` has, under the attribute name `name`, an entry of value `v` that is not in an index form -/
def BaseAt (l : List AttrObs) (name : String) (v : Nat) : Prop :=
  ∃ x, l.find? (fun y => y.name == Val.str name) = some x ∧ x.value = .int v ∧ isIndex x = false

theorem getBaseOffset_of_baseAt {l : List AttrObs} {name : String} {v : Nat} (h : BaseAt l name v) :
    getBaseOffset l name = .ok (.int v) := by
  obtain ⟨x, hf, hv, _⟩ := h
  simp [getBaseOffset, attrGet?, hf, hv]

/-- re-translating a prefix of the dict does not disturb an entry that is not in an index form -/
theorem find_partial_upd (g : AttrObs → Val) (k : Val) (x : AttrObs) (hx : isIndex x = false) :
    ∀ (p1 rest : List AttrObs), (p1 ++ rest).find? (fun y => y.name == k) = some x →
      (p1.map (upd g) ++ rest).find? (fun y => y.name == k) = some x := by
  intro p1
  induction p1 with
  | nil => intro rest h; simpa using h
  | cons y p1 ih =>
    intro rest h
    simp only [List.cons_append, List.map_cons, List.find?_cons, upd_name] at h ⊢
    cases hy : (y.name == k) with
    | true =>
      rw [hy] at h
      simp only [Option.some.injEq] at h
      subst h
      simp [upd, hx]
    | false =>
      rw [hy] at h
      exact ih rest h

theorem baseAt_partial (g : AttrObs → Val) {p1 rest : List AttrObs} {name : String} {v : Nat}
    (h : BaseAt (p1 ++ rest) name v) : BaseAt (p1.map (upd g) ++ rest) name v := by
  obtain ⟨x, hf, hv, hi⟩ := h
  exact ⟨x, find_partial_upd g _ x hi p1 rest hf, hv, hi⟩

/-- `BasesOK` before `getBaseOffset`: the dict `l` presents each base of `b` under its attribute name -/
structure BasesAt (l : List AttrObs) (b : Bases) : Prop where
  strOffsets : ∀ v, b.strOffsets = some v → BaseAt l "DW_AT_str_offsets_base" v
  addr : ∀ v, b.addr = some v → BaseAt l "DW_AT_addr_base" v
  loclists : ∀ v, b.loclists = some v → BaseAt l "DW_AT_loclists_base" v
  rnglists : ∀ v, b.rnglists = some v → BaseAt l "DW_AT_rnglists_base" v

theorem BasesAt.basesOK {l : List AttrObs} {b : Bases} (h : BasesAt l b) : BasesOK l b where
  strOffsets v hv := getBaseOffset_of_baseAt (h.strOffsets v hv)
  addr v hv := getBaseOffset_of_baseAt (h.addr v hv)
  loclists v hv := getBaseOffset_of_baseAt (h.loclists v hv)
  rnglists v hv := getBaseOffset_of_baseAt (h.rnglists v hv)

theorem BasesAt.partial (g : AttrObs → Val) {p1 rest : List AttrObs} {b : Bases} (h : BasesAt (p1 ++ rest) b) :
    BasesAt (p1.map (upd g) ++ rest) b where
  strOffsets v hv := baseAt_partial g (h.strOffsets v hv)
  addr v hv := baseAt_partial g (h.addr v hv)
  loclists v hv := baseAt_partial g (h.loclists v hv)
  rnglists v hv := baseAt_partial g (h.rnglists v hv)

theorem baseAt_of_baseOf {U : UnitCtx} {c : DwarfCfg} {nm : Names} (hU : UnitOK U c nm) (ρ : Val → Val → Val)
    (hρ : ∀ v : Nat, ρ (.str "DW_FORM_sec_offset") (.int v) = .int v) (k : Nat) (name : String)
    (hname : ∀ j, (nm.at_ j == Val.str name) = (j == k)) :
    ∀ (specs : List AttrSpec) (attrs : List AttrV) (off v : Nat), wfAttrs c specs attrs = true →
      baseOf k specs attrs = some v → BaseAt (attrObs nm c ρ off specs attrs) name v := by
  -- `baseOf` stops at the first specification named `k`; so does `find?` on the dict, since `hname` lets no other name
  -- compare equal; that attribute is in DW_FORM_sec_offset (not an index form) and `ρ` leaves its value alone
  intro specs
  induction specs with
  | nil => intro attrs off v _ h; cases attrs <;> simp [baseOf] at h
  | cons s ss ih =>
    intro attrs off v hwf h
    cases attrs with
    | nil => simp [baseOf] at h
    | cons a as =>
      simp only [wfAttrs, Bool.and_eq_true] at hwf
      unfold baseOf at h
      by_cases hk : s.name = k
      · rw [if_pos hk] at h
        have hform : a.form = 0x17 ∧ a.op = .nat v := by
          split at h
          · rename_i v' hf ho; injection h with h; subst h; exact ⟨hf, ho⟩
          · cases h
        have hC : s.form ≠ FORM_implicit_const := by
          intro hC
          have := wfAttr_implicit hwf.1 hC
          rw [hform.1] at this; cases this
        have hfn : nm.form 0x17 = .str "DW_FORM_sec_offset" := hU.formNames 0x17 (by decide)
        refine ⟨⟨nm.at_ s.name, nm.form a.form, ρ (nm.form a.form) (rawVal a.op), rawVal a.op, off⟩, ?_, ?_, ?_⟩
        · simp [attrObs, hC, hname, hk]
        · simp [hform.1, hform.2, hfn, rawVal, hρ]
        · simp only [isIndex, hform.1, hfn]; decide
      · rw [if_neg hk] at h
        obtain ⟨x, hf, hv, hi⟩ := ih as (off + attrLen c a) v hwf.2 h
        refine ⟨x, ?_, hv, hi⟩
        have hb : (nm.at_ s.name == Val.str name) = false := by rw [hname]; simpa using hk
        simp only [attrObs, List.find?_cons, hb]
        exact hf

theorem resolve_sec_offset (c : DwarfCfg) (secs : Sections) (b : Bases) (v : Int) :
    resolve c secs b (.str "DW_FORM_sec_offset") (.int v) = some (.int v) :=
  resolve_plain c secs b _ v (by decide +kernel) (by decide +kernel) (by decide +kernel)

theorem rho_sec_offset (c : DwarfCfg) (secs : Sections) (b : Bases) (v : Nat) :
    rho c secs b (.str "DW_FORM_sec_offset") (.int v) = .int v := by
  simp only [rho, resolve_sec_offset, Option.getD_some]

theorem rho0_sec_offset (c : DwarfCfg) (secs : Sections) (b : Bases) (v : Nat) :
    rho0 c secs b (.str "DW_FORM_sec_offset") (.int v) = .int v := by
  unfold rho0 preResolve
  simp only
  rw [if_neg (by decide), resolve_sec_offset, Option.getD_some]

/-- the bases of the node, found in the dict of its attributes (for any value function that leaves
    DW_FORM_sec_offset alone) -/
theorem basesOK_attrObs {U : UnitCtx} {c : DwarfCfg} {nm : Names} (hU : UnitOK U c nm) (hbn : BaseNames nm)
    (ρ : Val → Val → Val) (hρ : ∀ v : Nat, ρ (.str "DW_FORM_sec_offset") (.int v) = .int v) (n : Node) (off : Nat)
    (hwf : wfAttrs c n.decl.specs n.attrs = true) :
    BasesAt (attrObs nm c ρ off n.decl.specs n.attrs) (basesOf n) where
  strOffsets v h := baseAt_of_baseOf hU ρ hρ 0x72 _ hbn.strOffsets _ _ off v hwf h
  addr v h := baseAt_of_baseOf hU ρ hρ 0x73 _ hbn.addr _ _ off v hwf h
  loclists v h := baseAt_of_baseOf hU ρ hρ 0x8c _ hbn.loclists _ _ off v hwf h
  rnglists v h := baseAt_of_baseOf hU ρ hρ 0x74 _ hbn.rnglists _ _ off v hwf h

theorem preResolve_not_index (c : DwarfCfg) (secs : Sections) (b : Bases) (f r : Val)
    (h : ∀ s, f = .str s → indexForms.contains s = false) : preResolve c secs b f r = resolve c secs b f r := by
  unfold preResolve
  split
  · rename_i s
    rw [if_neg (by rw [h s rfl]; simp)]
  · -- not a form name: neither function looks at the value
    rename_i hx
    exact (resolve_not_int c secs b f r (fun e => hx _ e) (fun _ _ e _ => hx _ e)).symm

theorem map_upd_attrObs {U : UnitCtx} {c : DwarfCfg} {nm : Names} (hU : UnitOK U c nm) (secs : Sections) (b : Bases) :
    ∀ (specs : List AttrSpec) (attrs : List AttrV) (off : Nat), wfAttrs c specs attrs = true →
      (attrObs nm c (rho0 c secs b) off specs attrs).map (upd fun a => rho c secs b a.form a.raw)
        = attrObs nm c (rho c secs b) off specs attrs := by
  intro specs
  induction specs with
  | nil => intro attrs off _; cases attrs <;> simp [attrObs]
  | cons s ss ih =>
    intro attrs off hwf
    cases attrs with
    | nil => simp [attrObs]
    | cons a as =>
      simp only [wfAttrs, Bool.and_eq_true] at hwf
      simp only [attrObs, List.map_cons, ih as _ hwf.2, List.cons.injEq, and_true]
      by_cases hC : s.form = FORM_implicit_const
      · have hform := wfAttr_implicit hwf.1 hC
        have hfn := hU.formNames _ mem_implicit
        have hni : isIndex ⟨nm.at_ s.name, nm.form a.form, Val.int s.const, Val.int s.const, off⟩ = false := by
          simp only [isIndex, hform, hfn]; decide
        simp [hC, upd, hni]
      · simp only [hC, if_false]
        unfold upd
        split
        · rfl
        · rename_i hi
          have hi' : isIndex ⟨nm.at_ s.name, nm.form a.form, rho0 c secs b (nm.form a.form) (rawVal a.op), rawVal a.op, off⟩
              = false := by simpa using hi
          have : preResolve c secs b (nm.form a.form) (rawVal a.op) = resolve c secs b (nm.form a.form) (rawVal a.op) := by
            apply preResolve_not_index
            intro s' hs'
            simpa [isIndex, hs'] using hi'
          simp [rho0, rho, this]

theorem mem_attrObs_facts {U : UnitCtx} {c : DwarfCfg} {nm : Names} (hU : UnitOK U c nm) (secs : Sections) (b : Bases)
    (ρ : Val → Val → Val) (specs : List AttrSpec) (attrs : List AttrV) (off : Nat) (x : AttrObs)
    (hwf : wfAttrs c specs attrs = true) (hres : ResolvesAll c secs b nm specs attrs)
    (hx : x ∈ attrObs nm c ρ off specs attrs) (hi : isIndex x = true) :
    ∃ name, x.form = .str name ∧ (name ∈ intForms → ∃ n : Nat, x.raw = .int n)
      ∧ (resolve c secs b x.form x.raw).isSome = true := by
  obtain ⟨p, hp, off', rfl⟩ := mem_attrObs hx
  by_cases hC : p.1.form = FORM_implicit_const
  · -- an implicit constant is not in an index form
    have hform := wfAttr_implicit (wfAttrs_zip hwf p hp) hC
    have hfn := hU.formNames _ mem_implicit
    simp only [isIndex, obsOf, hform, hfn] at hi
    exact absurd hi (by decide)
  · obtain ⟨hfa, hint, v, hr⟩ := resolved_pair hU hwf hres hp hC
    refine ⟨_, hfa, ?_, ?_⟩
    · simpa only [obsOf, hC, if_false] using hint
    · simp only [obsOf, hC, if_false, hfa, hr, Option.isSome_some]

theorem getTopDIE_encoded {U : UnitCtx} {c : DwarfCfg} {nm : Names} {secs : Sections} (hU : UnitOK U c nm)
    (hS : SecsOK U c secs) (hat : ∀ k, (nm.at_ k == nm.at_ k) = true) (hbn : BaseNames nm) (n : Node)
    {rest : Bytes} {m : List (Nat × Val)} (hwf : wfNode c n = true) (hoff : U.cuDieOffset < 2 ^ 63)
    (hab : U.abbrevs = .ok m) (hdecl : mapGet? m n.decl.code = some (declVal nm n.decl))
    (hdist : DistinctAt nm n.decl.specs) (hres : ResolvesAll c secs (basesOf n) nm n.decl.specs n.attrs)
    (hd : U.data.drop U.cuDieOffset = encEntry c n ++ rest) :
    getTopDIE U = .ok (entryObs nm c (rho c secs (basesOf n)) U.cuDieOffset n) := by
  have hwa := wfNode_attrs hwf
  -- parse with the index forms left raw (`rho0`), then re-translate them one by one: when the loop reaches an attribute
  -- the dict still presents the bases (`BasesAt.partial`: they are not in index forms), so `translate_resolve` applies
  have hparse := parseDIE_encoded hU none (rho0 c secs (basesOf n)) n hwf hoff hab hdecl
    (transOK_none hU hS _ _ _ hwa hres) (namesDistinct_attrObs nm c _ _ _ _ hdist) hd
  have hbases := basesOK_attrObs hU hbn (rho0 c secs (basesOf n)) (rho0_sec_offset c secs _) n
    (U.cuDieOffset + n.codeLen) hwa
  have hre := retranslate_spec U (fun a => rho c secs (basesOf n) a.form a.raw)
    (attrObs nm c (rho0 c secs (basesOf n)) (U.cuDieOffset + n.codeLen) n.decl.specs n.attrs) []
    (by simpa using namesDistinct_attrObs nm c (rho0 c secs (basesOf n)) _ n.attrs (U.cuDieOffset + n.codeLen) hdist)
    (fun a ha => by
      obtain ⟨s', _, e⟩ := mem_attrObs_name nm c _ _ _ _ a ha
      rw [e]; exact hat _)
    (fun p1 a p2 hsplit hi => by
      have hmem : a ∈ attrObs nm c (rho0 c secs (basesOf n)) (U.cuDieOffset + n.codeLen) n.decl.specs n.attrs := by
        rw [hsplit]; simp
      obtain ⟨name, hf, hint, hsome⟩ := mem_attrObs_facts hU secs (basesOf n) _ _ _ _ a hwa hres hmem hi
      have hB : BasesOK (([] ++ p1).map (upd fun a => rho c secs (basesOf n) a.form a.raw) ++ a :: p2) (basesOf n) := by
        rw [List.nil_append]
        exact (BasesAt.partial _ (hsplit ▸ hbases)).basesOK
      rw [hf] at hsome ⊢
      cases hr : resolve c secs (basesOf n) (.str name) a.raw with
      | none => rw [hr] at hsome; cases hsome
      | some v =>
        rw [translate_resolve hU hS hB name a.raw v hint hr]
        simp [rho, hr])
  simp only [List.map_nil, List.nil_append] at hre
  rw [map_upd_attrObs hU secs (basesOf n) _ _ _ hwa] at hre
  unfold getTopDIE
  simp only [hparse, bind, Except.bind, entryObs, hre, pure, Except.pure]

/-- `NodeOK` before translation: the declaration is in the unit's abbreviation dict `m` under its code, the values resolve
    against the sections with the unit's bases `b` -/
def NodeWF (c : DwarfCfg) (secs : Sections) (b : Bases) (nm : Names) (m : List (Nat × Val)) (x : Node) : Prop :=
  mapGet? m x.decl.code = some (declVal nm x.decl) ∧ DistinctAt nm x.decl.specs
    ∧ ResolvesAll c secs b nm x.decl.specs x.attrs

/-- `Covered` for an encoded unit, from well-formedness alone -/
theorem covered_unit_wf {U : UnitCtx} {c : DwarfCfg} {nm : Names} {secs : Sections} (hU : UnitOK U c nm)
    (hS : SecsOK U c secs) (hat : ∀ k, (nm.at_ k == nm.at_ k) = true) (hbn : BaseNames nm)
    {m : List (Nat × Val)} (hab : U.abbrevs = .ok m) (n : Node) (kids : List Tree) (nl : Nat) {rest : Bytes}
    (hwf : wfTree c (.mk n kids nl) = true)
    (hd : U.data.drop U.cuDieOffset = encTree c (.mk n kids nl) ++ rest) (hlen : U.data.length ≤ 2 ^ 63)
    (hnodes : TreeAll (NodeWF c secs (basesOf n) nm m) (.mk n kids nl)) :
    Covered (getCachedDIE U) (flattenUnit nm c (rho c secs (basesOf n)) (rho c secs (basesOf n)) U.cuDieOffset (.mk n kids nl)) := by
  have hwn := wfTree_node hwf
  have hwa := wfNode_attrs hwn
  simp only [TreeAll] at hnodes
  obtain ⟨⟨hdecl, hdist, hres⟩, hkids⟩ := hnodes
  have hd0 : U.data.drop U.cuDieOffset = encEntry c n ++
      ((if n.decl.children then encForest c kids ++ encUlebN nl 0 else []) ++ rest) := by
    rw [hd, encTree, List.append_assoc]
  have hoff : U.cuDieOffset < 2 ^ 63 := by
    have := lt_length_of_drop hd0 (encEntry_length_pos c n hwn); omega
  have htop := getTopDIE_encoded hU hS hat hbn n hwn hoff hab hdecl hdist hres hd0
  have hbases := basesOK_attrObs hU hbn (rho c secs (basesOf n)) (rho_sec_offset c secs _) n
    (U.cuDieOffset + n.codeLen) hwa
  have hB : BasesOK (entryObs nm c (rho c secs (basesOf n)) U.cuDieOffset n).attrs (basesOf n) :=
    hbases.basesOK
  have hk' : ForestAll (NodeOK U (some (entryObs nm c (rho c secs (basesOf n)) U.cuDieOffset n).attrs) nm
      (rho c secs (basesOf n)) m) kids := by
    refine forestAll_imp_wf (fun x hwx hq => ?_) kids (wfTree_kids hwf) hkids
    exact ⟨hq.1, transOK_some hU hS hB _ _ (wfNode_attrs hwx) hq.2.2, hq.2.1⟩
  exact covered_unit hU _ _ hab n kids nl hwf hd hlen htop hk'

end PyElf.Proofs.C04
