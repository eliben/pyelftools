/-
  The generated (T3) hash functions compute the standard's 32-bit hashes: the generated loop on Python ints is a fold on
  naturals (`gnuStepN`, `elfStepN`), and that fold is the `UInt32` reference.
-/
import PyElf.Gen.Pure
import PyElf.Spec.Symbols
namespace PyElf.Proofs
open PyElf PyElf.Spec

def gnuStepN (h : Nat) (c : UInt8) : Nat := h * 33 + c.toNat

theorem gnu_foldl_int (bs : Bytes) (h : Nat) :
    bs.foldl (fun (st : Int) (b8 : UInt8) => st * (33 : Int) + (b8.toNat : Int)) (h : Int)
      = ((bs.foldl gnuStepN h : Nat) : Int) := by
  induction bs generalizing h with
  | nil => rfl
  | cons b bs ih =>
    simp only [List.foldl_cons]
    have : (h : Int) * 33 + (b.toNat : Int) = ((gnuStepN h b : Nat) : Int) := by
      simp [gnuStepN]
    rw [this, ih]

theorem gnu_foldl_u32 (bs : Bytes) (h : Nat) (u : UInt32) (hu : h % 4294967296 = u.toNat) :
    (bs.foldl gnuStepN h) % 4294967296 = (bs.foldl (fun h c => h * 33 + c.toUInt32) u).toNat := by
  induction bs generalizing h u with
  | nil => simpa using hu
  | cons b bs ih =>
    simp only [List.foldl_cons]
    apply ih
    simp only [gnuStepN, UInt32.toNat_add, UInt32.toNat_mul, UInt8.toNat_toUInt32]
    have : (33 : UInt32).toNat = 33 := rfl
    rw [this]
    have hb := b.toNat_lt
    omega

/-- the Python mask `& 0xFFFFFFFF` -/
theorem land_mask32 (a : Nat) : PyInt.land (a : Int) (4294967295 : Int) = ((a % 4294967296 : Nat) : Int) := by
  show Int.ofNat (a &&& 4294967295) = _
  have : (4294967295 : Nat) = 2 ^ 32 - 1 := rfl
  rw [this, Nat.and_two_pow_sub_one_eq_mod]; rfl

theorem gnu_hash_eq (bs : Bytes) : Gen.Pure.gnu_hash bs = ((gnuHash32 bs).toNat : Int) := by
  show PyInt.land (bs.foldl (fun (st : Int) (b8 : UInt8) => st * (33 : Int) + (b8.toNat : Int)) ((5381 : Nat) : Int))
      ((4294967295 : Nat) : Int) = _
  rw [gnu_foldl_int, show ((4294967295 : Nat) : Int) = 4294967295 from rfl, land_mask32]
  have h := gnu_foldl_u32 bs 5381 5381 rfl
  simp only [gnuHash32]
  rw [← h]

def elfStepN (h : Nat) (c : UInt8) : Nat :=
  let h1 := (h * 16 + c.toNat) % 4294967296
  let x := h1 &&& 4026531840
  let h2 := if x ≠ 0 then h1 ^^^ (x >>> 24) else h1
  PyInt.natAndNot h2 x

theorem inv_ofNat (n : Nat) : PyInt.inv (n : Int) = Int.negSucc n := by
  simp only [PyInt.inv, Int.negSucc_eq]; omega

/-- the loop body of `Gen.Pure.elf_hash`, copied from the translator's output so that `elf_hash_unfold` is `rfl`: the
    definition to copy again when that output changes (`elf_hash_unfold` then fails) -/
def elfStepI (st : Int × Int) (b8 : UInt8) : Int × Int :=
  let (h, x) := st
  let c : Int := (b8.toNat : Int)
  let h : Int := (PyInt.land ((PyInt.shl h (Int.toNat (4 : Int))) + c) (4294967295 : Int))
  let x : Int := (PyInt.land h (4026531840 : Int))
  let h : Int :=
    if (x != (0 : Int)) then
      let h : Int := (PyInt.xor h (PyInt.shr x (Int.toNat (24 : Int))))
      h
    else
      h
  let h : Int := (PyInt.land h (PyInt.inv x))
  (h, x)

theorem elf_step_int (h : Nat) (x0 : Int) (b : UInt8) : (elfStepI ((h : Int), x0) b).1 = ((elfStepN h b : Nat) : Int) := by
  have e1 : PyInt.shl (h : Int) (Int.toNat (4 : Int)) + (b.toNat : Int) = ((h * 16 + b.toNat : Nat) : Int) := by
    simp [PyInt.shl]
  have e2 := land_mask32
  have e3 : ∀ a : Nat, PyInt.land (a : Int) (4026531840 : Int) = ((a &&& 4026531840 : Nat) : Int) := fun _ => rfl
  have e4 : ∀ a : Nat, PyInt.shr (a : Int) (Int.toNat (24 : Int)) = ((a >>> 24 : Nat) : Int) := by
    intro a
    simp only [PyInt.shr, Nat.shiftRight_eq_div_pow]
    exact (Int.natCast_ediv a _).symm
  have e5 : ∀ a c : Nat, PyInt.xor (a : Int) (c : Int) = ((a ^^^ c : Nat) : Int) := fun _ _ => rfl
  have e6 : ∀ a c : Nat, PyInt.land (a : Int) (PyInt.inv (c : Int)) = ((PyInt.natAndNot a c : Nat) : Int) := by
    intro a c; rw [inv_ofNat]; rfl
  simp only [elfStepI, e1, e2, e3]
  by_cases hx : ((h * 16 + b.toNat) % 4294967296 &&& 4026531840) = 0
  · have hz : ((((0 : Nat) : Int)) != 0) = false := by decide
    simp only [hx, hz, Bool.false_eq_true, if_false, elfStepN, ne_eq, not_true_eq_false]
    exact e6 _ 0
  · have hx' : ((((h * 16 + b.toNat) % 4294967296 &&& 4026531840 : Nat) : Int) != 0) = true := by
      simp; exact_mod_cast hx
    simp only [hx', if_true, e4, e5, e6, elfStepN, ne_eq, hx, not_false_eq_true]

theorem natAndNot_eq_and_compl (a g : Nat) (ha : a < 2 ^ 32) (hg : g < 2 ^ 32) :
    PyInt.natAndNot a g = a &&& (4294967295 - g) := by
  apply Nat.eq_of_testBit_eq
  intro i
  have e : 4294967295 - g = 2 ^ 32 - (g + 1) := by omega
  rw [e]
  simp only [PyInt.natAndNot, Nat.testBit_xor, Nat.testBit_and, Nat.testBit_two_pow_sub_succ hg]
  by_cases hi : i < 32
  · simp [hi]; cases a.testBit i <;> cases g.testBit i <;> rfl
  · have : a.testBit i = false := Nat.testBit_lt_two_pow (Nat.lt_of_lt_of_le ha (Nat.pow_le_pow_right (by decide) (by omega)))
    simp [this]

/-- one step of the reference hash on 32-bit words is `elfStepN` on the word's value -/
theorem elf_step_u32 (u : UInt32) (c : UInt8) : (elfHashStep u c).toNat = elfStepN u.toNat c := by
  -- `A` = the shifted sum, already reduced mod 2^32 on both sides (`h1`); then by cases on its top nibble `g`, each
  -- `UInt32` operation going to `Nat` by its `toNat_` lemma and `&&& ~~~g` by `natAndNot_eq_and_compl`
  have hu := u.toNat_lt
  have hc := c.toNat_lt
  have h1 : ((u <<< 4) + c.toUInt32).toNat = (u.toNat * 16 + c.toNat) % 4294967296 := by
    simp only [UInt32.toNat_add, UInt32.toNat_shiftLeft, UInt8.toNat_toUInt32, Nat.shiftLeft_eq]
    have : (4 : UInt32).toNat % 32 = 4 := rfl
    rw [this]; omega
  have hm : (4026531840 : UInt32).toNat = 4026531840 := rfl
  have h24 : (24 : UInt32).toNat % 32 = 24 := rfl
  simp only [elfHashStep, elfStepN]
  generalize hA : (u <<< 4) + c.toUInt32 = A at h1 ⊢
  rw [← h1]
  have hAlt := A.toNat_lt
  have hg : (A &&& 4026531840).toNat = A.toNat &&& 4026531840 := by simp [UInt32.toNat_and, hm]
  have hglt : A.toNat &&& 4026531840 < 2 ^ 32 := Nat.lt_of_le_of_lt Nat.and_le_left hAlt
  have hne : (A &&& 4026531840 ≠ 0) ↔ (A.toNat &&& 4026531840 ≠ 0) := by
    rw [← hg]; constructor
    · intro h h'; apply h; exact UInt32.toNat_inj.mp (by simpa using h')
    · intro h h'; apply h; rw [h']; rfl
  by_cases hz : A.toNat &&& 4026531840 = 0
  · have : ¬ (A &&& 4026531840 ≠ 0) := by rw [hne]; simpa using hz
    simp only [this, if_false, hz, ne_eq, not_true_eq_false]
    rw [UInt32.toNat_and, UInt32.toNat_not, hg, hz, natAndNot_eq_and_compl _ _ hAlt (by decide)]
    rfl
  · have : (A &&& 4026531840 ≠ 0) := by rw [hne]; exact hz
    simp only [this, if_true, ne_eq, hz, not_false_eq_true]
    rw [UInt32.toNat_and, UInt32.toNat_not, UInt32.toNat_xor, UInt32.toNat_shiftRight, hg, h24]
    have hx : A.toNat ^^^ (A.toNat &&& 4026531840) >>> 24 < 2 ^ 32 := by
      apply Nat.xor_lt_two_pow hAlt
      exact Nat.lt_of_le_of_lt (Nat.shiftRight_le _ _) hglt
    rw [natAndNot_eq_and_compl _ _ hx hglt]
    rfl

theorem elf_hash_unfold (bs : Bytes) : Gen.Pure.elf_hash bs = (bs.foldl elfStepI (0, 0)).1 := rfl

theorem elf_foldl_int (bs : Bytes) (h : Nat) (st : Int × Int) (hst : st.1 = (h : Int)) :
    (bs.foldl elfStepI st).1 = ((bs.foldl elfStepN h : Nat) : Int) := by
  induction bs generalizing h st with
  | nil => exact hst
  | cons b bs ih =>
    rw [List.foldl_cons, List.foldl_cons]
    apply ih
    obtain ⟨h0, x0⟩ := st
    simp only at hst
    subst hst
    exact elf_step_int h x0 b

theorem elf_foldl_u32 (bs : Bytes) (u : UInt32) :
    bs.foldl elfStepN u.toNat = (bs.foldl elfHashStep u).toNat := by
  induction bs generalizing u with
  | nil => rfl
  | cons b bs ih =>
    simp only [List.foldl_cons]
    rw [← elf_step_u32, ih]

theorem elf_hash_eq (bs : Bytes) : Gen.Pure.elf_hash bs = ((elfHash32 bs).toNat : Int) := by
  have h := elf_foldl_int bs 0 (0, 0) rfl
  have h2 := elf_foldl_u32 bs 0
  rw [elf_hash_unfold, h]
  simp only [elfHash32]
  rw [← h2]
  rfl

end PyElf.Proofs
