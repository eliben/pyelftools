/-
  A described section and its bytes: the `CallFrameInfo` object of a section (`cfiOf`), the objects its entries must be
  parsed to (`modelOf`, `modelFrom`), where entry `i` sits in `encodeSection` (`placed`, `offsetOf`, `drop_offsetOf_app`; offsets
  increase strictly because every well-formed entry has its length word), what `Section.wf` says of entry `i` (`wf_at`),
  the invariant of `_entry_cache` during a scan (`CacheInv`: objects of the section under their offsets), and what the
  objects show (`modelOf_core`).
-/
import PyElf.Spec.CFI
import PyElf.Spec.DwarfStructs
import PyElf.Model.CallFrame
import PyElf.Proofs.CfiTable
import PyElf.Proofs.CfiHeaders
namespace PyElf.Proofs.Cfi
open PyElf PyElf.Spec PyElf.Model PyElf.Proofs PyElf.Proofs.Engine

/-- the parser object for a section: the tables and struct bundles of the Spec (= the regenerated ones,
    Props/TieC06.lean), the section's bytes, address and kind -/
def cfiOf (sec : Section) (env : Env) (data : Bytes) : Cfi :=
  { T := Spec.cfiTables, structs := fun fmt => .ok (Spec.dwarfStructs ⟨sec.le, fmt, sec.asz, 2⟩),
    env := env, data := data, address := sec.address, eh := sec.eh }

@[simp] theorem cfiOf_structs (sec : Section) (env : Env) (data : Bytes) (fmt : Nat) :
    (cfiOf sec env data).structs fmt = .ok (Spec.dwarfStructs ⟨sec.le, fmt, sec.asz, 2⟩) := rfl

@[simp] theorem cfiOf_eh (sec : Section) (env : Env) (data : Bytes) : (cfiOf sec env data).eh = sec.eh := rfl

@[simp] theorem cfiOf_data (sec : Section) (env : Env) (data : Bytes) : (cfiOf sec env data).data = data := rfl

@[simp] theorem cfiOf_env (sec : Section) (env : Env) (data : Bytes) : (cfiOf sec env data).env = env := rfl

@[simp] theorem cfiOf_T (sec : Section) (env : Env) (data : Bytes) : (cfiOf sec env data).T = Spec.cfiTables := rfl

@[simp] theorem cfiOf_address (sec : Section) (env : Env) (data : Bytes) : (cfiOf sec env data).address = sec.address := rfl

def fmtOf (b : Bool) : Nat := if b then 64 else 32

theorem fmtOf_div (b : Bool) : fmtOf b / 8 = offSize b := by cases b <;> rfl

theorem fmtOf_ilfs (b : Bool) : (if fmtOf b = 32 then 4 else 12) = ilfs b := by cases b <;> rfl

def cieIdv (sec : Section) (c : Cie) : Nat := if sec.eh then 0 else 256 ^ offSize c.fmt64 - 1

def cieAugPart (sec : Section) (c : Cie) : Bytes :=
  match c.aug with
  | some items => if sec.eh then encUlebN c.augLenN (augData sec.le sec.asz items).length ++ augData sec.le sec.asz items else []
  | none => []

def cieAugBytes (sec : Section) (c : Cie) : Bytes :=
  match c.aug with
  | some items => if sec.eh then augData sec.le sec.asz items else []
  | none => []

/-- the CIE object the library must build -/
def mCie (sec : Section) (off : Nat) (c : Cie) : Model.Entry :=
  .cie (cieFields (c.body sec).length (cieIdv sec c) c.version (augString c.aug) c.addrSize c.segSize c.caf.v c.daf.v c.ra.v)
    (c.instrs.map toInstr) off (augDictObs sec.le sec.asz c.aug) (cieAugBytes sec c) (fmtOf c.fmt64)

theorem mCie_header (sec : Section) (off : Nat) (c : Cie) :
    (mCie sec off c).header = .ok (cieFields (c.body sec).length (cieIdv sec c) c.version (augString c.aug) c.addrSize
      c.segSize c.caf.v c.daf.v c.ra.v) := rfl

theorem mCie_augDict (sec : Section) (off : Nat) (c : Cie) :
    (mCie sec off c).augDict = .ok (augDictObs sec.le sec.asz c.aug) := rfl

end PyElf.Proofs.Cfi

namespace PyElf.Proofs.CfiBad
open PyElf PyElf.Spec PyElf.Model PyElf.Proofs PyElf.Proofs.Cfi PyElf.Proofs.Engine

/-! A CIE given by its header alone, with any length field and any instruction list: `cieHeaderWf` is the header half of
   `Cie.wf` (`CieHeaderFacts` names its parts), `cieInstrStart` where the instructions of such a CIE begin, `cieObj` the
   object the library builds from it (`mCie` is the case of a whole description, `mCie_eq_cieObj`). -/

/-- the header part of `Cie.wf`: everything but the instruction list and the length -/
def cieHeaderWf (sec : Section) (c : Cie) : Bool :=
  (if sec.eh then !c.fmt64 && (c.version == 1 || c.version == 3)
   else (c.version == 1 || c.version == 3 || c.version == 4) && c.aug.isNone)
  && (c.version < 4 || (c.addrSize == sec.asz && c.segSize == 0))
  && c.caf.wf && c.daf.wf && (if c.version = 1 then decide (c.ra.v < 256) else c.ra.wf)
  && (match c.aug with
      | none => true
      | some items => (items.map AugItem.letter).Nodup && items.all (AugItem.wf sec.asz)
                      && decide (1 ≤ c.augLenN) && decide ((augData sec.le sec.asz items).length < 2 ^ (7 * c.augLenN)))

def cieInstrStart (sec : Section) (c : Cie) (off : Nat) : Nat :=
  off + ilfs c.fmt64 + cieHdrLen (offSize c.fmt64) c.version (augString c.aug) c.caf c.daf c.ra + (cieAugPart sec c).length

def cieObj (sec : Section) (c : Cie) (L off : Nat) (instrs : List Instr) : Model.Entry :=
  .cie (cieFields L (cieIdv sec c) c.version (augString c.aug) c.addrSize c.segSize c.caf.v c.daf.v c.ra.v)
    instrs off (augDictObs sec.le sec.asz c.aug) (cieAugBytes sec c) (fmtOf c.fmt64)

end PyElf.Proofs.CfiBad

namespace PyElf.Proofs.Cfi
open PyElf PyElf.Spec PyElf.Model PyElf.Proofs PyElf.Proofs.CfiBad PyElf.Proofs.Engine

theorem mCie_eq_cieObj (sec : Section) (off : Nat) (c : Cie) :
    mCie sec off c = cieObj sec c (c.body sec).length off (c.instrs.map toInstr) := rfl

def fdeLocOff (off : Nat) (f : Fde) : Nat := off + ilfs f.fmt64 + offSize f.fmt64

def fdeEncIn (sec : Section) (c : Cie) : Nat := if sec.eh then c.fdeEnc else 0

def fdeAugSkip (sec : Section) (f : Fde) (c : Cie) : Nat := if sec.eh ∧ c.aug.isSome then f.augLenN else 0

def fdeLsdaOff (sec : Section) (off : Nat) (f : Fde) (c : Cie) : Nat :=
  fdeLocOff off f + (encPtr sec.le sec.asz (fdeEncIn sec c % 16) f.loc).length
    + (encPtr sec.le sec.asz (fdeEncIn sec c % 16) f.range).length + fdeAugSkip sec f c

def fdeFields (sec : Section) (off : Nat) (f : Fde) (c : Cie) : Fields :=
  [("length", .int (offSize f.fmt64 + (f.tail sec c).length)), ("CIE_pointer", .int (sec.ciePointer off f)),
   ("initial_location", .int (f.loc + pcrelAdj sec (fdeEncIn sec c) (fdeLocOff off f))), ("address_range", .int f.range)]

theorem fdeFields_ptr (sec : Section) (off : Nat) (f : Fde) (c : Cie) :
    Fields.getR (fdeFields sec off f c) "CIE_pointer" = .ok (.int (sec.ciePointer off f)) := by
  simp (config := { decide := true }) [fdeFields, Fields.getR, Fields.get?]

theorem fdeFields_length (sec : Section) (off : Nat) (f : Fde) (c : Cie) :
    Fields.getR (fdeFields sec off f c) "length" = .ok (.int ((offSize f.fmt64 + (f.tail sec c).length : Nat) : Int)) := rfl

/-- the FDE object the library must build; its `cie` is THE object built for the designated CIE -/
def mFde (sec : Section) (off : Nat) (f : Fde) (c : Cie) : Model.Entry :=
  .fde (fdeFields sec off f c) (f.instrs.map toInstr) off (mCie sec (sec.offsetOf f.cie) c)
    ((f.augPart sec c).drop (fdeAugSkip sec f c))
    (if sec.eh ∧ c.lsdaEnc ≠ 0xff then some (f.lsda + pcrelAdj sec c.lsdaEnc (fdeLsdaOff sec off f c)) else none)
    (fmtOf f.fmt64)

def modelOf (sec : Section) (off : Nat) : Spec.Entry → Model.Entry
  | .cie c => mCie sec off c
  | .fde f =>
    match sec.cieAt f.cie with
    | some c => mFde sec off f c
    | none => .zero off           -- not well-formed
  | .zero => .zero off

def modelFrom (sec : Section) : Nat → List Spec.Entry → List Model.Entry
  | _, [] => []
  | off, e :: es => modelOf sec off e :: modelFrom sec (off + e.size sec) es

theorem getElem?_lt {α} {l : List α} {i : Nat} {e : α} (h : l[i]? = some e) : i < l.length :=
  (List.getElem?_eq_some_iff.1 h).1

theorem encLength_length (le fmt64 : Bool) (len : Nat) : (encLength le fmt64 len).length = ilfs fmt64 := by
  cases fmt64 <;> simp [encLength, ilfs, encNat_length]

theorem encLength_append_ne_nil (le fmt64 : Bool) (L : Nat) (rest : Bytes) : encLength le fmt64 L ++ rest ≠ [] := by
  intro h
  have := congrArg List.length h
  rw [List.length_append, encLength_length] at this
  cases fmt64 <;> simp [ilfs] at this

theorem enc_length (sec : Section) (off : Nat) (e : Spec.Entry) : (e.enc sec off).length = e.size sec := by
  cases e with
  | cie c => simp [Entry.enc, Entry.size, encLength_length]
  | fde f =>
    simp only [Entry.enc, Entry.size]
    cases sec.cieAt f.cie with
    | none => rfl
    | some c => simp [encLength_length, encNat_length]; omega
  | zero => rfl

def sizes (sec : Section) (es : List Spec.Entry) : Nat := (es.map (Entry.size sec)).sum

theorem encFrom_append (sec : Section) (a b : List Spec.Entry) : ∀ off,
    encFrom sec off (a ++ b) = encFrom sec off a ++ encFrom sec (off + sizes sec a) b := by
  induction a with
  | nil => intro off; simp [encFrom, sizes]
  | cons e a ih =>
    intro off
    simp only [List.cons_append, encFrom, ih, sizes, List.map_cons, List.sum_cons, List.append_assoc]
    rw [Nat.add_assoc]

theorem encFrom_length (sec : Section) (a : List Spec.Entry) : ∀ off, (encFrom sec off a).length = sizes sec a := by
  induction a with
  | nil => intro off; rfl
  | cons e a ih => intro off; simp [encFrom, enc_length, ih, sizes]

theorem offsetOf_eq (sec : Section) (i : Nat) : sec.offsetOf i = sizes sec (sec.entries.take i) := rfl

/-- the entries with the offsets at which they sit; `wfFrom` and `modelFrom` are said over this list (`wfFrom_eq`,
    `modelFrom_eq`) and entry `i` is read off it (`placed_entries`: `wf_at`, `modelFrom_get`) -/
def placed (sec : Section) : Nat → List Spec.Entry → List (Nat × Spec.Entry)
  | _, [] => []
  | off, e :: es => (off, e) :: placed sec (off + e.size sec) es

theorem placed_getElem? (sec : Section) : ∀ (es : List Spec.Entry) (off i : Nat),
    (placed sec off es)[i]? = es[i]?.map fun e => (off + sizes sec (es.take i), e)
  | [], _, _ => by simp [placed]
  | e :: es, off, 0 => by simp [placed, sizes]
  | e :: es, off, i + 1 => by simp [placed, placed_getElem? sec es, sizes, Nat.add_assoc]

theorem placed_entries (sec : Section) {i : Nat} {e : Spec.Entry} (h : sec.entries[i]? = some e) :
    (placed sec 0 sec.entries)[i]? = some (sec.offsetOf i, e) := by
  rw [placed_getElem?, h, Option.map_some, Nat.zero_add]; rfl

theorem offsetOf_succ (sec : Section) (i : Nat) (e : Spec.Entry) (h : sec.entries[i]? = some e) :
    sec.offsetOf (i + 1) = sec.offsetOf i + e.size sec := by
  have hi : i < sec.entries.length := getElem?_lt h
  have he : sec.entries[i] = e := by rw [List.getElem?_eq_getElem hi] at h; injection h
  simp only [Section.offsetOf]
  rw [List.take_succ_eq_append_getElem hi, he]
  simp

theorem offsetOf_end (sec : Section) : sec.offsetOf sec.entries.length = (encodeSection sec).length := by
  rw [offsetOf_eq, List.take_length, encodeSection, encFrom_length]

theorem modelFrom_eq (sec : Section) : ∀ (es : List Spec.Entry) (off : Nat),
    modelFrom sec off es = (placed sec off es).map fun p => modelOf sec p.1 p.2
  | [], _ => rfl
  | e :: es, off => by simp [modelFrom, placed, modelFrom_eq sec es]

theorem modelFrom_length (sec : Section) : ∀ (es : List Spec.Entry) (off : Nat), (modelFrom sec off es).length = es.length
  | [], _ => rfl
  | e :: es, off => by simp [modelFrom, modelFrom_length sec es]

theorem modelFrom_get (sec : Section) (i : Nat) (se : Spec.Entry) (h : sec.entries[i]? = some se) :
    (modelFrom sec 0 sec.entries)[i]? = some (modelOf sec (sec.offsetOf i) se) := by
  rw [modelFrom_eq, List.getElem?_map, placed_entries sec h]; rfl

def wfEntry (sec : Section) (off : Nat) : Spec.Entry → Bool
  | .cie c => c.wf sec
  | .fde f => f.wf sec off
  | .zero => sec.eh

theorem wfFrom_eq (sec : Section) : ∀ (es : List Spec.Entry) (off : Nat),
    wfFrom sec off es = (placed sec off es).all fun p => wfEntry sec p.1 p.2
  | [], _ => rfl
  | e :: es, off => by cases e <;> simp [wfFrom, placed, wfEntry, wfFrom_eq sec es]

theorem wf_at (sec : Section) (hwf : sec.wf = true) (i : Nat) (e : Spec.Entry) (h : sec.entries[i]? = some e) :
    wfEntry sec (sec.offsetOf i) e = true := by
  simp only [Section.wf, Bool.and_eq_true, wfFrom_eq, List.all_eq_true] at hwf
  exact hwf.2 _ (List.mem_of_getElem? (placed_entries sec h))

theorem asz_of_wf (sec : Section) (hwf : sec.wf = true) : sec.asz = 4 ∨ sec.asz = 8 := by
  simp only [Section.wf, Bool.and_eq_true, Bool.or_eq_true, beq_iff_eq] at hwf
  exact hwf.1

theorem cieAt_get {sec : Section} {j : Nat} {c : Cie} (h : sec.cieAt j = some c) : sec.entries[j]? = some (.cie c) := by
  unfold Section.cieAt at h
  split at h
  · rename_i c' hc; injection h with h; subst h; exact hc
  · cases h

theorem cieHeaderWf_of_wf {sec : Section} {c : Cie} (h : c.wf sec = true) : cieHeaderWf sec c = true := by
  simp only [Cie.wf, Bool.and_eq_true] at h
  simp only [cieHeaderWf, Bool.and_eq_true]
  exact h.1.1.1

structure CieHeaderFacts (sec : Section) (c : Cie) : Prop where
  ver : c.version = 1 ∨ c.version = 3 ∨ c.version = 4
  v4 : 4 ≤ c.version → c.addrSize = sec.asz ∧ c.segSize = 0
  caf : c.caf.wf = true
  daf : c.daf.wf = true
  ra : if c.version = 1 then c.ra.v < 256 else c.ra.wf = true
  df : sec.eh = false → c.aug = none
  augNodup : ∀ items, c.aug = some items → (items.map AugItem.letter).Nodup
  items : ∀ items, c.aug = some items → ∀ i ∈ items, AugItem.wf sec.asz i = true
  augN : ∀ items, c.aug = some items → 1 ≤ c.augLenN
  augLen : ∀ items, c.aug = some items → (augData sec.le sec.asz items).length < 2 ^ (7 * c.augLenN)

theorem cieHeaderFacts_of {sec : Section} {c : Cie} (h : cieHeaderWf sec c = true) : CieHeaderFacts sec c := by
  simp only [cieHeaderWf, Bool.and_eq_true] at h
  obtain ⟨⟨⟨⟨⟨hkind, hv4⟩, hcaf⟩, hdaf⟩, hra⟩, haug⟩ := h
  have haug' : ∀ items, c.aug = some items → ((items.map AugItem.letter).Nodup ∧ (∀ i ∈ items, AugItem.wf sec.asz i = true))
      ∧ 1 ≤ c.augLenN ∧ (augData sec.le sec.asz items).length < 2 ^ (7 * c.augLenN) := by
    intro items hau
    rw [hau] at haug
    simpa only [Bool.and_eq_true, decide_eq_true_eq, List.all_eq_true, and_assoc] using haug
  exact
    { ver := by cases heh : sec.eh <;> simp [heh] at hkind <;> omega
      v4 := fun h4 => by
        simp only [Bool.or_eq_true, decide_eq_true_eq, Bool.and_eq_true, beq_iff_eq] at hv4
        omega
      caf := hcaf
      daf := hdaf
      ra := by
        split at hra
        · rename_i h1; simp only [h1, if_true]; simpa using hra
        · rename_i h1; simp only [h1, if_false]; exact hra
      df := fun heh => by
        simp only [heh, Bool.false_eq_true, if_false, Bool.and_eq_true] at hkind
        cases hau : c.aug with
        | none => rfl
        | some x => rw [hau] at hkind; cases hkind.2
      augNodup := fun items hau => (haug' items hau).1.1
      items := fun items hau => (haug' items hau).1.2
      augN := fun items hau => (haug' items hau).2.1
      augLen := fun items hau => (haug' items hau).2.2 }

structure CieFacts (sec : Section) (c : Cie) : Prop extends CieHeaderFacts sec c where
  instrs : ∀ x ∈ c.instrs, Cfa.wf sec.asz x = true
  len : lenOk c.fmt64 (c.body sec).length = true

theorem cieFacts_of_wf {sec : Section} {c : Cie} (h : c.wf sec = true) : CieFacts sec c :=
  { cieHeaderFacts_of (cieHeaderWf_of_wf h) with
    instrs := by
      simp only [Cie.wf, Bool.and_eq_true] at h
      simpa [List.all_eq_true] using h.1.1.2
    len := by
      simp only [Cie.wf, Bool.and_eq_true] at h
      exact h.2 }

theorem cie_instrs_wf (sec : Section) (hwf : sec.wf = true) (j : Nat) (c : Cie) (hj : sec.entries[j]? = some (.cie c)) :
    ∀ x ∈ c.instrs, Cfa.wf sec.asz x = true :=
  (cieFacts_of_wf (wf_at sec hwf j _ hj)).instrs

theorem wfEntry_fde_cie {sec : Section} {off : Nat} {f : Fde} (h : wfEntry sec off (.fde f) = true) :
    ∃ c, sec.cieAt f.cie = some c := by
  simp only [wfEntry, Fde.wf] at h
  cases hc : sec.cieAt f.cie with
  | none => rw [hc] at h; cases h
  | some c => exact ⟨c, rfl⟩

theorem fde_instrs_wf {sec : Section} {off : Nat} {f : Fde} (h : wfEntry sec off (.fde f) = true) :
    ∀ x ∈ f.instrs, Cfa.wf sec.asz x = true := by
  obtain ⟨c, hc⟩ := wfEntry_fde_cie h
  simp only [wfEntry, Fde.wf, hc, Bool.and_eq_true] at h
  simpa [List.all_eq_true] using h.1.1.2

theorem size_ge4 (sec : Section) (off : Nat) (e : Spec.Entry) (h : wfEntry sec off e = true) : 4 ≤ e.size sec := by
  cases e with
  | cie c => simp only [Entry.size, ilfs]; split <;> omega
  | fde f =>
    obtain ⟨c, hc⟩ := wfEntry_fde_cie h
    simp only [Entry.size, hc, ilfs]; split <;> omega
  | zero => simp [Entry.size]

/-- offsets are strictly increasing (every well-formed entry occupies at least its length word) -/
theorem offsetOf_lt (sec : Section) (hwf : sec.wf = true) : ∀ (j i : Nat), i < j → j ≤ sec.entries.length →
    sec.offsetOf i < sec.offsetOf j := by
  intro j
  induction j with
  | zero => intro i h; omega
  | succ j ih =>
    intro i hij hj
    have hjl : j < sec.entries.length := by omega
    have hget : sec.entries[j]? = some sec.entries[j] := List.getElem?_eq_getElem hjl
    have h4 := size_ge4 sec _ _ (wf_at sec hwf j _ hget)
    rw [offsetOf_succ sec j _ hget]
    rcases Nat.lt_or_ge i j with h | h
    · have := ih i h (by omega); omega
    · have : i = j := by omega
      subst this; omega

theorem offsetOf_inj (sec : Section) (hwf : sec.wf = true) {i j : Nat} (hi : i < sec.entries.length)
    (hj : j < sec.entries.length) (h : sec.offsetOf i = sec.offsetOf j) : i = j := by
  rcases Nat.lt_trichotomy i j with hl | he | hg
  · have := offsetOf_lt sec hwf j i hl (by omega); omega
  · exact he
  · have := offsetOf_lt sec hwf i j hg (by omega); omega

theorem offsetOf_succ_le_app (sec : Section) (junk : Bytes) (hwf : sec.wf = true) (i : Nat) (hi : i < sec.entries.length) :
    sec.offsetOf (i + 1) ≤ (encodeSection sec ++ junk).length := by
  have : sec.offsetOf (i + 1) ≤ (encodeSection sec).length := by
    rw [← offsetOf_end]
    rcases Nat.lt_or_ge (i + 1) sec.entries.length with h | h
    · exact Nat.le_of_lt (offsetOf_lt sec hwf _ _ h (Nat.le_refl _))
    · have : i + 1 = sec.entries.length := by omega
      rw [this]; exact Nat.le_refl _
  simp only [List.length_append]; omega

theorem drop_offsetOf_app (sec : Section) (junk : Bytes) (i : Nat) (e : Spec.Entry) (h : sec.entries[i]? = some e) :
    (encodeSection sec ++ junk).drop (sec.offsetOf i)
      = e.enc sec (sec.offsetOf i) ++ (encFrom sec (sec.offsetOf (i + 1)) (sec.entries.drop (i + 1)) ++ junk) := by
  have hi : i < sec.entries.length := getElem?_lt h
  have he : sec.entries[i] = e := by rw [List.getElem?_eq_getElem hi] at h; injection h
  have hsplit : sec.entries = sec.entries.take i ++ (e :: sec.entries.drop (i + 1)) := by
    rw [← he, List.getElem_cons_drop hi, List.take_append_drop]
  have : encodeSection sec = encFrom sec 0 (sec.entries.take i) ++ encFrom sec (sec.offsetOf i) (e :: sec.entries.drop (i + 1)) := by
    unfold encodeSection
    conv => lhs; rw [hsplit]
    rw [encFrom_append, Nat.zero_add, offsetOf_eq]
  rw [this, List.append_assoc, offsetOf_eq, ← encFrom_length sec _ 0, List.drop_left]
  rw [encFrom_length, ← offsetOf_eq, encFrom, ← offsetOf_succ sec i e h, List.append_assoc]

theorem index_le_offset (sec : Section) (hwf : sec.wf = true) : ∀ i, i ≤ sec.entries.length → i ≤ sec.offsetOf i := by
  intro i
  induction i with
  | zero => intro _; exact Nat.zero_le _
  | succ i ih =>
    intro hi
    have := offsetOf_lt sec hwf (i + 1) i (Nat.lt_succ_self i) hi
    have := ih (by omega)
    omega

def CacheInv (sec : Section) (cache : Cache) : Prop :=
  ∀ (k : Int) (e : Model.Entry), cache.get k = some e →
    ∃ i se, sec.entries[i]? = some se ∧ se ≠ .zero ∧ k = (sec.offsetOf i : Int) ∧ e = modelOf sec (sec.offsetOf i) se

theorem CacheInv.nil (sec : Section) : CacheInv sec [] := by
  intro k e h; simp [Cache.get] at h

theorem CacheInv.cons {sec : Section} {cache : Cache} (h : CacheInv sec cache) (i : Nat) (se : Spec.Entry)
    (hi : sec.entries[i]? = some se) (hz : se ≠ .zero) :
    CacheInv sec (((sec.offsetOf i : Int), modelOf sec (sec.offsetOf i) se) :: cache) := by
  intro k e hk
  simp only [Cache.get] at hk
  split at hk
  · rename_i heq
    injection hk with hk
    exact ⟨i, se, hi, hz, heq.symm, hk.symm⟩
  · exact h k e hk

theorem CacheInv.hit {sec : Section} (hwf : sec.wf = true) {cache : Cache} (h : CacheInv sec cache) {i : Nat}
    {se : Spec.Entry} (hi : sec.entries[i]? = some se) {e : Model.Entry}
    (hk : cache.get (sec.offsetOf i : Int) = some e) : se ≠ .zero ∧ e = modelOf sec (sec.offsetOf i) se := by
  obtain ⟨j, se', hj, hz, hkj, he⟩ := h _ _ hk
  have : i = j := offsetOf_inj sec hwf (getElem?_lt hi) (getElem?_lt hj) (by omega)
  subst this
  rw [hi] at hj; injection hj with hj; subst hj
  exact ⟨hz, he⟩

theorem cacheInv_miss_out {sec : Section} (hwf : sec.wf = true) {cache : Cache} (h : CacheInv sec cache) (k : Int)
    (hk : ((encodeSection sec).length : Int) ≤ k ∨ k < 0) : cache.get k = none := by
  cases hg : cache.get k with
  | none => rfl
  | some e =>
    obtain ⟨i, se, hi, _, hki, _⟩ := h _ _ hg
    have := offsetOf_lt sec hwf sec.entries.length i (getElem?_lt hi) (Nat.le_refl _)
    rw [offsetOf_end] at this
    omega

theorem modelOf_size (sec : Section) (off : Nat) (se : Spec.Entry) (hw : wfEntry sec off se = true) (hz : se ≠ .zero) :
    ∃ h len il, (modelOf sec off se).header = .ok h ∧ Fields.getR h "length" = .ok (.int (len : Nat))
      ∧ (modelOf sec off se).ilfs = .ok il ∧ len + il = se.size sec := by
  cases se with
  | zero => exact absurd rfl hz
  | cie c =>
    refine ⟨_, (c.body sec).length, ilfs c.fmt64, rfl, rfl, ?_, ?_⟩
    · simp only [modelOf, mCie, Model.Entry.ilfs, fmtOf_ilfs]
    · simp [Entry.size]; omega
  | fde f =>
    obtain ⟨c, hc⟩ := wfEntry_fde_cie hw
    refine ⟨fdeFields sec off f c, offSize f.fmt64 + (f.tail sec c).length, ilfs f.fmt64, ?_, ?_, ?_, ?_⟩
    · simp only [modelOf, hc, mFde, Model.Entry.header]
    · rfl
    · simp only [modelOf, hc, mFde, Model.Entry.ilfs, fmtOf_ilfs]
    · simp [Entry.size, hc]; omega

/-- an entry's canonical value without the decoded table and the pyelftools-only `order` field -/
def coreVal : Val → Val
  | .record fs => .record (fs.filter fun kv => kv.1 != "table" && kv.1 != "order")
  | v => v

/-- the table the Spec prescribes for an entry (the `table` field of `Entry.obs`) -/
def stdTableOf (sec : Section) (off : Nat) : Spec.Entry → Option (List Row)
  | .cie c => stdTableCie c.caf.v c.daf.v c.instrs
  | .fde f =>
    match sec.cieAt f.cie with
    | none => none
    | some c => stdTableFde c.caf.v c.daf.v c.instrs (f.loc + pcrelAdj sec (fdeEncIn sec c) (fdeLocOff off f)) f.instrs
  | .zero => none

/-- the `reg_order` the Spec prescribes for an entry: a CIE's own instructions; for an FDE the instructions of
    the designated CIE followed by its own -/
def regOrderOf (sec : Section) : Spec.Entry → List Nat
  | .cie c => regOrder c.instrs
  | .fde f =>
    match sec.cieAt f.cie with
    | some c => regOrder (c.instrs ++ f.instrs)
    | none => []
  | .zero => []

theorem modelOf_core (sec : Section) (off : Nat) (e : Spec.Entry) (hw : wfEntry sec off e = true) :
    coreVal ((modelOf sec off e).toVal Spec.cfiTables) = coreVal (e.obs sec off) := by
  -- both sides are literal records; `coreVal` drops `table` and `order`, whatever `tableVals` gives, and the rest agrees
  -- field by field once the proof-side offset names are unfolded
  cases e with
  | zero => rfl
  | cie c =>
    simp only [modelOf, mCie, Model.Entry.toVal, Entry.obs]
    rcases tableVals cfiTables _ with ⟨t, o⟩
    simp (config := { decide := true }) only [coreVal, List.filter, Cie.headerObs, cieFields, cieAugBytes, cieIdv]
    cases sec.eh <;> simp <;> exact ⟨by cases c.aug <;> rfl, fun a _ => rfl⟩
  | fde f =>
    obtain ⟨c, hc⟩ := wfEntry_fde_cie hw
    simp only [modelOf, hc, mFde, Model.Entry.toVal, Entry.obs]
    rcases tableVals cfiTables _ with ⟨t, o⟩
    have hto : ∀ a ∈ f.instrs, (toInstr a).toVal = instrObs a := fun a _ => rfl
    by_cases h : sec.eh = true ∧ ¬ c.lsdaEnc = 255 <;>
      (simp (config := { decide := true }) [coreVal, List.filter, fdeFields, Model.Entry.offset, mCie, fdeLocOff,
        fdeEncIn, fdeAugSkip, fdeLsdaOff, h, optInt]
       exact hto)

theorem core_from (sec : Section) : ∀ (es : List Spec.Entry) (off : Nat), wfFrom sec off es = true →
    All₂ (fun m v => coreVal (Model.Entry.toVal Spec.cfiTables m) = coreVal v) (modelFrom sec off es) (obsFrom sec off es) := by
  intro es
  induction es with
  | nil => intro off _; exact .nil
  | cons e es ih =>
    intro off h
    simp only [wfFrom, Bool.and_eq_true] at h
    have hw : wfEntry sec off e = true := by cases e <;> exact h.1
    exact .cons (modelOf_core sec off e hw) (ih _ h.2)

end PyElf.Proofs.Cfi
