/-
  The dynamic array (`Elf_Dyn` entries up to DT_NULL) and `Dynamic.get_relocation_tables`, block by block, against
  `Spec.RelocDyn.dynTablesStd`.
-/
import PyElf.Proofs.Reloc
import PyElf.Proofs.Relr
import PyElf.Proofs.EnumTable
import PyElf.Proofs.Reads
namespace PyElf.Proofs.RelocDyn
open PyElf PyElf.Spec PyElf.Spec.RelocDyn PyElf.Model PyElf.Model.Reloc PyElf.Proofs PyElf.Proofs.Reloc PyElf.Proofs.Engine

def DTagEnv (env : Env) (tbl : String) : Prop :=
  ∀ p ∈ relDynTags, ∀ n : Int, env.enumDecode tbl n = some p.1 ↔ n = p.2

/-- how `Enum(..., default=Pass)` presents a tag number -/
def dtagVal (env : Env) (tbl : String) (t : Int) : Val :=
  match env.enumDecode tbl t with
  | some s => .str s
  | none => .int t

theorem dtagVal_beq {env : Env} {tbl : String} (henv : DTagEnv env tbl) {name : String} {k : Int}
    (hp : (name, k) ∈ relDynTags) (t : Int) : (dtagVal env tbl t == Val.str name) = (t == k) :=
  EnumTable.NamesOnly.beq henv hp t

theorem spec_Elf_Dyn (c : ElfCfg) :
    (Spec.elfStructs c).Elf_Dyn
      = st [f "d_tag" (.enum (.sint (c.cls / 8) c.le) (dTagTable c.mclass c.solaris) true),
            f "d_val" (.uint (c.cls / 8) c.le), f "d_ptr" (.value (ctx "d_val"))] := rfl

def dynEntSize (cls : Nat) : Nat := 2 * (cls / 8)

theorem sizeof_dyn (cfg : ElfCfg) : conSizeof (Spec.elfStructs cfg).Elf_Dyn = .ok (dynEntSize cfg.cls) := by
  simp [spec_Elf_Dyn, st, f, mkFields, conSizeof, fieldsSizeof, dynEntSize, bind, Except.bind, pure, Except.pure]
  omega

theorem encDyn_length (le : Bool) (cls : Nat) (e : DynEntry) : (encDyn le cls e).length = dynEntSize cls := by
  simp [encDyn, encNat_length, dynEntSize]; omega

def obsDyn (env : Env) (tbl : String) (e : DynEntry) : Val :=
  .record [("d_tag", dtagVal env tbl e.1), ("d_val", .int e.2), ("d_ptr", .int e.2)]

theorem dyn_entry_reads (cfg : ElfCfg) (hcls : cfg.cls = 32 ∨ cfg.cls = 64) (env : Env) (e : DynEntry)
    (hwf : WFDyn cfg.cls e = true) {ctx : Fields} {pos : Nat} {out : Bytes} :
    Reads (pr env (Spec.elfStructs cfg).Elf_Dyn) ctx pos (encDyn cfg.le cfg.cls e ++ out)
      (obsDyn env (dTagTable cfg.mclass cfg.solaris) e) (pos + dynEntSize cfg.cls) out ctx := by
  simp only [WFDyn, Bool.and_eq_true, decide_eq_true_eq] at hwf
  obtain ⟨⟨hlo, hhi⟩, hv⟩ := hwf
  have hw := cls_bytes hcls
  have hv' : e.2 < 256 ^ (cfg.cls / 8) := by
    rw [pow256, hw.2]; exact hv
  rw [← hw.2] at hlo hhi
  refine (ReadsF.struct (rec := [("d_tag", enumVal env.enumDecode (dTagTable cfg.mclass cfg.solaris) e.1),
      ("d_val", .int e.2), ("d_ptr", .int e.2)])
    (.named (Reads.enum_pass (Reads.sint hw.1 hlo hhi)) <| .named (Reads.uint hv') <|
      .named (Reads.value (eval_ctx (v := .int e.2) (by simp [Fields.get?_set]))) .nil)
    (by simp [Fields.set])).as ?_ rfl ?_
  · simp [encDyn, hw.2]
  · simp only [dynEntSize]; omega

theorem encDynArray_length (le : Bool) (cls : Nat) (es : List DynEntry) :
    (encDynArray le cls es).length = es.length * dynEntSize cls :=
  length_flatMap_const _ _ es fun e _ => encDyn_length le cls e

def decTags (env : Env) (tbl : String) (es : List DynEntry) : List (Val × Nat) :=
  es.map fun e => (dtagVal env tbl e.1, e.2)

theorem obsDyn_tag (env : Env) (tbl : String) (e : DynEntry) : (obsDyn env tbl e).getField "d_tag" = .ok (dtagVal env tbl e.1) := by
  simp [obsDyn, Val.getField, Fields.getR, Fields.get?]

theorem obsDyn_val (env : Env) (tbl : String) (e : DynEntry) : (obsDyn env tbl e).getNat "d_val" = .ok e.2 :=
  Val.getNat_record_int (by simp [Fields.get?])

theorem iterTagsLoop_spec (cfg : ElfCfg) (hcls : cfg.cls = 32 ∨ cfg.cls = 64) (env : Env)
    (henv : DTagEnv env (dTagTable cfg.mclass cfg.solaris)) (tags : List DynEntry) (nv : Nat)
    (hwf : ∀ e ∈ tags ++ [(DT_NULL, nv)], WFDyn cfg.cls e = true) (hnn : ∀ e ∈ tags, e.1 ≠ DT_NULL)
    {data rest : Bytes} {off : Nat}
    (hd : data.drop off = encDynArray cfg.le cfg.cls (tags ++ [(DT_NULL, nv)]) ++ rest)
    (hfit : off + (tags.length + 1) * dynEntSize cfg.cls ≤ 2 ^ 63) :
    ∀ (k fuel n : Nat), n + k = tags.length → k < fuel →
      iterTagsLoop env (Spec.elfStructs cfg) data off (dynEntSize cfg.cls) fuel n
        = .ok (decTags env (dTagTable cfg.mclass cfg.solaris) (tags.drop n ++ [(DT_NULL, nv)])) := by
  -- `step`: the n-th entry as the loop reads it; then induction on the entries left before the DT_NULL
  have hpos : 0 < dynEntSize cfg.cls := by rcases hcls with h | h <;> simp [dynEntSize, h]
  have hnull := dtagVal_beq henv (name := "DT_NULL") (k := DT_NULL) (by simp [relDynTags])
  have step : ∀ n (hn : n < (tags ++ [(DT_NULL, nv)]).length),
      seekParse env (Spec.elfStructs cfg).Elf_Dyn data (off + n * dynEntSize cfg.cls)
        = .ok (obsDyn env (dTagTable cfg.mclass cfg.solaris) (tags ++ [(DT_NULL, nv)])[n]) := by
    intro n hn
    have hdn := drop_entry (fun e _ => encDyn_length cfg.le cfg.cls e) hn hd
    have hlt : off + n * dynEntSize cfg.cls < 2 ^ 63 :=
      entry_pos_lt (by simpa only [List.length_append, List.length_cons, List.length_nil] using hn) hpos hfit
    exact (dyn_entry_reads cfg hcls env _ (hwf _ (List.getElem_mem hn))).seekParse hlt hdn
  intro k
  induction k with
  | zero =>
    intro fuel n hn hf
    obtain ⟨fuel, rfl⟩ : ∃ f', fuel = f' + 1 := ⟨fuel - 1, by omega⟩
    have hlen : n < (tags ++ [(DT_NULL, nv)]).length := by simp; omega
    have hget : (tags ++ [(DT_NULL, nv)])[n] = (DT_NULL, nv) := by
      rw [List.getElem_append_right (by omega)]; simp
    rw [iterTagsLoop, step n hlen, hget]
    simp only [bind, Except.bind, obsDyn_tag, obsDyn_val, hnull, BEq.rfl, ↓reduceIte, pure, Except.pure]
    rw [List.drop_eq_nil_of_le (by omega)]
    rfl
  | succ k ih =>
    intro fuel n hn hf
    obtain ⟨fuel, rfl⟩ : ∃ f', fuel = f' + 1 := ⟨fuel - 1, by omega⟩
    have hlt : n < tags.length := by omega
    have hlen : n < (tags ++ [(DT_NULL, nv)]).length := by simp; omega
    have hget : (tags ++ [(DT_NULL, nv)])[n] = tags[n] := List.getElem_append_left hlt
    have hne : (tags[n].1 == DT_NULL) = false := by simpa using hnn _ (List.getElem_mem hlt)
    rw [iterTagsLoop, step n hlen, hget]
    simp only [bind, Except.bind, obsDyn_tag, obsDyn_val, hnull, hne, Bool.false_eq_true, ↓reduceIte]
    rw [ih fuel (n + 1) (by omega) (by omega), List.drop_eq_getElem_cons hlt]
    rfl

theorem iterTags_spec (cfg : ElfCfg) (hcls : cfg.cls = 32 ∨ cfg.cls = 64) (env : Env)
    (henv : DTagEnv env (dTagTable cfg.mclass cfg.solaris)) (tags : List DynEntry) (nv : Nat)
    (hwf : ∀ e ∈ tags ++ [(DT_NULL, nv)], WFDyn cfg.cls e = true) (hnn : ∀ e ∈ tags, e.1 ≠ DT_NULL)
    {data rest : Bytes} {off : Nat}
    (hd : data.drop off = encDynArray cfg.le cfg.cls (tags ++ [(DT_NULL, nv)]) ++ rest)
    (hfit : off + (tags.length + 1) * dynEntSize cfg.cls ≤ 2 ^ 63) :
    iterTags env (Spec.elfStructs cfg) data off false
      = .ok (decTags env (dTagTable cfg.mclass cfg.solaris) (tags ++ [(DT_NULL, nv)])) := by
  have hpos : 0 < dynEntSize cfg.cls := by rcases hcls with h | h <;> simp [dynEntSize, h]
  have hlen : (tags.length + 1) * dynEntSize cfg.cls ≤ data.length := by
    have h1 := length_of_drop hd
    rw [List.length_append, encDynArray_length] at h1
    simp only [List.length_append, List.length_cons, List.length_nil, Nat.zero_add] at h1
    omega
  have hle : tags.length + 1 ≤ (tags.length + 1) * dynEntSize cfg.cls := Nat.le_mul_of_pos_right _ hpos
  unfold iterTags
  simp only [Bool.false_eq_true, ↓reduceIte, sizeof_dyn, bind, Except.bind]
  have := iterTagsLoop_spec cfg hcls env henv tags nv hwf hnn hd hfit tags.length (data.length + 2) 0 (by omega) (by omega)
  rw [List.drop_zero] at this
  exact this

def dynVals (es : List DynEntry) (k : Int) : List Nat := (es.filter (fun e => e.1 == k)).map (·.2)

theorem tagsOf_dec {env : Env} {tbl : String} (henv : DTagEnv env tbl) {name : String} {k : Int}
    (hp : (name, k) ∈ relDynTags) (es : List DynEntry) : tagsOf (decTags env tbl es) name = dynVals es k := by
  unfold tagsOf decTags dynVals
  rw [List.filter_map, List.map_map]
  have : ((fun t : Val × Nat => t.1 == Val.str name) ∘ fun e : DynEntry => (dtagVal env tbl e.1, e.2))
      = fun e : DynEntry => e.1 == k := by
    funext e
    exact dtagVal_beq henv hp e.1
  rw [this]
  rfl

theorem describes_filter {c : RelCfg} {d : DynRelocs} {tags : List DynEntry} (h : DynDescribes c d tags = true)
    {name : String} {k : Int} (hp : (name, k) ∈ relDynTags) :
    tags.filter (fun e => e.1 == k) = (dynRelEntries c d).filter (fun e => e.1 == k) := by
  simp only [DynDescribes, List.all_eq_true, beq_iff_eq] at h
  exact h _ hp

theorem tagsOf_described {env : Env} {tbl : String} (henv : DTagEnv env tbl) {c : RelCfg} {d : DynRelocs}
    {tags : List DynEntry} (h : DynDescribes c d tags = true) (nv : Nat) {name : String} {k : Int}
    (hp : (name, k) ∈ relDynTags) (hk : k ≠ DT_NULL) :
    tagsOf (decTags env tbl (tags ++ [(DT_NULL, nv)])) name = dynVals (dynRelEntries c d) k := by
  rw [tagsOf_dec henv hp]
  unfold dynVals
  rw [List.filter_append, describes_filter h hp]
  have : ([(DT_NULL, nv)] : List DynEntry).filter (fun e => e.1 == k) = [] := by
    have hb : (DT_NULL == k) = false := beq_eq_false_iff_ne.mpr (Ne.symm hk)
    simp [List.filter, hb]
  rw [this, List.append_nil]

def toLoad (s : LoadSeg) : Load := (s.vaddr, s.filesz, s.offset)

theorem addressOffset_spec (loads : List LoadSeg) (a : Nat) : addressOffset (loads.map toLoad) a = fileOffset loads a := by
  unfold addressOffset fileOffset
  rw [List.find?_map]
  cases h : List.find? ((fun x : Load => decide (a ≥ x.1) && decide (a + 1 ≤ x.1 + x.2.1)) ∘ toLoad) loads with
  | none =>
    have : List.find? (fun s : LoadSeg => s.holds a) loads = none := h
    simp [this]
  | some s =>
    have : List.find? (fun s : LoadSeg => s.holds a) loads = some s := h
    simp [this, toLoad]

theorem dtRela_val : genEnumValue "ENUM_D_TAG" "DT_RELA" = some 7 := by decide +kernel

/-- the `RelrRelocationTable` object over the standard's structs -/
def specRelr (cfg : ElfCfg) (off : Option Nat) (size : Nat) : RelrTable :=
  { offset := off, size := size, relrStruct := (Spec.elfStructs cfg).Elf_Relr, entrySize := cfg.cls / 8,
    addrSize := cfg.cls / 8 }

/-- the table objects `get_relocation_tables` must build for `d` -/
def specDynTables (cfg : ElfCfg) (loads : List LoadSeg) (d : DynRelocs) : List (String × DynTable) :=
  (match d.rel with
   | some t => [("REL", .rel (specTable cfg (fileOffset loads t.addr) t.size false))]
   | none => []) ++
  (match d.rela with
   | some t => [("RELA", .rel (specTable cfg (fileOffset loads t.addr) t.size true))]
   | none => []) ++
  (match d.relr with
   | some t => [("RELR", .relr (specRelr cfg (fileOffset loads t.addr) t.size))]
   | none => []) ++
  (match d.jmprel with
   | some (t, rela) => [("JMPREL", .rel (specTable cfg (fileOffset loads t.addr) t.size rela))]
   | none => [])

/-- what the API shows of a table object -/
def obsDynTable : DynTable → DynTableObs
  | .rel t => .rel t.offset t.size t.entrySize t.isRela
  | .relr t => .relr t.offset t.size t.entrySize

theorem specDynTables_obs (cfg : ElfCfg) (loads : List LoadSeg) (d : DynRelocs) :
    (specDynTables cfg loads d).map (fun p => (p.1, obsDynTable p.2)) = dynTablesStd (relCfgOf cfg) loads d := by
  obtain ⟨r, ra, rr, j⟩ := d
  -- sixteen shapes (each of the four tables present or absent); on each, both sides compute
  cases r <;> cases ra <;> cases rr <;> cases j <;> rfl

theorem specTable_entrySize (cfg : ElfCfg) (o : Option Nat) (sz : Nat) (r : Bool) :
    (specTable cfg o sz r).entrySize = relEntSize (relCfgOf cfg) r := rfl

theorem firstTag_nil {ts : List (Val × Nat)} {name : String} (h : tagsOf ts name = []) :
    firstTag ts name = .error .stopIteration := by
  simp [firstTag, h]

theorem firstTag_cons {ts : List (Val × Nat)} {name : String} {v : Nat} {vs : List Nat} (h : tagsOf ts name = v :: vs) :
    firstTag ts name = .ok v := by
  simp [firstTag, h]

/-- a table pointer (any value, 0 included) is mapped through the PT_LOAD segments; absent tag: no offset -/
theorem tableOffset_spec (ts : List (Val × Nat)) (loads : List LoadSeg) (name : String) :
    tableOffset ts (loads.map toLoad) name = (tagsOf ts name).head?.bind (fileOffset loads) := by
  unfold tableOffset
  cases tagsOf ts name with
  | nil => rfl
  | cons p ps => simp [addressOffset_spec]

/-! ### `get_relocation_tables`, one `if list(self.iter_tags(..)):` block at a time

  Each block either leaves `result` alone or appends one table and goes on; `k` is the rest of the function.  The
  function is the four blocks in a row (`getRelocationTables_steps`), so every statement about it — exactness on a
  described array, each missing or wrong companion tag — is a statement about one block. -/

abbrev Tables := List (String × DynTable)

def relStep (S : ElfStructs) (tags : List (Val × Nat)) (loads : List Load) (a sz ent : String) (rela : Bool)
    (label : String) (k : Tables → R Tables) (result : Tables) : R Tables :=
  if !(tagsOf tags a).isEmpty then do
    let t ← mkTable S (tableOffset tags loads a) (← firstTag tags sz) rela
    let relentsz ← firstTag tags ent
    if t.entrySize ≠ relentsz then .error .elfError
    k (result ++ [(label, .rel t)])
  else k result

def relrStep (S : ElfStructs) (tags : List (Val × Nat)) (loads : List Load) (k : Tables → R Tables) (result : Tables) :
    R Tables :=
  if !(tagsOf tags "DT_RELR").isEmpty then do
    let sz ← firstTag tags "DT_RELRSZ"
    let ent ← firstTag tags "DT_RELRENT"
    let t ← relrInit S (tableOffset tags loads "DT_RELR") sz ent
    k (result ++ [("RELR", .relr t)])
  else k result

/-- `dtRela` is `ENUM_D_TAG['DT_RELA']` -/
def jmprelStep (S : ElfStructs) (tags : List (Val × Nat)) (loads : List Load) (dtRela : Int) (k : Tables → R Tables)
    (result : Tables) : R Tables :=
  if !(tagsOf tags "DT_JMPREL").isEmpty then do
    let sz ← firstTag tags "DT_PLTRELSZ"
    let pltrel ← firstTag tags "DT_PLTREL"
    let t ← mkTable S (tableOffset tags loads "DT_JMPREL") sz ((pltrel : Int) == dtRela)
    k (result ++ [("JMPREL", .rel t)])
  else k result

/-- the function is the four blocks in a row.  The dictionary lookup is taken as a hypothesis so that comparing the
    two sides does not evaluate it (it is evaluated once, in `dtRela_val`). -/
theorem getRelocationTables_steps_of (S : ElfStructs) (tags : List (Val × Nat)) (loads : List Load) {c : Int}
    (hc : genEnumValue "ENUM_D_TAG" "DT_RELA" = some c) :
    getRelocationTables S tags loads =
      relStep S tags loads "DT_REL" "DT_RELSZ" "DT_RELENT" false "REL"
        (relStep S tags loads "DT_RELA" "DT_RELASZ" "DT_RELAENT" true "RELA"
          (relrStep S tags loads (jmprelStep S tags loads c pure))) [] := by
  unfold getRelocationTables
  rw [hc]
  rfl

theorem getRelocationTables_steps (S : ElfStructs) (tags : List (Val × Nat)) (loads : List Load) :
    getRelocationTables S tags loads =
      relStep S tags loads "DT_REL" "DT_RELSZ" "DT_RELENT" false "REL"
        (relStep S tags loads "DT_RELA" "DT_RELASZ" "DT_RELAENT" true "RELA"
          (relrStep S tags loads (jmprelStep S tags loads 7 pure))) [] :=
  getRelocationTables_steps_of S tags loads dtRela_val

section steps
variable {S : ElfStructs} {tags : List (Val × Nat)} {loads : List Load} {a sz ent label : String} {rela : Bool}
  {k : Tables → R Tables} {result : Tables} {dtRela : Int}

theorem relStep_absent (h : tagsOf tags a = []) : relStep S tags loads a sz ent rela label k result = k result := by
  simp [relStep, h]

theorem relStep_no_size (h1 : tagsOf tags a ≠ []) (h2 : tagsOf tags sz = []) :
    relStep S tags loads a sz ent rela label k result = .error .stopIteration := by
  simp [relStep, h1, firstTag_nil h2, bind, Except.bind]

theorem relrStep_absent (h : tagsOf tags "DT_RELR" = []) : relrStep S tags loads k result = k result := by
  simp [relrStep, h]

theorem relrStep_incomplete (h1 : tagsOf tags "DT_RELR" ≠ [])
    (h2 : tagsOf tags "DT_RELRSZ" = [] ∨ tagsOf tags "DT_RELRENT" = []) :
    relrStep S tags loads k result = .error .stopIteration := by
  cases hz : tagsOf tags "DT_RELRSZ" with
  | nil => simp [relrStep, h1, firstTag_nil hz, bind, Except.bind]
  | cons z zs =>
    have h3 := h2.resolve_left (by simp [hz])
    simp [relrStep, h1, firstTag_cons hz, firstTag_nil h3, bind, Except.bind]

theorem jmprelStep_absent (h : tagsOf tags "DT_JMPREL" = []) :
    jmprelStep S tags loads dtRela k result = k result := by
  simp [jmprelStep, h]

theorem jmprelStep_incomplete (h1 : tagsOf tags "DT_JMPREL" ≠ [])
    (h2 : tagsOf tags "DT_PLTRELSZ" = [] ∨ tagsOf tags "DT_PLTREL" = []) :
    jmprelStep S tags loads dtRela k result = .error .stopIteration := by
  cases hz : tagsOf tags "DT_PLTRELSZ" with
  | nil => simp [jmprelStep, h1, firstTag_nil hz, bind, Except.bind]
  | cons z zs =>
    have h3 := h2.resolve_left (by simp [hz])
    simp [jmprelStep, h1, firstTag_cons hz, firstTag_nil h3, bind, Except.bind]

end steps

section steps_spec
variable (cfg : ElfCfg) (hcls : cfg.cls = 32 ∨ cfg.cls = 64) {tags : List (Val × Nat)} {a sz ent label : String}
  {rela : Bool} {k : Tables → R Tables} {result : Tables}
include hcls

theorem relStep_no_ent {loads : List Load} (h1 : tagsOf tags a ≠ []) (h2 : tagsOf tags sz ≠ []) (h3 : tagsOf tags ent = []) :
    relStep (Spec.elfStructs cfg) tags loads a sz ent rela label k result = .error .stopIteration := by
  obtain ⟨z, zs, hz⟩ := List.exists_cons_of_ne_nil h2
  simp [relStep, h1, firstTag_cons hz, firstTag_nil h3, mkTable_spec cfg hcls, bind, Except.bind]

theorem relStep_bad_ent {loads : List Load} (h1 : tagsOf tags a ≠ []) (h2 : tagsOf tags sz ≠ []) {e : Nat} {es : List Nat}
    (h3 : tagsOf tags ent = e :: es) (hne : e ≠ relEntSize (relCfgOf cfg) rela) :
    relStep (Spec.elfStructs cfg) tags loads a sz ent rela label k result = .error .elfError := by
  obtain ⟨z, zs, hz⟩ := List.exists_cons_of_ne_nil h2
  simp [relStep, h1, firstTag_cons hz, firstTag_cons h3, mkTable_spec cfg hcls, bind, Except.bind, specTable_entrySize,
    Ne.symm hne]

theorem relStep_present {loads : List LoadSeg} {addr size : Nat} {r1 r2 r3 : List Nat} (h1 : tagsOf tags a = addr :: r1)
    (h2 : tagsOf tags sz = size :: r2) (h3 : tagsOf tags ent = relEntSize (relCfgOf cfg) rela :: r3) :
    relStep (Spec.elfStructs cfg) tags (loads.map toLoad) a sz ent rela label k result
      = k (result ++ [(label, .rel (specTable cfg (fileOffset loads addr) size rela))]) := by
  simp [relStep, h1, firstTag_cons h2, firstTag_cons h3, tableOffset_spec, mkTable_spec cfg hcls, bind, Except.bind,
    specTable_entrySize]

theorem jmprelStep_present {loads : List LoadSeg} {dtRela : Int} {addr size code : Nat} {r1 r2 r3 : List Nat}
    (h1 : tagsOf tags "DT_JMPREL" = addr :: r1) (h2 : tagsOf tags "DT_PLTRELSZ" = size :: r2)
    (h3 : tagsOf tags "DT_PLTREL" = code :: r3) :
    jmprelStep (Spec.elfStructs cfg) tags (loads.map toLoad) dtRela k result
      = k (result ++ [("JMPREL", .rel (specTable cfg (fileOffset loads addr) size ((code : Int) == dtRela)))]) := by
  simp [jmprelStep, h1, firstTag_cons h2, firstTag_cons h3, tableOffset_spec, mkTable_spec cfg hcls, bind, Except.bind]

end steps_spec

theorem relrStep_present (cfg : ElfCfg) {tags : List (Val × Nat)} {loads : List LoadSeg} {k : Tables → R Tables}
    {result : Tables} {addr size : Nat} {r1 r2 r3 : List Nat} (h1 : tagsOf tags "DT_RELR" = addr :: r1)
    (h2 : tagsOf tags "DT_RELRSZ" = size :: r2) (h3 : tagsOf tags "DT_RELRENT" = cfg.cls / 8 :: r3) :
    relrStep (Spec.elfStructs cfg) tags (loads.map toLoad) k result
      = k (result ++ [("RELR", .relr (specRelr cfg (fileOffset loads addr) size))]) := by
  simp [relrStep, h1, firstTag_cons h2, firstTag_cons h3, tableOffset_spec, relrInit_spec, show specRelr cfg _ _ = specRelrTable cfg.le (cfg.cls / 8) _ _ from rfl, bind, Except.bind]

def optList {α β : Type} (o : Option α) (g : α → List β) : List β :=
  match o with
  | some t => g t
  | none => []

theorem optList_nil {α β : Type} (o : Option α) : optList o (fun _ => ([] : List β)) = [] := by
  cases o <;> rfl

theorem dynVals_append (a b : List DynEntry) (k : Int) : dynVals (a ++ b) k = dynVals a k ++ dynVals b k := by
  simp [dynVals]

theorem dynVals_optList {α : Type} (o : Option α) (g : α → List DynEntry) (k : Int) :
    dynVals (optList o g) k = optList o fun t => dynVals (g t) k := by
  cases o <;> rfl

theorem dynRelEntries_eq (c : RelCfg) (d : DynRelocs) :
    dynRelEntries c d =
      optList d.rel (fun t => [(DT_REL, t.addr), (DT_RELSZ, t.size), (DT_RELENT, relEntSize c false)]) ++
      optList d.rela (fun t => [(DT_RELA, t.addr), (DT_RELASZ, t.size), (DT_RELAENT, relEntSize c true)]) ++
      optList d.relr (fun t => [(DT_RELR, t.addr), (DT_RELRSZ, t.size), (DT_RELRENT, c.w)]) ++
      optList d.jmprel (fun p => [(DT_JMPREL, p.1.addr), (DT_PLTRELSZ, p.1.size),
        (DT_PLTREL, if p.2 then DT_RELA.toNat else DT_REL.toNat)]) := by
  obtain ⟨r, ra, rr, j⟩ := d
  cases r <;> cases ra <;> cases rr <;> cases j <;> rfl

theorem specDynTables_eq (cfg : ElfCfg) (loads : List LoadSeg) (d : DynRelocs) :
    specDynTables cfg loads d =
      optList d.rel (fun t => [("REL", .rel (specTable cfg (fileOffset loads t.addr) t.size false))]) ++
      optList d.rela (fun t => [("RELA", .rel (specTable cfg (fileOffset loads t.addr) t.size true))]) ++
      optList d.relr (fun t => [("RELR", .relr (specRelr cfg (fileOffset loads t.addr) t.size))]) ++
      optList d.jmprel (fun p => [("JMPREL", .rel (specTable cfg (fileOffset loads p.1.addr) p.1.size p.2))]) := by
  obtain ⟨r, ra, rr, j⟩ := d
  cases r <;> cases ra <;> cases rr <;> cases j <;> rfl

theorem relStep_described (cfg : ElfCfg) (hcls : cfg.cls = 32 ∨ cfg.cls = 64) {tags : List (Val × Nat)}
    {loads : List LoadSeg} {a sz ent label : String} {rela : Bool} {k : Tables → R Tables} {result : Tables}
    (o : Option DynTab) (h1 : tagsOf tags a = optList o fun t => [t.addr])
    (h2 : tagsOf tags sz = optList o fun t => [t.size])
    (h3 : tagsOf tags ent = optList o fun _ => [relEntSize (relCfgOf cfg) rela]) :
    relStep (Spec.elfStructs cfg) tags (loads.map toLoad) a sz ent rela label k result
      = k (result ++ optList o fun t => [(label, .rel (specTable cfg (fileOffset loads t.addr) t.size rela))]) := by
  cases o with
  | none => rw [relStep_absent h1]; exact congrArg k (List.append_nil _).symm
  | some t => exact relStep_present cfg hcls h1 h2 h3

theorem relrStep_described (cfg : ElfCfg) {tags : List (Val × Nat)} {loads : List LoadSeg} {k : Tables → R Tables}
    {result : Tables} (o : Option DynTab) (h1 : tagsOf tags "DT_RELR" = optList o fun t => [t.addr])
    (h2 : tagsOf tags "DT_RELRSZ" = optList o fun t => [t.size])
    (h3 : tagsOf tags "DT_RELRENT" = optList o fun _ => [cfg.cls / 8]) :
    relrStep (Spec.elfStructs cfg) tags (loads.map toLoad) k result
      = k (result ++ optList o fun t => [("RELR", .relr (specRelr cfg (fileOffset loads t.addr) t.size))]) := by
  cases o with
  | none => rw [relrStep_absent h1]; exact congrArg k (List.append_nil _).symm
  | some t => exact relrStep_present cfg h1 h2 h3

theorem jmprelStep_described (cfg : ElfCfg) (hcls : cfg.cls = 32 ∨ cfg.cls = 64) {tags : List (Val × Nat)}
    {loads : List LoadSeg} {k : Tables → R Tables} {result : Tables} (o : Option (DynTab × Bool))
    (h1 : tagsOf tags "DT_JMPREL" = optList o fun p => [p.1.addr])
    (h2 : tagsOf tags "DT_PLTRELSZ" = optList o fun p => [p.1.size])
    (h3 : tagsOf tags "DT_PLTREL" = optList o fun p => [if p.2 then DT_RELA.toNat else DT_REL.toNat]) :
    jmprelStep (Spec.elfStructs cfg) tags (loads.map toLoad) 7 k result
      = k (result ++ optList o fun p =>
          [("JMPREL", .rel (specTable cfg (fileOffset loads p.1.addr) p.1.size p.2))]) := by
  cases o with
  | none => rw [jmprelStep_absent h1]; exact congrArg k (List.append_nil _).symm
  | some p =>
    have hflav : (((if p.2 then DT_RELA.toNat else DT_REL.toNat : Nat) : Int) == 7) = p.2 := by
      cases p.2 <;> rfl
    rw [jmprelStep_present cfg hcls h1 h2 h3, hflav]
    rfl

theorem dynVals_nil (k : Int) : dynVals [] k = [] := rfl

theorem dynVals_cons (e : DynEntry) (es : List DynEntry) (k : Int) :
    dynVals (e :: es) k = if e.1 == k then e.2 :: dynVals es k else dynVals es k := by
  unfold dynVals
  rw [List.filter_cons]
  split <;> rfl

theorem getRelocationTables_spec (cfg : ElfCfg) (hcls : cfg.cls = 32 ∨ cfg.cls = 64) (ts : List (Val × Nat))
    (loads : List LoadSeg) (d : DynRelocs)
    (h : ∀ p ∈ relDynTags, p.2 ≠ DT_NULL → tagsOf ts p.1 = dynVals (dynRelEntries (relCfgOf cfg) d) p.2) :
    getRelocationTables (Spec.elfStructs cfg) ts (loads.map toLoad) = .ok (specDynTables cfg loads d) := by
  -- each tag's values: the owning table's entry, nothing from the other three
  simp only [relDynTags, List.forall_mem_cons, List.not_mem_nil, false_imp_iff, implies_true, and_true,
    dynRelEntries_eq, dynVals_append, dynVals_optList, dynVals_cons, dynVals_nil, optList_nil,
    DT_NULL, DT_PLTRELSZ, DT_RELA, DT_RELASZ, DT_RELAENT, DT_REL, DT_RELSZ, DT_RELENT, DT_PLTREL, DT_JMPREL, DT_RELRSZ,
    DT_RELR, DT_RELRENT, ne_eq, Int.reduceEq, Int.reduceBEq, not_true_eq_false, not_false_eq_true, forall_const,
    Bool.false_eq_true, ↓reduceIte, List.append_nil, List.nil_append, Int.reduceToNat] at h
  -- one equation per tag, in the order of `relDynTags` (DT_NULL first, which says nothing)
  obtain ⟨-, hPltrelsz, hRela, hRelasz, hRelaent, hRel, hRelsz, hRelent, hPltrel, hJmprel, hRelrsz, hRelr, hRelrent⟩ := h
  rw [getRelocationTables_steps, specDynTables_eq, relStep_described cfg hcls d.rel hRel hRelsz hRelent,
    relStep_described cfg hcls d.rela hRela hRelasz hRelaent, relrStep_described cfg d.relr hRelr hRelrsz hRelrent,
    jmprelStep_described cfg hcls d.jmprel hJmprel hPltrelsz hPltrel]
  rfl

def tableNamesOk (t : List (String × Int)) : Bool :=
  relDynTags.all fun p => decodeIn t p.2 == some p.1 && t.all fun e => e.1 != p.1 || e.2 == p.2

theorem dtagEnv_of_table {tbl : String} {t : List (String × Int)} {b : Bool}
    (hfind : Gen.tables.find? (·.1 == tbl) = some (tbl, t, b)) (hok : tableNamesOk t = true) :
    DTagEnv elfEnv tbl := by
  have ht : EnumTable.genTable tbl = t := by simp only [EnumTable.genTable, hfind]
  intro p hp n
  show genEnumDecode tbl n = some p.1 ↔ n = p.2
  rw [EnumTable.genEnumDecode_eq, ht]
  refine EnumTable.decodeIn_eq_some_iff ?_ n
  simpa [EnumTable.namesOnly, Bool.or_comm] using List.all_eq_true.1 hok p hp

end PyElf.Proofs.RelocDyn
