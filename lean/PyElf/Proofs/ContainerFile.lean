/-
  C11 on whole files: an abstract ELF description (Spec/ElfImage.lean) that stores a logical debug content
  (`StoresD`, `HoldsD`: bodies in the description, names by the description's `indexOfName`), and its transport —
  through what C01 knows of a byte string that carries the description (`Setup`, Proofs/ElfSections.lean; `fileOf`,
  Proofs/ElfView.lean) — to the section-table hypotheses (`stores_of_desc`, `holdsEnc_of_desc`).  The reader's name
  lookups are the description's (`getSectionByName_obs`).
-/
import PyElf.Proofs.ContainerNames
import PyElf.Proofs.ContainerLinks
import PyElf.Proofs.ElfView
namespace PyElf.Proofs.C11
open PyElf PyElf.Spec PyElf.Model PyElf.Model.C11 PyElf.Spec.C11 PyElf.Proofs
open PyElf.Proofs.C15 (fileOf)

theorem lastIdx_obs {env : Env} {d : ElfDesc} {obs : ElfObs} (ho : d.observe env = .ok obs) (n : Bytes) :
    lastIdx (obs.sections.map Sec.name) n = d.indexOfName n := by
  rw [show obs.sections.map Sec.name = d.sections.map (·.name) from observe_names ho, indexOfName_eq_lastIdx]

theorem hasSection_obs {env : Env} {d : ElfDesc} {obs : ElfObs} (ho : d.observe env = .ok obs) (n : Bytes) :
    hasSection obs.sections n = (d.indexOfName n).isSome := by
  rw [hasSection, dictGet_nameMap, lastIdx_obs ho]

theorem getSectionByName_obs {env : Env} {d : ElfDesc} {obs : ElfObs} (ho : d.observe env = .ok obs) (n : Bytes) :
    getSectionByName obs.sections n =
      match d.indexOfName n with
      | none => none
      | some i => obs.sections[i]? := by
  rw [getSectionByName, dictGet_nameMap, lastIdx_obs ho]
  cases d.indexOfName n <;> rfl

/-- `.zdebug_info` exists: the reader then looks for the renamed sections -/
def zfileD (d : ElfDesc) : Bool := (d.indexOfName nZdebugInfo).isSome

/-- the description-level `Stores`: the body is the description's, not yet bytes of a file -/
def StoresD (deflate : Nat → Bytes → Bytes) (d : ElfDesc) (sd : SecDesc) (sh : Val) (e : Enc)
    (payload : Bytes) (addr off : Nat) : Prop :=
  ∃ ty flags,
    sh.getField "sh_type" = .ok ty ∧ isStr ty "SHT_NOBITS" = false ∧
    sh.getNat "sh_flags" = .ok flags ∧ sh.getNat "sh_offset" = .ok off ∧
    sh.getNat "sh_size" = .ok (e.body deflate d.cls d.le payload).length ∧ sh.getNat "sh_addr" = .ok addr ∧
    sd.body = some (e.body deflate d.cls d.le payload) ∧
    off + (e.body deflate d.cls d.le payload).length < 2 ^ 63 ∧
    e.ok deflate d.cls payload flags

theorem StoresD.of {deflate : Nat → Bytes → Bytes} {d : ElfDesc} {sd : SecDesc} {sh : Val} {e : Enc} {payload : Bytes}
    {addr off : Nat} (ty : Val) (flags : Nat) (hty : sh.getField "sh_type" = .ok ty) (hnb : isStr ty "SHT_NOBITS" = false)
    (hfl : sh.getNat "sh_flags" = .ok flags) (hoff : sh.getNat "sh_offset" = .ok off)
    (hsz : sh.getNat "sh_size" = .ok (e.body deflate d.cls d.le payload).length) (haddr : sh.getNat "sh_addr" = .ok addr)
    (hbody : sd.body = some (e.body deflate d.cls d.le payload))
    (hbound : off + (e.body deflate d.cls d.le payload).length < 2 ^ 63) (hok : e.ok deflate d.cls payload flags) :
    StoresD deflate d sd sh e payload addr off :=
  ⟨ty, flags, hty, hnb, hfl, hoff, hsz, haddr, hbody, hbound, hok⟩

/-- the description-level `HoldsEnc`: names are resolved by the description's own `indexOfName` -/
def HoldsD (names : List (String × Bytes × Bool)) (deflate : Nat → Bytes → Bytes) (d : ElfDesc) (obs : ElfObs)
    (relocate : Bool) (content : Content) (allowed : Enc → Prop) : Prop :=
  ∀ kn ∈ names,
    match content kn.1 with
    | none => d.indexOfName (secNameOf (zfileD d) kn) = none
    | some (payload, addr) =>
      ∃ (i : Nat) (sd : SecDesc) (sec : Sec) (e : Enc) (off : Nat), d.indexOfName (secNameOf (zfileD d) kn) = some i ∧
        d.sections[i]? = some sd ∧ obs.sections[i]? = some sec ∧
        NoReloc obs.sections relocate sec.name ∧
        StoresD deflate d sd sec.hdr e payload addr off ∧
        e.legacy = legacyOf (zfileD d) kn ∧ allowed e

/-- for a content with one keyword: the other keywords are absent from the content (a fact about the content alone)
    and no section bears their names (a decidable check of the description) -/
theorem holdsD_cons {kn0 : String × Bytes × Bool} {rest : List (String × Bytes × Bool)} {deflate : Nat → Bytes → Bytes}
    {d : ElfDesc} {obs : ElfObs} {relocate : Bool} {content : Content} {allowed : Enc → Prop}
    (h0 : HoldsD [kn0] deflate d obs relocate content allowed)
    (hcont : rest.all (fun kn => (content kn.1).isNone) = true)
    (hnames : rest.all (fun kn => (d.indexOfName (secNameOf (zfileD d) kn)).isNone) = true) :
    HoldsD (kn0 :: rest) deflate d obs relocate content allowed := by
  intro kn hk
  rcases List.mem_cons.1 hk with rfl | hk
  · exact h0 kn (List.mem_singleton.2 rfl)
  · rw [Option.isNone_iff_eq_none.1 (List.all_eq_true.1 hcont kn hk)]
    exact Option.isNone_iff_eq_none.1 (List.all_eq_true.1 hnames kn hk)

theorem stores_of_desc {env : Env} {deflate : Nat → Bytes → Bytes} {d : ElfDesc} {bytes : Bytes} {hdr : Val}
    {st : Option Val} {obs : ElfObs} (X : Setup env d bytes hdr st) (ho : d.observe env = .ok obs)
    {i : Nat} {sd : SecDesc} {sec : Sec} (hsd : d.sections[i]? = some sd) (hsec : obs.sections[i]? = some sec)
    {e : Enc} {payload : Bytes} {addr off : Nat}
    (hst : StoresD deflate d sd sec.hdr e payload addr off) :
    Stores deflate bytes d.cls d.le sec e payload addr off := by
  obtain ⟨h, V⟩ := X.secAt hsd
  cases Option.some.inj ((V.obs ho).symm.trans hsec)
  obtain ⟨ty, flags, hty, hnb, hfl, hoff, hsz, haddr, hbody, hbound, hok⟩ := hst
  cases Except.ok.inj (V.offset.symm.trans hoff)
  exact ⟨ty, _, flags, ⟨hty, hnb, hfl, hoff, hsz, haddr, V.drop_body hbody, hbound⟩, hok⟩

theorem holdsEnc_of_desc {P : Params} {deflate : Nat → Bytes → Bytes} {d : ElfDesc} {bytes : Bytes} {hdr : Val}
    {st : Option Val} {obs : ElfObs} (X : Setup P.env d bytes hdr st) (ho : d.observe P.env = .ok obs)
    {relocate : Bool} {content : Content} {allowed : Enc → Prop}
    (hh : HoldsD P.names deflate d obs relocate content allowed) :
    HoldsEnc P deflate (fileOf d bytes hdr st) obs.sections relocate content allowed := by
  intro kn hk
  have hz : hasSection obs.sections nZdebugInfo = zfileD d := hasSection_obs ho _
  have := hh kn hk
  rw [hz]
  cases hc : content kn.1 with
  | none =>
    simp only [hc] at this ⊢
    rw [getSectionByName_obs ho, this]
  | some pa =>
    obtain ⟨payload, addr⟩ := pa
    simp only [hc] at this ⊢
    obtain ⟨i, sd, sec, e, off, hidx, hsd, hsec, hnr, hst, hleg, hal⟩ := this
    refine ⟨sec, e, off, ?_, hnr, stores_of_desc X ho hsd hsec hst, hleg, hal⟩
    rw [getSectionByName_obs ho, hidx]
    exact hsec

theorem load_of_open {P : Params} {data : Bytes} {f : ElfFile} {secs : List Sec}
    (hopen : openElf P.env P.structsFor P.machineClassOf data = .ok f)
    (hsecs : iterSections P.env f.S f.data f.header f.shstr = .ok secs) :
    load P data = .ok (f, secs) := by
  simp [load, hopen, hsecs, bind, Except.bind, pure, Except.pure]

section opened
variable {P : Params} {d : ElfDesc} {bytes : Bytes} {obs : ElfObs} {st : Option Val}

theorem load_opened (X : Setup P.env d bytes obs.header st) (ho : d.observe P.env = .ok obs)
    (hopen : openElf P.env P.structsFor P.machineClassOf bytes = .ok (fileOf d bytes obs.header st)) :
    load P bytes = .ok (fileOf d bytes obs.header st, obs.sections) :=
  load_of_open hopen (X.iterSections ho)

theorem fileOk_opened {deflate : Nat → Bytes → Bytes} (X : Setup P.env d bytes obs.header st)
    (henv : P.env.enumDecode "ENUM_ELFCOMPRESS_TYPE" 1 = some "ELFCOMPRESS_ZLIB") (hz : ZlibOk P.X deflate)
    (hph : hasPhantomBytes obs.header = .ok false) : FileOk P deflate (fileOf d bytes obs.header st) :=
  ⟨X.cls, rfl, henv, hz, hph⟩

end opened

/-- the last `.gnu_debuglink` section of the description holds the Spec encoding of (file name, CRC), possibly
    followed by junk -/
def DebuglinkD (deflate : Nat → Bytes → Bytes) (d : ElfDesc) (obs : ElfObs) (filename : Bytes) (crc : Nat) : Prop :=
  ∃ (i : Nat) (sd : SecDesc) (sec : Sec) (addr off : Nat) (junk : Bytes),
    d.indexOfName nGnuDebuglink = some i ∧ d.sections[i]? = some sd ∧ obs.sections[i]? = some sec ∧
    StoresD deflate d sd sec.hdr .plain (encDebuglink d.le filename crc ++ junk) addr off ∧
    (∀ b ∈ filename, b ≠ 0) ∧ crc < 2 ^ 32

theorem dwarfView_debuglink_desc {P : Params} {deflate : Nat → Bytes → Bytes} {d : ElfDesc} {bytes : Bytes} {obs : ElfObs}
    {st : Option Val} (X : Setup P.env d bytes obs.header st) (ho : d.observe P.env = .ok obs)
    (hopen : openElf P.env P.structsFor P.machineClassOf bytes = .ok (fileOf d bytes obs.header st))
    (fuel : Nat) (ld : Loader) (relocate : Bool) (filename ext : Bytes) (crc : Nat)
    (h : DebuglinkD deflate d obs filename crc) (hno : hasDwarfInfo obs.sections true = false)
    (hfile : ld filename = some ext) :
    dwarfView P (fuel + 1) (some ld) bytes relocate true =
      if P.X.crc32 ext ≠ crc then .error (.py .elfError) else dwarfView P fuel (some ld) ext relocate true := by
  obtain ⟨i, sd, sec, addr, off, junk, hidx, hsd, hsec, hst, hnul, hcrc⟩ := h
  have hget : getSectionByName obs.sections nGnuDebuglink = some sec := by
    rw [getSectionByName_obs ho, hidx]; exact hsec
  obtain ⟨ty, rest, flags, hp⟩ := (stores_of_desc X ho hsd hsec hst).plain
  have hd : bytes.drop off = encDebuglink d.le filename crc ++ (junk ++ rest) := by
    rw [hp.hdata, List.append_assoc]
  have hlt : off < 2 ^ 63 := by have := hp.hbound; omega
  rw [dwarfView_loaded P fuel (some ld) bytes relocate true (fileOf d bytes obs.header st) obs.sections
      (load_opened X ho hopen),
    core_debuglink P (getDwarfInfo P fuel) ld (fileOf d bytes obs.header st) obs.sections relocate sec off filename ext
      (junk ++ rest) crc rfl hget hno hp.hoff hlt hnul hcrc hd hfile]
  simp only [dwarfView]
  split <;> simp [fail, Except.map]

end PyElf.Proofs.C11
