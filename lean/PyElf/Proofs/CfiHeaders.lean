/-
  Header parses as derivations over `Reads` — pointer-encoded fields
  (`_eh_encoding_to_field`), the CIE header (every version and both formats in one derivation), the
  augmentation `Struct` built at run time and the dictionary `aug_dict.update` leaves (`augDict_eq`), the FDE headers of
  both section kinds; and what the struct bundle of the Spec gives for the fields these parses use.
-/
import PyElf.Spec.CFI
import PyElf.Spec.DwarfStructs
import PyElf.Model.CallFrame
import PyElf.Proofs.Primitives
import PyElf.Proofs.Reads
import PyElf.Proofs.BitFields
namespace PyElf.Proofs.Cfi
open PyElf PyElf.Spec PyElf.Model PyElf.Proofs PyElf.Proofs.Engine

theorem pf_append (env : Env) (data : Bytes) (a b : List (String × Con)) :
    ∀ (obj ctx : Fields) (pos : Nat),
    Con.parseFields env data (mkStruct (a ++ b)) obj ctx pos
      = (Con.parseFields env data (mkStruct a) obj ctx pos).bind
          (fun r => Con.parseFields env data (mkStruct b) r.1 r.2.2 r.2.1) := by
  induction a with
  | nil => intro obj ctx pos; simp [mkStruct, parseFields_nil, Except.bind]
  | cons x a ih =>
    intro obj ctx pos
    obtain ⟨n, c⟩ := x
    simp only [List.cons_append, mkStruct]
    rw [Con.parseFields, Con.parseFields]
    simp only [Bool.false_eq_true, if_false, bind, Except.bind]
    cases Con.parse env data c ctx pos with
    | error e => rfl
    | ok r => obtain ⟨v, p, ctx'⟩ := r; exact ih _ _ _

theorem ReadsF.append {env : Env} {a b : List (String × Con)} {obj o1 o2 ctx c1 c2 : Fields} {pos p1 p2 : Nat}
    {inp mid out : Bytes} (h1 : ReadsF (pf env (mkStruct a)) obj ctx pos inp o1 p1 mid c1)
    (h2 : ReadsF (pf env (mkStruct b)) o1 c1 p1 mid o2 p2 out c2) :
    ReadsF (pf env (mkStruct (a ++ b))) obj ctx pos inp o2 p2 out c2 :=
  ⟨fun {data} hd => by
    obtain ⟨e1, d1⟩ := h1.ok hd
    show Con.parseFields env data _ obj ctx pos = _ ∧ _
    rw [pf_append, show Con.parseFields env data (mkStruct a) obj ctx pos = _ from e1]
    exact h2.ok d1⟩

theorem cfiSlebLen_spec (v : Int) :
    1 ≤ cfiSlebLen v ∧ -((2 ^ (7 * cfiSlebLen v - 1) : Nat) : Int) ≤ v ∧ v < ((2 ^ (7 * cfiSlebLen v - 1) : Nat) : Int) := by
  have h1 := ulebLen_pos (2 * v.natAbs)
  have h2 := ulebLen_spec (2 * v.natAbs)
  have e : 2 ^ (7 * ulebLen (2 * v.natAbs)) = 2 * 2 ^ (7 * ulebLen (2 * v.natAbs) - 1) := by
    rw [← Nat.pow_succ']; congr 1; omega
  rw [e] at h2
  unfold cfiSlebLen
  generalize 2 ^ (7 * ulebLen (2 * v.natAbs) - 1) = H at *
  omega

/-- `_eh_encoding_to_field(structs)[basic]`, per the LSB table -/
def ptrCon (le : Bool) (asz : Nat) : Nat → Option Con
  | 0x00 => some (.uint asz le)
  | 0x01 => some .uleb
  | 0x02 => some (.uint 2 le)
  | 0x03 => some (.uint 4 le)
  | 0x04 => some (.uint 8 le)
  | 0x09 => some .sleb
  | 0x0a => some (.sint 2 le)
  | 0x0b => some (.sint 4 le)
  | 0x0c => some (.sint 8 le)
  | _ => none

theorem ptrCon_of_baseOk (le : Bool) (asz e : Nat) (h : baseOk e = true) : ∃ c, ptrCon le asz (e % 16) = some c := by
  have h16 : e % 16 < 16 := Nat.mod_lt _ (by decide)
  simp only [baseOk] at h
  generalize e % 16 = b at *
  have : b = 0 ∨ b = 1 ∨ b = 2 ∨ b = 3 ∨ b = 4 ∨ b = 9 ∨ b = 0xa ∨ b = 0xb ∨ b = 0xc := by
    simpa using h
  rcases this with rfl | rfl | rfl | rfl | rfl | rfl | rfl | rfl | rfl <;> exact ⟨_, rfl⟩

theorem ehField_spec (le : Bool) (fmt asz ver b : Nat) (c : Con) (h : ptrCon le asz b = some c) :
    ehField Spec.cfiTables (Spec.dwarfStructs ⟨le, fmt, asz, ver⟩) b = .ok c := by
  unfold ptrCon at h
  -- `exact rfl`, not the `rfl` tactic: the tactic evaluates the string lookups of `DwarfStructs.get` three times over
  split at h <;> first | (injection h with h; subst h; exact rfl) | (exact absurd h (by simp))

theorem ptr_uint_reads {env : Env} {pos n : Nat} {ctx : Fields} {le : Bool} {v : Int} {out : Bytes}
    (h0 : 0 ≤ v) (hlt : v < ((256 ^ n : Nat) : Int)) :
    Reads (pr env (.uint n le)) ctx pos (encNat le n v.toNat ++ out) (.int v) (pos + (encNat le n v.toNat).length) out ctx :=
  (Reads.uint (by omega)).as rfl (by rw [Int.toNat_of_nonneg h0]) (by rw [encNat_length])

theorem ptr_sint_reads {env : Env} {pos n : Nat} {ctx : Fields} {le : Bool} {v : Int} {out : Bytes}
    (hn : 1 ≤ n) (hlo : -((2 ^ (8 * n - 1) : Nat) : Int) ≤ v) (hhi : v < ((2 ^ (8 * n - 1) : Nat) : Int)) :
    Reads (pr env (.sint n le)) ctx pos (encNat le n (ofSigned (8 * n) v) ++ out) (.int v)
      (pos + (encNat le n (ofSigned (8 * n) v)).length) out ctx :=
  (Reads.sint hn hlo hhi).as rfl rfl (by rw [encNat_length])

theorem ptr_reads {env : Env} {pos : Nat} {ctx : Fields} {le : Bool} {asz base : Nat} {v : Int} {c : Con} {out : Bytes}
    (hc : ptrCon le asz base = some c) (hf : ptrFits asz base v = true) :
    Reads (pr env c) ctx pos (encPtr le asz base v ++ out) (.int v) (pos + (encPtr le asz base v).length) out ctx := by
  unfold ptrCon at hc
  split at hc <;> first | (injection hc with hc; subst hc) | (exact absurd hc (by simp))
  · -- absptr
    simp only [ptrFits, Bool.and_eq_true, decide_eq_true_eq] at hf
    exact ptr_uint_reads hf.1 hf.2
  · -- uleb128
    simp only [ptrFits, decide_eq_true_eq] at hf
    exact (Reads.uleb (ulebLen_pos _) (ulebLen_spec _)).as rfl (by rw [Int.toNat_of_nonneg hf])
      (by simp only [encPtr, ulebMin, encUlebN_length])
  · -- udata2, udata4, udata8
    simp only [ptrFits, Bool.and_eq_true, decide_eq_true_eq] at hf
    exact ptr_uint_reads hf.1 (by simpa using hf.2)
  · simp only [ptrFits, Bool.and_eq_true, decide_eq_true_eq] at hf
    exact ptr_uint_reads hf.1 (by simpa using hf.2)
  · simp only [ptrFits, Bool.and_eq_true, decide_eq_true_eq] at hf
    exact ptr_uint_reads hf.1 (by simpa using hf.2)
  · -- sleb128
    have hw := cfiSlebLen_spec v
    exact (Reads.sleb hw.1 hw.2.1 hw.2.2).as rfl rfl (by simp only [encPtr, cfiSlebMin, encSlebN_length])
  · -- sdata2, sdata4, sdata8
    simp only [ptrFits, Bool.and_eq_true, decide_eq_true_eq] at hf
    exact ptr_sint_reads (n := 2) (by decide) (by simpa using hf.1) (by simpa using hf.2)
  · simp only [ptrFits, Bool.and_eq_true, decide_eq_true_eq] at hf
    exact ptr_sint_reads (n := 4) (by decide) (by simpa using hf.1) (by simpa using hf.2)
  · simp only [ptrFits, Bool.and_eq_true, decide_eq_true_eq] at hf
    exact ptr_sint_reads (n := 8) (by decide) (by simpa using hf.1) (by simpa using hf.2)

def cieRest (le : Bool) (osz : Nat) : ConFields :=
  .cons (some "CIE_id") false (.uint osz le)
  (.cons (some "version") false (.uint 1 le)
  (.cons (some "augmentation") false .cstring
  (.cons (some "address_size") false (.ifThenElse (.ge (.ctx "version") (.lit 4)) (.uint 1 le) (.value .none))
  (.cons (some "segment_size") false (.ifThenElse (.ge (.ctx "version") (.lit 4)) (.uint 1 le) (.value .none))
  (.cons (some "code_alignment_factor") false .uleb
  (.cons (some "data_alignment_factor") false .sleb
  (.cons (some "return_address_register") false (.ifThenElse (.gt (.ctx "version") (.lit 1)) .uleb (.uint 1 le))
    .nil)))))))

def cieCon (le : Bool) (osz : Nat) : Con := .struct (.cons (some "length") false (.initialLength le) (cieRest le osz))

theorem dwarf_initlen_eq (le : Bool) (fmt asz ver : Nat) :
    (Spec.dwarfStructs ⟨le, fmt, asz, ver⟩).Dwarf_initial_length = .initialLength le := rfl
theorem dwarf_offset_eq (le : Bool) (fmt asz ver : Nat) :
    (Spec.dwarfStructs ⟨le, fmt, asz, ver⟩).Dwarf_offset = .uint (fmt / 8) le := rfl
theorem the_offset_eq (le : Bool) (fmt asz ver : Nat) :
    (Spec.dwarfStructs ⟨le, fmt, asz, ver⟩).the_Dwarf_offset = .uint (fmt / 8) le := rfl
theorem the_u32_eq (le : Bool) (fmt asz ver : Nat) :
    (Spec.dwarfStructs ⟨le, fmt, asz, ver⟩).the_Dwarf_uint32 = .uint 4 le := rfl

theorem cie_header_eq (le : Bool) (fmt asz ver : Nat) :
    (Spec.dwarfStructs ⟨le, fmt, asz, ver⟩).Dwarf_CIE_header = cieCon le (fmt / 8) := by
  simp [Spec.dwarfStructs, Spec.st, Spec.f, Spec.mkFields, Spec.ifc, Spec.ctx, Spec.lit, cieCon, cieRest]

theorem eh_cie_header_eq (le : Bool) (fmt asz ver : Nat) :
    (Spec.dwarfStructs ⟨le, fmt, asz, ver⟩).EH_CIE_header = cieCon le (fmt / 8) := by
  simp [Spec.dwarfStructs, Spec.st, Spec.f, Spec.mkFields, Spec.ifc, Spec.ctx, Spec.lit, cieCon, cieRest]

/-- the bytes of a CIE after the length field up to the return-address register, followed by `rest` -/
def cieTail (ver a s : Nat) (caf : ULeb) (daf : SLeb) (ra : ULeb) (rest : Bytes) : Bytes :=
  (if ver ≥ 4 then byte a ++ byte s else [])
    ++ (caf.enc ++ (daf.enc ++ ((if ver = 1 then byte ra.v else ra.enc) ++ rest)))

def cieHdrBytes (le : Bool) (osz idv ver : Nat) (aug : Bytes) (a s : Nat) (caf : ULeb) (daf : SLeb) (ra : ULeb)
    (rest : Bytes) : Bytes :=
  encNat le osz idv ++ (byte ver ++ (aug ++ (0 :: cieTail ver a s caf daf ra rest)))

def cieHdrLen (osz ver : Nat) (aug : Bytes) (caf : ULeb) (daf : SLeb) (ra : ULeb) : Nat :=
  osz + 1 + aug.length + 1 + (if ver ≥ 4 then 2 else 0) + caf.n + daf.n + (if ver = 1 then 1 else ra.n)

def cieFields (len idv ver : Nat) (aug : Bytes) (a s : Nat) (caf daf : Int) (ra : Nat) : Fields :=
  [("length", .int len), ("CIE_id", .int idv), ("version", .int ver), ("augmentation", .bytes aug),
   ("address_size", if ver ≥ 4 then .int a else .none), ("segment_size", if ver ≥ 4 then .int s else .none),
   ("code_alignment_factor", .int caf), ("data_alignment_factor", .int daf), ("return_address_register", .int ra)]

theorem ULeb.reads {env : Env} {ctx : Fields} {pos : Nat} {u : ULeb} {out : Bytes} (h : u.wf = true) :
    Reads (pr env .uleb) ctx pos (u.enc ++ out) (.int u.v) (pos + u.n) out ctx := by
  simp only [ULeb.wf, Bool.and_eq_true, decide_eq_true_eq] at h
  exact Reads.uleb h.1 h.2

theorem SLeb.reads {env : Env} {ctx : Fields} {pos : Nat} {s : SLeb} {out : Bytes} (h : s.wf = true) :
    Reads (pr env .sleb) ctx pos (s.enc ++ out) (.int s.v) (pos + s.n) out ctx := by
  simp only [SLeb.wf, Bool.and_eq_true, decide_eq_true_eq] at h
  exact Reads.sleb h.1.1 h.1.2 h.2

theorem lenOk_iff {fmt64 : Bool} {len : Nat} (h : lenOk fmt64 len = true) :
    if fmt64 then len < 2 ^ 64 else len < 0xFFFFFF00 := by
  cases fmt64 <;> simpa [lenOk] using h

theorem cie_end {off osz ver : Nat} {fmt64 : Bool} {aug : Bytes} {caf : ULeb} {daf : SLeb} {ra : ULeb} (hv1 : 1 ≤ ver) :
    off + ilfs fmt64 + cieHdrLen osz ver aug caf daf ra
      = off + (if fmt64 then 12 else 4) + osz + 1 + aug.length + 1 + (if 4 ≤ ver then 1 else 0) + (if 4 ≤ ver then 1 else 0)
          + caf.n + daf.n + (if 1 < ver then ra.n else 1) := by
  have e : (1 < ver) = ¬ ver = 1 := by simp; omega
  simp only [ilfs, cieHdrLen, e, ite_not]
  by_cases h4 : 4 ≤ ver <;> simp only [h4, ge_iff_le, if_true, if_false] <;> omega

/-- the CIE header read off its bytes: every version, both DWARF formats.  The fields follow the struct; the three
    rewritings at the end say that the input, the record and the end are the ones the Spec writes down. -/
theorem cie_reads {env : Env} {off : Nat} {ctx : Fields} {le fmt64 : Bool} {osz len idv ver : Nat}
    {aug : Bytes} {a s : Nat} {caf : ULeb} {daf : SLeb} {ra : ULeb} {rest : Bytes}
    (hlen : lenOk fmt64 len = true) (hid : idv < 256 ^ osz) (hv1 : 1 ≤ ver) (hver : ver < 256) (haug : ∀ b ∈ aug, b ≠ 0)
    (ha : 4 ≤ ver → a < 256) (hs : 4 ≤ ver → s < 256) (hcaf : caf.wf = true) (hdaf : daf.wf = true)
    (hra : if ver = 1 then ra.v < 256 else ra.wf = true) :
    Reads (pr env (cieCon le osz)) ctx off (encLength le fmt64 len ++ cieHdrBytes le osz idv ver aug a s caf daf ra rest)
      (.record (cieFields len idv ver aug a s caf.v daf.v ra.v)) (off + ilfs fmt64 + cieHdrLen osz ver aug caf daf ra)
      rest ctx :=
  .as (ReadsF.struct (.named (Reads.initlen (lenOk_iff hlen)) <| .named (Reads.uint hid) <| .named (Reads.byte hver) <|
      .named (Reads.cstring haug) <|
      .named (Reads.ifc (p := 4 ≤ ver) (eval_ge_ctx (by simp [Fields.get?_set])) fun h => Reads.byte (ha h)) <|
      .named (Reads.ifc (p := 4 ≤ ver) (eval_ge_ctx (by simp [Fields.get?_set])) fun h => Reads.byte (hs h)) <|
      .named (ULeb.reads hcaf) <| .named (SLeb.reads hdaf) <|
      .named (Reads.ite_enc (p := 1 < ver) (eval_gt_ctx (by simp [Fields.get?_set]))
        (fun h => ULeb.reads (by rwa [if_neg (by omega)] at hra)) (fun h => Reads.byte (by rwa [if_pos (by omega)] at hra))) .nil)
      (by simp [cieFields, Fields.set]))
    (by
      have e : (1 < ver) = ¬ ver = 1 := by simp; omega
      simp only [cieHdrBytes, cieTail, e, ite_not]
      split <;> rfl)
    rfl (cie_end hv1)

def ptrCases (le : Bool) (asz : Nat) : ConCases :=
  .cons (.int 0x00) (.uint asz le) (.cons (.int 0x01) .uleb (.cons (.int 0x02) (.uint 2 le)
  (.cons (.int 0x03) (.uint 4 le) (.cons (.int 0x04) (.uint 8 le) (.cons (.int 0x09) .sleb
  (.cons (.int 0x0a) (.sint 2 le) (.cons (.int 0x0b) (.sint 4 le) (.cons (.int 0x0c) (.sint 8 le) .nil))))))))

def persCon (le : Bool) (asz : Nat) : Con :=
  .struct (mkStruct [("encoding", .uint 1 le),
    ("function", .switch (.band (.ctx "encoding") (.lit 0x0f)) (ptrCases le asz) .noDefault)])

def itemField (le : Bool) (asz : Nat) : AugItem → List (String × Con)
  | .R _ => [("FDE_encoding", .uint 1 le)]
  | .L _ => [("LSDA_encoding", .uint 1 le)]
  | .P .. => [("personality", persCon le asz)]
  | .S => []

/-- the dict the loop leaves: the `True` key for every 'S' -/
def itemDict : Fields → List AugItem → Fields
  | d, [] => d
  | d, .S :: r => itemDict (Fields.set d "True" (.bool true)) r
  | d, _ :: r => itemDict d r

theorem pers_cases (le : Bool) (fmt asz ver : Nat) :
    (Spec.cfiTables.peField.foldrM (fun e acc => do
        let c ← ehField Spec.cfiTables (Spec.dwarfStructs ⟨le, fmt, asz, ver⟩) e.1
        return ConCases.cons (.int e.1) c acc) ConCases.nil) = .ok (ptrCases le asz) := by
  have h := fun b c (hc : ptrCon le asz b = some c) => ehField_spec le fmt asz ver b c hc
  rw [show Spec.cfiTables.peField = ehFields from rfl]
  simp only [ehFields, List.foldrM_cons, List.foldrM_nil, h 0 _ rfl, h 1 _ rfl, h 2 _ rfl, h 3 _ rfl, h 4 _ rfl, h 9 _ rfl,
    h 0xa _ rfl, h 0xb _ rfl, h 0xc _ rfl, bind, Except.bind, pure, Except.pure]
  rfl

theorem augLoop_items (le : Bool) (fmt asz ver : Nat) (items : List AugItem) :
    ∀ (fields : List (String × Con)) (d : Fields),
    augFieldsLoop Spec.cfiTables (Spec.dwarfStructs ⟨le, fmt, asz, ver⟩) (items.map AugItem.letter) fields d
      = .ok (fields ++ items.flatMap (itemField le asz), itemDict d items) := by
  induction items with
  | nil => intro fields d; simp [augFieldsLoop, itemDict]
  | cons i r ih =>
    intro fields d
    cases i with
    | R e | L e | S =>
      simp only [List.map_cons, AugItem.letter, augFieldsLoop]
      simp (config := { decide := true }) only [if_false, if_true]
      rw [ih]; simp [itemField, itemDict, Spec.dwarfStructs]
    | P e fn =>
      simp only [List.map_cons, AugItem.letter, augFieldsLoop]
      simp (config := { decide := true }) only [if_false, if_true]
      rw [pers_cases]
      simp only [bind, Except.bind]
      rw [ih]; simp [itemField, itemDict, persCon, Spec.dwarfStructs]

theorem and_0F (n : Nat) : n &&& 0x0f = n % 16 := by
  have := Nat.and_two_pow_sub_one_eq_mod n 4
  simpa using this

theorem lookupCase_ptr {le : Bool} {asz b : Nat} {c : Con} (h : ptrCon le asz b = some c) :
    lookupCase (.int (b : Nat)) (ptrCases le asz) .noDefault = c := by
  unfold ptrCon at h
  split at h <;> first | (cases h; rfl) | cases h

theorem pers_reads {env : Env} {pos : Nat} {ctx : Fields} {le : Bool} {asz e : Nat} {fn : Int} {out : Bytes}
    (hw : (AugItem.P e fn).wf asz = true) :
    Reads (pr env (persCon le asz)) ctx pos (byte e ++ (encPtr le asz (e % 16) fn ++ out))
      (.record [("encoding", .int e), ("function", .int fn)]) (pos + 1 + (encPtr le asz (e % 16) fn).length) out ctx := by
  simp only [AugItem.wf, Bool.and_eq_true, decide_eq_true_eq] at hw
  obtain ⟨⟨⟨hb, _⟩, he⟩, hfit⟩ := hw
  obtain ⟨c, hc⟩ := ptrCon_of_baseOk le asz e hb
  have hk : (Expr.band (.ctx "encoding") (.lit 0x0f)).eval (Fields.set [] "encoding" (.int e)) .none
      = .ok (.int ((e % 16 : Nat) : Int)) := by
    simp only [Expr.eval, Fields.getR, Fields.set, Fields.get?, if_true, bind, Except.bind, Expr.arith, Val.asInt, pure,
      Except.pure]
    rw [show ((15 : Int)) = ((15 : Nat) : Int) from rfl, land_nat, and_0F]
  exact ReadsF.struct (.named (Reads.byte he) <|
    .named (Reads.switch hk (by rw [lookupCase_ptr hc]; exact ptr_reads hc hfit)) .nil) (by simp [Fields.set])

def itemSet (obj : Fields) (i : AugItem) : Fields :=
  i.dictEntries.foldl (fun o kv => Fields.set o kv.1 kv.2) obj

theorem item_reads {env : Env} {le : Bool} {asz : Nat} {i : AugItem} (hw : AugItem.wf asz i = true)
    (obj ctx : Fields) (pos : Nat) (out : Bytes) :
    ∃ c', ReadsF (pf env (mkStruct (itemField le asz i))) obj ctx pos (i.data le asz ++ out) (itemSet obj i)
      (pos + (i.data le asz).length) out c' := by
  cases i with
  | R e =>
    simp only [AugItem.wf, Bool.and_eq_true, decide_eq_true_eq] at hw
    exact ⟨_, .named (Reads.byte hw.2) .nil⟩
  | L e =>
    simp only [AugItem.wf, Bool.and_eq_true, decide_eq_true_eq] at hw
    exact ⟨_, .named (Reads.byte hw.2) .nil⟩
  | S => exact ⟨_, ReadsF.nil⟩
  | P e fn =>
    exact ⟨_, (ReadsF.named (pers_reads hw) .nil).as (by simp [AugItem.data]) rfl (by simp [AugItem.data, byte]; omega)⟩

theorem items_reads {env : Env} {le : Bool} {asz : Nat} (items : List AugItem)
    (hwf : ∀ i ∈ items, AugItem.wf asz i = true) (out : Bytes) : ∀ (obj ctx : Fields) (pos : Nat),
    ∃ c', ReadsF (pf env (mkStruct (items.flatMap (itemField le asz)))) obj ctx pos (augData le asz items ++ out)
      (items.foldl itemSet obj) (pos + (augData le asz items).length) out c' := by
  induction items with
  | nil => intro obj ctx pos; exact ⟨_, ReadsF.nil⟩
  | cons i r ih =>
    intro obj ctx pos
    obtain ⟨c1, h1⟩ := item_reads (env := env) (le := le) (hwf i (List.mem_cons_self ..)) obj ctx pos (augData le asz r ++ out)
    obtain ⟨c2, h2⟩ := ih (fun j hj => hwf j (List.mem_cons_of_mem _ hj)) (itemSet obj i) c1 (pos + (i.data le asz).length)
    exact ⟨c2, (ReadsF.append h1 h2).as (by simp [augData]) rfl (by simp [augData, Nat.add_assoc])⟩

theorem foldl_itemSet (items : List AugItem) : ∀ (obj : Fields),
    items.foldl itemSet obj = (items.flatMap AugItem.dictEntries).foldl (fun o kv => Fields.set o kv.1 kv.2) obj := by
  induction items with
  | nil => intro obj; rfl
  | cons i r ih => intro obj; rw [List.foldl_cons, ih, List.flatMap_cons, List.foldl_append]; rfl

theorem dictKeys_props (i : AugItem) :
    (i.dictEntries.map (·.1)).Nodup ∧ "length" ∉ i.dictEntries.map (·.1) ∧ "True" ∉ i.dictEntries.map (·.1) := by
  cases i <;> simp (config := { decide := true }) [AugItem.dictEntries]

theorem dictKeys_letter {i j : AugItem} {k : String} (hi : k ∈ i.dictEntries.map (·.1)) (hj : k ∈ j.dictEntries.map (·.1)) :
    i.letter = j.letter := by
  cases i <;> cases j <;> simp_all (config := { decide := true }) [AugItem.dictEntries, AugItem.letter]

theorem dictKeys_all (items : List AugItem) (hnd : (items.map AugItem.letter).Nodup) :
    ((items.flatMap AugItem.dictEntries).map (·.1)).Nodup
    ∧ "length" ∉ (items.flatMap AugItem.dictEntries).map (·.1)
    ∧ "True" ∉ (items.flatMap AugItem.dictEntries).map (·.1)
    ∧ ∀ k ∈ (items.flatMap AugItem.dictEntries).map (·.1), ∃ j ∈ items, k ∈ j.dictEntries.map (·.1) := by
  -- the last conjunct is carried for the induction only: a key of the tail belongs to an item of the tail, whose letter
  -- differs from the head's, so (`dictKeys_letter`) it is no key of the head
  induction items with
  | nil => simp
  | cons i r ih =>
    simp only [List.map_cons, List.nodup_cons] at hnd
    obtain ⟨ih1, ih2, ih3, ih4⟩ := ih hnd.2
    obtain ⟨p1, p2, p3⟩ := dictKeys_props i
    simp only [List.flatMap_cons, List.map_append]
    refine ⟨?_, ?_, ?_, ?_⟩
    · rw [List.nodup_append]
      refine ⟨p1, ih1, ?_⟩
      intro a ha b hb hab
      subst hab
      obtain ⟨j, hj, hkj⟩ := ih4 a hb
      exact hnd.1 (by rw [dictKeys_letter ha hkj]; exact List.mem_map_of_mem hj)
    · simp only [List.mem_append, not_or]; exact ⟨p2, ih2⟩
    · simp only [List.mem_append, not_or]; exact ⟨p3, ih3⟩
    · intro k hk
      rcases List.mem_append.1 hk with h | h
      · exact ⟨i, List.mem_cons_self .., h⟩
      · obtain ⟨j, hj, hkj⟩ := ih4 k h
        exact ⟨j, List.mem_cons_of_mem _ hj, hkj⟩

theorem get?_none_of_not_mem (d : Fields) (k : String) (h : k ∉ d.map (·.1)) : Fields.get? d k = none :=
  (Fields.get?_eq_none_iff d k).2 h

theorem itemDict_true (items : List AugItem) :
    itemDict [("True", .bool true)] items = [("True", .bool true)] := by
  induction items with
  | nil => rfl
  | cons i r ih => cases i <;> simp [itemDict, Fields.set, ih]

theorem itemDict_nil (items : List AugItem) :
    itemDict [] items = if items.contains .S then [("True", .bool true)] else [] := by
  induction items with
  | nil => rfl
  | cons i r ih =>
    cases i <;> simp [itemDict, Fields.set, ih, itemDict_true]

/-- `aug_dict.update(parsed)` gives the dictionary the Spec prescribes -/
theorem augDict_eq (le : Bool) (asz : Nat) (items : List AugItem) (hnd : (items.map AugItem.letter).Nodup) (L : Val) :
    (items.foldl itemSet [("length", L)]).foldl (fun acc kv => Fields.set acc kv.1 kv.2) (itemDict [] items)
      = (if items.contains .S then [("True", .bool true)] else []) ++ [("length", L)]
          ++ items.flatMap AugItem.dictEntries := by
  -- both folds assign fresh, pairwise distinct keys (letters are distinct, no item key is `length` or `True`), so each
  -- is an append (`Fields.foldl_set_fresh`)
  obtain ⟨h1, h2, h3, _⟩ := dictKeys_all items hnd
  have e1 : items.foldl itemSet [("length", L)] = [("length", L)] ++ items.flatMap AugItem.dictEntries := by
    rw [foldl_itemSet, Fields.foldl_set_fresh _ _ h1]
    intro kv hkv
    have : kv.1 ≠ "length" := fun he => h2 (by rw [← he]; exact List.mem_map_of_mem hkv)
    simp [Fields.get?, Ne.symm this]
  rw [e1, itemDict_nil]
  have := Fields.foldl_set_fresh ([("length", L)] ++ items.flatMap AugItem.dictEntries)
    (if items.contains .S then [("True", .bool true)] else [])
    (by simp only [List.singleton_append, List.map_cons, List.nodup_cons]; exact ⟨h2, h1⟩)
    (by
      intro kv hkv
      have hne : kv.1 ≠ "True" := by
        intro he
        rcases List.mem_append.1 hkv with h | h
        · simp at h; subst h; exact absurd (show "length" = "True" from he) (by decide)
        · exact h3 (by rw [← he]; exact List.mem_map_of_mem h)
      split <;> simp [Fields.get?, Ne.symm hne])
  rw [this]
  simp [List.append_assoc]

theorem readAug_ok {C : Cfi} {S : DwarfStructs} {pos n : Nat} {d rest : Bytes} (heh : C.eh = true)
    (hu : S.Dwarf_uleb128 = .uleb) (hn : 1 ≤ n) (hl : d.length < 2 ^ (7 * n))
    (hd : C.data.drop pos = encUlebN n d.length ++ (d ++ rest)) :
    readAugmentationData C S pos = .ok (d, pos + n + d.length) := by
  have hw : (ULeb.mk n d.length).wf = true := by simp [ULeb.wf, hn, hl]
  have h1 := drop_after hd (encUlebN_length n d.length)
  have sp : structParse C.env (.struct (mkStruct [("length", Con.uleb)])) C.data pos
      = .ok (.record [("length", .int d.length)], pos + n) :=
    (ReadsF.struct (.named (ULeb.reads (u := ⟨n, d.length⟩) hw) .nil) rfl).structParse hd
  have hlen : pos + n + d.length ≤ C.data.length := by
    have := congrArg List.length hd
    simp only [List.length_drop, List.length_append, encUlebN_length] at this
    omega
  have hnot : ¬ (d.length ≥ 2 ^ 63 ∧ C.data.length < pos + n + d.length) := by omega
  unfold readAugmentationData
  simp only [heh, hu, sp, Bool.not_true, Bool.false_eq_true, if_false, bind, Except.bind, Val.getNat, Val.getField,
    Fields.getR, Fields.get?, if_true, asNat_nat, pure, Except.pure, readN, h1, hnot]
  simp

theorem cieAug_none {C : Cfi} {S : DwarfStructs} {header : Fields} {pos : Nat}
    (hh : Fields.get? header "augmentation" = some (.bytes [])) :
    parseCieAugmentation C S header pos = .ok ([], [], pos) := by
  unfold parseCieAugmentation
  simp [hh, Val.truthy, bind, Except.bind, pure, Except.pure]

theorem cieAug_some {C : Cfi} {le : Bool} {fmt asz ver : Nat} {header : Fields} {pos n : Nat}
    {items : List AugItem} {rest : Bytes}
    (hT : C.T = Spec.cfiTables) (heh : C.eh = true)
    (hh : Fields.get? header "augmentation" = some (.bytes (0x7a :: items.map AugItem.letter)))
    (hnd : (items.map AugItem.letter).Nodup) (hwf : ∀ i ∈ items, AugItem.wf asz i = true)
    (hn : 1 ≤ n) (hl : (augData le asz items).length < 2 ^ (7 * n))
    (hd : C.data.drop pos = encUlebN n (augData le asz items).length ++ (augData le asz items ++ rest)) :
    parseCieAugmentation C (Spec.dwarfStructs ⟨le, fmt, asz, ver⟩) header pos
      = .ok (augData le asz items, augDictObs le asz (some items), pos + n + (augData le asz items).length) := by
  -- the three things `_parse_cie_augmentation` does: the letter loop builds the struct (`hloop`), the struct is parsed
  -- (`sp`), the stream goes back and the data is read as raw bytes (`ra`); then `aug_dict.update` (`augDict_eq`)
  have hw : (ULeb.mk n (augData le asz items).length).wf = true := by simp [ULeb.wf, hn, hl]
  have hloop : augFieldsLoop Spec.cfiTables (Spec.dwarfStructs ⟨le, fmt, asz, ver⟩) (0x7a :: items.map AugItem.letter) [] []
      = .ok ([("length", Con.uleb)] ++ items.flatMap (itemField le asz), itemDict [] items) := by
    rw [augFieldsLoop]
    simp only [if_true]
    rw [augLoop_items]; rfl
  have sp : structParse C.env (.struct (mkStruct ([("length", Con.uleb)] ++ items.flatMap (itemField le asz)))) C.data pos
      = .ok (.record (items.foldl itemSet [("length", .int (augData le asz items).length)]),
             pos + n + (augData le asz items).length) := by
    obtain ⟨c', h⟩ := items_reads (env := C.env) (le := le) items hwf rest
      (Fields.set [] "length" (.int (augData le asz items).length)) (Fields.set [] "length" (.int (augData le asz items).length))
      (pos + n)
    exact (ReadsF.struct (ReadsF.append (.named (ULeb.reads (u := ⟨n, (augData le asz items).length⟩) hw) .nil) h) rfl).structParse hd
  have ra := readAug_ok (C := C) (S := Spec.dwarfStructs ⟨le, fmt, asz, ver⟩) heh rfl hn hl hd
  unfold parseCieAugmentation
  simp only [hh, Option.getD, Val.truthy, List.isEmpty_cons, Bool.not_false, Bool.not_true, Bool.false_eq_true, if_false,
    bind, Except.bind, pure, Except.pure, hT, hloop, sp, asFields, ra]
  simp (config := { decide := true }) only [List.isPrefixOf, Bool.and_true, Bool.false_and,
    Bool.true_and, Bool.false_eq_true, if_false, Bool.not_true, Bool.not_false, beq_self_eq_true]
  rw [augDict_eq le asz items hnd]
  simp [augDictObs]

theorem and_f0_aux (e : Nat) (h : e < 256) : e &&& 0xf0 = e / 16 * 16 := by
  have := BitFields.and_shl_mask e 4 4
  rwa [show (2 ^ 4 - 1) <<< 4 = 0xf0 from rfl, show 2 ^ 4 = 16 from rfl, Nat.mod_eq_of_lt (by omega)] at this

theorem pe_omit : Spec.cfiTables.pe.omit_ = 0xff := rfl
theorem pe_absptr : Spec.cfiTables.pe.absptr = 0 := rfl
theorem pe_pcrel : Spec.cfiTables.pe.pcrel = 0x10 := rfl

theorem lsda_ok {C : Cfi} {le : Bool} {fmt asz ver enc off : Nat} {v : Int} {rest : Bytes}
    (hT : C.T = Spec.cfiTables) (henc : encOk enc = true) (h256 : enc < 256)
    (hfit : ptrFits asz (enc % 16) v = true) (hd : C.data.drop off = encPtr le asz (enc % 16) v ++ rest) :
    parseLsdaPointer C (Spec.dwarfStructs ⟨le, fmt, asz, ver⟩) off enc
      = .ok (v + (if enc / 16 % 8 = 1 then C.address + (off : Int) else 0), off + (encPtr le asz (enc % 16) v).length) := by
  simp only [encOk, Bool.and_eq_true, Bool.or_eq_true, beq_iff_eq] at henc
  obtain ⟨c, hc⟩ := ptrCon_of_baseOk le asz enc henc.1
  have sp : structParse C.env (.struct (mkStruct [("LSDA_pointer", c)])) C.data off
      = .ok (.record [("LSDA_pointer", .int v)], off + (encPtr le asz (enc % 16) v).length) :=
    (ReadsF.struct (.named (ptr_reads hc hfit) .nil) rfl).structParse hd
  have hne : enc ≠ 0xff := by
    intro h; subst h; simp [baseOk] at henc
  have hmod := and_f0_aux enc h256
  unfold parseLsdaPointer
  simp only [hT, pe_omit, pe_absptr, pe_pcrel, hne, if_false, and_0F, ehField_spec le fmt asz ver _ c hc, sp, bind,
    Except.bind, pure, Except.pure, Val.getInt, Val.getField, Fields.getR, Fields.get?, if_true, Val.asInt, hmod]
  rcases henc.2 with h | h
  · simp [h]
  · simp [h]

theorem flat_fdeEnc (items : List AugItem) :
    (match Fields.get? (items.flatMap AugItem.dictEntries) "FDE_encoding" with
     | some v => v.asNat | none => (Except.ok 0 : R Nat)) = .ok (fdeEncOf items) := by
  induction items with
  | nil => rfl
  | cons i r ih =>
    cases i <;>
      simp (config := { decide := true }) [List.flatMap_cons, AugItem.dictEntries, Fields.get?, fdeEncOf, asNat_nat, ih]

theorem flat_lsdaEnc (items : List AugItem) :
    (match Fields.get? (items.flatMap AugItem.dictEntries) "LSDA_encoding" with
     | some v => v.asNat | none => (Except.ok 0xff : R Nat)) = .ok (lsdaEncOf items) := by
  induction items with
  | nil => rfl
  | cons i r ih =>
    cases i <;>
      simp (config := { decide := true }) [List.flatMap_cons, AugItem.dictEntries, Fields.get?, lsdaEncOf, asNat_nat, ih]

theorem augDict_get (le : Bool) (asz : Nat) (items : List AugItem) (k : String) (h1 : k ≠ "True") (h2 : k ≠ "length") :
    Fields.get? (augDictObs le asz (some items)) k = Fields.get? (items.flatMap AugItem.dictEntries) k := by
  simp only [augDictObs, Fields.get?_append]
  split <;> simp [Fields.get?, Ne.symm h1, Ne.symm h2]

theorem dict_fdeEnc (le : Bool) (asz : Nat) (aug : Option (List AugItem)) :
    (match Fields.get? (augDictObs le asz aug) "FDE_encoding" with
     | some v => v.asNat | none => (Except.ok 0 : R Nat)) = .ok (fdeEncOf (aug.getD [])) := by
  cases aug with
  | none => rfl
  | some items => rw [augDict_get le asz items _ (by decide) (by decide)]; exact flat_fdeEnc items

theorem dict_lsdaEnc (le : Bool) (asz : Nat) (aug : Option (List AugItem)) :
    (match Fields.get? (augDictObs le asz aug) "LSDA_encoding" with
     | some v => v.asNat | none => (Except.ok 0xff : R Nat)) = .ok (lsdaEncOf (aug.getD [])) := by
  cases aug with
  | none => rfl
  | some items => rw [augDict_get le asz items _ (by decide) (by decide)]; exact flat_lsdaEnc items

theorem fde_header_eq (le : Bool) (fmt asz ver : Nat) :
    (Spec.dwarfStructs ⟨le, fmt, asz, ver⟩).Dwarf_FDE_header
      = .struct (mkStruct [("length", .initialLength le), ("CIE_pointer", .uint (fmt / 8) le),
          ("initial_location", .uint asz le), ("address_range", .uint asz le)]) := by
  simp [Spec.dwarfStructs, Spec.st, Spec.f, Spec.mkFields, mkStruct]

theorem sp_fde_min {env : Env} {data : Bytes} {off : Nat} {le fmt64 : Bool} {osz len ptr : Nat} {rest : Bytes}
    (hd : data.drop off = encLength le fmt64 len ++ (encNat le osz ptr ++ rest))
    (hlen : lenOk fmt64 len = true) (hptr : ptr < 256 ^ osz) :
    structParse env (.struct (mkStruct [("length", .initialLength le), ("CIE_pointer", .uint osz le)])) data off
      = .ok (.record [("length", .int len), ("CIE_pointer", .int ptr)], off + ilfs fmt64 + osz) :=
  (ReadsF.struct (.named (Reads.initlen (lenOk_iff hlen)) <| .named (Reads.uint hptr) .nil) (by simp [Fields.set])).structParse hd

/-- `c` reads the two address fields: a fixed-width address, or the construct of the CIE's pointer encoding -/
theorem sp_fde_full {env : Env} {data : Bytes} {off : Nat} {le fmt64 : Bool} {osz len ptr n1 n2 : Nat} {lv rv : Int}
    {c : Con} {b1 b2 rest : Bytes}
    (hd : data.drop off = encLength le fmt64 len ++ (encNat le osz ptr ++ (b1 ++ (b2 ++ rest))))
    (hlen : lenOk fmt64 len = true) (hptr : ptr < 256 ^ osz)
    (p1 : ∀ ctx pos out, Reads (pr env c) ctx pos (b1 ++ out) (.int lv) (pos + n1) out ctx)
    (p2 : ∀ ctx pos out, Reads (pr env c) ctx pos (b2 ++ out) (.int rv) (pos + n2) out ctx) :
    structParse env (.struct (mkStruct [("length", .initialLength le), ("CIE_pointer", .uint osz le),
        ("initial_location", c), ("address_range", c)])) data off
      = .ok (.record [("length", .int len), ("CIE_pointer", .int ptr), ("initial_location", .int lv),
                      ("address_range", .int rv)], off + ilfs fmt64 + osz + n1 + n2) :=
  (ReadsF.struct (.named (Reads.initlen (lenOk_iff hlen)) <| .named (Reads.uint hptr) <| .named (p1 _ _ _) <|
    .named (p2 _ _ _) .nil) (by simp [Fields.set])).structParse hd

end PyElf.Proofs.Cfi
