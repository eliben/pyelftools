/-
  The base of the proof library.  `data.drop pos = bs ++ rest` is how "the bytes `bs` stand at `pos`" is said
  throughout (`drop_add_of_drop` steps over `bs`; `Engine.drop_after` is the same step with the length given by an
  equation; `readN_of_drop` / `drop_of_readN` pass between this form and `readN data pos n`).  A primitive reader is
  characterised twice: by the bytes read (`parse_uint_ok`, `parse_uleb_ok`, …) and by the value encoded
  (`Engine.parse_uint_enc`, …).  The two loops of the engine are characterised once, over a list of encoded items
  (`Engine.arrayLoop_items`, `Engine.repeatLoop_items`).  The lemmas stand in two namespaces, `PyElf.Proofs` and
  `PyElf.Proofs.Engine` (the block in the middle of the file); only the name tells which.
-/
import PyElf.Core.Construct
import PyElf.Spec.Primitives
import PyElf.Model.Utils
import PyElf.Proofs.Except
import PyElf.Proofs.ListFacts
import PyElf.Proofs.Values
namespace PyElf.Proofs
open PyElf PyElf.Spec PyElf.Model

theorem and_7F (n : Nat) : n &&& 0x7F = n % 128 := by
  have := Nat.and_two_pow_sub_one_eq_mod n 7
  simpa using this

theorem and_two_pow_eq (n i : Nat) : n &&& 2 ^ i = 2 ^ i * (n / 2 ^ i % 2) := by
  have h1 : (n &&& 2 ^ i) % 2 ^ i = 0 := by rw [Nat.and_mod_two_pow, Nat.mod_self, Nat.and_zero]
  have h2 : (n &&& 2 ^ i) / 2 ^ i = n / 2 ^ i % 2 := by
    rw [Nat.and_div_two_pow, Nat.div_self (Nat.two_pow_pos i), Nat.and_one_is_mod]
  have := Nat.div_add_mod (n &&& 2 ^ i) (2 ^ i)
  rw [h1, h2] at this
  omega

/- Stated as equations between propositions, not `↔`: `simp only` rewrites the condition of the loop's `if`
   with them in one step. -/
theorem and_80_aux : ∀ n < 256, (n &&& 0x80 = 0) = (n < 128) := by
  intro n hn
  have h : n &&& 0x80 = 128 * (n / 128 % 2) := and_two_pow_eq n 7
  rw [h]
  apply propext
  omega

theorem and_40_aux : ∀ n < 128, (n &&& 0x40 ≠ 0) = (n % 128 ≥ 64) := by
  intro n hn
  have h : n &&& 0x40 = 64 * (n / 64 % 2) := and_two_pow_eq n 6
  rw [h]
  apply propext
  omega

theorem and_80 (b : UInt8) : (b.toNat &&& 0x80 = 0) ↔ b.toNat < 128 := by
  rw [and_80_aux _ b.toNat_lt]

theorem or_shl_eq_add {value shift : Nat} (x : Nat) (h : value < 2 ^ shift) :
    value ||| (x <<< shift) = value + x * 2 ^ shift := by
  rw [Nat.or_comm, ← Nat.shiftLeft_add_eq_or_of_lt h, Nat.shiftLeft_eq, Nat.add_comm]

theorem drop_cons_inv {α} {l : List α} {n : Nat} {b : α} {t : List α} (h : l.drop n = b :: t) :
    l[n]? = some b ∧ l.drop (n + 1) = t := by
  constructor
  · have := List.getElem?_drop (xs := l) (i := n) (j := 0)
    simpa [h] using this.symm
  · have : l.drop (n + 1) = (l.drop n).drop 1 := by simp [List.drop_drop]
    rw [this, h]; rfl

theorem drop_nil_inv {α} {l : List α} {n : Nat} (h : l.drop n = []) : l[n]? = none := by
  have := List.getElem?_drop (xs := l) (i := n) (j := 0)
  simpa [h] using this.symm

theorem ulebVal_lt (bs : Bytes) : ulebVal bs < 2 ^ (7 * bs.length) := by
  induction bs with
  | nil => simp [ulebVal]
  | cons b bs ih =>
    simp only [ulebVal, List.length_cons]
    have : 2 ^ (7 * (bs.length + 1)) = 128 * 2 ^ (7 * bs.length) := by
      rw [Nat.mul_add, Nat.pow_add]; simp [Nat.mul_comm]
    omega

theorem uleb_step_lt {value shift : Nat} (b : UInt8) (hv : value < 2 ^ shift) :
    value + b.toNat % 128 * 2 ^ shift < 2 ^ (shift + 7) := by
  rw [Nat.pow_add]
  have : b.toNat % 128 < 128 := Nat.mod_lt _ (by decide)
  generalize 2 ^ shift = P at *
  have : b.toNat % 128 * P ≤ 127 * P := Nat.mul_le_mul_right _ (by omega)
  omega

theorem ulebLoop_valid (data rest : Bytes) (bs : Bytes) (h : ValidLEB bs = true) :
    ∀ fuel pos value shift, bs.length ≤ fuel → data.drop pos = bs ++ rest → value < 2 ^ shift →
      ulebLoop data fuel pos value shift = .ok (value + ulebVal bs * 2 ^ shift, pos + bs.length) := by
  -- invariant of the loop: `value < 2 ^ shift`, so that `|||` with the next digit shifted by `shift` is `+`
  induction bs with
  | nil => simp [ValidLEB] at h
  | cons b bs ih =>
    intro fuel pos value shift hf hd hv
    obtain ⟨hb, hd'⟩ := drop_cons_inv (by simpa using hd)
    cases fuel with
    | zero => simp at hf
    | succ fuel =>
      rw [ulebLoop, hb]
      simp only [and_7F, or_shl_eq_add _ hv, and_80_aux _ b.toNat_lt]
      cases bs with
      | nil =>
        simp [ValidLEB] at h
        simp [h, ulebVal]
      | cons b' bs' =>
        simp [ValidLEB] at h
        have hnot : ¬ b.toNat < 128 := by omega
        rw [if_neg hnot]
        have hv' := uleb_step_lt b hv
        rw [ih h.2 fuel (pos + 1) _ (shift + 7) (by simpa using hf) hd' hv']
        simp only [ulebVal, List.length_cons, Nat.pow_add]
        congr 2
        · generalize ulebVal (b' :: bs') = U
          generalize 2 ^ shift = P
          grind
        · omega

theorem ulebLoop_trunc (data bs : Bytes) (h : ∀ b ∈ bs, 128 ≤ b.toNat) :
    ∀ fuel pos value shift, data.drop pos = bs →
      ulebLoop data fuel pos value shift = .error .elfParseError := by
  induction bs with
  | nil =>
    intro fuel pos value shift hd
    cases fuel with
    | zero => rfl
    | succ fuel => rw [ulebLoop, drop_nil_inv hd]
  | cons b bs ih =>
    intro fuel pos value shift hd
    cases fuel with
    | zero => rfl
    | succ fuel =>
      obtain ⟨hb, hd'⟩ := drop_cons_inv hd
      have hb128 : ¬ b.toNat < 128 := by have := h b (by simp); omega
      rw [ulebLoop, hb]
      simp only [and_80_aux _ b.toNat_lt, if_neg hb128]
      exact ih (fun x hx => h x (by simp [hx])) _ _ _ _ hd'

theorem ValidLEB_cons_of_ne_nil (b : UInt8) {bs : Bytes} (h : bs ≠ []) :
    ValidLEB (b :: bs) = (decide (128 ≤ b.toNat) && ValidLEB bs) := by
  cases bs with
  | nil => exact absurd rfl h
  | cons b' bs' => simp [ValidLEB]

theorem encUlebN_length (n v : Nat) : (encUlebN n v).length = n := by
  fun_induction encUlebN n v <;> simp_all

theorem encUlebN_valid (n v : Nat) (hn : 1 ≤ n) : ValidLEB (encUlebN n v) = true := by
  fun_induction encUlebN n v with
  | case1 => omega
  | case2 v =>
    have : v % 128 < 128 := Nat.mod_lt _ (by decide)
    simp [ValidLEB, UInt8.toNat_ofNat']; omega
  | case3 n v ih =>
    have hne : encUlebN (n + 1) (v / 128) ≠ [] := by
      intro h; have := encUlebN_length (n + 1) (v / 128); simp [h] at this
    rw [ValidLEB_cons_of_ne_nil _ hne, ih (by omega)]
    have : v % 128 < 128 := Nat.mod_lt _ (by decide)
    simp [UInt8.toNat_ofNat']; omega

theorem ulebVal_enc (n v : Nat) : ulebVal (encUlebN n v) = v % 2 ^ (7 * n) := by
  fun_induction encUlebN n v with
  | case1 => simp [ulebVal, Nat.mod_one]
  | case2 v =>
    have : v % 128 < 128 := Nat.mod_lt _ (by decide)
    simp [ulebVal, UInt8.toNat_ofNat']
  | case3 n v ih =>
    have : v % 128 < 128 := Nat.mod_lt _ (by decide)
    have e : 2 ^ (7 * (n + 2)) = 128 * 2 ^ (7 * (n + 1)) := by
      rw [show 7 * (n + 2) = 7 + 7 * (n + 1) by omega, Nat.pow_add]
    rw [ulebVal, ih, e, Nat.mod_mul, UInt8.toNat_ofNat']
    omega

theorem ulebVal_enc_of_lt {n v : Nat} (hv : v < 2 ^ (7 * n)) : ulebVal (encUlebN n v) = v := by
  rw [ulebVal_enc, Nat.mod_eq_of_lt hv]

theorem ulebLen_pos (v : Nat) : 1 ≤ ulebLen v := by
  unfold ulebLen; split <;> omega

theorem ulebLen_spec (v : Nat) : v < 2 ^ (7 * ulebLen v) := by
  induction v using Nat.strongRecOn with
  | _ v ih =>
    unfold ulebLen
    split
    · omega
    · have h := ih (v / 128) (by omega)
      have e : 2 ^ (7 * (1 + ulebLen (v / 128))) = 128 * 2 ^ (7 * ulebLen (v / 128)) := by
        rw [Nat.mul_add, Nat.pow_add]
      rw [e]; omega

theorem shl_inv_zero (s : Nat) : PyInt.shl (PyInt.inv 0) s = Int.negSucc (2 ^ s - 1) := by
  have := Nat.two_pow_pos s
  simp only [PyInt.shl, PyInt.inv, Int.negSucc_eq]
  omega

theorem natAndNot_mask {s value : Nat} (h : value < 2 ^ s) :
    PyInt.natAndNot (2 ^ s - 1) value = 2 ^ s - 1 - value := by
  unfold PyInt.natAndNot
  rw [Nat.and_comm, Nat.and_two_pow_sub_one_eq_mod, Nat.mod_eq_of_lt h]
  apply Nat.eq_of_testBit_eq; intro i
  rw [show 2 ^ s - 1 - value = 2 ^ s - (value + 1) by omega, Nat.testBit_two_pow_sub_succ h,
    Nat.testBit_xor, Nat.testBit_two_pow_sub_one]
  by_cases hi : i < s
  · simp [hi]
  · have : value < 2 ^ i := Nat.lt_of_lt_of_le h (Nat.pow_le_pow_right (by decide) (by omega))
    simp [hi, Nat.testBit_lt_two_pow this]

theorem lor_sign_extend {s value : Nat} (h : value < 2 ^ s) :
    PyInt.lor (Int.ofNat value) (PyInt.shl (PyInt.inv 0) s) = (value : Int) - ((2 ^ s : Nat) : Int) := by
  rw [shl_inv_zero]
  show Int.negSucc (PyInt.natAndNot (2 ^ s - 1) value) = _
  rw [natAndNot_mask h, Int.negSucc_eq]
  omega

theorem slebLoop_valid (data rest : Bytes) (bs : Bytes) (h : ValidLEB bs = true) :
    ∀ fuel pos value shift l, bs.length ≤ fuel → data.drop pos = bs ++ rest → value < 2 ^ shift →
      bs.getLast? = some l →
      slebLoop data fuel pos value shift =
        .ok (if l.toNat % 128 ≥ 64 then
               ((value + ulebVal bs * 2 ^ shift : Nat) : Int) - ((2 ^ (shift + 7 * bs.length) : Nat) : Int)
             else ((value + ulebVal bs * 2 ^ shift : Nat) : Int), pos + bs.length) := by
  -- the unsigned loop with one more step: bit 6 of the last byte `l` decides whether `2 ^ (number of bits read)` is
  -- subtracted (`lor_sign_extend`)
  induction bs with
  | nil => simp [ValidLEB] at h
  | cons b bs ih =>
    intro fuel pos value shift l hf hd hv hl
    obtain ⟨hb, hd'⟩ := drop_cons_inv (by simpa using hd)
    have hv' := uleb_step_lt b hv
    cases fuel with
    | zero => simp at hf
    | succ fuel =>
      rw [slebLoop, hb]
      simp only [and_7F, or_shl_eq_add _ hv, and_80_aux _ b.toNat_lt]
      cases bs with
      | nil =>
        simp [ValidLEB] at h
        simp at hl
        subst hl
        simp only [h, if_true, and_40_aux _ h, lor_sign_extend hv']
        simp [ulebVal]
        split <;> rfl
      | cons b' bs' =>
        simp [ValidLEB] at h
        have hnot : ¬ b.toNat < 128 := by omega
        rw [if_neg hnot]
        rw [ih h.2 fuel (pos + 1) _ (shift + 7) l (by simpa using hf) hd' hv' (by simpa using hl)]
        have e1 : value + b.toNat % 128 * 2 ^ shift + ulebVal (b' :: bs') * 2 ^ (shift + 7)
            = value + ulebVal (b :: b' :: bs') * 2 ^ shift := by
          simp only [ulebVal, Nat.pow_add]
          generalize ulebVal bs' = U
          generalize 2 ^ shift = P
          grind
        have e2 : shift + 7 + 7 * (b' :: bs').length = shift + 7 * (b :: b' :: bs').length := by
          simp only [List.length_cons]; omega
        have e3 : pos + 1 + (b' :: bs').length = pos + (b :: b' :: bs').length := by
          simp only [List.length_cons]; omega
        rw [e1, e2, e3]

theorem slebLoop_trunc (data bs : Bytes) (h : ∀ b ∈ bs, 128 ≤ b.toNat) :
    ∀ fuel pos value shift, data.drop pos = bs →
      slebLoop data fuel pos value shift = .error .elfParseError := by
  induction bs with
  | nil =>
    intro fuel pos value shift hd
    cases fuel with
    | zero => rfl
    | succ fuel => rw [slebLoop, drop_nil_inv hd]
  | cons b bs ih =>
    intro fuel pos value shift hd
    cases fuel with
    | zero => rfl
    | succ fuel =>
      obtain ⟨hb, hd'⟩ := drop_cons_inv hd
      have hb128 : ¬ b.toNat < 128 := by have := h b (by simp); omega
      rw [slebLoop, hb]
      simp only [and_80_aux _ b.toNat_lt, if_neg hb128]
      exact ih (fun x hx => h x (by simp [hx])) _ _ _ _ hd'

theorem emod_two_mul {H : Nat} {v : Int} (hlo : -(H : Int) ≤ v) (hhi : v < (H : Int)) :
    (v % ((2 * H : Nat) : Int)).toNat = if 0 ≤ v then v.toNat else (v + (2 * H : Nat)).toNat := by
  split
  · rw [Int.emod_eq_of_lt (by omega) (by omega)]
  · rw [← Int.add_emod_right, Int.emod_eq_of_lt (by omega) (by omega)]

theorem drop_pre {α} (pre bs rest : List α) : (pre ++ bs ++ rest).drop pre.length = bs ++ rest := by
  simp [List.append_assoc]

theorem drop_pre' {α} (pre bs : List α) : (pre ++ bs).drop pre.length = bs := by simp

theorem drop_pre3 {α} (pre a b c : List α) :
    (pre ++ a ++ b ++ c).drop pre.length = a ++ (b ++ c) := by
  simp [List.append_assoc]

theorem drop_pre3' {α} (pre a b c : List α) :
    (pre ++ a ++ b ++ c).drop pre.length = a ++ b ++ c := by
  simp [List.append_assoc]

theorem length_of_drop {α} {data : List α} {pos : Nat} {l : List α} (h : data.drop pos = l) :
    data.length - pos = l.length := by
  rw [← h, List.length_drop]

theorem readExact_ok {data : Bytes} {pos n : Nat} {bs rest : Bytes}
    (h : data.drop pos = bs ++ rest) (hn : bs.length = n) : readExact data pos n = .ok bs := by
  subst hn
  simp [readExact, readN, h]

theorem readExact_short {data : Bytes} {pos n : Nat} {bs : Bytes}
    (h : data.drop pos = bs) (hn : bs.length < n) : readExact data pos n = .error .elfParseError := by
  have : min n bs.length ≠ n := by omega
  simp [readExact, readN, h, this]

theorem readN_length (data : Bytes) (pos n : Nat) :
    (readN data pos n).length = min n (data.length - pos) := by
  simp [readN]

theorem drop_eq_readN_append (data : Bytes) (pos n : Nat) :
    data.drop pos = readN data pos n ++ data.drop (pos + n) := by
  unfold readN
  rw [← List.drop_drop, List.take_append_drop]

theorem drop_of_readN {data : Bytes} {pos : Nat} {bs : Bytes} (h : readN data pos bs.length = bs) :
    data.drop pos = bs ++ data.drop (pos + bs.length) := by
  have : data.drop pos = (data.drop pos).take bs.length ++ (data.drop pos).drop bs.length :=
    (List.take_append_drop _ _).symm
  rw [this, List.drop_drop]
  unfold readN at h
  rw [h]

theorem readN_of_drop {data : Bytes} {pos : Nat} {a b : Bytes} (h : data.drop pos = a ++ b) :
    readN data pos a.length = a := by
  simp [readN, h]

theorem readN_le_length {data : Bytes} {pos : Nat} {bs : Bytes} (h : readN data pos bs.length = bs) :
    bs = [] ∨ pos + bs.length ≤ data.length := by
  have hl := readN_length data pos bs.length
  rw [h] at hl
  by_cases hb : bs.length = 0
  · left; exact List.length_eq_zero_iff.1 hb
  · right; omega

theorem readN_append_left {a ext : Bytes} {off n : Nat} (h : off + n ≤ a.length) :
    readN (a ++ ext) off n = readN a off n := by
  unfold readN
  rw [List.drop_append_of_le_length (by omega), List.take_append_of_le_length (by rw [List.length_drop]; omega)]

theorem readN_append_right_pad {a ext : Bytes} {off : Nat} {b : Bytes}
    (h : readN a off b.length = b) : readN (a ++ ext) off b.length = b := by
  rcases readN_le_length h with h0 | h0
  · subst h0; simp [readN]
  · rw [readN_append_left h0, h]

theorem readExact_of_len {data : Bytes} {pos n : Nat} (h : (readN data pos n).length = n) :
    readExact data pos n = .ok (readN data pos n) := by
  simp [readExact, h]

theorem readExact_trunc {data : Bytes} {pos n : Nat} (hn : 0 < n) (h : data.length < pos + n) :
    readExact data pos n = .error .elfParseError := by
  have := readN_length data pos n
  have hne : (readN data pos n).length ≠ n := by omega
  simp [readExact, hne]

theorem parseUleb_valid {data : Bytes} {pos : Nat} {bs rest : Bytes}
    (hd : data.drop pos = bs ++ rest) (h : ValidLEB bs = true) :
    parseUleb data pos = .ok (ulebVal bs, pos + bs.length) := by
  have hl := length_of_drop hd
  have := ulebLoop_valid data rest bs h (data.length - pos + 1) pos 0 0
    (by simp at hl; omega) hd (by simp)
  simpa [parseUleb] using this

theorem parseUleb_trunc {data : Bytes} {pos : Nat} {bs : Bytes}
    (hd : data.drop pos = bs) (h : ∀ b ∈ bs, 128 ≤ b.toNat) :
    parseUleb data pos = .error .elfParseError :=
  ulebLoop_trunc data bs h _ _ _ _ hd

theorem parseSleb_valid {data : Bytes} {pos : Nat} {bs rest : Bytes}
    (hd : data.drop pos = bs ++ rest) (h : ValidLEB bs = true) :
    parseSleb data pos = .ok (slebVal bs, pos + bs.length) := by
  have hl := length_of_drop hd
  cases hlast : bs.getLast? with
  | none =>
    have : bs = [] := by simpa using hlast
    subst this; simp [ValidLEB] at h
  | some l =>
    have := slebLoop_valid data rest bs h (data.length - pos + 1) pos 0 0 l
      (by simp at hl; omega) hd (by simp) hlast
    simp only [parseSleb, this, slebVal, hlast]
    simp

theorem parseSleb_trunc {data : Bytes} {pos : Nat} {bs : Bytes}
    (hd : data.drop pos = bs) (h : ∀ b ∈ bs, 128 ≤ b.toNat) :
    parseSleb data pos = .error .elfParseError :=
  slebLoop_trunc data bs h _ _ _ _ hd

theorem parseUleb_enc {data : Bytes} {pos n v : Nat} {rest : Bytes}
    (hd : data.drop pos = encUlebN n v ++ rest) (hn : 1 ≤ n) (hv : v < 2 ^ (7 * n)) :
    parseUleb data pos = .ok (v, pos + n) := by
  have := parseUleb_valid hd (encUlebN_valid n v hn)
  rwa [ulebVal_enc, Nat.mod_eq_of_lt hv, encUlebN_length] at this

theorem encSlebN_length (n : Nat) (v : Int) : (encSlebN n v).length = n := encUlebN_length _ _
theorem encSlebN_valid (n : Nat) (v : Int) (hn : 1 ≤ n) : ValidLEB (encSlebN n v) = true :=
  encUlebN_valid _ _ hn

theorem natLE_length (n v : Nat) : (natLE n v).length = n := by
  induction n generalizing v with
  | zero => rfl
  | succ n ih => simp [natLE, ih]

theorem leNat_natLE (n v : Nat) : leNat (natLE n v) = v % 256 ^ n := by
  induction n generalizing v with
  | zero => simp [natLE, leNat, Nat.mod_one]
  | succ n ih =>
    rw [natLE, leNat, ih, Nat.pow_succ', Nat.mod_mul, UInt8.toNat_ofNat']
    omega

theorem encNat_length (le : Bool) (n v : Nat) : (encNat le n v).length = n := by
  cases le <;> simp [encNat, natBE, natLE_length]

theorem encNat_one (le : Bool) (v : Nat) : encNat le 1 v = [UInt8.ofNat (v % 256)] := by
  cases le <;> simp [encNat, natBE, natLE]

theorem pow256 (n : Nat) : 256 ^ n = 2 ^ (8 * n) := by
  rw [show (256 : Nat) = 2 ^ 8 from rfl, ← Nat.pow_mul]

theorem decNat_encNat (le : Bool) (n v : Nat) : decNat le (encNat le n v) = v % 256 ^ n := by
  cases le <;> simp [decNat, encNat, natBE, beNat, leNat_natLE]

theorem decNat_encNat_of_lt (le : Bool) {n v : Nat} (h : v < 256 ^ n) :
    decNat le (encNat le n v) = v := by
  rw [decNat_encNat, Nat.mod_eq_of_lt h]

theorem decNat_singleton (le : Bool) (b : UInt8) : decNat le [b] = b.toNat := by
  cases le <;> simp [decNat, beNat, leNat]

theorem ofSigned_lt (bits : Nat) (v : Int) : ofSigned bits v < 2 ^ bits := by
  unfold ofSigned
  have hp : 0 < 2 ^ bits := Nat.two_pow_pos bits
  have h1 := Int.emod_nonneg v (b := ((2 ^ bits : Nat) : Int)) (by omega)
  have h2 := Int.emod_lt_of_pos v (b := ((2 ^ bits : Nat) : Int)) (by omega)
  omega

theorem toSigned_ofSigned (bits : Nat) (v : Int) (hb : 1 ≤ bits)
    (hlo : -((2 ^ (bits - 1) : Nat) : Int) ≤ v) (hhi : v < ((2 ^ (bits - 1) : Nat) : Int)) :
    toSigned bits (ofSigned bits v) = v := by
  have e : 2 ^ bits = 2 * 2 ^ (bits - 1) := by
    rw [← Nat.pow_succ']; congr 1; omega
  unfold toSigned ofSigned
  rw [e, emod_two_mul hlo hhi]
  generalize 2 ^ (bits - 1) = H at *
  split <;> split <;> omega

/-- the sign bit of a LEB128 number is bit 6 of its last byte: `slebVal` is the two's complement reading of `ulebVal` -/
theorem slebVal_eq_toSigned : ∀ (bs : Bytes), bs ≠ [] → slebVal bs = toSigned (7 * bs.length) (ulebVal bs)
  | [], h => absurd rfl h
  | [b], _ => by
    have : b.toNat % 128 < 128 := Nat.mod_lt _ (by decide)
    simp only [slebVal, toSigned, ulebVal, List.getLast?_singleton, List.length_singleton, Nat.mul_zero,
      Nat.add_zero, Nat.mul_one, show (2 : Nat) ^ (7 - 1) = 64 from rfl, show (2 : Nat) ^ 7 = 128 from rfl]
    by_cases h : b.toNat % 128 < 64
    · rw [if_pos h, if_neg (by omega)]
    · rw [if_neg h, if_pos (by omega)]
  | b :: b' :: t, _ => by
    have ih := slebVal_eq_toSigned (b' :: t) (by simp)
    have hU := ulebVal_lt (b' :: t)
    have hr : b.toNat % 128 < 128 := Nat.mod_lt _ (by decide)
    have hlast : (b :: b' :: t).getLast? = (b' :: t).getLast? := List.getLast?_cons_cons
    obtain ⟨m, hm⟩ : ∃ m, (b' :: t).length = m + 1 := ⟨t.length, rfl⟩
    -- with `P = 2 ^ (7 * len - 1)`: the old modulus is `2 * P`, the new threshold `128 * P`, the new modulus `256 * P`
    have e1 : 2 ^ (7 * (m + 1)) = 2 * 2 ^ (7 * (m + 1) - 1) := by
      rw [← Nat.pow_succ']; congr 1
    have e2 : 2 ^ (7 * (m + 1 + 1) - 1) = 128 * 2 ^ (7 * (m + 1) - 1) := by
      rw [show 7 * (m + 1 + 1) - 1 = 7 + (7 * (m + 1) - 1) by omega, Nat.pow_add]
    have e3 : 2 ^ (7 * (m + 1 + 1)) = 256 * 2 ^ (7 * (m + 1) - 1) := by
      rw [show 7 * (m + 1 + 1) = 8 + (7 * (m + 1) - 1) by omega, Nat.pow_add]
    rw [hm, e1] at hU
    simp only [slebVal, toSigned, hlast] at ih ⊢
    rw [List.length_cons, hm, ulebVal, e2, e3]
    rw [hm, e1] at ih
    generalize 2 ^ (7 * (m + 1) - 1) = P at *
    generalize ulebVal (b' :: t) = U at *
    cases hl : (b' :: t).getLast? with
    | none => simp at hl
    | some l =>
      simp only [hl] at ih ⊢
      by_cases h1 : l.toNat % 128 ≥ 64 <;> by_cases h2 : U < P
      · rw [if_pos h1, if_pos h2] at ih; omega
      · rw [if_pos h1, if_neg (by omega)]
      · rw [if_neg h1, if_pos (by omega)]
      · rw [if_neg h1, if_neg h2] at ih; omega

theorem slebVal_enc (n : Nat) (v : Int) (hn : 1 ≤ n)
    (hlo : -((2 ^ (7 * n - 1) : Nat) : Int) ≤ v) (hhi : v < ((2 ^ (7 * n - 1) : Nat) : Int)) :
    slebVal (encSlebN n v) = v := by
  have hne : encSlebN n v ≠ [] := by
    intro h; have := encSlebN_length n v; rw [h] at this; simp at this; omega
  rw [slebVal_eq_toSigned _ hne, encSlebN_length, encSlebN, ulebVal_enc]
  have hlt : (v % ((2 ^ (7 * n) : Nat) : Int)).toNat < 2 ^ (7 * n) := ofSigned_lt (7 * n) v
  rw [Nat.mod_eq_of_lt hlt]
  exact toSigned_ofSigned (7 * n) v (by omega) hlo hhi

theorem parseSleb_enc {data : Bytes} {pos n : Nat} {v : Int} {rest : Bytes}
    (hd : data.drop pos = encSlebN n v ++ rest) (hn : 1 ≤ n)
    (hlo : -((2 ^ (7 * n - 1) : Nat) : Int) ≤ v) (hhi : v < ((2 ^ (7 * n - 1) : Nat) : Int)) :
    parseSleb data pos = .ok (v, pos + n) := by
  have := parseSleb_valid hd (encSlebN_valid n v hn)
  rwa [slebVal_enc n v hn hlo hhi, encSlebN_length] at this

theorem sint_codec (le : Bool) (n : Nat) (v : Int) (hn : 1 ≤ n)
    (hlo : -((2 ^ (8 * n - 1) : Nat) : Int) ≤ v) (hhi : v < ((2 ^ (8 * n - 1) : Nat) : Int)) :
    toSigned (8 * n) (decNat le (encNat le n (ofSigned (8 * n) v))) = v := by
  have hlt : ofSigned (8 * n) v < 256 ^ n := by
    have := ofSigned_lt (8 * n) v
    rwa [Nat.pow_mul] at this
  rw [decNat_encNat_of_lt le hlt, toSigned_ofSigned _ _ (by omega) hlo hhi]

theorem drop_add_of_drop {α} {data : List α} {pos : Nat} {a b : List α} (h : data.drop pos = a ++ b) :
    data.drop (pos + a.length) = b := by
  rw [← List.drop_drop, h]; simp

theorem parse_uint_ok {env : Env} {data : Bytes} {pos n : Nat} {le : Bool} {ctx : Fields}
    {bs rest : Bytes} (hd : data.drop pos = bs ++ rest) (hn : bs.length = n) :
    Con.parse env data (.uint n le) ctx pos = .ok (.int (decNat le bs), pos + n, ctx) := by
  rw [Con.parse, readExact_ok hd hn]; rfl

theorem parse_uint_short {env : Env} {data : Bytes} {pos n : Nat} {le : Bool} {ctx : Fields}
    {bs : Bytes} (hd : data.drop pos = bs) (hn : bs.length < n) :
    Con.parse env data (.uint n le) ctx pos = .error .elfParseError := by
  rw [Con.parse, readExact_short hd hn]; rfl

theorem parse_sint_ok {env : Env} {data : Bytes} {pos n : Nat} {le : Bool} {ctx : Fields}
    {bs rest : Bytes} (hd : data.drop pos = bs ++ rest) (hn : bs.length = n) :
    Con.parse env data (.sint n le) ctx pos
      = .ok (.int (toSigned (8 * n) (decNat le bs)), pos + n, ctx) := by
  rw [Con.parse, readExact_ok hd hn]; rfl

theorem parse_sint_short {env : Env} {data : Bytes} {pos n : Nat} {le : Bool} {ctx : Fields}
    {bs : Bytes} (hd : data.drop pos = bs) (hn : bs.length < n) :
    Con.parse env data (.sint n le) ctx pos = .error .elfParseError := by
  rw [Con.parse, readExact_short hd hn]; rfl

theorem parse_u24_short {env : Env} {data : Bytes} {pos : Nat} {le : Bool} {ctx : Fields}
    {bs : Bytes} (hd : data.drop pos = bs) (hn : bs.length < 3) :
    Con.parse env data (.u24 le) ctx pos = .error .elfParseError := by
  rw [Con.parse, readExact_short hd hn]; rfl

theorem u24_arith (v : Nat) (hv : v < 2 ^ 24) :
    (v % 256 + 256 * (v / 256 % 256)) ||| ((v / 256 / 256 % 256) <<< 16) = v := by
  rw [or_shl_eq_add _ (by omega)]; omega

theorem parse_u24_ok {env : Env} {data : Bytes} {pos : Nat} {le : Bool} {ctx : Fields}
    {v : Nat} {rest : Bytes} (hv : v < 2 ^ 24) (hd : data.drop pos = encNat le 3 v ++ rest) :
    Con.parse env data (.u24 le) ctx pos = .ok (.int (v : Int), pos + 3, ctx) := by
  rw [Con.parse, readExact_ok hd (encNat_length le 3 v)]
  have := u24_arith v hv
  cases le <;>
    simp [encNat, natBE, natLE, leNat, beNat, UInt8.toNat_ofNat', bind, Except.bind, pure, Except.pure]
  all_goals rw [this]

theorem parse_uleb_ok {env : Env} {data : Bytes} {pos : Nat} {ctx : Fields} {bs rest : Bytes}
    (hd : data.drop pos = bs ++ rest) (h : ValidLEB bs = true) :
    Con.parse env data .uleb ctx pos = .ok (.int (ulebVal bs), pos + bs.length, ctx) := by
  rw [Con.parse, parseUleb_valid hd h]; rfl

theorem parse_sleb_ok {env : Env} {data : Bytes} {pos : Nat} {ctx : Fields} {bs rest : Bytes}
    (hd : data.drop pos = bs ++ rest) (h : ValidLEB bs = true) :
    Con.parse env data .sleb ctx pos = .ok (.int (slebVal bs), pos + bs.length, ctx) := by
  rw [Con.parse, parseSleb_valid hd h]; rfl

theorem cstringLoop_ok (data rest s : Bytes) (hs : ∀ b ∈ s, b ≠ 0) :
    ∀ fuel pos acc, s.length + 1 ≤ fuel → data.drop pos = s ++ 0 :: rest →
      cstringLoop data fuel pos acc = .ok (acc.reverse ++ s, pos + s.length + 1) := by
  induction s with
  | nil =>
    intro fuel pos acc hf hd
    obtain ⟨hb, -⟩ := drop_cons_inv (by simpa using hd)
    cases fuel with
    | zero => simp at hf
    | succ fuel => rw [cstringLoop, hb]; simp
  | cons b s ih =>
    intro fuel pos acc hf hd
    obtain ⟨hb, hd'⟩ := drop_cons_inv (by simpa using hd)
    cases fuel with
    | zero => simp at hf
    | succ fuel =>
      rw [cstringLoop, hb]
      simp only [if_neg (hs b (by simp))]
      rw [ih (fun x hx => hs x (by simp [hx])) fuel (pos + 1) (b :: acc) (by simpa using hf) hd']
      simp; omega

theorem cstringLoop_unterminated (data s : Bytes) (hs : ∀ b ∈ s, b ≠ 0) :
    ∀ fuel pos acc, data.drop pos = s →
      cstringLoop data fuel pos acc = .error .elfParseError := by
  induction s with
  | nil =>
    intro fuel pos acc hd
    cases fuel with
    | zero => rfl
    | succ fuel => rw [cstringLoop, drop_nil_inv hd]
  | cons b s ih =>
    intro fuel pos acc hd
    obtain ⟨hb, hd'⟩ := drop_cons_inv hd
    cases fuel with
    | zero => rfl
    | succ fuel =>
      rw [cstringLoop, hb]
      simp only [if_neg (hs b (by simp))]
      exact ih (fun x hx => hs x (by simp [hx])) fuel (pos + 1) (b :: acc) hd'

theorem parseCString_ok {data : Bytes} {pos : Nat} {s rest : Bytes} (hs : ∀ b ∈ s, b ≠ 0)
    (hd : data.drop pos = s ++ [0] ++ rest) :
    parseCString data pos = .ok (s, pos + s.length + 1) := by
  have hd' : data.drop pos = s ++ 0 :: rest := by simpa using hd
  have hl := length_of_drop hd'
  have := cstringLoop_ok data rest s hs (data.length - pos + 1) pos [] (by simp at hl; omega) hd'
  simpa [parseCString] using this

theorem parseCString_unterminated {data : Bytes} {pos : Nat} {s : Bytes} (hs : ∀ b ∈ s, b ≠ 0)
    (hd : data.drop pos = s) : parseCString data pos = .error .elfParseError :=
  cstringLoop_unterminated data s hs _ _ _ hd

theorem firstNul_append_of_no_nul (c r : Bytes) (h : (0 : UInt8) ∉ c) :
    firstNul (c ++ r) = (firstNul r).map (c ++ ·) := by
  induction c with
  | nil => simp
  | cons b c ih =>
    have hb : b ≠ 0 := by intro e; exact h (by simp [e])
    have hc : (0 : UInt8) ∉ c := by intro e; exact h (by simp [e])
    simp [firstNul, hb, ih hc, Option.map_map, Function.comp_def]

theorem firstNul_of_no_nul (c : Bytes) (h : (0 : UInt8) ∉ c) : firstNul c = none := by
  have := firstNul_append_of_no_nul c [] h
  simpa [firstNul] using this

theorem firstNul_of_idxOf (c r : Bytes) (i : Nat) (h : c.idxOf? (0 : UInt8) = some i) :
    firstNul (c ++ r) = some (c.take i) := by
  induction c generalizing i with
  | nil => simp at h
  | cons b c ih =>
    rw [List.idxOf?_cons] at h
    by_cases hb : b = 0
    · simp [hb] at h
      subst h; simp [firstNul, hb]
    · simp [hb] at h
      obtain ⟨j, hj, rfl⟩ := h
      simp [firstNul, hb, ih j hj]

theorem cstringChunkLoop_eq (data : Bytes) (k : Nat) (hk : 1 ≤ k) :
    ∀ fuel pos acc, data.length - pos + 1 ≤ fuel →
      cstringChunkLoop data k fuel pos acc = .ok ((firstNul (data.drop pos)).map (acc ++ ·)) := by
  intro fuel
  induction fuel with
  | zero => intro pos acc hf; omega
  | succ fuel ih =>
    intro pos acc hf
    rw [cstringChunkLoop]
    -- the data from `pos` on is the chunk `c` and the rest: a NUL in `c` ends the string there, a short chunk is
    -- the end of the data, otherwise `c` is prepended to what the loop finds behind it
    generalize hc : readN data pos k = c
    have hc' : c = (data.drop pos).take k := hc.symm
    have hsplit : data.drop pos = c ++ data.drop (pos + k) := by
      rw [hc', ← List.drop_drop, List.take_append_drop]
    have hclen : c.length = min k (data.length - pos) := by
      rw [hc', List.length_take, List.length_drop]
    cases hi : c.idxOf? (0 : UInt8) with
    | some i =>
      simp only
      rw [hsplit, firstNul_of_idxOf _ _ _ hi]
      rfl
    | none =>
      simp only
      have hno : (0 : UInt8) ∉ c := by simpa using hi
      by_cases hlen : c.length < k
      · rw [if_pos hlen]
        have : data.drop pos = c := by
          rw [hc']; symm
          apply List.take_of_length_le
          rw [List.length_drop]; omega
        rw [this, firstNul_of_no_nul _ hno]; rfl
      · rw [if_neg hlen]
        rw [ih (pos + k) _ (by omega)]
        conv => rhs; rw [hsplit, firstNul_append_of_no_nul _ _ hno]
        simp [Option.map_map, Function.comp_def]

theorem parseCStringFromStream_chunk (data : Bytes) (pos : Nat) {k : Nat} (hk : 1 ≤ k) :
    parseCStringFromStream data pos k = .ok (firstNul (data.drop pos)) := by
  unfold parseCStringFromStream
  rw [cstringChunkLoop_eq data k hk _ _ _ (by omega)]
  simp

theorem parseCStringFromStream_eq (data : Bytes) (pos : Nat) :
    parseCStringFromStream data pos = .ok (firstNul (data.drop pos)) :=
  parseCStringFromStream_chunk data pos (by omega)

theorem parse_initlen_32 {env : Env} {data : Bytes} {pos : Nat} {le : Bool} {ctx : Fields}
    {bs rest : Bytes} (hd : data.drop pos = bs ++ rest) (hn : bs.length = 4)
    (h : decNat le bs < 0xFFFFFF00) :
    Con.parse env data (.initialLength le) ctx pos
      = .ok (.int (decNat le bs), pos + 4, Fields.set ctx "is64" (.bool false)) := by
  rw [Con.parse, readExact_ok hd hn]
  simp only [bind, Except.bind, if_pos h]; rfl

theorem parse_initlen_64 {env : Env} {data : Bytes} {pos : Nat} {le : Bool} {ctx : Fields}
    {bs bs2 rest : Bytes} (hd : data.drop pos = bs ++ (bs2 ++ rest)) (hn : bs.length = 4)
    (hn2 : bs2.length = 8) (h : decNat le bs = 0xFFFFFFFF) :
    Con.parse env data (.initialLength le) ctx pos
      = .ok (.int (decNat le bs2), pos + 12, Fields.set ctx "is64" (.bool true)) := by
  have hd2 : data.drop (pos + 4) = bs2 ++ rest := by rw [← hn]; exact drop_add_of_drop hd
  rw [Con.parse, readExact_ok hd hn]
  simp only [bind, Except.bind, h, readExact_ok hd2 hn2]
  rfl

theorem parse_initlen_reserved {env : Env} {data : Bytes} {pos : Nat} {le : Bool} {ctx : Fields}
    {bs rest : Bytes} (hd : data.drop pos = bs ++ rest) (hn : bs.length = 4)
    (h1 : 0xFFFFFF00 ≤ decNat le bs) (h2 : decNat le bs ≠ 0xFFFFFFFF) :
    Con.parse env data (.initialLength le) ctx pos = .error .elfParseError := by
  rw [Con.parse, readExact_ok hd hn]
  simp only [bind, Except.bind, if_neg (Nat.not_lt.2 h1), if_neg h2]

theorem parse_initlen_short {env : Env} {data : Bytes} {pos : Nat} {le : Bool} {ctx : Fields}
    {bs : Bytes} (hd : data.drop pos = bs) (hn : bs.length < 4) :
    Con.parse env data (.initialLength le) ctx pos = .error .elfParseError := by
  rw [Con.parse, readExact_short hd hn]; rfl

namespace Engine

/-- `MetaArray._parse`; `good` is whatever well-formedness the item lemma needs -/
theorem arrayLoop_items {α : Type} (step : Nat → Fields → PRes) (ctx : Fields) (data : Bytes)
    (enc : α → Bytes) (val : α → Val) (good : α → Prop) (rest : Bytes)
    (hitem : ∀ x pos tail, good x → data.drop pos = enc x ++ tail →
      step pos ctx = .ok (val x, pos + (enc x).length, ctx)) :
    ∀ (xs : List α) (pos : Nat) (acc : List Val), (∀ x ∈ xs, good x) →
      data.drop pos = xs.flatMap enc ++ rest →
      arrayLoop step xs.length pos ctx acc
        = .ok (.list (acc.reverse ++ xs.map val), pos + (xs.flatMap enc).length, ctx) := by
  intro xs
  induction xs with
  | nil => intro pos acc _ _; simp [arrayLoop]
  | cons x xs ih =>
    intro pos acc hg hd
    have hd0 : data.drop pos = enc x ++ (xs.flatMap enc ++ rest) := by
      simpa [List.append_assoc] using hd
    rw [List.length_cons, arrayLoop, hitem x pos _ (hg x (by simp)) hd0]
    simp only
    rw [ih _ _ (fun y hy => hg y (by simp [hy])) (drop_add_of_drop hd0)]
    simp [Nat.add_assoc]

/-- `RepeatUntilExcluding._parse` on `items ++ terminator` -/
theorem repeatLoop_items {α : Type} (step : Nat → Fields → PRes) (stop : Val → Fields → R Bool) (ctx : Fields)
    (data : Bytes) (enc : α → Bytes) (val : α → Val) (good : α → Prop) (term : Bytes) (tv : Val) (rest : Bytes)
    (hitem : ∀ x pos tail, good x → data.drop pos = enc x ++ tail →
      step pos ctx = .ok (val x, pos + (enc x).length, ctx) ∧ stop (val x) ctx = .ok false)
    (hterm : ∀ pos, data.drop pos = term ++ rest →
      step pos ctx = .ok (tv, pos + term.length, ctx) ∧ stop tv ctx = .ok true) :
    ∀ (xs : List α) (fuel pos : Nat) (acc : List Val), (∀ x ∈ xs, good x) → xs.length + 1 ≤ fuel →
      data.drop pos = xs.flatMap enc ++ (term ++ rest) →
      repeatLoop step stop fuel pos ctx acc
        = .ok (.list (acc.reverse ++ xs.map val), pos + (xs.flatMap enc).length + term.length, ctx) := by
  intro xs
  induction xs with
  | nil =>
    intro fuel pos acc _ hf hd
    cases fuel with
    | zero => omega
    | succ fuel =>
      obtain ⟨h1, h2⟩ := hterm pos (by simpa using hd)
      rw [repeatLoop, h1]
      simp [h2]
  | cons x xs ih =>
    intro fuel pos acc hg hf hd
    cases fuel with
    | zero => omega
    | succ fuel =>
      have hd0 : data.drop pos = enc x ++ (xs.flatMap enc ++ (term ++ rest)) := by
        simpa [List.append_assoc] using hd
      obtain ⟨h1, h2⟩ := hitem x pos _ (hg x (by simp)) hd0
      rw [repeatLoop, h1]
      simp only [h2]
      rw [ih fuel _ _ (fun y hy => hg y (by simp [hy])) (by simp at hf; omega) (drop_add_of_drop hd0)]
      simp [Nat.add_assoc]

theorem flatMap_length_ge {α : Type} (enc : α → Bytes) (xs : List α) (h : ∀ x ∈ xs, 1 ≤ (enc x).length) :
    xs.length ≤ (xs.flatMap enc).length := by
  induction xs with
  | nil => simp
  | cons x xs ih =>
    have h1 := h x (by simp)
    have h2 := ih (fun y hy => h y (by simp [hy]))
    simp only [List.flatMap_cons, List.length_append, List.length_cons]; omega

theorem parse_repeat_items {α : Type} {env : Env} {data : Bytes} {pred : Expr} {sub : Con} {ctx : Fields}
    (enc : α → Bytes) (val : α → Val) (good : α → Prop) (term : Bytes) (tv : Val) (rest : Bytes)
    (hitem : ∀ x pos tail, good x → data.drop pos = enc x ++ tail →
      Con.parse env data sub ctx pos = .ok (val x, pos + (enc x).length, ctx) ∧
        (pred.eval ctx (val x)).map Val.truthy = .ok false)
    (hterm : ∀ pos, data.drop pos = term ++ rest →
      Con.parse env data sub ctx pos = .ok (tv, pos + term.length, ctx) ∧
        (pred.eval ctx tv).map Val.truthy = .ok true)
    (xs : List α) (pos : Nat) (hg : ∀ x ∈ xs, good x) (hlen : ∀ x ∈ xs, 1 ≤ (enc x).length)
    (hd : data.drop pos = xs.flatMap enc ++ (term ++ rest)) :
    Con.parse env data (.repeatUntilExcl pred sub) ctx pos
      = .ok (.list (xs.map val), pos + (xs.flatMap enc).length + term.length, ctx) := by
  have hl := length_of_drop hd
  have hge := flatMap_length_ge enc xs hlen
  have hstop : ∀ (v : Val) (c : Fields),
      (do return (← pred.eval c v).truthy : R Bool) = (pred.eval c v).map Val.truthy := by
    intro v c
    cases pred.eval c v <;> rfl
  rw [Con.parse]
  rw [repeatLoop_items (fun p c => Con.parse env data sub c p) (fun v c => do return (← pred.eval c v).truthy) ctx data
    enc val good term tv rest
    (fun x pos tail hgx hdx => by
      obtain ⟨h1, h2⟩ := hitem x pos tail hgx hdx
      exact ⟨h1, by rw [hstop, h2]⟩)
    (fun pos hdx => by
      obtain ⟨h1, h2⟩ := hterm pos hdx
      exact ⟨h1, by rw [hstop, h2]⟩)
    xs _ pos [] hg (by simp only [List.length_append] at hl; omega) hd]
  simp

theorem byte_toNat {k : Nat} (hk : k < 256) : (UInt8.ofNat k).toNat = k := by
  simp [UInt8.toNat_ofNat', Nat.mod_eq_of_lt hk]

theorem leNat_lt : ∀ (bs : Bytes), leNat bs < 256 ^ bs.length
  | [] => by simp [leNat]
  | b :: bs => by
    have hb := b.toNat_lt
    have := leNat_lt bs
    simp only [leNat, List.length_cons, Nat.pow_succ]
    omega

theorem decNat_lt (le : Bool) (bs : Bytes) : decNat le bs < 256 ^ bs.length := by
  cases le
  · simp only [decNat, Bool.false_eq_true, ↓reduceIte, beNat]
    have := leNat_lt bs.reverse
    rwa [List.length_reverse] at this
  · simp only [decNat, ↓reduceIte]; exact leNat_lt bs

theorem firstNul_append_of_some {a s : Bytes} (r : Bytes) (h : firstNul a = some s) :
    firstNul (a ++ r) = some s := by
  induction a generalizing s with
  | nil => simp [firstNul] at h
  | cons b a ih =>
    simp only [List.cons_append, firstNul] at h ⊢
    split
    · rename_i hb; simpa [hb] using h
    · rename_i hb
      simp only [hb, if_false] at h
      cases hf : firstNul a with
      | none => simp [hf] at h
      | some y => rw [ih hf]; simpa [hf] using h

theorem length_flatMap_const {α : Type} (enc : α → Bytes) (n : Nat) (xs : List α)
    (hn : ∀ x ∈ xs, (enc x).length = n) : (xs.flatMap enc).length = xs.length * n := by
  induction xs with
  | nil => simp
  | cons x xs ih =>
    rw [List.flatMap_cons, List.length_append, hn x (by simp), ih (fun y hy => hn y (by simp [hy])),
      List.length_cons, Nat.succ_mul, Nat.add_comm]

theorem drop_flatMap_getElem {α : Type} (enc : α → Bytes) (n : Nat) :
    ∀ (xs : List α) (i : Nat) (hi : i < xs.length), (∀ x ∈ xs, (enc x).length = n) →
      (xs.flatMap enc).drop (i * n) = enc (xs[i]'hi) ++ (xs.drop (i + 1)).flatMap enc := by
  intro xs
  induction xs with
  | nil => intro i hi; simp at hi
  | cons x xs ih =>
    intro i hi hn
    cases i with
    | zero => simp
    | succ i =>
      have hi' : i < xs.length := by simpa using hi
      have e : (i + 1) * n = (enc x).length + i * n := by
        rw [hn x (by simp), Nat.add_mul]; omega
      rw [List.flatMap_cons, e, ← List.drop_drop, List.drop_left, ih i hi' (fun y hy => hn y (by simp [hy]))]
      simp

theorem drop_entry {α : Type} {enc : α → Bytes} {k : Nat} {es : List α} (hk : ∀ e ∈ es, (enc e).length = k)
    {data rest : Bytes} {n pos : Nat} (h : n < es.length) (hd : data.drop pos = es.flatMap enc ++ rest) :
    data.drop (pos + n * k) = enc es[n] ++ ((es.drop (n + 1)).flatMap enc ++ rest) := by
  have hle : n * k ≤ (es.flatMap enc).length := by
    rw [length_flatMap_const enc k es hk]
    exact Nat.mul_le_mul_right k (Nat.le_of_lt h)
  rw [← List.drop_drop, hd, List.drop_append_of_le_length hle, drop_flatMap_getElem enc k es n h hk, List.append_assoc]

/-- entry `k` of a table whose entries are padded to `es` bytes each -/
theorem drop_padded_entry {α : Type} (enc : α → Bytes) (n es : Nat) (fill : UInt8) (hn : ∀ x, (enc x).length = n) (hes : n ≤ es)
    {data rest : Bytes} (xs : List α) (pos k : Nat) (hk : k < xs.length)
    (hd : data.drop pos = (xs.flatMap fun x => enc x ++ List.replicate (es - n) fill) ++ rest) :
    ∃ rest', data.drop (pos + k * es) = enc xs[k] ++ rest' :=
  ⟨_, by rw [drop_entry (fun x _ => by rw [List.length_append, hn, List.length_replicate]; omega) hk hd,
    List.append_assoc]⟩

/-- below 2^63 `stream.seek` accepts the position -/
theorem entry_pos_lt {pos n len k : Nat} (hn : n < len) (hk : 0 < k) (hfit : pos + len * k ≤ 2 ^ 63) :
    pos + n * k < 2 ^ 63 := by
  have : (n + 1) * k ≤ len * k := Nat.mul_le_mul_right _ hn
  rw [Nat.succ_mul] at this
  omega

theorem parse_uint_enc {env : Env} {data : Bytes} {pos n v : Nat} {le : Bool} {ctx : Fields} {rest : Bytes}
    (hd : data.drop pos = encNat le n v ++ rest) (hv : v < 256 ^ n) :
    Con.parse env data (.uint n le) ctx pos = .ok (.int v, pos + n, ctx) := by
  rw [parse_uint_ok hd (encNat_length le n v), decNat_encNat_of_lt le hv]

theorem parse_ulebN {env : Env} {data : Bytes} {ctx : Fields} {pos l v : Nat} {rest : Bytes}
    (hd : data.drop pos = encUlebN l v ++ rest) (hl : 1 ≤ l) (hv : v < 2 ^ (7 * l)) :
    Con.parse env data .uleb ctx pos = .ok (.int v, pos + l, ctx) := by
  rw [Con.parse, parseUleb_enc hd hl hv]; rfl

theorem parse_slebN {env : Env} {data : Bytes} {ctx : Fields} {pos l : Nat} {v : Int} {rest : Bytes}
    (hd : data.drop pos = encSlebN l v ++ rest) (hl : 1 ≤ l)
    (hlo : -((2 ^ (7 * l - 1) : Nat) : Int) ≤ v) (hhi : v < ((2 ^ (7 * l - 1) : Nat) : Int)) :
    Con.parse env data .sleb ctx pos = .ok (.int v, pos + l, ctx) := by
  rw [Con.parse, parseSleb_enc hd hl hlo hhi]; rfl

theorem structParse_eq (env : Env) (c : Con) (data : Bytes) (pos : Nat) (ctx : Fields) :
    structParse env c data pos ctx = (Con.parse env data c ctx pos).map fun r => (r.1, r.2.1) := by
  unfold structParse
  cases Con.parse env data c ctx pos <;> rfl

theorem structParse_of_parse {env : Env} {c : Con} {data : Bytes} {pos p : Nat} {v : Val} {ctx ctx' : Fields}
    (h : Con.parse env data c ctx pos = .ok (v, p, ctx')) : structParse env c data pos ctx = .ok (v, p) := by
  rw [structParse_eq, h]; rfl

theorem drop_after {data : Bytes} {pos : Nat} {a r : Bytes} (h : data.drop pos = a ++ r) {n : Nat}
    (hn : a.length = n) : data.drop (pos + n) = r := by
  subst hn; exact drop_add_of_drop h

theorem parse_byte {env : Env} {data : Bytes} {pos x : Nat} {le : Bool} {ctx : Fields} {rest : Bytes}
    (hd : data.drop pos = [UInt8.ofNat x] ++ rest) (hx : x < 256) :
    Con.parse env data (.uint 1 le) ctx pos = .ok (.int x, pos + 1, ctx) := by
  rw [parse_uint_ok (n := 1) hd rfl, decNat_singleton, byte_toNat hx]

theorem structParse_error {env : Env} {c : Con} {data : Bytes} {pos : Nat} {ctx : Fields} {e : Err}
    (h : Con.parse env data c ctx pos = .error e) : structParse env c data pos ctx = .error e := by
  rw [structParse_eq, h]; rfl

theorem validLEB_take : ∀ (bs : Bytes) (j : Nat), ValidLEB bs = true → j < bs.length → ∀ b ∈ bs.take j, 128 ≤ b.toNat
  | [], _, h, _ => by simp [ValidLEB] at h
  | x :: xs, 0, _, _ => by intro b hb; simp at hb
  | x :: xs, j + 1, h, hj => by
    have hne : xs ≠ [] := by
      intro h0; subst h0; simp at hj
    rw [ValidLEB_cons_of_ne_nil _ hne, Bool.and_eq_true, decide_eq_true_eq] at h
    intro b hb
    rw [List.take_succ_cons, List.mem_cons] at hb
    rcases hb with rfl | hb
    · exact h.1
    · exact validLEB_take xs j h.2 (by simpa using hj) b hb

theorem parse_initlen_enc {env : Env} {data : Bytes} {pos : Nat} {le : Bool} {ctx : Fields}
    (b : Bool) (n : Nat) (tail : Bytes)
    (hn : if b then n < 2 ^ 64 else n < 0xFFFFFF00)
    (hd : data.drop pos = encInitLen le (if b then .dwarf64 n else .dwarf32 n) ++ tail) :
    Con.parse env data (.initialLength le) ctx pos
        = .ok (.int n, pos + (if b then 12 else 4), Fields.set ctx "is64" (.bool b))
      ∧ data.drop (pos + (if b then 12 else 4)) = tail := by
  cases b with
  | false =>
    simp only [Bool.false_eq_true, if_false, encInitLen] at hn hd ⊢
    have hlt : n < 256 ^ 4 := by omega
    have h := parse_initlen_32 (env := env) (ctx := ctx) hd (encNat_length le 4 n)
      (by rw [decNat_encNat_of_lt le hlt]; exact hn)
    rw [decNat_encNat_of_lt le hlt] at h
    refine ⟨h, ?_⟩
    have := drop_add_of_drop hd
    rwa [encNat_length] at this
  | true =>
    simp only [if_true, encInitLen] at hn hd ⊢
    have hlt : n < 256 ^ 8 := by omega
    have hd1 : data.drop pos = encNat le 4 0xffffffff ++ (encNat le 8 n ++ tail) := by
      rw [hd, List.append_assoc]
    have h := parse_initlen_64 (env := env) (ctx := ctx) hd1 (encNat_length le 4 _) (encNat_length le 8 n)
      (decNat_encNat_of_lt le (by decide))
    rw [decNat_encNat_of_lt le hlt] at h
    refine ⟨h, ?_⟩
    have h4 := drop_add_of_drop hd1
    rw [encNat_length] at h4
    have h12 := drop_add_of_drop h4
    rwa [encNat_length, Nat.add_assoc] at h12

end Engine

theorem arrayLoop_bytes (env : Env) (data : Bytes) (le : Bool) (ctx : Fields) (rest : Bytes) :
    ∀ (payload : Bytes) (pos : Nat) (acc : List Val), data.drop pos = payload ++ rest →
      arrayLoop (fun p c => Con.parse env data (.uint 1 le) c p) payload.length pos ctx acc
        = .ok (.list (acc.reverse ++ payload.map fun b => .int b.toNat), pos + payload.length, ctx) := by
  intro payload pos acc hd
  have hflat : payload.flatMap (fun b => [b]) = payload := by induction payload <;> simp_all
  have := Engine.arrayLoop_items (fun p c => Con.parse env data (.uint 1 le) c p) ctx data (fun b => [b])
    (fun b => Val.int b.toNat) (fun _ => True) rest
    (fun b p tail _ hdb => by rw [parse_uint_ok (n := 1) hdb rfl, decNat_singleton]; rfl)
    payload pos acc (fun _ _ => trivial) (by rw [hflat]; exact hd)
  rwa [hflat] at this

theorem arrayLoop_bytes_trunc (env : Env) (data : Bytes) (le : Bool) (ctx : Fields) :
    ∀ (m pos : Nat) (acc : List Val), data.length - pos < m →
      arrayLoop (fun p c => Con.parse env data (.uint 1 le) c p) m pos ctx acc
        = .error .elfParseError := by
  intro m
  induction m with
  | zero => intro pos acc h; omega
  | succ m ih =>
    intro pos acc h
    rw [arrayLoop]
    cases hdp : data.drop pos with
    | nil =>
      rw [parse_uint_short hdp (by simp)]
    | cons b t =>
      have hd1 : data.drop pos = [b] ++ t := by simpa using hdp
      have hl := length_of_drop hdp
      rw [parse_uint_ok (n := 1) hd1 rfl]
      simp only
      exact ih (pos + 1) _ (by simp at hl; omega)

theorem parse_prefixed_bytes {env : Env} {data : Bytes} {pos : Nat} {le : Bool} {ctx : Fields}
    {len : Con} {payload rest : Bytes} {p : Nat}
    (hlen : Con.parse env data len ctx pos = .ok (.int (payload.length : Nat), p, ctx))
    (hd : data.drop p = payload ++ rest) :
    Con.parse env data (.prefixed len (.uint 1 le)) ctx pos
      = .ok (.list (payload.map fun b => .int b.toNat), p + payload.length, ctx) := by
  rw [Con.parse, hlen]
  simp only [bind, Except.bind, Val.asInt, Int.toNat_natCast]
  rw [arrayLoop_bytes env data le ctx rest payload p [] hd]
  simp

theorem parse_prefixed_bytes_trunc {env : Env} {data : Bytes} {pos : Nat} {le : Bool} {ctx : Fields}
    {len : Con} {m p : Nat}
    (hlen : Con.parse env data len ctx pos = .ok (.int (m : Nat), p, ctx))
    (h : data.length - p < m) :
    Con.parse env data (.prefixed len (.uint 1 le)) ctx pos = .error .elfParseError := by
  rw [Con.parse, hlen]
  simp only [bind, Except.bind, Val.asInt, Int.toNat_natCast]
  exact arrayLoop_bytes_trunc env data le ctx m p [] h

theorem parse_cstring_ok {env : Env} {data : Bytes} {pos : Nat} {ctx : Fields} {s rest : Bytes}
    (hs : ∀ b ∈ s, b ≠ 0) (hd : data.drop pos = s ++ [0] ++ rest) :
    Con.parse env data .cstring ctx pos = .ok (.bytes s, pos + s.length + 1, ctx) := by
  rw [Con.parse, parseCString_ok hs hd]; rfl

theorem parse_repeat_cstrings {env : Env} {data : Bytes} {pos : Nat} {ctx : Fields}
    {ss : List Bytes} {rest : Bytes} (hs : ∀ s ∈ ss, s ≠ [] ∧ ∀ b ∈ s, b ≠ 0)
    (hd : data.drop pos = (ss.flatMap fun s => s ++ [0]) ++ [0] ++ rest) :
    Con.parse env data (.repeatUntilExcl (.eq .obj (.bytesLit [])) .cstring) ctx pos
      = .ok (.list (ss.map .bytes), pos + (ss.flatMap fun s => s ++ [0]).length + 1, ctx) := by
  have hstop : ∀ s : Bytes, ((Expr.eq .obj (.bytesLit [])).eval ctx (.bytes s)).map Val.truthy = .ok (s == []) := by
    intro s; simp [Expr.eval, bind, Except.bind, pure, Except.pure, Except.map, Val.truthy, BEq.beq, Val.beq]
  exact Engine.parse_repeat_items (fun s : Bytes => s ++ [0]) Val.bytes (fun s => s ≠ [] ∧ ∀ b ∈ s, b ≠ 0) [0]
    (.bytes []) rest
    (fun s p tail hg hds => by
      rw [parse_cstring_ok hg.2 (by rw [hds, List.append_assoc]), hstop, List.length_append]
      exact ⟨rfl, by simp [hg.1]⟩)
    (fun p hdt => by
      rw [parse_cstring_ok (s := []) (by simp) (by simpa using hdt), hstop]
      exact ⟨rfl, rfl⟩)
    ss pos hs (fun s _ => by simp) (by rw [hd, List.append_assoc])

theorem parse_block_fixed {env : Env} {data : Bytes} {pos n : Nat} {le : Bool} {ctx : Fields}
    {payload rest : Bytes} (hlen : payload.length < 256 ^ n)
    (hd : data.drop pos = encNat le n payload.length ++ (payload ++ rest)) :
    Con.parse env data (.prefixed (.uint n le) (.uint 1 le)) ctx pos
      = .ok (.list (payload.map fun b => .int b.toNat), pos + n + payload.length, ctx) := by
  have h1 := parse_uint_ok (env := env) (le := le) (ctx := ctx) hd (encNat_length le n payload.length)
  rw [decNat_encNat_of_lt le hlen] at h1
  have hd2 : data.drop (pos + n) = payload ++ rest := by
    have := drop_add_of_drop hd
    rwa [encNat_length] at this
  exact parse_prefixed_bytes h1 hd2

theorem parse_block_uleb {env : Env} {data : Bytes} {pos k : Nat} {le : Bool} {ctx : Fields}
    {payload rest : Bytes} (hk : 1 ≤ k) (hlen : payload.length < 2 ^ (7 * k))
    (hd : data.drop pos = encUlebN k payload.length ++ (payload ++ rest)) :
    Con.parse env data (.prefixed .uleb (.uint 1 le)) ctx pos
      = .ok (.list (payload.map fun b => .int b.toNat), pos + k + payload.length, ctx) := by
  have h1 := parse_uleb_ok (env := env) (ctx := ctx) hd (encUlebN_valid k payload.length hk)
  rw [ulebVal_enc_of_lt hlen, encUlebN_length] at h1
  have hd2 : data.drop (pos + k) = payload ++ rest := by
    have := drop_add_of_drop hd
    rwa [encUlebN_length] at this
  exact parse_prefixed_bytes h1 hd2

theorem parse_block_trunc {env : Env} {data : Bytes} {pos n len : Nat} {le : Bool} {ctx : Fields}
    {payload : Bytes} (hlen : len < 256 ^ n) (h : payload.length < len)
    (hd : data.drop pos = encNat le n len ++ payload) :
    Con.parse env data (.prefixed (.uint n le) (.uint 1 le)) ctx pos = .error .elfParseError := by
  have h1 := parse_uint_ok (env := env) (le := le) (ctx := ctx) hd (encNat_length le n len)
  rw [decNat_encNat_of_lt le hlen] at h1
  have hl := length_of_drop hd
  rw [List.length_append, encNat_length] at hl
  exact parse_prefixed_bytes_trunc h1 (by omega)

theorem natLE_leNat : ∀ (bs : Bytes), natLE bs.length (leNat bs) = bs
  | [] => rfl
  | b :: bs => by
    have hb := b.toNat_lt
    have h1 : (b.toNat + 256 * leNat bs) % 256 = b.toNat := by omega
    have h2 : (b.toNat + 256 * leNat bs) / 256 = leNat bs := by omega
    simp only [List.length_cons, natLE, leNat, h1, h2, natLE_leNat bs, UInt8.ofNat_toNat]

theorem encNat_decNat (le : Bool) (bs : Bytes) : encNat le bs.length (decNat le bs) = bs := by
  cases le
  · simp only [encNat, decNat, Bool.false_eq_true, ↓reduceIte, natBE, beNat]
    have := natLE_leNat bs.reverse
    rw [List.length_reverse] at this
    rw [this, List.reverse_reverse]
  · simp only [encNat, decNat, ↓reduceIte, natLE_leNat]

theorem bytes_eq_words (le : Bool) {n : Nat} (hn : 0 < n) : ∀ (k : Nat) (bs : Bytes), bs.length = n * k →
    ∃ ws : List Nat, ws.length = k ∧ bs = ws.flatMap (encNat le n)
  | 0, bs, h => ⟨[], rfl, List.eq_nil_of_length_eq_zero (by simpa using h)⟩
  | k + 1, bs, h => by
    have hl : (bs.take n).length = n := by rw [List.length_take, h, Nat.mul_succ]; omega
    obtain ⟨ws, hw, hb⟩ := bytes_eq_words le hn k (bs.drop n) (by rw [List.length_drop, h, Nat.mul_succ]; omega)
    refine ⟨decNat le (bs.take n) :: ws, by simp [hw], ?_⟩
    have he := encNat_decNat le (bs.take n)
    rw [hl] at he
    rw [List.flatMap_cons, ← hb, he, List.take_append_drop]

theorem seekCheck_ok {pos : Nat} (h : pos < 2 ^ 63) : seekCheck pos = .ok () := by
  have : ¬ pos ≥ 2 ^ 63 := by omega
  simp [seekCheck, this]

theorem parseCStringAt_eq {data : Bytes} {pos : Nat} (h : pos < 2 ^ 63) :
    parseCStringAt data pos = .ok (firstNul (data.drop pos)) := by
  rw [parseCStringAt, seekCheck_ok h]
  exact parseCStringFromStream_eq data pos

theorem parseCStringAt_big {data : Bytes} {pos : Nat} (h : 2 ^ 63 ≤ pos) : parseCStringAt data pos = .error .overflowError := by
  simp [parseCStringAt, seekCheck, h, bind, Except.bind]

theorem firstNul_drop_lt {s x : Bytes} {o : Nat} (h : firstNul (s.drop o) = some x) : o < s.length := by
  apply Classical.byContradiction
  intro hn
  rw [List.drop_eq_nil_of_le (by omega)] at h
  cases h

/-- a string of a table is a string of the data the table stands in: the NUL that ends it lies inside the table -/
theorem firstNul_drop_in {data bs rest s : Bytes} {pos k : Nat} (hd : data.drop pos = bs ++ rest)
    (h : firstNul (bs.drop k) = some s) : firstNul (data.drop (pos + k)) = some s := by
  rw [← List.drop_drop, hd, List.drop_append_of_le_length (Nat.le_of_lt (firstNul_drop_lt h))]
  exact Engine.firstNul_append_of_some rest h

end PyElf.Proofs
