/-
  `iter_children()` / the children of every entry against the encoded nesting; and the parents a walk records
  (`parentsOf`) against the same nesting.
-/
import PyElf.Spec.DieTree
import PyElf.Model.Die
import PyElf.Proofs.DieIter
namespace PyElf.Proofs.C04
open PyElf PyElf.Spec PyElf.Spec.C04 PyElf.Model.C04 PyElf.Proofs

/-- the entries of the roots of a forest at `off` (what `iter_children` yields) -/
def rootsObs (nm : Names) (c : DwarfCfg) (ρ : Val → Val → Val) : Nat → List Tree → List DieObs
  | _, [] => []
  | off, t :: ts => entryObs nm c ρ off t.root :: rootsObs nm c ρ (off + (encTree c t).length) ts

theorem rootsObs_offsets (nm : Names) (c : DwarfCfg) (ρ : Val → Val → Val) :
    ∀ (ts : List Tree) (off : Nat), (rootsObs nm c ρ off ts).map (·.offset) = childOffsets c off ts := by
  intro ts
  induction ts with
  | nil => intro off; rfl
  | cons t ts ih => intro off; simp [rootsObs, childOffsets, ih, entryObs]

mutual
theorem iterChildren_tree {nm : Names} (hnm : ∀ x, nm.tag x ≠ Val.none) (c : DwarfCfg) (ρ : Val → Val → Val)
    (G : Nat → R DieObs) (cuOff : Nat) :
    ∀ (t : Tree) (off fuel : Nat), t.count ≤ fuel + 1 → t.root.decl.children = true →
      Covered G (flatten nm c ρ off t).tail → sibsOk nm c ρ cuOff off t = true →
      match t with
      | .mk n kids nl =>
        iterChildren G cuOff fuel (off + (encEntry c n).length)
          = .ok (rootsObs nm c ρ (off + (encEntry c n).length) kids,
                 nullObs (off + (encEntry c n).length + (encForest c kids).length) nl)
  | .mk n kids nl, off, fuel, hf, hk, hcov, hsib => by
    exact iterChildren_forest hnm c ρ G cuOff kids (off + (encEntry c n).length) nl fuel
      (by have := count_kids hf hk; omega) (hcov.kids hk) (sibsOk_kids hsib hk)
theorem iterChildren_forest {nm : Names} (hnm : ∀ x, nm.tag x ≠ Val.none) (c : DwarfCfg) (ρ : Val → Val → Val)
    (G : Nat → R DieObs) (cuOff : Nat) :
    ∀ (ts : List Tree) (off nl fuel : Nat), countForest ts + 1 ≤ fuel →
      Covered G (flattenForest nm c ρ off ts ++ [nullObs (off + (encForest c ts).length) nl]) →
      sibsOkForest nm c ρ cuOff off ts = true →
      iterChildren G cuOff fuel off = .ok (rootsObs nm c ρ off ts, nullObs (off + (encForest c ts).length) nl)
  | [], off, nl, fuel, hf, hcov, _ => by
    obtain ⟨f, rfl⟩ : ∃ f, fuel = f + 1 := ⟨fuel - 1, by omega⟩
    have hG : G off = .ok (nullObs off nl) := by
      have := hcov (nullObs (off + (encForest c []).length) nl) (by simp [flattenForest])
      simpa [encForest, nullObs] using this
    simp [iterChildren, hG, bind, Except.bind, pure, Except.pure, nullObs, DieObs.isNull, rootsObs, encForest]
  | (.mk n kids nl') :: ts, off, nl, fuel, hf, hcov, hsib => by
    obtain ⟨f, rfl⟩ : ∃ f, fuel = f + 1 := ⟨fuel - 1, by omega⟩
    simp only [countForest] at hf
    have hG : G off = .ok (entryObs nm c ρ off n) := by
      have := hcov (entryObs nm c ρ off n) (by simp [flattenForest, flatten])
      simpa [entryObs] using this
    simp only [sibsOkForest, Bool.and_eq_true] at hsib
    obtain ⟨⟨hs1, hs2⟩, hs3⟩ := hsib
    have hlen : (encForest c (.mk n kids nl' :: ts)).length
        = (encTree c (.mk n kids nl')).length + (encForest c ts).length := by
      rw [encForest, List.length_append]
    have hcovR := covered_forest_tail hcov
    have hrest := iterChildren_forest hnm c ρ G cuOff ts (off + (encTree c (.mk n kids nl')).length) nl f
      (by simp only [Tree.count] at hf; omega) hcovR hs3
    rw [iterChildren]
    simp only [hG, bind, Except.bind, entryObs_isNull hnm, Bool.false_eq_true, if_false]
    rw [entryObs_kids]
    rcases next_sibling kids nl' hs1 with ⟨hk, e⟩ | ⟨hk, h0, e⟩ | ⟨hk, h0⟩
    · simp only [hk, Bool.not_false, if_true, pure, Except.pure]
      rw [e, hrest]
      simp [rootsObs, Tree.root, hlen, Nat.add_assoc, pure, Except.pure]
    · -- the terminator is found by walking the child's own list
      have hinner := iterChildren_tree hnm c ρ G cuOff (.mk n kids nl') off f (by omega) hk hcov.head hs2
      have hsz : (entryObs nm c ρ off n).offset + (entryObs nm c ρ off n).size = off + (encEntry c n).length := rfl
      simp only [hk, Bool.not_true, Bool.false_eq_true, if_false, h0, hsz, hinner, pure, Except.pure]
      rw [e, hrest]
      simp [rootsObs, Tree.root, hlen, Nat.add_assoc, pure, Except.pure]
    · simp only [hk, Bool.not_true, Bool.false_eq_true, if_false, h0]
      rw [hrest]
      simp [rootsObs, Tree.root, hlen, Nat.add_assoc, pure, Except.pure]
end

theorem children_of_node {nm : Names} (hnm : ∀ x, nm.tag x ≠ Val.none) (c : DwarfCfg) (ρ ρ' : Val → Val → Val)
    (G : Nat → R DieObs) (cuOff : Nat) (n : Node) (kids : List Tree) (nl off fuel : Nat)
    (hf : (Tree.mk n kids nl).count ≤ fuel) (hcov : Covered G (flatten nm c ρ off (.mk n kids nl)).tail)
    (hsib : sibsOk nm c ρ cuOff off (.mk n kids nl) = true) :
    childrenOf G cuOff fuel (entryObs nm c ρ' off n)
      = .ok (if n.decl.children then childOffsets c (off + (encEntry c n).length) kids else []) := by
  unfold childrenOf
  rw [entryObs_kids]
  cases hk : n.decl.children with
  | false => simp
  | true =>
    have hsz : (entryObs nm c ρ' off n).offset + (entryObs nm c ρ' off n).size = off + (encEntry c n).length := rfl
    simp only [if_true, hsz]
    rw [iterChildren_forest hnm c ρ G cuOff kids _ nl fuel (by have := count_kids hf hk; omega) (hcov.kids hk)
      (sibsOk_kids hsib hk)]
    simp [bind, Except.bind, pure, Except.pure, rootsObs_offsets]

theorem childrenOf_null (G : Nat → R DieObs) (cuOff fuel off l : Nat) : childrenOf G cuOff fuel (nullObs off l) = .ok [] := by
  simp [childrenOf, nullObs, DieObs.kids]

mutual
theorem children_tree {nm : Names} (hnm : ∀ x, nm.tag x ≠ Val.none) (c : DwarfCfg) (ρ : Val → Val → Val)
    (G : Nat → R DieObs) (cuOff fuel : Nat) :
    ∀ (t : Tree) (off : Nat), t.count ≤ fuel → Covered G (flatten nm c ρ off t).tail →
      sibsOk nm c ρ cuOff off t = true →
      (flatten nm c ρ off t).map (childrenOf G cuOff fuel) = (childLists c off t).map .ok
  | .mk n kids nl, off, hf, hcov, hsib => by
    have hhead := children_of_node hnm c ρ ρ G cuOff n kids nl off fuel hf hcov hsib
    rw [flatten, childLists, List.map_cons, hhead]
    cases hk : n.decl.children with
    | false => simp
    | true =>
      have hkids := children_forest hnm c ρ G cuOff fuel kids (off + (encEntry c n).length)
        (by have := count_kids hf hk; omega) ((hcov.kids hk).mono (fun d hd => List.mem_append_left _ hd)) (sibsOk_kids hsib hk)
      simp [hkids, childrenOf_null]
theorem children_forest {nm : Names} (hnm : ∀ x, nm.tag x ≠ Val.none) (c : DwarfCfg) (ρ : Val → Val → Val)
    (G : Nat → R DieObs) (cuOff fuel : Nat) :
    ∀ (ts : List Tree) (off : Nat), countForest ts ≤ fuel → Covered G (flattenForest nm c ρ off ts) →
      sibsOkForest nm c ρ cuOff off ts = true →
      (flattenForest nm c ρ off ts).map (childrenOf G cuOff fuel) = (childListsForest c off ts).map .ok
  | [], _, _, _, _ => by simp [flattenForest, childListsForest]
  | t :: ts, off, hf, hcov, hsib => by
    simp only [countForest] at hf
    simp only [sibsOkForest, Bool.and_eq_true] at hsib
    have h1 := children_tree hnm c ρ G cuOff fuel t off (by omega) (Covered.head (l := []) (by simpa using hcov)) hsib.1.2
    have h2 := children_forest hnm c ρ G cuOff fuel ts (off + (encTree c t).length) (by omega)
      (hcov.mono (fun d hd => by
        simp only [flattenForest, List.mem_append]
        exact Or.inr hd)) hsib.2
    rw [flattenForest, childListsForest, List.map_append, List.map_append, h1, h2]
end

theorem children_unit {nm : Names} (hnm : ∀ x, nm.tag x ≠ Val.none) (c : DwarfCfg) (ρtop ρ : Val → Val → Val)
    (G : Nat → R DieObs) (cuOff fuel : Nat) (t : Tree) (off : Nat) (hf : t.count ≤ fuel)
    (hcov : Covered G (flattenUnit nm c ρtop ρ off t)) (hsib : sibsOk nm c ρ cuOff off t = true) :
    (flattenUnit nm c ρtop ρ off t).map (childrenOf G cuOff fuel) = (childLists c off t).map .ok := by
  obtain ⟨n, kids, nl⟩ := t
  have hcovT : Covered G (flatten nm c ρ off (.mk n kids nl)).tail := hcov.unit_tail
  have h := children_tree hnm c ρ G cuOff fuel (.mk n kids nl) off hf hcovT hsib
  have hhead := children_of_node hnm c ρ ρtop G cuOff n kids nl off fuel hf hcovT hsib
  have hhead' := children_of_node hnm c ρ ρ G cuOff n kids nl off fuel hf hcovT hsib
  rw [flatten, List.map_cons] at h
  rw [flattenUnit, List.map_cons, hhead, ← hhead']
  exact h

/-- the (parent, child) offset pairs a list of entries with recorded parents presents -/
def parentsOf (l : List (DieObs × Option Nat)) : List (Nat × Nat) :=
  l.filterMap fun x => x.2.map fun p => (p, x.1.offset)

theorem parentsOf_append (a b : List (DieObs × Option Nat)) : parentsOf (a ++ b) = parentsOf a ++ parentsOf b := by
  simp [parentsOf, List.filterMap_append]

theorem parentsOf_cons_none (d : DieObs) (l : List (DieObs × Option Nat)) : parentsOf ((d, none) :: l) = parentsOf l := by
  simp [parentsOf]

mutual
theorem parentsOf_flattenP (nm : Names) (c : DwarfCfg) (ρ : Val → Val → Val) :
    ∀ (t : Tree) (parent : Option Nat) (off : Nat),
      parentsOf (flattenP nm c ρ parent off t)
        = (match parent with | some p => [(p, off)] | none => []) ++ parentPairs c off t
  | .mk n kids nl, parent, off => by
    rw [flattenP, parentPairs]
    have hhead : parentsOf [(entryObs nm c ρ off n, parent)] = (match parent with | some p => [(p, off)] | none => []) := by
      cases parent <;> simp [parentsOf, entryObs]
    rw [← List.singleton_append, parentsOf_append, hhead]
    congr 1
    cases hk : n.decl.children with
    | false => simp [parentsOf]
    | true =>
      simp only [if_true]
      rw [parentsOf_append, parentsOf_flattenForestP nm c ρ kids off (off + (encEntry c n).length)]
      simp [parentsOf, nullObs]
theorem parentsOf_flattenForestP (nm : Names) (c : DwarfCfg) (ρ : Val → Val → Val) :
    ∀ (ts : List Tree) (parent off : Nat),
      parentsOf (flattenForestP nm c ρ parent off ts) = parentPairsForest c parent off ts
  | [], _, _ => by simp [flattenForestP, parentPairsForest, parentsOf]
  | t :: ts, parent, off => by
    rw [flattenForestP, parentPairsForest, parentsOf_append, parentsOf_flattenP nm c ρ t (some parent) off,
      parentsOf_flattenForestP nm c ρ ts parent (off + (encTree c t).length)]
    simp
end

end PyElf.Proofs.C04
