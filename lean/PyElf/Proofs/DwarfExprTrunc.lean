/-
  C12, truncated expressions.  An expression cut anywhere strictly inside an operation (after its
  opcode byte, before the last byte of its operands — inside a fixed-width constant, a LEB128, a block, the length or
  the body of a nested expression) makes `parse_expr` raise ELFParseError (`struct_parse` / `read_blob` hit the end
  of the stream); the operations before the cut do not matter.  Namespace `PyElf.Proofs`.
-/
import PyElf.Proofs.DwarfExpr
namespace PyElf.Proofs
open PyElf PyElf.Spec PyElf.Model PyElf.Proofs.Engine

theorem op_trunc {c : DwarfCfg} {D : List (Nat × List ArgKind)} {N : List (Nat × String)} (ht : TablesOk c D N)
    (o : Op) (hwf : WFop c o = true) (fuel : Nat) (data : Bytes) (pos j : Nat) (parsed : List Val)
    (hd : data.drop pos = (encodeOp c o).take j) (hj1 : 1 ≤ j) (hj : j < (encodeOp c o).length) :
    parseExprLoop D N (fuel + 1) data pos parsed = .error .elfParseError := by
  obtain ⟨j, rfl⟩ : ∃ i, j = i + 1 := ⟨j - 1, by omega⟩
  cases o with
  | plain opc args =>
    obtain ⟨ks, hs, hfit⟩ := WFop_plain.1 hwf
    rw [encodeOp, hs, Option.getD_some, List.take_succ_cons] at hd
    rw [encodeOp, hs, Option.getD_some, List.length_cons] at hj
    rw [parseExprLoop_head ht hs parsed hd, (parseArgs_parses ks args (pos + 1) hfit).cut (by omega) (drop_cons_inv hd).2]
  | entry opc n body =>
    obtain ⟨hs, hn, hlen, -⟩ := WFop_entry.1 hwf
    rw [encodeOp, List.take_succ_cons] at hd
    rw [encodeOp, List.length_cons] at hj
    rw [parseExprLoop_head ht hs parsed hd, parseArgs_expr_cut hn hlen (by omega) (drop_cons_inv hd).2]

theorem parseExpr_cut_inside {c : DwarfCfg} {D : List (Nat × List ArgKind)} {N : List (Nat × String)} (ht : TablesOk c D N)
    (done : List Op) (o : Op) (rest : List Op) (hwf : WFops c (done ++ o :: rest) = true) (j : Nat) (hj1 : 1 ≤ j)
    (hj : j < (encodeOp c o).length) :
    parseExpr D N ((encodeOps c (done ++ o :: rest)).take ((encodeOps c done).length + j)) = .error .elfParseError := by
  rw [WFops_append, Bool.and_eq_true, WFops_cons, Bool.and_eq_true] at hwf
  obtain ⟨hdone, ho, _⟩ := hwf
  have hdata : (encodeOps c (done ++ o :: rest)).take ((encodeOps c done).length + j)
      = encodeOps c done ++ (encodeOp c o).take j := by
    rw [encodeOps_append, encodeOps_cons, List.take_append, List.take_of_length_le (by omega), Nat.add_sub_cancel_left,
      List.take_append_of_le_length (Nat.le_of_lt hj)]
  rw [hdata]
  unfold parseExpr
  obtain ⟨fuel', hfl, hrec⟩ := (loop_prefix ht done hdone).behind
    (fuel := (encodeOps c done ++ (encodeOp c o).take j).length + 1) (data := encodeOps c done ++ (encodeOp c o).take j)
    (pos := 0) (parsed := []) ((encodeOp c o).take j) (by simp) (by simp)
  rw [hrec]
  obtain ⟨f, rfl⟩ : ∃ f, fuel' = f + 1 := ⟨fuel' - 1, by omega⟩
  exact op_trunc ht o ho f _ _ j _ (by simp) hj1 hj

theorem parseExpr_cut_boundary {c : DwarfCfg} {D : List (Nat × List ArgKind)} {N : List (Nat × String)} (ht : TablesOk c D N)
    (done rest : List Op) (hwf : WFops c (done ++ rest) = true) :
    parseExpr D N ((encodeOps c (done ++ rest)).take (encodeOps c done).length) = .ok (annotate c 0 done) := by
  rw [WFops_append, Bool.and_eq_true] at hwf
  rw [encodeOps_append, List.take_append, List.take_of_length_le (Nat.le_refl _), Nat.sub_self, List.take_zero,
    List.append_nil]
  exact parseExpr_roundtrip ht done hwf.1

end PyElf.Proofs
