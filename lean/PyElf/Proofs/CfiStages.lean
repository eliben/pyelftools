/-
  `_parse_entry_at` in stages, for any `CallFrameInfo` object: a cache hit; on a miss the seek, the length word and the
  CIE id / CIE pointer word, after which the entry is the CIE block or the FDE block; the FDE block as header → CIE → rest.
  Each lemma rewrites the head of what is left of the `do` block and lets the rest reduce.  What an FDE needs of the entry
  its CIE pointer designates is `Fetches`; `_parse_entries` takes one entry at a time (`parseEntriesLoop_ok / _error`).
-/
import PyElf.Model.CallFrame
import PyElf.Proofs.Primitives
import PyElf.Proofs.CfiHeaders
namespace PyElf.Proofs.Cfi
open PyElf PyElf.Spec PyElf.Model PyElf.Proofs PyElf.Proofs.Engine

theorem seekPos_nat (n : Nat) (h : n < 2 ^ 63) : seekPos (n : Int) = .ok n := by
  unfold seekPos
  have h1 : ¬ ((n : Int) < 0) := by omega
  have h2 : ¬ ((n : Int) ≥ 2 ^ 63) := by omega
  rw [if_neg h1, if_neg h2]; simp

/-- a hit returns the cached object itself: one CIE object for all FDEs that designate it -/
theorem entry_cached (C : Cfi) (fuel : Nat) (off : Int) (pos : Nat) (cache : Cache) (e : Model.Entry)
    (h : Fields) (len ilfs : Nat) (hc : cache.get off = some e) (hh : e.header = .ok h)
    (hl : Fields.getR h "length" = .ok (.int len)) (hi : e.ilfs = .ok ilfs) :
    parseEntryAt C (fuel + 1) off pos cache = .ok (e, pos + (len + ilfs), cache) := by
  simp only [parseEntryAt, hc, hh, hl, hi, asNat_nat, bind, Except.bind, pure, Except.pure]

theorem entry_seek_error (C : Cfi) (fuel : Nat) (off : Int) (pos : Nat) (cache : Cache) (e : Err)
    (hmiss : cache.get off = none) (hs : seekPos off = .error e) :
    parseEntryAt C (fuel + 1) off pos cache = .error e := by
  rw [parseEntryAt, hmiss]
  show (seekPos off >>= _) = _
  rw [hs]
  rfl

/-- `cieBlock`, `fdeBody`, `fdeBlock`, `afterWord` are stretches of `Model.parseEntryAt` copied verbatim; `parseEntryAt_word`
    and `parseEntryAt_miss` tie them to it by `rfl`, so an edit of the model shows there first.  This one: the CIE branch -/
def cieBlock (C : Cfi) (offset : Int) (off : Nat) (cache : Cache) (fmt : Nat) (S : DwarfStructs) :
    R (Model.Entry × Nat × Cache) := do
  let ilfs := if fmt = 32 then 4 else 12
  let hs := if C.eh then S.EH_CIE_header else S.Dwarf_CIE_header
  let (hv, p) ← structParse C.env hs C.data off
  let header ← asFields hv
  let (augBytes, augDict, p) ← parseCieAugmentation C S header p
  let len ← (← Fields.getR header "length").asNat
  let endOffset := off + len + ilfs
  let (instrs, p) ← parseInstructions C.T S C.env C.data endOffset (C.data.length + 1 - p) p
  let entry := Model.Entry.cie header instrs off augDict augBytes fmt
  return (entry, p, (offset, entry) :: cache)

/-- the FDE branch of `_parse_entry_at` once the header is read and the CIE fetched: augmentation data, LSDA pointer,
    instructions, the CIE once more -/
def fdeBody (C : Cfi) (fuel : Nat) (offset : Int) (off fmt : Nat) (S : DwarfStructs) (header : Fields) (p : Nat)
    (cie : Model.Entry) (cache : Cache) : R (Model.Entry × Nat × Cache) := do
  let ilfs := if fmt = 32 then 4 else 12
  let recur := parseEntryAt C fuel
  let cieAug := (Fields.get? (← cie.header) "augmentation").getD (.bytes [])
  let hasZ ← match cieAug with
    | .bytes b => pure (([0x7a] : Bytes).isPrefixOf b)
    | _ => .error .attributeError
  let (augBytes, p) ← if hasZ then readAugmentationData C S p else pure ([], p)
  let lsdaEncoding ← match Fields.get? (← cie.augDict) "LSDA_encoding" with
    | some v => v.asNat
    | none => pure C.T.pe.omit_
  let (lsda, p) ← if lsdaEncoding ≠ C.T.pe.omit_ then do
      let (ptr, p') ← parseLsdaPointer C S (p - augBytes.length) lsdaEncoding
      pure (some ptr, p')
    else pure (none, p)
  let len ← (← Fields.getR header "length").asNat
  let endOffset := off + len + ilfs
  let (instrs, p) ← parseInstructions C.T S C.env C.data endOffset (C.data.length + 1 - p) p
  let (cie, cache) ← parseCieForFde C recur off header fmt p cache
  let entry := Model.Entry.fde header instrs off cie augBytes lsda fmt
  return (entry, p, (offset, entry) :: cache)

/-- the FDE branch of `_parse_entry_at`: header, CIE, the rest -/
def fdeBlock (C : Cfi) (fuel : Nat) (offset : Int) (off : Nat) (cache : Cache) (fmt : Nat) (S : DwarfStructs) :
    R (Model.Entry × Nat × Cache) := do
  let (header, p, cache) ← parseFdeHeader C (parseEntryAt C fuel) S fmt off cache
  let (cie, cache) ← parseCieForFde C (parseEntryAt C fuel) off header fmt p cache
  fdeBody C fuel offset off fmt S header p cie cache

/-- what `_parse_entry_at` does with the length word once it is read: terminator, or format, id word, and one of the
    two blocks -/
def afterWord (C : Cfi) (fuel : Nat) (offset : Int) (off : Nat) (cache : Cache) (r : Val × Nat) :
    R (Model.Entry × Nat × Cache) := do
  let entryLength ← r.1.asNat
  if C.eh && entryLength == 0 then return (.zero off, r.2, cache)
  let fmt := if entryLength = 0xFFFFFFFF then 64 else 32
  let S ← C.structs fmt
  let ilfs := if fmt = 32 then 4 else 12
  let (idv, _) ← structParse C.env S.the_Dwarf_offset C.data (off + ilfs)
  let cieId ← idv.asNat
  let isCie := if C.eh then cieId == 0
               else (fmt == 32 && cieId == 0xFFFFFFFF) || cieId == 0xFFFFFFFFFFFFFFFF
  if isCie then cieBlock C offset off cache fmt S else fdeBlock C fuel offset off cache fmt S

theorem parseEntryAt_word (C : Cfi) (S32 : DwarfStructs) (fuel : Nat) (offset : Int) (off pos : Nat) (cache : Cache)
    (hmiss : cache.get offset = none) (hs : seekPos offset = .ok off) (hS : C.structs 32 = .ok S32) :
    parseEntryAt C (fuel + 1) offset pos cache
      = structParse C.env S32.the_Dwarf_uint32 C.data off >>= afterWord C fuel offset off cache := by
  rw [parseEntryAt, hmiss]
  show (seekPos offset >>= _) = _
  rw [hs]
  show (C.structs 32 >>= _) = _
  rw [hS]
  rfl

theorem entry_word_error (C : Cfi) (S32 : DwarfStructs) (fuel : Nat) (off : Int) (o pos : Nat) (cache : Cache) (e : Err)
    (hmiss : cache.get off = none) (hs : seekPos off = .ok o) (hS : C.structs 32 = .ok S32)
    (hw : structParse C.env S32.the_Dwarf_uint32 C.data o = .error e) :
    parseEntryAt C (fuel + 1) off pos cache = .error e := by
  rw [parseEntryAt_word C S32 fuel off o pos cache hmiss hs hS, hw]
  rfl

/-- `.eh_frame` zero terminator: a zero length word is a ZERO entry of 4 bytes, not cached -/
theorem entry_zero (C : Cfi) (S32 : DwarfStructs) (le : Bool) (fuel off pos : Nat) (cache : Cache) (rest : Bytes)
    (heh : C.eh = true) (hS : C.structs 32 = .ok S32) (hu32 : S32.the_Dwarf_uint32 = .uint 4 le)
    (hoff : off < 2 ^ 63) (hmiss : cache.get (off : Int) = none)
    (hd : C.data.drop off = [0, 0, 0, 0] ++ rest) :
    parseEntryAt C (fuel + 1) off pos cache = .ok (.zero off, off + 4, cache) := by
  have hd' : C.data.drop off = encNat le 4 0 ++ rest := by
    rw [hd]; cases le <;> rfl
  have hp : structParse C.env S32.the_Dwarf_uint32 C.data off = .ok (.int ((0 : Nat) : Int), off + 4) := by
    rw [hu32]; exact (Reads.uint (by decide)).structParse hd'
  rw [parseEntryAt_word C S32 fuel off off pos cache hmiss (seekPos_nat off hoff) hS, hp, ok_bind]
  show (if (C.eh && (0 : Nat) == 0) = true then _ else _) = _
  rw [heh]
  rfl

theorem parseEntryAt_miss (C : Cfi) (S32 S : DwarfStructs) (fuel : Nat) (offset : Int) (off pos : Nat) (cache : Cache)
    (w p idv p2 : Nat)
    (hmiss : cache.get offset = none) (hs : seekPos offset = .ok off) (hS32 : C.structs 32 = .ok S32)
    (hw1 : structParse C.env S32.the_Dwarf_uint32 C.data off = .ok (.int (w : Nat), p))
    (hz : (C.eh && w == 0) = false)
    (hS : C.structs (if w = 0xFFFFFFFF then 64 else 32) = .ok S)
    (hw2 : structParse C.env S.the_Dwarf_offset C.data
      (off + (if (if w = 0xFFFFFFFF then 64 else 32) = 32 then 4 else 12)) = .ok (.int (idv : Nat), p2)) :
    parseEntryAt C (fuel + 1) offset pos cache =
      if (if C.eh then idv == 0
          else ((if w = 0xFFFFFFFF then 64 else 32) == 32 && idv == 0xFFFFFFFF) || idv == 0xFFFFFFFFFFFFFFFF) = true
      then cieBlock C offset off cache (if w = 0xFFFFFFFF then 64 else 32) S
      else fdeBlock C fuel offset off cache (if w = 0xFFFFFFFF then 64 else 32) S := by
  rw [parseEntryAt_word C S32 fuel offset off pos cache hmiss hs hS32, hw1, ok_bind]
  show ((Val.int (w : Nat)).asNat >>= _) = _
  rw [asNat_nat, ok_bind]
  show (if (C.eh && w == 0) = true then _ else _) = _
  rw [hz]
  show (C.structs (if w = 0xFFFFFFFF then 64 else 32) >>= _) = _
  rw [hS, ok_bind]
  show (structParse C.env S.the_Dwarf_offset C.data _ >>= _) = _
  rw [hw2, ok_bind]
  show ((Val.int (idv : Nat)).asNat >>= _) = _
  rw [asNat_nat]
  rfl

theorem cieBlock_eq (C : Cfi) (offset : Int) (off : Nat) (cache : Cache) (fmt : Nat) (S : DwarfStructs)
    (header : Fields) (p p' len : Nat) (augBytes : Bytes) (augDict : Fields)
    (hh : structParse C.env (if C.eh then S.EH_CIE_header else S.Dwarf_CIE_header) C.data off = .ok (.record header, p))
    (ha : parseCieAugmentation C S header p = .ok (augBytes, augDict, p'))
    (hl : Fields.getR header "length" = .ok (.int (len : Nat))) :
    cieBlock C offset off cache fmt S
      = (parseInstructions C.T S C.env C.data (off + len + (if fmt = 32 then 4 else 12)) (C.data.length + 1 - p') p').map
          fun r => (Model.Entry.cie header r.1 off augDict augBytes fmt, r.2,
                    (offset, Model.Entry.cie header r.1 off augDict augBytes fmt) :: cache) := by
  unfold cieBlock
  show (structParse C.env _ C.data off >>= _) = _
  rw [hh, ok_bind]
  show (asFields (.record header) >>= _) = _
  rw [show asFields (.record header) = .ok header from rfl, ok_bind]
  show (parseCieAugmentation C S header p >>= _) = _
  rw [ha, ok_bind]
  show (Fields.getR header "length" >>= _) = _
  rw [hl, ok_bind]
  show ((Val.int (len : Nat)).asNat >>= _) = _
  rw [asNat_nat, ok_bind]
  show (parseInstructions C.T S C.env C.data (off + len + (if fmt = 32 then 4 else 12)) (C.data.length + 1 - p') p' >>= _)
    = _
  cases parseInstructions C.T S C.env C.data (off + len + (if fmt = 32 then 4 else 12)) (C.data.length + 1 - p') p' <;> rfl

theorem cieBlock_aug_error (C : Cfi) (offset : Int) (off : Nat) (cache : Cache) (fmt : Nat) (S : DwarfStructs)
    (header : Fields) (p : Nat) (e : Err)
    (hh : structParse C.env (if C.eh then S.EH_CIE_header else S.Dwarf_CIE_header) C.data off = .ok (.record header, p))
    (ha : parseCieAugmentation C S header p = .error e) :
    cieBlock C offset off cache fmt S = .error e := by
  unfold cieBlock
  show (structParse C.env _ C.data off >>= _) = _
  rw [hh, ok_bind]
  show (asFields (.record header) >>= _) = _
  rw [show asFields (.record header) = .ok header from rfl, ok_bind]
  show (parseCieAugmentation C S header p >>= _) = _
  rw [ha]
  rfl

theorem fdeBlock_eq (C : Cfi) (fuel : Nat) (offset : Int) (off : Nat) (cache : Cache) (fmt : Nat) (S : DwarfStructs)
    (header : Fields) (p : Nat) (cache1 cache2 : Cache) (cie : Model.Entry)
    (hh : parseFdeHeader C (parseEntryAt C fuel) S fmt off cache = .ok (header, p, cache1))
    (hl : parseCieForFde C (parseEntryAt C fuel) off header fmt p cache1 = .ok (cie, cache2)) :
    fdeBlock C fuel offset off cache fmt S = fdeBody C fuel offset off fmt S header p cie cache2 := by
  unfold fdeBlock
  show (parseFdeHeader C (parseEntryAt C fuel) S fmt off cache >>= _) = _
  rw [hh, ok_bind]
  show (parseCieForFde C (parseEntryAt C fuel) off header fmt p cache1 >>= _) = _
  rw [hl, ok_bind]

theorem fdeBlock_header_error (C : Cfi) (fuel : Nat) (offset : Int) (off : Nat) (cache : Cache) (fmt : Nat)
    (S : DwarfStructs) (e : Err) (hh : parseFdeHeader C (parseEntryAt C fuel) S fmt off cache = .error e) :
    fdeBlock C fuel offset off cache fmt S = .error e := by
  unfold fdeBlock
  show (parseFdeHeader C (parseEntryAt C fuel) S fmt off cache >>= _) = _
  rw [hh]; rfl

theorem fdeBlock_link_error (C : Cfi) (fuel : Nat) (offset : Int) (off : Nat) (cache : Cache) (fmt : Nat) (S : DwarfStructs)
    (header : Fields) (p : Nat) (cache1 : Cache) (e : Err)
    (hh : parseFdeHeader C (parseEntryAt C fuel) S fmt off cache = .ok (header, p, cache1))
    (hl : parseCieForFde C (parseEntryAt C fuel) off header fmt p cache1 = .error e) :
    fdeBlock C fuel offset off cache fmt S = .error e := by
  unfold fdeBlock
  show (parseFdeHeader C (parseEntryAt C fuel) S fmt off cache >>= _) = _
  rw [hh, ok_bind]
  show (parseCieForFde C (parseEntryAt C fuel) off header fmt p cache1 >>= _) = _
  rw [hl]; rfl

/-- under a CIE with augmentation `''`: no augmentation data, no LSDA pointer -/
theorem fdeBody_plain (C : Cfi) (fuel : Nat) (offset : Int) (off fmt : Nat) (S : DwarfStructs)
    (header ch : Fields) (p p' len : Nat) (cache cache' : Cache) (cie cie' : Model.Entry) (instrs : List Instr)
    (hch : cie.header = .ok ch) (hnoz : Fields.get? ch "augmentation" = some (.bytes []))
    (had : cie.augDict = .ok [])
    (hlen : Fields.getR header "length" = .ok (.int (len : Nat)))
    (hpi : parseInstructions C.T S C.env C.data (off + len + (if fmt = 32 then 4 else 12)) (C.data.length + 1 - p) p
      = .ok (instrs, p'))
    (hl2 : parseCieForFde C (parseEntryAt C fuel) off header fmt p' cache = .ok (cie', cache')) :
    fdeBody C fuel offset off fmt S header p cie cache
      = .ok (Model.Entry.fde header instrs off cie' [] none fmt, p',
             (offset, Model.Entry.fde header instrs off cie' [] none fmt) :: cache') := by
  unfold fdeBody
  show (cie.header >>= _) = _
  rw [hch, ok_bind]
  simp only [hnoz, Option.getD, List.isPrefixOf, bind, Except.bind, pure, Except.pure, Bool.false_eq_true, if_false, had,
    Fields.get?, ne_eq, not_true_eq_false, hlen, asNat_nat, hpi, Nat.sub_zero, List.length_nil, hl2]

/-- under a CIE with augmentation `z…` (`.eh_frame`): the augmentation data `d` behind its length in `n` LEB128 bytes.  `d` is
    the LSDA pointer under the encoding `E` the CIE's dictionary records, read at `p + n` whatever the length says; without
    an encoding (`E = 0xff`) `d` is empty -/
theorem fdeBody_aug (C : Cfi) (le : Bool) (fmtS asz ver : Nat) (hT : C.T = Spec.cfiTables) (heh : C.eh = true)
    (fuel : Nat) (offset : Int) (off fmt : Nat) (header ch dict : Fields) (p p' len n E : Nat) (lsda : Int)
    (d tail augB : Bytes) (cache cache' : Cache) (cie cie' : Model.Entry) (instrs : List Instr)
    (hch : cie.header = .ok ch) (hz : Fields.get? ch "augmentation" = some (.bytes (0x7a :: augB)))
    (had : cie.augDict = .ok dict)
    (hE : (match Fields.get? dict "LSDA_encoding" with
      | some v => v.asNat | none => (Except.ok 0xff : R Nat)) = .ok E)
    (hE256 : E < 256) (hEok : E ≠ 0xff → encOk E = true ∧ ptrFits asz (E % 16) lsda = true)
    (hd : d = if E = 0xff then [] else encPtr le asz (E % 16) lsda) (hn : 1 ≤ n) (hdn : d.length < 2 ^ (7 * n))
    (hdata : C.data.drop p = encUlebN n d.length ++ (d ++ tail))
    (hlen : Fields.getR header "length" = .ok (.int (len : Nat)))
    (hpi : parseInstructions C.T (Spec.dwarfStructs ⟨le, fmtS, asz, ver⟩) C.env C.data
      (off + len + (if fmt = 32 then 4 else 12)) (C.data.length + 1 - (p + n + d.length)) (p + n + d.length) = .ok (instrs, p'))
    (hl2 : parseCieForFde C (parseEntryAt C fuel) off header fmt p' cache = .ok (cie', cache')) :
    fdeBody C fuel offset off fmt (Spec.dwarfStructs ⟨le, fmtS, asz, ver⟩) header p cie cache
      = .ok (Model.Entry.fde header instrs off cie' d
              (if E = 0xff then none else some (lsda + if E / 16 % 8 = 1 then C.address + ((p + n : Nat) : Int) else 0)) fmt,
             p', (offset, Model.Entry.fde header instrs off cie' d
              (if E = 0xff then none else some (lsda + if E / 16 % 8 = 1 then C.address + ((p + n : Nat) : Int) else 0)) fmt)
               :: cache') := by
  have hra := readAug_ok (C := C) (S := Spec.dwarfStructs ⟨le, fmtS, asz, ver⟩) heh rfl hn hdn hdata
  have hd1 := drop_after hdata (encUlebN_length ..)
  rw [hT] at hpi
  unfold fdeBody
  show (cie.header >>= _) = _
  rw [hch, ok_bind]
  simp only [hz, Option.getD, List.isPrefixOf, beq_self_eq_true, Bool.true_and, bind, Except.bind, pure, Except.pure, if_true,
    hra, had, hT, pe_omit]
  by_cases hL : E = 0xff
  · -- no LSDA pointer
    have hd0 : d = [] := by rw [hd, if_pos hL]
    cases hg : Fields.get? dict "LSDA_encoding" with
    | none => simp only [hg, hL, if_true, ne_eq, not_true_eq_false, if_false, hlen, asNat_nat, hpi, hl2]
    | some v =>
      simp only [hg] at hE
      simp only [hg, hE, hL, if_true, ne_eq, not_true_eq_false, if_false, hlen, asNat_nat, hpi, hl2]
  · cases hg : Fields.get? dict "LSDA_encoding" with
    | none => simp only [hg, Except.ok.injEq] at hE; exact absurd hE.symm hL
    | some v =>
      simp only [hg] at hE
      have hd0 : d = encPtr le asz (E % 16) lsda := by rw [hd, if_neg hL]
      have hlsda := lsda_ok (C := C) (le := le) (fmt := fmtS) (asz := asz) (ver := ver) (enc := E) (v := lsda) hT
        (hEok hL).1 hE256 (hEok hL).2 (hd0 ▸ hd1)
      rw [← hd0] at hlsda
      simp only [hg, hE, ne_eq, hL, not_false_eq_true, if_true, if_false, Nat.add_sub_cancel, hlsda, hlen, asNat_nat, hpi, hl2]

/-- in every cache state that satisfies `I`, `_parse_entry_at(k)` returns `ce` and leaves such a state: what an FDE
    needs of the entry its CIE pointer designates (at section level `I` is `CacheInv`, hit or miss: `cie_fetches`) -/
def Fetches (C : Cfi) (fuel : Nat) (k : Int) (ce : Model.Entry) (I : Cache → Prop) : Prop :=
  ∀ (pos : Nat) (cache : Cache), I cache →
    ∃ p' cache', parseEntryAt C (fuel + 1) k pos cache = .ok (ce, p', cache') ∧ I cache'

theorem parseCieForFde_eq {C : Cfi} {recur : Int → Nat → Cache → R (Model.Entry × Nat × Cache)} {off fmt pos : Nat}
    {cp : Int} {header : Fields} {cache : Cache} (hptr : Fields.getR header "CIE_pointer" = .ok (.int cp)) :
    parseCieForFde C recur off header fmt pos cache
      = (recur (if C.eh then (off : Int) + ((fmt / 8 : Nat) : Int) - cp else cp) pos cache).map fun r => (r.1, r.2.2) := by
  simp only [parseCieForFde, hptr, Val.asInt, bind, Except.bind, pure, Except.pure]
  cases recur (if C.eh then (off : Int) + ((fmt / 8 : Nat) : Int) - cp else cp) pos cache <;> rfl

/-- `_parse_cie_for_fde`: the CIE pointer `cp` designates `k` (`.debug_frame`: the offset itself; `.eh_frame`: that far
    back from the pointer field); the entry there is fetched and the stream position preserved -/
theorem link_of_fetch {C : Cfi} {fuel : Nat} {k : Int} {ce : Model.Entry} {I : Cache → Prop} (hf : Fetches C fuel k ce I)
    {off fmt : Nat} {cp : Int} {header : Fields} (hptr : Fields.getR header "CIE_pointer" = .ok (.int cp))
    (hk : (if C.eh then (off : Int) + ((fmt / 8 : Nat) : Int) - cp else cp) = k) (pos : Nat) {cache : Cache} (hI : I cache) :
    ∃ cache', parseCieForFde C (parseEntryAt C (fuel + 1)) off header fmt pos cache = .ok (ce, cache') ∧ I cache' := by
  obtain ⟨p', cache', h, hI'⟩ := hf pos cache hI
  refine ⟨cache', ?_, hI'⟩
  rw [parseCieForFde_eq hptr, hk, h]; rfl

theorem parseEntriesLoop_error (C : Cfi) (size depth fuel off : Nat) (cache : Cache) (e : Err) (hoff : off < size)
    (h : parseEntryAt C depth (off : Int) off cache = .error e) :
    parseEntriesLoop C size depth (fuel + 1) off cache = .error e := by
  rw [parseEntriesLoop]
  simp only [hoff, if_true, h, bind, Except.bind]

theorem parseEntriesLoop_ok (C : Cfi) (size depth fuel off : Nat) (cache cache' : Cache) (en : Model.Entry) (p : Nat)
    (hoff : off < size) (h : parseEntryAt C depth (off : Int) off cache = .ok (en, p, cache')) :
    parseEntriesLoop C size depth (fuel + 1) off cache
      = (parseEntriesLoop C size depth fuel p cache').map (en :: ·) := by
  rw [parseEntriesLoop]
  simp only [hoff, if_true, h, bind, Except.bind, pure, Except.pure]
  cases parseEntriesLoop C size depth fuel p cache' <;> rfl

end PyElf.Proofs.Cfi
