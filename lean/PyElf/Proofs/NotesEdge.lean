/-
  C14, edge of the domain: lemmas about `iter_notes` on extents that are not a whole
  number of padded notes followed by < 12 bytes:

  * a last note whose descriptor padding (or more) lies beyond the extent — the loop only asks
    `offset + 12 <= end` before it reads a note, the note itself is read from the stream;
  * a header the extent promises but the file does not hold (ELFParseError);
  * a name field without a terminator (construct's error, not wrapped by `struct_parse`);
  * a raw descriptor cut short by the end of the file.
-/
import PyElf.Spec.NotesEdge
import PyElf.Proofs.Notes
import PyElf.Proofs.EngineErrors
namespace PyElf.Proofs.NotesEdge
open PyElf PyElf.Spec PyElf.Spec.C14 PyElf.Model PyElf.Proofs PyElf.Proofs.Notes

theorem encNote_eq_bare (c : ElfCfg) (n : Note) :
    encNote c n = encNoteBare c n ++ zeros (pad4 (encDesc c n.desc).length) :=
  encNote_bare c n

theorem encNoteBare_length (c : ElfCfg) (n : Note) :
    (encNoteBare c n).length = 12 + ((nameField n.owner).length + pad4 (nameField n.owner).length)
      + (encDesc c n.desc).length := by
  simp [encNoteBare, encNhdr_length, zeros_length]; omega

theorem obsNotes_append (c : ElfCfg) : ∀ (ns ms : List Note) (off : Nat),
    obsNotes c off (ns ++ ms) = obsNotes c off ns ++ obsNotes c (off + (encodeNotes c ns).length) ms := by
  intro ns
  induction ns with
  | nil => intro ms off; simp [obsNotes, encodeNotes]
  | cons n ns ih =>
    intro ms off
    simp only [List.cons_append, obsNotes, ih, encodeNotes_cons, List.length_append]
    simp [Nat.add_assoc]

theorem encodeNotes_append (c : ElfCfg) (ns ms : List Note) :
    encodeNotes c (ns ++ ms) = encodeNotes c ns ++ encodeNotes c ms := by
  simp [encodeNotes]

theorem encodeNotes_singleton (c : ElfCfg) (n : Note) : encodeNotes c [n] = encNote c n := by
  simp [encodeNotes]

/-- `iter_notes` over whole notes followed by one more read of the loop body: an error of that read is the walk's -/
theorem iterNotes_then_error {env : Env} (he : EnvOK env) (c : ElfCfg) (hc : cfgWf c = true) (ns : List Note)
    (hwf : ∀ n ∈ ns, n.wf c = true) {data : Bytes} {off size : Nat} {rest : Bytes}
    (hd : data.drop off = encodeNotes c ns ++ rest) (hsize : (encodeNotes c ns).length + 12 ≤ size) {e : Err}
    (hlast : noteAt (Spec.elfStructs c) env c.cls data 12 (off + (encodeNotes c ns).length) = .error e) :
    iterNotes (Spec.elfStructs c) env c.cls data off size = .error e := by
  rw [iterNotes_unfold]
  have hge := encodeNotes_length_ge c ns
  rw [show size + 1 = (size - ns.length) + 1 + ns.length by omega,
    iterNotesLoop_prefix he c hc data _ ns hwf _ off [] _ hd (by omega)]
  exact iterNotesLoop_err _ _ _ _ _ _ _ _ _ (by omega) hlast

/-- … and a note it yields is the last when the extent ends less than a header behind where it says the next begins -/
theorem iterNotes_then_last {env : Env} (he : EnvOK env) (c : ElfCfg) (hc : cfgWf c = true) (ns : List Note)
    (hwf : ∀ n ∈ ns, n.wf c = true) {data : Bytes} {off size : Nat} {rest : Bytes}
    (hd : data.drop off = encodeNotes c ns ++ rest) (hsize : (encodeNotes c ns).length + 12 ≤ size) {note : Val} {k : Nat}
    (hlast : noteAt (Spec.elfStructs c) env c.cls data 12 (off + (encodeNotes c ns).length)
      = .ok (note, off + (encodeNotes c ns).length + k))
    (hend : size < (encodeNotes c ns).length + k + 12) :
    iterNotes (Spec.elfStructs c) env c.cls data off size = .ok (obsNotes c off ns ++ [note]) := by
  rw [iterNotes_unfold]
  have hge := encodeNotes_length_ge c ns
  rw [show size + 1 = (size - ns.length - 1) + 1 + 1 + ns.length by omega,
    iterNotesLoop_prefix he c hc data _ ns hwf _ off [] _ hd (by omega), iterNotesLoop, if_pos (by omega), hlast]
  simp only
  rw [iterNotesLoop_stop _ _ _ _ _ _ _ _ (by omega)]
  rfl

theorem iterNotes_overrun {env : Env} (he : EnvOK env) (c : ElfCfg) (hc : cfgWf c = true) (ns : List Note)
    (hwf : ∀ n ∈ ns, n.wf c = true) (n : Note) (hn : n.wf c = true) (data : Bytes) (off size : Nat) (rest : Bytes)
    (hd : data.drop off = encodeNotes c ns ++ (encNoteBare c n ++ rest))
    (hlo : (encodeNotes c ns).length + 12 ≤ size)
    (hhi : size < (encodeNotes c ns).length + (encNote c n).length + 12) :
    iterNotes (Spec.elfStructs c) env c.cls data off size = .ok (obsNotes c off (ns ++ [n])) := by
  rw [iterNotes_then_last he c hc ns hwf hd hlo (noteAt_bare he c hc n hn (drop_add_of_drop hd)) (by omega)]
  simp [obsNotes_append, obsNotes]

theorem nhdr_truncated (env : Env) (c : ElfCfg) (data : Bytes) (pos : Nat) (h : (data.drop pos).length < 12) :
    structParse env (Spec.elfStructs c).Elf_Nhdr data pos = .error .elfParseError :=
  ElfErrors.structParse_fixed_short rfl rfl rfl (by decide) (by rw [List.length_drop] at h; omega)

theorem noteAt_truncated (env : Env) (c : ElfCfg) (data : Bytes) (off : Nat) (h : (data.drop off).length < 12) :
    noteAt (Spec.elfStructs c) env c.cls data 12 off = .error .elfParseError := by
  unfold noteAt
  rw [nhdr_truncated env c data off h]
  rfl

theorem cstring_no_nul (chunk : Bytes) (h : ∀ b ∈ chunk, b ≠ 0) : cstringParseBytes chunk = .error .structError := by
  unfold cstringParseBytes
  rw [parseCString_unterminated (data := chunk) (pos := 0) h (by simp)]

theorem noteAt_name_unterminated {env : Env} (he : EnvOK env) (c : ElfCfg) (namesz descsz type : Nat)
    (hn0 : 0 < namesz) (hns : namesz < 2 ^ 32) (hds : descsz < 2 ^ 32) (hty : type < 2 ^ 32)
    {data : Bytes} {off : Nat} {rest : Bytes} (hd : data.drop off = encNhdr c namesz descsz type ++ rest)
    (hnul : ∀ b ∈ rest.take (namesz + pad4 namesz), b ≠ 0) :
    noteAt (Spec.elfStructs c) env c.cls data 12 off = .error .structError := by
  have hd1 := drop_add_of_drop hd
  rw [encNhdr_length] at hd1
  have hchunk : readN data (off + 12) (namesz + pad4 namesz) = rest.take (namesz + pad4 namesz) := by
    simp [readN, hd1]
  rw [noteAt_nhdr he c hns hds hty hd, if_neg (by omega), hchunk, cstring_no_nul _ hnul]
  rfl

theorem readN_short {data : Bytes} {pos n : Nat} {avail : Bytes} (hd : data.drop pos = avail) (h : avail.length ≤ n) :
    readN data pos n = avail := by
  simp [readN, hd, List.take_of_length_le h]

theorem noteAt_cut {env : Env} (he : EnvOK env) (c : ElfCfg) (owner : Option Bytes) (type descsz : Nat) (avail : Bytes)
    (how : ownerWf owner = true) (hnl : (nameField owner).length < 2 ^ 32) (htl : type < 2 ^ 32) (hdl : descsz < 2 ^ 32)
    (hk : descKind c.core owner type = .raw) (hlt : avail.length ≤ descsz)
    {data : Bytes} {off : Nat} (hd : data.drop off = encNoteCut c owner type descsz avail) :
    noteAt (Spec.elfStructs c) env c.cls data 12 off
      = .ok (obsNoteCut c off owner type descsz avail, off + (12 + paddedLen (nameField owner).length + paddedLen descsz)) := by
  have hd0 : data.drop off = encNhdr c (nameField owner).length descsz type
      ++ (nameField owner ++ zeros (pad4 (nameField owner).length)) ++ avail := hd
  have hdD : data.drop (off + 12 + paddedLen (nameField owner).length) = avail := by
    have := drop_add_of_drop hd0
    simpa only [List.length_append, encNhdr_length, zeros_length, paddedLen, Nat.add_assoc] using this
  rw [noteAt_owner he c owner how hnl hdl htl hd0, noteRest_eq, readN_short hdD hlt, decodeDesc_eq, modelKind_spec, hk]
  have e1 : ((off + 12 + paddedLen (nameField owner).length + (descsz + pad4 descsz) : Nat) : Int) - (off : Int)
      = ((12 + paddedLen (nameField owner).length + paddedLen descsz : Nat) : Int) := by
    simp only [paddedLen]; omega
  have e2 : off + 12 + paddedLen (nameField owner).length + (descsz + pad4 descsz)
      = off + (12 + paddedLen (nameField owner).length + paddedLen descsz) := by
    simp only [paddedLen]; omega
  simp only [Except.map]
  rw [e1, e2]
  rfl

end PyElf.Proofs.NotesEdge
