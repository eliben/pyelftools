/-
  The one statement behind every "parsing struct S at the encoding of x yields the record of x" lemma.

  `Reads rd ctx pos inp v pos' out ctx'`: where the data from `pos` on is `inp`, reader `rd` in context `ctx`
  returns `v`, stops at `pos'` with `out` still to read, and leaves context `ctx'`.  `rd` is a parser with its
  input abstracted (`pr env c` = `Con.parse env · c`; the line header's own field reader is another);
  `ReadsF` says the same of readers of field lists (`pf env fs`, `pe env c`), with the object built so far.
  Input and remainder are indices, not the bytes consumed, because the layouts of the Spec are written
  `a ++ (b ++ (c ++ rest))`: the hypothesis `data.drop pos = layout` then matches a derivation field by field
  and nothing is said about `drop` or `++`-associativity.  The end is an index of its own so that it reads
  `pos + 4 + 2 + …` and `StreamOffset` fields can be stated.

  One rule per constructor of `Con`; the lemma of a struct is the TERM that applies them in field order,
      (ReadsF.struct (.named (Reads.initlen h) <| .named (Reads.uint h') <| … .nil) (by simp [Fields.set])).structParse hd
  where the last argument of `ReadsF.struct` restates the object the rules build (one `Fields.set` per field) as
  the literal record.  A test on an earlier field is discharged by `eval_ge_ctx (by simp [Fields.get?_set])` and
  the like; a conditional whose test is a proposition about the described object goes through `Reads.ite_dec` /
  `Reads.ifc`, so no case split reaches the user.  A struct whose bytes, record or end the Spec writes differently
  is restated once with `Reads.as`; `Reads.len` / `ReadsF.len` give the end as `pos + bs.length` for a derivation
  that holds whatever follows.

  Traps, all of one kind: the tactic blocks inside a derivation run in the order they stand, with whatever
  metavariables the term has fixed by then.
  - Never close a look-up or a record equation over a chain of `Fields.set` by `rfl` (the elaborator unfolds the
    string comparisons; `simp` is a hundred times cheaper), and keep the context a variable in helper lemmas.
  - The record equation comes last (`ReadsF.struct h ho`): the fields fix its metavariables.
  - Where the goal does not fix the input (an existential statement, an input reached through `.as` or `rw [hd]`),
    pin the value of a leaf: `Reads.uint (v := x) …`, `eval_ctx (v := x) …`, or a bound with its type ascribed; a bare
    `by omega` takes any hypothesis and fixes the value wrongly.
  - Blocks inside `D` run before the `rfl`s of an enclosing `D.as rfl ?_ rfl` have fixed the indices: open the
    equations as goals, `refine (D).as ?_ ?_ ?_`, or restate the innermost piece; give witnesses by
    `exact ⟨_, _, …⟩`, not `refine ⟨?_, ?_, …⟩` (the derivation cannot assign opaque holes).
  - A rule is elaborated before the enclosing struct has fixed its context: a side condition that mentions the
    context (`Reads.pad`, `eval_*`) may need it written out, `(ctx := …)`.
-/
import PyElf.Proofs.Engine
namespace PyElf.Proofs.Engine
open PyElf PyElf.Spec PyElf.Proofs

abbrev Rd := Bytes → Fields → Nat → PRes
abbrev RdF := Bytes → Fields → Fields → Nat → R (Fields × Nat × Fields)

structure Reads (rd : Rd) (ctx : Fields) (pos : Nat) (inp : Bytes) (v : Val) (pos' : Nat) (out : Bytes) (ctx' : Fields) :
    Prop where
  ok : ∀ {data : Bytes}, data.drop pos = inp → rd data ctx pos = .ok (v, pos', ctx') ∧ data.drop pos' = out

structure ReadsF (rd : RdF) (obj ctx : Fields) (pos : Nat) (inp : Bytes) (obj' : Fields) (pos' : Nat) (out : Bytes)
    (ctx' : Fields) : Prop where
  ok : ∀ {data : Bytes}, data.drop pos = inp → rd data obj ctx pos = .ok (obj', pos', ctx') ∧ data.drop pos' = out

abbrev pr (env : Env) (c : Con) : Rd := fun data => Con.parse env data c
abbrev pf (env : Env) (fs : ConFields) : RdF := fun data => Con.parseFields env data fs
abbrev pe (env : Env) (c : Con) : RdF := fun data => Con.parseEmb env data c

variable {env : Env} {ctx ctx' c1 c2 obj obj' o1 : Fields} {pos pos' p1 p2 : Nat} {inp mid out : Bytes} {v : Val}

theorem Reads.parse {c : Con} (h : Reads (pr env c) ctx pos inp v pos' out ctx') {data : Bytes} (hd : data.drop pos = inp) :
    Con.parse env data c ctx pos = .ok (v, pos', ctx') :=
  (h.ok hd).1

theorem Reads.structParse {c : Con} (h : Reads (pr env c) ctx pos inp v pos' out ctx') {data : Bytes}
    (hd : data.drop pos = inp) : structParse env c data pos ctx = .ok (v, pos') :=
  structParse_of_parse (h.ok hd).1

theorem Reads.as {rd : Rd} (h : Reads rd ctx pos inp v pos' out ctx') {i₂ : Bytes} {v₂ : Val} {p₂ : Nat}
    (hi : i₂ = inp) (hv : v₂ = v) (hp : p₂ = pos') : Reads rd ctx pos i₂ v₂ p₂ out ctx' := by
  subst hi hv hp; exact h

theorem ReadsF.as {rd : RdF} (h : ReadsF rd obj ctx pos inp obj' pos' out ctx') {i₂ : Bytes} {o₂ : Fields} {p₂ : Nat}
    (hi : i₂ = inp) (ho : o₂ = obj') (hp : p₂ = pos') : ReadsF rd obj ctx pos i₂ o₂ p₂ out ctx' := by
  subst hi ho hp; exact h

/-- seen on the data made of `pos` zeros, `bs` and one more byte -/
theorem end_of_drop {bs : Bytes} (h : ∀ (out data : Bytes), data.drop pos = bs ++ out → data.drop pos' = out) :
    pos' = pos + bs.length := by
  have hd : (List.replicate pos (0 : UInt8) ++ (bs ++ [0])).drop pos = bs ++ [0] := by
    simp
  have := congrArg List.length (h [0] _ hd)
  simp at this
  omega

theorem Reads.len {rd : Rd} {bs : Bytes} (h : ∀ out, Reads rd ctx pos (bs ++ out) v pos' out ctx') : pos' = pos + bs.length :=
  end_of_drop fun out _ hd => ((h out).ok hd).2

theorem ReadsF.len {rdF : RdF} {bs : Bytes} (h : ∀ out, ReadsF rdF obj ctx pos (bs ++ out) obj' pos' out ctx') :
    pos' = pos + bs.length :=
  end_of_drop fun out _ hd => ((h out).ok hd).2

theorem Reads.of_ok {rd : Rd} {bs : Bytes} {n : Nat} (hn : bs.length = n)
    (h : ∀ {data : Bytes}, data.drop pos = bs ++ out → rd data ctx pos = .ok (v, pos + n, ctx')) :
    Reads rd ctx pos (bs ++ out) v (pos + n) out ctx' :=
  ⟨fun hd => ⟨h hd, drop_after hd hn⟩⟩

/-- one step of any field loop, given its equation `hpf` -/
theorem ReadsF.seq {rd : Rd} {rdF rdF' : RdF} {upd upd' : Fields → Val → Fields}
    (hpf : ∀ data, rdF data obj ctx pos = rd data ctx pos >>= fun r => rdF' data (upd obj r.1) (upd' r.2.2 r.1) r.2.1)
    (h1 : Reads rd ctx pos inp v p1 mid c1) (h2 : ReadsF rdF' (upd obj v) (upd' c1 v) p1 mid obj' p2 out c2) :
    ReadsF rdF obj ctx pos inp obj' p2 out c2 :=
  ⟨fun {data} hd => by
    obtain ⟨e1, d1⟩ := h1.ok hd
    rw [hpf, e1]
    exact h2.ok d1⟩

theorem ReadsF.nil : ReadsF (pf env .nil) obj ctx pos inp obj pos inp ctx :=
  ⟨fun hd => ⟨parseFields_nil, hd⟩⟩

theorem ReadsF.named {nm : String} {c : Con} {rest : ConFields} (h1 : Reads (pr env c) ctx pos inp v p1 mid c1)
    (h2 : ReadsF (pf env rest) (Fields.set obj nm v) (Fields.set c1 nm v) p1 mid obj' p2 out c2) :
    ReadsF (pf env (.cons (some nm) false c rest)) obj ctx pos inp obj' p2 out c2 :=
  ReadsF.seq (upd := fun o v => Fields.set o nm v) (upd' := fun o v => Fields.set o nm v)
    (fun data => parseFields_cons_named env data nm c rest obj ctx pos) h1 h2

theorem ReadsF.anon {c : Con} {rest : ConFields} (h1 : Reads (pr env c) ctx pos inp v p1 mid c1)
    (h2 : ReadsF (pf env rest) obj c1 p1 mid obj' p2 out c2) :
    ReadsF (pf env (.cons none false c rest)) obj ctx pos inp obj' p2 out c2 :=
  ReadsF.seq (upd := fun o _ => o) (upd' := fun o _ => o)
    (fun data => parseFields_cons_anon env data c rest obj ctx pos) h1 h2

theorem ReadsF.emb {nm : Option String} {c : Con} {rest : ConFields} (h1 : ReadsF (pe env c) obj ctx pos inp o1 p1 mid c1)
    (h2 : ReadsF (pf env rest) o1 c1 p1 mid obj' p2 out c2) :
    ReadsF (pf env (.cons nm true c rest)) obj ctx pos inp obj' p2 out c2 :=
  ⟨fun {data} hd => by
    obtain ⟨e1, d1⟩ := h1.ok hd
    show Con.parseFields env data _ obj ctx pos = _ ∧ _
    rw [parseFields_cons_emb, show Con.parseEmb env data c obj ctx pos = _ from e1]
    exact h2.ok d1⟩

theorem ReadsF.emb_struct {fs : ConFields} (h : ReadsF (pf env fs) obj ctx pos inp obj' pos' out ctx') :
    ReadsF (pe env (.struct fs)) obj ctx pos inp obj' pos' out ctx' :=
  ⟨fun hd => ⟨parseEmb_struct.trans (h.ok hd).1, (h.ok hd).2⟩⟩

theorem ReadsF.emb_value {e : Expr} : ReadsF (pe env (.value e)) obj ctx pos inp obj pos inp ctx :=
  ⟨fun hd => ⟨by show Con.parseEmb env _ _ obj ctx pos = _; rw [Con.parseEmb], hd⟩⟩

theorem ReadsF.emb_ite {c : Expr} {t e : Con} {b : Bool} (hc : c.eval ctx .none = .ok (.bool b))
    (h : ReadsF (pe env (if b then t else e)) obj ctx pos inp obj' pos' out ctx') :
    ReadsF (pe env (.ifThenElse c t e)) obj ctx pos inp obj' pos' out ctx' :=
  ⟨fun hd => by
    cases b
    · exact ⟨(parseEmb_ite_false hc rfl).trans (h.ok hd).1, (h.ok hd).2⟩
    · exact ⟨(parseEmb_ite_true hc rfl).trans (h.ok hd).1, (h.ok hd).2⟩⟩

theorem ReadsF.emb_switch {key : Expr} {cases : ConCases} {dflt : Con} {k : Val} (hk : key.eval ctx .none = .ok k)
    (h : ReadsF (pe env (lookupCase k cases dflt)) obj ctx pos inp obj' pos' out ctx') :
    ReadsF (pe env (.switch key cases dflt)) obj ctx pos inp obj' pos' out ctx' :=
  ⟨fun hd => ⟨(parseEmb_switch_eq hk).trans (h.ok hd).1, (h.ok hd).2⟩⟩

/-- `ho` restates the object the fields build, one `Fields.set` per field, as the record it is -/
theorem ReadsF.struct {fs : ConFields} {rec : Fields} (h : ReadsF (pf env fs) [] [] pos inp obj pos' out c1) (ho : rec = obj) :
    Reads (pr env (.struct fs)) ctx pos inp (.record rec) pos' out ctx :=
  ⟨fun hd => ⟨ho ▸ parse_struct (h.ok hd).1, (h.ok hd).2⟩⟩

theorem Reads.uint {n v : Nat} {le : Bool} (hv : v < 256 ^ n) :
    Reads (pr env (.uint n le)) ctx pos (encNat le n v ++ out) (.int v) (pos + n) out ctx :=
  .of_ok (encNat_length ..) fun hd => parse_uint_enc hd hv

theorem Reads.uintBytes {n : Nat} {le : Bool} {bs : Bytes} (hn : bs.length = n) :
    Reads (pr env (.uint n le)) ctx pos (bs ++ out) (.int (decNat le bs)) (pos + n) out ctx :=
  .of_ok hn fun hd => parse_uint_ok hd hn

theorem Reads.sintBytes {n : Nat} {le : Bool} {bs : Bytes} (hn : bs.length = n) :
    Reads (pr env (.sint n le)) ctx pos (bs ++ out) (.int (toSigned (8 * n) (decNat le bs))) (pos + n) out ctx :=
  .of_ok hn fun hd => parse_sint_ok hd hn

theorem Reads.bits {fs : List BitFld} {n : Nat} {bs : Bytes} {rec : Fields}
    (hw : (fs.foldl (fun a f => a + f.width) 0 + 7) / 8 = n) (hn : bs.length = n)
    (hs : splitBits env (beNat bs) (8 * n) fs [] = .ok rec) :
    Reads (pr env (.bits fs)) ctx pos (bs ++ out) (.record rec) (pos + n) out ctx :=
  .of_ok hn fun {data} hd => by
    show Con.parse env data _ ctx pos = _
    rw [Con.parse]
    simp only [hw, readExact_ok hd hn, bind, Except.bind, hs]
    rfl

theorem Reads.byte {x : Nat} {le : Bool} (hx : x < 256) :
    Reads (pr env (.uint 1 le)) ctx pos ([UInt8.ofNat x] ++ out) (.int x) (pos + 1) out ctx :=
  .of_ok rfl fun hd => parse_byte hd hx

theorem Reads.sint {n : Nat} {v : Int} {le : Bool} (hn : 1 ≤ n) (hlo : -((2 ^ (8 * n - 1) : Nat) : Int) ≤ v)
    (hhi : v < ((2 ^ (8 * n - 1) : Nat) : Int)) :
    Reads (pr env (.sint n le)) ctx pos (encNat le n (ofSigned (8 * n) v) ++ out) (.int v) (pos + n) out ctx :=
  .of_ok (encNat_length ..) fun {data} hd => by
    show Con.parse env data _ ctx pos = _
    rw [parse_sint_ok hd (encNat_length ..), sint_codec le n v hn hlo hhi]

theorem Reads.uleb {l v : Nat} (hl : 1 ≤ l) (hv : v < 2 ^ (7 * l)) :
    Reads (pr env .uleb) ctx pos (encUlebN l v ++ out) (.int v) (pos + l) out ctx :=
  .of_ok (encUlebN_length ..) fun hd => parse_ulebN hd hl hv

theorem Reads.sleb {l : Nat} {v : Int} (hl : 1 ≤ l) (hlo : -((2 ^ (7 * l - 1) : Nat) : Int) ≤ v)
    (hhi : v < ((2 ^ (7 * l - 1) : Nat) : Int)) :
    Reads (pr env .sleb) ctx pos (encSlebN l v ++ out) (.int v) (pos + l) out ctx :=
  .of_ok (encSlebN_length ..) fun hd => parse_slebN hd hl hlo hhi

theorem Reads.cstring {s : Bytes} (hs : ∀ b ∈ s, b ≠ 0) :
    Reads (pr env .cstring) ctx pos (s ++ (0 :: out)) (.bytes s) (pos + s.length + 1) out ctx :=
  ⟨fun {data} hd => by
    have hd' : data.drop pos = s ++ [0] ++ out := by rw [hd]; simp
    exact ⟨parse_cstring_ok hs hd', by rw [Nat.add_assoc]; exact drop_after hd' (by simp)⟩⟩

/-- both DWARF formats; the reader records the format in the context (`is64`) -/
theorem Reads.initlen {le fmt64 : Bool} {n : Nat} (hn : if fmt64 then n < 2 ^ 64 else n < 0xFFFFFF00) :
    Reads (pr env (.initialLength le)) ctx pos
      ((if fmt64 then encNat le 4 0xffffffff ++ encNat le 8 n else encNat le 4 n) ++ out) (.int n)
      (pos + if fmt64 then 12 else 4) out (Fields.set ctx "is64" (.bool fmt64)) :=
  ⟨fun hd => parse_initlen_enc fmt64 n out hn (by rw [hd]; cases fmt64 <;> rfl)⟩

/-- the 64-bit bound as the headers' well-formedness predicates write it -/
theorem initlen_bound {fmt64 : Bool} {n : Nat} (h : if fmt64 then n < 256 ^ 8 else n < 0xFFFFFF00) :
    if fmt64 then n < 2 ^ 64 else n < 0xFFFFFF00 := by
  cases fmt64 <;> exact h

theorem Reads.value {e : Expr} (h : e.eval ctx .none = .ok v) : Reads (pr env (.value e)) ctx pos inp v pos inp ctx :=
  ⟨fun hd => ⟨parse_value h, hd⟩⟩

theorem Reads.streamOffset : Reads (pr env .streamOffset) ctx pos inp (.int pos) pos inp ctx :=
  ⟨fun hd => ⟨parse_streamOffset .., hd⟩⟩

/-- the test may evaluate to any value: Python truthiness -/
theorem Reads.ite_true {c : Expr} {t e : Con} {cv : Val} (hc : c.eval ctx .none = .ok cv) (ht : cv.truthy = true)
    (h : Reads (pr env t) ctx pos inp v pos' out ctx') : Reads (pr env (.ifThenElse c t e)) ctx pos inp v pos' out ctx' :=
  ⟨fun hd => ⟨(parse_ite_true hc ht).trans (h.ok hd).1, (h.ok hd).2⟩⟩

theorem Reads.ite_false {c : Expr} {t e : Con} {cv : Val} (hc : c.eval ctx .none = .ok cv) (ht : cv.truthy = false)
    (h : Reads (pr env e) ctx pos inp v pos' out ctx') : Reads (pr env (.ifThenElse c t e)) ctx pos inp v pos' out ctx' :=
  ⟨fun hd => ⟨(parse_ite_false hc ht).trans (h.ok hd).1, (h.ok hd).2⟩⟩

theorem Reads.ite {c : Expr} {t e : Con} {b : Bool} (hc : c.eval ctx .none = .ok (.bool b))
    (h : Reads (pr env (if b then t else e)) ctx pos inp v pos' out ctx') :
    Reads (pr env (.ifThenElse c t e)) ctx pos inp v pos' out ctx' := by
  cases b
  · exact Reads.ite_false hc rfl h
  · exact Reads.ite_true hc rfl h

/-- the test as a decidable proposition about the described object: input, value and end are the corresponding
    `if`s, so no case split is needed where the struct is used -/
theorem Reads.ite_dec {c : Expr} {t e : Con} {p : Prop} [Decidable p] {bt be : Bytes} {vt ve : Val} {nt ne : Nat}
    (hc : c.eval ctx .none = .ok (.bool (decide p)))
    (ht : p → Reads (pr env t) ctx pos (bt ++ out) vt (pos + nt) out ctx)
    (he : ¬ p → Reads (pr env e) ctx pos (be ++ out) ve (pos + ne) out ctx) :
    Reads (pr env (.ifThenElse c t e)) ctx pos ((if p then bt else be) ++ out) (if p then vt else ve)
      (pos + if p then nt else ne) out ctx := by
  by_cases hp : p
  · simp only [if_pos hp]; exact Reads.ite (b := true) (by rw [hc, decide_eq_true hp]) (ht hp)
  · simp only [if_neg hp]; exact Reads.ite (b := false) (by rw [hc, decide_eq_false hp]) (he hp)

/-- … where only the encoding depends on the test -/
theorem Reads.ite_enc {c : Expr} {t e : Con} {p : Prop} [Decidable p] {bt be : Bytes} {nt ne : Nat}
    (hc : c.eval ctx .none = .ok (.bool (decide p)))
    (ht : p → Reads (pr env t) ctx pos (bt ++ out) v (pos + nt) out ctx)
    (he : ¬ p → Reads (pr env e) ctx pos (be ++ out) v (pos + ne) out ctx) :
    Reads (pr env (.ifThenElse c t e)) ctx pos ((if p then bt else be) ++ out) v (pos + if p then nt else ne) out ctx :=
  (Reads.ite_dec hc ht he).as rfl (ite_self v).symm rfl

/-- `If(c, t)`: `t` where the test holds, else nothing and `None` -/
theorem Reads.ifc {c : Expr} {t : Con} {p : Prop} [Decidable p] {bt : Bytes} {vt : Val} {nt : Nat}
    (hc : c.eval ctx .none = .ok (.bool (decide p)))
    (ht : p → Reads (pr env t) ctx pos (bt ++ out) vt (pos + nt) out ctx) :
    Reads (pr env (.ifThenElse c t (.value .none))) ctx pos ((if p then bt else []) ++ out) (if p then vt else .none)
      (pos + if p then nt else 0) out ctx :=
  Reads.ite_dec hc ht fun _ => Reads.value rfl

theorem Reads.switch {key : Expr} {cases : ConCases} {dflt : Con} {k : Val} (hk : key.eval ctx .none = .ok k)
    (h : Reads (pr env (lookupCase k cases dflt)) ctx pos inp v pos' out ctx') :
    Reads (pr env (.switch key cases dflt)) ctx pos inp v pos' out ctx' :=
  ⟨fun hd => ⟨(parse_switch hk).trans (h.ok hd).1, (h.ok hd).2⟩⟩

theorem Reads.enum_pass {sub : Con} {tbl : String} {n : Int} (h : Reads (pr env sub) ctx pos inp (.int n) pos' out ctx') :
    Reads (pr env (.enum sub tbl true)) ctx pos inp (enumVal env.enumDecode tbl n) pos' out ctx' :=
  ⟨fun hd => ⟨parse_enum_pass (h.ok hd).1, (h.ok hd).2⟩⟩

theorem Reads.enum_named {sub : Con} {tbl : String} {pass : Bool} {n : Int} {s : String}
    (h : Reads (pr env sub) ctx pos inp (.int n) pos' out ctx') (hs : env.enumDecode tbl n = some s) :
    Reads (pr env (.enum sub tbl pass)) ctx pos inp (.str s) pos' out ctx' :=
  ⟨fun hd => ⟨parse_enum_named (h.ok hd).1 hs, (h.ok hd).2⟩⟩

theorem Reads.array {α : Type} {count : Expr} {sub : Con} {enc : α → Bytes} {obs : α → Val} {xs : List α}
    (hc : count.eval ctx .none = .ok (.int (xs.length : Nat)))
    (hitem : ∀ x ∈ xs, ∀ pos out, Reads (pr env sub) ctx pos (enc x ++ out) (obs x) (pos + (enc x).length) out ctx) :
    Reads (pr env (.array count sub)) ctx pos (xs.flatMap enc ++ out) (.list (xs.map obs))
      (pos + (xs.flatMap enc).length) out ctx :=
  .of_ok rfl fun {data} hd => by
    show Con.parse env data _ ctx pos = _
    rw [parse_array hc, Int.toNat_natCast]
    exact arrayLoop_items (fun p c => Con.parse env data sub c p) ctx data enc obs (· ∈ xs) out
      (fun x p tail hx hdx => (hitem x hx p tail).parse hdx) xs pos [] (fun _ hx => hx) hd

/-- any words: each is read back modulo the word size -/
theorem Reads.words {count : Expr} {le : Bool} {n : Nat} {ws : List Nat}
    (hc : count.eval ctx .none = .ok (.int (ws.length : Nat))) :
    Reads (pr env (.array count (.uint n le))) ctx pos (ws.flatMap (encNat le n) ++ out)
      (.list (ws.map fun x => .int ((x % 256 ^ n : Nat) : Int))) (pos + (ws.flatMap (encNat le n)).length) out ctx :=
  Reads.array hc fun x _ pos out => .as (.of_ok (encNat_length le n x) fun hd => parse_uint_ok hd (encNat_length le n x))
    rfl (by rw [decNat_encNat]) (by rw [encNat_length])

theorem Reads.byteArray {count : Expr} {le : Bool} {payload : Bytes}
    (hc : count.eval ctx .none = .ok (.int (payload.length : Nat))) :
    Reads (pr env (.array count (.uint 1 le))) ctx pos (payload ++ out) (.list (payload.map fun b => .int b.toNat))
      (pos + payload.length) out ctx :=
  .of_ok rfl fun {data} hd => by
    show Con.parse env data _ ctx pos = _
    rw [parse_array hc, Int.toNat_natCast, arrayLoop_bytes env data le ctx out payload pos [] hd]
    simp

theorem Reads.prefixed {α : Type} {len sub : Con} {enc : α → Bytes} {obs : α → Val} {xs : List α} {lb : Bytes} {p1 : Nat}
    (hlen : Reads (pr env len) ctx pos (lb ++ (xs.flatMap enc ++ out)) (.int (xs.length : Nat)) p1 (xs.flatMap enc ++ out) ctx)
    (hitem : ∀ x ∈ xs, ∀ pos out, Reads (pr env sub) ctx pos (enc x ++ out) (obs x) (pos + (enc x).length) out ctx) :
    Reads (pr env (.prefixed len sub)) ctx pos (lb ++ (xs.flatMap enc ++ out)) (.list (xs.map obs))
      (p1 + (xs.flatMap enc).length) out ctx :=
  ⟨fun {data} hd => by
    obtain ⟨e1, d1⟩ := hlen.ok hd
    refine ⟨?_, drop_add_of_drop d1⟩
    show Con.parse env data _ ctx pos = _
    rw [Con.parse, show Con.parse env data len ctx pos = _ from e1]
    simp only [bind, Except.bind, Val.asInt, Int.toNat_natCast]
    exact arrayLoop_items (fun p c => Con.parse env data sub c p) ctx data enc obs (· ∈ xs) out
      (fun x p tail hx hdx => (hitem x hx p tail).parse hdx) xs p1 [] (fun _ hx => hx) d1⟩

theorem Reads.repeatUntil {α : Type} {pred : Expr} {sub : Con} {enc : α → Bytes} {obs : α → Val} {xs : List α}
    {term : Bytes} {tv : Val}
    (hitem : ∀ x ∈ xs, ∀ pos out, Reads (pr env sub) ctx pos (enc x ++ out) (obs x) (pos + (enc x).length) out ctx
      ∧ (pred.eval ctx (obs x)).map Val.truthy = .ok false ∧ 1 ≤ (enc x).length)
    (hterm : ∀ pos, Reads (pr env sub) ctx pos (term ++ out) tv (pos + term.length) out ctx)
    (hstop : (pred.eval ctx tv).map Val.truthy = .ok true) :
    Reads (pr env (.repeatUntilExcl pred sub)) ctx pos (xs.flatMap enc ++ (term ++ out)) (.list (xs.map obs))
      (pos + (xs.flatMap enc).length + term.length) out ctx :=
  ⟨fun {data} hd =>
    ⟨parse_repeat_items enc obs (· ∈ xs) term tv out
        (fun x p tail hx hdx => ⟨((hitem x hx p tail).1).parse hdx, (hitem x hx p tail).2.1⟩)
        (fun p hdt => ⟨(hterm p).parse hdt, hstop⟩) xs pos (fun _ hx => hx) (fun x hx => (hitem x hx 0 []).2.2) hd,
      by rw [Nat.add_assoc, ← List.length_append]; exact drop_add_of_drop (by rw [hd, List.append_assoc])⟩⟩

theorem Reads.cstrings {ss : List Bytes} (hs : ∀ s ∈ ss, s ≠ [] ∧ ∀ b ∈ s, b ≠ 0) :
    Reads (pr env (.repeatUntilExcl (.eq .obj (.bytesLit [])) .cstring)) ctx pos
      (((ss.flatMap fun s => s ++ [0]) ++ [0]) ++ out) (.list (ss.map .bytes))
      (pos + ((ss.flatMap fun s => s ++ [0]) ++ [0]).length) out ctx :=
  .of_ok rfl fun hd => (parse_repeat_cstrings hs hd).trans (by simp [Nat.add_assoc])

theorem eval_asNat_lit (k : Nat) (o : Val) : (Expr.lit k).eval ctx o >>= Val.asNat = .ok k := by
  simp [Expr.eval, Val.asNat, Val.asInt, bind, Except.bind]

theorem Reads.bytes {len : Expr} {k : Nat} {bs : Bytes} (hl : len.eval ctx .none >>= Val.asNat = .ok k) (hk : bs.length = k) :
    Reads (pr env (.bytesN len)) ctx pos (bs ++ out) (.bytes bs) (pos + k) out ctx :=
  .of_ok hk fun hd => (parse_bytesN_len hl).trans (by rw [readExact_ok hd hk]; rfl)

theorem Reads.pad {len : Expr} {k : Nat} {bs : Bytes} (hl : len.eval ctx .none >>= Val.asNat = .ok k) (hk : bs.length = k) :
    Reads (pr env (.padding len false)) ctx pos (bs ++ out) (.bytes bs) (pos + k) out ctx :=
  .of_ok hk fun hd => (parse_padding_len hl).trans (by rw [readExact_ok hd hk]; rfl)

theorem Reads.zeroPad {len : Expr} {k : Nat} (hl : len.eval ctx .none >>= Val.asNat = .ok k) :
    Reads (pr env (.padding len true)) ctx pos (List.replicate k 0 ++ out) (.bytes (List.replicate k 0)) (pos + k) out ctx :=
  .of_ok List.length_replicate fun hd =>
    (parse_padding_len hl).trans (by rw [readExact_ok hd List.length_replicate]; simp [Except.bind])

theorem eval_ctx {k : String} {o : Val} (h : Fields.get? ctx k = some v) : (Expr.ctx k).eval ctx o = .ok v := by
  rw [Expr.eval, Fields.getR_of_get? h]

theorem eval_ge_ctx {k : String} {o : Val} {x n : Nat} (h : Fields.get? ctx k = some (.int x)) :
    (Expr.ge (.ctx k) (.lit n)).eval ctx o = .ok (.bool (decide (n ≤ x))) := by
  simp [Expr.eval, Fields.getR_of_get? h, Expr.cmp, Val.asInt, bind, Except.bind, pure, Except.pure]

theorem eval_gt_ctx {k : String} {o : Val} {x n : Nat} (h : Fields.get? ctx k = some (.int x)) :
    (Expr.gt (.ctx k) (.lit n)).eval ctx o = .ok (.bool (decide (n < x))) := by
  simp [Expr.eval, Fields.getR_of_get? h, Expr.cmp, Val.asInt, bind, Except.bind, pure, Except.pure]

theorem eval_lt_ctx {k : String} {o : Val} {x n : Nat} (h : Fields.get? ctx k = some (.int x)) :
    (Expr.lt (.ctx k) (.lit n)).eval ctx o = .ok (.bool (decide (x < n))) := by
  simp [Expr.eval, Fields.getR_of_get? h, Expr.cmp, Val.asInt, bind, Except.bind, pure, Except.pure]

end PyElf.Proofs.Engine
