/-
  What the whole-file theorems of C08 ask of the enum environment: the gABI names of the section types the relocation
  code tells apart, in every machine's `sh_type` table (`EnvRel`), and the check of one regenerated table from which
  the library's own environment has it (`shTableOk`, `envRel_of_tables`).  The file continues
  `namespace PyElf.Proofs.RelocFile`, where `EnvRel` has its name from.  (`C11.RelocEnv`, Proofs/ContainerReloc.lean,
  is something else: what an opened file provides for the relocation lemmas.)
-/
import PyElf.Proofs.EnumTable
import PyElf.Spec.ElfStructs
namespace PyElf.Proofs.RelocFile
open PyElf PyElf.Spec PyElf.Model PyElf.Proofs

structure EnvRel (env : Env) : Prop where
  symtab : ∀ m, env.enumDecode (shTypeTable m) 2 = some "SHT_SYMTAB"
  rela : ∀ m, env.enumDecode (shTypeTable m) 4 = some "SHT_RELA"
  rel : ∀ m, env.enumDecode (shTypeTable m) 9 = some "SHT_REL"
  dynsym : ∀ m, env.enumDecode (shTypeTable m) 11 = some "SHT_DYNSYM"
  relr : ∀ m, env.enumDecode (shTypeTable m) 19 = some "SHT_RELR"
  onlyRel : ∀ m n, env.enumDecode (shTypeTable m) n = some "SHT_REL" → n = 9
  onlyRela : ∀ m n, env.enumDecode (shTypeTable m) n = some "SHT_RELA" → n = 4

def shTableOk (T : List (String × Int)) : Bool :=
  decodeIn T 2 == some "SHT_SYMTAB" && decodeIn T 11 == some "SHT_DYNSYM" && decodeIn T 19 == some "SHT_RELR" &&
  EnumTable.namesOnly T ("SHT_RELA", 4) && EnumTable.namesOnly T ("SHT_REL", 9)

theorem EnvRel.names {env : Env} (he : EnvRel env) (m : String) :
    EnumTable.NamesOnly env (shTypeTable m) [("SHT_RELA", 4), ("SHT_REL", 9)] := by
  intro p hp n
  simp only [List.mem_cons, List.not_mem_nil, or_false] at hp
  rcases hp with rfl | rfl
  · exact ⟨he.onlyRela m n, fun h => h ▸ he.rela m⟩
  · exact ⟨he.onlyRel m n, fun h => h ▸ he.rel m⟩

structure ShTableFacts (T : List (String × Int)) : Prop where
  symtab : decodeIn T 2 = some "SHT_SYMTAB"
  dynsym : decodeIn T 11 = some "SHT_DYNSYM"
  relr : decodeIn T 19 = some "SHT_RELR"
  rela : EnumTable.namesOnly T ("SHT_RELA", 4) = true
  rel : EnumTable.namesOnly T ("SHT_REL", 9) = true

theorem shTableOk_unpack {T : List (String × Int)} (h : shTableOk T = true) : ShTableFacts T := by
  simp only [shTableOk, Bool.and_eq_true, beq_iff_eq] at h
  obtain ⟨⟨⟨⟨symtab, dynsym⟩, relr⟩, rela⟩, rel⟩ := h
  exact ⟨symtab, dynsym, relr, rela, rel⟩

theorem envRel_of_tables (h : ∀ m, shTableOk (EnumTable.genTable (shTypeTable m)) = true) : EnvRel elfEnv := by
  have dec : ∀ m n, elfEnv.enumDecode (shTypeTable m) n = decodeIn (EnumTable.genTable (shTypeTable m)) n :=
    fun m n => EnumTable.genEnumDecode_eq _ n
  have P := fun m => shTableOk_unpack (h m)
  exact
    { symtab := fun m => (dec m 2).trans (P m).symtab
      dynsym := fun m => (dec m 11).trans (P m).dynsym
      relr := fun m => (dec m 19).trans (P m).relr
      rela := fun m => (EnumTable.genEnumDecode_iff (P m).rela 4).2 rfl
      rel := fun m => (EnumTable.genEnumDecode_iff (P m).rel 9).2 rfl
      onlyRela := fun m n => (EnumTable.genEnumDecode_iff (P m).rela n).1
      onlyRel := fun m n => (EnumTable.genEnumDecode_iff (P m).rel n).1 }

end PyElf.Proofs.RelocFile
