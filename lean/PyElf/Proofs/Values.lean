/-
  The association lists behind construct Containers (`Fields.get?`, `Fields.set`), field access on
  `Val` (both in `PyElf`, beside the definitions), and Python's integer operators on natural numbers (in
  `PyElf.Proofs.Engine`).
-/
import PyElf.Core.Val
import PyElf.Proofs.Upsert
namespace PyElf

theorem Fields.get?_cons_eq (k : String) (v : Val) (rest : Fields) :
    Fields.get? ((k, v) :: rest) k = some v := by
  simp [Fields.get?]

theorem Fields.get?_cons_ne {k k' : String} (h : k' ≠ k) (v : Val) (rest : Fields) :
    Fields.get? ((k', v) :: rest) k = Fields.get? rest k := by
  simp [Fields.get?, h]

theorem Fields.get?_eq_find? (fs : Fields) (k : String) : Fields.get? fs k = (fs.find? (·.1 == k)).map (·.2) := by
  induction fs with
  | nil => rfl
  | cons kv rest ih =>
    obtain ⟨k0, v0⟩ := kv
    by_cases h : k0 = k <;> simp [Fields.get?, List.find?_cons, h, ih]

theorem Fields.get?_set (fs : Fields) (k : String) (v : Val) (k' : String) :
    Fields.get? (Fields.set fs k v) k' = if k = k' then some v else Fields.get? fs k' := by
  rw [Fields.get?_eq_find?, Fields.get?_eq_find?, Fields.set_eq_upsert]
  exact Proofs.find?_upsert fs k k' v

theorem Fields.get?_set_same (fs : Fields) (k : String) (v : Val) :
    Fields.get? (Fields.set fs k v) k = some v := by
  rw [Fields.get?_set, if_pos rfl]

theorem Fields.get?_set_other (fs : Fields) {k k' : String} (v : Val) (hne : k ≠ k') :
    Fields.get? (Fields.set fs k v) k' = Fields.get? fs k' := by
  rw [Fields.get?_set, if_neg hne]

theorem Fields.set_fresh (fs : Fields) (k : String) (v : Val) (h : Fields.get? fs k = none) :
    Fields.set fs k v = fs ++ [(k, v)] := by
  rw [Fields.set_eq_upsert, Proofs.upsert_fresh fs k v ((Fields.get?_eq_none_iff fs k).1 h)]

theorem Fields.get?_append (a b : Fields) (k : String) :
    Fields.get? (a ++ b) k = (Fields.get? a k).or (Fields.get? b k) := by
  induction a with
  | nil => simp [Fields.get?]
  | cons p a ih =>
    obtain ⟨k', v'⟩ := p
    simp only [List.cons_append, Fields.get?]
    split
    · rfl
    · exact ih

theorem Fields.getR_of_get? {fs : Fields} {k : String} {v : Val} (h : Fields.get? fs k = some v) :
    Fields.getR fs k = .ok v := by
  simp [Fields.getR, h]

theorem Fields.getR_mid (A B : Fields) (nm : String) (x : Val) (h : Fields.get? A nm = none) :
    Fields.getR (A ++ (nm, x) :: B) nm = .ok x :=
  Fields.getR_of_get? (by rw [Fields.get?_append, h, Fields.get?_cons_eq]; rfl)

theorem Fields.set_mid (A B : Fields) (nm : String) (x y : Val) (h : Fields.get? A nm = none) :
    Fields.set (A ++ (nm, x) :: B) nm y = A ++ (nm, y) :: B := by
  induction A with
  | nil => simp [Fields.set]
  | cons a A ih =>
    obtain ⟨k, z⟩ := a
    have hk : ¬ k = nm := by intro e; simp [Fields.get?, e] at h
    have h' : Fields.get? A nm = none := by simpa [Fields.get?, hk] using h
    simp [Fields.set, hk, ih h']

theorem Val.getField_record (fs : Fields) (k : String) : (Val.record fs).getField k = Fields.getR fs k := rfl

theorem Val.asNat_of_nonneg {z : Int} (h : 0 ≤ z) : (Val.int z).asNat = .ok z.toNat := by
  simp [Val.asNat, Val.asInt, bind, Except.bind, Int.not_lt.2 h]

theorem Val.getInt_of_getField {v : Val} {k : String} {z : Int} (h : v.getField k = .ok (.int z)) :
    v.getInt k = .ok z := by
  simp [Val.getInt, h, bind, Except.bind, Val.asInt]

theorem Val.getNat_of_getField {v : Val} {k : String} {n : Nat} (h : v.getField k = .ok (.int (n : Int))) :
    v.getNat k = .ok n := by
  simp [Val.getNat, h, bind, Except.bind, Val.asNat, Val.asInt]

theorem Val.getNat_record_int {fs : Fields} {k : String} {n : Nat} (h : Fields.get? fs k = some (.int (n : Int))) :
    (Val.record fs).getNat k = .ok n :=
  Val.getNat_of_getField (Fields.getR_of_get? h)

theorem Val.getField_record_get? {fs : Fields} {k : String} {v : Val} (h : Fields.get? fs k = some v) :
    (Val.record fs).getField k = .ok v :=
  Fields.getR_of_get? h

theorem Val.getInt_record_int {fs : Fields} {k : String} {z : Int} (h : Fields.get? fs k = some (.int z)) :
    (Val.record fs).getInt k = .ok z :=
  Val.getInt_of_getField (Fields.getR_of_get? h)

theorem Val.str_beq (a b : String) : (Val.str a == Val.str b) = (a == b) := rfl

theorem Val.int_beq_str (a : Int) (b : String) : (Val.int a == Val.str b) = false := rfl

end PyElf

namespace PyElf.Proofs.Engine
open PyElf

theorem asNat_nat (n : Nat) : (Val.int (n : Int)).asNat = .ok n := by
  simp [Val.asNat, Val.asInt, bind, Except.bind]

theorem land_nat (a b : Nat) : PyInt.land (a : Int) (b : Int) = ((a &&& b : Nat) : Int) := rfl

theorem lor_nat (a b : Nat) : PyInt.lor (a : Int) (b : Int) = ((a ||| b : Nat) : Int) := rfl

theorem shr_nat (a n : Nat) : PyInt.shr (a : Int) n = ((a / 2 ^ n : Nat) : Int) := by
  simp [PyInt.shr, Int.natCast_ediv]

theorem shl_nat (a n : Nat) : PyInt.shl (a : Int) n = ((a * 2 ^ n : Nat) : Int) := by
  simp [PyInt.shl]

end PyElf.Proofs.Engine
