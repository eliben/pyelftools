/-
  Symbol table enumeration and lookup by name: over a laid-out table (`SymtabLayout`), and over any `get_symbol`
  that answers (`collectRange_src`, `byNameFrom_ok`); the extended-index and syminfo tables, by entry and whole.
-/
import PyElf.Proofs.SymParse
namespace PyElf.Proofs
open PyElf PyElf.Spec PyElf.Model
open Engine (parse_uint_enc Reads ReadsF)

theorem getString_eq (data : Bytes) (strOff off : Nat) (name : Bytes)
    (h : firstNul (data.drop (strOff + off)) = some name) : symGetString data strOff off = .ok name := by
  simp [symGetString, parseCStringFromStream_eq, h, bind, Except.bind, pure, Except.pure]

theorem obsEntry_stName (dec : String → Int → Option String) (cls : Nat) (e : SymE) :
    (obsEntry dec cls e).getNat "st_name" = .ok e.stName := by
  have : ¬ ((e.stName : Int) < 0) := by omega
  unfold obsEntry
  split <;> simp [Val.getNat, Val.getField, Fields.getR, Fields.get?, Val.asNat, Val.asInt, bind, Except.bind, this]

theorem getSymbol_ok (env : Env) {S : ElfStructs} {le : Bool} {cls : Nat} (hS : S.Elf_Sym = symCon le cls)
    (hcls : cls = 32 ∨ cls = 64)
    (e : SymE) (hwf : e.WF cls = true) (data : Bytes) (h : SecHdr) (strOff n : Nat) (rest name : Bytes)
    (hd : data.drop (h.off + n * h.entsize) = encSym le cls e ++ rest)
    (hstr : strAt (data.drop strOff) e.stName = some name) :
    getSymbol S env data h strOff n = .ok (obsEntry env.enumDecode cls e, name) := by
  have hstr' : firstNul (data.drop (strOff + e.stName)) = some name := by
    simpa [strAt, List.drop_drop, Nat.add_comm] using hstr
  simp only [getSymbol, sym_roundtrip env hS hcls e hwf data _ rest hd, bind, Except.bind, obsEntry_stName,
    getString_eq data strOff _ name hstr', pure, Except.pure]

theorem collectRange_ok {α} (f : Nat → R α) (g : Nat → α) : ∀ (c s : Nat),
    (∀ i, s ≤ i → i < s + c → f i = .ok (g i)) → collectRange f s c = .ok ((List.range' s c).map g) := by
  intro c
  induction c with
  | zero => intro s _; rfl
  | succ c ih =>
    intro s h
    simp only [collectRange, h s (Nat.le_refl _) (by omega), bind, Except.bind,
      ih (s + 1) (fun i h1 h2 => h i (by omega) (by omega)), pure, Except.pure, List.range'_succ, List.map_cons]

theorem collectRange_src {getSym : Nat → R Symbol} {sym : Nat → Symbol} {n : Nat}
    (hget : ∀ j, j < n → getSym j = .ok (sym j)) : collectRange getSym 0 n = .ok ((List.range n).map sym) := by
  rw [collectRange_ok _ sym n 0 fun i _ hi => hget i (by omega), List.range_eq_range']

/-- a symbol table section laid out in a file: entries `es` at stride `sh_entsize ≥` entry size,
    names in the linked string table (any string-table layout: shared, overlapping, unordered) -/
structure SymtabLayout (le : Bool) (cls : Nat) (data : Bytes) (h : SecHdr) (strOff : Nat)
    (es : List SymE) (names : List Bytes) : Prop where
  hcls : cls = 32 ∨ cls = 64
  entpos : 0 < h.entsize
  size : h.size = es.length * h.entsize
  nlen : names.length = es.length
  wf : ∀ i (hi : i < es.length), es[i].WF cls = true
  entry : ∀ i (hi : i < es.length), ∃ rest, data.drop (h.off + i * h.entsize) = encSym le cls es[i] ++ rest
  name : ∀ i (hi : i < es.length), strAt (data.drop strOff) es[i].stName = some (names.getD i [])

def symObs (dec : String → Int → Option String) (cls : Nat) (es : List SymE) (names : List Bytes) (i : Nat) : Symbol :=
  (obsEntry dec cls (es.getD i default), names.getD i [])

section table
variable {le : Bool} {cls : Nat} {data : Bytes} {h : SecHdr} {strOff : Nat} {es : List SymE} {names : List Bytes}
variable (env : Env) {S : ElfStructs} (hS : S.Elf_Sym = symCon le cls)
include hS

theorem layout_getSymbol (L : SymtabLayout le cls data h strOff es names) (i : Nat) (hi : i < es.length) :
    getSymbol S env data h strOff i = .ok (symObs env.enumDecode cls es names i) := by
  obtain ⟨rest, hd⟩ := L.entry i hi
  have := getSymbol_ok env hS L.hcls es[i] (L.wf i hi) data h strOff i rest _ hd (L.name i hi)
  rw [this]
  rw [symObs, Engine.getD_of_lt es i default hi, Engine.getD_of_lt names i [] (L.nlen ▸ hi)]

omit hS in
theorem layout_numSymbols (L : SymtabLayout le cls data h strOff es names) : numSymbols h = .ok es.length := by
  have := L.entpos
  have hne : ¬ h.entsize = 0 := by omega
  simp only [numSymbols, hne, if_false, L.size]
  rw [Nat.mul_div_cancel _ L.entpos]

omit hS in
theorem layout_init (L : SymtabLayout le cls data h strOff es names) : symtabInit h = .ok () := by
  have := L.entpos
  simp [symtabInit, L.size, this]

theorem layout_iterSymbols (L : SymtabLayout le cls data h strOff es names) :
    iterSymbols S env data h strOff = .ok ((List.range es.length).map (symObs env.enumDecode cls es names)) := by
  simp only [iterSymbols, layout_numSymbols L, bind, Except.bind]
  exact collectRange_src (layout_getSymbol env hS L)

end table

theorem nameMapGet_append (m : List (Bytes × List Nat)) (k' : Bytes) (i : Nat) (k : Bytes) :
    nameMapGet (nameMapAppend m k' i) k
      = if k' = k then some ((nameMapGet m k).getD [] ++ [i]) else nameMapGet m k := by
  induction m with
  | nil =>
    by_cases hk : k' = k
    · simp [nameMapAppend, nameMapGet, hk]
    · simp [nameMapAppend, nameMapGet, hk]
  | cons p rest ih =>
    obtain ⟨k0, l0⟩ := p
    by_cases h0 : k0 = k'
    · subst h0
      by_cases hk : k0 = k
      · simp [nameMapAppend, nameMapGet, hk]
      · simp [nameMapAppend, nameMapGet, hk]
    · simp only [nameMapAppend, h0, if_false]
      by_cases hk : k0 = k
      · have : ¬ k' = k := fun h => h0 (by rw [hk, h])
        simp [nameMapGet, hk, this]
      · simp only [nameMapGet, List.find?_cons, hk, decide_false] at ih ⊢
        exact ih

def idxNamed (l : List (Symbol × Nat)) (k : Bytes) : List Nat := (l.filter fun p => p.1.2 == k).map (·.2)

/-- folding `nameMapAppend` over `l`: under key `k` the map gains the indices of `l` named `k`, in order, after what
    it held, and stays as it was when `l` has none -/
theorem nameMap_foldl (l : List (Symbol × Nat)) (k : Bytes) : ∀ m : List (Bytes × List Nat),
    nameMapGet (l.foldl (fun m (p : Symbol × Nat) => nameMapAppend m p.1.2 p.2) m) k
      = if idxNamed l k = [] then nameMapGet m k else some ((nameMapGet m k).getD [] ++ idxNamed l k) := by
  induction l with
  | nil => intro m; simp [idxNamed]
  | cons p l ih =>
    intro m
    rw [List.foldl_cons, ih, nameMapGet_append]
    by_cases hp : p.1.2 = k
    · have hb : (p.1.2 == k) = true := by simpa using hp
      simp only [idxNamed, List.filter_cons, hb, if_true, List.map_cons, hp] at *
      by_cases hl : List.map (fun x => x.2) (List.filter (fun p => p.1.2 == k) l) = []
      · simp [hl]
      · simp [hl]
    · have hb : (p.1.2 == k) = false := by simpa using hp
      simp only [idxNamed, List.filter_cons, hb, hp, if_false] at *
      simp

theorem buildNameMap_get (syms : List Symbol) (k : Bytes) :
    nameMapGet (buildNameMap syms) k
      = if idxNamed syms.zipIdx k = [] then none else some (idxNamed syms.zipIdx k) := by
  have := nameMap_foldl syms.zipIdx k []
  simp only [buildNameMap]
  have hfun : (fun (m : List (Bytes × List Nat)) (x : Symbol × Nat) =>
      match x with | (s, i) => nameMapAppend m s.2 i) = (fun m (p : Symbol × Nat) => nameMapAppend m p.1.2 p.2) := by
    funext m x; obtain ⟨s, i⟩ := x; rfl
  rw [hfun, this]
  simp [nameMapGet]

theorem idxNamed_eq_byName (syms : List Symbol) (k : Bytes) :
    idxNamed syms.zipIdx k = byName (syms.map (·.2)) k := by
  simp only [idxNamed, byName, List.zipIdx_map, List.filter_map, List.map_map]
  rfl

theorem byName_lt (names : List Bytes) (k : Bytes) : ∀ i ∈ byName names k, i < names.length := by
  intro i hi
  simp only [byName, List.mem_map, List.mem_filter] at hi
  obtain ⟨p, ⟨hp, _⟩, rfl⟩ := hi
  have := List.mem_zipIdx hp
  omega

/-! ### a symbol source: any `get_symbol` that answers `sym j` for `j < n`

  Enumeration and lookup by name use the table only through `get_symbol`; the raw model, the decoding model and
  the whole-file objects are instances. -/

def srcNames (sym : Nat → Symbol) (n : Nat) : List Bytes := (List.range n).map fun j => (sym j).2

theorem byNameFrom_ok {getSym : Nat → R Symbol} {sym : Nat → Symbol} {n : Nat}
    (hget : ∀ j, j < n → getSym j = .ok (sym j)) (name : Bytes) :
    getSymbolByNameFrom getSym (buildNameMap ((List.range n).map sym)) name
      = .ok (if byName (srcNames sym n) name = [] then none else some ((byName (srcNames sym n) name).map sym)) := by
  have hn : ((List.range n).map sym).map (·.2) = srcNames sym n := List.map_map
  rw [getSymbolByNameFrom, buildNameMap_get, idxNamed_eq_byName, hn]
  cases hl : byName (srcNames sym n) name with
  | nil => rfl
  | cons i is =>
    have hm := Engine.mapM_ok_of_forall _ getSym sym fun i hi => hget i (by
      simpa [srcNames] using byName_lt (srcNames sym n) name i (hl ▸ hi))
    simp only [reduceCtorEq, if_false, bind, Except.bind, hm]
    rfl

theorem srcNames_symObs {dec : String → Int → Option String} {cls : Nat} {es : List SymE} {names : List Bytes}
    (h : names.length = es.length) : srcNames (symObs dec cls es names) es.length = names :=
  List.ext_getElem (by simp [srcNames, h]) fun i _ h2 => by
    simp [srcNames, symObs, List.getD_eq_getElem?_getD, List.getElem?_eq_getElem h2]

theorem layout_byName {le : Bool} {cls : Nat} {data : Bytes} {h : SecHdr} {strOff : Nat} {es : List SymE}
    {names : List Bytes} (env : Env) {S : ElfStructs} (hS : S.Elf_Sym = symCon le cls)
    (L : SymtabLayout le cls data h strOff es names) (name : Bytes) :
    getSymbolByName S env data h strOff name
      = .ok (if byName names name = [] then none
             else some ((byName names name).map (symObs env.enumDecode cls es names))) := by
  simp only [getSymbolByName, layout_iterSymbols env hS L, bind, Except.bind]
  rw [byNameFrom_ok (layout_getSymbol env hS L), srcNames_symObs L.nlen]

/-! The first bearer of `name` on an index list `l` that holds exactly the indices `lo ≤ i < n`: what a hash look-up
  answers (GNU: `l` ascending from `symoffset`; System V over a built table: descending from `n - 1`). -/

section findNamed
variable {names : List Bytes} {name : Bytes} {l : List Nat} {lo n : Nat} (hl : ∀ i, i ∈ l ↔ lo ≤ i ∧ i < n)
include hl

theorem findNamed_some {j : Nat} (h : (l.find? fun i => names.getD i [] == name) = some j) :
    lo ≤ j ∧ j < n ∧ names.getD j [] = name :=
  have hm := (hl j).mp (List.mem_of_find?_eq_some h)
  ⟨hm.1, hm.2, by simpa using List.find?_some h⟩

theorem findNamed_none (h : (l.find? fun i => names.getD i [] == name) = none) (i : Nat) (h1 : lo ≤ i) (h2 : i < n) :
    names.getD i [] ≠ name := by
  simpa using List.find?_eq_none.mp h i ((hl i).mpr ⟨h1, h2⟩)

theorem findNamed_sound_complete {sym : Nat → Symbol} {r : Option Symbol}
    (hr : r = (l.find? fun i => names.getD i [] == name).map sym) :
    (∀ s, r = some s → ∃ j, lo ≤ j ∧ j < n ∧ names.getD j [] = name ∧ s = sym j)
      ∧ (r = none ↔ ∀ i, lo ≤ i → i < n → names.getD i [] ≠ name)
      ∧ (∀ i, lo ≤ i → i < n → names.getD i [] = name → ∃ j, lo ≤ j ∧ j < n ∧ names.getD j [] = name ∧ r = some (sym j)) := by
  subst hr
  cases hf : l.find? fun i => names.getD i [] == name with
  | none =>
    have habs := findNamed_none hl hf
    exact ⟨(fun s hs => by cases hs), ⟨fun _ => habs, fun _ => rfl⟩, fun i h1 h2 h3 => absurd h3 (habs i h1 h2)⟩
  | some j =>
    obtain ⟨h1, h2, h3⟩ := findNamed_some hl hf
    exact ⟨fun s hs => ⟨j, h1, h2, h3, (Option.some.inj hs).symm⟩,
      ⟨(fun h => by cases h), fun habs => absurd h3 (habs j h1 h2)⟩, fun _ _ _ _ => ⟨j, h1, h2, h3, rfl⟩⟩

end findNamed

theorem spec_word (c : ElfCfg) : (Spec.elfStructs c).Elf_word = .uint 4 c.le := rfl

theorem getSectionIndex_ok (env : Env) {S : ElfStructs} {le : Bool} (hW : S.Elf_word = .uint 4 le) (data : Bytes)
    (h : SecHdr) (n w : Nat) (rest : Bytes)
    (hw : w < 2 ^ 32) (hd : data.drop (h.off + n * h.entsize) = encNat le 4 w ++ rest) :
    getSectionIndex S env data h n = .ok (.int w) := by
  simp only [getSectionIndex, hW, structParse, parse_uint_enc hd (show w < 256 ^ 4 by omega), bind, Except.bind,
    pure, Except.pure]

def syminfoCon (le : Bool) : Con :=
  .struct (.cons (some "si_boundto") false (.enum (.uint 2 le) "ENUM_SUNW_SYMINFO_BOUNDTO" true)
    (.cons (some "si_flags") false (.uint 2 le) .nil))

theorem spec_syminfo (c : ElfCfg) : (Spec.elfStructs c).Elf_Sunw_Syminfo = syminfoCon c.le := rfl

theorem syminfo_entry_ok (env : Env) {S : ElfStructs} {le : Bool} (hI : S.Elf_Sunw_Syminfo = syminfoCon le)
    (data : Bytes) (pos b fl : Nat) (rest : Bytes)
    (hb : b < 65536) (hf : fl < 65536) (hd : data.drop pos = encSyminfo le [(b, fl)] ++ rest) :
    structParse env S.Elf_Sunw_Syminfo data pos = .ok (obsSyminfo env.enumDecode (b, fl), pos + 4) := by
  have h0 : data.drop pos = encNat le 2 b ++ (encNat le 2 fl ++ rest) := by
    rw [hd]; simp [encSyminfo, List.append_assoc]
  rw [hI]
  exact (ReadsF.struct (.named (reads_enum_uint (by omega : b < 256 ^ 2)) <| .named (Reads.uint (by omega : fl < 256 ^ 2)) .nil)
    (by simp [Fields.set])).structParse h0

end PyElf.Proofs

/-! The syminfo and extended-index whole-table lemmas bear the namespace `Proofs.C03` of their fixed definitions
  (`SyminfoLayout`, `syminfoObs`); what stands before this point is in `Proofs`. -/

namespace PyElf.Proofs.C03
open PyElf PyElf.Spec PyElf.Model PyElf.Proofs

/-- entries `si` at stride `sh_entsize`; entry 0 is the version record -/
structure SyminfoLayout (le : Bool) (data : Bytes) (h : SecHdr) (si : List (Nat × Nat)) : Prop where
  entpos : 0 < h.entsize
  size : h.size = si.length * h.entsize
  wf : ∀ i (hi : i < si.length), si[i].1 < 65536 ∧ si[i].2 < 65536
  entry : ∀ i (hi : i < si.length), ∃ rest, data.drop (h.off + i * h.entsize) = encSyminfo le [si[i]] ++ rest

theorem encSyminfo_one_length (le : Bool) (e : Nat × Nat) : (encSyminfo le [e]).length = 4 := by
  simp [encSyminfo, encNat_length]

theorem drop_encSyminfo {data : Bytes} {le : Bool} {rest : Bytes} (si : List (Nat × Nat)) (pos k : Nat)
    (hk : k < si.length) (hd : data.drop pos = encSyminfo le si ++ rest) :
    ∃ rest', data.drop (pos + k * 4) = encSyminfo le [si[k]] ++ rest' := by
  have hsi : encSyminfo le si = si.flatMap fun e => encSyminfo le [e] := by simp [encSyminfo]
  rw [hsi] at hd
  exact ⟨_, Engine.drop_entry (fun e _ => encSyminfo_one_length le e) hk hd⟩

theorem syminfoLayout_packed (le : Bool) (data : Bytes) (h : SecHdr) (si : List (Nat × Nat)) (rest : Bytes)
    (hent : h.entsize = 4) (hsize : h.size = si.length * 4)
    (hwf : ∀ e ∈ si, e.1 < 65536 ∧ e.2 < 65536) (hd : data.drop h.off = encSyminfo le si ++ rest) :
    SyminfoLayout le data h si where
  entpos := by omega
  size := by rw [hent]; exact hsize
  wf := fun i hi => hwf _ (List.getElem_mem hi)
  entry := fun i hi => by rw [hent]; exact drop_encSyminfo si h.off i hi hd

section syminfo
variable {le : Bool} {cls : Nat} {data : Bytes} {h symH : SecHdr} {strOff : Nat} {es : List SymE} {names : List Bytes}
variable {si : List (Nat × Nat)} (env : Env) {S : ElfStructs} (hS : S.Elf_Sym = symCon le cls)
  (hI : S.Elf_Sunw_Syminfo = syminfoCon le)
include hS hI

omit hS hI in
theorem syminfoNum_ok (LS : SyminfoLayout le data h si) : syminfoNum h = .ok ((si.length : Int) - 1) := by
  have := LS.entpos
  have hne : ¬ h.entsize = 0 := by omega
  simp only [syminfoNum, hne, if_false, LS.size]
  rw [Nat.mul_div_cancel _ LS.entpos]

/-- the entry of this table, the name of symbol `i` of the linked table -/
def syminfoObs (dec : String → Int → Option String) (si : List (Nat × Nat)) (names : List Bytes) (i : Nat) : Symbol :=
  (obsSyminfo dec (si.getD i (0, 0)), names.getD i [])

theorem syminfoGet_ok (L : SymtabLayout le cls data symH strOff es names) (LS : SyminfoLayout le data h si)
    (i : Nat) (hi : i < si.length) (hie : i < es.length) :
    syminfoGet S env data h symH strOff i = .ok (syminfoObs env.enumDecode si names i) := by
  obtain ⟨rest, hd⟩ := LS.entry i hi
  obtain ⟨hb, hf⟩ := LS.wf i hi
  have hp := syminfo_entry_ok env hI data (h.off + i * h.entsize) si[i].1 si[i].2 rest hb hf hd
  simp only [syminfoGet, hp, layout_getSymbol env hS L i hie, bind, Except.bind, pure, Except.pure]
  simp [syminfoObs, symObs, List.getD_eq_getElem?_getD, List.getElem?_eq_getElem hi]

theorem syminfoIter_ok (L : SymtabLayout le cls data symH strOff es names) (LS : SyminfoLayout le data h si)
    (hle : si.length ≤ es.length) :
    syminfoIter S env data h symH strOff
      = .ok ((List.range' 1 (si.length - 1)).map (syminfoObs env.enumDecode si names)) := by
  simp only [syminfoIter, syminfoNum_ok LS, bind, Except.bind]
  have ht : ((si.length : Int) - 1).toNat = si.length - 1 := by omega
  rw [ht]
  exact collectRange_ok _ (syminfoObs env.enumDecode si names) (si.length - 1) 1
    (fun i h1 h2 => syminfoGet_ok env hS hI L LS i (by omega) (by omega))

end syminfo

theorem shndx_table_ok (env : Env) {S : ElfStructs} {le : Bool} (hW : S.Elf_word = .uint 4 le) (data : Bytes) (h : SecHdr)
    (ws : List Nat) (rest : Bytes)
    (hent : h.entsize = 4) (hws : ∀ w ∈ ws, w < 2 ^ 32) (hd : data.drop h.off = encShndx le ws ++ rest)
    (n : Nat) (hn : n < ws.length) :
    getSectionIndex S env data h n = .ok (.int ws[n]) := by
  have hr := Engine.drop_entry (enc := encNat le 4) (fun w _ => encNat_length le 4 w) hn hd
  exact getSectionIndex_ok env hW data h n ws[n] _ (hws _ (List.getElem_mem hn)) (by rw [hent]; exact hr)

end PyElf.Proofs.C03
