/-
  Region lists of an image (`sortRegions`, `regionsDisjoint`: Spec/ElfImage.lean) under sorting and under taking a part: a
  stable sort commutes with sublists (`sort_sublist`), so a part of a family that is disjoint when sorted is so too
  (`regionsDisjoint_sublist`), and a family listed in file order may be checked unsorted (`regions_ok_of`).  Both
  are facts about descriptions that no property theorem needs (`container_disjoint`, Proofs/DynamicRegions.lean, is the
  one consumer).  The lemmas stand in the namespace `PyElf.Proofs.Dynamic`.
-/
import PyElf.Spec.ElfImage
namespace PyElf.Proofs.Dynamic
open PyElf PyElf.Spec

def rle (a b : Nat × Bytes) : Bool := decide (a.1 ≤ b.1)

theorem rle_trans (a b c : Nat × Bytes) : rle a b = true → rle b c = true → rle a c = true := by
  simp only [rle, decide_eq_true_eq]; omega

theorem rle_total (a b : Nat × Bytes) : (rle a b || rle b a) = true := by
  simp only [rle, Bool.or_eq_true, decide_eq_true_eq]; omega

theorem sortRegions_eq (rs : List (Nat × Bytes)) : sortRegions rs = rs.mergeSort rle := rfl

theorem sort_sublist {l' l : List (Nat × Bytes)} (h : l'.Sublist l) : (sortRegions l').Sublist (sortRegions l) := by
  induction h with
  | slnil => simp [sortRegions]
  | @cons l' l a h ih =>
    obtain ⟨l₁, l₂, h₁, h₂, -⟩ := List.mergeSort_cons rle_trans rle_total a l
    rw [sortRegions_eq, sortRegions_eq] at *
    rw [h₁]
    rw [h₂] at ih
    exact ih.middle a
  | @cons_cons l' l a h ih =>
    -- the sort puts `a` between the elements before it (`!rle a b`) and the others; filtering the sublist relation of the
    -- tails by that test gives it for the two sides separately
    obtain ⟨l₁, l₂, h₁, h₂, h₃⟩ := List.mergeSort_cons rle_trans rle_total a l
    obtain ⟨m₁, m₂, k₁, k₂, k₃⟩ := List.mergeSort_cons rle_trans rle_total a l'
    have s1 := List.pairwise_mergeSort rle_trans rle_total (a :: l)
    have s2 := List.pairwise_mergeSort rle_trans rle_total (a :: l')
    rw [sortRegions_eq, sortRegions_eq] at *
    rw [h₁] at s1 ⊢
    rw [k₁] at s2 ⊢
    rw [h₂, k₂] at ih
    have hl₂ : ∀ b ∈ l₂, rle a b = true := by
      intro b hb
      have := (List.pairwise_append.1 s1).2.1
      exact List.rel_of_pairwise_cons this hb
    have hm₂ : ∀ b ∈ m₂, rle a b = true := by
      intro b hb
      have := (List.pairwise_append.1 s2).2.1
      exact List.rel_of_pairwise_cons this hb
    have f1 : (l₁ ++ l₂).filter (fun b => !rle a b) = l₁ := by
      rw [List.filter_append, List.filter_eq_self.2 (fun b hb => h₃ b hb),
        List.filter_eq_nil_iff.2 (fun b hb => by simp [hl₂ b hb])]
      simp
    have f2 : (m₁ ++ m₂).filter (fun b => !rle a b) = m₁ := by
      rw [List.filter_append, List.filter_eq_self.2 (fun b hb => k₃ b hb),
        List.filter_eq_nil_iff.2 (fun b hb => by simp [hm₂ b hb])]
      simp
    have g1 : (l₁ ++ l₂).filter (fun b => rle a b) = l₂ := by
      rw [List.filter_append, List.filter_eq_self.2 (fun b hb => hl₂ b hb),
        List.filter_eq_nil_iff.2 (fun b hb => by have := h₃ b hb; simpa using this)]
      simp
    have g2 : (m₁ ++ m₂).filter (fun b => rle a b) = m₂ := by
      rw [List.filter_append, List.filter_eq_self.2 (fun b hb => hm₂ b hb),
        List.filter_eq_nil_iff.2 (fun b hb => by have := k₃ b hb; simpa using this)]
      simp
    have u1 : m₁.Sublist l₁ := by
      have := ih.filter (fun b => !rle a b)
      rwa [f1, f2] at this
    have u2 : m₂.Sublist l₂ := by
      have := ih.filter (fun b => rle a b)
      rwa [g1, g2] at this
    exact u1.append (u2.cons_cons a)

theorem disjoint_pairwise : ∀ l : List (Nat × Bytes), l.Pairwise (fun a b => rle a b = true) →
    regionsDisjoint l = true → l.Pairwise (fun a b => a.1 + a.2.length ≤ b.1)
  | [], _, _ => List.Pairwise.nil
  | [_], _, _ => by simp
  | (o1, b1) :: (o2, b2) :: rest, hs, hd => by
    simp only [regionsDisjoint, Bool.and_eq_true, decide_eq_true_eq] at hd
    have ih := disjoint_pairwise ((o2, b2) :: rest) (List.Pairwise.of_cons hs) hd.2
    refine List.Pairwise.cons ?_ ih
    intro c hc
    rcases List.mem_cons.1 hc with rfl | hc'
    · exact hd.1
    · have h2 : rle (o2, b2) c = true := List.rel_of_pairwise_cons (List.Pairwise.of_cons hs) hc'
      simp only [rle, decide_eq_true_eq] at h2
      simp only
      omega

theorem pairwise_disjoint : ∀ l : List (Nat × Bytes), l.Pairwise (fun a b => a.1 + a.2.length ≤ b.1) →
    regionsDisjoint l = true
  | [], _ => rfl
  | [_], _ => rfl
  | (o1, b1) :: (o2, b2) :: rest, h => by
    simp only [regionsDisjoint, Bool.and_eq_true, decide_eq_true_eq]
    exact ⟨List.rel_of_pairwise_cons h (a' := (o2, b2)) (by simp), pairwise_disjoint _ (List.Pairwise.of_cons h)⟩

theorem regionsDisjoint_sublist {l' l : List (Nat × Bytes)} (h : l'.Sublist l)
    (hd : regionsDisjoint (sortRegions l) = true) : regionsDisjoint (sortRegions l') = true := by
  have hs : (sortRegions l).Pairwise (fun a b => rle a b = true) := List.pairwise_mergeSort rle_trans rle_total l
  exact pairwise_disjoint _ ((disjoint_pairwise _ hs hd).sublist (sort_sublist h))

theorem disjoint_sorted : ∀ rs : List (Nat × Bytes), regionsDisjoint rs = true →
    rs.Pairwise (fun a b => rle a b = true)
  | [], _ => List.Pairwise.nil
  | [_], _ => by simp
  | (o1, b1) :: (o2, b2) :: rest, hd => by
    simp only [regionsDisjoint, Bool.and_eq_true, decide_eq_true_eq] at hd
    have ih := disjoint_sorted ((o2, b2) :: rest) hd.2
    refine List.Pairwise.cons ?_ ih
    intro c hc
    rcases List.mem_cons.1 hc with rfl | hc'
    · simp only [rle, decide_eq_true_eq]; omega
    · have h2 : rle (o2, b2) c = true := List.rel_of_pairwise_cons ih hc'
      simp only [rle, decide_eq_true_eq] at h2 ⊢
      omega

theorem regions_ok_of {o : Option (List (Nat × Bytes))}
    (h : (match o with | some rs => regionsDisjoint rs | none => false) = true) :
    (match o with | some rs => regionsDisjoint (sortRegions rs) | none => false) = true := by
  cases o with
  | none => simp at h
  | some rs =>
    simp only at h ⊢
    rw [sortRegions_eq, List.mergeSort_of_pairwise (disjoint_sorted rs h)]
    exact h

end PyElf.Proofs.Dynamic
