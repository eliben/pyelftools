/-
  The abbreviation table (`_parse_abbrev_table`) on `encAbbrevs`, and what it needs of the enum registry: `namesOf` (how a
  registry presents tag / attribute / form numbers), `EnumOK`, `BaseNames`.  The dict the table parses to (`abbrevMap`) is
  a fold of `upsert`; under distinct codes it is the table itself.
-/
import PyElf.Core.Construct
import PyElf.Spec.DieTree
import PyElf.Spec.DwarfStructs
import PyElf.Model.Die
import PyElf.Proofs.Primitives
import PyElf.Proofs.Reads
import PyElf.Proofs.DwarfParseNat
import PyElf.Proofs.Upsert
namespace PyElf.Proofs.C04
open PyElf PyElf.Spec PyElf.Spec.C04 PyElf.Model PyElf.Model.C04 PyElf.Proofs PyElf.Proofs.Engine

/-- the presentation of numbers an enum registry `ed` (= `Env.enumDecode`) induces -/
def namesOf (ed : String → Int → Option String) : Names :=
  { tag := fun n => enumVal ed "ENUM_DW_TAG" n, at_ := fun n => enumVal ed "ENUM_DW_AT" n,
    form := fun n => enumVal ed "ENUM_DW_FORM" n }

/-- what the abbreviation parser needs from the registry: the two child-flag names, and that the
    names the struct's lambdas compare against (`DW_AT_null`, `DW_FORM_null`,
    `DW_FORM_implicit_const`) belong to the standard's numbers and to no other -/
structure EnumOK (ed : String → Int → Option String) : Prop where
  children0 : ed "ENUM_DW_CHILDREN" 0 = some "DW_CHILDREN_no"
  children1 : ed "ENUM_DW_CHILDREN" 1 = some "DW_CHILDREN_yes"
  at_null : ∀ n : Nat, ed "ENUM_DW_AT" n = some "DW_AT_null" ↔ n = 0
  form_null : ∀ n : Nat, ed "ENUM_DW_FORM" n = some "DW_FORM_null" ↔ n = 0
  form_implicit : ∀ n : Nat, ed "ENUM_DW_FORM" n = some "DW_FORM_implicit_const" ↔ n = 0x21

structure BaseNames (nm : Names) : Prop where
  strOffsets : ∀ k, (nm.at_ k == Val.str "DW_AT_str_offsets_base") = (k == 0x72)
  addr : ∀ k, (nm.at_ k == Val.str "DW_AT_addr_base") = (k == 0x73)
  rnglists : ∀ k, (nm.at_ k == Val.str "DW_AT_rnglists_base") = (k == 0x74)
  loclists : ∀ k, (nm.at_ k == Val.str "DW_AT_loclists_base") = (k == 0x8c)

theorem enumVal_beq_str (ed : String → Int → Option String) (tbl : String) (n : Int) (s : String) :
    (enumVal ed tbl n == Val.str s) = decide (ed tbl n = some s) := by
  unfold enumVal
  cases h : ed tbl n with
  | none => simp [BEq.beq, Val.beq]
  | some t =>
    by_cases e : t = s <;> simp [BEq.beq, Val.beq, e]

theorem namesOf_refl (ed : String → Int → Option String) (k : Nat) :
    ((namesOf ed).at_ k == (namesOf ed).at_ k) = true := by
  show (enumVal ed "ENUM_DW_AT" k == enumVal ed "ENUM_DW_AT" k) = true
  unfold enumVal
  cases ed "ENUM_DW_AT" k <;> simp [BEq.beq, Val.beq]

theorem namesOf_tag (ed : String → Int → Option String) (x : Nat) : (namesOf ed).tag x ≠ Val.none := by
  show enumVal ed "ENUM_DW_TAG" x ≠ Val.none
  unfold enumVal
  cases ed "ENUM_DW_TAG" x <;> simp

def specCon : Con :=
  .struct (.cons (some "name") false (.enum .uleb "ENUM_DW_AT" true)
          (.cons (some "form") false (.enum .uleb "ENUM_DW_FORM" true)
          (.cons (some "value") false
            (.ifThenElse (.eq (.ctx "form") (.str "DW_FORM_implicit_const")) .sleb (.value .none)) .nil)))

def specPred : Expr :=
  .and (.eq (.objFld "name") (.str "DW_AT_null")) (.eq (.objFld "form") (.str "DW_FORM_null"))

def declCon (le : Bool) : Con :=
  .struct (.cons (some "tag") false (.enum .uleb "ENUM_DW_TAG" true)
          (.cons (some "children_flag") false (.enum (.uint 1 le) "ENUM_DW_CHILDREN" false)
          (.cons (some "attr_spec") false (.repeatUntilExcl specPred specCon) .nil)))

theorem declCon_eq (c : DwarfCfg) : (Spec.dwarfStructs c).Dwarf_abbrev_declaration = declCon c.le := rfl
theorem the_uleb_eq (c : DwarfCfg) : (Spec.dwarfStructs c).the_Dwarf_uleb128 = .uleb := rfl

/-- the clauses of `wfAbbrevs`, by name -/
structure WfAbbrevs (ds : List AbbrevDecl) (endLen : Nat) : Prop where
  decls : ∀ d ∈ ds, wfDecl d = true
  nodup : (ds.map (·.code)).Nodup
  endLen : 1 ≤ endLen

theorem wfAbbrevs_parts {ds : List AbbrevDecl} {endLen : Nat} (h : wfAbbrevs ds endLen = true) : WfAbbrevs ds endLen := by
  simp only [wfAbbrevs, Bool.and_eq_true, decide_eq_true_eq, List.all_eq_true] at h
  exact ⟨h.1.1, h.1.2, h.2⟩

theorem wfNode_decl {c : DwarfCfg} {n : Node} (h : wfNode c n = true) : wfDecl n.decl = true := by
  simp only [wfNode, Bool.and_eq_true] at h; exact h.1.1

theorem wfNode_code {c : DwarfCfg} {n : Node} (h : wfNode c n = true) : ulebFits n.codeLen n.decl.code = true := by
  simp only [wfNode, Bool.and_eq_true] at h; exact h.1.2

theorem wfNode_attrs {c : DwarfCfg} {n : Node} (h : wfNode c n = true) : wfAttrs c n.decl.specs n.attrs = true := by
  simp only [wfNode, Bool.and_eq_true] at h; exact h.2

theorem encSpec_length_pos (s : AttrSpec) (h : wfSpec s = true) : 1 ≤ (encSpec s).length := by
  simp only [wfSpec, Bool.and_eq_true, ulebFits_iff] at h
  simp only [encSpec, List.length_append, encUlebN_length]
  omega

def specRec (ed : String → Int → Option String) (a f : Nat) (v : Val) : Val :=
  .record [("name", enumVal ed "ENUM_DW_AT" a), ("form", enumVal ed "ENUM_DW_FORM" f), ("value", v)]

theorem specVal_eq (ed : String → Int → Option String) (s : AttrSpec) :
    specVal (namesOf ed) s = specRec ed s.name s.form (if s.form = FORM_implicit_const then .int s.const else .none) := rfl

theorem specPred_eval {ed : String → Int → Option String} (hok : EnumOK ed) (ctx : Fields) (a f : Nat) (v : Val) :
    (specPred.eval ctx (specRec ed a f v)).map Val.truthy = .ok (decide (a = 0 ∧ f = 0)) := by
  have ha := enumVal_beq_str ed "ENUM_DW_AT" a "DW_AT_null"
  have hf := enumVal_beq_str ed "ENUM_DW_FORM" f "DW_FORM_null"
  simp only [specPred, specRec, Expr.eval, Val.getField, Fields.getR, Fields.get?, bind, Except.bind, pure, Except.pure,
    if_true, ha, hf, hok.at_null, hok.form_null, Val.truthy, Except.map, String.reduceEq, if_false]
  by_cases h0 : a = 0 <;> by_cases h1 : f = 0 <;> simp [h0, h1]

/-- both an attribute specification and the `(0, 0)` pair that ends the list; the constant is read for
    `DW_FORM_implicit_const` only -/
theorem spec_reads {env : Env} (hok : EnumOK env.enumDecode) {ctx : Fields} {pos a f al fl cl : Nat} {cv : Int} {out : Bytes}
    (hal : ulebFits al a = true) (hfl : ulebFits fl f = true)
    (hc : f = FORM_implicit_const → 1 ≤ cl ∧ -((2 ^ (7 * cl - 1) : Nat) : Int) ≤ cv ∧ cv < ((2 ^ (7 * cl - 1) : Nat) : Int)) :
    Reads (pr env specCon) ctx pos
      (encUlebN al a ++ (encUlebN fl f ++ ((if f = FORM_implicit_const then encSlebN cl cv else []) ++ out)))
      (specRec env.enumDecode a f (if f = FORM_implicit_const then .int cv else .none))
      (pos + al + fl + if f = FORM_implicit_const then cl else 0) out ctx := by
  rw [ulebFits_iff] at hal hfl
  have hcond : (Expr.eq (.ctx "form") (.str "DW_FORM_implicit_const")).eval
      (Fields.set (Fields.set [] "name" (enumVal env.enumDecode "ENUM_DW_AT" a)) "form"
        (enumVal env.enumDecode "ENUM_DW_FORM" f)) .none = .ok (.bool (decide (f = 0x21))) := by
    simp [Expr.eval, Fields.getR, Fields.get?_set, bind, Except.bind, pure, Except.pure, enumVal_beq_str, hok.form_implicit]
  exact ReadsF.struct (.named (Reads.enum_pass (Reads.uleb hal.1 hal.2)) <| .named (Reads.enum_pass (Reads.uleb hfl.1 hfl.2)) <|
    .named (Reads.ifc (p := f = FORM_implicit_const) hcond fun h => Reads.sleb (hc h).1 (hc h).2.1 (hc h).2.2) .nil)
    (by simp [Fields.set, specRec])

theorem parse_spec {env : Env} (hok : EnumOK env.enumDecode) {ctx : Fields} {pos : Nat} (s : AttrSpec) {out : Bytes}
    (hwf : wfSpec s = true) :
    Reads (pr env specCon) ctx pos (encSpec s ++ out) (specVal (namesOf env.enumDecode) s) (pos + (encSpec s).length) out
      ctx := by
  simp only [wfSpec, Bool.and_eq_true, Bool.or_eq_true, bne_iff_ne, ne_eq, decide_eq_true_eq] at hwf
  obtain ⟨⟨⟨hn, hf⟩, _⟩, hc⟩ := hwf
  have hc' : s.form = FORM_implicit_const → 1 ≤ s.constLen ∧ -((2 ^ (7 * s.constLen - 1) : Nat) : Int) ≤ s.const ∧
      s.const < ((2 ^ (7 * s.constLen - 1) : Nat) : Int) :=
    fun h => hc.elim (fun hne => absurd h hne) fun hc => ⟨hc.1.1, hc.1.2, hc.2⟩
  refine (spec_reads hok hn hf hc').as (by simp [encSpec, List.append_assoc]) (specVal_eq ..) ?_
  simp only [encSpec, List.length_append, encUlebN_length]
  by_cases h : s.form = FORM_implicit_const
  · rw [if_pos h, if_pos h, encSlebN_length]; omega
  · rw [if_neg h, if_neg h, List.length_nil]; omega

theorem parse_spec_end {env : Env} (hok : EnumOK env.enumDecode) {ctx : Fields} {pos : Nat} {out : Bytes} :
    Reads (pr env specCon) ctx pos ([0, 0] ++ out) (specRec env.enumDecode 0 0 .none) (pos + 2) out ctx :=
  (spec_reads hok (a := 0) (f := 0) (al := 1) (fl := 1) (cl := 0) (cv := 0) (by decide) (by decide) (by decide)).as
    (by rfl) (by rfl) (by rfl)

theorem encDecl_length_pos (d : AbbrevDecl) : 1 ≤ (encDecl d).length := by
  simp only [encDecl, List.length_append, List.length_cons, List.length_nil, encUlebN_length]; omega

theorem parse_decl {env : Env} (hok : EnumOK env.enumDecode) {data : Bytes} {pos : Nat} (le : Bool)
    (d : AbbrevDecl) {tail : Bytes} (hwf : wfDecl d = true)
    (hd : data.drop pos = encUlebN d.tagLen d.tag ++ ([if d.children then 1 else 0] ++
            (d.specs.flatMap encSpec ++ ([0, 0] ++ tail)))) :
    structParse env (declCon le) data pos
      = .ok (declVal (namesOf env.enumDecode) d, pos + d.tagLen + 1 + (d.specs.flatMap encSpec).length + 2) := by
  simp only [wfDecl, Bool.and_eq_true, decide_eq_true_eq, List.all_eq_true] at hwf
  obtain ⟨⟨⟨_, _⟩, htag⟩, hspecs⟩ := hwf
  rw [ulebFits_iff] at htag
  have hname : env.enumDecode "ENUM_DW_CHILDREN" ((if d.children then 1 else 0 : Nat) : Int)
      = some (if d.children then "DW_CHILDREN_yes" else "DW_CHILDREN_no") := by
    cases d.children
    · simpa using hok.children0
    · simpa using hok.children1
  have hflag : ([if d.children then 1 else 0] : Bytes) = [UInt8.ofNat (if d.children then 1 else 0)] := by
    cases d.children <;> rfl
  rw [hflag] at hd
  unfold declCon
  exact (ReadsF.struct (.named (Reads.enum_pass (Reads.uleb htag.1 htag.2)) <|
    .named (Reads.enum_named (Reads.byte (by split <;> decide)) hname) <|
    .named (Reads.repeatUntil (xs := d.specs) (enc := encSpec) (obs := specVal (namesOf env.enumDecode))
      (fun s hs _ _ => ⟨parse_spec hok s (hspecs s hs), by
        have hg := hspecs s hs
        rw [specVal_eq, specPred_eval hok]
        simp only [wfSpec, Bool.and_eq_true, Bool.not_eq_true', Bool.and_eq_false_iff, beq_eq_false_iff_ne] at hg
        have hne : ¬ (s.name = 0 ∧ s.form = 0) := fun ⟨a, b⟩ => hg.1.2.elim (fun h => h a) (fun h => h b)
        simp [hne], encSpec_length_pos s (hspecs s hs)⟩)
      (fun _ => parse_spec_end hok) (by rw [specPred_eval hok]; simp)) .nil)
    (by simp [Fields.set, namesOf])).structParse hd

/-- the dict `_parse_abbrev_table` builds: later declarations overwrite earlier ones with the same code -/
def abbrevMapFrom (nm : Names) (m : List (Nat × Val)) (ds : List AbbrevDecl) : List (Nat × Val) :=
  ds.foldl (fun m d => mapSet m d.code (declVal nm d)) m

def abbrevMap (nm : Names) (ds : List AbbrevDecl) : List (Nat × Val) := abbrevMapFrom nm [] ds

theorem encDecl_eq (d : AbbrevDecl) (tail : Bytes) :
    encDecl d ++ tail = encUlebN d.codeLen d.code ++ (encUlebN d.tagLen d.tag ++ ([if d.children then 1 else 0] ++
      (d.specs.flatMap encSpec ++ ([0, 0] ++ tail)))) := by
  simp [encDecl, List.append_assoc]

theorem encDecl_length (d : AbbrevDecl) :
    (encDecl d).length = d.codeLen + (d.tagLen + 1 + (d.specs.flatMap encSpec).length + 2) := by
  simp only [encDecl, List.length_append, List.length_cons, List.length_nil, encUlebN_length]; omega

theorem abbrevLoop_encoded {env : Env} (hok : EnumOK env.enumDecode) (c : DwarfCfg) {data rest : Bytes} {endLen : Nat}
    (hend : 1 ≤ endLen) :
    ∀ (ds : List AbbrevDecl) (fuel pos : Nat) (m : List (Nat × Val)), (∀ d ∈ ds, wfDecl d = true) →
      ds.length + 1 ≤ fuel → data.drop pos = ds.flatMap encDecl ++ (encUlebN endLen 0 ++ rest) →
      abbrevLoop env (Spec.dwarfStructs c) data fuel pos m = .ok (abbrevMapFrom (namesOf env.enumDecode) m ds) := by
  intro ds
  induction ds with
  | nil =>
    intro fuel pos m _ hf hd
    cases fuel with
    | zero => omega
    | succ fuel =>
      have h0 := parseNat_ulebN (env := env) (show data.drop pos = encUlebN endLen 0 ++ rest by simpa using hd)
        (by rw [ulebFits_iff]; exact ⟨hend, Nat.pos_of_neZero _⟩)
      rw [abbrevLoop, the_uleb_eq, h0]
      simp [bind, Except.bind, pure, Except.pure, abbrevMapFrom]
  | cons d ds ih =>
    intro fuel pos m hwf hf hd
    cases fuel with
    | zero => omega
    | succ fuel =>
      have hwd := hwf d (by simp)
      have hd0 : data.drop pos = encDecl d ++ (ds.flatMap encDecl ++ (encUlebN endLen 0 ++ rest)) := by
        simpa [List.append_assoc] using hd
      have hd1 := hd0
      rw [encDecl_eq] at hd1
      have hwd' := hwd
      simp only [wfDecl, Bool.and_eq_true, decide_eq_true_eq] at hwd'
      have h0 := parseNat_ulebN (env := env) hd1 hwd'.1.1.2
      have hd2 := drop_add_of_drop hd1
      rw [encUlebN_length] at hd2
      have h1 := parse_decl hok c.le d hwd hd2
      have hne : ¬ d.code = 0 := by omega
      have hnext : data.drop (pos + d.codeLen + d.tagLen + 1 + (d.specs.flatMap encSpec).length + 2)
          = ds.flatMap encDecl ++ (encUlebN endLen 0 ++ rest) := by
        have := drop_add_of_drop hd0
        rw [encDecl_length] at this
        rw [← this]; congr 1; omega
      rw [abbrevLoop, the_uleb_eq, h0]
      simp only [bind, Except.bind, hne, if_false, declCon_eq, h1]
      rw [ih fuel _ _ (fun x hx => hwf x (by simp [hx])) (by simp at hf; omega) hnext]
      rfl

theorem encAbbrevs_length_ge (ds : List AbbrevDecl) (endLen : Nat) :
    ds.length + endLen ≤ (encAbbrevs ds endLen).length := by
  have := flatMap_length_ge encDecl ds (fun d _ => encDecl_length_pos d)
  simp only [encAbbrevs, List.length_append, encUlebN_length]; omega

theorem parseAbbrevTable_encoded {env : Env} (hok : EnumOK env.enumDecode) (c : DwarfCfg) {data rest : Bytes}
    {off endLen : Nat} (ds : List AbbrevDecl) (hwf : ∀ d ∈ ds, wfDecl d = true) (hend : 1 ≤ endLen)
    (hoff : off < 2 ^ 63) (hd : data.drop off = encAbbrevs ds endLen ++ rest) :
    parseAbbrevTable env (Spec.dwarfStructs c) data off = .ok (abbrevMap (namesOf env.enumDecode) ds) := by
  have hl := length_of_drop hd
  have hge := encAbbrevs_length_ge ds endLen
  rw [List.length_append] at hl
  have hns : ¬ off ≥ 2 ^ 63 := by omega
  unfold parseAbbrevTable seekCheck
  simp only [hns, if_false, bind, Except.bind]
  exact abbrevLoop_encoded hok c (rest := rest) hend ds _ off [] hwf (by omega)
    (by rw [hd]; simp [encAbbrevs, List.append_assoc])

theorem getAbbrevTable_encoded {env : Env} (hok : EnumOK env.enumDecode) (c : DwarfCfg) {data rest : Bytes}
    {off endLen : Nat} (ds : List AbbrevDecl) (hwf : ∀ d ∈ ds, wfDecl d = true) (hend : 1 ≤ endLen)
    (hoff : off < 2 ^ 63) (hd : data.drop off = encAbbrevs ds endLen ++ rest) :
    getAbbrevTable env (Spec.dwarfStructs c) (some data) off = .ok (abbrevMap (namesOf env.enumDecode) ds) := by
  have hl := length_of_drop hd
  have hge := encAbbrevs_length_ge ds endLen
  rw [List.length_append] at hl
  have hlt : off < data.length := by omega
  unfold getAbbrevTable
  simp only [hlt, not_true_eq_false, if_false]
  exact parseAbbrevTable_encoded hok c ds hwf hend hoff hd

theorem mapSet_eq_upsert (m : List (Nat × Val)) (k : Nat) (v : Val) : mapSet m k v = upsert m k v := by
  induction m with
  | nil => rfl
  | cons p m ih => obtain ⟨k', v'⟩ := p; simp [mapSet, upsert, ih]

theorem abbrevMapFrom_nodup (nm : Names) (ds : List AbbrevDecl) (m : List (Nat × Val))
    (hm : ∀ d ∈ ds, d.code ∉ m.map (·.1)) (hn : (ds.map (·.code)).Nodup) :
    abbrevMapFrom nm m ds = m ++ ds.map (fun d => (d.code, declVal nm d)) := by
  have e : abbrevMapFrom nm m ds
      = (ds.map fun d => (d.code, declVal nm d)).foldl (fun m p => upsert m p.1 p.2) m := by
    unfold abbrevMapFrom
    rw [List.foldl_map]
    congr 1
    funext m d
    exact mapSet_eq_upsert m d.code _
  rw [e]
  apply foldl_upsert_nodup
  · intro p hp
    obtain ⟨d, hd, rfl⟩ := List.mem_map.1 hp
    exact hm d hd
  · rw [List.map_map]
    exact hn

theorem abbrevMap_nodup (nm : Names) (ds : List AbbrevDecl) (h : (ds.map (·.code)).Nodup) :
    abbrevMap nm ds = ds.map (fun d => (d.code, declVal nm d)) := by
  unfold abbrevMap
  rw [abbrevMapFrom_nodup nm ds [] (by simp) h]; simp

theorem mapGet_table (nm : Names) : ∀ (ds : List AbbrevDecl) (d : AbbrevDecl), d ∈ ds → (ds.map (·.code)).Nodup →
    mapGet? (ds.map (fun d => (d.code, declVal nm d))) d.code = some (declVal nm d) := by
  intro ds
  induction ds with
  | nil => intro d h; simp at h
  | cons x ds ih =>
    intro d hd hn
    rw [List.map_cons, List.nodup_cons] at hn
    rcases List.mem_cons.1 hd with rfl | hd'
    · simp [mapGet?]
    · have hne : ¬ x.code = d.code := fun e => hn.1 (e ▸ List.mem_map_of_mem hd')
      have hb : ((x.code, declVal nm x).1 == d.code) = false := by simpa using hne
      have := ih d hd' hn.2
      unfold mapGet? at this ⊢
      rw [List.map_cons, List.find?_cons, hb]
      exact this

theorem mapGet_abbrevMap (nm : Names) (ds : List AbbrevDecl) (d : AbbrevDecl) (hd : d ∈ ds)
    (hn : (ds.map (·.code)).Nodup) : mapGet? (abbrevMap nm ds) d.code = some (declVal nm d) := by
  rw [abbrevMap_nodup nm ds hn]; exact mapGet_table nm ds d hd hn

end PyElf.Proofs.C04
