/-
  C17, the range-marker rule: the Bool check the kernel evaluates implies the Prop-level rule of
  Spec/RegistryMarkers.lean, and the rule transfers to `decodeKey` (Nat-keyed tables) and to `Model.decodeIn`
  (String-keyed tables).  `markerWalk` is the check with the codes that have a real name collected once.
  (Namespace `PyElf.Proofs.Registry`, continued from Proofs/Registry.lean.)
-/
import PyElf.Spec.RegistryMarkers
import PyElf.Proofs.ListFacts
import PyElf.Model.Env
namespace PyElf.Proofs.Registry
open PyElf.Spec

theorem hasValue3_eq_false {v : Int} : ∀ {l : List (Nat × Int × Bool)}, (∀ e ∈ l, e.2.1 ≠ v) → hasValue3 v l = false
  | [], _ => rfl
  | (_, x, _) :: l, h => by
    have hd : decide (x = v) = false := decide_eq_false (h _ List.mem_cons_self)
    simp only [hasValue3, hd]
    exact hasValue3_eq_false fun e he => h e (List.mem_cons_of_mem _ he)

theorem decodeEntry_split {M : List (Nat × Int × Bool)} {v : Int} {k' : Nat} {b : Bool}
    (h : decodeEntry M v = some (k', b)) : ∃ A B, M = A ++ (k', v, b) :: B ∧ hasValue3 v B = false := by
  obtain ⟨A, ⟨k, x, m⟩, B, hM, hx, hk, hB⟩ :=
    Engine.foldl_last_none (fun e : Nat × Int × Bool => e.2.1) (fun e => (e.1, e.2.2)) (T := M) (v := v) h
  cases hk
  exact ⟨A, B, by rw [hM, ← hx], hasValue3_eq_false hB⟩

theorem allMarkers_true {v : Int} : ∀ {M : List (Nat × Int × Bool)}, allMarkers v M = true →
    ∀ k b, (k, v, b) ∈ M → b = true
  | [], _, k, b, hm => by simp at hm
  | (k0, x, m) :: rest, h, k, b, hm => by
    simp only [allMarkers] at h
    by_cases hx : x = v
    · have hd : decide (x = v) = true := by simp [hx]
      rw [hd] at h
      simp only at h
      cases m with
      | false => simp at h
      | true =>
        simp only at h
        rcases List.mem_cons.mp hm with he | hm'
        · have := (Prod.mk.inj (Prod.mk.inj he).2).2
          exact this
        · exact allMarkers_true h k b hm'
    · have hd : decide (x = v) = false := by simp [hx]
      rw [hd] at h
      simp only at h
      rcases List.mem_cons.mp hm with he | hm'
      · have := (Prod.mk.inj (Prod.mk.inj he).2).1
        exact absurd this.symm hx
      · exact allMarkers_true h k b hm'

theorem noMarkerShadowFrom_last {M B : List (Nat × Int × Bool)} {k' : Nat} {v : Int}
    (hB : hasValue3 v B = false) : ∀ (A : List (Nat × Int × Bool)),
    noMarkerShadowFrom M (A ++ (k', v, true) :: B) = true → allMarkers v M = true
  | [], h => by
    simp only [List.nil_append, noMarkerShadowFrom, hB, Bool.false_or] at h
    cases hm : allMarkers v M with
    | true => rfl
    | false => rw [hm] at h; simp at h
  | (k0, v0, m0) :: A, h => by
    simp only [List.cons_append, noMarkerShadowFrom] at h
    apply noMarkerShadowFrom_last hB A
    cases m0 with
    | false => exact h
    | true =>
      simp only at h
      split at h
      · exact h
      · simp at h

theorem noMarkerShadow_sound {M : List (Nat × Int × Bool)} (h : noMarkerShadow M = true) : NoMarkerShadow M := by
  intro v k' hdec
  obtain ⟨A, B, hM, hB⟩ := decodeEntry_split hdec
  exact allMarkers_true (noMarkerShadowFrom_last hB A (by rw [← hM]; exact h))

theorem attachMarkers_keys : ∀ {T : List (Nat × Int)} {ms : List Bool} {M : List (Nat × Int × Bool)},
    attachMarkers T ms = some M → M.map (fun e => (e.1, e.2.1)) = T
  | [], [], M, h => by
    simp only [attachMarkers] at h
    cases h; rfl
  | [], _ :: _, M, h => by simp [attachMarkers] at h
  | _ :: _, [], M, h => by simp [attachMarkers] at h
  | (k, v) :: T, m :: ms, M, h => by
    simp only [attachMarkers] at h
    cases ha : attachMarkers T ms with
    | none => rw [ha] at h; simp at h
    | some M' =>
      rw [ha] at h
      simp only [Option.some.injEq] at h
      subst h
      simp [attachMarkers_keys ha]

def realVals : List (Nat × Int × Bool) → List Int
  | [] => []
  | (_, v, m) :: rest => match m with | true => realVals rest | false => v :: realVals rest

theorem allMarkers_eq (v : Int) : ∀ M : List (Nat × Int × Bool), allMarkers v M = !memInt v (realVals M)
  | [] => rfl
  | (_, x, m) :: rest => by
    have ih := allMarkers_eq v rest
    cases m
    · -- a real name: it is in the list exactly when it bears `v`
      simp only [allMarkers, realVals, memInt]
      cases decide (x = v)
      · exact ih
      · rfl
    · -- a marker: the list is that of the rest
      simp only [allMarkers, realVals]
      cases decide (x = v) <;> exact ih

/-- `noMarkerShadowFrom M` with `allMarkers v M` (one pass over `M` per marker) replaced by a lookup in
    `rv = realVals M`, asked before the walk over the rest -/
def markerWalk (rv : List Int) : List (Nat × Int × Bool) → Bool
  | [] => true
  | (_, v, m) :: rest =>
    match m with
    | false => markerWalk rv rest
    | true =>
      match !(memInt v rv) || hasValue3 v rest with
      | true => markerWalk rv rest
      | false => false

theorem markerWalk_eq (M : List (Nat × Int × Bool)) : ∀ S, markerWalk (realVals M) S = noMarkerShadowFrom M S
  | [] => rfl
  | (_, v, m) :: rest => by
    cases m <;>
      simp only [markerWalk, noMarkerShadowFrom, allMarkers_eq, markerWalk_eq M rest,
        Bool.or_comm (!memInt v (realVals M))]
    rfl

def markerWalkB (T : List (Nat × Int)) (ms : List Bool) : Bool :=
  match attachMarkers T ms with
  | some M => markerWalk (realVals M) M
  | none => false

theorem markerWalkB_elim {T : List (Nat × Int)} {ms : List Bool} (h : markerWalkB T ms = true) :
    ∃ M, attachMarkers T ms = some M ∧ NoMarkerShadow M := by
  unfold markerWalkB at h
  cases ha : attachMarkers T ms with
  | none => rw [ha] at h; simp at h
  | some M =>
    rw [ha] at h
    exact ⟨M, rfl, noMarkerShadow_sound (by rw [noMarkerShadow, ← markerWalk_eq]; exact h)⟩

theorem decodeEntry_key (M : List (Nat × Int × Bool)) (v : Int) :
    (decodeEntry M v).map (·.1) = decodeKey (M.map (fun e => (e.1, e.2.1))) v := by
  rw [decodeKey, List.foldl_map]
  exact Engine.foldl_last_map (fun e : Nat × Int × Bool => e.2.1) (fun e => (e.1, e.2.2)) (·.1) v M none

/-- Nat-keyed tables: the name `Enum` decoding reports for a code is not a range marker
    unless all names of that code are.  `b` is the marker flag of the reported name. -/
theorem reported_key_not_marker {T : List (Nat × Int)} {ms : List Bool} {M : List (Nat × Int × Bool)}
    (ha : attachMarkers T ms = some M) (h : NoMarkerShadow M) {v : Int} {k' : Nat} (hd : decodeKey T v = some k') :
    ∃ b, decodeEntry M v = some (k', b) ∧ (b = true → ∀ k b', (k, v, b') ∈ M → b' = true) := by
  have hk := decodeEntry_key M v
  rw [attachMarkers_keys ha, hd] at hk
  cases he : decodeEntry M v with
  | none => rw [he] at hk; simp at hk
  | some kb =>
    obtain ⟨k, b⟩ := kb
    rw [he] at hk
    simp only [Option.map_some, Option.some.injEq] at hk
    subst hk
    refine ⟨b, rfl, ?_⟩
    intro hb
    subst hb
    exact h v k he

theorem decodeIn_entry (t : List (String × Int)) (v : Int) :
    decodeEntry (markTable t) v = (Model.decodeIn t v).map fun n => (nameKey n, isRangeMarker n) := by
  rw [decodeEntry, markTable, List.foldl_map]
  exact (Engine.foldl_last_map (fun e : String × Int => e.2) (·.1) (fun n => (nameKey n, isRangeMarker n)) v t none).symm

/-- String-keyed tables, the form the readers use: if the table obeys the rule, the name
    `decodeIn` reports for a code is not a range marker unless ALL names the table gives that code are -/
theorem decodeIn_not_marker {t : List (String × Int)} (h : NoMarkerShadow (markTable t)) {v : Int} {n : String}
    (hd : Model.decodeIn t v = some n) (hm : isRangeMarker n = true) :
    ∀ n', (n', v) ∈ t → isRangeMarker n' = true := by
  intro n' hn'
  have he : decodeEntry (markTable t) v = some (nameKey n, true) := by
    rw [decodeIn_entry, hd]; simp [hm]
  have hmem : (nameKey n', v, isRangeMarker n') ∈ markTable t :=
    List.mem_map.mpr ⟨(n', v), hn', rfl⟩
  exact h v (nameKey n) he (nameKey n') (isRangeMarker n') hmem

theorem decodeIn_real_name {t : List (String × Int)} (h : NoMarkerShadow (markTable t)) {v : Int} {n' : String}
    (hn' : (n', v) ∈ t) (hr : isRangeMarker n' = false) {n : String} (hd : Model.decodeIn t v = some n) :
    isRangeMarker n = false := by
  cases hm : isRangeMarker n with
  | false => rfl
  | true => have := decodeIn_not_marker h hd hm n' hn'; rw [hr] at this; cases this

end PyElf.Proofs.Registry
