/-
  Signature references.  `_parse_debug_types` files the type units of `.debug_types` and then the DWARF 5 type units of
  `.debug_info` by signature, a later one replacing an earlier one (`filed`); `get_DIE_by_sig8` answers with the last
  filed unit carrying the signature (`dieBySig8_last`), on a well-formed forest: `sig8_filed`.
-/
import PyElf.Proofs.DieSection
namespace PyElf.Proofs.C04
open PyElf PyElf.Spec PyElf.Spec.C04 PyElf.Spec.Lookup PyElf.Model PyElf.Model.Lookup PyElf.Model.C04 PyElf.Proofs
  PyElf.Proofs.Engine PyElf.Proofs.Lookup

theorem unitSig_of_signature {h : Val} {s : Int} (hs : h.getInt "signature" = .ok s) : unitSig h = .ok s := by
  unfold unitSig; rw [hs]

theorem getInt_record_absent {fs : Fields} {k : String} (h : Fields.get? fs k = none) :
    (Val.record fs).getInt k = .error .keyError := by
  simp [Val.getInt, Val.getField, Fields.getR, h, bind, Except.bind]

/-- a `Dwarf_CU_header` container has no field `signature`: the key is `type_signature` -/
theorem unitSig_unitHdrVal (le : Bool) (u : InfoUnit) :
    unitSig (unitHdrVal le u) = (unitHdrVal le u).getInt "type_signature" := by
  have hno : (unitHdrVal le u).getInt "signature" = .error .keyError := by
    unfold unitHdrVal
    split
    · exact getInt_record_absent (by simp [Fields.get?])
    · refine getInt_record_absent ?_
      by_cases h45 : u.utype = 4 ∨ u.utype = 5
      · simp [h45, Fields.get?]
      · by_cases h26 : u.utype = 2 ∨ u.utype = 6 <;> simp [h45, h26, Fields.get?]
  unfold unitSig
  rw [hno]

theorem unitHdrVal_typeSig (le : Bool) (u : InfoUnit) (h5 : 5 ≤ u.version) (ht : u.utype = 2 ∨ u.utype = 6) :
    unitSig (unitHdrVal le u) = .ok (u.id8 : Int) := by
  rw [unitSig_unitHdrVal, unitHdrVal_id8 le u h5 ht]

theorem utName_isType {k : Nat} {s : String} (h : utName k = some s) :
    (s == "DW_UT_type" || s == "DW_UT_split_type") = (k == 2 || k == 6) := by
  rcases utName_cases h with ⟨rfl, rfl⟩ | ⟨rfl, rfl⟩ | ⟨rfl, rfl⟩ | ⟨rfl, rfl⟩ | ⟨rfl, rfl⟩ | ⟨rfl, rfl⟩ <;> decide

theorem utName_none {k : Nat} (h : utName k = none) : (k == 2 || k == 6) = false := by
  cases hk : (k == 2 || k == 6) with
  | false => rfl
  | true =>
    simp only [Bool.or_eq_true, beq_iff_eq] at hk
    rcases hk with rfl | rfl <;> cases h

/-- `cu.header.get('unit_type') in ('DW_UT_type', 'DW_UT_split_type')`: below version 5 the header has no `unit_type`;
    from 5 on it holds the type's name -/
theorem isV5TypeUnit_infoUnit (le : Bool) (off : Nat) (u : InfoUnit) :
    isV5TypeUnit (cuOf le off u) = (decide (5 ≤ u.version) && (u.utype == 2 || u.utype == 6)) := by
  unfold isV5TypeUnit cuOf unitHdrVal
  by_cases h5 : u.version < 5
  · have h5' : ¬ 5 ≤ u.version := by omega
    simp [h5, h5', Val.getField, Fields.getR, Fields.get?]
  · have h5' : 5 ≤ u.version := by omega
    simp only [h5, if_false, h5', decide_true, Bool.true_and]
    rw [Val.getField_record_get? (v := match utName u.utype with | some s => .str s | none => .int u.utype)
      (by simp [Fields.get?]; rfl)]
    cases hn : utName u.utype with
    | none => simp only [utName_none hn]
    | some s => simp only [utName_isType hn]

theorem isTypeV5_iff (u : UnitDesc) : u.isTypeV5 = true ↔ 5 ≤ u.version ∧ (u.utype = 2 ∨ u.utype = 6) := by
  unfold UnitDesc.isTypeV5
  simp only [Bool.and_eq_true, decide_eq_true_eq, Bool.or_eq_true, beq_iff_eq]

theorem dieBySig8_skip (G : UnitCtx → Nat → R DieObs) (pre post : List (CU × R UnitCtx)) (sig : Int)
    (hlast : ∀ p ∈ post, unitSig p.1.header ≠ .ok sig) :
    dieBySig8 G (pre ++ post) none sig = dieBySig8 G pre none sig := by
  unfold dieBySig8
  simp only [bind, Except.bind, pure, Except.pure, List.foldl_append]
  rw [Engine.foldl_const _ post _ (fun acc p hp => by
    obtain ⟨cu', rU'⟩ := p
    have hne := hlast _ hp
    simp only at hne ⊢
    cases hg : unitSig cu'.header with
    | error e => rfl
    | ok s =>
      have : ¬ s = sig := fun e => hne (by rw [hg, e])
      simp [this])]

theorem dieBySig8_last (G : UnitCtx → Nat → R DieObs) (pre post : List (CU × R UnitCtx)) (cu : CU) (U : UnitCtx)
    (sig : Int) (to : Nat) (hsig : unitSig cu.header = .ok sig)
    (hlast : ∀ p ∈ post, unitSig p.1.header ≠ .ok sig) (hto : cu.header.getNat "type_offset" = .ok to)
    (d : DieObs) (hG : G U (cu.cuOffset + to) = .ok d) :
    dieBySig8 G (pre ++ (cu, .ok U) :: post) none sig = .ok (cu.cuOffset, d) := by
  rw [show pre ++ (cu, .ok U) :: post = (pre ++ [(cu, .ok U)]) ++ post by simp, dieBySig8_skip G _ post sig hlast]
  unfold dieBySig8
  simp only [bind, Except.bind, pure, Except.pure, List.foldl_append, List.foldl_cons, List.foldl_nil, hsig, if_true, hto, hG]

/-- in filing order: the type units of `.debug_types` (marked `true`), then the DWARF 5 type units of `.debug_info` -/
def filed (F : Forest) : List (Bool × Nat × UnitDesc) :=
  (placeTypes F 0 F.tus).map (Prod.mk true) ++ ((placeInfo F 0 F.units).filter fun p => p.2.isTypeV5).map (Prod.mk false)

def filedKind (F : Forest) : Bool → UnitKind
  | true => typesKind F
  | false => infoKind F

section filed
variable {ed : String → Int → Option String} {r2n : Nat → Option String} (hR : RegistryOK ed r2n) (F : Forest) {dasz : Nat}
  {B : Bundles} (hB : BundlesOK B F.le dasz) (hwf : WfForest (namesOf ed) F)
include hR

theorem filedKind_ok (t : Bool) : (filedKind F t).OK F ed := by
  cases t
  · exact infoKind_ok F hR.ut
  · exact typesKind_ok F ed

omit hR in
theorem filedKind_sec {nm : Names} (hwf : WfForest nm F) (t : Bool) :
    SecOf nm F (filedKind F t) := by
  cases t
  · exact hwf.info
  · exact hwf.types

omit hR in
theorem mem_filed {x : Bool × Nat × UnitDesc} (hx : x ∈ filed F) :
    x.2 ∈ place (filedKind F x.1).size 0 (filedKind F x.1).units
      ∧ unitSig ((filedKind F x.1).cu x.2.1 x.2.2).header = .ok (x.2.2.id8 : Int)
      ∧ ((filedKind F x.1).cu x.2.1 x.2.2).header.getNat "type_offset" = .ok x.2.2.typeOff := by
  rcases List.mem_append.1 hx with h | h
  · obtain ⟨p, hp, rfl⟩ := List.mem_map.1 h
    exact ⟨placeTypes_eq F _ _ ▸ hp, unitSig_of_signature (tuHdrVal_signature _ _ _), tuHdrVal_typeOff _ _ _⟩
  · obtain ⟨p, hp, rfl⟩ := List.mem_map.1 h
    obtain ⟨hp1, hp2⟩ := List.mem_filter.1 hp
    have h5 := (isTypeV5_iff p.2).1 hp2
    exact ⟨placeInfo_eq F _ _ ▸ hp1, unitHdrVal_typeSig _ _ h5.1 h5.2, unitHdrVal_typeOff _ _ h5.1 h5.2⟩

include hB hwf

theorem sigUnits_forest :
    sigUnits (dinfoOf F dasz ed r2n B.structsOf) B.S0
      = ((filed F).map fun x => ((filedKind F x.1).cu x.2.1 x.2.2,
          (.ok (ctxOf F ed r2n B (filedKind F x.1).sec x.2.2 x.2.1 ((filedKind F x.1).dieOff x.2.1 x.2.2)
            ((filedKind F x.1).size x.2.2)) : R UnitCtx)), none) := by
  unfold sigUnits
  have ht : (dinfoOf F dasz ed r2n B.structsOf).types = some (typesSec F) := rfl
  have hi : (dinfoOf F dasz ed r2n B.structsOf).info = some (infoSec F) := rfl
  rw [ht, hi, filed, placeTypes_eq, placeInfo_eq,
    show sectionUnits _ _ (some (typesSec F)) true = _ from sectionUnits_kind (typesKind_ok F ed) hB hwf.types.bytes hwf.typesHdr,
    show sectionUnits _ _ (some (infoSec F)) false = _ from sectionUnits_kind (infoKind_ok F hR.ut) hB hwf.info.bytes hwf.infoHdr]
  simp only [List.filter_map, List.map_append, List.map_map, Prod.mk.injEq, and_true]
  exact congrArg _ (congrArg (List.map _) (List.filter_congr fun (p : Nat × UnitDesc) _ => isV5TypeUnit_infoUnit F.le p.1 (infoUnitOf F p.2)))

theorem sig8_filed (G : UnitCtx → Nat → R DieObs) (hG : ∀ U o, U.cuDieOffset ≤ o → G U o = getCachedDIE U o)
    (pre post : List (Bool × Nat × UnitDesc)) (t : Bool) (p : Nat × UnitDesc) (hsplit : filed F = pre ++ (t, p) :: post)
    (hlast : ∀ q ∈ post, q.2.2.id8 ≠ p.2.id8) (d : DieObs)
    (hd : d ∈ flattenUnit (namesOf ed) (p.2.cfg F.le) (rho (p.2.cfg F.le) F.secs (basesOf p.2.tree.root))
      (rho (p.2.cfg F.le) F.secs (basesOf p.2.tree.root)) ((filedKind F t).dieOff p.1 p.2) p.2.tree)
    (hdx : d.offset = p.1 + p.2.typeOff) :
    sig8Lookup G (dinfoOf F dasz ed r2n B.structsOf) B.S0 (p.2.id8 : Int) = .ok (p.1, d) := by
  have hmem : ∀ q ∈ (t, p) :: post, q ∈ filed F := fun q hq => hsplit ▸ List.mem_append_right _ hq
  obtain ⟨hp, hsig, hto⟩ := mem_filed F (hmem _ List.mem_cons_self)
  -- `dieBySig8_last` speaks of `cu.cuOffset`; for either kind that is the placed offset `p.1` (`hoff`)
  have hoff := (filedKind_ok hR F t).off p.1 p.2
  have hGd := (kind_unit_exact (filedKind_ok hR F t) hB hR hwf (filedKind_sec F hwf t) p hp (G _) (fun o ho => hG _ o ho)).2 d hd
  unfold sig8Lookup
  rw [sigUnits_forest hR F hB hwf, hsplit, List.map_append, List.map_cons]
  refine (dieBySig8_last G _ _ _ _ (p.2.id8 : Int) p.2.typeOff hsig (fun q hq => ?_) hto d
    (by rw [hoff, ← hdx]; exact hGd)).trans (by rw [hoff])
  obtain ⟨q0, hq0, rfl⟩ := List.mem_map.1 hq
  rw [(mem_filed F (hmem q0 (List.mem_cons_of_mem _ hq0))).2.1]
  intro e
  injection e with e
  exact hlast q0 hq0 (by omega)

end filed

end PyElf.Proofs.C04
