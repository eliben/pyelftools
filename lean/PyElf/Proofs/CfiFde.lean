/-
  One FDE of either section kind, at any offset of any data (`fde_at`), as the stages of its branch: what `Fde.wf` gives in
  terms the two kinds share (`FdeFacts`), the header (`fdeHeader_df`, `fdeHeader_eh`, `fdeHeader_at`), the CIE — whatever
  `Fetches` says the pointer leads to (`fde_link`) —, the instructions (`fde_instrs_at`), and the rest with or without
  augmentation data (`fdeBody_aug`, `fdeBody_plain` of Proofs/CfiStages.lean).
-/
import PyElf.Proofs.CfiCie
namespace PyElf.Proofs.Cfi
open PyElf PyElf.Spec PyElf.Model PyElf.Proofs PyElf.Proofs.CfiBad PyElf.Proofs.Engine

theorem fdeEncOf_ok (asz : Nat) (items : List AugItem) (h : ∀ i ∈ items, AugItem.wf asz i = true) :
    encOk (fdeEncOf items) = true ∧ fdeEncOf items < 256 := by
  induction items with
  | nil => exact ⟨by decide, by decide⟩
  | cons i r ih =>
    have hr := ih (fun j hj => h j (List.mem_cons_of_mem _ hj))
    have hi := h i (List.mem_cons_self ..)
    cases i with
    | R e => simp only [AugItem.wf, Bool.and_eq_true, decide_eq_true_eq] at hi; exact hi
    | L e => exact hr
    | P e fn => exact hr
    | S => exact hr

theorem lsdaEncOf_ok (asz : Nat) (items : List AugItem) (h : ∀ i ∈ items, AugItem.wf asz i = true) :
    (encOk (lsdaEncOf items) = true ∨ lsdaEncOf items = 0xff) ∧ lsdaEncOf items < 256 := by
  induction items with
  | nil => exact ⟨.inr rfl, by decide⟩
  | cons i r ih =>
    have hr := ih (fun j hj => h j (List.mem_cons_of_mem _ hj))
    have hi := h i (List.mem_cons_self ..)
    cases i with
    | L e =>
      simp only [AugItem.wf, Bool.and_eq_true, decide_eq_true_eq, Bool.or_eq_true, beq_iff_eq] at hi
      exact hi
    | R e => exact hr
    | P e fn => exact hr
    | S => exact hr

theorem cie_encs_ok (sec : Section) (c : Cie) (hw : c.wf sec = true) :
    (encOk c.fdeEnc = true ∧ c.fdeEnc < 256) ∧ ((encOk c.lsdaEnc = true ∨ c.lsdaEnc = 0xff) ∧ c.lsdaEnc < 256) := by
  unfold Cie.fdeEnc Cie.lsdaEnc
  cases hau : c.aug with
  | none => exact ⟨⟨by decide, by decide⟩, ⟨.inr rfl, by decide⟩⟩
  | some items =>
    have h := (cieFacts_of_wf hw).items items hau
    exact ⟨fdeEncOf_ok sec.asz items h, lsdaEncOf_ok sec.asz items h⟩

theorem encOk_split {e : Nat} (h : encOk e = true) : baseOk e = true ∧ (e / 16 = 0 ∨ e / 16 = 1) := by
  simpa [encOk] using h

theorem encOk_ne_ff {e : Nat} (h : encOk e = true) : e ≠ 0xff := by
  intro he; subst he; revert h; decide

/-- The two kinds differ in the CIE id / CIE pointer convention and in how the two address fields are encoded
    (`fdeEncIn`: the CIE's FDE encoding in `.eh_frame`, a plain address in `.debug_frame`); augmentation data exists in
    `.eh_frame` only.  Everything after this record is said once for both. -/
structure FdeFacts (sec : Section) (off : Nat) (f : Fde) (c : Cie) : Prop where
  ptr : sec.ciePointer off f < 256 ^ offSize f.fmt64
  notCie : (if sec.eh then sec.ciePointer off f == 0
      else (fmtOf f.fmt64 == 32 && sec.ciePointer off f == 0xFFFFFFFF) || sec.ciePointer off f == 0xFFFFFFFFFFFFFFFF) = false
  link : (if sec.eh then (off : Int) + ((fmtOf f.fmt64 / 8 : Nat) : Int) - ((sec.ciePointer off f : Nat) : Int)
      else ((sec.ciePointer off f : Nat) : Int)) = (sec.offsetOf f.cie : Int)
  loc : ptrFits sec.asz (fdeEncIn sec c % 16) f.loc = true
  range : ptrFits sec.asz (fdeEncIn sec c % 16) f.range = true
  instrs : ∀ x ∈ f.instrs, Cfa.wf sec.asz x = true
  len : lenOk f.fmt64 (offSize f.fmt64 + (f.tail sec c).length) = true
  df : sec.eh = false → c.aug = none
  fmt32 : sec.eh = true → f.fmt64 = false
  augN : sec.eh = true → 1 ≤ f.augLenN
  augLen : sec.eh = true →
    (if c.lsdaEnc = 0xff then [] else encPtr sec.le sec.asz (c.lsdaEnc % 16) f.lsda).length < 2 ^ (7 * f.augLenN)
  lsda : sec.eh = true → c.lsdaEnc = 0xff ∨ ptrFits sec.asz (c.lsdaEnc % 16) f.lsda = true

theorem fdeFacts_of_wf {sec : Section} {off : Nat} {f : Fde} {c : Cie} (hc : sec.cieAt f.cie = some c)
    (hw : f.wf sec off = true) (hwc : c.wf sec = true) : FdeFacts sec off f c := by
  -- `Fde.wf` is an `if sec.eh`: each branch is unpacked once and its conjuncts restated over `fdeEncIn` and the pointer
  -- convention of its kind; the fields of the other kind are vacuous
  cases heh : sec.eh with
  | false =>
    simp only [Fde.wf, hc, heh, Bool.false_eq_true, if_false, Bool.and_eq_true, decide_eq_true_eq] at hw
    obtain ⟨⟨⟨⟨⟨hfl, hfr⟩, hkl⟩, hins⟩, _⟩, hlen⟩ := hw
    have hp : sec.ciePointer off f = sec.offsetOf f.cie := by simp [Section.ciePointer, heh]
    have he : fdeEncIn sec c % 16 = 0 := by simp [fdeEncIn, heh]
    exact
      { ptr := by rw [hp]; omega
        notCie := by
          rw [hp, heh]; revert hkl; unfold fmtOf offSize
          cases f.fmt64 <;> simp <;> omega
        link := by rw [hp, heh]; rfl
        loc := by rw [he]; exact hfl
        range := by rw [he]; exact hfr
        instrs := by simpa [List.all_eq_true] using hins
        len := hlen
        df := (cieFacts_of_wf hwc).df
        fmt32 := fun h => by rw [heh] at h; cases h
        augN := fun h => by rw [heh] at h; cases h
        augLen := fun h => by rw [heh] at h; cases h
        lsda := fun h => by rw [heh] at h; cases h }
  | true =>
    simp only [Fde.wf, hc, heh, if_true, Bool.and_eq_true, decide_eq_true_eq, Bool.not_eq_true', Bool.or_eq_true,
      beq_iff_eq] at hw
    obtain ⟨⟨⟨⟨⟨⟨⟨⟨⟨⟨h64, hback⟩, hfl⟩, hfr⟩, hlf⟩, hn⟩, hptr⟩, hal⟩, hins⟩, _⟩, hlen⟩ := hw
    have hp : sec.ciePointer off f = off + 4 - sec.offsetOf f.cie := by simp [Section.ciePointer, heh, h64, ilfs]
    have he : fdeEncIn sec c = c.fdeEnc := by simp [fdeEncIn, heh]
    exact
      { ptr := hptr
        notCie := by rw [heh, if_pos rfl, beq_eq_false_iff_ne]; omega
        link := by
          rw [heh, if_pos rfl, hp, h64]
          simp only [fmtOf, Bool.false_eq_true, if_false]
          omega
        loc := by rw [he]; exact hfl
        range := by rw [he]; exact hfr
        instrs := by simpa [List.all_eq_true] using hins
        len := hlen
        df := fun h => by rw [heh] at h; cases h
        fmt32 := fun _ => h64
        augN := fun _ => hn
        augLen := fun _ => hal
        lsda := fun _ => hlf }

theorem fde_tail_eq (sec : Section) (f : Fde) (c : Cie) :
    f.tail sec c = encPtr sec.le sec.asz (fdeEncIn sec c % 16) f.loc ++ (encPtr sec.le sec.asz (fdeEncIn sec c % 16) f.range
      ++ (f.augPart sec c ++ encInstrs sec.le sec.asz f.instrs)) := by
  unfold Fde.tail fdeEncIn
  cases sec.eh <;> simp [encPtr, List.append_assoc]

theorem encPtr0_length (le : Bool) (asz : Nat) (v : Int) : (encPtr le asz 0 v).length = asz := by
  simp [encPtr, encNat_length]

/-- `.debug_frame`: the four-field struct of the bundle; no entry is fetched -/
theorem fdeHeader_df (sec : Section) (env : Env) (data : Bytes) (heh : sec.eh = false)
    (recur : Int → Nat → Cache → R (Model.Entry × Nat × Cache)) (fmt64 : Bool) (L k : Nat) (loc range : Int) (tail : Bytes)
    (off : Nat) (cache : Cache)
    (hd : data.drop off = encLength sec.le fmt64 L ++ (encNat sec.le (offSize fmt64) k ++
      (encPtr sec.le sec.asz 0 loc ++ (encPtr sec.le sec.asz 0 range ++ tail))))
    (hlen : lenOk fmt64 L = true) (hk : k < 256 ^ offSize fmt64)
    (hfl : ptrFits sec.asz 0 loc = true) (hfr : ptrFits sec.asz 0 range = true) :
    parseFdeHeader (cfiOf sec env data) recur (Spec.dwarfStructs ⟨sec.le, fmtOf fmt64, sec.asz, 2⟩) (fmtOf fmt64) off cache
      = .ok ([("length", .int (L : Nat)), ("CIE_pointer", .int (k : Nat)), ("initial_location", .int loc),
              ("address_range", .int range)], off + ilfs fmt64 + offSize fmt64 + sec.asz + sec.asz, cache) := by
  have hhdr := sp_fde_full (env := env) (c := .uint sec.asz sec.le) hd hlen hk
    (fun _ _ _ => (ptr_reads (base := 0) rfl hfl).as rfl rfl (by rw [encPtr0_length]))
    (fun _ _ _ => (ptr_reads (base := 0) rfl hfr).as rfl rfl (by rw [encPtr0_length]))
  simp only [parseFdeHeader, cfiOf_eh, cfiOf_env, cfiOf_data, heh, Bool.not_false, if_true, fde_header_eq, fmtOf_div,
    hhdr, asFields, bind, Except.bind, pure, Except.pure]

/-- `.eh_frame`: length and CIE pointer, the CIE (`hlink`: whatever entry `ce` the pointer leads to), its FDE pointer
    encoding `E`, the four fields with the two addresses under `E`, the pc-relative adjustment -/
theorem fdeHeader_eh (sec : Section) (env : Env) (data : Bytes) (heh : sec.eh = true)
    (recur : Int → Nat → Cache → R (Model.Entry × Nat × Cache)) (L cp E : Nat) (loc range : Int) (rest : Bytes)
    (off : Nat) (cache cache' : Cache) (ce : Model.Entry) (aug : Option (List AugItem))
    (hd : data.drop off = encLength sec.le false L ++ (encNat sec.le 4 cp ++
      (encPtr sec.le sec.asz (E % 16) loc ++ (encPtr sec.le sec.asz (E % 16) range ++ rest))))
    (hlen : lenOk false L = true) (hptr : cp < 256 ^ 4) (hencok : encOk E = true) (h256 : E < 256)
    (hfl : ptrFits sec.asz (E % 16) loc = true) (hfr : ptrFits sec.asz (E % 16) range = true)
    (hlink : parseCieForFde (cfiOf sec env data) recur off [("length", .int (L : Nat)), ("CIE_pointer", .int (cp : Nat))] 32
      (off + 4 + 4) cache = .ok (ce, cache'))
    (had : ce.augDict = .ok (augDictObs sec.le sec.asz aug)) (hE : fdeEncOf (aug.getD []) = E) :
    parseFdeHeader (cfiOf sec env data) recur (Spec.dwarfStructs ⟨sec.le, 32, sec.asz, 2⟩) 32 off cache
      = .ok ([("length", .int (L : Nat)), ("CIE_pointer", .int (cp : Nat)),
              ("initial_location", .int (loc + if E / 16 % 8 = 1 then (sec.address : Int) + ((off + 4 + 4 : Nat) : Int) else 0)),
              ("address_range", .int range)],
             off + 4 + 4 + (encPtr sec.le sec.asz (E % 16) loc).length + (encPtr sec.le sec.asz (E % 16) range).length,
             cache') := by
  obtain ⟨hbase, hmod⟩ := encOk_split hencok
  obtain ⟨cc, hcc⟩ := ptrCon_of_baseOk sec.le sec.asz E hbase
  have hmin := sp_fde_min (env := env) hd hlen hptr
  have hfull := sp_fde_full (env := env) (c := cc) hd hlen hptr (fun _ _ _ => ptr_reads hcc hfl) (fun _ _ _ => ptr_reads hcc hfr)
  have hil : ilfs false = 4 := rfl
  rw [hil] at hmin hfull
  have hdict : (match Fields.get? (augDictObs sec.le sec.asz aug) "FDE_encoding" with
     | some v => v.asNat | none => (Except.ok 0 : R Nat)) = .ok E := hE ▸ dict_fdeEnc sec.le sec.asz aug
  have hne := encOk_ne_ff hencok
  have hm := and_f0_aux E h256
  have hef := ehField_spec sec.le 32 sec.asz 2 _ cc hcc
  unfold parseFdeHeader
  simp only [cfiOf_eh, cfiOf_env, cfiOf_data, cfiOf_T, heh, Bool.not_true, Bool.false_eq_true, if_false,
    dwarf_initlen_eq, dwarf_offset_eq, show (32 / 8 : Nat) = 4 from rfl, hmin, asFields, bind, Except.bind, pure, Except.pure,
    hlink, had, pe_absptr, pe_omit, pe_pcrel]
  -- the library takes `FDE_encoding` from the CIE's dictionary, or absptr when the key is absent; `hdict` says both give `E`
  cases hg : Fields.get? (augDictObs sec.le sec.asz aug) "FDE_encoding" with
  | none =>
    simp only [hg, Except.ok.injEq] at hdict
    subst hdict
    simp only [hne, and_0F, hef, List.cons_append, List.nil_append, hfull, hm, if_false]
    simp
  | some v =>
    simp only [hg] at hdict
    simp only [hdict, hne, and_0F, hef, List.cons_append, List.nil_append, hfull, hm, if_false]
    rcases hmod with h0 | h1
    · simp (config := { decide := true }) [h0]
    · simp (config := { decide := true }) [h1, Fields.getR, Fields.get?, Fields.set, Val.asInt]

theorem fdeHeader_eh_link_error (sec : Section) (env : Env) (data : Bytes) (heh : sec.eh = true)
    (recur : Int → Nat → Cache → R (Model.Entry × Nat × Cache)) (fmt64 : Bool) (L cp : Nat) (rest : Bytes) (off : Nat)
    (cache : Cache) (e : Err)
    (hd : data.drop off = encLength sec.le fmt64 L ++ (encNat sec.le (offSize fmt64) cp ++ rest))
    (hlen : lenOk fmt64 L = true) (hcp : cp < 256 ^ offSize fmt64)
    (hl : parseCieForFde (cfiOf sec env data) recur off [("length", .int (L : Nat)), ("CIE_pointer", .int (cp : Nat))]
      (fmtOf fmt64) (off + ilfs fmt64 + offSize fmt64) cache = .error e) :
    parseFdeHeader (cfiOf sec env data) recur (Spec.dwarfStructs ⟨sec.le, fmtOf fmt64, sec.asz, 2⟩) (fmtOf fmt64) off cache
      = .error e := by
  have hmin := sp_fde_min (env := env) hd hlen hcp
  simp only [parseFdeHeader, cfiOf_eh, cfiOf_env, cfiOf_data, heh, Bool.not_true, Bool.false_eq_true, if_false,
    dwarf_initlen_eq, dwarf_offset_eq, fmtOf_div, hmin, asFields, bind, Except.bind, pure, Except.pure, hl]

theorem fde_enc_eq (sec : Section) (off : Nat) (f : Fde) (c : Cie) (hc : sec.cieAt f.cie = some c) (rest : Bytes) :
    Spec.Entry.enc sec off (.fde f) ++ rest = encLength sec.le f.fmt64 (offSize f.fmt64 + (f.tail sec c).length) ++
      (encNat sec.le (offSize f.fmt64) (sec.ciePointer off f) ++ (encPtr sec.le sec.asz (fdeEncIn sec c % 16) f.loc ++
        (encPtr sec.le sec.asz (fdeEncIn sec c % 16) f.range ++ (f.augPart sec c ++ (encInstrs sec.le sec.asz f.instrs ++ rest))))) := by
  simp only [Entry.enc, hc, List.append_assoc]; rw [fde_tail_eq]; simp only [List.append_assoc]

def fdeAugStart (sec : Section) (off : Nat) (f : Fde) (c : Cie) : Nat :=
  off + ilfs f.fmt64 + offSize f.fmt64 + (encPtr sec.le sec.asz (fdeEncIn sec c % 16) f.loc).length
    + (encPtr sec.le sec.asz (fdeEncIn sec c % 16) f.range).length

theorem fdeLsdaOff_eq (sec : Section) (off : Nat) (f : Fde) (c : Cie) :
    fdeLsdaOff sec off f c = fdeAugStart sec off f c + fdeAugSkip sec f c := rfl

theorem fde_link {sec : Section} {env : Env} {data : Bytes} {f : Fde} {c : Cie} {off fuel : Nat} {I : Cache → Prop}
    (F : FdeFacts sec off f c)
    (hfetch : Fetches (cfiOf sec env data) fuel (sec.offsetOf f.cie) (mCie sec (sec.offsetOf f.cie) c) I)
    {hdr : Fields} (hp : Fields.getR hdr "CIE_pointer" = .ok (.int (sec.ciePointer off f))) (p : Nat) {ch : Cache} (h : I ch) :
    ∃ ch', parseCieForFde (cfiOf sec env data) (parseEntryAt (cfiOf sec env data) (fuel + 1)) off hdr (fmtOf f.fmt64) p ch
        = .ok (mCie sec (sec.offsetOf f.cie) c, ch') ∧ I ch' :=
  link_of_fetch hfetch hp (by rw [cfiOf_eh]; exact F.link) p h

/-- the cache changes in `.eh_frame` only, where the header cannot be read before the CIE is fetched -/
theorem fdeHeader_at (sec : Section) (env : Env) (data : Bytes) (f : Fde) (c : Cie) (off fuel : Nat) (cache : Cache)
    (rest : Bytes) (F : FdeFacts sec off f c) (hwc : c.wf sec = true)
    (hd : data.drop off = encLength sec.le f.fmt64 (offSize f.fmt64 + (f.tail sec c).length) ++
      (encNat sec.le (offSize f.fmt64) (sec.ciePointer off f) ++ (encPtr sec.le sec.asz (fdeEncIn sec c % 16) f.loc ++
        (encPtr sec.le sec.asz (fdeEncIn sec c % 16) f.range ++ rest))))
    {I : Cache → Prop} (hI : I cache)
    (hfetch : Fetches (cfiOf sec env data) fuel (sec.offsetOf f.cie) (mCie sec (sec.offsetOf f.cie) c) I) :
    ∃ cache1, parseFdeHeader (cfiOf sec env data) (parseEntryAt (cfiOf sec env data) (fuel + 1))
        (Spec.dwarfStructs ⟨sec.le, fmtOf f.fmt64, sec.asz, 2⟩) (fmtOf f.fmt64) off cache
        = .ok (fdeFields sec off f c, fdeAugStart sec off f c, cache1) ∧ I cache1 := by
  unfold fdeAugStart
  cases heh : sec.eh with
  | false =>
    have he : fdeEncIn sec c = 0 := by simp [fdeEncIn, heh]
    have h0 : fdeEncIn sec c % 16 = 0 := by rw [he]
    have hloc := F.loc; have hrange := F.range
    rw [h0] at hd hloc hrange ⊢
    refine ⟨cache, ?_, hI⟩
    rw [fdeHeader_df sec env data heh _ f.fmt64 _ _ f.loc f.range _ off cache hd F.len F.ptr hloc hrange]
    simp [fdeFields, pcrelAdj, encPtr0_length, he]
  | true =>
    have h64 := F.fmt32 heh
    obtain ⟨⟨hfe, hfe256⟩, -⟩ := cie_encs_ok sec c hwc
    have he : fdeEncIn sec c = c.fdeEnc := by simp [fdeEncIn, heh]
    rw [← he] at hfe hfe256
    have hptr := F.ptr; have hlen := F.len
    obtain ⟨cache1, hl, hI1⟩ := fde_link F hfetch (hdr := [("length", .int ((offSize f.fmt64 + (f.tail sec c).length : Nat) : Int)),
      ("CIE_pointer", .int (sec.ciePointer off f))]) rfl (off + 4 + 4) hI
    rw [h64] at hd hptr hlen hl ⊢
    refine ⟨cache1, ?_, hI1⟩
    rw [show fmtOf false = 32 from rfl] at hl ⊢
    rw [fdeHeader_eh sec env data heh _ _ _ (fdeEncIn sec c) f.loc f.range _ off cache cache1 _ c.aug hd hlen hptr hfe hfe256
      F.loc F.range hl (mCie_augDict ..) he.symm]
    simp [fdeFields, h64, offSize, ilfs, fdeLocOff, pcrelAdj]

theorem fde_aug_drop (sec : Section) (data : Bytes) (f : Fde) (c : Cie) (off : Nat) (rest : Bytes)
    (hc : sec.cieAt f.cie = some c) (hd : data.drop off = Spec.Entry.enc sec off (.fde f) ++ rest) :
    data.drop (fdeAugStart sec off f c) = f.augPart sec c ++ (encInstrs sec.le sec.asz f.instrs ++ rest) := by
  rw [fde_enc_eq sec off f c hc] at hd
  exact drop_after (drop_after (drop_after (drop_after hd (encLength_length ..)) (encNat_length ..)) rfl) rfl

/-- `P`, the end of the augmentation data, comes with an equation because the two cases of the FDE's rest reach it in
    different spellings -/
theorem fde_instrs_at (sec : Section) (env : Env) (data : Bytes) (f : Fde) (c : Cie) (off : Nat) (rest : Bytes)
    (hc : sec.cieAt f.cie = some c) (F : FdeFacts sec off f c)
    (hd : data.drop off = Spec.Entry.enc sec off (.fde f) ++ rest) (P : Nat)
    (hP : P = fdeAugStart sec off f c + (f.augPart sec c).length) :
    parseInstructions Spec.cfiTables (Spec.dwarfStructs ⟨sec.le, fmtOf f.fmt64, sec.asz, 2⟩) env data
      (off + (offSize f.fmt64 + (f.tail sec c).length) + (if fmtOf f.fmt64 = 32 then 4 else 12)) (data.length + 1 - P) P
      = .ok (f.instrs.map toInstr, off + Entry.size sec (.fde f)) := by
  -- `parseInstructions_ok` at `P`; what is left is arithmetic: the declared end is `P` plus the encoded instructions, and
  -- the fuel (one unit per remaining byte and one) exceeds their number
  have hdP : data.drop P = encInstrs sec.le sec.asz f.instrs ++ rest := by
    rw [hP]; exact drop_after (fde_aug_drop sec data f c off rest hc hd) rfl
  rw [fde_enc_eq sec off f c hc] at hd
  have hdl := length_of_drop hd
  simp only [List.length_append, encLength_length, encNat_length] at hdl
  have hi4 : 4 ≤ ilfs f.fmt64 := by unfold ilfs; split <;> omega
  have hil := instrs_length_le sec.le sec.asz f.instrs
  have htl : (f.tail sec c).length = (encPtr sec.le sec.asz (fdeEncIn sec c % 16) f.loc).length
      + (encPtr sec.le sec.asz (fdeEncIn sec c % 16) f.range).length + (f.augPart sec c).length
      + (encInstrs sec.le sec.asz f.instrs).length := by
    rw [fde_tail_eq]; simp only [List.length_append]; omega
  have hsize : Entry.size sec (.fde f) = ilfs f.fmt64 + offSize f.fmt64 + (f.tail sec c).length := by
    simp only [Entry.size, hc]
  unfold fdeAugStart at hP
  have := parseInstructions_ok (instrStructs_spec sec.le (fmtOf f.fmt64) sec.asz 2) env data f.instrs P
    (data.length + 1 - P) rest hdP F.instrs (by omega)
  rw [fmtOf_ilfs, hsize,
    show off + (offSize f.fmt64 + (f.tail sec c).length) + ilfs f.fmt64 = P + (encInstrs sec.le sec.asz f.instrs).length by omega,
    show off + (ilfs f.fmt64 + offSize f.fmt64 + (f.tail sec c).length) = P + (encInstrs sec.le sec.asz f.instrs).length by omega]
  exact this

theorem fde_at (sec : Section) (env : Env) (data : Bytes) (f : Fde) (c : Cie) (off fuel pos : Nat) (cache : Cache)
    (rest : Bytes) (hc : sec.cieAt f.cie = some c) (hw : f.wf sec off = true) (hwc : c.wf sec = true)
    (hd : data.drop off = Spec.Entry.enc sec off (.fde f) ++ rest)
    (hoff : off < 2 ^ 63) (hmiss : cache.get (off : Int) = none) {I : Cache → Prop} (hI : I cache)
    (hfetch : Fetches (cfiOf sec env data) fuel (sec.offsetOf f.cie) (mCie sec (sec.offsetOf f.cie) c) I) :
    ∃ cache', parseEntryAt (cfiOf sec env data) (fuel + 2) off pos cache
        = .ok (mFde sec off f c, off + Spec.Entry.size sec (.fde f), ((off : Int), mFde sec off f c) :: cache')
      ∧ I cache' := by
  have F := fdeFacts_of_wf hc hw hwc
  have hd' := hd
  rw [fde_enc_eq sec off f c hc] at hd'
  have hbpos : 0 < offSize f.fmt64 + (f.tail sec c).length := by unfold offSize; split <;> omega
  have hfp := fdeFields_ptr sec off f c
  -- header, CIE, instructions, CIE
  obtain ⟨cache1, hhdr, hI1⟩ := fdeHeader_at sec env data f c off fuel cache _ F hwc hd' hI hfetch
  obtain ⟨cache2, hl1, hI2⟩ := fde_link F hfetch hfp (fdeAugStart sec off f c) hI1
  have hpi := fde_instrs_at sec env data f c off rest hc F hd
  obtain ⟨cache3, hl2, hI3⟩ := fde_link F hfetch hfp (off + Entry.size sec (.fde f)) hI2
  refine ⟨cache3, ?_, hI3⟩
  rw [entry_miss sec env data (fuel + 1) off pos cache hd' F.len hbpos F.ptr hoff hmiss, if_neg (by rw [F.notCie]; simp),
    fdeBlock_eq _ _ _ _ _ _ _ _ _ _ _ _ hhdr hl1]
  cases hau : c.aug with
  | none =>
    have hAP : f.augPart sec c = [] := by simp [Fde.augPart, hau]
    have hL : c.lsdaEnc = 0xff := by simp [Cie.lsdaEnc, hau, lsdaEncOf]
    rw [fdeBody_plain _ (fuel + 1) off off _ _ (fdeFields sec off f c) _ _ _ _ _ _ _ _ _ (mCie_header ..)
      (by rw [cieFields_aug, hau]; rfl) (by rw [mCie_augDict, hau]; rfl) (fdeFields_length ..)
      (hpi _ (by rw [hAP]; simp)) hl2]
    simp [mFde, hAP, hL]
  | some items =>
    -- augmentation data exists in `.eh_frame` only; it is the LSDA pointer, if the CIE gives it an encoding
    have heh : sec.eh = true := by
      cases h : sec.eh with
      | true => rfl
      | false => rw [F.df h] at hau; cases hau
    obtain ⟨-, ⟨hlok, hl256⟩⟩ := cie_encs_ok sec c hwc
    have hAP : f.augPart sec c = encUlebN f.augLenN
        (if c.lsdaEnc = 0xff then [] else encPtr sec.le sec.asz (c.lsdaEnc % 16) f.lsda : Bytes).length
        ++ (if c.lsdaEnc = 0xff then [] else encPtr sec.le sec.asz (c.lsdaEnc % 16) f.lsda) := by
      simp only [Fde.augPart, heh, if_true, hau]
    have hskip : fdeAugSkip sec f c = f.augLenN := by simp [fdeAugSkip, heh, hau]
    have hd4 := fde_aug_drop sec data f c off rest hc hd
    rw [hAP, List.append_assoc] at hd4
    rw [fdeBody_aug (C := cfiOf sec env data) (le := sec.le) (fmtS := fmtOf f.fmt64) (asz := sec.asz) (ver := 2)
      (hT := rfl) (heh := heh) (header := fdeFields sec off f c) (p := fdeAugStart sec off f c) (n := f.augLenN)
      (E := c.lsdaEnc) (lsda := f.lsda) (augB := items.map AugItem.letter) (hch := mCie_header ..)
      (hz := by rw [cieFields_aug, hau]; rfl) (had := mCie_augDict ..) (hE := dict_lsdaEnc sec.le sec.asz c.aug)
      (hE256 := hl256) (hEok := fun hL => ⟨hlok.resolve_right hL, (F.lsda heh).resolve_left hL⟩) (hd := rfl)
      (hn := F.augN heh) (hdn := F.augLen heh) (hdata := hd4) (hlen := fdeFields_length ..)
      (hpi := hpi _ (by rw [hAP]; simp [encUlebN_length, Nat.add_assoc])) (hl2 := hl2)]
    have hab : (f.augPart sec c).drop f.augLenN
        = if c.lsdaEnc = 0xff then [] else encPtr sec.le sec.asz (c.lsdaEnc % 16) f.lsda := by
      rw [hAP]; exact List.drop_left' (encUlebN_length ..)
    by_cases hL : c.lsdaEnc = 0xff <;>
      simp [mFde, fdeLsdaOff_eq, hskip, hab, hL, heh, pcrelAdj]

end PyElf.Proofs.Cfi
