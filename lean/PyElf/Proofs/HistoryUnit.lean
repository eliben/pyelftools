/-
  C10, one `CompileUnit`: the DIE cache (`_diemap` / `_dielist` with bisect insertion) refines the pure parse function
  and never touches the `_parent` / `_terminator` links (`*_maps`); every unit-level operation (child iteration with
  suspended generators, subtree iteration, the ancestor search, sibling iteration) keeps the cache invariant `UCore`
  for EVERY input (`*_core`).  Needs only that a parse result carries the offset it was parsed at and that nothing
  parses below the unit's first DIE.  The facts about `assocSet` / `assocGet?` (Python dicts with int keys; from
  `upsert`) are here too.
-/
import PyElf.Model.History
import PyElf.Proofs.DwarfLookup
import PyElf.Proofs.Upsert
namespace PyElf.Proofs.C10
open PyElf PyElf.Model.Lookup PyElf.Model.C10 PyElf.Proofs.Lookup

/-- unit-level specifications give answer and state of a call separately, object-level ones the pair it returns as
    an equation (calls are composed by rewriting): the bridge -/
theorem pair_of_fst_snd {α σ : Type} {p : α × σ} {r : α} {Q : σ → Prop} (h : p.1 = r ∧ Q p.2) :
    ∃ s, p = (r, s) ∧ Q s := ⟨p.2, Prod.ext h.1 rfl, h.2⟩

theorem assocSet_eq_upsert {V} (d : List (Nat × V)) (k : Nat) (v : V) : assocSet d k v = upsert d k v := by
  induction d with
  | nil => rfl
  | cons p d ih => obtain ⟨k', v'⟩ := p; simp [assocSet, upsert, ih]

theorem assocGet_set_self {V} (d : List (Nat × V)) (k : Nat) (v : V) : assocGet? (assocSet d k v) k = some v := by
  rw [assocGet?, assocSet_eq_upsert, find?_upsert, if_pos rfl]

theorem assocGet_set_other {V} (d : List (Nat × V)) (k k2 : Nat) (v : V) (h : k2 ≠ k) :
    assocGet? (assocSet d k v) k2 = assocGet? d k2 := by
  rw [assocGet?, assocSet_eq_upsert, find?_upsert, if_neg (Ne.symm h), assocGet?]

theorem assocSet_forall {V} {P : Nat → V → Prop} {d : List (Nat × V)} {k : Nat} {v : V}
    (h : ∀ k' x, assocGet? d k' = some x → P k' x) (hv : P k v) :
    ∀ k' x, assocGet? (assocSet d k v) k' = some x → P k' x := by
  rw [assocSet_eq_upsert]
  exact forall_upsert h hv

/-- `_diemap` / `_dielist` of a `CompileUnit`; `top`: the first entry, if any, is the top DIE (`_get_cached_DIE`
    reads index `i - 1` and relies on it) -/
structure UCore (PD : Nat → R DIE) (dieOff : Nat) (u : UnitCache) : Prop where
  par : u.diemap = u.dielist.map (·.offset)
  sorted : u.diemap.Pairwise (· ≤ ·)
  pure : ∀ d ∈ u.dielist, PD d.offset = .ok d
  top : u.diemap = [] ∨ u.diemap.head? = some dieOff

theorem ucore_empty (PD : Nat → R DIE) (dieOff pos : Nat) : UCore PD dieOff (UnitCache.empty pos) :=
  { par := rfl, sorted := List.Pairwise.nil, pure := fun d hd => by simp [UnitCache.empty] at hd, top := Or.inl rfl }

theorem ucore_congr {PD : Nat → R DIE} {dieOff : Nat} {u u' : UnitCache} (h : UCore PD dieOff u)
    (h1 : u'.diemap = u.diemap) (h2 : u'.dielist = u.dielist) : UCore PD dieOff u' :=
  { par := by rw [h1, h2]; exact h.par, sorted := by rw [h1]; exact h.sorted,
    pure := by rw [h2]; exact h.pure, top := by rw [h1]; exact h.top }

section unit
variable {PD : Nat → R DIE} {dieOff : Nat}

theorem getTopDIE_spec (hPo : ∀ o d, PD o = .ok d → d.offset = o) {u : UnitCache} (h : UCore PD dieOff u) :
    (getTopDIE PD dieOff u).1 = PD dieOff ∧ UCore PD dieOff (getTopDIE PD dieOff u).2 ∧
      (∀ t, PD dieOff = .ok t → (getTopDIE PD dieOff u).2.diemap.head? = some dieOff) := by
  -- empty cache: parse and enter at index 0; otherwise the first entry is the top DIE, by `top` and `pure`
  unfold getTopDIE
  cases hm : u.diemap with
  | nil =>
    simp only
    cases hp : PD dieOff with
    | error e => exact ⟨rfl, h, fun t ht => by cases ht⟩
    | ok d =>
      have hdo := hPo _ _ hp
      have hl : u.dielist = [] := by
        have := h.par; rw [hm] at this
        exact List.map_eq_nil_iff.mp this.symm
      refine ⟨rfl, ?_, fun _ _ => by simp [pyInsert]⟩
      exact { par := by simp [pyInsert, hl, hdo], sorted := by simp [pyInsert],
              pure := by
                intro d' hd'
                simp [pyInsert, hl] at hd'
                subst hd'; rw [hdo]; exact hp,
              top := Or.inr (by simp [pyInsert]) }
  | cons k ks =>
    simp only
    have hpar := h.par
    rw [hm] at hpar
    cases hl : u.dielist with
    | nil => rw [hl] at hpar; simp at hpar
    | cons d ds =>
      rw [hl] at hpar
      simp at hpar
      have htop := h.top
      rw [hm] at htop
      simp at htop
      have hd : PD d.offset = .ok d := h.pure d (by rw [hl]; exact List.mem_cons_self)
      have hk : d.offset = dieOff := by rw [← hpar.1]; exact htop
      rw [hk] at hd
      simp only [List.getElem?_cons_zero]
      exact ⟨hd.symm, h, fun _ _ => by rw [hm]; simp [htop]⟩

theorem head_le_of_sorted {l : List Nat} {a : Nat} (hs : l.Pairwise (· ≤ ·)) (hh : l.head? = some a) :
    ∀ x ∈ l, a ≤ x := by
  cases l with
  | nil => simp at hh
  | cons y ys =>
    simp at hh; subst hh
    intro x hx
    rcases List.mem_cons.mp hx with rfl | hx
    · exact Nat.le_refl _
    · exact (List.pairwise_cons.mp hs).1 x hx

theorem UCore.cached {u : UnitCache} (h : UCore PD dieOff u) : Cached (·.offset) PD u.diemap u.dielist :=
  ⟨h.par, h.sorted, h.pure⟩

/-- beyond `get_top_DIE()`, `_get_cached_DIE(o)` does nothing to the unit or enters the parse at `o` where
    `bisect_right` says -/
theorem getCachedDIE_state (u : UnitCache) (o : Nat) :
    (getCachedDIE PD dieOff u o).2 = (getTopDIE PD dieOff u).2 ∨
    ∃ t i d, (getTopDIE PD dieOff u).1 = .ok t ∧ bisectRight (getTopDIE PD dieOff u).2.diemap o = .ok i ∧ PD o = .ok d ∧
      (getCachedDIE PD dieOff u o).2 =
        { (getTopDIE PD dieOff u).2 with pos := o + d.size, dielist := pyInsert (getTopDIE PD dieOff u).2.dielist i d,
                                         diemap := pyInsert (getTopDIE PD dieOff u).2.diemap i o } := by
  unfold getCachedDIE
  generalize getTopDIE PD dieOff u = g
  obtain ⟨r, u1⟩ := g
  cases r with
  | error e => exact Or.inl rfl
  | ok t =>
    simp only
    split
    · exact Or.inl rfl
    · next i hi =>
      split
      · exact Or.inl rfl
      · split
        · split <;> exact Or.inl rfl
        · split
          · exact Or.inl rfl
          · next d hd => exact Or.inr ⟨t, i, d, rfl, hi, hd, rfl⟩

theorem getTopDIE_maps (u : UnitCache) :
    (getTopDIE PD dieOff u).2.parent = u.parent ∧ (getTopDIE PD dieOff u).2.term = u.term := by
  unfold getTopDIE
  split
  · split <;> exact ⟨rfl, rfl⟩
  · split <;> exact ⟨rfl, rfl⟩

theorem getCachedDIE_maps (u : UnitCache) (o : Nat) :
    (getCachedDIE PD dieOff u o).2.parent = u.parent ∧ (getCachedDIE PD dieOff u o).2.term = u.term := by
  rcases getCachedDIE_state (PD := PD) (dieOff := dieOff) u o with h | ⟨_, _, _, _, _, _, h⟩ <;> rw [h] <;>
    exact getTopDIE_maps u

theorem isSplit_pos {keys : List Nat} {o i a : Nat} (hsp : IsSplit keys o i) (hh : keys.head? = some a) (ha : a ≤ o) :
    1 ≤ i := by
  cases keys with
  | nil => simp at hh
  | cons k ks =>
    simp at hh; subst hh
    by_cases hi : 1 ≤ i
    · exact hi
    · have := hsp.2.2 0 k (by omega) rfl
      omega

theorem head?_pyInsert {l : List Nat} {i x : Nat} (hi : 1 ≤ i) (hl : l ≠ []) : (pyInsert l i x).head? = l.head? := by
  obtain ⟨i', rfl⟩ : ∃ i', i = i' + 1 := ⟨i - 1, by omega⟩
  cases l with
  | nil => exact absurd rfl hl
  | cons a as => simp [pyInsert]

/-- a parse at `o`, if there is one, is not below the first DIE, so what is entered goes behind the top DIE -/
theorem getCachedDIE_keeps (hPo : ∀ o d, PD o = .ok d → d.offset = o) {u : UnitCache} (h : UCore PD dieOff u) {o : Nat}
    (hlow : ∀ d, PD o = .ok d → dieOff ≤ o) : UCore PD dieOff (getCachedDIE PD dieOff u o).2 := by
  obtain ⟨h1, h2, h3⟩ := getTopDIE_spec hPo h
  rcases getCachedDIE_state (PD := PD) (dieOff := dieOff) u o with e | ⟨t, i, d, ht, hi, hd, e⟩ <;> rw [e]
  · exact h2
  · have hhead := h3 t (h1 ▸ ht)
    obtain ⟨i', hi', hsp⟩ := h2.cached.bisect o
    rw [hi] at hi'; injection hi' with hi'; subst hi'
    have hc := h2.cached.insert hsp hd (hPo _ _ hd)
    have hne : (getTopDIE PD dieOff u).2.diemap ≠ [] := by intro hn; rw [hn] at hhead; cases hhead
    exact { par := hc.par, sorted := hc.sorted, pure := hc.pure,
            top := Or.inr ((head?_pyInsert (isSplit_pos hsp hhead (hlow d hd)) hne).trans hhead) }

/-- the answer is the parse at `o` AFTER the parse of the top DIE, which `_get_cached_DIE` forces first -/
theorem getCachedDIE_spec (hPo : ∀ o d, PD o = .ok d → d.offset = o) {u : UnitCache} (h : UCore PD dieOff u)
    {o : Nat} (hlow : dieOff ≤ o) :
    (getCachedDIE PD dieOff u o).1 = (PD dieOff >>= fun _ => PD o) ∧ UCore PD dieOff (getCachedDIE PD dieOff u o).2 := by
  refine ⟨?_, getCachedDIE_keeps hPo h (fun _ _ => hlow)⟩
  obtain ⟨h1, h2, h3⟩ := getTopDIE_spec hPo h
  unfold getCachedDIE
  generalize getTopDIE PD dieOff u = g at h1 h2 h3
  obtain ⟨r, u1⟩ := g
  simp only at h1 h2 h3
  rw [← h1]
  cases r with
  | error e => rfl
  | ok t =>
    have hhead := h3 t h1.symm
    obtain ⟨i, hi, hsp⟩ := h2.cached.bisect o
    -- the first key is dieOff ≤ o, so the insertion point is at least 1: Python's `[i - 1]` never wraps round
    have hi0 : ¬ i = 0 := by have := isSplit_pos hsp hhead hlow; omega
    have hlen : i - 1 < u1.diemap.length := by have := hsp.1; omega
    have hget : u1.diemap[i - 1]? = some u1.diemap[i - 1] := List.getElem?_eq_getElem hlen
    obtain ⟨v, hv, _, hkv, hpv⟩ := h2.cached.item hget
    simp only [hi, hi0, if_false, hget]
    by_cases heq : o = u1.diemap[i - 1]
    · simp only [heq, if_true, hv, hpv, bind, Except.bind]
    · simp only [heq, if_false, bind, Except.bind]
      cases PD o <;> rfl

theorem unitDIEFromRefaddr_spec (hPo : ∀ o d, PD o = .ok d → d.offset = o) {u : UnitCache} (h : UCore PD dieOff u)
    (cuEnd o : Nat) :
    (unitDIEFromRefaddr PD dieOff cuEnd u o).1
        = (if dieOff ≤ o ∧ o < cuEnd then (PD dieOff >>= fun _ => PD o) else .error .dwarfError) ∧
      UCore PD dieOff (unitDIEFromRefaddr PD dieOff cuEnd u o).2 := by
  unfold unitDIEFromRefaddr
  by_cases hc : dieOff ≤ o ∧ o < cuEnd
  · simp only [hc, and_self, if_true]
    exact getCachedDIE_spec hPo h hc.1
  · simp only [hc, if_false]
    exact ⟨by trivial, h⟩

theorem unitDIEFromRefaddr_maps (cuEnd : Nat) (u : UnitCache) (o : Nat) :
    (unitDIEFromRefaddr PD dieOff cuEnd u o).2.parent = u.parent ∧ (unitDIEFromRefaddr PD dieOff cuEnd u o).2.term = u.term := by
  unfold unitDIEFromRefaddr
  split
  · exact getCachedDIE_maps u o
  · exact ⟨rfl, rfl⟩

def DrainCore (PD : Nat → R DIE) (dieOff : Nat) (D : Drain) : Prop :=
  ∀ it u acc, UCore PD dieOff u → UCore PD dieOff (D it u acc).2

theorem nextCur_core {D : Drain} (hD : DrainCore PD dieOff D) (it : ChildIter) {u : UnitCache} (h : UCore PD dieOff u) :
    UCore PD dieOff (nextCur D it u).2 := by
  unfold nextCur
  split
  · exact h
  · split
    · exact h
    · split
      · exact h
      · split
        · exact h
        · rename_i child _ _ _ _ _ _
          have := hD (ChildIter.new child) u [] h
          split
          · rename_i heq; rw [heq] at this; exact this
          · rename_i heq; rw [heq] at this
            split <;> exact this

theorem childStep_core (hPo : ∀ o d, PD o = .ok d → d.offset = o) (hlowP : ∀ o d, PD o = .ok d → dieOff ≤ o)
    {D : Drain} (hD : DrainCore PD dieOff D) (it : ChildIter) {u : UnitCache} (h : UCore PD dieOff u) :
    UCore PD dieOff (childStep PD dieOff D it u).2.2 := by
  unfold childStep
  split
  · exact h
  · split
    · exact h
    · have h1 := nextCur_core hD it h
      split
      · rename_i heq; rw [heq] at h1; exact h1
      · rename_i cur u1 heq
        rw [heq] at h1
        have h2 := getCachedDIE_keeps (o := cur) hPo h1 (hlowP cur)
        split
        · rename_i heq2; rw [heq2] at h2; exact h2
        · rename_i child u2 heq2
          rw [heq2] at h2
          simp only
          split
          · exact ucore_congr h2 rfl rfl
          · exact ucore_congr h2 rfl rfl

theorem childNext_drain_core (hPo : ∀ o d, PD o = .ok d → d.offset = o) (hlowP : ∀ o d, PD o = .ok d → dieOff ≤ o) :
    ∀ fuel, (∀ it u, UCore PD dieOff u → UCore PD dieOff (childNext PD dieOff fuel it u).2.2) ∧
            (∀ it u acc, UCore PD dieOff u → UCore PD dieOff (drain PD dieOff fuel it u acc).2) := by
  intro fuel
  induction fuel with
  | zero => exact ⟨fun it u h => by simpa [childNext] using h, fun it u acc h => by simpa [drain] using h⟩
  | succ fuel ih =>
    constructor
    · intro it u h
      rw [childNext]
      exact childStep_core hPo hlowP (fun it u acc h => ih.2 it u acc h) it h
    · intro it u acc h
      rw [drain]
      have h1 := ih.1 it u h
      split
      · rename_i heq; rw [heq] at h1; exact h1
      · rename_i heq; rw [heq] at h1; exact h1
      · rename_i heq; rw [heq] at h1; exact ih.2 _ _ _ h1

theorem childNext_core (hPo : ∀ o d, PD o = .ok d → d.offset = o) (hlowP : ∀ o d, PD o = .ok d → dieOff ≤ o)
    (fuel : Nat) (it : ChildIter) {u : UnitCache} (h : UCore PD dieOff u) :
    UCore PD dieOff (childNext PD dieOff fuel it u).2.2 := (childNext_drain_core hPo hlowP fuel).1 it u h

theorem drain_core (hPo : ∀ o d, PD o = .ok d → d.offset = o) (hlowP : ∀ o d, PD o = .ok d → dieOff ≤ o)
    (fuel : Nat) (it : ChildIter) (acc : List DIE) {u : UnitCache} (h : UCore PD dieOff u) :
    UCore PD dieOff (drain PD dieOff fuel it u acc).2 := (childNext_drain_core hPo hlowP fuel).2 it u acc h

theorem subNext_core (hPo : ∀ o d, PD o = .ok d → d.offset = o) (hlowP : ∀ o d, PD o = .ok d → dieOff ≤ o) :
    ∀ fuel stack u, UCore PD dieOff u → UCore PD dieOff (subNext PD dieOff fuel stack u).2.2 := by
  intro fuel
  induction fuel with
  | zero => intro stack u h; simpa [subNext] using h
  | succ fuel ih =>
    intro stack u h
    cases stack with
    | nil => simpa [subNext] using h
    | cons fr rest =>
      rw [subNext]
      split
      · exact h
      · split
        · exact ih rest u h
        · have h1 := childNext_core hPo hlowP fuel fr.ci h
          split
          · rename_i heq; rw [heq] at h1; exact h1
          · rename_i heq; rw [heq] at h1; exact h1
          · rename_i heq; rw [heq] at h1
            split <;> exact h1

theorem foldl_parent_core {u : UnitCache} (h : UCore PD dieOff u) (search : DIE) (cs : List DIE) :
    UCore PD dieOff (cs.foldl (fun u c => { u with parent := assocSet u.parent c.offset search }) u) := by
  induction cs generalizing u with
  | nil => exact h
  | cons c cs ih => exact ih (ucore_congr h rfl rfl)

theorem searchLoop_core (hPo : ∀ o d, PD o = .ok d → d.offset = o) (hlowP : ∀ o d, PD o = .ok d → dieOff ≤ o)
    (self : DIE) : ∀ fuel search u, UCore PD dieOff u → UCore PD dieOff (searchLoop PD dieOff self fuel search u).2 := by
  intro fuel
  induction fuel with
  | zero => intro search u h; simpa [searchLoop] using h
  | succ fuel ih =>
    intro search u h
    rw [searchLoop]
    split
    · have h1 := drain_core hPo hlowP fuel (ChildIter.new search) [] h
      split
      · rename_i heq; rw [heq] at h1; exact h1
      · rename_i children u1 heq
        rw [heq] at h1
        have h2 := foldl_parent_core h1 search children
        simp only
        split
        · exact h2
        · split
          · exact h2
          · exact ih _ _ h2
    · exact h

theorem getParent_core (hPo : ∀ o d, PD o = .ok d → d.offset = o) (hlowP : ∀ o d, PD o = .ok d → dieOff ≤ o)
    (fuel : Nat) (self : DIE) {u : UnitCache} (h : UCore PD dieOff u) :
    UCore PD dieOff (getParent PD dieOff fuel self u).2 := by
  unfold getParent
  split
  · exact h
  · obtain ⟨_, h1, _⟩ := getTopDIE_spec hPo h
    split
    · rename_i heq; rw [heq] at h1; exact h1
    · rename_i top u1 heq
      rw [heq] at h1
      have h2 := searchLoop_core hPo hlowP self fuel top u1 h1
      split
      · rename_i heq2; rw [heq2] at h2; exact h2
      · rename_i heq2; rw [heq2] at h2; exact h2

theorem sibSkip_core (hPo : ∀ o d, PD o = .ok d → d.offset = o) (hlowP : ∀ o d, PD o = .ok d → dieOff ≤ o)
    (fuel : Nat) (self : DIE) : ∀ n ci u, UCore PD dieOff u → UCore PD dieOff (sibSkip PD dieOff fuel self n ci u).2.2 := by
  intro n
  induction n with
  | zero => intro ci u h; simpa [sibSkip] using h
  | succ n ih =>
    intro ci u h
    rw [sibSkip]
    have h1 := childNext_core hPo hlowP fuel ci h
    split
    · rename_i heq; rw [heq] at h1; exact h1
    · rename_i heq; rw [heq] at h1; exact h1
    · rename_i heq; rw [heq] at h1
      split
      · exact ih _ _ h1
      · exact h1

theorem sibNext_core (hPo : ∀ o d, PD o = .ok d → d.offset = o) (hlowP : ∀ o d, PD o = .ok d → dieOff ≤ o)
    (fuel : Nat) (self : DIE) (ci : Option ChildIter) {u : UnitCache} (h : UCore PD dieOff u) :
    UCore PD dieOff (sibNext PD dieOff fuel self ci u).2.2 := by
  unfold sibNext
  split
  · exact sibSkip_core hPo hlowP fuel self _ _ _ h
  · have h1 := getParent_core hPo hlowP fuel self h
    split
    · rename_i heq; rw [heq] at h1; exact h1
    · rename_i heq; rw [heq] at h1; exact h1
    · rename_i heq; rw [heq] at h1
      exact sibSkip_core hPo hlowP fuel self _ _ _ h1

end unit

end PyElf.Proofs.C10
