/-
  Unit headers.  `_parse_CU_at_offset` / `_parse_TU_at_offset` (`parseHdrAt`) on encoded units: format sniffing and the
  two checks once (`parseHdrAt_encoded`), then the three header structs as `Reads` derivations — `Dwarf_CU_header` below
  version 5 and at version 5 (the six unit types through the `ENUM_DW_UT` switch), `Dwarf_TU_header` of `.debug_types` —
  and `parseCU_encoded_of`, `chain_encoded_of`: an encoded sequence of units is a `Chain` for the parser.  The first
  lemma continues namespace `Proofs.Lookup` (where `parseHdrAt` is), the rest is `Proofs.C04`.
-/
import PyElf.Spec.DieTree
import PyElf.Model.Die
import PyElf.Proofs.Reads
import PyElf.Proofs.DwarfParseNat
import PyElf.Proofs.DwarfUnits
namespace PyElf.Proofs.Lookup
open PyElf PyElf.Spec.Lookup PyElf.Model.Lookup PyElf.Proofs

theorem parseHdrAt_encoded {sel : DwarfStructs → Con} {enumDecode : String → Int → Option String} {le : Bool}
    {dasz off n p asz ver : Nat} {data rest : Bytes} {hdr : Val} (fmt64 : Bool)
    (hd : data.drop off = encInitialLength le fmt64 n ++ rest) (hn : if fmt64 then n < 256 ^ 8 else n < 0xFFFFFF00)
    (hh : structParse ⟨enumDecode, (Spec.dwarfStructs ⟨le, if fmt64 then 64 else 32, 4, 2⟩).form⟩
      (sel (Spec.dwarfStructs ⟨le, if fmt64 then 64 else 32, 4, 2⟩)) data off = .ok (hdr, p))
    (ha : hdr.getNat "address_size" = .ok asz) (hv : hdr.getNat "version" = .ok ver)
    (hasz : asz = 4 ∨ asz = 8) (hver : 2 ≤ ver ∧ ver ≤ 5) :
    parseHdrAt sel enumDecode (fun c => some (Spec.dwarfStructs c)) (Spec.dwarfStructs ⟨le, 32, dasz, 2⟩) le data off
      = .ok ⟨hdr, if fmt64 then 64 else 32, off, p⟩ := by
  obtain ⟨il, hil, hfmt⟩ := sniff_fmt
    (env := { enumDecode := enumDecode, forms := (Spec.dwarfStructs ⟨le, 32, dasz, 2⟩).form }) fmt64 hd hn
  have hil1 : parseNat { enumDecode := enumDecode, forms := (Spec.dwarfStructs ⟨le, 32, dasz, 2⟩).form }
      (Spec.dwarfStructs ⟨le, 32, dasz, 2⟩).the_Dwarf_uint32 data off = .ok (il, off + 4) := hil
  have hne : ¬ (asz ≠ 8 ∧ asz ≠ 4) := by omega
  simp only [parseHdrAt, hil1, bind, Except.bind, hfmt, hh, ha, hv, hne, hver, not_true_eq_false, and_self, if_false, pure,
    Except.pure]

end PyElf.Proofs.Lookup

namespace PyElf.Proofs.C04
open PyElf PyElf.Spec PyElf.Spec.C04 PyElf.Spec.Lookup PyElf.Model PyElf.Model.Lookup PyElf.Model.C04 PyElf.Proofs
  PyElf.Proofs.Engine PyElf.Proofs.Lookup

def cuCP (le : Bool) (n : Nat) : Con :=
  .struct (.cons (some "address_size") false (.uint 1 le) (.cons (some "debug_abbrev_offset") false (.uint n le) .nil))
def cuSS (le : Bool) (n : Nat) : Con :=
  .struct (.cons (some "address_size") false (.uint 1 le) (.cons (some "debug_abbrev_offset") false (.uint n le)
          (.cons (some "dwo_id") false (.uint 8 le) .nil)))
def cuTS (le : Bool) (n : Nat) : Con :=
  .struct (.cons (some "address_size") false (.uint 1 le) (.cons (some "debug_abbrev_offset") false (.uint n le)
          (.cons (some "type_signature") false (.uint 8 le) (.cons (some "type_offset") false (.uint n le) .nil))))
def cuCases (le : Bool) (n : Nat) : ConCases :=
  .cons (.str "DW_UT_compile") (cuCP le n) (.cons (.str "DW_UT_partial") (cuCP le n)
  (.cons (.str "DW_UT_skeleton") (cuSS le n) (.cons (.str "DW_UT_split_compile") (cuSS le n)
  (.cons (.str "DW_UT_type") (cuTS le n) (.cons (.str "DW_UT_split_type") (cuTS le n) .nil)))))
def cuBody5 (le : Bool) (n : Nat) : Con :=
  .struct (.cons (some "unit_type") false (.enum (.uint 1 le) "ENUM_DW_UT" false)
          (.cons none true (.switch (.ctx "unit_type") (cuCases le n) .noDefault) .nil))
def cuBody4 (le : Bool) (n : Nat) : Con :=
  .struct (.cons (some "debug_abbrev_offset") false (.uint n le) (.cons (some "address_size") false (.uint 1 le) .nil))
def cuTail (le : Bool) (n : Nat) : ConFields :=
  .cons (some "version") false (.uint 2 le)
    (.cons none true (.ifThenElse (.ge (.ctx "version") (.lit 5)) (cuBody5 le n) (cuBody4 le n)) .nil)
def cuHeaderCon (le : Bool) (n : Nat) : Con := .struct (.cons (some "unit_length") false (.initialLength le) (cuTail le n))

theorem cu_header_eq (le : Bool) (fmt : Nat) :
    (Spec.dwarfStructs ⟨le, fmt, 4, 2⟩).Dwarf_CU_header = cuHeaderCon le (fmt / 8) := rfl

def tuTail (le : Bool) (n : Nat) : ConFields :=
  .cons (some "version") false (.uint 2 le) (.cons (some "debug_abbrev_offset") false (.uint n le)
    (.cons (some "address_size") false (.uint 1 le) (.cons (some "signature") false (.uint 8 le)
    (.cons (some "type_offset") false (.uint n le) .nil))))
def tuHeaderCon (le : Bool) (n : Nat) : Con := .struct (.cons (some "unit_length") false (.initialLength le) (tuTail le n))

theorem tu_header_eq (le : Bool) (fmt : Nat) :
    (Spec.dwarfStructs ⟨le, fmt, 4, 2⟩).Dwarf_TU_header = tuHeaderCon le (fmt / 8) := rfl

/-- the fields a v5 header has behind `debug_abbrev_offset`, by unit type -/
def v5Extra (utype id8 typeOff : Nat) : Fields :=
  if utype = 4 ∨ utype = 5 then [("dwo_id", .int id8)]
  else if utype = 2 ∨ utype = 6 then [("type_signature", .int id8), ("type_offset", .int typeOff)]
  else []

def v5ExtraBytes (le : Bool) (n utype id8 typeOff : Nat) : Bytes :=
  if utype = 4 ∨ utype = 5 then encNat le 8 id8
  else if utype = 2 ∨ utype = 6 then encNat le 8 id8 ++ encNat le n typeOff
  else []

theorem utName_cases {k : Nat} {s : String} (h : utName k = some s) :
    (k = 1 ∧ s = "DW_UT_compile") ∨ (k = 2 ∧ s = "DW_UT_type") ∨ (k = 3 ∧ s = "DW_UT_partial") ∨
    (k = 4 ∧ s = "DW_UT_skeleton") ∨ (k = 5 ∧ s = "DW_UT_split_compile") ∨ (k = 6 ∧ s = "DW_UT_split_type") := by
  unfold utName at h
  split at h <;> first | (cases h; done) | (injection h with h; subst h; simp)

/-- the six unit types by what their header has behind `debug_abbrev_offset`: nothing, signature and type offset, or
    `dwo_id` (the grouping of `v5Extra`, `v5ExtraBytes` and of the `ENUM_DW_UT` switch) -/
inductive UtGroup (k : Nat) (s : String) : Prop
  | plain : (k = 1 ∧ s = "DW_UT_compile") ∨ (k = 3 ∧ s = "DW_UT_partial") → UtGroup k s
  | type : (k = 2 ∧ s = "DW_UT_type") ∨ (k = 6 ∧ s = "DW_UT_split_type") → UtGroup k s
  | dwo : (k = 4 ∧ s = "DW_UT_skeleton") ∨ (k = 5 ∧ s = "DW_UT_split_compile") → UtGroup k s

theorem utName_group {k : Nat} {s : String} (h : utName k = some s) : UtGroup k s := by
  rcases utName_cases h with h | h | h | h | h | h
  · exact .plain (.inl h)
  · exact .type (.inl h)
  · exact .plain (.inr h)
  · exact .dwo (.inl h)
  · exact .dwo (.inr h)
  · exact .type (.inr h)

def v5HdrVal (ul ver : Nat) (name : String) (asz ao utype id8 to : Nat) : Val :=
  .record (("unit_length", .int ul) :: ("version", .int ver) :: ("unit_type", .str name) :: ("address_size", .int asz)
    :: ("debug_abbrev_offset", .int ao) :: v5Extra utype id8 to)

/-- up to the `ENUM_DW_UT` switch the derivation is the same for the six unit types (`pre`); the struct the switch selects
    has nothing, `dwo_id`, or `type_signature` and `type_offset` behind `debug_abbrev_offset` -/
theorem cu5_reads {env : Env} {off : Nat} {ctx : Fields} {le fmt64 : Bool} {n ul ver utype asz ao id8 to : Nat}
    {name : String} {rest : Bytes}
    (hname : env.enumDecode "ENUM_DW_UT" utype = some name) (hut : utName utype = some name)
    (hver : 5 ≤ ver) (hver' : ver < 256 ^ 2) (hasz : asz < 256 ^ 1) (hao : ao < 256 ^ n) (hid : id8 < 256 ^ 8)
    (hto : to < 256 ^ n) (hul : if fmt64 then ul < 256 ^ 8 else ul < 0xFFFFFF00) :
    Reads (pr env (cuHeaderCon le n)) ctx off
      (encInitialLength le fmt64 ul ++ (encNat le 2 ver ++ (encNat le 1 utype ++ (encNat le 1 asz ++ (encNat le n ao ++
        (v5ExtraBytes le n utype id8 to ++ rest))))))
      (v5HdrVal ul ver name asz ao utype id8 to)
      (off + (if fmt64 then 12 else 4) + 2 + 1 + 1 + n + (v5ExtraBytes le n utype id8 to).length) rest ctx := by
  have hut1 : utype < 256 ^ 1 := by
    rcases utName_cases hut with h | h | h | h | h | h <;> omega
  have pre : ∀ {inp : Bytes} {o c' : Fields} {p : Nat},
      ReadsF (pe env (lookupCase (.str name) (cuCases le n) .noDefault)) _ _ _ inp o p rest c' →
      ReadsF (pf env (.cons (some "unit_length") false (.initialLength le) (cuTail le n))) [] [] off
        (encInitialLength le fmt64 ul ++ (encNat le 2 ver ++ (encNat le 1 utype ++ inp))) o p rest c' := fun t =>
    .named (Reads.initlen (initlen_bound hul)) <| .named (Reads.uint hver') <|
      .emb (.emb_ite (b := true) ((eval_ge_ctx (x := ver) (by simp [Fields.get?_set])).trans (by simp; omega)) <| .emb_struct <|
        .named (Reads.enum_named (Reads.uint hut1) hname) <|
        .emb (.emb_switch (eval_ctx (by simp [Fields.get?_set])) t) .nil) .nil
  cases utName_group hut with
  | plain h =>
    rcases h with ⟨rfl, rfl⟩ | ⟨rfl, rfl⟩ <;>
    exact ((pre (.emb_struct <| .named (Reads.uint hasz) <| .named (Reads.uint hao) .nil)).struct
      (by simp [Fields.set, v5Extra])).as rfl rfl rfl
  | type h =>
    rcases h with ⟨rfl, rfl⟩ | ⟨rfl, rfl⟩ <;>
    exact ((pre (.emb_struct <| .named (Reads.uint hasz) <| .named (Reads.uint hao) <| .named (Reads.uint hid) <|
      .named (Reads.uint hto) .nil)).struct (by simp [Fields.set, v5Extra])).as
      (by simp [v5ExtraBytes]) rfl (by simp [v5ExtraBytes, encNat_length]; omega)
  | dwo h =>
    rcases h with ⟨rfl, rfl⟩ | ⟨rfl, rfl⟩ <;>
    exact ((pre (.emb_struct <| .named (Reads.uint hasz) <| .named (Reads.uint hao) <| .named (Reads.uint hid) .nil)).struct
      (by simp [Fields.set, v5Extra])).as (by simp [v5ExtraBytes]) rfl (by simp [v5ExtraBytes, encNat_length])

/-- a version 2–5 and an address size 4 | 8: what every well-formed unit header has, of either kind -/
structure VerAsz (ver asz : Nat) : Prop where
  ver2 : 2 ≤ ver
  ver5 : ver ≤ 5
  asz : asz = 4 ∨ asz = 8

structure WfUnit (le : Bool) (u : InfoUnit) : Prop extends VerAsz u.version u.asz where
  abbrevOff : u.abbrevOff < 256 ^ u.offSize
  id8 : u.id8 < 256 ^ 8
  typeOff : u.typeOff < 256 ^ u.offSize
  utype : u.version < 5 ∨ (1 ≤ u.utype ∧ u.utype ≤ 6)
  length : if u.fmt64 then unitLength le u < 256 ^ 8 else unitLength le u < 0xFFFFFF00

theorem wfUnit_parts {le : Bool} {u : InfoUnit} (h : wfUnit le u = true) : WfUnit le u := by
  unfold wfUnit at h
  cases hf : u.fmt64 <;>
    simp only [hf, Bool.and_eq_true, decide_eq_true_eq, Bool.or_eq_true, beq_iff_eq, and_assoc, Bool.false_eq_true, if_false,
      if_true] at h <;>
    exact ⟨⟨h.1, h.2.1, h.2.2.1⟩, h.2.2.2.1, h.2.2.2.2.1, h.2.2.2.2.2.1, h.2.2.2.2.2.2.1, by simpa [hf] using h.2.2.2.2.2.2.2⟩

structure WfTU (le : Bool) (h : TUHeader) (body : Bytes) : Prop extends VerAsz h.version h.asz where
  abbrevOff : h.abbrevOff < 256 ^ h.offSize
  signature : h.signature < 256 ^ 8
  typeOff : h.typeOff < 256 ^ h.offSize
  length : if h.fmt64 then (tuHdrRest le h).length + body.length < 256 ^ 8
    else (tuHdrRest le h).length + body.length < 0xFFFFFF00

theorem wfTU_parts {le : Bool} {h : TUHeader} {body : Bytes} (hw : wfTU le h body = true) : WfTU le h body := by
  unfold wfTU at hw
  cases hf : h.fmt64 <;>
    simp only [hf, Bool.and_eq_true, decide_eq_true_eq, Bool.or_eq_true, beq_iff_eq, and_assoc, Bool.false_eq_true, if_false,
      if_true] at hw <;>
    exact ⟨⟨hw.1, hw.2.1, hw.2.2.1⟩, hw.2.2.2.1, hw.2.2.2.2.1, hw.2.2.2.2.2.1, by simpa [hf] using hw.2.2.2.2.2.2⟩

theorem WfUnit.utype5 {le : Bool} {u : InfoUnit} (h : WfUnit le u) (h5 : ¬ u.version < 5) : 1 ≤ u.utype ∧ u.utype ≤ 6 :=
  h.utype.resolve_left h5

theorem utName_some {k : Nat} (h1 : 1 ≤ k) (h6 : k ≤ 6) : ∃ s, utName k = some s := by
  have : k = 1 ∨ k = 2 ∨ k = 3 ∨ k = 4 ∨ k = 5 ∨ k = 6 := by omega
  rcases this with rfl | rfl | rfl | rfl | rfl | rfl <;> exact ⟨_, rfl⟩

theorem unitHdrVal_v5 {le : Bool} {u : InfoUnit} {name : String} (h5 : ¬ u.version < 5) (hut : utName u.utype = some name) :
    unitHdrVal le u = v5HdrVal (unitLength le u) u.version name u.asz u.abbrevOff u.utype u.id8 u.typeOff := by
  simp only [unitHdrVal, h5, if_false, hut, v5HdrVal, v5Extra]
  rfl

theorem cu_header_con (le fmt64 : Bool) :
    (Spec.dwarfStructs ⟨le, if fmt64 then 64 else 32, 4, 2⟩).Dwarf_CU_header = cuHeaderCon le (if fmt64 then 8 else 4) := by
  rw [cu_header_eq]; cases fmt64 <;> rfl

theorem cu_header_parse4 {env : Env} {data : Bytes} {off : Nat} {le : Bool} (fmt64 : Bool) {ul ver ao asz : Nat}
    {rest : Bytes}
    (hd : data.drop off = encInitialLength le fmt64 ul ++ (encNat le 2 ver ++
      (encNat le (if fmt64 then 8 else 4) ao ++ (encNat le 1 asz ++ rest))))
    (hul : if fmt64 then ul < 256 ^ 8 else ul < 0xFFFFFF00) (hver : ver < 5)
    (hao : ao < 256 ^ (if fmt64 then 8 else 4)) (hasz : asz < 256 ^ 1) :
    structParse env (cuHeaderCon le (if fmt64 then 8 else 4)) data off
      = .ok (.record [("unit_length", .int ul), ("version", .int ver), ("debug_abbrev_offset", .int ao),
                      ("address_size", .int asz)], off + (if fmt64 then 12 else 4) + 2 + (if fmt64 then 8 else 4) + 1) :=
  (ReadsF.struct (.named (Reads.initlen (initlen_bound hul)) <| .named (Reads.uint (show ver < 256 ^ 2 by omega)) <|
    .emb (.emb_ite (b := false) ((eval_ge_ctx (x := ver) (by simp [Fields.get?_set])).trans (by simp; omega)) <|
      .emb_struct <| .named (Reads.uint hao) <| .named (Reads.uint hasz) .nil) .nil)
    (by simp [Fields.set])).structParse hd

/-- versions 2–4: these headers never consult the enum decoder -/
theorem parseCU_encoded {enumDecode : String → Int → Option String} {le : Bool} {dasz off : Nat} {data rest : Bytes}
    {u : InfoUnit} (hwf : wfUnit le u = true) (h5 : u.version < 5)
    (hd : data.drop off = encUnit le u ++ rest) :
    specP enumDecode le dasz data off = .ok (cuOf le off u) := by
  -- spell the bytes out (`hd0`), read them with `cu_header_parse4`; the record read is the `version < 5` branch of
  -- `unitHdrVal`, and the end of the header is the first-entry offset
  have hw := wfUnit_parts hwf
  have hv2 := hw.ver2; have hasz := hw.asz; have hao := hw.abbrevOff; have hul := hw.length
  have hrest : unitHdrRest le u = encNat le 2 u.version ++ (encNat le u.offSize u.abbrevOff ++ encNat le 1 u.asz) := by
    simp [unitHdrRest, h5]
  have hd0 : data.drop off = encInitialLength le u.fmt64 (unitLength le u) ++ (encNat le 2 u.version ++
      (encNat le (if u.fmt64 then 8 else 4) u.abbrevOff ++ (encNat le 1 u.asz ++ (u.body ++ rest)))) := by
    rw [hd, encUnit, hrest]; simp [InfoUnit.offSize, List.append_assoc]
  have hhdr := cu_header_parse4
    (env := { enumDecode := enumDecode, forms := (Spec.dwarfStructs ⟨le, if u.fmt64 then 64 else 32, 4, 2⟩).form })
    u.fmt64 hd0 hul h5 hao (by rcases hasz with h | h <;> omega)
  rw [specP, parseCUAtOffset_eq, parseHdrAt_encoded u.fmt64 hd0 hul (cu_header_con le u.fmt64 ▸ hhdr)
    (Val.getNat_record_int (by simp [Fields.get?])) (Val.getNat_record_int (by simp [Fields.get?])) hasz ⟨hv2, by omega⟩]
  simp only [cuOf, unitHdrVal, h5, if_true, InfoUnit.fmt, InfoUnit.ilSize, hrest, List.length_append, encNat_length,
    InfoUnit.offSize]
  congr 2
  omega

theorem parseCU_encoded5 {enumDecode : String → Int → Option String} {le : Bool} {dasz off : Nat} {data rest : Bytes}
    {u : InfoUnit} (hUT : enumDecode "ENUM_DW_UT" u.utype = utName u.utype)
    (hwf : wfUnit le u = true) (h5 : ¬ u.version < 5) (hd : data.drop off = encUnit le u ++ rest) :
    specP enumDecode le dasz data off = .ok (cuOf le off u) := by
  have hw := wfUnit_parts hwf
  -- spell the bytes out (`hd0`), read them with `cu5_reads`, then the unit object: the record read IS `unitHdrVal`
  -- (`unitHdrVal_v5`) and the end of the header is the first-entry offset (`hlen`)
  obtain ⟨hu1, hu6⟩ := hw.utype5 h5
  have hv5 := hw.ver5; have hasz := hw.asz; have hao := hw.abbrevOff; have hid := hw.id8; have hto := hw.typeOff
  have hul := hw.length
  obtain ⟨name, hut⟩ := utName_some hu1 hu6
  have hos : u.offSize = if u.fmt64 then 8 else 4 := rfl
  rw [hos] at hao hto
  have hrest : unitHdrRest le u = encNat le 2 u.version ++ (encNat le 1 u.utype ++ (encNat le 1 u.asz ++
      (encNat le (if u.fmt64 then 8 else 4) u.abbrevOff ++ v5ExtraBytes le (if u.fmt64 then 8 else 4) u.utype u.id8 u.typeOff))) := by
    simp only [unitHdrRest, h5, if_false, hos, v5ExtraBytes]
  have hd0 : data.drop off = encInitialLength le u.fmt64 (unitLength le u) ++ (encNat le 2 u.version ++
      (encNat le 1 u.utype ++ (encNat le 1 u.asz ++ (encNat le (if u.fmt64 then 8 else 4) u.abbrevOff ++
        (v5ExtraBytes le (if u.fmt64 then 8 else 4) u.utype u.id8 u.typeOff ++ (u.body ++ rest)))))) := by
    rw [hd, encUnit, hrest]; simp [List.append_assoc]
  have hhdr := (cu5_reads (env := ⟨enumDecode, (Spec.dwarfStructs ⟨le, (if u.fmt64 then 64 else 32), 4, 2⟩).form⟩)
    (off := off) (ctx := []) (le := le) (fmt64 := u.fmt64) (ul := unitLength le u) (rest := u.body ++ rest) (hut ▸ hUT) hut
    (by omega) (by omega) (by rcases hasz with h | h <;> omega) hao hid hto hul).structParse hd0
  rw [specP, parseCUAtOffset_eq, parseHdrAt_encoded u.fmt64 hd0 hul (cu_header_con le u.fmt64 ▸ hhdr)
    (unitHdrVal_v5 h5 hut ▸ unitHdrVal_asz le u) (unitHdrVal_v5 h5 hut ▸ unitHdrVal_version le u) hasz ⟨by omega, by omega⟩]
  have hlen : (unitHdrRest le u).length = 2 + 1 + 1 + (if u.fmt64 then 8 else 4)
      + (v5ExtraBytes le (if u.fmt64 then 8 else 4) u.utype u.id8 u.typeOff).length := by
    rw [hrest]; simp only [List.length_append, encNat_length]; omega
  simp only [cuOf, ← unitHdrVal_v5 h5 hut, InfoUnit.fmt, InfoUnit.ilSize, hlen]
  congr 2
  generalize (v5ExtraBytes le (if u.fmt64 then 8 else 4) u.utype u.id8 u.typeOff).length = X
  cases u.fmt64 <;> simp <;> omega

/-- only a version 5 unit asks the enum decoder anything: the name of its unit type -/
theorem parseCU_encoded_of {enumDecode : String → Int → Option String} {le : Bool} {dasz off : Nat} {data rest : Bytes}
    {u : InfoUnit} (hUT : 5 ≤ u.version → enumDecode "ENUM_DW_UT" u.utype = utName u.utype)
    (hwf : wfUnit le u = true) (hd : data.drop off = encUnit le u ++ rest) :
    specP enumDecode le dasz data off = .ok (cuOf le off u) := by
  by_cases h5 : u.version < 5
  · exact parseCU_encoded hwf h5 hd
  · exact parseCU_encoded5 (hUT (by omega)) hwf h5 hd

theorem ut_of_wf {enumDecode : String → Int → Option String} (hUT : ∀ k : Nat, 1 ≤ k → k ≤ 6 → enumDecode "ENUM_DW_UT" k = utName k)
    {le : Bool} {u : InfoUnit} (hwf : wfUnit le u = true) (h5 : 5 ≤ u.version) :
    enumDecode "ENUM_DW_UT" u.utype = utName u.utype :=
  have h := (wfUnit_parts hwf).utype5 (by omega)
  hUT u.utype h.1 h.2

theorem parseCU_encoded_all {enumDecode : String → Int → Option String} {le : Bool} {dasz off : Nat} {data rest : Bytes}
    {u : InfoUnit} (hUT : ∀ k : Nat, 1 ≤ k → k ≤ 6 → enumDecode "ENUM_DW_UT" k = utName k)
    (hwf : wfUnit le u = true) (hd : data.drop off = encUnit le u ++ rest) :
    specP enumDecode le dasz data off = .ok (cuOf le off u) :=
  parseCU_encoded_of (ut_of_wf hUT hwf) hwf hd

theorem chain_encoded_of {enumDecode : String → Int → Option String} {le : Bool} {dasz size : Nat} {data : Bytes} :
    ∀ (us : List InfoUnit) (off : Nat),
      (∀ u ∈ us, wfUnit le u = true ∧ (5 ≤ u.version → enumDecode "ENUM_DW_UT" u.utype = utName u.utype)) →
      data.drop off = encUnits le us → off + (encUnits le us).length = size →
      Chain (specP enumDecode le dasz data) size off (cusOf le off us) := by
  intro us off hwf hd hsz
  rw [cusOf_place]
  exact chain_placed (encUnit_length le) (unitSize_pos le) (fun _ _ => cuOf_size_any) us off
    (fun u hu _ _ hd => parseCU_encoded_of (hwf u hu).2 (hwf u hu).1 hd) hd hsz

theorem chain_encoded_all {enumDecode : String → Int → Option String} {le : Bool} {dasz size : Nat} {data : Bytes}
    (hUT : ∀ k : Nat, 1 ≤ k → k ≤ 6 → enumDecode "ENUM_DW_UT" k = utName k)
    (us : List InfoUnit) (off : Nat) (hwf : ∀ u ∈ us, wfUnit le u = true)
    (hd : data.drop off = encUnits le us) (hsz : off + (encUnits le us).length = size) :
    Chain (specP enumDecode le dasz data) size off (cusOf le off us) :=
  chain_encoded_of us off (fun u hu => ⟨hwf u hu, ut_of_wf hUT (hwf u hu)⟩) hd hsz

theorem tuHdrRest_length (le : Bool) (h : TUHeader) : (tuHdrRest le h).length = 2 + h.offSize + 1 + 8 + h.offSize := by
  simp only [tuHdrRest, List.length_append, encNat_length]; omega

theorem tu_header_parse {env : Env} {data : Bytes} {off : Nat} {le : Bool} (fmt64 : Bool)
    {ul ver ao asz sig to : Nat} {rest : Bytes}
    (hver : ver < 256 ^ 2) (hasz : asz < 256 ^ 1) (hao : ao < 256 ^ (if fmt64 then 8 else 4))
    (hsig : sig < 256 ^ 8) (hto : to < 256 ^ (if fmt64 then 8 else 4))
    (hul : if fmt64 then ul < 256 ^ 8 else ul < 0xFFFFFF00)
    (hd : data.drop off = encInitialLength le fmt64 ul ++ (encNat le 2 ver ++ (encNat le (if fmt64 then 8 else 4) ao ++
            (encNat le 1 asz ++ (encNat le 8 sig ++ (encNat le (if fmt64 then 8 else 4) to ++ rest)))))) :
    structParse env (tuHeaderCon le (if fmt64 then 8 else 4)) data off
      = .ok (.record [("unit_length", .int ul), ("version", .int ver), ("debug_abbrev_offset", .int ao),
                      ("address_size", .int asz), ("signature", .int sig), ("type_offset", .int to)],
             off + (if fmt64 then 12 else 4) + 2 + (if fmt64 then 8 else 4) + 1 + 8 + (if fmt64 then 8 else 4)) :=
  (ReadsF.struct (.named (Reads.initlen (initlen_bound hul)) <| .named (Reads.uint hver) <| .named (Reads.uint hao) <|
    .named (Reads.uint hasz) <| .named (Reads.uint hsig) <| .named (Reads.uint hto) .nil) (by simp [Fields.set])).structParse hd

theorem parseTUAtOffset_eq : @parseTUAtOffset = parseHdrAt (·.Dwarf_TU_header) := rfl

theorem parseTU_encoded {enumDecode : String → Int → Option String} {le : Bool} {dasz off : Nat} {data rest : Bytes}
    {h : TUHeader} {body : Bytes} (hwf : wfTU le h body = true) (hd : data.drop off = encTU le h body ++ rest) :
    specTU enumDecode le dasz data off = .ok (tuOf le off h body) := by
  have hw := wfTU_parts hwf
  have hv2 := hw.ver2; have hv5 := hw.ver5; have hasz := hw.asz; have hao := hw.abbrevOff; have hsig := hw.signature
  have hto := hw.typeOff; have hul := hw.length
  have hos : h.offSize = if h.fmt64 then 8 else 4 := rfl
  rw [hos] at hao hto
  have hd0 : data.drop off = encInitialLength le h.fmt64 ((tuHdrRest le h).length + body.length) ++
      (encNat le 2 h.version ++ (encNat le (if h.fmt64 then 8 else 4) h.abbrevOff ++ (encNat le 1 h.asz ++
        (encNat le 8 h.signature ++ (encNat le (if h.fmt64 then 8 else 4) h.typeOff ++ (body ++ rest)))))) := by
    rw [hd, encTU]; simp [tuHdrRest, hos, List.append_assoc]
  have hhdr := tu_header_parse
    (env := ⟨enumDecode, (Spec.dwarfStructs ⟨le, (if h.fmt64 then 64 else 32), 4, 2⟩).form⟩) (le := le) h.fmt64
    (rest := body ++ rest) (show h.version < 256 ^ 2 by omega) (by rcases hasz with e | e <;> omega) hao hsig hto hul hd0
  have hcon : (Spec.dwarfStructs ⟨le, (if h.fmt64 then 64 else 32), 4, 2⟩).Dwarf_TU_header
      = tuHeaderCon le (if h.fmt64 then 8 else 4) := by
    rw [tu_header_eq]; cases h.fmt64 <;> rfl
  rw [specTU, parseTUAtOffset_eq, parseHdrAt_encoded h.fmt64 hd0 hul (hcon ▸ hhdr)
    (tuHdrVal_asz le h body) (tuHdrVal_version le h body) hasz ⟨hv2, hv5⟩]
  simp only [tuOf, tuHdrVal, TUHeader.ilSize, tuHdrRest_length, hos]
  congr 2
  cases h.fmt64 <;> simp <;> omega

end PyElf.Proofs.C04
