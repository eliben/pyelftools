/-
  The index of the LAST occurrence of an element in a list: what an insertion-ordered dict filled by
  `for i, x in enumerate(xs): d[x] = i` holds under `x` (`ELFFile._section_name_map` is such a dict).
-/
namespace PyElf.Proofs
universe u

def lastIdx {α : Type u} [DecidableEq α] : List α → α → Option Nat
  | [], _ => none
  | x :: rest, n =>
    match lastIdx rest n with
    | some j => some (j + 1)
    | none => if x = n then some 0 else none

section
variable {α : Type u} [DecidableEq α]

theorem lastIdx_eq_none {l : List α} {n : α} : lastIdx l n = none ↔ n ∉ l := by
  induction l with
  | nil => simp [lastIdx]
  | cons x rest ih =>
    simp only [lastIdx, List.mem_cons, not_or]
    cases h : lastIdx rest n with
    | some j =>
      simp only [reduceCtorEq, false_iff]
      exact fun hn => by rw [ih.2 hn.2] at h; cases h
    | none =>
      have hr := ih.1 h
      by_cases hx : x = n
      · simp [hx]
      · simp only [hx, if_false, true_iff]; exact ⟨fun e => hx e.symm, hr⟩

theorem lastIdx_isSome {l : List α} {n : α} : (lastIdx l n).isSome = true ↔ n ∈ l := by
  cases h : lastIdx l n with
  | none => simpa using lastIdx_eq_none.1 h
  | some i =>
    simp only [Option.isSome_some, true_iff]
    exact Decidable.byContradiction fun hn => by rw [lastIdx_eq_none.2 hn] at h; cases h

theorem lastIdx_last (pre post : List α) (x : α) (h : x ∉ post) : lastIdx (pre ++ x :: post) x = some pre.length := by
  induction pre with
  | nil => simp [lastIdx, lastIdx_eq_none.2 h]
  | cons p pre ih => simp [lastIdx, ih]

theorem lastIdx_some {l : List α} {n : α} {i : Nat} (h : lastIdx l n = some i) :
    l[i]? = some n ∧ ∀ j, i < j → l[j]? ≠ some n := by
  induction l generalizing i with
  | nil => simp [lastIdx] at h
  | cons x rest ih =>
    simp only [lastIdx] at h
    cases hr : lastIdx rest n with
    | some k =>
      simp only [hr, Option.some.injEq] at h
      subst h
      obtain ⟨h1, h2⟩ := ih hr
      refine ⟨by simpa using h1, fun j hj => ?_⟩
      obtain ⟨j', rfl⟩ : ∃ j', j = j' + 1 := ⟨j - 1, by omega⟩
      simpa using h2 j' (by omega)
    | none =>
      simp only [hr] at h
      by_cases hx : x = n
      · simp only [hx, if_true, Option.some.injEq] at h
        subst h
        refine ⟨by simp [hx], fun j hj hc => ?_⟩
        obtain ⟨j', rfl⟩ : ∃ j', j = j' + 1 := ⟨j - 1, by omega⟩
        exact lastIdx_eq_none.1 hr (List.mem_of_getElem? (by simpa using hc))
      · simp [hx] at h

end

end PyElf.Proofs
