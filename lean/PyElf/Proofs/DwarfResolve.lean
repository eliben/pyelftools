/-
  The aranges look-up: `cu_offset_at_addr` by bisect on the sorted table is the declarative "range containing the
  address" under `noShadow` (`cuOffsetAtAddr_eq`); then address → range table → unit on a chain (`unitForAddr_spec`),
  the address outside every range included.
-/
import PyElf.Model.DwarfLookupInfo
import PyElf.Proofs.DwarfLookup
import PyElf.Proofs.ListFacts
namespace PyElf.Proofs.Lookup
open PyElf PyElf.Spec.Lookup PyElf.Model.Lookup PyElf.Proofs

theorem sortByBegin_eq (es : List AREntry) : sortByBegin es = pySortBy (·.begin) es := by
  have hins : ∀ e l, insertByBegin e l = insertByKey (·.begin) e l := by
    intro e l
    induction l with
    | nil => rfl
    | cons x xs ih => simp [insertByBegin, insertByKey, ih]
  induction es with
  | nil => rfl
  | cons e es ih =>
    show insertByBegin e (sortByBegin es) = insertByKey (·.begin) e (pySortBy (·.begin) es)
    rw [ih, hins]

theorem noShadow_symm (x y : AREntry) (h : noShadow x y) : noShadow y x := ⟨h.2, h.1⟩

theorem covers_unique {es : List AREntry} (h : es.Pairwise noShadow) {e e' : AREntry} {a : Nat}
    (he : e ∈ es) (he' : e' ∈ es) (hc : covers e a) (hc' : covers e' a) : e = e' := by
  by_cases hne : e = e'
  · exact hne
  · have hns := Engine.pairwise_mem noShadow_symm h he he' hne
    unfold noShadow covers at hns
    unfold covers at hc hc'
    omega

theorem cuOffsetAt_of_covers {es : List AREntry} (h : es.Pairwise noShadow) {e : AREntry} {a : Nat}
    (he : e ∈ es) (hc : covers e a) : cuOffsetAt es a = some e.infoOff := by
  unfold cuOffsetAt
  cases hf : es.find? fun e => decide (covers e a) with
  | none =>
    have := List.find?_eq_none.mp hf e he
    simp [hc] at this
  | some e' =>
    have hm := List.mem_of_find?_eq_some hf
    have hc' : covers e' a := by simpa using List.find?_some hf
    simp [covers_unique h he hm hc hc']

theorem cuOffsetAt_none_iff {es : List AREntry} {a : Nat} : cuOffsetAt es a = none ↔ ∀ e ∈ es, ¬ covers e a := by
  unfold cuOffsetAt
  rw [Option.map_eq_none_iff, List.find?_eq_none]
  exact forall₂_congr fun e _ => by simp

theorem cuOffsetAt_some_iff {es : List AREntry} (h : es.Pairwise noShadow) (a o : Nat) :
    cuOffsetAt es a = some o ↔ ∃ e ∈ es, covers e a ∧ e.infoOff = o := by
  constructor
  · intro hs
    unfold cuOffsetAt at hs
    cases hf : es.find? fun e => decide (covers e a) with
    | none => simp [hf] at hs
    | some e' =>
      simp [hf] at hs
      exact ⟨e', List.mem_of_find?_eq_some hf, by simpa using List.find?_some hf, hs⟩
  · rintro ⟨e, he, hc, rfl⟩
    exact cuOffsetAt_of_covers h he hc

/-- the object `ARanges.__init__` builds from the entries: sorted by start (stably), with the key column -/
abbrev tableOf (es : List AREntry) : ARanges := ⟨pySortBy (·.begin) es, (pySortBy (·.begin) es).map (·.begin)⟩

/-- Bisect lands behind the last entry beginning at or below `a`.  Any other entry covering `a` begins no later (sorted),
    so its range would contain that begin: excluded by `noShadow`. -/
theorem cuOffsetAtAddr_eq (es : List AREntry) (h : es.Pairwise noShadow) (a : Nat) :
    ARanges.cuOffsetAtAddr (tableOf es) a = .ok (cuOffsetAt es a) := by
  have hsorted : SortedKeys ((pySortBy (·.begin) es).map (·.begin)) :=
    sortedKeys_of_pairwise (List.pairwise_map.2 (pairwise_pySortBy _ es))
  obtain ⟨i, hi, hlen, hle, hgt⟩ := bisectRight_spec a hsorted
  have hpos : ∀ e ∈ es, ∃ j : Nat, (pySortBy (·.begin) es)[j]? = some e := by
    intro e he
    exact List.mem_iff_getElem?.mp ((mem_pySortBy _ e es).mpr he)
  have hkey : ∀ (j : Nat) e, (pySortBy (·.begin) es)[j]? = some e →
      ((pySortBy (·.begin) es).map (·.begin))[j]? = some e.begin := by
    intro j e hj; simp [List.getElem?_map, hj]
  unfold ARanges.cuOffsetAtAddr
  simp only [hi, bind, Except.bind, pure, Except.pure]
  by_cases hi0 : i = 0
  · subst hi0
    simp only [if_true]
    rw [cuOffsetAt_none_iff.2]
    intro e he hc
    obtain ⟨j, hj⟩ := hpos e he
    have := hgt j _ (Nat.zero_le _) (hkey j e hj)
    unfold covers at hc; omega
  · simp only [hi0, if_false]
    have hlen' : i - 1 < (pySortBy (·.begin) es).length := by
      simp at hlen; omega
    have hget : (pySortBy (·.begin) es)[i - 1]? = some (pySortBy (·.begin) es)[i - 1] :=
      List.getElem?_eq_getElem hlen'
    rw [hget]
    simp only
    have htm : (pySortBy (·.begin) es)[i - 1] ∈ es :=
      (mem_pySortBy _ _ es).mp (List.getElem_mem hlen')
    have htle := hle (i - 1) _ (by omega) (hkey _ _ hget)
    by_cases hc : (pySortBy (·.begin) es)[i - 1].begin ≤ a ∧
        a < (pySortBy (·.begin) es)[i - 1].begin + (pySortBy (·.begin) es)[i - 1].len
    · simp only [hc, and_self, if_true]
      rw [cuOffsetAt_of_covers h htm hc]
    · simp only [hc, if_false]
      rw [cuOffsetAt_none_iff.2]
      intro e he hce
      obtain ⟨j, hj⟩ := hpos e he
      have hji : j < i := by
        by_cases hji : j < i
        · exact hji
        · have := hgt j _ (by omega) (hkey j e hj)
          unfold covers at hce; omega
      have hble := hsorted j (i - 1) _ _ (by omega) (hkey j e hj) (hkey _ _ hget)
      by_cases heq : e = (pySortBy (·.begin) es)[i - 1]
      · rw [heq] at hce; exact hc hce
      · have hns := Engine.pairwise_mem noShadow_symm h he htm heq
        unfold noShadow covers at hns
        unfold covers at hce
        omega

theorem noShadow_of_disjoint {es : List AREntry} (hd : es.Pairwise disjoint) (hpos : ∀ e ∈ es, 0 < e.len) :
    es.Pairwise noShadow := by
  induction es with
  | nil => exact List.Pairwise.nil
  | cons e es ih =>
    rw [List.pairwise_cons] at hd ⊢
    refine ⟨?_, ih hd.2 (fun x hx => hpos x (List.mem_cons_of_mem _ hx))⟩
    intro b hb
    have h1 := hd.1 b hb
    have h2 := hpos e (List.mem_cons_self)
    have h3 := hpos b (List.mem_cons_of_mem _ hb)
    unfold disjoint at h1
    unfold noShadow covers
    omega

/-- `cu_offset_at_addr`, then `get_CU_containing` / `get_CU_at` (`byC`): `none` exactly when no range contains the address,
    otherwise the unit of the chain that starts at the offset of the range containing it — whichever way that unit is
    named: a chain has one unit per start -/
theorem unitForAddr_spec {P : Bytes → Nat → R CU} {data : Bytes} {cs : List CU} {st : CUCache} {es : List AREntry}
    (hPo : ∀ o c, P data o = .ok c → c.cuOffset = o) (hch : Chain (P data) data.length 0 cs)
    (hinv : Inv (P data) cs st) (hns : es.Pairwise noShadow) (byC : Bool) (a : Nat) :
    match cuOffsetAt es a with
    | none => unitForAddr byC (some (tableOf es)) P (some data) st a = (.ok none, st)
    | some o => ∀ c ∈ cs, c.cuOffset = o → ∃ st',
        unitForAddr byC (some (tableOf es)) P (some data) st a = (.ok (some c), st') ∧ Inv (P data) cs st' := by
  have hl := cuOffsetAtAddr_eq es hns a
  cases hr : cuOffsetAt es a with
  | none =>
    simp only [unitForAddr, hl, hr]
  | some o =>
    intro c hc hco
    obtain ⟨_, _, sz, hsz, hpos, _⟩ := chain_mem hPo cs 0 hch c hc
    cases byC with
    | true =>
      obtain ⟨st', hg, hinv'⟩ := getCUContaining_exact (x := o) hPo hch hinv hc hsz (by omega) (by omega)
      refine ⟨st', ?_, hinv'⟩
      simp only [unitForAddr, hl, hr, getCUContainingI, if_true, hg]
    | false =>
      obtain ⟨st', hg, hinv', _⟩ := getCUAt_exact hPo hch hinv hc
      rw [hco] at hg
      refine ⟨st', ?_, hinv'⟩
      simp only [unitForAddr, hl, hr, getCUAtI, Bool.false_eq_true, if_false, hg]

end PyElf.Proofs.Lookup
