/-
  Between the construct engine and the models: the models do not call `structParse` but its seeking front ends
  (`Model.structParseAt`, `Model.Reloc.seekParse`: `stream.seek` raises above 2^63), and they run in the environments
  `Model.dwarfEnv` / `Model.elfEnv`.  Below 2^63 the front ends are `structParse` (`structParseAt_eq`,
  `seekParse_of_lt`), so a `Reads` derivation ends in them as it ends in `structParse` (`Reads.structParseAt`,
  `Reads.seekParse`); the environments decode enums through the generated tables.
-/
import PyElf.Model.Utils
import PyElf.Model.Relocation
import PyElf.Model.Env
import PyElf.Proofs.Reads
namespace PyElf.Proofs
open PyElf PyElf.Model

theorem structParseAt_eq {env : Env} {c : Con} {data : Bytes} {pos : Nat} (h : pos < 2 ^ 63) :
    structParseAt env c data pos = structParse env c data pos := by
  have h' : ¬ (2 ^ 63 ≤ pos) := by omega
  simp [structParseAt, h']

theorem structParseAt_big {env : Env} {c : Con} {data : Bytes} {pos : Nat} (h : 2 ^ 63 ≤ pos) :
    structParseAt env c data pos = .error .elfParseError := by
  simp [structParseAt, h]; rfl

namespace Engine

theorem seekParse_of_lt {env : Env} {c : Con} {data : Bytes} {pos : Nat} (h : pos < 2 ^ 63) :
    Reloc.seekParse env c data pos = (structParse env c data pos).map (·.1) := by
  have h' : ¬ (2 ^ 63 ≤ pos) := by omega
  unfold Reloc.seekParse
  simp only [ge_iff_le, h', if_false]
  cases structParse env c data pos <;> rfl

theorem Reads.structParseAt {env : Env} {c : Con} {pos pos' : Nat} {inp out : Bytes} {v : Val} {ctx' : Fields}
    (h : Reads (pr env c) [] pos inp v pos' out ctx') {data : Bytes} (hpos : pos < 2 ^ 63) (hd : data.drop pos = inp) :
    structParseAt env c data pos = .ok (v, pos') :=
  (structParseAt_eq hpos).trans (h.structParse hd)

theorem Reads.seekParse {env : Env} {c : Con} {pos pos' : Nat} {inp out : Bytes} {v : Val} {ctx' : Fields}
    (h : Reads (pr env c) [] pos inp v pos' out ctx') {data : Bytes} (hpos : pos < 2 ^ 63) (hd : data.drop pos = inp) :
    Reloc.seekParse env c data pos = .ok v := by
  rw [seekParse_of_lt hpos, h.structParse hd]; rfl

theorem dwarfEnv_enumDecode (S : DwarfStructs) : (dwarfEnv S).enumDecode = genEnumDecode := rfl

theorem elfEnv_enumDecode (tid : String) (v : Int) : elfEnv.enumDecode tid v = genEnumDecode tid v := rfl

end Engine

end PyElf.Proofs
