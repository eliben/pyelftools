/-
  The symbol-table side of the run's inputs is built by `Spec.buildStrtab` (string table, with or
  without sharing of equal names) and `Spec.encSymtab` (entries at stride `symSize + pad`).  For every
  symbol list whose names contain no NUL these bytes form a `SymtabLayout`: the hypothesis of the
  enumeration / by-name / whole-file lookup theorems is discharged for all built inputs.
  `SymtabContent` says what the two bodies hold apart from where they lie; a file carrying them (`SymtabContent.layout`)
  and an image description holding them (Proofs/SymFile.lean) are its two readings.
-/
import PyElf.Proofs.SymTable
namespace PyElf.Proofs.C03
open PyElf PyElf.Spec PyElf.Model PyElf.Proofs

abbrev StrSt := Bytes × List (Bytes × Nat) × List Nat

def strtabStep (share : Bool) (st : StrSt) (nm : Bytes) : StrSt :=
  if nm.isEmpty then (st.1, st.2.1, st.2.2 ++ [0])
  else match (if share then st.2.1.find? (·.1 == nm) else none) with
    | some (_, o) => (st.1, st.2.1, st.2.2 ++ [o])
    | none => (st.1 ++ nm ++ [0], if share then (nm, st.1.length) :: st.2.1 else st.2.1, st.2.2 ++ [st.1.length])

def strtabFold (share : Bool) (names : List Bytes) : StrSt := names.foldl (strtabStep share) ([0], [], [])

theorem buildStrtab_eq (share : Bool) (names : List Bytes) :
    buildStrtab share names = ((strtabFold share names).1, (strtabFold share names).2.2) := by
  unfold buildStrtab strtabFold
  rfl

theorem strAt_append {tab : Bytes} {o : Nat} {nm : Bytes} (ext : Bytes) (h : strAt tab o = some nm) :
    strAt (tab ++ ext) o = some nm := by
  unfold strAt at h ⊢
  rw [List.drop_append_of_le_length (Nat.le_of_lt (firstNul_drop_lt h))]
  exact Engine.firstNul_append_of_some ext h

/-- the table starts with NUL and every remembered (name, offset) is right -/
def StrGood (st : StrSt) : Prop := (∃ t, st.1 = 0 :: t) ∧ ∀ p ∈ st.2.1, strAt st.1 p.2 = some p.1

/-- one name added: the table grows by `ext` (nothing for the empty name or a shared one), the offset `o` recorded for
    the name denotes it, and the state stays good -/
theorem strtabStep_spec (share : Bool) (st : StrSt) (nm : Bytes) (hg : StrGood st) (hnul : (0 : UInt8) ∉ nm) :
    ∃ o ext, (strtabStep share st nm).1 = st.1 ++ ext ∧ (strtabStep share st nm).2.2 = st.2.2 ++ [o]
      ∧ StrGood (strtabStep share st nm) ∧ strAt (st.1 ++ ext) o = some nm := by
  obtain ⟨⟨t, ht⟩, hseen⟩ := hg
  unfold strtabStep
  by_cases he : nm.isEmpty = true
  · have hnil : nm = [] := List.isEmpty_iff.mp he
    refine ⟨0, [], by simp [he], by simp [he], ?_, ?_⟩
    · simp only [he, if_true]; exact ⟨⟨t, ht⟩, hseen⟩
    · simp [strAt, ht, firstNul, hnil]
  · simp only [he, Bool.false_eq_true, if_false]
    -- a fresh name appended at the end of the table
    have hfresh : strAt (st.1 ++ (nm ++ [0])) st.1.length = some nm := by
      unfold strAt
      rw [List.drop_left' rfl, firstNul_append_of_no_nul nm [0] hnul]
      simp [firstNul]
    cases hf : (if share = true then st.2.1.find? (·.1 == nm) else none) with
    | some p =>
      obtain ⟨nm', o⟩ := p
      have hs : share = true := by
        by_cases hs : share = true
        · exact hs
        · simp [hs] at hf
      simp only [hs, if_true] at hf
      have hmem := List.mem_of_find?_eq_some hf
      have hp : nm' = nm := by simpa using List.find?_some hf
      refine ⟨o, [], by simp, rfl, ⟨⟨t, ht⟩, hseen⟩, ?_⟩
      rw [List.append_nil, ← hp]; exact hseen _ hmem
    | none =>
      refine ⟨st.1.length, nm ++ [0], by simp, rfl, ⟨⟨t ++ nm ++ [0], by simp [ht]⟩, ?_⟩, hfresh⟩
      intro p hp
      simp only [List.append_assoc]
      by_cases hs : share = true
      · simp only [hs, if_true] at hp
        rcases List.mem_cons.mp hp with rfl | hp
        · exact hfresh
        · exact strAt_append _ (hseen p hp)
      · simp only [hs, Bool.false_eq_true, if_false] at hp
        exact strAt_append _ (hseen p hp)

/-- adding `names` to a good string-table state appends one offset per name and keeps the earlier ones; the offset
    added for `names[i]` reads back `names[i]`, and every string readable before is readable after -/
theorem strtabFold_spec (share : Bool) : ∀ (names : List Bytes) (st : StrSt), StrGood st →
    (∀ nm ∈ names, (0 : UInt8) ∉ nm) →
    (names.foldl (strtabStep share) st).2.2.length = st.2.2.length + names.length
      ∧ (∀ i, i < st.2.2.length → (names.foldl (strtabStep share) st).2.2[i]? = st.2.2[i]?)
      ∧ (∀ i (hi : i < names.length), ∃ o, (names.foldl (strtabStep share) st).2.2[st.2.2.length + i]? = some o
            ∧ strAt (names.foldl (strtabStep share) st).1 o = some names[i])
      ∧ (∀ o nm, strAt st.1 o = some nm → strAt (names.foldl (strtabStep share) st).1 o = some nm) := by
  intro names
  induction names with
  | nil => intro st _ _; exact ⟨rfl, fun _ _ => rfl, fun i hi => by simp at hi, fun _ _ h => h⟩
  | cons nm rest ih =>
    intro st hg hnul
    obtain ⟨o, ext, h1, h2, h3, h4⟩ := strtabStep_spec share st nm hg (hnul nm List.mem_cons_self)
    obtain ⟨a, b, c, d⟩ := ih (strtabStep share st nm) h3 (fun x hx => hnul x (List.mem_cons_of_mem _ hx))
    rw [List.foldl_cons]
    have hl' : (strtabStep share st nm).2.2.length = st.2.2.length + 1 := by rw [h2]; simp
    refine ⟨by rw [a, hl']; simp; omega, ?_, ?_, ?_⟩
    · intro i hi
      rw [b i (by omega), h2, List.getElem?_append_left hi]
    · intro i hi
      cases i with
      | zero =>
        refine ⟨o, ?_, ?_⟩
        · rw [Nat.add_zero, b _ (by omega), h2, List.getElem?_append_right (Nat.le_refl _)]; simp
        · exact d o nm (by rw [h1]; exact h4)
      | succ j =>
        obtain ⟨o', ho1, ho2⟩ := c j (by simpa using hi)
        refine ⟨o', ?_, by simpa using ho2⟩
        rw [show st.2.2.length + (j + 1) = (strtabStep share st nm).2.2.length + j by omega]; exact ho1
    · intro o' nm' h
      exact d o' nm' (by rw [h1]; exact strAt_append ext h)

theorem buildStrtab_ok (share : Bool) (names : List Bytes) (hnul : ∀ nm ∈ names, (0 : UInt8) ∉ nm) :
    (buildStrtab share names).2.length = names.length
      ∧ ∀ i (hi : i < names.length), ∃ o, (buildStrtab share names).2[i]? = some o
          ∧ strAt (buildStrtab share names).1 o = some names[i] := by
  rw [buildStrtab_eq]
  unfold strtabFold
  obtain ⟨a, _, c, _⟩ := strtabFold_spec share names ([0], [], []) ⟨⟨[], rfl⟩, fun p hp => by simp at hp⟩ hnul
  refine ⟨by simpa using a, fun i hi => ?_⟩
  obtain ⟨o, h1, h2⟩ := c i hi
  exact ⟨o, by simpa using h1, h2⟩

theorem drop_encSymtab {data : Bytes} {le : Bool} {cls pad : Nat} {rest : Bytes} (es : List SymE) (pos k : Nat)
    (hk : k < es.length) (hd : data.drop pos = encSymtab le cls pad es ++ rest) :
    ∃ rest', data.drop (pos + k * (symSize cls + pad)) = encSym le cls es[k] ++ rest' :=
  Engine.drop_padded_entry (encSym le cls) (symSize cls) (symSize cls + pad) 0 (encSym_length le cls) (Nat.le_add_right _ _) es pos k hk
    (by rw [Nat.add_sub_cancel_left]; exact hd)

/-- what the two bodies hold, apart from where a file (or an image description) places them -/
structure SymtabContent (le : Bool) (cls ent : Nat) (tb sb : Bytes) (es : List SymE) (names : List Bytes) : Prop where
  nlen : names.length = es.length
  wf : ∀ i (hi : i < es.length), es[i].WF cls = true
  entry : ∀ i (hi : i < es.length), (tb.drop (i * ent)).take (symSize cls) = encSym le cls es[i]
  name : ∀ i (hi : i < es.length), strAt sb es[i].stName = some (names.getD i [])

theorem drop_of_body_take {bytes body rest enc : Bytes} {off k m : Nat} (hb : bytes.drop off = body ++ rest)
    (ht : (body.drop k).take m = enc) (hm : enc.length = m) (hpos : 0 < m) :
    ∃ rest', bytes.drop (off + k) = enc ++ rest' := by
  have hk : k < body.length := by
    apply Classical.byContradiction
    intro hn
    have : body.drop k = [] := List.drop_eq_nil_of_le (by omega)
    rw [this] at ht
    simp at ht
    subst ht
    simp at hm
    omega
  refine ⟨(body.drop k).drop m ++ rest, ?_⟩
  rw [← List.drop_drop, hb, List.drop_append_of_le_length (by omega), ← List.append_assoc, ← ht,
    List.take_append_drop]

theorem SymtabContent.layout {le : Bool} {cls : Nat} {h : SecHdr} {tb sb : Bytes} {es : List SymE} {names : List Bytes}
    (C : SymtabContent le cls h.entsize tb sb es names) (hcls : cls = 32 ∨ cls = 64) (hent : 0 < h.entsize)
    (hsize : h.size = es.length * h.entsize) {data : Bytes} {strOff : Nat} {r1 r2 : Bytes}
    (h1 : data.drop h.off = tb ++ r1) (h2 : data.drop strOff = sb ++ r2) :
    SymtabLayout le cls data h strOff es names :=
  ⟨hcls, hent, hsize, C.nlen, C.wf,
   fun i hi => drop_of_body_take h1 (C.entry i hi) (encSym_length _ _ _) (symSize_pos cls),
   fun i hi => by rw [h2]; exact strAt_append r2 (C.name i hi)⟩

def builtEntries (syms : List (Bytes × SymE)) (offs : List Nat) : List SymE :=
  (syms.zip offs).map fun ((_, e), o) => { e with stName := o }

theorem built_content (le : Bool) (cls pad : Nat) (share : Bool) (syms : List (Bytes × SymE))
    (hnul : ∀ s ∈ syms, (0 : UInt8) ∉ s.1) (hwf : ∀ s ∈ syms, s.2.WF cls = true)
    (hlen : (buildStrtab share (syms.map (·.1))).1.length < 2 ^ 32) (slack slack2 : Bytes) :
    SymtabContent le cls (symSize cls + pad)
      (encSymtab le cls pad (builtEntries syms (buildStrtab share (syms.map (·.1))).2) ++ slack)
      ((buildStrtab share (syms.map (·.1))).1 ++ slack2)
      (builtEntries syms (buildStrtab share (syms.map (·.1))).2) (syms.map (·.1)) := by
  obtain ⟨hol, hoff⟩ := buildStrtab_ok share (syms.map (·.1)) (by
    intro nm hnm
    obtain ⟨s, hs, rfl⟩ := List.mem_map.mp hnm
    exact hnul s hs)
  -- from `buildStrtab_ok`: offset `i` denotes name `i` (`hent`); then the three clauses of `SymtabContent` entry by entry
  generalize buildStrtab share (syms.map (·.1)) = T at *
  have hel : (builtEntries syms T.2).length = syms.length := by
    simp [builtEntries, hol]
  -- entry `i` is symbol `i` with its offset
  have hent : ∀ i (hi : i < (builtEntries syms T.2).length), ∃ o, strAt T.1 o = some (syms[i]'(hel ▸ hi)).1
      ∧ (builtEntries syms T.2)[i] = { (syms[i]'(hel ▸ hi)).2 with stName := o } := by
    intro i hi
    have hi' : i < syms.length := hel ▸ hi
    obtain ⟨o, ho1, ho2⟩ := hoff i (by simpa using hi')
    refine ⟨o, by simpa using ho2, ?_⟩
    have hz : (syms.zip T.2)[i]? = some (syms[i], o) :=
      List.getElem?_zip_eq_some.mpr ⟨List.getElem?_eq_getElem hi', ho1⟩
    apply Option.some.inj
    rw [← List.getElem?_eq_getElem hi]
    unfold builtEntries
    rw [List.getElem?_map, hz]
    rfl
  refine ⟨by simp [hel], fun i hi => ?_, fun i hi => ?_, fun i hi => ?_⟩
  · obtain ⟨o, ho2, ho3⟩ := hent i hi
    rw [ho3]
    have hw := hwf _ (List.getElem_mem (hel ▸ hi))
    have hlt := firstNul_drop_lt ho2
    simp only [SymE.WF, Bool.and_eq_true, decide_eq_true_eq] at hw ⊢
    exact ⟨⟨⟨⟨⟨by omega, hw.1.1.1.1.2⟩, hw.1.1.1.2⟩, hw.1.1.2⟩, hw.1.2⟩, hw.2⟩
  · obtain ⟨r, hr⟩ := drop_encSymtab (data := _ ++ slack) _ 0 i hi List.drop_zero
    rw [Nat.zero_add] at hr
    rw [hr, ← encSym_length le cls, List.take_left']
    rfl
  · obtain ⟨o, ho2, ho3⟩ := hent i hi
    have hi' : i < syms.length := hel ▸ hi
    rw [ho3]
    rw [Engine.getD_of_lt _ i [] (by simpa using hi'), List.getElem_map]
    exact strAt_append slack2 ho2

theorem built_layout (le : Bool) (cls pad : Nat) (share : Bool) (syms : List (Bytes × SymE))
    (hcls : cls = 32 ∨ cls = 64)
    (hnul : ∀ s ∈ syms, (0 : UInt8) ∉ s.1) (hwf : ∀ s ∈ syms, s.2.WF cls = true)
    (hlen : (buildStrtab share (syms.map (·.1))).1.length < 2 ^ 32)
    (data : Bytes) (symOff strOff : Nat) (rest1 rest2 : Bytes)
    (h1 : data.drop symOff
        = encSymtab le cls pad (builtEntries syms (buildStrtab share (syms.map (·.1))).2) ++ rest1)
    (h2 : data.drop strOff = (buildStrtab share (syms.map (·.1))).1 ++ rest2) :
    SymtabLayout le cls data ⟨symOff, syms.length * (symSize cls + pad), symSize cls + pad⟩ strOff
      (builtEntries syms (buildStrtab share (syms.map (·.1))).2) (syms.map (·.1)) := by
  have C := built_content le cls pad share syms hnul hwf hlen [] []
  refine C.layout (h := ⟨symOff, _, symSize cls + pad⟩) hcls (Nat.add_pos_left (symSize_pos cls) pad) ?_
    (r1 := rest1) (by simpa using h1) (r2 := rest2) (by simpa using h2)
  show _ = _ * _
  rw [← C.nlen, List.length_map]

end PyElf.Proofs.C03
