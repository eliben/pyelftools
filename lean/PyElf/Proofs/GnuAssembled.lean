/-
  The Spec assembler satisfies the Spec layout predicate.
  For every description accepted by `Spec.C15.needWf` / `defWf` / `versymWf` /
  `symsWf`, any byte string that carries the assembled section (and the string
  table) at some offsets is a layout in the sense of `needLayout` / `defLayout` /
  `versymAt` / `symsAt`.
-/
import PyElf.Proofs.GnuPlace
import PyElf.Proofs.GnuVersions
namespace PyElf.Proofs.C15
open PyElf PyElf.Spec PyElf.Spec.C15

theorem holds_of_consistent (fill : UInt8) (ws : List Write) (buf : Bytes) (hc : consistent ws = true) :
    ∀ w ∈ ws, Holds (ws.foldl (pl fill) buf) w :=
  fun w hw => foldl_holds fill ws buf [] hc (by simp) w (Or.inr hw)

section need
variable {le : Bool} {fill : UInt8} {size : Nat} {strtab data rest rest' : Bytes} {off strOff : Nat}

theorem auxChain_of_writes {A : Type} {enc : A → Bytes} {next : A → Nat} {recAt : Nat → A → Bool} {fits : A → Bool}
    {name : A → Nat} {nm : A → Bytes}
    (hat : ∀ p a, NamedAt data strOff p (fits a) (enc a) (name a) (nm a) → recAt p a = true)
    (hs : data.drop strOff = strtab ++ rest') (as : List A) (pos : Nat)
    (hok : ∀ a ∈ as, fits a = true ∧ gv_strAt strtab (name a) (nm a) = true)
    (hP : ∀ w ∈ chainWrites enc next (fun _ _ => []) pos as, bytesAt data (off + w.1) w.2 = true) :
    chainAt recAt next (off + pos) as = true :=
  chainAt_of_writes enc next (fun _ _ => []) recAt (fun w => bytesAt data (off + w.1) w.2 = true) _ off
    (fun _ a hq hb _ => hat _ a ⟨hq.1, hb, strAt_of_table hq.2 hs⟩) as pos hok hP

/-- The writes are consistent, so the file holds every one of them (`holds_of_consistent`); `chainAt_of_writes` then makes
    the chain record by record, from what `needOk` says of the record (`Q`, read off `hok`) and from its own write and
    its auxiliaries' being held.  `assembleDef_layout` is the same without the file name. -/
theorem assembleNeed_layout {es : List NeedEntry} (hwf : needWf le strtab es = true)
    (hd : data.drop off = assembleNeed le fill size es ++ rest)
    (hs : data.drop strOff = strtab ++ rest') :
    needLayout le data strOff off es = true := by
  simp only [needWf, Bool.and_eq_true] at hwf
  rw [assembleNeed_eq] at hd
  have hP : ∀ w ∈ needWrites le es, bytesAt data (off + w.1) w.2 = true :=
    fun w hw => bytesAt_of_holds (holds_of_consistent fill _ _ hwf.1 w hw) hd
  have hok := hwf.2
  simp only [needOk, List.all_eq_true] at hok
  have key : chainAt (NeedEntry.at le data strOff) (·.r.next) (off + 0) es = true := by
    refine chainAt_of_writes (fun e : NeedEntry => e.r.enc le) (·.r.next) (needAuxWrites le) _
      (fun w => bytesAt data (off + w.1) w.2 = true) _ off ?_ es 0 hok hP
    intro pos e hq hb hsub
    simp only [Bool.and_eq_true, List.all_eq_true, decide_eq_true_eq] at hq
    obtain ⟨⟨⟨⟨h1, h2⟩, h3⟩, h4⟩, h5⟩ := hq
    refine NeedEntry.at_iff.mpr ⟨h1, hb, strAt_of_table h2 hs, h3, h4, ?_⟩
    rw [Nat.add_assoc]
    exact auxChain_of_writes (fun _ _ => NeedAux.at_iff.mpr) hs e.auxs _ h5 hsub
  simpa [needLayout] using key

theorem assembleDef_layout {es : List DefEntry} (hwf : defWf le strtab es = true)
    (hd : data.drop off = assembleDef le fill size es ++ rest)
    (hs : data.drop strOff = strtab ++ rest') :
    defLayout le data strOff off es = true := by
  simp only [defWf, Bool.and_eq_true] at hwf
  rw [assembleDef_eq] at hd
  have hP : ∀ w ∈ defWrites le es, bytesAt data (off + w.1) w.2 = true :=
    fun w hw => bytesAt_of_holds (holds_of_consistent fill _ _ hwf.1 w hw) hd
  have hok := hwf.2
  simp only [defOk, List.all_eq_true] at hok
  have key : chainAt (DefEntry.at le data strOff) (·.r.next) (off + 0) es = true := by
    refine chainAt_of_writes (fun e : DefEntry => e.r.enc le) (·.r.next) (defAuxWrites le) _
      (fun w => bytesAt data (off + w.1) w.2 = true) _ off ?_ es 0 hok hP
    intro pos e hq hb hsub
    simp only [Bool.and_eq_true, List.all_eq_true, decide_eq_true_eq] at hq
    obtain ⟨⟨⟨h1, h3⟩, h4⟩, h5⟩ := hq
    refine DefEntry.at_iff.mpr ⟨h1, hb, h3, h4, ?_⟩
    rw [Nat.add_assoc]
    exact auxChain_of_writes (fun _ _ => DefAux.at_iff.mpr) hs e.auxs _ h5 hsub
  simpa [defLayout] using key

end need

theorem bytesAt_padded {α : Type} (enc : α → Bytes) (n es : Nat) (fill : UInt8) (hn : ∀ x, (enc x).length = n) (hes : n ≤ es)
    {data rest : Bytes} {off i : Nat} (xs : List α)
    (hd : data.drop (off + i * es) = (xs.flatMap fun x => enc x ++ List.replicate (es - n) fill) ++ rest)
    (k : Nat) (hk : k < xs.length) : bytesAt data (off + (i + k) * es) (enc xs[k]) = true := by
  obtain ⟨r, hr⟩ := Engine.drop_padded_entry enc n es fill hn hes xs _ k hk hd
  exact beq_iff_eq.mpr (readN_of_drop (b := r) (by rw [Nat.add_mul, ← Nat.add_assoc, hr]))

theorem versymWf_pos {es : Nat} {rows : List VersymRow} (h : versymWf es rows = true) : 0 < es := by
  simp only [versymWf, Bool.and_eq_true, decide_eq_true_eq] at h
  omega

theorem assembleVersym_layout {le : Bool} {fill : UInt8} {es : Nat} {rows : List VersymRow} {data rest : Bytes} {off : Nat}
    (hwf : versymWf es rows = true) (hd : data.drop off = assembleVersym le fill es rows ++ rest) :
    versymAt le data off es 0 rows = true := by
  simp only [versymWf, Bool.and_eq_true, decide_eq_true_eq, List.all_eq_true] at hwf
  refine (versymAt_iff rows 0).mpr fun k x hx => ?_
  obtain ⟨hk, rfl⟩ := List.getElem?_eq_some_iff.mp hx
  exact Bool.and_eq_true_iff.mpr ⟨hwf.2 _ (List.getElem_mem hk),
    bytesAt_padded (fun x : VersymRow => encNat le 2 x.ndx) 2 es fill (fun _ => encNat_length _ _ _) hwf.1 rows
      (i := 0) (by rw [Nat.zero_mul, Nat.add_zero]; exact hd) k hk⟩

theorem assembleSyms_layout {cls : Nat} {le : Bool} {fill : UInt8} {es : Nat} {rows : List (Sym × VersymRow)}
    {data strtab rest rest' : Bytes} {off strOff : Nat} (hwf : symsWf cls es strtab rows = true)
    (hd : data.drop off = assembleSyms cls le fill es (rows.map (·.1)) ++ rest) (hs : data.drop strOff = strtab ++ rest') :
    symsAt cls le data off es strOff 0 rows = true := by
  simp only [symsWf, Bool.and_eq_true, decide_eq_true_eq, List.all_eq_true] at hwf
  refine (symsAt_iff rows 0).mpr fun k r hr => ?_
  obtain ⟨hk, rfl⟩ := List.getElem?_eq_some_iff.mp hr
  have h0 := hwf.2 _ (List.getElem_mem hk)
  have hb := bytesAt_padded (fun s : Sym => s.enc cls le) (C15.symSize cls) es fill (sym_enc_length cls le) hwf.1
    (rows.map (·.1)) (i := 0) (by simpa only [assembleSyms, sym_enc_length, Nat.zero_mul, Nat.add_zero] using hd) k
    (by simpa using hk)
  rw [List.getElem_map] at hb
  exact symAt_iff.mpr ⟨h0.1, hb, strAt_of_table h0.2 hs⟩

end PyElf.Proofs.C15
