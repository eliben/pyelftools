/-
  The assembler of `Spec/GnuVersions.lean` (`place`, `placeChain`) is a fold of writes, and when the writes are
  consistent (`Spec.C15.consistent`) every one of them can be read back from the result.
-/
import PyElf.Spec.GnuVersionsImage
import PyElf.Proofs.Primitives
namespace PyElf.Proofs.C15
open PyElf PyElf.Spec PyElf.Spec.C15

def pl (fill : UInt8) (b : Bytes) (w : Write) : Bytes := place fill b w.1 w.2

def Holds (buf : Bytes) (w : Write) : Prop := ∀ k, k < w.2.length → buf[w.1 + k]? = w.2[k]?

theorem splice_getElem? (buf' : Bytes) (pos : Nat) (bs : Bytes) (h : pos + bs.length ≤ buf'.length) (i : Nat) :
    (buf'.take pos ++ bs ++ buf'.drop (pos + bs.length))[i]? =
      if i < pos then buf'[i]? else if i < pos + bs.length then bs[i - pos]? else buf'[i]? := by
  have hl : (buf'.take pos).length = pos := by rw [List.length_take]; omega
  rw [List.append_assoc, List.getElem?_append, hl]
  by_cases h1 : i < pos
  · simp only [h1, if_true]
    rw [List.getElem?_take]
    simp [h1]
  · simp only [h1, if_false]
    rw [List.getElem?_append]
    by_cases h2 : i < pos + bs.length
    · have : i - pos < bs.length := by omega
      simp only [this, h2, if_true]
    · have : ¬ i - pos < bs.length := by omega
      simp only [this, h2, if_false]
      rw [List.getElem?_drop]
      congr 1
      omega

theorem place_getElem? (fill : UInt8) (buf : Bytes) (pos : Nat) (bs : Bytes) (i : Nat) :
    (place fill buf pos bs)[i]? =
      if i < pos then (if i < buf.length then buf[i]? else some fill)
      else if i < pos + bs.length then bs[i - pos]? else buf[i]? := by
  unfold place
  by_cases hext : buf.length < pos + bs.length
  · simp only [hext, if_true]
    rw [splice_getElem? _ pos bs (by simp; omega)]
    by_cases h1 : i < pos
    · simp only [h1, if_true]
      rw [List.getElem?_append]
      by_cases h0 : i < buf.length
      · simp [h0]
      · simp only [h0, if_false]
        rw [List.getElem?_replicate]
        have : i - buf.length < pos + bs.length - buf.length := by omega
        simp [this]
    · simp only [h1, if_false]
      by_cases h2 : i < pos + bs.length
      · simp only [h2, if_true]
      · simp only [h2, if_false]
        rw [List.getElem?_eq_none (by simp; omega), List.getElem?_eq_none (by omega)]
  · simp only [hext, if_false]
    rw [splice_getElem? _ pos bs (by omega)]
    by_cases h1 : i < pos
    · have : i < buf.length := by omega
      simp [h1, this]
    · simp [h1]

theorem agree_spec {r s : Write} (h : agree r s = true) (k j : Nat) (hk : k < r.2.length) (hj : j < s.2.length)
    (e : r.1 + k = s.1 + j) : r.2[k]? = s.2[j]? := by
  simp only [agree, Bool.or_eq_true, decide_eq_true_eq, List.all_eq_true, List.mem_range, beq_iff_eq] at h
  rcases h with (h | h) | h
  · omega
  · omega
  · rcases h k hk with (h | h) | h
    · omega
    · omega
    · rw [h]
      congr 1
      omega

theorem place_holds_self (fill : UInt8) (buf : Bytes) (w : Write) : Holds (pl fill buf w) w := by
  intro k hk
  unfold pl
  rw [place_getElem?]
  have h1 : ¬ w.1 + k < w.1 := by omega
  have h2 : w.1 + k < w.1 + w.2.length := by omega
  simp only [h1, h2, if_true, if_false]
  congr 1
  omega

theorem place_preserves (fill : UInt8) (buf : Bytes) (r w : Write) (hr : Holds buf r) (ha : agree r w = true) :
    Holds (pl fill buf w) r := by
  intro k hk
  have hb := hr k hk
  have hlt : r.1 + k < buf.length := by
    rcases Nat.lt_or_ge (r.1 + k) buf.length with h | h
    · exact h
    · rw [List.getElem?_eq_none h, List.getElem?_eq_getElem hk] at hb
      cases hb
  unfold pl
  rw [place_getElem?]
  by_cases h1 : r.1 + k < w.1
  · simp only [h1, hlt, if_true]
    exact hb
  · simp only [h1, if_false]
    by_cases h2 : r.1 + k < w.1 + w.2.length
    · simp only [h2, if_true]
      exact (agree_spec ha k (r.1 + k - w.1) hk (by omega) (by omega)).symm
    · simp only [h2, if_false]
      exact hb

/-- `done` = the writes already placed: each is held by `buf` and agrees with all that follow, so placing the next one
    keeps it held -/
theorem foldl_holds (fill : UInt8) : ∀ (ws : List Write) (buf : Bytes) (done : List Write),
    consistent ws = true → (∀ r ∈ done, Holds buf r ∧ ∀ w ∈ ws, agree r w = true) →
    ∀ r, r ∈ done ∨ r ∈ ws → Holds (ws.foldl (pl fill) buf) r
  | [], buf, done, _, hd, r, hr => by
    rcases hr with hr | hr
    · exact (hd r hr).1
    · simp at hr
  | w :: rest, buf, done, hc, hd, r, hr => by
    simp only [consistent, Bool.and_eq_true, List.all_eq_true] at hc
    rw [List.foldl_cons]
    apply foldl_holds fill rest (pl fill buf w) (w :: done) hc.2
    · intro r' hr'
      rcases List.mem_cons.1 hr' with rfl | hr'
      · exact ⟨place_holds_self fill buf r', hc.1⟩
      · obtain ⟨h1, h2⟩ := hd r' hr'
        exact ⟨place_preserves fill buf r' w h1 (h2 w List.mem_cons_self),
          fun w' hw' => h2 w' (List.mem_cons_of_mem _ hw')⟩
    · rcases hr with hr | hr
      · exact Or.inl (List.mem_cons_of_mem _ hr)
      · rcases List.mem_cons.1 hr with rfl | hr
        · exact Or.inl List.mem_cons_self
        · exact Or.inr hr

theorem placeChain_eq_foldl {α : Type} (fill : UInt8) (enc : α → Bytes) (next : α → Nat)
    (sub : Bytes → Nat → α → Bytes) (subW : Nat → α → List Write)
    (hsub : ∀ buf pos x, sub buf pos x = (subW pos x).foldl (pl fill) buf) :
    ∀ (xs : List α) (buf : Bytes) (pos : Nat),
      placeChain fill enc next sub buf pos xs = (chainWrites enc next subW pos xs).foldl (pl fill) buf
  | [], _, _ => rfl
  | x :: rest, buf, pos => by
    rw [placeChain, chainWrites, List.foldl_cons, List.foldl_append, ← hsub,
      placeChain_eq_foldl fill enc next sub subW hsub rest]
    rfl

theorem assembleNeed_eq (le : Bool) (fill : UInt8) (size : Nat) (es : List NeedEntry) :
    assembleNeed le fill size es = (needWrites le es).foldl (pl fill) (List.replicate size fill) := by
  unfold assembleNeed needWrites
  apply placeChain_eq_foldl
  intro buf pos e
  exact placeChain_eq_foldl fill _ _ _ (fun _ _ => []) (fun _ _ _ => rfl) e.auxs buf (pos + e.r.aux)

theorem assembleDef_eq (le : Bool) (fill : UInt8) (size : Nat) (es : List DefEntry) :
    assembleDef le fill size es = (defWrites le es).foldl (pl fill) (List.replicate size fill) := by
  unfold assembleDef defWrites
  apply placeChain_eq_foldl
  intro buf pos e
  exact placeChain_eq_foldl fill _ _ _ (fun _ _ => []) (fun _ _ _ => rfl) e.auxs buf (pos + e.r.aux)

theorem bytesAt_of_holds {content rest data : Bytes} {off : Nat} {w : Write} (h : Holds content w)
    (hd : data.drop off = content ++ rest) : bytesAt data (off + w.1) w.2 = true := by
  simp only [bytesAt, readN, beq_iff_eq]
  apply List.ext_getElem?
  intro k
  rw [List.getElem?_take]
  by_cases hk : k < w.2.length
  · simp only [hk, if_true]
    rw [List.getElem?_drop, ← h k hk]
    have hlt : w.1 + k < content.length := by
      rcases Nat.lt_or_ge (w.1 + k) content.length with h' | h'
      · exact h'
      · have := h k hk
        rw [List.getElem?_eq_none h', List.getElem?_eq_getElem hk] at this
        cases this
    have : data[off + w.1 + k]? = (data.drop off)[w.1 + k]? := by
      rw [List.getElem?_drop]; congr 1; omega
    rw [this, hd, List.getElem?_append_left hlt]
  · simp only [hk, if_false]
    rw [List.getElem?_eq_none (by omega)]

theorem strAt_of_table {strtab rest data : Bytes} {strOff o : Nat} {s : Bytes}
    (h : gv_strAt strtab o s = true) (hd : data.drop strOff = strtab ++ rest) :
    gv_strAt data (strOff + o) s = true := by
  simp only [gv_strAt, beq_iff_eq] at h ⊢
  exact firstNul_drop_in hd h

theorem chainAt_of_writes {α : Type} (enc : α → Bytes) (next : α → Nat) (subW : Nat → α → List Write)
    (recAt : Nat → α → Bool) (P : Write → Prop) (Q : α → Prop) (off : Nat)
    (hrec : ∀ pos x, Q x → P (pos, enc x) → (∀ w ∈ subW pos x, P w) → recAt (off + pos) x = true) :
    ∀ (xs : List α) (pos : Nat), (∀ x ∈ xs, Q x) → (∀ w ∈ chainWrites enc next subW pos xs, P w) →
      chainAt recAt next (off + pos) xs = true
  | [], _, _, _ => rfl
  | x :: rest, pos, hq, hw => by
    simp only [chainWrites, List.mem_cons, List.mem_append] at hw
    simp only [chainAt, Bool.and_eq_true]
    refine ⟨hrec pos x (hq x List.mem_cons_self) (hw _ (Or.inl rfl)) (fun w h => hw w (Or.inr (Or.inl h))), ?_⟩
    rw [Nat.add_assoc]
    exact chainAt_of_writes enc next subW recAt P Q off hrec rest (pos + next x)
      (fun y hy => hq y (List.mem_cons_of_mem _ hy)) (fun w h => hw w (Or.inr (Or.inr h)))

end PyElf.Proofs.C15
