/-
  One iteration of the `_decode_line_program` loop on the Spec encoding of an
  instruction is one step of the standard's state machine.  The header parameters need only be
  encodable (`ParamsFit`, the record of `Params.WFenc`: `maximum_operations_per_instruction` and `line_range` may
  be 0): the decoder divides by `line_range` only for special opcodes and DW_LNS_const_add_pc, by
  `maximum_operations_per_instruction` only inside `advance_pc`, and an instruction that divides by a
  field that is 0 (`Instr.divZero`) raises ZeroDivisionError.  One lemma per class of opcode carries what the
  class shares (`special_start`, `stepOK_std`, `stepOK_ext`); the per-opcode lemmas run the model's branch, and
  `stepOK_of_enc` collects them (opcodes whose cases are one text share an arm there).
  The file-entry struct stands here too: DW_LNE_define_file reads one, and so does the version 2–4 file table.
  Continues the namespace `PyElf.Proofs.Line` (Proofs/LineFit.lean).
-/
import PyElf.Proofs.LineFit
import PyElf.Spec.DwarfStructs
import PyElf.Model.LineProgram
import PyElf.Proofs.Reads
namespace PyElf.Proofs.Line
open PyElf PyElf.Spec PyElf.Spec.Line PyElf.Model.Line PyElf.Proofs

/-- the constants of dwarf/constants.py as the standard numbers them -/
def specConsts : LnConsts :=
  { copy := DW_LNS_copy, advance_pc := DW_LNS_advance_pc, advance_line := DW_LNS_advance_line,
    set_file := DW_LNS_set_file, set_column := DW_LNS_set_column, negate_stmt := DW_LNS_negate_stmt,
    set_basic_block := DW_LNS_set_basic_block, const_add_pc := DW_LNS_const_add_pc,
    fixed_advance_pc := DW_LNS_fixed_advance_pc, set_prologue_end := DW_LNS_set_prologue_end,
    set_epilogue_begin := DW_LNS_set_epilogue_begin, set_isa := DW_LNS_set_isa,
    end_sequence := DW_LNE_end_sequence, set_address := DW_LNE_set_address,
    define_file := DW_LNE_define_file, set_discriminator := DW_LNE_set_discriminator }

def hdrOf (p : Params) : Hdr :=
  { default_is_stmt := .int p.defaultIsStmt, opcode_base := p.opcodeBase,
    maximum_operations_per_instruction := p.maxOps, line_range := p.lineRange,
    minimum_instruction_length := p.minInst, line_base := p.lineBase,
    standard_opcode_lengths := p.stdLens.map fun n => .int (Int.ofNat n) }

def toRow (s : LineState) : Row :=
  { address := s.address, opIndex := s.op_index, file := s.file, line := s.line, column := s.column,
    isStmt := s.is_stmt.truthy, basicBlock := s.basic_block, endSequence := s.end_sequence,
    prologueEnd := s.prologue_end, epilogueBegin := s.epilogue_begin, isa := s.isa,
    discriminator := s.discriminator }

def rowsOf (es : List Entry) : List Row := (es.filterMap (·.state)).map toRow

theorem rowsOf_append (a b : List Entry) : rowsOf (a ++ b) = rowsOf a ++ rowsOf b := by
  simp [rowsOf, List.filterMap_append]

theorem asNat_zero : (Val.int 0).asNat = .ok 0 := rfl

theorem asNat_ofNat (n : Nat) : (Val.int (Int.ofNat n)).asNat = .ok n := Engine.asNat_nat n

theorem byte_toNat {n : Nat} (h : n < 256) : (byte n).toNat = n := Engine.byte_toNat h

theorem sp_u8 {env : Env} {data : Bytes} {pos : Nat} {le : Bool} {b : UInt8} {rest : Bytes}
    (hd : data.drop pos = b :: rest) :
    structParse env (.uint 1 le) data pos = .ok (.int (b.toNat : Int), pos + 1) := by
  have h := parse_uint_ok (env := env) (le := le) (ctx := []) (n := 1) (bs := [b]) hd rfl
  rw [decNat_singleton] at h
  exact Engine.structParse_of_parse h

theorem Leb.reads {env : Env} {cx : Fields} {pos : Nat} {out : Bytes} {l : Leb} (hl : l.WF = true) :
    Engine.Reads (Engine.pr env .uleb) cx pos (l.enc ++ out) (.int (l.v : Int)) (pos + l.n) out cx := by
  simp only [Leb.WF, Bool.and_eq_true, decide_eq_true_eq] at hl
  exact .uleb hl.1 hl.2

theorem sp_leb {env : Env} {data : Bytes} {pos : Nat} {l : Leb} {rest : Bytes}
    (hl : l.WF = true) (hd : data.drop pos = l.enc ++ rest) :
    structParse env .uleb data pos = .ok (.int (l.v : Int), pos + l.n) :=
  (Leb.reads hl).structParse hd

theorem SLeb.reads {env : Env} {cx : Fields} {pos : Nat} {out : Bytes} {l : SLeb} (hl : l.WF = true) :
    Engine.Reads (Engine.pr env .sleb) cx pos (l.enc ++ out) (.int l.v) (pos + l.n) out cx := by
  simp only [SLeb.WF, Bool.and_eq_true, decide_eq_true_eq] at hl
  exact .sleb hl.1.1 hl.1.2 hl.2

theorem sp_sleb {env : Env} {data : Bytes} {pos : Nat} {l : SLeb} {rest : Bytes}
    (hl : l.WF = true) (hd : data.drop pos = l.enc ++ rest) :
    structParse env .sleb data pos = .ok (.int l.v, pos + l.n) :=
  (SLeb.reads hl).structParse hd

theorem S_u8 (cfg : DwarfCfg) : (Spec.dwarfStructs cfg).the_Dwarf_uint8 = .uint 1 cfg.le := rfl
theorem S_u16 (cfg : DwarfCfg) : (Spec.dwarfStructs cfg).the_Dwarf_uint16 = .uint 2 cfg.le := rfl
theorem S_uleb (cfg : DwarfCfg) : (Spec.dwarfStructs cfg).the_Dwarf_uleb128 = .uleb := rfl
theorem S_sleb (cfg : DwarfCfg) : (Spec.dwarfStructs cfg).the_Dwarf_sleb128 = .sleb := rfl
theorem S_addr (cfg : DwarfCfg) : (Spec.dwarfStructs cfg).the_Dwarf_target_addr = .uint cfg.asz cfg.le := rfl

@[simp] theorem hdr_opcode_base (p : Params) : (hdrOf p).opcode_base = p.opcodeBase := rfl
@[simp] theorem hdr_line_range (p : Params) : (hdrOf p).line_range = p.lineRange := rfl
@[simp] theorem hdr_line_base (p : Params) : (hdrOf p).line_base = p.lineBase := rfl
@[simp] theorem hdr_default_is_stmt (p : Params) : (hdrOf p).default_is_stmt = .int p.defaultIsStmt := rfl
@[simp] theorem hdr_lens (p : Params) :
    (hdrOf p).standard_opcode_lengths = p.stdLens.map fun n => .int (Int.ofNat n) := rfl

def fileEntryCon : Con :=
  st [f "name" .cstring,
      emb (ifc (.truthy (ctx "name")) (st [f "dir_index" .uleb, f "mtime" .uleb, f "length" .uleb]))]

theorem S_file_entry (cfg : DwarfCfg) : (Spec.dwarfStructs cfg).Dwarf_lineprog_file_entry = fileEntryCon := rfl

theorem FileEntry.enc_length (e : FileEntry) :
    e.enc.length = e.name.length + 1 + e.dir.n + e.mtime.n + e.len.n := by
  simp [FileEntry.enc, fileEntryBytes, Leb.enc, encUlebN_length]; omega

theorem FileEntry.name_isEmpty {e : FileEntry} (hw : e.WF = true) : e.name.isEmpty = false := by
  simp only [FileEntry.WF, Bool.and_eq_true, decide_eq_true_eq] at hw
  cases hn : e.name with
  | nil => exact absurd hn hw.1.1.1.1
  | cons _ _ => rfl

theorem FileEntry.reads {env : Env} {cx : Fields} {pos : Nat} {out : Bytes} (e : FileEntry) (hw : e.WF = true) :
    Engine.Reads (Engine.pr env fileEntryCon) cx pos (e.enc ++ out) e.obs (pos + e.enc.length) out cx := by
  have hemp := FileEntry.name_isEmpty hw
  simp only [FileEntry.WF, Bool.and_eq_true, decide_eq_true_eq] at hw
  obtain ⟨⟨⟨⟨-, hnz⟩, hdir⟩, hmt⟩, hln⟩ := hw
  have hnz' : ∀ b ∈ e.name, b ≠ 0 := by simpa [cstrOk] using hnz
  have hcond : (Expr.truthy (ctx "name")).eval (Fields.set [] "name" (.bytes e.name)) .none = .ok (.bool true) := by
    simp [Expr.eval, ctx, Fields.set, Fields.getR, Fields.get?, Val.truthy, hemp, bind, Except.bind, pure, Except.pure]
  refine (Engine.ReadsF.struct (rec := _)
    (.named (.cstring hnz') <|                                                          -- name
     .emb (.emb_ite (b := true) hcond <| .emb_struct <|
       .named (Leb.reads hdir) <| .named (Leb.reads hmt) <| .named (Leb.reads hln) .nil) <|  -- dir_index, mtime, length
     .nil) rfl).as ?_ rfl ?_
  · simp [FileEntry.enc, fileEntryBytes, List.append_assoc]
  · rw [FileEntry.enc_length]; omega

theorem advancePc_ok (p : Params) (hm : p.maxOps ≠ 0) (st : LineState) (n : Nat) :
    advancePc (hdrOf p) st n
      = .ok ({ st with address := st.address + p.minInst * ((st.op_index + n) / p.maxOps),
                       op_index := (st.op_index + n) % p.maxOps },
             p.minInst * ((st.op_index + n) / p.maxOps)) := by
  simp [advancePc, hdrOf, hm]

theorem advancePc_zero (p : Params) (hm : p.maxOps = 0) (st : LineState) (n : Nat) :
    advancePc (hdrOf p) st n = .error .zeroDivision := by
  simp [advancePc, hdrOf, hm]

section
variable {env : Env} {cfg : DwarfCfg} {p : Params} {data rest : Bytes} {off : Nat}
  {st : LineState} {files : Option (List Val)}

/-- the opcode byte is read, and the three-way dispatch of the loop body stands on the number -/
theorem step_read {op : Nat} {tl : Bytes} (h256 : op < 256) (hd : data.drop off = [byte op] ++ tl) :
    step env (Spec.dwarfStructs cfg) specConsts data (hdrOf p) off st files
      = if op ≥ p.opcodeBase then stepSpecial (hdrOf p) op (off + 1) st files
        else if op = 0 then stepExtended env (Spec.dwarfStructs cfg) specConsts data (hdrOf p) (off + 1) st files
        else stepStandard env (Spec.dwarfStructs cfg) specConsts data (hdrOf p) op (off + 1) st files := by
  have hd' : data.drop off = byte op :: tl := by simpa using hd
  simp only [step, S_u8, sp_u8 hd', byte_toNat h256, Engine.asNat_nat, bind, Except.bind, hdr_opcode_base]
  rfl

theorem std_start {op : Nat} {tl : Bytes} (h0 : op ≠ 0) (hlt : op < p.opcodeBase) (h256 : op < 256)
    (hd : data.drop off = [byte op] ++ tl) :
    step env (Spec.dwarfStructs cfg) specConsts data (hdrOf p) off st files
      = stepStandard env (Spec.dwarfStructs cfg) specConsts data (hdrOf p) op (off + 1) st files
    ∧ data.drop (off + 1) = tl :=
  ⟨by rw [step_read h256 hd, if_neg (by omega), if_neg h0], drop_add_of_drop hd⟩

theorem special_start {op ver : Nat} (hw : (Instr.special op).WF p ver = true)
    (hd : data.drop off = (Instr.special op).enc p ++ rest) :
    step env (Spec.dwarfStructs cfg) specConsts data (hdrOf p) off st files
      = stepSpecial (hdrOf p) op (off + 1) st files := by
  simp only [Instr.WF, Bool.and_eq_true, decide_eq_true_eq] at hw
  rw [step_read (by omega) hd, if_pos hw.1]
end

/-- what the loop body must have done on the encoding of `i`: consumed exactly `i.enc p`, moved the
    registers as the standard says, appended the standard's row (if any) and the defined file -/
def StepPost (p : Params) (i : Instr) (off : Nat) (st : LineState) (files : Option (List Val)) :
    R StepOut → Prop
  | .ok (off', st', files', new) =>
      off' = off + (i.enc p).length
      ∧ files' = files.map (· ++ (definedFiles [i]).map FileEntry.obs)
      ∧ toRow st' = (stdStep p (toRow st) i).1
      ∧ rowsOf new = (stdStep p (toRow st) i).2.toList
  | .error _ => False

def StepOK (env : Env) (cfg : DwarfCfg) (p : Params) (ver : Nat) (i : Instr) : Prop :=
  ∀ (data rest : Bytes) (off : Nat) (st : LineState) (files : Option (List Val)),
    data.drop off = i.enc p ++ rest → (ver ≤ 4 → files.isSome = true) →
    off + (i.enc p).length ≤ ssizeMax →
    StepPost p i off st files (step env (Spec.dwarfStructs cfg) specConsts data (hdrOf p) off st files)

theorem files_map_nil (files : Option (List Val)) : files.map (· ++ ([] : List Val)) = files := by
  cases files <;> simp

section
variable {env : Env} {cfg : DwarfCfg} {p : Params} {ver : Nat}

theorem divisors_ne_zero {i : Instr} (hl : i.usesLineRange = true) (ha : i.advances = true)
    (hz : i.divZero p = false) : p.lineRange ≠ 0 ∧ p.maxOps ≠ 0 := by
  simpa [Instr.divZero, hl, ha] using hz

theorem dw_consts :
    DW_LNS_copy = 1 ∧ DW_LNS_advance_pc = 2 ∧ DW_LNS_advance_line = 3 ∧ DW_LNS_set_file = 4 ∧ DW_LNS_set_column = 5
    ∧ DW_LNS_negate_stmt = 6 ∧ DW_LNS_set_basic_block = 7 ∧ DW_LNS_const_add_pc = 8 ∧ DW_LNS_fixed_advance_pc = 9
    ∧ DW_LNS_set_prologue_end = 10 ∧ DW_LNS_set_epilogue_begin = 11 ∧ DW_LNS_set_isa = 12
    ∧ DW_LNE_end_sequence = 1 ∧ DW_LNE_set_address = 2 ∧ DW_LNE_define_file = 3 ∧ DW_LNE_set_discriminator = 4 := by
  decide

theorem stepOK_special (op : Nat) (hw : (Instr.special op).WF p ver = true)
    (hz : (Instr.special op).divZero p = false) : StepOK env cfg p ver (.special op) := by
  intro data rest off st files hd _ _
  obtain ⟨hl, hm⟩ := divisors_ne_zero rfl rfl hz
  rw [special_start hw hd]
  simp only [stepSpecial, hdr_line_range, hl, if_false, hdr_opcode_base, hdr_line_base,
    advancePc_ok p hm st ((op - p.opcodeBase) / p.lineRange), bind, Except.bind, pure, Except.pure, StepPost]
  simp [Instr.enc, definedFiles, toRow, stdStep, Row.advance, Row.afterAppend, LineState.cleared, rowsOf]

/-- the class of standard opcodes: once the opcode byte is read and dispatched, what is left (`hbr`) is that the
    model's branch for `op` reads the operands and moves the registers as `stdStep` does -/
theorem stepOK_std {i : Instr} {op : Nat} {opnds : Bytes}
    (henc : i.enc p = [byte op] ++ opnds) (h0 : op ≠ 0) (h256 : op < 256) (hlt : op < p.opcodeBase)
    (hdef : definedFiles [i] = [])
    (hbr : ∀ (data rest : Bytes) (p1 : Nat) (st : LineState) (files : Option (List Val)), data.drop p1 = opnds ++ rest →
      ∃ st' new, stepStandard env (Spec.dwarfStructs cfg) specConsts data (hdrOf p) op p1 st files
          = .ok (p1 + opnds.length, st', files, new)
        ∧ toRow st' = (stdStep p (toRow st) i).1 ∧ rowsOf new = (stdStep p (toRow st) i).2.toList) :
    StepOK env cfg p ver i := by
  intro data rest off st files hd _ _
  rw [henc, List.append_assoc] at hd
  obtain ⟨hs, hd1⟩ := std_start (env := env) (cfg := cfg) (st := st) (files := files) h0 hlt h256 hd
  obtain ⟨st', new, hrun, h1, h2⟩ := hbr data rest (off + 1) st files hd1
  rw [hs, hrun]
  refine ⟨?_, ?_, h1, h2⟩
  · rw [henc, List.length_append, List.length_singleton]; omega
  · rw [hdef]; exact (files_map_nil files).symm

-- in the instances, `simp` runs the model's branch and `rfl` then names the state and the entry it leaves

theorem stepOK_negateStmt (hw : Instr.negateStmt.WF p ver = true) : StepOK env cfg p ver .negateStmt :=
  stepOK_std (opnds := []) rfl (by decide) (by decide) (of_decide_eq_true hw) rfl fun _ _ _ st _ _ =>
    ⟨{ st with is_stmt := .bool (!st.is_stmt.truthy) }, _,
      by
      simp [stepStandard, specConsts, dw_consts, pure, Except.pure]
      rfl, by simp [toRow, stdStep, Val.truthy], rfl⟩

theorem stepOK_constAddPc (hw : Instr.constAddPc.WF p ver = true) (hz : Instr.constAddPc.divZero p = false) :
    StepOK env cfg p ver .constAddPc := by
  obtain ⟨hl, hm⟩ := divisors_ne_zero rfl rfl hz
  exact stepOK_std (opnds := []) rfl (by decide) (by decide) (of_decide_eq_true hw) rfl fun _ _ _ st _ _ =>
    ⟨_, _, by
      simp [stepStandard, specConsts, dw_consts, hl, advancePc_ok p hm, bind, Except.bind, pure, Except.pure]
      exact ⟨rfl, rfl⟩, rfl, rfl⟩

theorem stepOK_advancePc (n : Leb) (hw : (Instr.advancePc n).WF p ver = true)
    (hz : (Instr.advancePc n).divZero p = false) : StepOK env cfg p ver (.advancePc n) := by
  simp only [Instr.WF, Bool.and_eq_true] at hw
  have hm : p.maxOps ≠ 0 := by simpa [Instr.divZero, Instr.usesLineRange, Instr.advances] using hz
  exact stepOK_std (opnds := n.enc) rfl (by decide) (by decide) (of_decide_eq_true hw.1) rfl fun _ _ _ st _ hd =>
    ⟨_, _, by
      simp [stepStandard, specConsts, dw_consts, S_uleb, sp_leb hw.2 hd, Engine.asNat_nat, advancePc_ok p hm, bind,
        Except.bind, pure, Except.pure, Leb.enc, encUlebN_length]
      exact ⟨rfl, rfl⟩, rfl, rfl⟩

theorem stepOK_advanceLine (d : SLeb) (hw : (Instr.advanceLine d).WF p ver = true) :
    StepOK env cfg p ver (.advanceLine d) := by
  simp only [Instr.WF, Bool.and_eq_true] at hw
  exact stepOK_std (opnds := d.enc) rfl (by decide) (by decide) (of_decide_eq_true hw.1) rfl fun _ _ _ st _ hd =>
    ⟨{ st with line := st.line + d.v }, _, by
      simp [stepStandard, specConsts, dw_consts, S_sleb, sp_sleb hw.2 hd, Val.asInt, bind, Except.bind, pure,
        Except.pure, SLeb.enc, encSlebN_length]
      rfl, rfl, rfl⟩

theorem stepOK_fixedAdvancePc (hle : p.le = cfg.le) (n : Nat) (hw : (Instr.fixedAdvancePc n).WF p ver = true) :
    StepOK env cfg p ver (.fixedAdvancePc n) := by
  simp only [Instr.WF, Bool.and_eq_true] at hw
  have hn : n < 256 ^ 2 := by have : n < 65536 := of_decide_eq_true hw.2; omega
  exact stepOK_std (opnds := encNat p.le 2 n) rfl (by decide) (by decide) (of_decide_eq_true hw.1) rfl
    fun _ _ _ st _ hd =>
    ⟨{ st with address := st.address + n, op_index := 0 }, _, by
      simp [stepStandard, specConsts, dw_consts, S_u16, (Engine.Reads.uint hn).structParse (hle ▸ hd), Engine.asNat_nat, bind,
        Except.bind, pure, Except.pure, encNat_length]
      rfl, rfl, rfl⟩

end

theorem readUlebs_ok {env : Env} {cfg : DwarfCfg} {data rest : Bytes} :
    ∀ (args : List Leb) (pos : Nat) (acc : List Val), args.all Leb.WF = true →
      data.drop pos = lebsEnc args ++ rest →
      readUlebs env (Spec.dwarfStructs cfg) data args.length pos acc
        = .ok (acc ++ args.map (fun l => Val.int (l.v : Int)), pos + (lebsEnc args).length) := by
  intro args
  induction args with
  | nil => intro pos acc _ _; simp [readUlebs, lebsEnc]
  | cons l ls ih =>
    intro pos acc hw hd
    simp only [List.all_cons, Bool.and_eq_true] at hw
    have hd0 : data.drop pos = l.enc ++ (lebsEnc ls ++ rest) := by simpa [lebsEnc, List.append_assoc] using hd
    have hd1 : data.drop (pos + l.n) = lebsEnc ls ++ rest := by
      have := drop_add_of_drop hd0
      rwa [Leb.enc, encUlebN_length] at this
    simp only [List.length_cons, readUlebs, S_uleb, sp_leb hw.1 hd0, bind, Except.bind]
    rw [ih (pos + l.n) (acc ++ [Val.int (l.v : Int)]) hw.2 hd1]
    simp [lebsEnc, Leb.enc, encUlebN_length, Nat.add_assoc]

section
variable {env : Env} {cfg : DwarfCfg} {p : Params} {ver : Nat}

theorem stepOK_unknownStd (hp : ParamsFit p ver) (op : Nat) (args : List Leb)
    (hw : (Instr.unknownStd op args).WF p ver = true) : StepOK env cfg p ver (.unknownStd op args) := by
  simp only [Instr.WF, Bool.and_eq_true, stdOk, decide_eq_true_eq] at hw
  obtain ⟨⟨⟨h13, hob⟩, hlen⟩, hargs⟩ := hw
  have h256 := hp.opcodeBase.2
  have hne : op ≠ 1 ∧ op ≠ 2 ∧ op ≠ 3 ∧ op ≠ 4 ∧ op ≠ 5 ∧ op ≠ 6 ∧ op ≠ 7 ∧ op ≠ 8 ∧ op ≠ 9 ∧ op ≠ 10
      ∧ op ≠ 11 ∧ op ≠ 12 := by omega
  exact stepOK_std (opnds := lebsEnc args) rfl (by omega) (by omega) hob rfl fun _ _ p1 st _ hd =>
    ⟨st, _, by
      simp [stepStandard, specConsts, dw_consts, hne, hlen, Val.asInt, readUlebs_ok args p1 [] hargs hd, bind,
        Except.bind, pure, Except.pure]
      rfl, rfl, rfl⟩

end

theorem encExt_length (lk op : Nat) (payload : Bytes) :
    (encExt lk op payload).length = 1 + lk + 1 + payload.length := by
  simp [encExt, encUlebN_length]; omega

/-- the length is handed on as a variable `L` with its equation, so that `simp` at the users does not take the
    cast `((1 + payload.length : Nat) : Int)` apart -/
theorem ext_reads {env : Env} {le : Bool} {data rest payload : Bytes} {p1 lk op : Nat}
    (hlk : extLenOk lk payload.length = true) (hop : op < 256)
    (hd : data.drop p1 = encUlebN lk (1 + payload.length) ++ ([byte op] ++ (payload ++ rest))) :
    ∃ L : Nat, L = 1 + payload.length
    ∧ structParse env .uleb data p1 = .ok (.int (L : Int), p1 + lk)
    ∧ structParse env (.uint 1 le) data (p1 + lk) = .ok (.int (op : Int), p1 + lk + 1)
    ∧ data.drop (p1 + lk + 1) = payload ++ rest := by
  simp only [extLenOk, Bool.and_eq_true, decide_eq_true_eq] at hlk
  have h2 : data.drop (p1 + lk) = [byte op] ++ (payload ++ rest) := by
    have := drop_add_of_drop hd
    rwa [encUlebN_length] at this
  refine ⟨_, rfl, (Engine.Reads.uleb hlk.1 hlk.2).structParse hd, ?_, ?_⟩
  · have := sp_u8 (env := env) (le := le) (b := byte op) (rest := payload ++ rest) (by simpa using h2)
    rwa [byte_toNat hop] at this
  · simpa using drop_add_of_drop h2

section
variable {env : Env} {cfg : DwarfCfg} {p : Params} {ver : Nat}

theorem ext_start {data rest payload : Bytes} {off lk op : Nat} {st : LineState} {files : Option (List Val)}
    (hp : ParamsFit p ver) (hd : data.drop off = encExt lk op payload ++ rest) :
    step env (Spec.dwarfStructs cfg) specConsts data (hdrOf p) off st files
      = stepExtended env (Spec.dwarfStructs cfg) specConsts data (hdrOf p) (off + 1) st files
    ∧ data.drop (off + 1) = encUlebN lk (1 + payload.length) ++ ([byte op] ++ (payload ++ rest)) := by
  have hd0 : data.drop off = [byte 0] ++ (encUlebN lk (1 + payload.length) ++ ([byte op] ++ (payload ++ rest))) := by
    rw [hd, encExt]; simp [List.append_assoc, byte]
  have := hp.opcodeBase.1
  exact ⟨by rw [step_read (by decide) hd0, if_neg (by omega), if_pos rfl], drop_add_of_drop hd0⟩

/-- the class of extended opcodes: once the escape byte, the length and the opcode are read, what is left (`hbr`)
    is that the model's branch for `op` reads the payload and acts as `stdStep` does -/
theorem stepOK_ext {i : Instr} {lk op : Nat} {payload : Bytes} (hp : ParamsFit p ver)
    (henc : i.enc p = encExt lk op payload) (hlk : extLenOk lk payload.length = true) (hop : op < 256)
    (hbr : ∀ (data rest : Bytes) (p1 L : Nat) (st : LineState) (files : Option (List Val)), L = 1 + payload.length →
      structParse env .uleb data p1 = .ok (.int (L : Int), p1 + lk) →
      structParse env (.uint 1 cfg.le) data (p1 + lk) = .ok (.int (op : Int), p1 + lk + 1) →
      data.drop (p1 + lk + 1) = payload ++ rest → (ver ≤ 4 → files.isSome = true) →
      p1 + lk + 1 + payload.length ≤ ssizeMax →
      ∃ st' new, stepExtended env (Spec.dwarfStructs cfg) specConsts data (hdrOf p) p1 st files
          = .ok (p1 + lk + 1 + payload.length, st', files.map (· ++ (definedFiles [i]).map FileEntry.obs), new)
        ∧ toRow st' = (stdStep p (toRow st) i).1 ∧ rowsOf new = (stdStep p (toRow st) i).2.toList) :
    StepOK env cfg p ver i := by
  intro data rest off st files hd hfiles hsz
  rw [henc] at hd hsz
  rw [encExt_length] at hsz
  obtain ⟨hs, hd1⟩ := ext_start (env := env) (cfg := cfg) (st := st) (files := files) hp hd
  obtain ⟨L, hL, r1, r2, hd3⟩ := ext_reads (env := env) (le := cfg.le) hlk hop hd1
  obtain ⟨st', new, hrun, h1, h2⟩ := hbr data rest (off + 1) L st files hL r1 r2 hd3 hfiles (by omega)
  rw [hs, hrun]
  exact ⟨by rw [henc, encExt_length]; omega, rfl, h1, h2⟩

theorem stepOK_endSequence (hp : ParamsFit p ver) (lk : Nat) (hw : (Instr.endSequence lk).WF p ver = true) :
    StepOK env cfg p ver (.endSequence lk) :=
  stepOK_ext (payload := []) hp rfl hw (by decide) fun _ _ _ _ st files _ r1 r2 _ _ _ =>
    ⟨LineState.new (.int p.defaultIsStmt), _, by
      simp [stepExtended, S_uleb, S_u8, r1, r2, Val.asNat_of_nonneg, specConsts, dw_consts, bind,
        Except.bind, pure, Except.pure, definedFiles]
      rfl, by simp [toRow, stdStep, LineState.new, Row.init, Val.truthy], rfl⟩

theorem stepOK_setAddress (hp : ParamsFit p ver) (hle : p.le = cfg.le) (hasz : p.asz = cfg.asz) (lk a : Nat)
    (hw : (Instr.setAddress lk a).WF p ver = true) : StepOK env cfg p ver (.setAddress lk a) := by
  simp only [Instr.WF, Bool.and_eq_true] at hw
  have ha : a < 256 ^ cfg.asz := by rw [← hasz]; exact of_decide_eq_true hw.2
  have hlk : extLenOk lk (encNat p.le p.asz a).length = true := by rw [encNat_length]; exact hw.1
  exact stepOK_ext hp rfl hlk (by decide) fun _ _ _ _ st files _ r1 r2 hd _ _ =>
    ⟨{ st with address := a, op_index := 0 }, _, by
      rw [hle, hasz] at hd
      simp [stepExtended, S_uleb, S_u8, S_addr, r1, r2, (Engine.Reads.uint ha).structParse hd, Val.asNat_of_nonneg,
        specConsts, dw_consts, bind, Except.bind, pure, Except.pure, definedFiles, encNat_length, hasz]
      rfl, rfl, rfl⟩

theorem stepOK_setDiscriminator (hp : ParamsFit p ver) (lk : Nat) (d : Leb)
    (hw : (Instr.setDiscriminator lk d).WF p ver = true) : StepOK env cfg p ver (.setDiscriminator lk d) := by
  simp only [Instr.WF, Bool.and_eq_true] at hw
  have hlk : extLenOk lk d.enc.length = true := by rw [Leb.enc, encUlebN_length]; exact hw.2
  exact stepOK_ext hp rfl hlk (by decide) fun _ _ _ _ st files _ r1 r2 hd _ _ =>
    ⟨{ st with discriminator := d.v }, _, by
      simp [stepExtended, S_uleb, S_u8, r1, r2, sp_leb hw.1 hd, Val.asNat_of_nonneg, specConsts,
        dw_consts, bind, Except.bind, pure, Except.pure, definedFiles, Leb.enc, encUlebN_length]
      rfl, rfl, rfl⟩

theorem stepOK_unknownExt (hp : ParamsFit p ver) (lk op : Nat) (payload : Bytes)
    (hw : (Instr.unknownExt lk op payload).WF p ver = true) : StepOK env cfg p ver (.unknownExt lk op payload) := by
  simp only [Instr.WF, Bool.and_eq_true, decide_eq_true_eq, dw_consts] at hw
  obtain ⟨⟨⟨⟨⟨h256, n1⟩, n2⟩, n3⟩, n4⟩, hlk⟩ := hw
  exact stepOK_ext hp rfl hlk h256 fun _ _ p1 L st files hL r1 r2 _ _ hsz =>
    ⟨st, _, by
      -- `stream.seek(inst_len - 1, SEEK_CUR)` stays below `PY_SSIZE_T_MAX`
      have hno : ¬ (L ≥ 1 ∧ p1 + lk + 1 + (L - 1) > ssizeMax) := by omega
      have hpos : p1 + lk + 1 + L - 1 = p1 + lk + 1 + payload.length := by omega
      simp [stepExtended, S_uleb, S_u8, r1, r2, Val.asNat_of_nonneg, specConsts, dw_consts, n1, n2, n3,
        n4, bind, Except.bind, pure, Except.pure, definedFiles, hno, hpos]
      rfl, rfl, rfl⟩

theorem stepOK_defineFile (hp : ParamsFit p ver) (lk : Nat) (name : Bytes) (dir mtime len : Leb)
    (hw : (Instr.defineFile lk name dir mtime len).WF p ver = true) :
    StepOK env cfg p ver (.defineFile lk name dir mtime len) := by
  simp only [Instr.WF, Bool.and_eq_true, decide_eq_true_eq] at hw
  obtain ⟨⟨⟨⟨⟨⟨hver, hne⟩, hnz⟩, hdir⟩, hmt⟩, hln⟩, hlk⟩ := hw
  have hew : (FileEntry.mk name dir mtime len).WF = true := by
    simp [FileEntry.WF, hne, hnz, hdir, hmt, hln, cstrOk]
  exact stepOK_ext hp rfl hlk (by decide) fun _ _ _ _ st files _ r1 r2 hd hfiles _ => by
    -- `self['file_entry'].append`: the table is a list in versions 2–4
    obtain ⟨fl, rfl⟩ : ∃ fl, files = some fl := by
      cases files with
      | none => exact absurd (hfiles hver) (by simp)
      | some fl => exact ⟨fl, rfl⟩
    have r3 := (FileEntry.reads (env := env) (cx := []) (FileEntry.mk name dir mtime len) hew).structParse hd
    exact ⟨st, _, by
      simp [stepExtended, S_uleb, S_u8, S_file_entry, r1, r2, r3, Val.asNat_of_nonneg, specConsts, dw_consts, bind,
        Except.bind, pure, Except.pure, definedFiles, FileEntry.enc]
      rfl, rfl, rfl⟩

end

section
variable {env : Env} {cfg : DwarfCfg} {p : Params} {ver : Nat}

theorem stepOK_of_enc (hp : ParamsFit p ver) (hle : p.le = cfg.le) (hasz : p.asz = cfg.asz) (i : Instr)
    (hw : i.WF p ver = true) (hz : i.divZero p = false) : StepOK env cfg p ver i := by
  cases i with
  | special op => exact stepOK_special op hw hz
  | copy | setBasicBlock | setPrologueEnd | setEpilogueBegin =>
    exact stepOK_std (opnds := []) rfl (by decide) (by decide) (of_decide_eq_true hw) rfl fun _ _ _ _ _ _ =>
      ⟨_, _, by
        simp [stepStandard, specConsts, dw_consts, pure, Except.pure]
        exact ⟨rfl, rfl⟩, rfl, rfl⟩
  | advancePc n => exact stepOK_advancePc n hw hz
  | advanceLine d => exact stepOK_advanceLine d hw
  | setFile n | setColumn n | setIsa n =>
    simp only [Instr.WF, Bool.and_eq_true] at hw
    exact stepOK_std (opnds := n.enc) rfl (by decide) (by decide) (of_decide_eq_true hw.1) rfl fun _ _ _ _ _ hd =>
      ⟨_, _, by
        simp [stepStandard, specConsts, dw_consts, S_uleb, sp_leb hw.2 hd, Engine.asNat_nat, bind, Except.bind, pure,
          Except.pure, Leb.enc, encUlebN_length]
        exact ⟨rfl, rfl⟩, rfl, rfl⟩
  | negateStmt => exact stepOK_negateStmt hw
  | constAddPc => exact stepOK_constAddPc hw hz
  | fixedAdvancePc n => exact stepOK_fixedAdvancePc hle n hw
  | unknownStd op args => exact stepOK_unknownStd hp op args hw
  | endSequence lk => exact stepOK_endSequence hp lk hw
  | setAddress lk a => exact stepOK_setAddress hp hle hasz lk a hw
  | defineFile lk name dir mtime len => exact stepOK_defineFile hp lk name dir mtime len hw
  | setDiscriminator lk d => exact stepOK_setDiscriminator hp lk d hw
  | unknownExt lk op payload => exact stepOK_unknownExt hp lk op payload hw

theorem divZero_of_WF (hp : p.WF ver = true) (i : Instr) : i.divZero p = false := by
  obtain ⟨-, hm, hl⟩ := Params.WF_parts hp
  have hm : p.maxOps ≠ 0 := by omega
  have hl : p.lineRange ≠ 0 := by omega
  simp [Instr.divZero, hm, hl]

theorem stepOK_all (hp : p.WF ver = true) (hle : p.le = cfg.le) (hasz : p.asz = cfg.asz) (i : Instr)
    (hw : i.WF p ver = true) : StepOK env cfg p ver i :=
  stepOK_of_enc (Params.WFenc_iff.1 (Params.WF_enc hp)) hle hasz i hw (divZero_of_WF hp i)

theorem step_divZero (i : Instr) (hw : i.WF p ver = true) (hz : i.divZero p = true) {data rest : Bytes} {off : Nat}
    {st : LineState} {files : Option (List Val)} (hd : data.drop off = i.enc p ++ rest) :
    step env (Spec.dwarfStructs cfg) specConsts data (hdrOf p) off st files = .error .zeroDivision := by
  cases i <;> try (simp [Instr.divZero, Instr.usesLineRange, Instr.advances] at hz; done)
  case special op =>
    rw [special_start hw hd]
    simp only [Instr.divZero, Instr.usesLineRange, Instr.advances, Bool.true_and, Bool.or_eq_true,
      decide_eq_true_eq] at hz
    by_cases hl : p.lineRange = 0
    · simp [stepSpecial, hl]
    · have hm : p.maxOps = 0 := hz.resolve_left hl
      simp [stepSpecial, hl, advancePc_zero p hm, bind, Except.bind]
  case advancePc n =>
    simp only [Instr.WF, Bool.and_eq_true] at hw
    have hm : p.maxOps = 0 := by simpa [Instr.divZero, Instr.usesLineRange, Instr.advances] using hz
    obtain ⟨hs, hd1⟩ := std_start (env := env) (cfg := cfg) (st := st) (files := files) (by decide)
      (of_decide_eq_true hw.1) (by decide)
      (show data.drop off = [byte DW_LNS_advance_pc] ++ (n.enc ++ rest) by simpa [Instr.enc] using hd)
    rw [hs]
    simp [stepStandard, specConsts, dw_consts, S_uleb, sp_leb hw.2 hd1, Engine.asNat_nat, advancePc_zero p hm, bind,
      Except.bind]
  case constAddPc =>
    simp only [Instr.divZero, Instr.usesLineRange, Instr.advances, Bool.true_and, Bool.or_eq_true,
      decide_eq_true_eq] at hz
    obtain ⟨hs, -⟩ := std_start (env := env) (cfg := cfg) (st := st) (files := files) (by decide)
      (of_decide_eq_true hw) (by decide) (show data.drop off = [byte DW_LNS_const_add_pc] ++ rest from hd)
    rw [hs]
    by_cases hl : p.lineRange = 0
    · simp [stepStandard, specConsts, dw_consts, hl]
    · have hm : p.maxOps = 0 := hz.resolve_left hl
      simp [stepStandard, specConsts, dw_consts, hl, advancePc_zero p hm, bind, Except.bind]

end

end PyElf.Proofs.Line
