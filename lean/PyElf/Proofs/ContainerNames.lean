/-
  C11: `ELFFile._section_name_map` as Model/DwarfView.lean writes it (`nameMap`, an insertion-ordered dict filled in
  section order) holds, under a name, the index of the LAST section bearing it (`dictGet_nameMap`, over `lastIdx` of
  Proofs/LastIndex.lean; the dict's assignment is `upsert`).
-/
import PyElf.Model.DwarfView
import PyElf.Proofs.Upsert
import PyElf.Proofs.LastIndex
namespace PyElf.Proofs.C11
open PyElf PyElf.Model PyElf.Model.C11 PyElf.Proofs

theorem dictSet_eq_upsert (m : List (Bytes × Nat)) (k : Bytes) (v : Nat) : dictSet m k v = upsert m k v := by
  induction m with
  | nil => rfl
  | cons p m ih => obtain ⟨k', v'⟩ := p; simp [dictSet, upsert, ih]

theorem dictGet_eq_find (m : List (Bytes × Nat)) (k : Bytes) : dictGet m k = (m.find? (·.1 == k)).map (·.2) := by
  induction m with
  | nil => rfl
  | cons p m ih =>
    obtain ⟨k', v'⟩ := p
    by_cases h : k' = k <;> simp [dictGet, List.find?_cons, h, ih]

theorem dictGet_dictSet (m : List (Bytes × Nat)) (k k' : Bytes) (v : Nat) :
    dictGet (dictSet m k v) k' = if k = k' then some v else dictGet m k' := by
  rw [dictGet_eq_find, dictGet_eq_find, dictSet_eq_upsert]
  exact find?_upsert m k k' v

theorem dictGet_nameMapFrom (secs : List Sec) (n : Bytes) :
    ∀ (i : Nat) (m : List (Bytes × Nat)),
      dictGet (nameMapFrom secs i m) n =
        match lastIdx (secs.map Sec.name) n with
        | some j => some (i + j)
        | none => dictGet m n := by
  induction secs with
  | nil => intro i m; simp [nameMapFrom, lastIdx]
  | cons s rest ih =>
    intro i m
    simp only [nameMapFrom, List.map_cons, lastIdx]
    rw [ih]
    cases h : lastIdx (rest.map Sec.name) n with
    | some j => simp; omega
    | none =>
      simp only [dictGet_dictSet]
      by_cases hs : s.name = n <;> simp [hs]

theorem dictGet_nameMap (secs : List Sec) (n : Bytes) :
    dictGet (nameMap secs) n = lastIdx (secs.map Sec.name) n := by
  rw [nameMap, dictGet_nameMapFrom]
  cases lastIdx (secs.map Sec.name) n <;> simp [dictGet]

theorem hasSection_iff (secs : List Sec) (n : Bytes) :
    hasSection secs n = true ↔ ∃ s ∈ secs, s.name = n := by
  rw [hasSection, dictGet_nameMap, lastIdx_isSome, List.mem_map]

theorem getSectionByName_name (secs : List Sec) (n : Bytes) (s : Sec)
    (h : getSectionByName secs n = some s) : hasSection secs n = true := by
  rw [hasSection]
  rw [getSectionByName] at h
  cases hd : dictGet (nameMap secs) n with
  | none => simp [hd] at h
  | some i => simp

end PyElf.Proofs.C11
