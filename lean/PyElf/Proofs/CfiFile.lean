/-
  For the whole-file theorems: the entry scan depends on the struct factory only at
  the two DWARF formats (`parseEntries_structs`), the `CallFrameInfo` that `DWARFInfo.CFI_entries()` /
  `EH_CFI_entries()` builds from a descriptor is the one the section theorems are about (`cfiOfDescr_entries`),
  descriptors through C11's view (`descr_of_view`, `hasCFI_of_view`), the composition (`entriesOf_of_view`; without the
  section `entriesOf_absent`), and from the view of a byte string to an accessor on it (`onFile_of_view`).  `StructsOk` is
  what is asked of the struct factory.
-/
import PyElf.Model.CallFrameFile
import PyElf.Proofs.CfiScan
import PyElf.Proofs.ContainerReads
namespace PyElf.Proofs.CfiFile
open PyElf PyElf.Spec PyElf.Model PyElf.Model.C11 PyElf.Model.C06 PyElf.Proofs.Cfi PyElf.Proofs.C11 PyElf.Proofs.Engine

theorem parseCieForFde_structs (C : Cfi) (g : Nat → R DwarfStructs) :
    parseCieForFde { C with structs := g } = parseCieForFde C := rfl

theorem parseFdeHeader_structs (C : Cfi) (g : Nat → R DwarfStructs) :
    parseFdeHeader { C with structs := g } = parseFdeHeader C := rfl

theorem parseCieAugmentation_structs (C : Cfi) (g : Nat → R DwarfStructs) :
    parseCieAugmentation { C with structs := g } = parseCieAugmentation C := rfl

theorem readAugmentationData_structs (C : Cfi) (g : Nat → R DwarfStructs) :
    readAugmentationData { C with structs := g } = readAugmentationData C := rfl

theorem parseLsdaPointer_structs (C : Cfi) (g : Nat → R DwarfStructs) :
    parseLsdaPointer { C with structs := g } = parseLsdaPointer C := rfl

theorem parseEntryAt_structs (C : Cfi) (g : Nat → R DwarfStructs) (h32 : g 32 = C.structs 32) (h64 : g 64 = C.structs 64) :
    ∀ (fuel : Nat) (off : Int) (pos : Nat) (cache : Cache),
      parseEntryAt { C with structs := g } fuel off pos cache = parseEntryAt C fuel off pos cache := by
  intro fuel
  induction fuel with
  | zero => intro off pos cache; rfl
  | succ n ih =>
    intro off pos cache
    have hrec : parseEntryAt { C with structs := g } n = parseEntryAt C n := by
      funext a b c; exact ih a b c
    have hg : ∀ k : Nat, g (if k = 0xFFFFFFFF then 64 else 32) = C.structs (if k = 0xFFFFFFFF then 64 else 32) := by
      intro k; split <;> assumption
    simp only [parseEntryAt, hrec, h32, hg, parseCieForFde_structs, parseFdeHeader_structs,
      parseCieAugmentation_structs, readAugmentationData_structs, parseLsdaPointer_structs]

theorem parseEntriesLoop_structs (C : Cfi) (g : Nat → R DwarfStructs) (h32 : g 32 = C.structs 32) (h64 : g 64 = C.structs 64)
    (size depth : Nat) : ∀ (fuel off : Nat) (cache : Cache),
      parseEntriesLoop { C with structs := g } size depth fuel off cache = parseEntriesLoop C size depth fuel off cache := by
  intro fuel
  induction fuel with
  | zero => intro off cache; rfl
  | succ n ih =>
    intro off cache
    simp only [parseEntriesLoop, parseEntryAt_structs C g h32 h64, ih]

theorem parseEntries_structs (C : Cfi) (g : Nat → R DwarfStructs) (h32 : g 32 = C.structs 32) (h64 : g 64 = C.structs 64)
    (size : Nat) : parseEntries { C with structs := g } size = parseEntries C size := by
  simp only [parseEntries, parseEntriesLoop_structs C g h32 h64]

/-- what the whole-file theorems need of the DWARF struct factory: at the configuration of the file, for
    both DWARF formats, it gives the Spec's bundle (TieDwarf: the regenerated factory does) -/
def StructsOk (P : Params) (le : Bool) (asz : Nat) : Prop :=
  ∀ fmt, fmt = 32 ∨ fmt = 64 → P.dwarfStructsFor ⟨le, fmt, asz, 2⟩ = some (Spec.dwarfStructs ⟨le, fmt, asz, 2⟩)

theorem cfiOfDescr_entries (P : Params) (di : DwarfInfo) (d : Descr) (sec : Section)
    (hle : di.le = sec.le) (hasz : di.addrSize = sec.asz) (hDS : StructsOk P sec.le sec.asz)
    (hs : d.stream = encodeSection sec) (ha : d.address = sec.address) (n : Nat) :
    parseEntries (cfiOfDescr Spec.cfiTables P di d sec.eh) n = parseEntries (cfiOf sec P.env (encodeSection sec)) n := by
  have h : cfiOfDescr Spec.cfiTables P di d sec.eh
      = { cfiOf sec P.env (encodeSection sec) with
          structs := fun fmt =>
            match P.dwarfStructsFor ⟨sec.le, fmt, sec.asz, 2⟩ with
            | some S => .ok S
            | none => .error .assertion } := by
    simp only [cfiOfDescr, cfiOf, hs, ha, hle, hasz]
    rfl
  rw [h, parseEntries_structs]
  · simp only [cfiOf, hDS 32 (Or.inl rfl)]
  · simp only [cfiOf, hDS 64 (Or.inr rfl)]

theorem descr_of_view {di : DwarfInfo} {le : Bool} {asz : Nat} {arch : String} {names : List (String × Bytes × Bool)}
    {content : Content} {supv : Option View}
    (hv : di.view = .mk le asz arch (contentView names content) supv) (kw : String) (hk : kw ∈ names.map (·.1)) :
    di.le = le ∧ di.addrSize = asz ∧
      (descrOf di.secs kw).map Descr.view = (content kw).map fun pa => ⟨pa.1, pa.1.length, pa.2⟩ := by
  have key : ∀ (ds : List (String × Option Descr)), secViews ds = contentView names content →
      (descrOf ds kw).map Descr.view = (content kw).map fun pa => ⟨pa.1, pa.1.length, pa.2⟩ := by
    intro ds hds
    rw [descrOf_view, hds, viewOf_contentView_some names content kw hk]
  cases di with
  | mk l a ar ds sup =>
    cases sup <;>
      (simp only [DwarfInfo.view, View.mk.injEq] at hv
       exact ⟨hv.1, hv.2.1, key ds hv.2.2.2.1⟩)

theorem hasCFI_of_view {di : DwarfInfo} {le : Bool} {asz : Nat} {arch : String} {names : List (String × Bytes × Bool)}
    {content : Content} {supv : Option View}
    (hv : di.view = .mk le asz arch (contentView names content) supv) (kw : String) (hk : kw ∈ names.map (·.1)) :
    (descrOf di.secs kw).isSome = (content kw).isSome := by
  have := (descr_of_view hv kw hk).2.2
  cases h1 : descrOf di.secs kw <;> cases h2 : content kw <;> simp [h1, h2] at this ⊢

theorem entriesOf_of_view {P : Params} {di : DwarfInfo} {le : Bool} {asz : Nat} {arch : String}
    {names : List (String × Bytes × Bool)} {content : Content} {supv : Option View}
    (hv : di.view = .mk le asz arch (contentView names content) supv) (kw : String) (hk : kw ∈ names.map (·.1))
    (sec : Section) (hle : sec.le = le) (hasz : sec.asz = asz)
    (hc : content kw = some (encodeSection sec, sec.address)) (hDS : StructsOk P le asz)
    (hwf : sec.wf = true) (hsz : (encodeSection sec).length < 2 ^ 63) :
    entriesOf Spec.cfiTables P di kw sec.eh = .ok (modelFrom sec 0 sec.entries) := by
  obtain ⟨h1, h2, h3⟩ := descr_of_view hv kw hk
  rw [hc] at h3
  cases hd : descrOf di.secs kw with
  | none => simp [hd] at h3
  | some d =>
    simp only [hd, Option.map_some, Option.some.injEq] at h3
    have hs : d.stream = encodeSection sec := congrArg SecView.stream h3
    have hn : d.size = (encodeSection sec).length := congrArg SecView.size h3
    have ha : d.address = sec.address := congrArg SecView.address h3
    simp only [entriesOf, hd]
    rw [cfiOfDescr_entries P di d sec (by rw [h1, hle]) (by rw [h2, hasz]) (by rw [hle, hasz]; exact hDS) hs ha, hn]
    exact parseEntries_ok sec P.env hwf hsz

/-- without the section the accessor fails as `None.stream` does -/
theorem entriesOf_absent {P : Params} {di : DwarfInfo} {le : Bool} {asz : Nat} {arch : String}
    {names : List (String × Bytes × Bool)} {content : Content} {supv : Option View} (T : CfiTables)
    (hv : di.view = .mk le asz arch (contentView names content) supv) (kw : String) (hk : kw ∈ names.map (·.1))
    (hc : content kw = none) (eh : Bool) : entriesOf T P di kw eh = .error .attributeError := by
  have := hasCFI_of_view hv kw hk
  rw [hc] at this
  cases hd : descrOf di.secs kw with
  | none => simp only [entriesOf, hd]
  | some d => simp [hd] at this

theorem onFile_of_view {α : Type} {P : Params} {fuel : Nat} {loader : Option Loader} {data : Bytes}
    {relocate followLinks : Bool} {v : View} (f : DwarfInfo → R α) (r : R α)
    (hview : dwarfView P fuel loader data relocate followLinks = .ok v)
    (hf : ∀ di, di.view = v → f di = r) :
    onFile P fuel loader data relocate followLinks f = liftR r := by
  unfold dwarfView at hview
  cases h : getDwarfInfo P fuel loader data relocate followLinks with
  | error e => simp [h, Except.map] at hview
  | ok di =>
    simp only [h, Except.map, Except.ok.injEq] at hview
    simp only [onFile, h, bind, Except.bind, hf di hview]

end PyElf.Proofs.CfiFile
