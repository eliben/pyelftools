/-
  Relocation entries: the split of `r_info` into symbol and type, the three entry layouts (with or without addend)
  as `Reads` derivations, tables of entries (`Presents`) and the symbol table as the relocation code sees it
  (`SymAnswers`).
-/
import PyElf.Core.Construct
import PyElf.Spec.ElfStructs
import PyElf.Spec.Reloc
import PyElf.Model.Relocation
import PyElf.Proofs.Utils
import PyElf.Proofs.BitFields
import PyElf.Proofs.Reads
namespace PyElf.Proofs.Reloc
open PyElf PyElf.Spec PyElf.Model PyElf.Model.Reloc PyElf.Proofs PyElf.Proofs.Engine PyElf.Proofs.BitFields

theorem lor_nat (a b : Nat) : PyInt.lor (a : Int) (b : Int) = ((a ||| b : Nat) : Int) := Engine.lor_nat a b

theorem shr_land_hi {hi lo k b : Nat} (hlo : lo < 2 ^ k) (hhi : hi < 2 ^ b) :
    PyInt.land (PyInt.shr ((hi * 2 ^ k + lo : Nat) : Int) k) ((2 ^ b - 1 : Nat) : Int) = (hi : Int) := by
  rw [land_shr_field, Nat.add_comm, Nat.add_mul_div_right _ _ (Nat.two_pow_pos k), Nat.div_eq_of_lt hlo, Nat.zero_add,
    Nat.mod_eq_of_lt hhi]

theorem land_lo {hi lo k : Nat} (hlo : lo < 2 ^ k) :
    PyInt.land ((hi * 2 ^ k + lo : Nat) : Int) ((2 ^ k - 1 : Nat) : Int) = (lo : Int) := by
  rw [land_low, Nat.add_comm, Nat.add_mul_mod_self_right, Nat.mod_eq_of_lt hlo]

/-- the r_info decomposition fields, as `Spec.elfStructs` writes them -/
def relInfoFields (le : Bool) (cls : Nat) (mclass : String) : List FieldSpec :=
  let byte := Con.uint 1 le
  let word := Con.uint 4 le
  let addr := Con.uint (cls / 8) le
  let mips64 := cls = 64 && mclass = "EM_MIPS"
  if cls = 32 then
      [f "r_info" addr,
       f "r_info_sym" (.value (.band (.shr (ctx "r_info") (lit 8)) (lit 0xFFFFFF))),
       f "r_info_type" (.value (.band (ctx "r_info") (lit 0xFF)))]
    else if mips64 then
      [f "r_sym" word, f "r_ssym" byte, f "r_type3" byte, f "r_type2" byte, f "r_type" byte,
       f "r_info_sym" (.value (ctx "r_sym")), f "r_info_ssym" (.value (ctx "r_ssym")),
       f "r_info_type" (.value (ctx "r_type")), f "r_info_type2" (.value (ctx "r_type2")),
       f "r_info_type3" (.value (ctx "r_type3")),
       f "r_info" (.value (.bor (.bor (.bor (.bor (.shl (ctx "r_sym") (lit 32)) (.shl (ctx "r_ssym") (lit 24)))
          (.shl (ctx "r_type3") (lit 16))) (.shl (ctx "r_type2") (lit 8))) (ctx "r_type")))]
    else
      [f "r_info" addr,
       f "r_info_sym" (.value (.band (.shr (ctx "r_info") (lit 32)) (lit 0xFFFFFFFF))),
       f "r_info_type" (.value (.band (ctx "r_info") (lit 0xFFFFFFFF)))]

theorem spec_Elf_Rel (c : ElfCfg) :
    (Spec.elfStructs c).Elf_Rel = st (f "r_offset" (.uint (c.cls / 8) c.le) :: relInfoFields c.le c.cls c.mclass ++ []) := by
  rw [List.append_nil]; rfl

theorem spec_Elf_Rela (c : ElfCfg) :
    (Spec.elfStructs c).Elf_Rela = st (f "r_offset" (.uint (c.cls / 8) c.le) :: relInfoFields c.le c.cls c.mclass
        ++ [f "r_addend" (.sint (c.cls / 8) c.le)]) := rfl

theorem spec_Elf_Relr (c : ElfCfg) :
    (Spec.elfStructs c).Elf_Relr = st [f "r_offset" (.uint (c.cls / 8) c.le)] := rfl

theorem spec_Elf_addr (c : ElfCfg) : (Spec.elfStructs c).Elf_addr = .uint (c.cls / 8) c.le := rfl

theorem eval_info_hi {F : Fields} {key : String} {hi lo k b : Nat}
    (h : Fields.get? F key = some (.int (hi * 2 ^ k + lo : Nat))) (hlo : lo < 2 ^ k) (hhi : hi < 2 ^ b) :
    Expr.eval F .none (.band (.shr (ctx key) (lit k)) (lit ((2 ^ b - 1 : Nat) : Int))) = .ok (.int hi) := by
  simp only [Expr.eval, ctx, lit, Fields.getR_of_get? h, Expr.arith, Val.asInt, bind, Except.bind, pure, Except.pure,
    show ¬ (k : Int) < 0 by omega, ↓reduceIte, Int.toNat_natCast, shr_land_hi hlo hhi]

theorem eval_info_lo {F : Fields} {key : String} {hi lo k : Nat}
    (h : Fields.get? F key = some (.int (hi * 2 ^ k + lo : Nat))) (hlo : lo < 2 ^ k) :
    Expr.eval F .none (.band (ctx key) (lit ((2 ^ k - 1 : Nat) : Int))) = .ok (.int lo) := by
  simp only [Expr.eval, ctx, lit, Fields.getR_of_get? h, Expr.arith, Val.asInt, bind, Except.bind, pure, Except.pure,
    land_lo hlo]

theorem addend_reads {env : Env} {F C : Fields} {pos w : Nat} {le : Bool} {out : Bytes} (rela : Bool) (a : Int) (hw : 1 ≤ w)
    (hfit : rela = true → -((2 ^ (8 * w - 1) : Nat) : Int) ≤ a ∧ a < ((2 ^ (8 * w - 1) : Nat) : Int)) :
    ReadsF (pf env (mkFields (if rela then [f "r_addend" (.sint w le)] else []))) F C pos
      ((if rela then encNat le w (ofSigned (8 * w) a) else []) ++ out)
      (if rela then Fields.set F "r_addend" (.int a) else F) (pos + if rela then w else 0) out
      (if rela then Fields.set C "r_addend" (.int a) else C) := by
  cases rela with
  | false => exact .nil
  | true => exact .named (Reads.sint hw (hfit rfl).1 (hfit rfl).2) .nil

/-- the one-word `r_info` layout (ELF32; ELF64 other than MIPS), generic in the widths -/
theorem relWord_reads {env : Env} {ctx : Fields} {pos w tb sb : Nat} {le : Bool} {out : Bytes} (rela : Bool) (e : RelEntry)
    (hw : 1 ≤ w) (hoff : e.offset < 256 ^ w) (hs : e.sym < 2 ^ sb) (ht : e.type < 2 ^ tb)
    (hi : e.sym * 2 ^ tb + e.type < 256 ^ w)
    (hfit : rela = true → -((2 ^ (8 * w - 1) : Nat) : Int) ≤ e.addend ∧ e.addend < ((2 ^ (8 * w - 1) : Nat) : Int)) :
    Reads (pr env (.struct
        (.cons (some "r_offset") false (.uint w le) (.cons (some "r_info") false (.uint w le)
          (.cons (some "r_info_sym") false
            (.value (.band (.shr (Spec.ctx "r_info") (lit tb)) (lit ((2 ^ sb - 1 : Nat) : Int))))
          (.cons (some "r_info_type") false (.value (.band (Spec.ctx "r_info") (lit ((2 ^ tb - 1 : Nat) : Int))))
            (mkFields (if rela then [f "r_addend" (.sint w le)] else []))))))))
      ctx pos
      (encNat le w e.offset ++ (encNat le w (e.sym * 2 ^ tb + e.type) ++
        ((if rela then encNat le w (ofSigned (8 * w) e.addend) else []) ++ out)))
      (.record ([("r_offset", .int e.offset), ("r_info", .int (e.sym * 2 ^ tb + e.type : Nat)), ("r_info_sym", .int e.sym),
          ("r_info_type", .int e.type)] ++ if rela then [("r_addend", .int e.addend)] else []))
      (pos + w + w + if rela then w else 0) out ctx :=
  ReadsF.struct
    (.named (Reads.uint hoff) <| .named (Reads.uint hi) <|
      .named (Reads.value (eval_info_hi (hi := e.sym) (lo := e.type) (by simp [Fields.get?_set]) ht hs)) <|
      .named (Reads.value (eval_info_lo (hi := e.sym) (lo := e.type) (by simp [Fields.get?_set]) ht)) <|
      addend_reads rela e.addend hw hfit)
    (by cases rela <;> simp [Fields.set])

theorem mul_pow_or (a k b : Nat) (hb : b < 2 ^ k) : a * 2 ^ k ||| b = a * 2 ^ k + b := by
  rw [Nat.mul_comm, ← Nat.two_pow_add_eq_or_of_lt hb]

theorem horner (x y j k : Nat) (hk : k = 8 + j) : x * 2 ^ k + y * 2 ^ j = (x * 2 ^ 8 + y) * 2 ^ j := by
  rw [hk, Nat.add_mul, Nat.mul_assoc, ← Nat.pow_add]

theorem byte_shl_lt (y j k : Nat) (hk : k = 8 + j) (hy : y < 2 ^ 8) : y * 2 ^ j < 2 ^ k := by
  rw [hk, Nat.pow_add]
  exact Nat.mul_lt_mul_of_pos_right hy (Nat.two_pow_pos j)

/-- `r_info` of a MIPS64 entry: each `|` adds a byte below a multiple of its weight; between two of them the partial
    sum is brought into Horner form, and back at the end -/
theorem mips_info_arith (sym ssym t3 t2 t : Nat) (h1 : ssym < 2 ^ 8) (h2 : t3 < 2 ^ 8) (h3 : t2 < 2 ^ 8) (h4 : t < 2 ^ 8) :
    PyInt.lor (PyInt.lor (PyInt.lor (PyInt.lor (PyInt.shl (sym : Int) 32) (PyInt.shl (ssym : Int) 24))
      (PyInt.shl (t3 : Int) 16)) (PyInt.shl (t2 : Int) 8)) (t : Int)
      = ((sym * 2 ^ 32 + ssym * 2 ^ 24 + t3 * 2 ^ 16 + t2 * 2 ^ 8 + t : Nat) : Int) := by
  simp only [shl_nat, lor_nat]
  rw [mul_pow_or sym 32 _ (byte_shl_lt ssym 24 32 rfl h1), horner sym ssym 24 32 rfl,
    mul_pow_or _ 24 _ (byte_shl_lt t3 16 24 rfl h2), horner _ t3 16 24 rfl,
    mul_pow_or _ 16 _ (byte_shl_lt t2 8 16 rfl h3), horner _ t2 8 16 rfl, mul_pow_or _ 8 _ h4,
    ← horner _ t2 8 16 rfl, ← horner _ t3 16 24 rfl, ← horner sym ssym 24 32 rfl]

theorem eval_mips_info (fs : Fields) (sym ssym t3 t2 t : Nat)
    (g1 : Fields.getR fs "r_sym" = .ok (.int sym)) (g2 : Fields.getR fs "r_ssym" = .ok (.int ssym))
    (g3 : Fields.getR fs "r_type3" = .ok (.int t3)) (g4 : Fields.getR fs "r_type2" = .ok (.int t2))
    (g5 : Fields.getR fs "r_type" = .ok (.int t))
    (h1 : ssym < 2 ^ 8) (h2 : t3 < 2 ^ 8) (h3 : t2 < 2 ^ 8) (h4 : t < 2 ^ 8) :
    Expr.eval fs .none (.bor (.bor (.bor (.bor (.shl (ctx "r_sym") (lit 32)) (.shl (ctx "r_ssym") (lit 24)))
          (.shl (ctx "r_type3") (lit 16))) (.shl (ctx "r_type2") (lit 8))) (ctx "r_type"))
      = .ok (.int ((sym * 2 ^ 32 + ssym * 2 ^ 24 + t3 * 2 ^ 16 + t2 * 2 ^ 8 + t : Nat) : Int)) := by
  simp only [Expr.eval, ctx, lit, g1, g2, g3, g4, g5, Expr.arith, Val.asInt, bind, Except.bind, pure, Except.pure]
  simp only [show ¬ ((32 : Int) < 0) by decide, show ¬ ((24 : Int) < 0) by decide, show ¬ ((16 : Int) < 0) by decide,
    show ¬ ((8 : Int) < 0) by decide, ↓reduceIte, show Int.toNat 32 = 32 from rfl, show Int.toNat 24 = 24 from rfl,
    show Int.toNat 16 = 16 from rfl, show Int.toNat 8 = 8 from rfl]
  rw [mips_info_arith sym ssym t3 t2 t h1 h2 h3 h4]

theorem relMips_reads {env : Env} {ctx : Fields} {pos : Nat} {le : Bool} {out : Bytes} (rela : Bool) (e : RelEntry)
    (hoff : e.offset < 2 ^ 64) (hs : e.sym < 2 ^ 32) (ht : e.type < 2 ^ 8) (ht2 : e.type2 < 2 ^ 8)
    (ht3 : e.type3 < 2 ^ 8) (hss : e.ssym < 2 ^ 8)
    (hfit : rela = true → -((2 ^ (8 * 8 - 1) : Nat) : Int) ≤ e.addend ∧ e.addend < ((2 ^ (8 * 8 - 1) : Nat) : Int)) :
    Reads (pr env (st (f "r_offset" (.uint 8 le) :: relInfoFields le 64 "EM_MIPS"
        ++ if rela then [f "r_addend" (.sint 8 le)] else [])))
      ctx pos
      (encNat le 8 e.offset ++ (encNat le 4 e.sym ++ (encNat le 1 e.ssym ++ (encNat le 1 e.type3 ++
        (encNat le 1 e.type2 ++ (encNat le 1 e.type ++
          ((if rela then encNat le 8 (ofSigned (8 * 8) e.addend) else []) ++ out)))))))
      (observeRel ⟨le, 64, true⟩ rela e) (pos + 8 + 4 + 1 + 1 + 1 + 1 + if rela then 8 else 0) out ctx := by
  simp only [relInfoFields, show ((64 : Nat) = 32) = False from by simp, if_false, decide_true, Bool.and_true, if_true]
  exact ReadsF.struct
    (.named (Reads.uint (by omega)) <| .named (Reads.uint (by omega)) <| .named (Reads.uint (by omega)) <|
      .named (Reads.uint (by omega)) <| .named (Reads.uint (by omega)) <| .named (Reads.uint (by omega)) <|
      .named (Reads.value (eval_ctx (v := .int e.sym) (by simp [Fields.get?_set]))) <|
      .named (Reads.value (eval_ctx (v := .int e.ssym) (by simp [Fields.get?_set]))) <|
      .named (Reads.value (eval_ctx (v := .int e.type) (by simp [Fields.get?_set]))) <|
      .named (Reads.value (eval_ctx (v := .int e.type2) (by simp [Fields.get?_set]))) <|
      .named (Reads.value (eval_ctx (v := .int e.type3) (by simp [Fields.get?_set]))) <|
      .named (Reads.value (eval_mips_info _ e.sym e.ssym e.type3 e.type2 e.type
        (Fields.getR_of_get? (by simp [Fields.get?_set])) (Fields.getR_of_get? (by simp [Fields.get?_set]))
        (Fields.getR_of_get? (by simp [Fields.get?_set])) (Fields.getR_of_get? (by simp [Fields.get?_set]))
        (Fields.getR_of_get? (by simp [Fields.get?_set])) hss ht3 ht2 ht)) <|
      addend_reads rela e.addend (by omega) hfit)
    (by cases rela <;> simp [Fields.set, RelCfg.packed, rInfo])

def relCfgOf (c : ElfCfg) : RelCfg := ⟨c.le, c.cls, decide (c.mclass = "EM_MIPS")⟩

theorem wfRel_addend {c : RelCfg} {e : RelEntry} (h : WFRel c true e = true) :
    -((2 ^ (c.cls - 1) : Nat) : Int) ≤ e.addend ∧ e.addend < ((2 ^ (c.cls - 1) : Nat) : Int) := by
  simp only [WFRel, Bool.and_eq_true, Bool.not_true, Bool.false_or, decide_eq_true_eq] at h
  exact h.2

theorem wfRel_32 {le mm rela} {e : RelEntry} (h : WFRel ⟨le, 32, mm⟩ rela e = true) :
    e.offset < 2 ^ 32 ∧ e.sym < 2 ^ 24 ∧ e.type < 2 ^ 8 := by
  simp only [WFRel, Bool.and_eq_true, decide_eq_true_eq, ↓reduceIte] at h
  exact ⟨by simpa using h.1.1, h.1.2.1, h.1.2.2⟩

theorem wfRel_mips {le rela} {e : RelEntry} (h : WFRel ⟨le, 64, true⟩ rela e = true) :
    e.offset < 2 ^ 64 ∧ e.sym < 2 ^ 32 ∧ e.type < 2 ^ 8 ∧ e.type2 < 2 ^ 8 ∧ e.type3 < 2 ^ 8 ∧ e.ssym < 2 ^ 8 := by
  simp only [WFRel, RelCfg.packed, Bool.and_eq_true, decide_eq_true_eq, ↓reduceIte,
    show ((64 : Nat) = 32) = False from by simp, decide_true, Bool.and_true] at h
  exact ⟨by simpa using h.1.1, h.1.2.1.1.1.1, h.1.2.1.1.1.2, h.1.2.1.1.2, h.1.2.1.2, h.1.2.2⟩

theorem wfRel_64 {le mm rela} {e : RelEntry} (hmm : mm = false) (h : WFRel ⟨le, 64, mm⟩ rela e = true) :
    e.offset < 2 ^ 64 ∧ e.sym < 2 ^ 32 ∧ e.type < 2 ^ 32 := by
  subst hmm
  simp only [WFRel, RelCfg.packed, Bool.and_eq_true, decide_eq_true_eq, ↓reduceIte,
    show ((64 : Nat) = 32) = False from by simp, Bool.and_false, Bool.false_eq_true] at h
  exact ⟨by simpa using h.1.1, h.1.2.1, h.1.2.2⟩

theorem spec_Elf_Rel_or_Rela (c : ElfCfg) (rela : Bool) :
    (if rela then (Spec.elfStructs c).Elf_Rela else (Spec.elfStructs c).Elf_Rel)
      = st (f "r_offset" (.uint (c.cls / 8) c.le) :: relInfoFields c.le c.cls c.mclass
          ++ if rela then [f "r_addend" (.sint (c.cls / 8) c.le)] else []) := by
  cases rela
  · exact spec_Elf_Rel c
  · exact spec_Elf_Rela c

theorem rel_entry_reads (cfg : ElfCfg) (hcls : cfg.cls = 32 ∨ cfg.cls = 64) (env : Env) (rela : Bool) (e : RelEntry)
    (hwf : WFRel (relCfgOf cfg) rela e = true) {ctx : Fields} {pos : Nat} {out : Bytes} :
    Reads (pr env (if rela then (Spec.elfStructs cfg).Elf_Rela else (Spec.elfStructs cfg).Elf_Rel)) ctx pos
      (encRel (relCfgOf cfg) rela e ++ out) (observeRel (relCfgOf cfg) rela e)
      (pos + relEntSize (relCfgOf cfg) rela) out ctx := by
  obtain ⟨le, cls, m, sol, core⟩ := cfg
  simp only at hcls
  rw [spec_Elf_Rel_or_Rela]
  have hfit : rela = true → _ := fun h => wfRel_addend (h ▸ hwf)
  -- three layouts: ELF32 (one-word `r_info`, 8 type bits), MIPS64 (packed), any other ELF64 (one word, 32 type bits);
  -- each `.as ?_ ?_ ?_` leaves the input, the value and the end position to be shown equal to the layout lemma's
  rcases hcls with rfl | rfl
  · obtain ⟨ho, hs, ht⟩ := wfRel_32 hwf
    simp only [relInfoFields, st, mkFields, f, List.cons_append, List.nil_append, ↓reduceIte, show 32 / 8 = 4 from rfl]
    refine (relWord_reads (env := env) (ctx := ctx) (pos := pos) (le := le) (out := out) (w := 4) (tb := 8) (sb := 24)
      rela e (by omega) (by omega) hs ht (by omega) hfit).as ?_ ?_ ?_
    · simp [encRel, relCfgOf, RelCfg.packed, RelCfg.w, rInfo]
    · simp [observeRel, relCfgOf, RelCfg.packed, rInfo]
    · cases rela <;> simp [relEntSize, RelCfg.w, relCfgOf]
  · by_cases hm : m = "EM_MIPS"
    · subst hm
      obtain ⟨ho, hs, ht, ht2, ht3, hss⟩ := wfRel_mips hwf
      simp only [show 64 / 8 = 8 from rfl]
      refine (relMips_reads (env := env) (ctx := ctx) (pos := pos) (le := le) (out := out) rela e ho hs ht ht2 ht3 hss
        hfit).as ?_ ?_ ?_
      · simp [encRel, relCfgOf, RelCfg.packed, RelCfg.w]
      · simp [relCfgOf]
      · cases rela <;> simp [relEntSize, RelCfg.w, relCfgOf]
    · obtain ⟨ho, hs, ht⟩ := wfRel_64 (mm := decide (m = "EM_MIPS")) (by simp [hm]) hwf
      simp only [relInfoFields, hm, show ((64 : Nat) = 32) = False from by simp, if_false, decide_false, Bool.and_false,
        Bool.false_eq_true, st, mkFields, f, List.cons_append, List.nil_append, show 64 / 8 = 8 from rfl]
      refine (relWord_reads (env := env) (ctx := ctx) (pos := pos) (le := le) (out := out) (w := 8) (tb := 32) (sb := 32)
        rela e (by omega) (by omega) hs ht (by omega) hfit).as ?_ ?_ ?_
      · simp [encRel, relCfgOf, RelCfg.packed, RelCfg.w, rInfo, hm]
      · simp [observeRel, relCfgOf, RelCfg.packed, rInfo, hm]
      · cases rela <;> simp [relEntSize, RelCfg.w, relCfgOf, hm]

theorem cls_bytes {cls : Nat} (h : cls = 32 ∨ cls = 64) : 1 ≤ cls / 8 ∧ 8 * (cls / 8) = cls := by
  rcases h with h | h <;> simp [h]

theorem encRel_length (c : RelCfg) (hcls : c.cls = 32 ∨ c.cls = 64) (rela : Bool) (e : RelEntry) :
    (encRel c rela e).length = relEntSize c rela := by
  obtain ⟨le, cls, mm⟩ := c
  simp only at hcls
  rcases hcls with rfl | rfl <;> cases mm <;> cases rela <;>
    simp [encRel, relEntSize, RelCfg.packed, RelCfg.w, encNat_length]

theorem encRelTable_length (c : RelCfg) (hcls : c.cls = 32 ∨ c.cls = 64) (rela : Bool) (es : List RelEntry) :
    (encRelTable c rela es).length = es.length * relEntSize c rela :=
  length_flatMap_const _ _ es fun e _ => encRel_length c hcls rela e

theorem relEntSize_pos (c : RelCfg) (hcls : c.cls = 32 ∨ c.cls = 64) (rela : Bool) : 0 < relEntSize c rela := by
  rcases hcls with h | h <;> cases rela <;> simp [relEntSize, RelCfg.w, h]

theorem sizeof_rel (cfg : ElfCfg) (hcls : cfg.cls = 32 ∨ cfg.cls = 64) (rela : Bool) :
    conSizeof (if rela then (Spec.elfStructs cfg).Elf_Rela else (Spec.elfStructs cfg).Elf_Rel)
      = .ok (relEntSize (relCfgOf cfg) rela) := by
  obtain ⟨le, cls, m, sol, core⟩ := cfg
  simp only at hcls
  rcases hcls with rfl | rfl
  · cases rela <;>
      simp [spec_Elf_Rel, spec_Elf_Rela, st, f, mkFields, relInfoFields, conSizeof, fieldsSizeof, relEntSize, RelCfg.w,
        relCfgOf, bind, Except.bind, pure, Except.pure]
  · by_cases hm : m = "EM_MIPS" <;> cases rela <;>
      simp [spec_Elf_Rel, spec_Elf_Rela, st, f, mkFields, relInfoFields, conSizeof, fieldsSizeof, relEntSize, RelCfg.w,
        relCfgOf, bind, Except.bind, pure, Except.pure, hm]

/-- the `RelocationTable` object over the standard's structs -/
def specTable (cfg : ElfCfg) (off : Option Nat) (size : Nat) (rela : Bool) : RelocTable :=
  { offset := off, size := size, isRela := rela,
    entryStruct := if rela then (Spec.elfStructs cfg).Elf_Rela else (Spec.elfStructs cfg).Elf_Rel,
    entrySize := relEntSize (relCfgOf cfg) rela }

theorem mkTable_spec (cfg : ElfCfg) (hcls : cfg.cls = 32 ∨ cfg.cls = 64) (off : Option Nat) (size : Nat) (rela : Bool) :
    mkTable (Spec.elfStructs cfg) off size rela = .ok (specTable cfg off size rela) := by
  have := sizeof_rel cfg hcls rela
  cases rela <;> simp_all [mkTable, specTable, bind, Except.bind, pure, Except.pure]

theorem relTypeName_beq (rela : Bool) :
    (Val.str (if rela then "SHT_RELA" else "SHT_REL") == Val.str "SHT_RELA") = rela ∧
    (Val.str (if rela then "SHT_RELA" else "SHT_REL") == Val.str "SHT_REL") = !rela := by
  cases rela <;> decide

theorem relocSectionInit_ok (cfg : ElfCfg) (hcls : cfg.cls = 32 ∨ cfg.cls = 64) (rela : Bool) (off size : Nat) :
    relocSectionInit (Spec.elfStructs cfg) (.str (if rela then "SHT_RELA" else "SHT_REL")) off size
        (relEntSize (relCfgOf cfg) rela)
      = .ok (specTable cfg (some off) size rela) := by
  unfold relocSectionInit
  rw [(relTypeName_beq rela).1, (relTypeName_beq rela).2, mkTable_spec cfg hcls]
  cases rela <;> simp [bind, Except.bind, specTable, pure, Except.pure]

/-- The table object `t` presents the entries `es`: `num_relocations()` is their number and `get_relocation(n)` the
    observation of the n-th.  The loops over a table (`iter_relocations`, the apply loop) are proved from this alone;
    `specTable_presents` is the one place that looks at bytes. -/
structure Presents (env : Env) (data : Bytes) (t : RelocTable) (c : RelCfg) (rela : Bool) (es : List RelEntry) : Prop where
  count : numRelocations t = .ok es.length
  get : ∀ n (h : n < es.length), getRelocation env data t n = .ok (observeRel c rela es[n])

/-- The symbol table section `symtab` answers the relocation code's look-ups with the values `syms`: it counts
    `syms.length` entries and `Elf_Sym` parsed at entry `i` has `st_value = syms[i]`, whatever else the entries carry. -/
structure SymAnswers (env : Env) (S : ElfStructs) (data : Bytes) (symtab : SymTab) (syms : List Nat) : Prop where
  ent : symtab.shEntsize ≠ 0
  count : symtab.shSize / symtab.shEntsize = syms.length
  value : ∀ i (h : i < syms.length), ∃ symv,
    seekParse env S.Elf_Sym data (symtab.shOffset + i * symtab.shEntsize) = .ok symv ∧
    symv.getInt "st_value" = .ok (syms[i] : Int)

theorem specTable_presents (cfg : ElfCfg) (hcls : cfg.cls = 32 ∨ cfg.cls = 64) (env : Env) (rela : Bool)
    (es : List RelEntry) (hwf : ∀ e ∈ es, WFRel (relCfgOf cfg) rela e = true) {data rest : Bytes} {base : Nat}
    (hd : data.drop base = encRelTable (relCfgOf cfg) rela es ++ rest)
    (hfit : base + es.length * relEntSize (relCfgOf cfg) rela ≤ 2 ^ 63) :
    Presents env data (specTable cfg (some base) (encRelTable (relCfgOf cfg) rela es).length rela) (relCfgOf cfg) rela es where
  count := by
    have hpos := relEntSize_pos (relCfgOf cfg) hcls rela
    show (if relEntSize (relCfgOf cfg) rela = 0 then Except.error Err.zeroDivision
      else Except.ok ((encRelTable (relCfgOf cfg) rela es).length / relEntSize (relCfgOf cfg) rela)) = _
    rw [if_neg (by omega), encRelTable_length (relCfgOf cfg) hcls, Nat.mul_div_cancel _ hpos]
  get n hn := by
    exact (rel_entry_reads cfg hcls env rela es[n] (hwf _ (List.getElem_mem hn))).seekParse
      (entry_pos_lt hn (relEntSize_pos (relCfgOf cfg) hcls rela) hfit)
      (drop_entry (fun e _ => encRel_length (relCfgOf cfg) hcls rela e) hn hd)

theorem Presents.iterFrom_eq {env : Env} {data : Bytes} {t : RelocTable} {c : RelCfg} {rela : Bool} {es : List RelEntry}
    (P : Presents env data t c rela es) :
    ∀ (count i : Nat), i + count = es.length → iterFrom env data t count i = .ok ((es.drop i).map (observeRel c rela))
  | 0, i, hi => by rw [iterFrom, List.drop_eq_nil_of_le (by omega)]; rfl
  | k + 1, i, hi => by
    have hlt : i < es.length := by omega
    rw [iterFrom, P.get i hlt, P.iterFrom_eq k (i + 1) (by omega), List.drop_eq_getElem_cons hlt]
    rfl

theorem Presents.iter {env : Env} {data : Bytes} {t : RelocTable} {c : RelCfg} {rela : Bool} {es : List RelEntry}
    (P : Presents env data t c rela es) : iterRelocations env data t = .ok (es.map (observeRel c rela)) := by
  rw [iterRelocations, P.count]
  exact P.iterFrom_eq es.length 0 (by omega)

end PyElf.Proofs.Reloc
