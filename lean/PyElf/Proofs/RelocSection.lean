/-
  The apply loop over a whole relocation table against the standard's fold
  (`Spec.applyStd`), for any table object that presents its entries (`Presents`, Proofs/Reloc.lean) and any symbol
  table that answers `st_value` (`SymAnswers`, ibid.).
-/
import PyElf.Proofs.Reloc
import PyElf.Proofs.RelocApply
namespace PyElf.Proofs.Reloc
open PyElf PyElf.Spec PyElf.Model PyElf.Model.Reloc PyElf.Proofs

theorem applyAfterSym_length {a : Arch} {c : RelCfg} {rela : Bool} {s : Nat} {sec b : Bytes} {e : RelEntry}
    (hwf : WFApplyOne a c rela sec.length e = true) (h : applyAfterSym a c rela s sec e = some b) :
    b.length = sec.length := by
  have W := wfApplyOne_iff.1 hwf
  rw [applyAfterSym_eq] at h
  exact applyTree_cases (fun (x : Option Bytes) => ∀ b : Bytes, x = some b → b.length = sec.length)
    (fun _ h => by cases h) (fun _ h => by cases h) (fun _ h => by cases h; rfl)
    (fun w fm hps hk _ h => by cases h; exact (writeField_frame _ _ _ _ _ (W.fits hps hk)).1) b h

/-- `Spec.WFApply` by its parts -/
structure ApplyAll (a : Arch) (c : RelCfg) (rela : Bool) (syms : List Nat) (L : Nat) (es : List RelEntry) : Prop where
  one : ∀ e ∈ es, WFApplyOne a c rela L e = true
  syms : ∀ s ∈ syms, s < 2 ^ c.cls
  len : L < 2 ^ 63

theorem wfApply_iff {a : Arch} {c : RelCfg} {rela : Bool} {syms : List Nat} {L : Nat} {es : List RelEntry} :
    WFApply a c rela syms L es = true ↔ ApplyAll a c rela syms L es := by
  simp only [WFApply, Bool.and_eq_true, List.all_eq_true, decide_eq_true_eq]
  exact ⟨fun h => ⟨h.1.1, h.1.2, h.2⟩, fun h => ⟨⟨h.one, h.syms⟩, h.len⟩⟩

theorem ApplyAll.rel {a : Arch} {c : RelCfg} {rela : Bool} {syms : List Nat} {L : Nat} {es : List RelEntry}
    (h : ApplyAll a c rela syms L es) : ∀ e ∈ es, WFRel c rela e = true :=
  fun e he => (wfApplyOne_iff.1 (h.one e he)).rel

/-- any struct bundle `S`: the loop reads only its `Elf_Sym` -/
theorem Presents.applyLoop_eq {env : Env} {data : Bytes} {t : RelocTable} {c : RelCfg} {rela : Bool} {es : List RelEntry}
    (P : Presents env data t c rela es) (S : ElfStructs) (a : Arch) (hm : c.mips = decide (a = .mips)) (syms : List Nat)
    (L : Nat) (symtab : SymTab) (hwf : ∀ e ∈ es, WFApplyOne a c rela L e = true) (hL : L < 2 ^ 63)
    (Y : SymAnswers env S data symtab syms) :
    ∀ (count i : Nat) (sec : Bytes), i + count = es.length → sec.length = L →
      applyLoop env S c.le c.cls (archString a) data symtab t count i sec
        = match applyStd a c rela syms sec (es.drop i) with
          | some b => .ok b
          | none => .error .elfRelocError
  | 0, i, sec, hi, _ => by rw [applyLoop, List.drop_eq_nil_of_le (by omega)]; rfl
  | k + 1, i, sec, hi, hsec => by
    have hlt : i < es.length := by omega
    rw [applyLoop, P.get i hlt, List.drop_eq_getElem_cons hlt]
    have hwfe := hwf es[i] (List.getElem_mem hlt)
    rw [← hsec] at hwfe
    simp only [bind, Except.bind, applyStd, applyOneStd]
    by_cases hs : es[i].sym < syms.length
    · obtain ⟨symv, hp, hv⟩ := Y.value es[i].sym hs
      rw [doApply_with_sym env _ c.le c.cls (archString a) data symtab sec c rela es[i] symv _ Y.ent (by have := Y.count; omega) hp hv,
        applyWithSym_eq_std a c hm rela sec es[i] syms[es[i].sym] hwfe (by omega)]
      simp only [List.getElem?_eq_getElem hs]
      cases hr : applyAfterSym a c rela syms[es[i].sym] sec es[i] with
      | none => rfl
      | some b =>
        simp only
        exact P.applyLoop_eq S a hm syms L symtab hwf hL Y k (i + 1) b (by omega)
          ((applyAfterSym_length hwfe hr).trans hsec)
    · rw [doApply_rejects_sym env _ c.le c.cls (archString a) data symtab sec c rela es[i] Y.ent (by have := Y.count; omega)]
      have : syms[es[i].sym]? = none := List.getElem?_eq_none (by omega)
      simp only [this]

theorem Presents.apply {env : Env} {data : Bytes} {t : RelocTable} {c : RelCfg} {rela : Bool} {es : List RelEntry}
    (P : Presents env data t c rela es) (S : ElfStructs) (a : Arch) (hm : c.mips = decide (a = .mips)) (syms : List Nat)
    (sec : Bytes) (symtab : SymTab) (hwf : WFApply a c rela syms sec.length es = true)
    (Y : SymAnswers env S data symtab syms) :
    applySectionRelocations env S c.le c.cls (archString a) data symtab t sec
      = match applyStd a c rela syms sec es with
        | some b => .ok b
        | none => .error .elfRelocError := by
  rw [applySectionRelocations, P.count]
  have W := wfApply_iff.1 hwf
  exact P.applyLoop_eq S a hm syms sec.length symtab W.one W.len Y es.length 0 sec (by omega) rfl

theorem specTable_apply (cfg : ElfCfg) (hcls : cfg.cls = 32 ∨ cfg.cls = 64) (env : Env) (a : Arch)
    (hm : (relCfgOf cfg).mips = decide (a = .mips)) (rela : Bool) (es : List RelEntry) (syms : List Nat) (sec : Bytes)
    (symtab : SymTab) {S : ElfStructs} {data rest : Bytes} {base : Nat}
    (hrel : data.drop base = encRelTable (relCfgOf cfg) rela es ++ rest)
    (hfit : base + es.length * relEntSize (relCfgOf cfg) rela ≤ 2 ^ 63)
    (hwf : WFApply a (relCfgOf cfg) rela syms sec.length es = true) (Y : SymAnswers env S data symtab syms) :
    applySectionRelocations env S cfg.le cfg.cls (archString a) data symtab
        (specTable cfg (some base) (encRelTable (relCfgOf cfg) rela es).length rela) sec
      = match applyStd a (relCfgOf cfg) rela syms sec es with
        | some b => .ok b
        | none => .error .elfRelocError :=
  (specTable_presents cfg hcls env rela es (wfApply_iff.1 hwf).rel hrel hfit).apply S a hm syms sec symtab hwf Y

theorem applyStd_length (a : Arch) (c : RelCfg) (rela : Bool) (syms : List Nat) (L : Nat) :
    ∀ (es : List RelEntry) (sec b : Bytes), sec.length = L → (∀ e ∈ es, WFApplyOne a c rela L e = true) →
      applyStd a c rela syms sec es = some b → b.length = L := by
  intro es
  induction es with
  | nil =>
    intro sec b hL _ h
    simp only [applyStd, Option.some.injEq] at h
    rw [← h, hL]
  | cons e es ih =>
    intro sec b hL hwf h
    simp only [applyStd, applyOneStd] at h
    cases hs : syms[e.sym]? with
    | none => simp [hs] at h
    | some s =>
      simp only [hs] at h
      cases ha : applyAfterSym a c rela s sec e with
      | none => simp [ha] at h
      | some sec' =>
        simp only [ha] at h
        have hwe := hwf e List.mem_cons_self
        rw [← hL] at hwe
        have hl := applyAfterSym_length hwe ha
        exact ih sec' b (by omega) (fun e' he' => hwf e' (List.mem_cons_of_mem _ he')) h

theorem applyStd_length_of_wf {a : Arch} {c : RelCfg} {rela : Bool} {syms : List Nat} {sec b : Bytes} {es : List RelEntry}
    (hwf : WFApply a c rela syms sec.length es = true) (h : applyStd a c rela syms sec es = some b) :
    b.length = sec.length :=
  applyStd_length a c rela syms sec.length es sec b rfl (wfApply_iff.1 hwf).one h

end PyElf.Proofs.Reloc
