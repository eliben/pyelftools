/-
  Reading the tables of a file that carries a description: `wf` / `wfZ` unpacked (`WfFacts`), the section header
  table over exactly what reading it needs (`ShTab`: `sectionOffset_ok`, `getSectionHeader_of`), `secOkZ` unpacked
  and `Section.__init__`, the extended-numbering escapes (`getShstrndx_of`), `ELFFile(stream)` (`openElf_of`) and
  section names (`getSectionName_ok`).
  `x_ok` says that reader `x` succeeds with the description's value.  Where `x_of` stands beside it, `x_of` takes
  exactly the facts it uses (`ShTab`, loose hypotheses), and `x_ok` is its instance for `WfFacts`.  `x_gen` (here and
  in ElfLookup) is Props/C01's theorem `x` over the unpacked facts (`WfFacts`, a `Setup`) in place of `wfZ`.
-/
import PyElf.Proofs.ElfHeaders
import PyElf.Proofs.EngineErrors
namespace PyElf.Proofs
open PyElf PyElf.Spec PyElf.Model PyElf.Proofs.Engine

/-! The proofs are carried out for `wfZ` / `secOkZ` (compressed sections admitted, Spec/ElfImage.lean); `wf` / `secOk`
    imply them, so every theorem holds for both. -/

/-- the type-specific half of `secOk` / `secOkZ`, with the check of the section `sh_link` designates a parameter -/
def secCondP (d : ElfDesc) (linkIs : List String → Bool) (s : SecDesc) (h : Val) : Bool :=
  let w := d.cls / 8
  let entsize := fieldNat h "sh_entsize"
  let size := fieldNat h "sh_size"
  let off := fieldNat h "sh_offset"
  let body := bodyOf s
  let word (k : Nat) : Nat := decNat d.le ((body.drop (4 * k)).take 4)
  (if typeIn h ["SHT_SYMTAB", "SHT_DYNSYM", "SHT_SUNW_LDYNSYM"] then
     linkIs ["SHT_STRTAB"] && decide (0 < entsize) && size % entsize == 0
   else if typeIn h ["SHT_SUNW_syminfo", "SHT_GNU_versym"] then linkIs ["SHT_SYMTAB", "SHT_DYNSYM"]
   else if typeIn h ["SHT_GNU_verneed", "SHT_GNU_verdef"] then linkIs ["SHT_STRTAB"]
   else if typeIn h ["SHT_REL"] then entsize == 2 * w
   else if typeIn h ["SHT_RELA"] then entsize == 3 * w
   else if typeIn h ["SHT_RELR"] then entsize == w
   else if typeIn h ["SHT_DYNAMIC"] then linkIs ["SHT_STRTAB", "SHT_NOBITS"]
   else if typeIn h ["SHT_ARM_ATTRIBUTES", "SHT_RISCV_ATTRIBUTES"] then
     decide (off < 2 ^ 63) && body.head? == some 0x41
   else if typeIn h ["SHT_HASH"] then
     linkIs ["SHT_SYMTAB", "SHT_DYNSYM"] && decide (off < 2 ^ 63) &&
     decide (8 ≤ body.length) && decide (8 + 4 * (word 0 + word 1) ≤ body.length)
   else if typeIn h ["SHT_GNU_HASH"] then
     linkIs ["SHT_SYMTAB", "SHT_DYNSYM"] && decide (off < 2 ^ 63) &&
     decide (16 ≤ body.length) && decide (16 + w * word 2 + 4 * word 0 ≤ body.length)
   else true)

/-- the link check occurs only positively -/
theorem secCondP_mono {d : ElfDesc} {l1 l2 : List String → Bool} {s : SecDesc} {h : Val}
    (L : ∀ ts, l1 ts = true → l2 ts = true) (hc : secCondP d l1 s h = true) : secCondP d l2 s h = true := by
  unfold secCondP at hc ⊢
  by_cases c0 : typeIn h ["SHT_SYMTAB", "SHT_DYNSYM", "SHT_SUNW_LDYNSYM"] = true
  · rw [if_pos c0] at hc ⊢
    simp only [Bool.and_eq_true] at hc ⊢
    exact ⟨⟨L _ hc.1.1, hc.1.2⟩, hc.2⟩
  rw [if_neg c0] at hc ⊢
  by_cases c1 : typeIn h ["SHT_SUNW_syminfo", "SHT_GNU_versym"] = true
  · rw [if_pos c1] at hc ⊢
    exact L _ hc
  rw [if_neg c1] at hc ⊢
  by_cases c2 : typeIn h ["SHT_GNU_verneed", "SHT_GNU_verdef"] = true
  · rw [if_pos c2] at hc ⊢
    exact L _ hc
  rw [if_neg c2] at hc ⊢
  by_cases c3 : typeIn h ["SHT_REL"] = true
  · rw [if_pos c3] at hc ⊢
    exact hc
  rw [if_neg c3] at hc ⊢
  by_cases c4 : typeIn h ["SHT_RELA"] = true
  · rw [if_pos c4] at hc ⊢
    exact hc
  rw [if_neg c4] at hc ⊢
  by_cases c5 : typeIn h ["SHT_RELR"] = true
  · rw [if_pos c5] at hc ⊢
    exact hc
  rw [if_neg c5] at hc ⊢
  by_cases c6 : typeIn h ["SHT_DYNAMIC"] = true
  · rw [if_pos c6] at hc ⊢
    exact L _ hc
  rw [if_neg c6] at hc ⊢
  by_cases c7 : typeIn h ["SHT_ARM_ATTRIBUTES", "SHT_RISCV_ATTRIBUTES"] = true
  · rw [if_pos c7] at hc ⊢
    exact hc
  rw [if_neg c7] at hc ⊢
  by_cases c8 : typeIn h ["SHT_HASH"] = true
  · rw [if_pos c8] at hc ⊢
    simp only [Bool.and_eq_true] at hc ⊢
    exact ⟨⟨⟨L _ hc.1.1.1, hc.1.1.2⟩, hc.1.2⟩, hc.2⟩
  rw [if_neg c8] at hc ⊢
  by_cases c9 : typeIn h ["SHT_GNU_HASH"] = true
  · rw [if_pos c9] at hc ⊢
    simp only [Bool.and_eq_true] at hc ⊢
    exact ⟨⟨⟨L _ hc.1.1.1, hc.1.1.2⟩, hc.1.2⟩, hc.2⟩
  rw [if_neg c9] at hc ⊢

abbrev linkIsB (env : Env) (d : ElfDesc) (fuel link : Nat) (types : List String) : Bool :=
  match d.decHdr env link with
  | some lh => typeIn lh types && d.secOkZ env fuel link
  | none => false

def secCond (env : Env) (d : ElfDesc) (fuel : Nat) (s : SecDesc) (h : Val) : Bool :=
  secCondP d (linkIsB env d fuel (fieldNat h "sh_link")) s h

theorem secOk_imp_secOkZ {env : Env} {d : ElfDesc} :
    ∀ (fuel i : Nat), d.secOk env fuel i = true → d.secOkZ env fuel i = true := by
  intro fuel
  induction fuel with
  | zero => intro i h; simp [ElfDesc.secOk] at h
  | succ fuel ih =>
    intro i h
    rw [ElfDesc.secOk] at h
    rw [ElfDesc.secOkZ]
    cases hs : d.sections[i]? with
    | none => simp [hs] at h
    | some s =>
      cases hh : d.decHdr env i with
      | none => simp [hs, hh] at h
      | some hd =>
        simp only [hs, hh, Bool.and_eq_true, beq_iff_eq, Bool.or_eq_true] at h ⊢
        refine ⟨Or.inl h.1, ?_⟩
        refine secCondP_mono (d := d) (s := s) (h := hd)
          (l1 := fun ts => match d.decHdr env (fieldNat hd "sh_link") with
            | some lh => typeIn lh ts && d.secOk env fuel (fieldNat hd "sh_link")
            | none => false)
          (l2 := linkIsB env d fuel (fieldNat hd "sh_link")) ?_ h.2
        intro ts hl
        cases hl' : d.decHdr env (fieldNat hd "sh_link") with
        | none => simp [hl'] at hl
        | some lh =>
          simp only [linkIsB, hl', Bool.and_eq_true] at hl ⊢
          exact ⟨hl.1, ih _ hl.2⟩

theorem wf_imp_wfZ {env : Env} {d : ElfDesc} (h : d.wf env = true) : d.wfZ env = true := by
  unfold ElfDesc.wf at h
  unfold ElfDesc.wfZ
  simp only [Bool.and_eq_true, List.all_eq_true, List.mem_range] at h ⊢
  obtain ⟨⟨h1, h16⟩, h17⟩ := h
  exact ⟨⟨h1, fun i hi => secOk_imp_secOkZ 4 i (h16 i hi)⟩, h17⟩

/-- `wfZ` clause by clause, in the order of its conjuncts, except `machineClasses.contains d.mclass`
    (`wfZ_machineClass` has it) -/
structure WfFacts (env : Env) (d : ElfDesc) : Prop where
  cls : d.cls = 32 ∨ d.cls = 64
  cfg : d.cfgOk env = true
  disj : ∃ rs, d.regions = some rs ∧ regionsDisjoint (sortRegions rs) = true
  esc : d.escapesOk = true
  names : d.namesOk = true
  shent : d.sections.length = 0 ∨ d.S.Elf_Shdr.sizeof.getD 0 ≤ d.shentsize
  phent : d.segments.length = 0 ∨ d.S.Elf_Phdr.sizeof.getD 0 ≤ d.phentsize
  shbound : d.shoff + d.sections.length * d.shentsize < 2 ^ 63
  phbound : d.phoff + d.segments.length * d.phentsize < 2 ^ 63
  nlt : d.sections.length < 2 ^ 32
  mlt : d.segments.length < 2 ^ 32
  shpos : d.sections.length = 0 ∨ (0 < d.shoff ∧ d.shstrndx < d.sections.length)
  phpos : d.segments.length = 0 ∨ 0 < d.phoff
  nameoff : d.shstrndx ≠ 0 → ∀ st, d.sections[d.shstrndx]? = some st →
    ∀ s ∈ d.sections, getNatD st.hdr "sh_offset" + s.nameOff < 2 ^ 63
  secs : ∀ i, i < d.sections.length → d.secOkZ env 4 i = true
  noshstr : d.sections.length = 0 → d.shstrndx = 0

theorem wfZ_unpack {env : Env} {d : ElfDesc} (h : d.wfZ env = true) :
    WfFacts env d ∧ machineClasses.contains d.mclass = true := by
  unfold ElfDesc.wfZ at h
  simp only [Bool.and_eq_true, Bool.or_eq_true, beq_iff_eq, decide_eq_true_eq, List.all_eq_true,
    List.mem_range, bne_iff_ne, ne_eq] at h
  obtain ⟨⟨⟨⟨⟨⟨⟨⟨⟨⟨⟨⟨⟨⟨⟨⟨cls, mclass⟩, cfg⟩, disj⟩, esc⟩, names⟩, shent⟩, phent⟩, shbound⟩, phbound⟩, nlt⟩, mlt⟩, shpos⟩,
    phpos⟩, nameoff⟩, secs⟩, noshstr⟩ := h
  refine ⟨{ cls, cfg, esc, names, shent, phent, shbound, phbound, nlt, mlt, shpos, phpos, secs,
            disj := ?_, nameoff := ?_, noshstr := ?_ }, mclass⟩
  · cases hr : d.regions with
    | none => simp [hr] at disj
    | some rs => exact ⟨rs, rfl, by simpa [hr] using disj⟩
  · intro hnz st hst s hs
    rcases nameoff with h0 | hall
    · exact absurd h0 hnz
    · rw [hst] at hall
      simp only [List.all_eq_true, decide_eq_true_eq] at hall
      exact hall s hs
  · intro hn
    rcases noshstr with h | h
    · exact absurd hn h
    · exact h

theorem wfZ_facts {env : Env} {d : ElfDesc} (h : d.wfZ env = true) : WfFacts env d := (wfZ_unpack h).1

theorem wfZ_machineClass {env : Env} {d : ElfDesc} (h : d.wfZ env = true) : d.mclass ∈ machineClasses := by
  simpa using (wfZ_unpack h).2

theorem wf_facts {env : Env} {d : ElfDesc} (h : d.wf env = true) : WfFacts env d :=
  wfZ_facts (wf_imp_wfZ h)

theorem decHdr_some {env : Env} {d : ElfDesc} {i : Nat} {h : Val} (hd : d.decHdr env i = some h) :
    ∃ hi : i < d.sections.length, d.S.Elf_Shdr.decodeRaw env [] (d.sections[i]).raw = .ok h := by
  unfold ElfDesc.decHdr at hd
  cases hs : d.sections[i]? with
  | none => simp [hs] at hd
  | some s =>
    obtain ⟨hi, rfl⟩ := List.getElem?_eq_some_iff.1 hs
    refine ⟨hi, ?_⟩
    simp only [hs] at hd
    cases hr : d.S.Elf_Shdr.decodeRaw env [] (d.sections[i]).raw with
    | error e => simp [hr, Except.toOption] at hd
    | ok v => simp [hr, Except.toOption] at hd; rw [hd]

theorem decHdr_of_ok {env : Env} {d : ElfDesc} {i : Nat} {h : Val} (hi : i < d.sections.length)
    (hd : d.S.Elf_Shdr.decodeRaw env [] (d.sections[i]).raw = .ok h) : d.decHdr env i = some h := by
  unfold ElfDesc.decHdr
  simp [List.getElem?_eq_getElem hi, hd, Except.toOption]

/-- what reading the section header table asks of a description -/
structure ShTab (env : Env) (d : ElfDesc) : Prop where
  shent : d.sections.length = 0 ∨ d.S.Elf_Shdr.sizeof.getD 0 ≤ d.shentsize
  shbound : d.shoff + d.sections.length * d.shentsize < 2 ^ 63
  esc : d.escapesOk = true
  dec0 : 0 < d.sections.length → ∃ h, d.decHdr env 0 = some h

theorem sectionOffset_ok {env : Env} {d : ElfDesc} {hdr : Val} (T : ShTab env d) (hf : HdrFacts d hdr)
    (i : Nat) :
    sectionOffset d.S hdr i = .ok ((if d.sections.length = 0 then 0 else d.shoff) + i * d.shentsize) := by
  unfold sectionOffset
  have hsz : sizeofR d.S.Elf_Shdr = .ok (16 + 6 * (d.cls / 8)) := by
    unfold sizeofR; rw [dS_shdr_sizeof]
  simp only [hf.shentsize, hf.shoff, hsz, bind, Except.bind]
  by_cases hn : d.sections.length = 0
  · simp [hn, pure, Except.pure]
  · have := T.shent
    rw [dS_shdr_sizeof] at this
    simp only [Option.getD_some] at this
    have hlt : ¬ d.shentsize < 16 + 6 * (d.cls / 8) := by
      rcases this with h | h
      · exact absurd h hn
      · omega
    simp [hn, hlt, pure, Except.pure]

theorem getSectionHeader_of {env : Env} {d : ElfDesc} {bytes : Bytes} {hdr : Val} (T : ShTab env d)
    (hL : LayoutFacts d bytes) (hf : HdrFacts d hdr) {i : Nat} {h : Val} (hd : d.decHdr env i = some h) :
    getSectionHeader env d.S bytes hdr i = .ok (some h) := by
  obtain ⟨hi, hdec⟩ := decHdr_some hd
  obtain ⟨b, hb, hr⟩ := hL.shdr i hi
  have hn : d.sections.length ≠ 0 := by omega
  have hlen : b.length = 16 + 6 * (d.cls / 8) := by
    have := encodeRaw_length _ (dS_shdr_fixed d) _ _ hb
    rw [dS_shdr_sizeof] at this
    simp only [Option.some.injEq] at this
    exact this.symm
  have hle : d.shoff + i * d.shentsize + b.length ≤ bytes.length := by
    rcases readN_le_length hr with h0 | h0
    · rw [h0] at hlen; simp at hlen; omega
    · exact h0
  have hpos : d.shoff + i * d.shentsize < 2 ^ 63 := by
    have := T.shbound
    have : i * d.shentsize ≤ d.sections.length * d.shentsize := Nat.mul_le_mul_right _ (by omega)
    omega
  unfold getSectionHeader
  rw [sectionOffset_ok T hf]
  simp only [hn, if_false, bind, Except.bind]
  have hgt : ¬ d.shoff + i * d.shentsize > bytes.length := by omega
  simp only [hgt, if_false]
  rw [structParseAt_layout env _ (dS_shdr_fixed d) _ b hb bytes _ hr hpos, hdec]
  rfl

theorem secFacts_of_decHdr {env : Env} {d : ElfDesc} {bytes : Bytes} (hL : LayoutFacts d bytes) {i : Nat} {h : Val}
    (hd : d.decHdr env i = some h) : ∃ hi : i < d.sections.length, SecFacts env d (d.sections[i]) h := by
  obtain ⟨hi, hdd⟩ := decHdr_some hd
  obtain ⟨b, hb, -⟩ := hL.shdr i hi
  exact ⟨hi, sec_facts hb hdd⟩

/-- gABI: `Elf32_Chdr` is 12 bytes, `Elf64_Chdr` 24 -/
def chdrLen (d : ElfDesc) : Nat := if d.cls = 32 then 12 else 24

/-- the SHF_COMPRESSED clause of `secOkZ` -/
def FlagOk (d : ElfDesc) (s : SecDesc) (hd : Val) : Prop :=
  fieldNat hd "sh_flags" &&& 0x800 = 0 ∨
    (fieldNat hd "sh_offset" < 2 ^ 63 ∧ chdrLen d ≤ (bodyOf s).length)

theorem secOkZ_unpack {env : Env} {d : ElfDesc} {fuel i : Nat} (h : d.secOkZ env fuel i = true) :
    ∃ fuel' s hd, fuel = fuel' + 1 ∧ d.sections[i]? = some s ∧ d.decHdr env i = some hd ∧
      FlagOk d s hd ∧ secCond env d fuel' s hd = true := by
  cases fuel with
  | zero => simp [ElfDesc.secOkZ] at h
  | succ fuel' =>
    rw [ElfDesc.secOkZ] at h
    cases hs : d.sections[i]? with
    | none => simp [hs] at h
    | some s =>
      cases hh : d.decHdr env i with
      | none => simp [hs, hh] at h
      | some hd =>
        simp only [hs, hh, Bool.and_eq_true, beq_iff_eq, Bool.or_eq_true, decide_eq_true_eq] at h
        exact ⟨fuel', s, hd, rfl, rfl, rfl, h.1, h.2⟩

/-- any `chdrLen` bytes parse: the fields are unsigned integers and a pass-through enumeration -/
theorem parse_chdr_any (env : Env) (c : ElfCfg) (hc : c.cls = 32 ∨ c.cls = 64) (data : Bytes) (pos : Nat)
    (hlen : pos + (if c.cls = 32 then 12 else 24) ≤ data.length) :
    ∃ v p, structParse env (elfStructs c).Elf_Chdr data pos = .ok (v, p) := by
  obtain ⟨le, cls, m, sol, core⟩ := c
  rcases hc with rfl | rfl
  · obtain ⟨v, hv⟩ := ElfErrors.structParse_fixed_fits (env := env) (c := (elfStructs ⟨le, 32, m, sol, core⟩).Elf_Chdr) rfl rfl
      (n := 12) (by simp [elfStructs, st, mkFields, f, enumOf, Con.sizeof, ConFields.sizeof]) hlen
    exact ⟨v, _, hv⟩
  · obtain ⟨v, hv⟩ := ElfErrors.structParse_fixed_fits (env := env) (c := (elfStructs ⟨le, 64, m, sol, core⟩).Elf_Chdr) rfl rfl
      (n := 24) (by simp [elfStructs, st, mkFields, f, enumOf, Con.sizeof, ConFields.sizeof]) hlen
    exact ⟨v, _, hv⟩

theorem sectionInit_ok {env : Env} {d : ElfDesc} {bytes : Bytes} {s : SecDesc} {h : Val}
    (hcls : d.cls = 32 ∨ d.cls = 64) (hL : LayoutFacts d bytes) (hs : s ∈ d.sections)
    (hf : SecFacts env d s h) (hfl : FlagOk d s h) :
    sectionInit env d.S bytes h = .ok () := by
  -- SHF_COMPRESSED clear: nothing is read.  Set: the body is described and at least `chdrLen` long, it lies inside the
  -- file (`hL.body`), and any `chdrLen` bytes parse as a compression header (`parse_chdr_any`)
  unfold sectionInit
  rw [hf.nat "sh_flags" (by simp [shdrNatKeys])]
  by_cases h0 : fieldNat h "sh_flags" &&& 0x800 = 0
  · simp [bind, Except.bind, h0, pure, Except.pure]
  · rcases hfl with hfl | ⟨hoff, hlen⟩
    · exact absurd hfl h0
    · have hne : (fieldNat h "sh_flags" &&& 0x800 != 0) = true := by simpa using h0
      simp only [bind, Except.bind, hne, if_true]
      rw [hf.nat "sh_offset" (by simp [shdrNatKeys])]
      simp only
      have hpos : 0 < chdrLen d := by unfold chdrLen; split <;> omega
      cases hb : s.body with
      | none => simp [bodyOf, hb] at hlen; omega
      | some body =>
        have hbl : (bodyOf s) = body := by simp [bodyOf, hb]
        rw [hbl] at hlen
        have hread := hL.body s hs body hb
        rw [← hf.raw "sh_offset" (by simp [shdrNatKeys]) (by decide)] at hread
        have hle : fieldNat h "sh_offset" + body.length ≤ bytes.length := by
          rcases readN_le_length hread with e | e
          · rw [e] at hlen; simp at hlen; omega
          · exact e
        obtain ⟨v, p, hp⟩ := parse_chdr_any env d.cfg hcls bytes (fieldNat h "sh_offset") (by
          show fieldNat h "sh_offset" + chdrLen d ≤ bytes.length
          omega)
        rw [structParseAt_eq (by omega)]
        have hS : d.S.Elf_Chdr = (elfStructs d.cfg).Elf_Chdr := rfl
        rw [hS, hp]
        rfl

/-- what `secOkZ env (fuel + 1) i` and the layout give for section `i`; `cond` has the links good to depth `fuel` -/
structure SecOk (env : Env) (d : ElfDesc) (bytes : Bytes) (fuel i : Nat) (s : SecDesc) (h : Val) : Prop where
  mem : d.sections[i]? = some s
  dec : d.decHdr env i = some h
  facts : SecFacts env d s h
  init : sectionInit env d.S bytes h = .ok ()
  cond : secCond env d fuel s h = true

theorem SecOk.lt {env : Env} {d : ElfDesc} {bytes : Bytes} {fuel i : Nat} {s : SecDesc} {h : Val}
    (B : SecOk env d bytes fuel i s h) : i < d.sections.length := (List.getElem?_eq_some_iff.1 B.mem).1

theorem sec_bundle {env : Env} {d : ElfDesc} {bytes : Bytes} (hcls : d.cls = 32 ∨ d.cls = 64)
    (hL : LayoutFacts d bytes) {fuel i : Nat} (hok : d.secOkZ env (fuel + 1) i = true) :
    ∃ s h, SecOk env d bytes fuel i s h := by
  obtain ⟨fuel', s, hd, hfu, hs, hdec, hfl, hc⟩ := secOkZ_unpack hok
  cases hfu
  obtain ⟨hi, rfl⟩ := List.getElem?_eq_some_iff.1 hs
  obtain ⟨_, hdd⟩ := decHdr_some hdec
  obtain ⟨b, hb, -⟩ := hL.shdr i hi
  have hsf := sec_facts hb hdd
  exact ⟨_, hd, hs, hdec, hsf, sectionInit_ok hcls hL (List.getElem_mem hi) hsf hfl, hc⟩

theorem WfFacts.tab {env : Env} {d : ElfDesc} (hw : WfFacts env d) : ShTab env d :=
  ⟨hw.shent, hw.shbound, hw.esc, fun h0 => by
    obtain ⟨_, _, hd, _, _, hdec, _⟩ := secOkZ_unpack (hw.secs 0 h0)
    exact ⟨hd, hdec⟩⟩

theorem getSectionHeader_ok {env : Env} {d : ElfDesc} {bytes : Bytes} {hdr : Val} (hw : WfFacts env d)
    (hL : LayoutFacts d bytes) (hf : HdrFacts d hdr) {i : Nat} {h : Val} (hd : d.decHdr env i = some h) :
    getSectionHeader env d.S bytes hdr i = .ok (some h) :=
  getSectionHeader_of hw.tab hL hf hd

structure EscFacts (d : ElfDesc) : Prop where
  shnum : (d.xShnum || decide (d.sections.length ≥ 0xff00)) = true →
    ∃ s0, d.sections[0]? = some s0 ∧ getNatD s0.hdr "sh_size" = d.sections.length
  shstrndx : (d.xShstrndx || decide (d.shstrndx ≥ 0xff00)) = true →
    ∃ s0, d.sections[0]? = some s0 ∧ getNatD s0.hdr "sh_link" = d.shstrndx
  phnum : (d.xPhnum || decide (d.segments.length ≥ 0xffff)) = true →
    ∃ s0, d.sections[0]? = some s0 ∧ getNatD s0.hdr "sh_info" = d.segments.length

theorem esc_aux {a : Bool} {n x y : Nat} (h : (!a || (decide (n > 0) && x == y)) = true) (ha : a = true) :
    n > 0 ∧ x = y := by
  subst ha
  simpa using h

theorem esc_head {secs : List SecDesc} {k : String} {v : Nat}
    (h : secs.length > 0 ∧ getNatD (match secs with | s :: _ => s.hdr | [] => []) k = v) :
    ∃ s0, secs[0]? = some s0 ∧ getNatD s0.hdr k = v := by
  cases secs with
  | nil => simp at h
  | cons s rest => exact ⟨s, by simp, h.2⟩

theorem esc_facts {d : ElfDesc} (h : d.escapesOk = true) : EscFacts d := by
  unfold ElfDesc.escapesOk at h
  simp only [Bool.and_eq_true] at h
  obtain ⟨⟨⟨h1, h2⟩, h3⟩, -⟩ := h
  exact ⟨fun hx => esc_head (esc_aux h1 hx), fun hx => esc_head (esc_aux h2 hx),
    fun hx => esc_head (esc_aux h3 hx)⟩

theorem getShstrndx_of {env : Env} {d : ElfDesc} {bytes : Bytes} {hdr : Val} (T : ShTab env d)
    (hL : LayoutFacts d bytes) (hf : HdrFacts d hdr) :
    getShstrndx env d.S bytes hdr = .ok d.shstrndx := by
  unfold getShstrndx
  rw [hf.shstrndx]
  simp only [bind, Except.bind]
  by_cases hx : (d.xShstrndx || decide (d.shstrndx ≥ 0xff00)) = true
  · obtain ⟨s0, hs0, hlink⟩ := (esc_facts T.esc).shstrndx hx
    obtain ⟨h0, rfl⟩ := List.getElem?_eq_some_iff.1 hs0
    obtain ⟨h, hdec⟩ := T.dec0 h0
    obtain ⟨_, hsf⟩ := secFacts_of_decHdr hL hdec
    simp only [hx, if_true]
    rw [getSectionHeader_of T hL hf hdec]
    simp only [bne_self_eq_false, Bool.false_eq_true, if_false]
    rw [hsf.link, hlink]
  · simp only [hx, Bool.false_eq_true, if_false]
    have : d.shstrndx < 0xff00 := by
      simp only [Bool.or_eq_true, decide_eq_true_eq, not_or] at hx
      omega
    have hne : (d.shstrndx != 0xffff) = true := by
      simp only [bne_iff_ne, ne_eq]; omega
    simp [hne, pure, Except.pure]

/-! The Spec's machine classification and struct factory as functions: what `openElf` is run with. -/

def specMC : Val → String
  | .str m => ((machineClass.find? (·.1 == m)).map (·.2)).getD "default"
  | _ => "default"

def specSF : ElfCfg → Option ElfStructs := fun c => some (elfStructs c)

theorem cfgOfHeader_ok {env : Env} {d : ElfDesc} {hdr : Val}
    (hd : d.S.Elf_Ehdr.decodeRaw env [] d.ehdrRaw = .ok hdr) (hcfg : d.cfgOk env = true)
    (hf : HdrFacts d hdr) : cfgOfHeader specMC d.cls d.le hdr = .ok d.cfg := by
  obtain ⟨et, het⟩ := hf.ety
  obtain ⟨em, hem⟩ := hf.emach
  obtain ⟨idt, osabi, hid, hos⟩ := hf.osabi
  unfold ElfDesc.cfgOk at hcfg
  simp only [hd, het, hem, hid, hos, Except.toOption, Option.getD_some, Bool.and_eq_true, beq_iff_eq] at hcfg
  -- `cfgOk` says the three redundant parameters of `d` are what the header's `e_machine`, `EI_OSABI`, `e_type` give
  obtain ⟨⟨hmclass, hsolaris⟩, hcore⟩ := hcfg
  unfold cfgOfHeader
  simp only [het, hem, hid, hos, bind, Except.bind, pure, Except.pure]
  have e2 : isStr osabi "ELFOSABI_SOLARIS" = d.solaris := by
    rw [hsolaris]; cases osabi <;> simp [isStr]
    split <;> simp_all
  have e3 : isStr et "ET_CORE" = d.core := by
    rw [hcore]; cases et <;> simp [isStr]
    split <;> simp_all
  have e1 : specMC em = d.mclass := by
    rw [← hmclass]; cases em <;> rfl
  rw [e1, e2, e3]; rfl

theorem parse_ehdr_ok {env : Env} {d : ElfDesc} {bytes : Bytes} {hdr : Val} (hL : LayoutFacts d bytes)
    (hd : d.S.Elf_Ehdr.decodeRaw env [] d.ehdrRaw = .ok hdr) :
    ∃ p, structParseAt env (elfStructs ⟨d.le, d.cls, "default", false, false⟩).Elf_Ehdr bytes 0 = .ok (hdr, p) := by
  obtain ⟨eh, he, hr⟩ := hL.ehdr
  have : (elfStructs ⟨d.le, d.cls, "default", false, false⟩).Elf_Ehdr = d.S.Elf_Ehdr := rfl
  rw [this, structParseAt_layout env d.S.Elf_Ehdr (ehdr_fixed d.cfg) _ eh he bytes 0 hr (by omega), hd]
  exact ⟨_, rfl⟩

/-- what `ELFFile.__init__` leaves in `_section_header_stringtable`: nothing when the file has no name table
    (`e_shstrndx` = SHN_UNDEF), else the decoded header of section `e_shstrndx` -/
def ShstrOk (env : Env) (d : ElfDesc) (shstr : Option Val) : Prop :=
  (d.shstrndx = 0 ∧ shstr = none) ∨
  (d.shstrndx ≠ 0 ∧ ∃ st, shstr = some st ∧ d.decHdr env d.shstrndx = some st)

theorem openElf_of {env : Env} {d : ElfDesc} {bytes : Bytes} {hdr : Val} (hcls : d.cls = 32 ∨ d.cls = 64)
    (hcfg : d.cfgOk env = true) (T : ShTab env d)
    (hshstr : d.shstrndx ≠ 0 → d.secOkZ env 4 d.shstrndx = true)
    (hL : LayoutFacts d bytes) (hd : d.S.Elf_Ehdr.decodeRaw env [] d.ehdrRaw = .ok hdr) :
    ∃ shstr, ShstrOk env d shstr ∧
      openElf env specSF specMC bytes
        = .ok { data := bytes, cls := d.cls, le := d.le, S := d.S, header := hdr, shstr := shstr } := by
  obtain ⟨eh, he, hr⟩ := hL.ehdr
  have hf := hdr_facts he hd
  obtain ⟨p, hp⟩ := parse_ehdr_ok hL hd
  have hS : elfStructs d.cfg = d.S := rfl
  -- the two arms differ only in whether section `e_shstrndx` is read (`sec_bundle`: its header decodes, its
  -- `Section.__init__` succeeds)
  by_cases hz : d.shstrndx = 0
  · refine ⟨none, Or.inl ⟨hz, rfl⟩, ?_⟩
    unfold openElf
    rw [identify_ok hcls he hr]
    simp only [bind, Except.bind, specSF, hp, cfgOfHeader_ok hd hcfg hf]
    rw [hS, getShstrndx_of T hL hf, hz]
    rfl
  · obtain ⟨_, st, B⟩ := sec_bundle hcls hL (hshstr hz)
    refine ⟨some st, Or.inr ⟨hz, st, rfl, B.dec⟩, ?_⟩
    have hne : (d.shstrndx == 0) = false := by simpa using hz
    unfold openElf
    rw [identify_ok hcls he hr]
    simp only [bind, Except.bind, specSF, hp, cfgOfHeader_ok hd hcfg hf]
    rw [hS, getShstrndx_of T hL hf]
    simp only [hne, Bool.false_eq_true, if_false, getSectionHeader_of T hL hf B.dec, B.init]
    rfl

theorem names_empty {d : ElfDesc} (h : d.namesOk = true) (hz : d.shstrndx = 0) :
    ∀ s ∈ d.sections, s.name = [] := by
  unfold ElfDesc.namesOk at h
  simp only [hz, beq_self_eq_true, if_true, List.all_eq_true, List.isEmpty_iff] at h
  exact h

theorem name_facts {d : ElfDesc} (h : d.namesOk = true) (hn : 0 < d.sections.length) (hnz : d.shstrndx ≠ 0) :
    ∃ (hlt : d.shstrndx < d.sections.length) (body : Bytes), (d.sections[d.shstrndx]).body = some body ∧
      ∀ s ∈ d.sections, firstNul (body.drop s.nameOff) = some s.name := by
  unfold ElfDesc.namesOk at h
  have hne : (d.shstrndx == 0) = false := by simpa using hnz
  simp only [hne, Bool.false_eq_true, if_false] at h
  cases hs : d.sections[d.shstrndx]? with
  | none =>
    simp only [hs] at h
    have : d.sections = [] := by simpa using h
    rw [this] at hn; simp at hn
  | some st =>
    obtain ⟨hlt, rfl⟩ := List.getElem?_eq_some_iff.1 hs
    simp only [hs] at h
    cases hb : (d.sections[d.shstrndx]).body with
    | none => simp [hb] at h
    | some body =>
      simp only [hb, List.all_eq_true, beq_iff_eq] at h
      exact ⟨hlt, body, hb, h⟩

/-- without a table object `_get_section_name` consults `get_shstrndx()` and answers `''`; with one, it reads the
    NUL-terminated string at `sh_name` in the table's body, which is where `namesOk` puts the section's name -/
theorem getSectionName_ok {env : Env} {d : ElfDesc} {bytes : Bytes} {hdr : Val} {shstr : Option Val}
    (T : ShTab env d) (hnames : d.namesOk = true)
    (hnameoff : d.shstrndx ≠ 0 → ∀ st, d.sections[d.shstrndx]? = some st →
      ∀ s ∈ d.sections, getNatD st.hdr "sh_offset" + s.nameOff < 2 ^ 63)
    (hL : LayoutFacts d bytes) (hf : HdrFacts d hdr) (hst : ShstrOk env d shstr)
    {i : Nat} (hi : i < d.sections.length) {h : Val} (hsf : SecFacts env d (d.sections[i]) h) :
    getSectionName env d.S bytes hdr shstr (some h) = .ok (d.sections[i]).name := by
  rcases hst with ⟨hz, rfl⟩ | ⟨hnz, st, rfl, hst⟩
  · rw [names_empty hnames hz _ (List.getElem_mem hi)]
    unfold getSectionName
    simp only [getShstrndx_of T hL hf, hz, bind, Except.bind]
    rfl
  -- the table is section `e_shstrndx`: its body is described and read back from the file (`hL.body`), `sh_name` is the
  -- description's `nameOff`, and the first NUL from there ends the name (`name_facts`)
  obtain ⟨hlt, body, hbody, hall⟩ := name_facts hnames (by omega) hnz
  obtain ⟨_, hstd⟩ := decHdr_some hst
  obtain ⟨b, hb, -⟩ := hL.shdr _ hlt
  have hstf := sec_facts hb hstd
  have hread := hL.body _ (List.getElem_mem hlt) body hbody
  have hname := hall _ (List.getElem_mem hi)
  have hoff := hnameoff hnz _ (List.getElem?_eq_getElem hlt) _ (List.getElem_mem hi)
  unfold getSectionName subscript
  simp only [bind, Except.bind]
  have hnm := hsf.nat "sh_name" (by simp [shdrNatKeys])
  rw [hsf.name] at hnm
  simp only [Val.getNat, bind, Except.bind] at hnm
  cases hg : h.getField "sh_name" with
  | error e => simp [hg] at hnm
  | ok x =>
    simp only [hg] at hnm ⊢
    rw [hnm]
    simp only
    rw [getString_at bytes _ hstf.offset, if_neg (by omega)]
    rw [firstNul_drop_in (drop_of_readN hread) hname]
    rfl

theorem assemble_layout_gen {env : Env} {d : ElfDesc} {tail : Nat} {bytes : Bytes}
    (hw : WfFacts env d) (h : d.assemble tail = some bytes) : Layout d bytes := by
  obtain ⟨rs, hrs, hdisj⟩ := hw.disj
  exact layout_of_disjoint hrs hdisj h

end PyElf.Proofs
