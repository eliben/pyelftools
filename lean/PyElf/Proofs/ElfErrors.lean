/-
  C19 on the elffile model, for any bytes.  `ELFFile(stream)` raises only ELFError / ELFParseError (`openElf_only`):
  a header that parsed has the keys the constructor looks up (`HdrOK`, `ShdrOK`, read off the struct by
  `ConFields.lastNamed`), the rest is the `Only` calculus of Proofs/EngineErrors.lean, whose namespace this file
  continues.  A section or segment index at which the reader succeeds lies inside the file (`*_ok_bound`).  The
  section-link recursion of `_make_section` never exhausts its fuel (`makeSection_nf`, by `rank`).
-/
import PyElf.Model.ElfFile
import PyElf.Spec.ElfFactory
import PyElf.Proofs.Fixed
import PyElf.Proofs.EngineErrors
import PyElf.Proofs.EngineFuel
import PyElf.Proofs.ElfCodec
namespace PyElf.Proofs.ElfErrors
open PyElf PyElf.Spec PyElf.Model PyElf.Proofs

def shdrSize (c : ElfCfg) : Nat := 16 + 6 * (c.cls / 8)
theorem shdrSize_sizeof (c : ElfCfg) : (elfStructs c).Elf_Shdr.sizeof = some (shdrSize c) := shdr_sizeof c

def phdrSize (c : ElfCfg) : Nat := if c.cls = 32 then 20 + 3 * (c.cls / 8) else 8 + 6 * (c.cls / 8)
theorem phdrSize_sizeof (c : ElfCfg) : (elfStructs c).Elf_Phdr.sizeof = some (phdrSize c) := phdr_sizeof c

theorem structParseAt_ok {env : Env} {c : Con} {data : Bytes} {pos : Nat} {r : Val × Nat}
    (h : structParseAt env c data pos = .ok r) :
    pos < 2 ^ 63 ∧ ∃ ctx', Con.parse env data c [] pos = .ok (r.1, r.2, ctx') := by
  unfold structParseAt at h
  by_cases hp : pos ≥ 2 ^ 63
  · simp [hp, bind, Except.bind, throw, throwThe, MonadExceptOf.throw] at h
  · simp only [hp, if_false] at h
    refine ⟨by omega, ?_⟩
    simp only [structParse] at h
    obtain ⟨⟨v, p, cx⟩, h1, h2⟩ := bind_ok.1 h
    simp [pure, Except.pure] at h2
    subst h2
    exact ⟨cx, h1⟩

theorem structParseAt_ok_bound {env : Env} {c : Con} (hc : c.fixed = true) {n : Nat}
    (hn : c.sizeof = some n) (h0 : 0 < n) {data : Bytes} {pos : Nat} {r : Val × Nat}
    (h : structParseAt env c data pos = .ok r) : pos + n ≤ data.length := by
  obtain ⟨_, cx, hp⟩ := structParseAt_ok h
  by_cases hlt : data.length < pos + n
  · obtain ⟨e, he⟩ := parse_fixed_truncated' env c hc n hn h0 data pos [] hlt
    rw [he] at hp; cases hp
  · omega

theorem sizeofR_ok {c : Con} {n : Nat} (h : c.sizeof = some n) : sizeofR c = .ok n := by
  simp [sizeofR, h]

theorem phdrSize_pos (c : ElfCfg) : 8 ≤ phdrSize c := by unfold phdrSize; split <;> omega

theorem segmentOffset_ok {c : ElfCfg} {hdr : Val} {i pos : Nat}
    (h : segmentOffset (elfStructs c) hdr i = .ok pos) :
    ∃ phoff phentsize, phdrSize c ≤ phentsize ∧ pos = phoff + i * phentsize := by
  unfold segmentOffset at h
  obtain ⟨phentsize, -, h⟩ := bind_ok.1 h
  obtain ⟨phoff, -, h⟩ := bind_ok.1 h
  rw [sizeofR_ok (phdrSize_sizeof c)] at h
  obtain ⟨sz, hsz, h⟩ := bind_ok.1 h
  cases hsz
  by_cases hlt : phentsize < phdrSize c
  · simp [hlt, throw, throwThe, MonadExceptOf.throw, bind, Except.bind] at h
  · simp [hlt, pure, Except.pure] at h
    exact ⟨phoff, phentsize, by omega, h.symm⟩

theorem getSegmentHeader_ok_bound {env : Env} {c : ElfCfg} {data : Bytes} {hdr : Val} {i : Nat} {ph : Val}
    (h : getSegmentHeader env (elfStructs c) data hdr i = .ok ph) :
    phdrSize c * i + phdrSize c ≤ data.length := by
  unfold getSegmentHeader at h
  obtain ⟨pos, hpos, h⟩ := bind_ok.1 h
  obtain ⟨r, hr, -⟩ := bind_ok.1 h
  obtain ⟨phoff, phentsize, hge, rfl⟩ := segmentOffset_ok hpos
  have := structParseAt_ok_bound (phdr_fixed c) (phdrSize_sizeof c) (by have := phdrSize_pos c; omega) hr
  have h2 : phdrSize c * i ≤ i * phentsize := by
    rw [Nat.mul_comm]; exact Nat.mul_le_mul_left i hge
  omega

theorem getSegment_ok_bound {env : Env} {c : ElfCfg} {data : Bytes} {hdr : Val} {shstr : Option Val}
    {i : Nat} {r : String × Val}
    (h : getSegment env (elfStructs c) data hdr shstr i = .ok r) :
    phdrSize c * (i + 1) ≤ data.length := by
  unfold getSegment at h
  obtain ⟨ph, hph, -⟩ := bind_ok.1 h
  have := getSegmentHeader_ok_bound hph
  rw [Nat.mul_add]; omega

theorem sectionOffset_ok {c : ElfCfg} {hdr : Val} {i pos : Nat}
    (h : sectionOffset (elfStructs c) hdr i = .ok pos) :
    ∃ shoff shentsize, hdr.getNat "e_shoff" = .ok shoff ∧ hdr.getNat "e_shentsize" = .ok shentsize ∧
      (0 < shoff → shdrSize c ≤ shentsize) ∧ pos = shoff + i * shentsize := by
  unfold sectionOffset at h
  obtain ⟨shentsize, h1, h⟩ := bind_ok.1 h
  obtain ⟨shoff, h2, h⟩ := bind_ok.1 h
  rw [sizeofR_ok (shdrSize_sizeof c)] at h
  obtain ⟨sz, hsz, h⟩ := bind_ok.1 h
  cases hsz
  by_cases hlt : (decide (shoff > 0) && decide (shentsize < shdrSize c)) = true
  · simp [hlt, throw, throwThe, MonadExceptOf.throw, bind, Except.bind] at h
  · simp [hlt, pure, Except.pure] at h
    refine ⟨shoff, shentsize, h2, h1, ?_, h.symm⟩
    intro h0
    simp at hlt
    exact hlt h0

theorem getSectionHeader_ok_some {env : Env} {c : ElfCfg} {data : Bytes} {hdr : Val} {i : Nat} {sh : Val}
    (h : getSectionHeader env (elfStructs c) data hdr i = .ok (some sh)) :
    ∃ pos p, sectionOffset (elfStructs c) hdr i = .ok pos ∧ pos ≤ data.length ∧
      structParseAt env (elfStructs c).Elf_Shdr data pos = .ok (sh, p) := by
  unfold getSectionHeader at h
  obtain ⟨pos, hpos, h⟩ := bind_ok.1 h
  by_cases hgt : pos > data.length
  · simp [hgt, pure, Except.pure] at h
  · simp only [hgt, if_false] at h
    obtain ⟨⟨v, p⟩, hr, h⟩ := bind_ok.1 h
    simp [pure, Except.pure] at h
    subst h
    exact ⟨pos, p, hpos, by omega, hr⟩

theorem getSection_ok {env : Env} {S : ElfStructs} {data : Bytes} {hdr : Val} {shstr : Option Val}
    {i : Nat} {r : String × Bytes × Val}
    (h : getSection env S data hdr shstr i = .ok r) :
    getSectionHeader env S data hdr i = .ok (some r.2.2) := by
  unfold getSection at h
  obtain ⟨oh, h1, h⟩ := bind_ok.1 h
  obtain ⟨⟨kind, name⟩, -, h⟩ := bind_ok.1 h
  cases oh with
  | none => simp [throw, throwThe, MonadExceptOf.throw] at h
  | some sh =>
    simp [pure, Except.pure] at h
    subst h
    exact h1

theorem numSections_pos {env : Env} {S : ElfStructs} {data : Bytes} {hdr : Val} {n : Nat}
    (h : numSections env S data hdr = .ok n) (hn : 0 < n) :
    ∃ shoff, hdr.getNat "e_shoff" = .ok shoff ∧ 0 < shoff := by
  unfold numSections at h
  obtain ⟨shoff, h1, h⟩ := bind_ok.1 h
  refine ⟨shoff, h1, ?_⟩
  by_cases h0 : shoff = 0
  · simp [h0, pure, Except.pure] at h; omega
  · omega

theorem getSection_ok_bound {env : Env} {c : ElfCfg} {data : Bytes} {hdr : Val} {shstr : Option Val}
    {n i : Nat} {r : String × Bytes × Val}
    (hn : numSections env (elfStructs c) data hdr = .ok n) (hi : i < n)
    (h : getSection env (elfStructs c) data hdr shstr i = .ok r) :
    shdrSize c * (i + 1) ≤ data.length := by
  obtain ⟨shoff, hs1, hs0⟩ := numSections_pos hn (by omega)
  obtain ⟨pos, p, hpos, hle, hparse⟩ := getSectionHeader_ok_some (getSection_ok h)
  obtain ⟨shoff', shentsize, hs1', -, hge, rfl⟩ := sectionOffset_ok hpos
  rw [hs1] at hs1'; cases hs1'
  have := structParseAt_ok_bound (shdr_fixed c) (shdrSize_sizeof c) (by unfold shdrSize; omega) hparse
  have h2 : shdrSize c * i ≤ i * shentsize := by
    rw [Nat.mul_comm]; exact Nat.mul_le_mul_left i (hge hs0)
  rw [Nat.mul_add]; omega

theorem identify_cases (data : Bytes) :
    identify data = .error .elfError ∨ ∃ cls le, (cls = 32 ∨ cls = 64) ∧ identify data = .ok (cls, le) := by
  unfold identify
  by_cases hm : (readN data 0 4 != [0x7f, 0x45, 0x4c, 0x46]) = true
  · exact .inl (by simp [hm, throw, throwThe, MonadExceptOf.throw, bind, Except.bind])
  · simp only [hm, Bool.false_eq_true, if_false]
    split <;> split <;>
      simp [pure, Except.pure, throw, throwThe, MonadExceptOf.throw, bind, Except.bind]

theorem identify_ok {data : Bytes} {cls : Nat} {le : Bool} (h : identify data = .ok (cls, le)) :
    cls = 32 ∨ cls = 64 := by
  rcases identify_cases data with he | ⟨c, l, hc, hok⟩
  · rw [he] at h; cases h
  · rw [hok] at h; cases h; exact hc

theorem cfgOfHeader_shape {mc : Val → String} {cls : Nat} {le : Bool} {hdr : Val} {cfg : ElfCfg}
    (h : cfgOfHeader mc cls le hdr = .ok cfg) : ∃ em sol core, cfg = ⟨le, cls, mc em, sol, core⟩ := by
  unfold cfgOfHeader at h
  obtain ⟨et, -, h⟩ := bind_ok.1 h
  obtain ⟨em, -, h⟩ := bind_ok.1 h
  obtain ⟨ident, -, h⟩ := bind_ok.1 h
  obtain ⟨osabi, -, h⟩ := bind_ok.1 h
  cases h
  exact ⟨em, _, _, rfl⟩

theorem openElf_ok {env : Env} {data : Bytes} {f : ElfFile}
    (h : openElf env structsFor machineClassOfVal data = .ok f) :
    ∃ c : ElfCfg, (c.cls = 32 ∨ c.cls = 64) ∧ f.S = elfStructs c ∧ f.data = data := by
  unfold openElf at h
  obtain ⟨⟨cls, le⟩, hid, h⟩ := bind_ok.1 h
  have hcls := identify_ok hid
  simp only [structsFor] at h
  obtain ⟨⟨hdr, p0⟩, -, h⟩ := bind_ok.1 h
  obtain ⟨cfg, hcfg, h⟩ := bind_ok.1 h
  have hc : cfg.cls = cls := by obtain ⟨_, _, _, rfl⟩ := cfgOfHeader_shape hcfg; rfl
  obtain ⟨ndx, -, h⟩ := bind_ok.1 h
  refine ⟨cfg, hc ▸ hcls, ?_⟩
  by_cases hz : (ndx == 0) = true
  · simp [hz, pure, Except.pure] at h; subst h; exact ⟨rfl, rfl⟩
  simp only [hz, Bool.false_eq_true, if_false] at h
  obtain ⟨sh, -, h⟩ := bind_ok.1 h
  cases sh with
  | none => simp [pure, Except.pure] at h; subst h; exact ⟨rfl, rfl⟩
  | some st =>
    obtain ⟨_, -, h⟩ := bind_ok.1 h
    simp [pure, Except.pure] at h; subst h; exact ⟨rfl, rfl⟩

/-- the construct that produces the final value of key `k` in a struct's object (`acc`: the producer of the value
    already there).  It follows `Fields.set` on any parsed bytes: the last bearer of the name wins, an embedded field
    gives up — where `fieldCon` (Proofs/ElfHeaders.lean), made for the round trip, asks for exactly one bearer. -/
def ConFields.lastNamed (k : String) : ConFields → Option Con → Option Con
  | .nil, acc => acc
  | .cons (some nm) false c rest, acc => ConFields.lastNamed k rest (if nm = k then some c else acc)
  | .cons none false _ rest, acc => ConFields.lastNamed k rest acc
  | .cons _ true _ _, _ => none

def ParsedBy (env : Env) (data : Bytes) (c : Con) (v : Val) : Prop :=
  ∃ ctx pos p ctx', Con.parse env data c ctx pos = .ok (v, p, ctx')

theorem parseFields_lastNamed (env : Env) (data : Bytes) (k : String) :
    ∀ (fs : ConFields) (acc : Option Con) (c : Con) (obj ctx : Fields) (pos : Nat)
      (obj' : Fields) (p : Nat) (ctx' : Fields),
      Con.parseFields env data fs obj ctx pos = .ok (obj', p, ctx') →
      ConFields.lastNamed k fs acc = some c →
      (∀ c0, acc = some c0 → ∃ v, Fields.get? obj k = some v ∧ ParsedBy env data c0 v) →
      ∃ v, Fields.get? obj' k = some v ∧ ParsedBy env data c v
  | .nil, acc, c, obj, ctx, pos, obj', p, ctx', h, hl, hacc => by
      cases Engine.parseFields_nil.symm.trans h
      exact hacc c hl
  | .cons name true c1 rest, acc, c, obj, ctx, pos, obj', p, ctx', h, hl, hacc => by
      cases name <;> simp [ConFields.lastNamed] at hl
  | .cons none false c1 rest, acc, c, obj, ctx, pos, obj', p, ctx', h, hl, hacc => by
      rw [Engine.parseFields_cons_anon] at h
      obtain ⟨⟨v1, p1, cx1⟩, h1, h⟩ := bind_ok.1 h
      simp only [ConFields.lastNamed] at hl
      exact parseFields_lastNamed env data k rest acc c obj cx1 p1 obj' p ctx' h hl hacc
  | .cons (some nm) false c1 rest, acc, c, obj, ctx, pos, obj', p, ctx', h, hl, hacc => by
      rw [Engine.parseFields_cons_named] at h
      obtain ⟨⟨v1, p1, cx1⟩, h1, h⟩ := bind_ok.1 h
      simp only [ConFields.lastNamed] at hl
      refine parseFields_lastNamed env data k rest _ c _ _ p1 obj' p ctx' h hl ?_
      intro c0 hc0
      rw [Fields.get?_set]
      by_cases hk : nm = k
      · simp only [hk, if_true] at hc0 ⊢
        cases hc0
        exact ⟨v1, rfl, ctx, pos, p1, cx1, h1⟩
      · simp only [hk, if_false] at hc0 ⊢
        exact hacc c0 hc0

theorem parse_struct_ok {env : Env} {data : Bytes} {fs : ConFields} {ctx : Fields} {pos : Nat}
    {v : Val} {p : Nat} {ctx' : Fields}
    (h : Con.parse env data (.struct fs) ctx pos = .ok (v, p, ctx')) :
    ∃ obj cx, v = .record obj ∧ Con.parseFields env data fs [] [] pos = .ok (obj, p, cx) := by
  rw [Engine.parse_struct_eq] at h
  cases hr : Con.parseFields env data fs [] [] pos with
  | error e => rw [hr] at h; cases h
  | ok r => rw [hr] at h; cases h; exact ⟨r.1, r.2.2, rfl, rfl⟩

theorem parsedBy_struct_field {env : Env} {data : Bytes} {fs : ConFields} {v : Val} {k : String} {c : Con}
    (h : ParsedBy env data (.struct fs) v) (hl : ConFields.lastNamed k fs none = some c) :
    ∃ x, v.getField k = .ok x ∧ ParsedBy env data c x := by
  obtain ⟨ctx, pos, p, ctx', h⟩ := h
  obtain ⟨obj, cx, rfl, hf⟩ := parse_struct_ok h
  obtain ⟨x, hx, hp⟩ := parseFields_lastNamed env data k fs none c [] [] pos obj p cx hf hl
    (fun c0 h0 => by cases h0)
  exact ⟨x, by simp [Val.getField, Fields.getR, hx], hp⟩

theorem parsedBy_uint {env : Env} {data : Bytes} {n : Nat} {le : Bool} {v : Val}
    (h : ParsedBy env data (.uint n le) v) : ∃ m : Nat, v = .int m := by
  obtain ⟨ctx, pos, p, ctx', h⟩ := h
  rw [Con.parse] at h
  obtain ⟨bs, -, h⟩ := bind_ok.1 h
  simp [pure, Except.pure] at h
  exact ⟨_, h.1.symm⟩

theorem parsedBy_struct_nat {env : Env} {data : Bytes} {fs : ConFields} {v : Val} {k : String}
    {n : Nat} {le : Bool}
    (h : ParsedBy env data (.struct fs) v) (hl : ConFields.lastNamed k fs none = some (.uint n le)) :
    ∃ m, v.getNat k = .ok m := by
  obtain ⟨x, hx, hp⟩ := parsedBy_struct_field h hl
  obtain ⟨m, rfl⟩ := parsedBy_uint hp
  exact ⟨m, by simp [Val.getNat, hx, bind, Except.bind, Val.asNat, Val.asInt]⟩

/-- the two error classes `ELFFile(...)` may raise -/
def E2 (e : Err) : Prop := e = .elfError ∨ e = .elfParseError

theorem structParseAt_parsedBy {env : Env} {c : Con} {data : Bytes} {pos : Nat} {v : Val} {p : Nat}
    (h : structParseAt env c data pos = .ok (v, p)) : ParsedBy env data c v := by
  obtain ⟨-, cx, h⟩ := structParseAt_ok h
  exact ⟨[], pos, p, cx, h⟩

theorem ehdr_tame (c : ElfCfg) : Con.tame false (elfStructs c).Elf_Ehdr = true := by rfl
theorem shdr_tame (c : ElfCfg) (b : Bool) : Con.tame b (elfStructs c).Elf_Shdr = true := by rfl
theorem chdr_tame (c : ElfCfg) (b : Bool) : Con.tame b (elfStructs c).Elf_Chdr = true := by
  simp only [elfStructs]; split <;> rfl

structure HdrOK (hdr : Val) : Prop where
  shstrndx : ∃ m, hdr.getNat "e_shstrndx" = .ok m
  shentsize : ∃ m, hdr.getNat "e_shentsize" = .ok m
  shoff : ∃ m, hdr.getNat "e_shoff" = .ok m
  etype : ∃ a, hdr.getField "e_type" = .ok a
  emachine : ∃ a, hdr.getField "e_machine" = .ok a
  osabi : ∃ id a, hdr.getField "e_ident" = .ok id ∧ id.getField "EI_OSABI" = .ok a

structure ShdrOK (sh : Val) : Prop where
  link : ∃ m, sh.getNat "sh_link" = .ok m
  flags : ∃ m, sh.getNat "sh_flags" = .ok m
  offset : ∃ m, sh.getNat "sh_offset" = .ok m

theorem ehdr_shape {env : Env} {data : Bytes} {c : ElfCfg} {hdr : Val}
    (h : ParsedBy env data (elfStructs c).Elf_Ehdr hdr) : HdrOK hdr := by
  refine ⟨?_, ?_, ?_, ?_, ?_, ?_⟩
  · exact parsedBy_struct_nat h (by simp [mkFields, f, ConFields.lastNamed]; exact ⟨rfl, rfl⟩)
  · exact parsedBy_struct_nat h (by simp [mkFields, f, ConFields.lastNamed]; exact ⟨rfl, rfl⟩)
  · exact parsedBy_struct_nat h (by simp [mkFields, f, ConFields.lastNamed]; exact ⟨rfl, rfl⟩)
  · obtain ⟨x, hx, -⟩ := parsedBy_struct_field (k := "e_type") h (by simp [mkFields, f, ConFields.lastNamed]; rfl)
    exact ⟨x, hx⟩
  · obtain ⟨x, hx, -⟩ := parsedBy_struct_field (k := "e_machine") h (by simp [mkFields, f, ConFields.lastNamed]; rfl)
    exact ⟨x, hx⟩
  · obtain ⟨x, hx, hp⟩ := parsedBy_struct_field (k := "e_ident") h (by simp [mkFields, f, ConFields.lastNamed]; rfl)
    obtain ⟨y, hy, -⟩ := parsedBy_struct_field (k := "EI_OSABI") hp (by simp [mkFields, ConFields.lastNamed]; rfl)
    exact ⟨x, y, hx, hy⟩

theorem shdr_shape {env : Env} {data : Bytes} {c : ElfCfg} {sh : Val}
    (h : ParsedBy env data (elfStructs c).Elf_Shdr sh) : ShdrOK sh := by
  refine ⟨?_, ?_, ?_⟩
  · exact parsedBy_struct_nat h (by simp [mkFields, f, ConFields.lastNamed]; exact ⟨rfl, rfl⟩)
  · exact parsedBy_struct_nat h (by simp [mkFields, f, ConFields.lastNamed]; exact ⟨rfl, rfl⟩)
  · exact parsedBy_struct_nat h (by simp [mkFields, f, ConFields.lastNamed]; exact ⟨rfl, rfl⟩)

theorem identify_only (data : Bytes) : Only E2 (identify data) := by
  rcases identify_cases data with he | ⟨c, l, -, hok⟩
  · rw [he]; exact Only.error (Or.inl rfl)
  · rw [hok]; exact Only.ok _

theorem cfgOfHeader_ok {hdr : Val} (h : HdrOK hdr) (mc : Val → String) (cls : Nat) (le : Bool) :
    ∃ cfg, cfgOfHeader mc cls le hdr = .ok cfg := by
  obtain ⟨a, ha⟩ := h.etype
  obtain ⟨b, hb⟩ := h.emachine
  obtain ⟨id, c, hid, hc⟩ := h.osabi
  exact ⟨⟨le, cls, mc b, isStr c "ELFOSABI_SOLARIS", isStr a "ET_CORE"⟩,
    by simp [cfgOfHeader, ha, hb, hid, hc, bind, Except.bind, pure, Except.pure]⟩

/-! Four readers of `ELFFile`, each walked once for any set `P` of errors that holds ELFError and ELFParseError and
what the look-ups in the header raise; `P := E2` (the look-ups succeed on a parsed header) and `P := NFE` below. -/

section walks
variable {P : Err → Prop} {env : Env} {c : ElfCfg} {data : Bytes} {hdr sh : Val}

theorem sectionOffset_walk (hE : P .elfError) (h1 : Only P (hdr.getNat "e_shentsize")) (h2 : Only P (hdr.getNat "e_shoff"))
    (n : Nat) : Only P (sectionOffset (elfStructs c) hdr n) := by
  unfold sectionOffset
  refine Only.bind h1 (fun _ _ => Only.bind h2 (fun _ _ => Only.bind (Only.of_eq_ok (sizeofR_ok (shdrSize_sizeof c))) (fun _ _ => ?_)))
  simp only []
  exact Only.ite (fun _ => Only.bind (Only.throw hE) (fun _ _ => Only.pure _)) (fun _ => Only.pure _)

theorem getSectionHeader_walk (hE : P .elfError) (hPE : P .elfParseError) (h1 : Only P (hdr.getNat "e_shentsize"))
    (h2 : Only P (hdr.getNat "e_shoff")) (n : Nat) : Only P (getSectionHeader env (elfStructs c) data hdr n) := by
  unfold getSectionHeader
  refine Only.bind (sectionOffset_walk hE h1 h2 n) (fun pos _ => ?_)
  refine Only.ite (fun _ => Only.pure _) (fun _ => ?_)
  refine Only.bind ?_ (fun _ _ => Only.pure _)
  exact (structParseAt_only (shdr_tame c false) data pos).mono (fun e he => tameErr_false he ▸ hPE)

theorem getShstrndx_walk (hE : P .elfError) (hPE : P .elfParseError) (h1 : Only P (hdr.getNat "e_shentsize"))
    (h2 : Only P (hdr.getNat "e_shoff")) (h3 : Only P (hdr.getNat "e_shstrndx"))
    (hlink : ∀ s, getSectionHeader env (elfStructs c) data hdr 0 = .ok (some s) → Only P (s.getNat "sh_link")) :
    Only P (getShstrndx env (elfStructs c) data hdr) := by
  unfold getShstrndx
  refine Only.bind h3 (fun x _ => ?_)
  refine Only.ite (fun _ => Only.pure _) (fun _ => ?_)
  refine Only.bind (getSectionHeader_walk hE hPE h1 h2 0) (fun oh hoh => ?_)
  cases oh with
  | none => exact Only.throw hPE
  | some s => exact hlink s hoh

theorem sectionInit_walk (hPE : P .elfParseError) (h1 : Only P (sh.getNat "sh_flags")) (h2 : Only P (sh.getNat "sh_offset")) :
    Only P (sectionInit env (elfStructs c) data sh) := by
  unfold sectionInit
  refine Only.bind h1 (fun x _ => ?_)
  simp only []
  refine Only.ite (fun _ => ?_) (fun _ => Only.pure _)
  refine Only.bind h2 (fun o _ => Only.bind ?_ (fun _ _ => Only.pure _))
  exact (structParseAt_only (chdr_tame c false) data o).mono (fun e he => tameErr_false he ▸ hPE)

end walks

theorem only_of_ex {α : Type} {P : Err → Prop} {x : R α} (h : ∃ a, x = .ok a) : Only P x := h.elim fun _ => Only.of_eq_ok

theorem getSectionHeader_only {env : Env} {c : ElfCfg} {data : Bytes} {hdr : Val} (h : HdrOK hdr) (n : Nat) :
    Only E2 (getSectionHeader env (elfStructs c) data hdr n) :=
  getSectionHeader_walk (Or.inl rfl) (Or.inr rfl) (only_of_ex h.shentsize) (only_of_ex h.shoff) n

theorem getSectionHeader_shape {env : Env} {c : ElfCfg} {data : Bytes} {hdr : Val} {n : Nat} {sh : Val}
    (h : getSectionHeader env (elfStructs c) data hdr n = .ok (some sh)) : ShdrOK sh := by
  obtain ⟨pos, p, -, -, hp⟩ := getSectionHeader_ok_some h
  exact shdr_shape (structParseAt_parsedBy hp)

theorem getShstrndx_only {env : Env} {c : ElfCfg} {data : Bytes} {hdr : Val} (h : HdrOK hdr) :
    Only E2 (getShstrndx env (elfStructs c) data hdr) :=
  getShstrndx_walk (Or.inl rfl) (Or.inr rfl) (only_of_ex h.shentsize) (only_of_ex h.shoff) (only_of_ex h.shstrndx)
    fun _ hs => only_of_ex (getSectionHeader_shape hs).link

theorem sectionInit_only {env : Env} {c : ElfCfg} {data : Bytes} {sh : Val} (h : ShdrOK sh) :
    Only E2 (sectionInit env (elfStructs c) data sh) :=
  sectionInit_walk (Or.inr rfl) (only_of_ex h.flags) (only_of_ex h.offset)

theorem openElf_only (env : Env) (data : Bytes) :
    Only E2 (openElf env structsFor machineClassOfVal data) := by
  unfold openElf
  refine Only.bind (identify_only data) ?_
  rintro ⟨cls, le⟩ -
  simp only [structsFor]
  refine Only.bind ((structParseAt_only (ehdr_tame _) data 0).mono
    (fun e he => Or.inr (tameErr_false he))) ?_
  rintro ⟨hdr, p0⟩ hparse
  have hok : HdrOK hdr := ehdr_shape (structParseAt_parsedBy hparse)
  obtain ⟨cfg, hcfg⟩ := cfgOfHeader_ok hok machineClassOfVal cls le
  simp only [hcfg]
  refine Only.bind (Only.ok _) ?_
  rintro cfg' -
  refine Only.bind (getShstrndx_only hok) (fun ndx _ => ?_)
  refine Only.ite (fun _ => Only.pure _) (fun _ => ?_)
  refine Only.bind (getSectionHeader_only hok ndx) (fun osh hosh => ?_)
  cases osh with
  | none => exact Only.pure _
  | some st =>
    exact Only.bind (sectionInit_only (getSectionHeader_shape hosh)) (fun _ _ => Only.pure _)

theorem nf_subscript (v : Option Val) (k : String) : NF (subscript v k) := by
  unfold subscript; split
  · exact Only.error (by decide)
  · exact nf_getField _ _
theorem nf_sizeofR (c : Con) : NF (sizeofR c) := by
  unfold sizeofR; split
  · exact Only.ok _
  · exact Only.error (by decide)

theorem nf_parseCStringAt (data : Bytes) (pos : Nat) : NF (parseCStringAt data pos) := by
  unfold parseCStringAt
  refine Only.bind ?_ (fun _ _ => ?_)
  · unfold seekCheck; split
    · exact Only.error (by decide)
    · exact Only.ok _
  · unfold parseCStringFromStream
    rw [cstringChunkLoop_eq data 64 (by decide) _ _ _ (by omega)]
    exact Only.ok _

theorem nf_getString (data : Bytes) (st : Val) (off : Nat) : NF (getString data st off) := by
  unfold getString
  refine Only.bind (nf_getNat _ _) (fun _ _ => Only.bind (nf_parseCStringAt _ _) (fun r _ => ?_))
  cases r <;> exact Only.pure _

theorem nf_getSectionHeader (env : Env) (c : ElfCfg) (data : Bytes) (hdr : Val) (n : Nat) :
    NF (getSectionHeader env (elfStructs c) data hdr n) :=
  getSectionHeader_walk (by decide) (by decide) (nf_getNat _ _) (nf_getNat _ _) n

theorem nf_getShstrndx (env : Env) (c : ElfCfg) (data : Bytes) (hdr : Val) :
    NF (getShstrndx env (elfStructs c) data hdr) :=
  getShstrndx_walk (by decide) (by decide) (nf_getNat _ _) (nf_getNat _ _) (nf_getNat _ _) fun _ _ => nf_getNat _ _

/-- `getSectionName` consults `get_shstrndx()` when there is no table object, hence the file's header and
    structures among its arguments -/
theorem nf_getSectionName (env : Env) (c : ElfCfg) (data : Bytes) (hdr : Val) (shstr sh : Option Val) :
    NF (getSectionName env (elfStructs c) data hdr shstr sh) := by
  unfold getSectionName
  cases shstr with
  | none =>
    refine Only.bind (nf_getShstrndx _ _ _ _) (fun ndx _ => ?_)
    exact Only.ite (fun _ => Only.pure _) (fun _ => Only.throw (by decide))
  | some st =>
    exact Only.bind (nf_subscript _ _) (fun _ _ => Only.bind (nf_asNat _) (fun _ _ => nf_getString _ _ _))

theorem nf_sectionInit (env : Env) (c : ElfCfg) (data : Bytes) (sh : Val) :
    NF (sectionInit env (elfStructs c) data sh) :=
  sectionInit_walk (by decide) (nf_getNat _ _) (nf_getNat _ _)

/-- how deep the link recursion of `_make_section` can go from a header of type `ty` (the cascade mirrors
    `makeSection`): a type whose constructor builds the section `sh_link` names has a rank above that of every type
    it accepts there, which is what `makeSection_nf` reads off `rankTy` branch by branch -/
def rankTy (ty : Val) : Nat :=
  if isStr ty "SHT_STRTAB" then 1
  else if isStr ty "SHT_NULL" then 1
  else if isStr ty "SHT_SYMTAB" || isStr ty "SHT_DYNSYM" || isStr ty "SHT_SUNW_LDYNSYM" then 2
  else if isStr ty "SHT_SYMTAB_SHNDX" then 1
  else if isStr ty "SHT_SUNW_syminfo" then 3
  else if isStr ty "SHT_GNU_verneed" then 2
  else if isStr ty "SHT_GNU_verdef" then 2
  else if isStr ty "SHT_GNU_versym" then 3
  else if isStr ty "SHT_REL" || isStr ty "SHT_RELA" then 1
  else if isStr ty "SHT_DYNAMIC" then 2
  else if isStr ty "SHT_NOTE" then 1
  else if isStr ty "SHT_ARM_ATTRIBUTES" || isStr ty "SHT_RISCV_ATTRIBUTES" then 1
  else if isStr ty "SHT_HASH" then 3
  else if isStr ty "SHT_GNU_HASH" then 3
  else 1

def rank (osh : Option Val) : Nat :=
  match subscript osh "sh_type" with
  | .ok t => rankTy t
  | .error _ => 1

theorem ite_prop {α : Type} {P : α → Prop} {c : Prop} [Decidable c] {a b : α} (ha : P a) (hb : P b) :
    P (if c then a else b) := by split <;> assumption
def RB (n : Nat) : Prop := 1 ≤ n ∧ n ≤ 3
theorem rankTy_bounds (ty : Val) : RB (rankTy ty) := by
  unfold rankTy
  repeat' (first | exact ⟨by omega, by omega⟩ | refine ite_prop (P := RB) ?_ ?_)
theorem rank_bounds (osh : Option Val) : RB (rank osh) := by
  unfold rank; split
  · exact rankTy_bounds _
  · exact ⟨by omega, by omega⟩

theorem isStr_eq {t : Val} {s : String} (h : isStr t s = true) : t = .str s := by
  cases t <;> simp [isStr] at h
  rw [h]

theorem rank_of_type {osh : Option Val} {t : Val} (h : subscript osh "sh_type" = .ok t) :
    rank osh = rankTy t := by simp [rank, h]

theorem rankTy_strtab {t : Val} (h : isStr t "SHT_STRTAB" = true) : rankTy t = 1 := by
  rw [isStr_eq h]; simp [rankTy, isStr]
theorem rankTy_symtab {t : Val} (h : (isStr t "SHT_SYMTAB" || isStr t "SHT_DYNSYM") = true) : rankTy t = 2 := by
  rcases Bool.or_eq_true _ _ ▸ h with h | h <;> rw [isStr_eq h] <;> simp [rankTy, isStr]

theorem rankTy_strtab_nobits {t : Val} (h : (isStr t "SHT_STRTAB" || isStr t "SHT_NOBITS") = true) :
    rankTy t = 1 := by
  rcases Bool.or_eq_true _ _ ▸ h with h | h <;> rw [isStr_eq h] <;> simp [rankTy, isStr]

theorem not_bnot {b : Bool} (h : ¬(!b) = true) : b = true := by simpa using h

/-- the constructors that first build the section `sh_link` names: it must have a type `pred` accepts, and the
    types `pred` accepts have rank at most `k` -/
theorem nf_linked {env : Env} {S : ElfStructs} {data : Bytes} {hdr : Val} {shstr : Option Val} {fuel k : Nat}
    (pred : Val → Bool) (hpred : ∀ t, pred t = true → rankTy t ≤ k) (hk : k ≤ fuel)
    (hH : ∀ n, NF (getSectionHeader env S data hdr n))
    (ih : ∀ osh, rank osh ≤ fuel → NF (makeSection env S data hdr shstr fuel osh)) (link : Nat) :
    NF (do
      let h ← getSectionHeader env S data hdr link
      let t ← subscript h "sh_type"
      if !pred t then throw .elfError
      let _ ← makeSection env S data hdr shstr fuel h
      return () : R Unit) :=
  Only.bind (hH link) fun h _ => Only.bind (nf_subscript _ _) fun t ht =>
    Only.guard (by decide) fun hp =>
      Only.bind (ih h (by rw [rank_of_type ht]; exact Nat.le_trans (hpred t (not_bnot hp)) hk)) fun _ _ => Only.pure _

theorem makeSection_nf (env : Env) (c : ElfCfg) (data : Bytes) (hdr : Val) (shstr : Option Val) :
    ∀ (fuel : Nat) (osh : Option Val), rank osh ≤ fuel →
      NF (makeSection env (elfStructs c) data hdr shstr fuel osh) := by
  intro fuel
  induction fuel with
  | zero => intro osh h; have := (rank_bounds osh).1; omega
  | succ fuel ih =>
    intro osh hrank
    rw [makeSection]
    refine Only.bind (nf_getSectionName _ _ _ _ _ _) (fun name _ => ?_)
    cases osh with
    | none => exact Only.throw (by decide)
    | some sh =>
      simp only []
      refine Only.bind (nf_getField _ _) (fun ty hty => ?_)
      refine Only.bind (nf_getNat _ _) (fun link _ => ?_)
      have hr : rankTy ty ≤ fuel + 1 := by
        rw [← rank_of_type (osh := some sh) (by simpa [subscript] using hty)]; exact hrank
      clear hrank
      refine Only.bind ?_ (fun _ _ => Only.pure _)
      have hH := fun n => nf_getSectionHeader env c data hdr n
      have hinit : NF (sectionInit env (elfStructs c) data sh) := nf_sectionInit _ _ _ _
      have hplain : ∀ s : String, NF (sectionInit env (elfStructs c) data sh >>= fun _ => (pure s : R String)) :=
        fun s => Only.bind hinit (fun _ _ => Only.pure _)
      -- a link to a string table needs one more level of the recursion, a link to a symbol table two
      have hstr := fun (hf : 1 ≤ fuel) =>
        nf_linked (fun t => isStr t "SHT_STRTAB") (fun _ h => Nat.le_of_eq (rankTy_strtab h)) hf hH ih link
      have hsym := fun (hf : 2 ≤ fuel) =>
        nf_linked (fun t => isStr t "SHT_SYMTAB" || isStr t "SHT_DYNSYM") (fun _ h => Nat.le_of_eq (rankTy_symtab h))
          hf hH ih link
      -- `n_k` is the k-th test of `makeSection`'s cascade, refuted; `simp [rankTy, n1, …, h_k]` walks `rankTy`'s own
      -- cascade down to the arm of the type at hand (`n12` is not fed: the `.stab` test has no arm in `rankTy`).
      refine Only.ite (fun _ => hplain _) fun n1 => ?_
      refine Only.ite (fun _ => hplain _) fun n2 => ?_
      refine Only.ite (fun h3 => ?_) fun n3 => ?_
      · have hf : 1 ≤ fuel := by simp [rankTy, n1, n2, h3] at hr; omega
        exact Only.bind (hstr hf) fun _ _ => Only.bind hinit fun _ _ => Only.bind (nf_getNat _ _) fun _ _ =>
          Only.guard (by decide) fun _ => Only.bind (nf_getNat _ _) fun _ _ =>
            Only.guard (by decide) fun _ => Only.pure _
      refine Only.ite (fun _ => hplain _) fun n4 => ?_
      refine Only.ite (fun h5 => ?_) fun n5 => ?_
      · have hf : 2 ≤ fuel := by simp [rankTy, n1, n2, n3, n4, h5] at hr; omega
        exact Only.bind (hsym hf) fun _ _ => hplain _
      refine Only.ite (fun h6 => ?_) fun n6 => ?_
      · have hf : 1 ≤ fuel := by simp [rankTy, n1, n2, n3, n4, n5, h6] at hr; omega
        exact Only.bind (hstr hf) fun _ _ => hplain _
      refine Only.ite (fun h7 => ?_) fun n7 => ?_
      · have hf : 1 ≤ fuel := by simp [rankTy, n1, n2, n3, n4, n5, n6, h7] at hr; omega
        exact Only.bind (hstr hf) fun _ _ => hplain _
      refine Only.ite (fun h8 => ?_) fun n8 => ?_
      · have hf : 2 ≤ fuel := by simp [rankTy, n1, n2, n3, n4, n5, n6, n7, h8] at hr; omega
        exact Only.bind (hsym hf) fun _ _ => hplain _
      refine Only.ite (fun _ => ?_) fun n9 => ?_
      · exact Only.bind hinit fun _ _ => Only.bind (nf_sizeofR _) fun _ _ => Only.bind (nf_getNat _ _) fun _ _ =>
          Only.guard (by decide) fun _ => Only.pure _
      refine Only.ite (fun h10 => ?_) fun n10 => ?_
      · have hf : 1 ≤ fuel := by simp [rankTy, n1, n2, n3, n4, n5, n6, n7, n8, n9, h10] at hr; omega
        refine Only.bind hinit fun _ _ => Only.bind (hH link) fun h _ => ?_
        cases h with
        | none => exact Only.throw (by decide)
        | some hh =>
          exact Only.bind (nf_getField _ _) fun t ht => Only.guard (by decide) fun hp =>
            Only.bind (ih (some hh) (by
              rw [rank_of_type (osh := some hh) (by simpa [subscript] using ht),
                rankTy_strtab_nobits (not_bnot hp)]
              exact hf)) fun _ _ => Only.bind (nf_sizeofR _) fun _ _ => Only.pure _
      refine Only.ite (fun _ => hplain _) fun n11 => ?_
      refine Only.ite (fun _ => hplain _) fun n12 => ?_
      refine Only.ite (fun _ => ?_) fun n13 => ?_
      · exact Only.bind hinit fun _ _ => Only.bind (nf_getNat _ _) fun _ _ =>
          Only.bind (ElfLoops.nf_structParseAt (c := (elfStructs c).Elf_byte) (by rfl) _ _) fun _ _ => Only.bind (nf_asInt _) fun _ _ =>
            Only.guard (by decide) fun _ => Only.pure _
      refine Only.ite (fun h14 => ?_) fun n14 => ?_
      · have hf : 2 ≤ fuel := by
          simp [rankTy, n1, n2, n3, n4, n5, n6, n7, n8, n9, n10, n11, n13, h14] at hr; omega
        exact Only.bind (hsym hf) fun _ _ => Only.bind hinit fun _ _ => Only.bind (nf_getNat _ _) fun _ _ =>
          Only.bind (ElfLoops.nf_structParseAt (c := (elfStructs c).Elf_Hash) (by rfl) _ _) fun _ _ => Only.pure _
      refine Only.ite (fun h15 => ?_) fun n15 => ?_
      · have hf : 2 ≤ fuel := by
          simp [rankTy, n1, n2, n3, n4, n5, n6, n7, n8, n9, n10, n11, n13, n14, h15] at hr; omega
        exact Only.bind (hsym hf) fun _ _ => Only.bind hinit fun _ _ => Only.bind (nf_getNat _ _) fun _ _ =>
          Only.bind (ElfLoops.nf_structParseAt (c := (elfStructs c).Gnu_Hash) (by rfl) _ _) fun _ _ => Only.bind (nf_sizeofR _) fun _ _ =>
            Only.bind (nf_sizeofR _) fun _ _ => Only.pure _
      refine Only.ite (fun _ => ?_) fun _ => hplain _
      exact Only.bind hinit fun _ _ => Only.bind (nf_sizeofR _) fun _ _ => Only.bind (nf_getNat _ _) fun _ _ =>
        Only.guard (by decide) fun _ => Only.pure _

theorem nf_getSection (env : Env) (c : ElfCfg) (data : Bytes) (hdr : Val) (shstr : Option Val) (i : Nat) :
    NF (getSection env (elfStructs c) data hdr shstr i) := by
  unfold getSection
  refine Only.bind (nf_getSectionHeader _ _ _ _ _) (fun oh _ => ?_)
  refine Only.bind (makeSection_nf env c data hdr shstr 4 oh (by have := (rank_bounds oh).2; omega)) ?_
  rintro ⟨kind, name⟩ -
  cases oh with
  | none => exact Only.throw (by decide)
  | some sh => exact Only.pure _

end PyElf.Proofs.ElfErrors
