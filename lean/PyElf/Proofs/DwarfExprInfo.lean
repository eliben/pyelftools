/-
  C12 × C04: the expression walk (Model/DwarfExprInfo) on units whose entries are the described
  ones; the parser cache invariant (`PCacheOK`).  Namespace `PyElf.Proofs.C12`, shared with Proofs/BytesOf.lean.
-/
import PyElf.Spec.DwarfExprInfo
import PyElf.Model.DwarfExprInfo
import PyElf.Proofs.Except
import PyElf.Proofs.Upsert
import PyElf.Proofs.Follows
namespace PyElf.Proofs.C12
open PyElf PyElf.Spec PyElf.Spec.C12 PyElf.Model PyElf.Model.C12
open PyElf.Spec.C04 (AttrObs DieObs)

theorem exprByte_follows (v : Val) : Follows id (byteOf v) (exprByte v) := by
  cases v with
  | int n => exact .ite (fun _ => .of_eq rfl) fun _ => .none
  | _ => exact .none

theorem exprBytes_of_bytesOf (v : Val) (b : Bytes) (h : bytesOf v = some b) : exprBytes v = .ok b := by
  cases v with
  | list vs => exact (Follows.mapM_id vs fun x _ => exprByte_follows x).ok h
  | _ => cases h

def PCacheOK (T : List (DwarfCfg × Disp)) (pc : PCache) : Prop :=
  ∀ c D, tableGet pc c = some D → tableGet T c = some D

theorem pcacheOK_nil (T : List (DwarfCfg × Disp)) : PCacheOK T [] := by
  intro c D h; simp [tableGet] at h

theorem getParser_ok (T : List (DwarfCfg × Disp)) (pc : PCache) (hpc : PCacheOK T pc) (c : DwarfCfg) (D : Disp)
    (hT : tableGet T c = some D) :
    ∃ pc', getParser T pc c = .ok (D, pc') ∧ PCacheOK T pc' := by
  unfold getParser
  cases h : tableGet pc c with
  | some D' => exact ⟨pc, by rw [Option.some.inj ((hpc c D' h).symm.trans hT)], hpc⟩
  | none =>
    -- the cache misses `c`, so appending is `upsert`, which keeps what holds of every answer
    simp only [hT]
    refine ⟨_, rfl, ?_⟩
    have hfresh : c ∉ pc.map (·.1) := fun hm => by
      obtain ⟨p, hp, e⟩ := List.mem_map.1 hm
      simpa [e] using List.find?_eq_none.1 (Option.map_eq_none_iff.1 h) p hp
    rw [← upsert_fresh pc c D hfresh]
    exact @forall_upsert _ _ _ instBEqOfDecidableEq _ (fun c D => tableGet T c = some D) _ _ _ hpc hT

/-- `dieExprs` on `d.attrs`.  A selected attribute holds, by `attrOK`, the encoding of the well-formed sequence `E` names; the
    round trip is a hypothesis (`hrt`) because this file does not import the parser's proofs. -/
theorem attrsExprs_ok (sel : Val → Val → Nat → Bool) (c : DwarfCfg) (E : DwarfCfg → Bytes → List Op) (D : Disp)
    (N : List (Nat × String))
    (hrt : ∀ ops, WFops c ops = true → parseExpr D N (encodeOps c ops) = .ok (annotate c 0 ops))
    (as : List AttrObs) (hok : as.all (attrOK sel c E) = true) :
    ((as.filter fun a => sel a.name a.form c.ver).mapM fun a => do
        let b ← exprBytes a.value
        let ops ← parseExpr D N b
        pure (a.offset, ops))
      = .ok (as.filterMap (expectAttr sel c E)) := by
  induction as with
  | nil => rfl
  | cons a as ih =>
    rw [List.all_cons, Bool.and_eq_true] at hok
    have iht := ih hok.2
    rw [List.filter_cons, List.filterMap_cons]
    by_cases hs : sel a.name a.form c.ver = true
    · have ha := hok.1
      simp only [attrOK, hs, Bool.not_true, Bool.false_or] at ha
      cases hb : bytesOf a.value with
      | none => rw [hb] at ha; cases ha
      | some b =>
        rw [hb] at ha
        simp only [Bool.and_eq_true, beq_iff_eq] at ha
        have hpar := hrt _ ha.1
        rw [ha.2] at hpar
        rw [if_pos hs, List.mapM_cons, iht]
        simp only [hs, if_true, expectAttr, hb, Option.getD_some, exprBytes_of_bytesOf _ _ hb, bind,
          Except.bind, hpar, pure, Except.pure]
    · have hs' : sel a.name a.form c.ver = false := by simpa using hs
      simp only [hs', Bool.false_eq_true, if_false, expectAttr]
      exact iht

/-- units presented as `ps.map (cuF, ok ∘ flatP)`: the shape C04's end-to-end theorems give -/
theorem unitsExprs_ok {α : Type} (w : Model.C04.DInfo) (T : List (DwarfCfg × Disp)) (N : List (Nat × String))
    (sel : Val → Val → Nat → Bool) (E : DwarfCfg → Bytes → List Op) (tbl : DwarfCfg → Disp)
    (cuF : α → Model.Lookup.CU) (flatP : α → List (DieObs × Option Nat)) (cfgF : α → DwarfCfg) (ps : List α)
    (hcfg : ∀ p ∈ ps, unitCfg w (cuF p) = .ok (cfgF p))
    (hT : ∀ p ∈ ps, tableGet T (cfgF p) = some (tbl (cfgF p)))
    (hrt : ∀ p ∈ ps, ∀ ops, WFops (cfgF p) ops = true →
      parseExpr (tbl (cfgF p)) N (encodeOps (cfgF p) ops) = .ok (annotate (cfgF p) 0 ops))
    (hok : ∀ p ∈ ps, ∀ d ∈ flatP p, dieOK sel (cfgF p) E d.1 = true) :
    ∀ pc, PCacheOK T pc →
      ∃ pc', unitsExprs w T N sel pc (ps.map fun p => (cuF p, .ok (flatP p)))
          = .ok (ps.map (fun p => (flatP p).map fun d => expectDie sel (cfgF p) E d.1), pc')
        ∧ PCacheOK T pc' := by
  induction ps with
  | nil => intro pc hpc; exact ⟨pc, rfl, hpc⟩
  | cons p ps ih =>
    intro pc hpc
    obtain ⟨pc1, hg, hpc1⟩ := getParser_ok T pc hpc (cfgF p) _ (hT p (by simp))
    obtain ⟨pc2, hrest, hpc2⟩ := ih (fun q hq => hcfg q (by simp [hq])) (fun q hq => hT q (by simp [hq]))
      (fun q hq => hrt q (by simp [hq])) (fun q hq => hok q (by simp [hq])) pc1 hpc1
    refine ⟨pc2, ?_, hpc2⟩
    have hd : (flatP p).mapM (fun d => dieExprs sel (tbl (cfgF p)) N (cfgF p).ver d.1)
        = .ok ((flatP p).map fun d => expectDie sel (cfgF p) E d.1) :=
      Engine.mapM_ok_of_forall _ _ _ (fun d hd => attrsExprs_ok sel (cfgF p) E _ N (hrt p (by simp)) d.1.attrs (hok p (by simp) d hd))
    rw [List.map_cons, unitsExprs]
    simp only [bind, Except.bind, hcfg p (by simp), hg, hd, hrest, pure, Except.pure, List.map_cons]

end PyElf.Proofs.C12
