/-
  C02: the C macro `ELF_SECTION_IN_SEGMENT_STRICT` in unsigned 64-bit arithmetic against its ideal-arithmetic reading
  (`macroFull64_eq`), and against the rule the code computes (`inSegmentStrict`: the four condition groups, without the
  `.tbss` size rule and without the empty-section-at-the-edge clause for PT_DYNAMIC / PT_NOTE; `clausesInert_iff`).
  `macro64` (Spec/Contents.lean) is the macro text with the size rule and half of the edge clause; on `plainCase` it is
  the whole macro (`macroFull64_eq_macro64`), whence `macro64_eq`.
-/
import PyElf.Proofs.Contents
import PyElf.Spec.ContentsMacro
namespace PyElf.Proofs.C02
open PyElf PyElf.Spec PyElf.Model PyElf.Proofs
open PyElf.Spec.C02
open PyElf.Model.C02

theorem sub64_of_le {a b : Nat} (hb : b ≤ a) (ha : a < W) : sub64 a b = a - b := by
  simp only [sub64, W] at *; omega

theorem sub64_zero_one : sub64 0 1 = W - 1 := by decide

theorem add64_of_lt {a b : Nat} (h : a + b < W) : add64 a b = a + b := by
  simp only [add64, W] at *; omega

theorem clause64_eq (x size base len : Nat) (hx : x < W) (hb : base < W) (hl : len < W)
    (hno : base ≤ x → x - base + size < W) :
    (decide (base ≤ x) && decide (sub64 x base ≤ sub64 len 1) && decide (add64 (sub64 x base) size ≤ len))
      = within x size base len := by
  by_cases h : base ≤ x
  · rw [sub64_of_le h hx, add64_of_lt (hno h)]
    by_cases hl0 : len = 0
    · subst hl0
      rw [sub64_zero_one]
      apply Bool.eq_iff_iff.2
      simp only [within, W, Bool.or_eq_true, Bool.and_eq_true, beq_iff_eq, decide_eq_true_eq] at *
      omega
    · rw [sub64_of_le (by omega) hl]
      apply Bool.eq_iff_iff.2
      simp only [within, Bool.or_eq_true, Bool.and_eq_true, beq_iff_eq, decide_eq_true_eq]
      omega
  · simp [within, h]

theorem sizedFor_of_not_special {g : Seg} {s : Sec} (h : tbssSpecial g s = false) : sizedFor g s = s := by
  cases s
  simp [sizedFor, sectionSize, h]

theorem sectionSize_le (g : Seg) (s : Sec) : sectionSize g s ≤ s.size := by
  unfold sectionSize; split <;> omega

theorem typeOk_sized (g : Seg) (s : Sec) : typeOk g (sizedFor g s) = typeOk g s := rfl
theorem allocOk_sized (g : Seg) (s : Sec) : allocOk g (sizedFor g s) = allocOk g s := rfl

theorem strict_lt64 (x base len : Nat) (hx : x < W) :
    (decide (base < x) && decide (sub64 x base < len)) = (decide (base < x) && decide (x - base < len)) := by
  by_cases h : base < x
  · rw [sub64_of_le (by omega) hx]
  · simp [h]

theorem macroFull64_eq (g : Seg) (s : Sec) (hfit : fits64 g s = true)
    (hf : g.offset ≤ s.offset → s.offset - g.offset + s.size < W)
    (hv : g.vaddr ≤ s.addr → s.addr - g.vaddr + s.size < W) :
    macroFull64 g s = inSegmentFull g s := by
  simp only [fits64, Bool.and_eq_true, decide_eq_true_eq] at hfit
  obtain ⟨⟨⟨⟨⟨⟨gOff, gVaddr⟩, gFilesz⟩, gMemsz⟩, sOff⟩, sAddr⟩, -⟩ := hfit
  have hle := sectionSize_le g s
  have c1 := clause64_eq s.offset (sectionSize g s) g.offset g.filesz sOff gOff gFilesz (fun h => by have := hf h; omega)
  have c2 := clause64_eq s.addr (sectionSize g s) g.vaddr g.memsz sAddr gVaddr gMemsz (fun h => by have := hv h; omega)
  have c3 := strict_lt64 s.offset g.offset g.filesz sOff
  have c4 := strict_lt64 s.addr g.vaddr g.memsz sAddr
  unfold macroFull64 inSegmentFull inSegmentStrict fileOk vmaOk emptyEdgeOk
  rw [c1, c2, c3, c4]
  rfl

theorem macroFull64_eq_macro64 (g : Seg) (s : Sec) (hplain : plainCase g s = true) :
    macroFull64 g s = macro64 g s := by
  simp only [plainCase, Bool.and_eq_true, Bool.not_eq_true', Bool.or_eq_true] at hplain
  obtain ⟨-, hdn⟩ := hplain
  have c3 : ((g.ptype != PT_DYNAMIC && g.ptype != PT_NOTE) || s.size != 0 || g.memsz == 0 ||
      (!s.alloc || (decide (g.vaddr < s.addr) && decide (sub64 s.addr g.vaddr < g.memsz)))) = true := by
    rcases hdn with h | h <;> simp [h]
  have c4 : ((g.ptype != PT_DYNAMIC && g.ptype != PT_NOTE) || s.size != 0 || g.memsz == 0 ||
      ((s.nobits || (decide (g.offset < s.offset) && decide (sub64 s.offset g.offset < g.filesz))) &&
       (!s.alloc || (decide (g.vaddr < s.addr) && decide (sub64 s.addr g.vaddr < g.memsz))))) = true := by
    rcases hdn with h | h <;> simp [h]
  unfold macroFull64 macro64
  rw [c3, c4]

theorem clausesInert_iff (g : Seg) (s : Sec) :
    inSegmentStrict g s = inSegmentFull g s ↔ clausesInert g s = true := by
  unfold clausesInert
  by_cases ht : tbssSpecial g s = true
  · have hnb : s.nobits = true := by
      simp only [tbssSpecial, Bool.and_eq_true] at ht; exact ht.1.2
    have hnb' : (sizedFor g s).nobits = true := hnb
    simp only [ht, if_true, inSegmentFull, inSegmentStrict, fileOk, hnb, hnb', typeOk_sized, allocOk_sized,
      Bool.true_or, Bool.and_true]
    generalize typeOk g s = a
    generalize allocOk g s = b
    generalize vmaOk g s = c
    generalize vmaOk g (sizedFor g s) = c'
    generalize emptyEdgeOk g s = e
    cases a <;> cases b <;> cases c <;> cases c' <;> cases e <;> simp
  · have ht' : tbssSpecial g s = false := by simpa using ht
    simp only [ht', Bool.false_eq_true, if_false, inSegmentFull, sizedFor_of_not_special ht']
    generalize inSegmentStrict g s = a
    generalize emptyEdgeOk g s = e
    cases a <;> cases e <;> simp

theorem plainCase_inert {g : Seg} {s : Sec} (h : plainCase g s = true) : clausesInert g s = true := by
  simp only [plainCase, Bool.and_eq_true, Bool.not_eq_true', Bool.or_eq_true] at h
  obtain ⟨ht, hdn⟩ := h
  have he : emptyEdgeOk g s = true := by
    unfold emptyEdgeOk
    rcases hdn with h | h <;> simp [h]
  simp [clausesInert, ht, he]

/-- where nothing wraps and on `plainCase`, the macro text of Spec/Contents.lean is the rule the code computes: it is
    the whole macro there, which is `inSegmentFull`, and the two clauses the code lacks are inert -/
theorem macro64_eq (g : Seg) (s : Sec) (hfit : fits64 g s = true) (hplain : plainCase g s = true)
    (hf : g.offset ≤ s.offset → s.offset - g.offset + s.size < W)
    (hv : g.vaddr ≤ s.addr → s.addr - g.vaddr + s.size < W) :
    macro64 g s = inSegmentStrict g s := by
  rw [← macroFull64_eq_macro64 g s hplain, macroFull64_eq g s hfit hf hv,
    ← (clausesInert_iff g s).2 (plainCase_inert hplain)]

end PyElf.Proofs.C02
