/-
  `parseNat` of Model/DwarfLookup (a struct parse whose value must be an integer) wherever the struct reads a natural number
  (`parseNat_reads`): an unsigned field, the first four bytes of an initial length, from which `_parse_CU_at_offset` takes
  the DWARF format, and (in namespace `Proofs.C04`, whose `ulebFits` it is stated with) a ULEB128 number.
-/
import PyElf.Spec.DwarfLookup
import PyElf.Spec.DieTree
import PyElf.Model.DwarfLookup
import PyElf.Proofs.Reads
namespace PyElf.Proofs.Lookup
open PyElf PyElf.Spec.Lookup PyElf.Model.Lookup PyElf.Proofs

theorem parseNat_reads {env : Env} {c : Con} {data inp rest : Bytes} {pos p v : Nat} {ctx' : Fields}
    (h : Engine.Reads (Engine.pr env c) [] pos inp (.int v) p rest ctx') (hd : data.drop pos = inp) :
    parseNat env c data pos = .ok (v, p) := by
  unfold parseNat
  rw [h.structParse hd]
  simp [bind, Except.bind, pure, Except.pure, Engine.asNat_nat]

theorem parseNat_uint {env : Env} {data : Bytes} {pos n v : Nat} {le : Bool} {rest : Bytes}
    (hd : data.drop pos = encNat le n v ++ rest) (hv : v < 256 ^ n) :
    parseNat env (.uint n le) data pos = .ok (v, pos + n) :=
  parseNat_reads (Engine.Reads.uint hv) hd

theorem sniff_fmt {env : Env} {data : Bytes} {off : Nat} {le : Bool} (fmt64 : Bool) {n : Nat} {rest : Bytes}
    (hd : data.drop off = encInitialLength le fmt64 n ++ rest) (hn : if fmt64 then n < 256 ^ 8 else n < 0xFFFFFF00) :
    ∃ il, parseNat env (.uint 4 le) data off = .ok (il, off + 4)
      ∧ (if il = 0xFFFFFFFF then 64 else 32) = (if fmt64 then 64 else 32) := by
  cases fmt64 with
  | false =>
    have hn' : n < 0xFFFFFF00 := hn
    exact ⟨n, parseNat_uint (show data.drop off = encNat le 4 n ++ rest from hd) (by omega),
      by rw [if_neg (by omega)]; rfl⟩
  | true =>
    have hd' : data.drop off = encNat le 4 0xFFFFFFFF ++ (encNat le 8 n ++ rest) := by
      rw [hd, encInitialLength, if_pos rfl, List.append_assoc]
    exact ⟨0xFFFFFFFF, parseNat_uint hd' (by decide), rfl⟩

end PyElf.Proofs.Lookup

namespace PyElf.Proofs.C04
open PyElf PyElf.Spec PyElf.Spec.C04 PyElf.Model PyElf.Proofs

theorem ulebFits_iff {l v : Nat} : ulebFits l v = true ↔ 1 ≤ l ∧ v < 2 ^ (7 * l) := by
  simp [ulebFits]

theorem parseNat_ulebN {env : Env} {data : Bytes} {pos l v : Nat} {rest : Bytes}
    (hd : data.drop pos = encUlebN l v ++ rest) (hl : ulebFits l v = true) :
    Lookup.parseNat env .uleb data pos = .ok (v, pos + l) :=
  Lookup.parseNat_reads (Engine.Reads.uleb (ulebFits_iff.1 hl).1 (ulebFits_iff.1 hl).2) hd

end PyElf.Proofs.C04
