/-
  C02: that the hypotheses of the accessor theorems can be met.  The naming hypotheses hold of the decoder of an
  `Enum(..., _default_=Pass)` field (`decOfTable`) whenever a linear check of its table succeeds
  (`EnumTable.namesOnly`, `rangeFree`, `ptypeTableOk`).  `rawShdr`, `rawPhdr32`, `rawPhdr64` are the raw header records
  of which Props/C02 (`shdr_shape`, `phdr_shape32/64`) shows that what C01 reports for them is `IsShdr` / `IsPhdr`; the
  whole-file theorems get these from `isShdr_of` / `isPhdr_of` (Proofs/ContentsFile.lean).
-/
import PyElf.Proofs.EnumTable
import PyElf.Proofs.Contents
namespace PyElf.Proofs.C02
open PyElf PyElf.Spec PyElf.Model PyElf.Proofs PyElf.Proofs.Engine
open PyElf.Spec.C02
open PyElf.Model.C02

theorem decodeIn_none_of_absent {t : List (String × Int)} {v : Int} (h : ∀ e ∈ t, e.2 ≠ v) :
    Model.decodeIn t v = none := by
  rcases hk : Model.decodeIn t v with _ | k
  · rfl
  · exact absurd rfl (h _ (EnumTable.mem_of_decodeIn hk))

def rangeFree (t : List (String × Int)) (lo hi : Nat) : Bool :=
  t.all (fun e => !(decide ((lo : Int) ≤ e.2) && decide (e.2 ≤ (hi : Int))))

theorem decodeIn_none_of_rangeFree {t : List (String × Int)} {lo hi : Nat} (h : rangeFree t lo hi = true)
    (n : Nat) (h1 : lo ≤ n) (h2 : n ≤ hi) : Model.decodeIn t (n : Int) = none := by
  apply decodeIn_none_of_absent
  intro e he hv
  simp only [rangeFree, List.all_eq_true, Bool.not_eq_true', Bool.and_eq_false_iff, decide_eq_false_iff_not] at h
  rcases h e he with h3 | h3 <;> omega

/-- `Enum(..., _default_=Pass)` over table `t` -/
def decOfTable (t : List (String × Int)) (n : Nat) : Val :=
  match Model.decodeIn t (n : Int) with
  | some s => .str s
  | none => .int n

theorem decOfTable_nameOrInt (t : List (String × Int)) : NameOrInt (decOfTable t) := by
  intro n
  unfold decOfTable
  cases Model.decodeIn t (n : Int)
  · left; rfl
  · right; exact ⟨_, rfl⟩

theorem decOfTable_name_iff {t : List (String × Int)} {name : String} {code : Nat}
    (h : EnumTable.namesOnly t (name, (code : Int)) = true) (n : Nat) : decOfTable t n = .str name ↔ n = code := by
  rw [← Int.natCast_inj, ← EnumTable.decodeIn_eq_some_iff h n]
  unfold decOfTable
  cases Model.decodeIn t (n : Int) <;> simp

def ptypeTableOk (t : List (String × Int)) : Bool :=
  [("PT_LOAD", (PT_LOAD : Int)), ("PT_DYNAMIC", PT_DYNAMIC), ("PT_PHDR", PT_PHDR), ("PT_TLS", PT_TLS),
   ("PT_GNU_EH_FRAME", PT_GNU_EH_FRAME), ("PT_GNU_STACK", PT_GNU_STACK), ("PT_GNU_RELRO", PT_GNU_RELRO)].all
    (EnumTable.namesOnly t) && rangeFree t PT_GNU_SFRAME PT_GNU_MBIND_HI

theorem ptypeNaming_of_table {t : List (String × Int)} (h : ptypeTableOk t = true) : PTypeNaming (decOfTable t) := by
  simp only [ptypeTableOk, Bool.and_eq_true, List.all_cons, List.all_nil, Bool.and_true] at h
  obtain ⟨⟨load, dynamic, phdr, tls, ehFrame, stack, relro⟩, unnamed⟩ := h
  exact { load := decOfTable_name_iff load, dynamic := decOfTable_name_iff dynamic, phdr := decOfTable_name_iff phdr,
          tls := decOfTable_name_iff tls, ehFrame := decOfTable_name_iff ehFrame, stack := decOfTable_name_iff stack,
          relro := decOfTable_name_iff relro, nameOrInt := decOfTable_nameOrInt t,
          unnamed := fun n h1 h2 => by
            unfold decOfTable; rw [decodeIn_none_of_rangeFree unnamed n h1 h2] }

theorem nobitsNaming_of_table {t : List (String × Int)} (h : EnumTable.namesOnly t ("SHT_NOBITS", SHT_NOBITS) = true) :
    NobitsNaming (decOfTable t) := decOfTable_name_iff h

theorem zlibNaming_of_table {t : List (String × Int)}
    (h : EnumTable.namesOnly t ("ELFCOMPRESS_ZLIB", ELFCOMPRESS_ZLIB) = true) :
    ZlibNaming (decOfTable t) := ⟨decOfTable_name_iff h, decOfTable_nameOrInt t⟩

theorem nameOr_eq_decOfTable {dec : String → Int → Option String} {tid : String} {t : List (String × Int)}
    (h : ∀ v, dec tid v = Model.decodeIn t v) : nameOr dec tid = decOfTable t := by
  funext n
  simp only [nameOr, decOfTable, h]
  cases Model.decodeIn t (n : Int) <;> rfl

/-- `Spec.SecDesc.raw` -/
def rawShdr (nameOff : Nat) (s : Sec) (link info entsize : Nat) : Val :=
  .record [("sh_name", .int nameOff), ("sh_type", .int s.shType), ("sh_flags", .int s.flags), ("sh_addr", .int s.addr),
           ("sh_offset", .int s.offset), ("sh_size", .int s.size), ("sh_link", .int link), ("sh_info", .int info),
           ("sh_addralign", .int s.addralign), ("sh_entsize", .int entsize)]

/-- the raw program header record in class 32's field order: `.record (phdrRaw …)` (Proofs/ElfCodec.lean, which has what
    it decodes to) -/
def rawPhdr32 (g : Seg) (paddr flags align : Nat) : Val :=
  .record [("p_type", .int g.ptype), ("p_offset", .int g.offset), ("p_vaddr", .int g.vaddr), ("p_paddr", .int paddr),
           ("p_filesz", .int g.filesz), ("p_memsz", .int g.memsz), ("p_flags", .int flags), ("p_align", .int align)]

/-- in class 64's field order: `.record (phdrRaw64 …)` -/
def rawPhdr64 (g : Seg) (paddr flags align : Nat) : Val :=
  .record [("p_type", .int g.ptype), ("p_flags", .int flags), ("p_offset", .int g.offset), ("p_vaddr", .int g.vaddr),
           ("p_paddr", .int paddr), ("p_filesz", .int g.filesz), ("p_memsz", .int g.memsz), ("p_align", .int align)]

theorem nameOr_eq_enumVal (dec : String → Int → Option String) (t : String) (k : Nat) :
    nameOr dec t k = enumVal dec t (k : Int) := rfl

end PyElf.Proofs.C02
