/-
  dynamic.py on one object, whatever file it came from: a `Dyn` that looks at a stored table (`TableView`), a file object
  that hands out program headers (`SegsView`), a string table that serves strings (`Serves`).  Over these: the tag loops
  (a run of stored non-null entries, then what ends it), `get_table_offset`, `_get_stringtable`, `get_symbol`,
  `num_symbols`.  The hash-table structs are read through Proofs/HashHeader.lean.
-/
import PyElf.Proofs.Fixed
import PyElf.Proofs.HashHeader
import PyElf.Proofs.Utils
import PyElf.Spec.Dynamic
import PyElf.Model.Dynamic
namespace PyElf.Proofs.Dynamic
open PyElf PyElf.Spec PyElf.Spec.Dynamic PyElf.Model PyElf.Model.Dynamic PyElf.Proofs

theorem encAll_inv {c : Con} (hc : c.fixed = true) {sz : Nat} (hsz : c.sizeof = some sz) {xs : List Val} {bs : Bytes}
    (he : encAll c xs = some bs) :
    ∃ bss : List Bytes, bs = bss.flatMap id ∧ bss.length = xs.length ∧ (∀ b ∈ bss, (id b).length = sz) ∧
      ∀ i (h1 : i < xs.length) (h2 : i < bss.length), c.encodeRaw xs[i] = some bss[i] := by
  unfold encAll at he
  cases hm : xs.mapM c.encodeRaw with
  | none => simp [hm] at he
  | some bss =>
    simp only [hm, bind, Option.bind, pure, Option.some.injEq] at he
    obtain ⟨hl, hall⟩ := mapM_some_inv _ _ _ hm
    refine ⟨bss, by rw [← he, List.flatten_eq_flatMap], hl, fun b hb => ?_, hall⟩
    obtain ⟨i, hi, rfl⟩ := List.getElem_of_mem hb
    have := encodeRaw_length c hc _ _ (hall i (by omega) hi)
    rw [hsz] at this
    exact (Option.some.inj this).symm

theorem parse_entry (env : Env) (c : Con) (hc : c.fixed = true) (sz : Nat) (hsz : c.sizeof = some sz)
    (xs : List Val) (bs : Bytes) (he : encAll c xs = some bs)
    (data : Bytes) (off : Nat) (rest : Bytes) (hd : data.drop off = bs ++ rest) (i : Nat) (hi : i < xs.length) :
    Con.parse env data c [] (off + i * sz)
      = (c.decodeRaw env [] xs[i]).map (fun v => (v, off + i * sz + sz, [])) := by
  obtain ⟨bss, rfl, hl, hlen, hall⟩ := encAll_inv hc hsz he
  have hi' : i < bss.length := by omega
  have := rt_con env c hc _ _ (hall i hi hi') data _ _ [] (Engine.drop_entry hlen hi' hd)
  rwa [show (bss[i]).length = sz from hlen _ (List.getElem_mem hi')] at this

theorem encAll_length (c : Con) (hc : c.fixed = true) (sz : Nat) (hsz : c.sizeof = some sz)
    (xs : List Val) (bs : Bytes) (he : encAll c xs = some bs) : bs.length = xs.length * sz := by
  obtain ⟨bss, rfl, hl, hlen, -⟩ := encAll_inv hc hsz he
  rw [Engine.length_flatMap_const id sz bss hlen, hl]

theorem structParseAt_entry (env : Env) (c : Con) (hc : c.fixed = true) (sz : Nat) (hsz : c.sizeof = some sz)
    (xs : List Val) (bs : Bytes) (he : encAll c xs = some bs)
    (data : Bytes) (off : Nat) (rest : Bytes) (hd : data.drop off = bs ++ rest) (hsmall : data.length < 2 ^ 63)
    (hszpos : 0 < sz) (i : Nat) (hi : i < xs.length) :
    structParseAt env c data (off + i * sz)
      = (c.decodeRaw env [] xs[i]).map (fun v => (v, off + i * sz + sz)) := by
  have hbl := encAll_length c hc sz hsz xs bs he
  have hpos : off + i * sz < 2 ^ 63 := by
    have h1 : (i + 1) * sz ≤ xs.length * sz := Nat.mul_le_mul_right _ hi
    have h2 : (i + 1) * sz = i * sz + sz := by rw [Nat.add_mul]; omega
    have := congrArg List.length hd
    simp at this; omega
  rw [structParseAt_eq hpos]
  unfold structParse
  simp only [bind, Except.bind]
  rw [parse_entry env c hc sz hsz xs bs he data off rest hd i hi]
  cases c.decodeRaw env [] xs[i] <;> simp [Except.map, pure, Except.pure]

/-- the gABI `ElfN_Dyn`: signed native-word tag named through the tag table, native-word value -/
def dynCon (le : Bool) (w : Nat) (tbl : String) : Con :=
  st [f "d_tag" (enumOf (.sint w le) tbl), f "d_val" (.uint w le), f "d_ptr" (.value (ctx "d_val"))]

theorem spec_dyn (c : ElfCfg) :
    (elfStructs c).Elf_Dyn = dynCon c.le (c.cls / 8) (dTagTable c.mclass c.solaris) := rfl

/-- a tag code as the reader reports it: its name in the table, else the number -/
def decTag (env : Env) (tbl : String) (t : Int) : Val :=
  match env.enumDecode tbl t with
  | some s => .str s
  | none => .int t

def decEntry (env : Env) (tbl : String) (t : Int × Nat) : Val :=
  .record [("d_tag", decTag env tbl t.1), ("d_val", .int t.2), ("d_ptr", .int t.2)]

theorem decodeRaw_dyn (env : Env) (le : Bool) (w : Nat) (tbl : String) (t : Int × Nat) :
    (dynCon le w tbl).decodeRaw env [] (rawTag t) = .ok (decEntry env tbl t) := by
  simp only [dynCon, st, mkFields, f, enumOf, ctx, rawTag, Con.decodeRaw, ConFields.decodeRaw, Fields.get?,
    String.reduceEq, ↓reduceIte, Option.getD, bind, Except.bind]
  cases h : env.enumDecode tbl t.1 <;>
    simp [h, decEntry, decTag, Fields.set, Expr.eval, Fields.getR, Fields.get?, pure, Except.pure]

theorem dyn_fixed (le : Bool) (w : Nat) (tbl : String) (hw : 1 ≤ w) : (dynCon le w tbl).fixed = true := by
  simp [dynCon, st, mkFields, f, enumOf, Con.fixed, ConFields.fixed, hw]

theorem dyn_sizeof (le : Bool) (w : Nat) (tbl : String) : (dynCon le w tbl).sizeof = some (2 * w) := by
  simp [dynCon, st, mkFields, f, enumOf, Con.sizeof, ConFields.sizeof, bind, Option.bind]
  omega

/-- the object `d` reads a table holding `tags` (terminator and trailing entries included) -/
structure TableView (S : ElfStructs) (data : Bytes) (d : Dyn) (le : Bool) (w : Nat) (tbl : String)
    (tags : List (Int × Nat)) : Prop where
  con : S.Elf_Dyn = dynCon le w tbl
  wpos : 1 ≤ w
  nonempty : d.empty = false
  tagsize : d.tagsize = 2 * w
  placed : ∃ bs rest, encAll (dynCon le w tbl) (tags.map rawTag) = some bs ∧ data.drop d.offset = bs ++ rest
  small : data.length < 2 ^ 63

theorem drop_step {α} {l : List α} {n : Nat} {t : α} {rest : List α} (hdrop : l.drop n = t :: rest) :
    ∃ hn : n < l.length, l[n] = t ∧ l.drop (n + 1) = rest := by
  obtain ⟨h1, h2⟩ := drop_cons_inv hdrop
  obtain ⟨hn, ht⟩ := List.getElem?_eq_some_iff.1 h1
  exact ⟨hn, ht, h2⟩

theorem live_split : ∀ {l : List (Int × Nat)}, hasTerminator l = true →
    ∃ pre t post, l = pre ++ t :: post ∧ (∀ x ∈ pre, x.1 ≠ DT_NULL) ∧ t.1 = DT_NULL ∧ liveTags l = pre ++ [t] := by
  intro l
  induction l with
  | nil => intro h; simp [hasTerminator] at h
  | cons a l ih =>
    intro h
    by_cases h0 : a.1 = DT_NULL
    · exact ⟨[], a, l, rfl, by simp, h0, by simp [liveTags, h0]⟩
    · have hb : (a.1 == DT_NULL) = false := by simpa using h0
      obtain ⟨pre, t, post, rfl, hnn, ht, hl⟩ := ih (by simpa [hasTerminator, hb] using h)
      refine ⟨a :: pre, t, post, rfl, ?_, ht, by simp [liveTags, h0, hl]⟩
      intro x hx
      rcases List.mem_cons.1 hx with rfl | hx
      · exact h0
      · exact hnn x hx

theorem ne_null_of_noTerm {l : List (Int × Nat)} (h : hasTerminator l = false) : ∀ x ∈ l, x.1 ≠ DT_NULL := by
  intro x hx h0
  have : hasTerminator l = true := by
    simp only [hasTerminator, List.any_eq_true]
    exact ⟨x, hx, by simpa using h0⟩
  rw [h] at this; cases this

section view
variable {env : Env} {S : ElfStructs} {data : Bytes} {d : Dyn} {le : Bool} {w : Nat} {tbl : String}
  {tags : List (Int × Nat)}

theorem getTagRaw_view (V : TableView S data d le w tbl tags) (i : Nat) (hi : i < tags.length) :
    getTagRaw env S data d i = .ok (decEntry env tbl tags[i]) := by
  obtain ⟨bs, rest, he, hd⟩ := V.placed
  unfold getTagRaw
  simp only [V.nonempty, V.con, V.tagsize, Bool.false_eq_true, if_false]
  have := structParseAt_entry env (dynCon le w tbl) (dyn_fixed le w tbl V.wpos) (2 * w) (dyn_sizeof le w tbl)
    (tags.map rawTag) bs he data d.offset rest hd V.small (by have := V.wpos; omega) i (by simpa using hi)
  simp only [pure, Except.pure, bind, Except.bind]
  rw [this]
  simp [decodeRaw_dyn, Except.map]

theorem tagFuel_ge (V : TableView S data d le w tbl tags) : tags.length + 2 ≤ tagFuel data d := by
  obtain ⟨bs, rest, he, hd⟩ := V.placed
  have hl := encAll_length (dynCon le w tbl) (dyn_fixed le w tbl V.wpos) (2 * w) (dyn_sizeof le w tbl) _ _ he
  have h2 := congrArg List.length hd
  simp at h2 hl
  unfold tagFuel
  rw [V.tagsize]
  have hw := V.wpos
  have : tags.length ≤ (data.length - d.offset) / (2 * w) := by
    rw [Nat.le_div_iff_mul_le (by omega)]
    omega
  omega

theorem getField_tag (t : Int × Nat) : (decEntry env tbl t).getField "d_tag" = .ok (decTag env tbl t.1) := by
  simp [decEntry, Val.getField, Fields.getR, Fields.get?]

theorem getNat_val (t : Int × Nat) : (decEntry env tbl t).getNat "d_val" = .ok t.2 := by
  simp [decEntry, Val.getNat, Val.getField, Fields.getR, Fields.get?, Val.asNat, Val.asInt, bind, Except.bind]

theorem getNat_ptr (t : Int × Nat) : (decEntry env tbl t).getNat "d_ptr" = .ok t.2 := by
  simp [decEntry, Val.getNat, Val.getField, Fields.getR, Fields.get?, Val.asNat, Val.asInt, bind, Except.bind]

/-- in the tag table, exactly code `c` bears the name `name` -/
def TagIs (env : Env) (tbl : String) (name : String) (c : Int) : Prop :=
  ∀ t : Int, isStr (decTag env tbl t) name = (t == c)

/-- the fact about the tag table the loops rely on: only code 0 is called DT_NULL (`TagIs … "DT_NULL" DT_NULL`,
    written out) -/
def NullIs (env : Env) (tbl : String) : Prop :=
  ∀ t : Int, isStr (decTag env tbl t) "DT_NULL" = (t == DT_NULL)

theorem firstTagRaw_go_run (V : TableView S data d le w tbl tags) (hnull : NullIs env tbl)
    (type : Option String) (p : Int → Bool) (hp : ∀ t, tagMatches type (decTag env tbl t) = p t) :
    ∀ (run : List (Int × Nat)) (n fuel : Nat) (rest : List (Int × Nat)), tags.drop n = run ++ rest →
      (∀ t ∈ run, t.1 ≠ DT_NULL) →
      firstTagRaw.go env S data d type (fuel + run.length) n
        = match run.find? (fun t => p t.1) with
          | some t => .ok (some (decEntry env tbl t))
          | none => firstTagRaw.go env S data d type fuel (n + run.length) := by
  intro run
  induction run with
  | nil => intro n fuel rest _ _; rfl
  | cons t run ih =>
    intro n fuel rest hdrop hnn
    obtain ⟨hn, ht, hrest⟩ := drop_step (List.cons_append .. ▸ hdrop)
    have hb : (t.1 == DT_NULL) = false := by simpa using hnn t (by simp)
    rw [List.length_cons, ← Nat.add_assoc, firstTagRaw.go]
    simp only [getTagRaw_view V n hn, ht, bind, Except.bind, getField_tag, hp, hnull t.1, hb, List.find?_cons]
    by_cases hm : p t.1 = true
    · simp [hm, pure, Except.pure]
    · have hm' : p t.1 = false := by simpa using hm
      simp only [hm', Bool.false_eq_true, if_false]
      rw [ih (n + 1) fuel rest hrest (fun x hx => hnn x (List.mem_cons_of_mem _ hx)),
        show n + 1 + run.length = n + (run.length + 1) by omega]

/-- how each of the three loops meets a terminated table: the run in front of the first DT_NULL, then that entry, read
    at index `|run|` with fuel to spare -/
theorem live_walk (V : TableView S data d le w tbl tags) (hterm : hasTerminator tags = true) :
    ∃ run t0 post k, tags.drop 0 = run ++ t0 :: post ∧ (∀ x ∈ run, x.1 ≠ DT_NULL) ∧ (t0.1 == DT_NULL) = true ∧
      liveTags tags = run ++ [t0] ∧ tagFuel data d = (k + 1) + run.length ∧
      getTagRaw env S data d (0 + run.length) = .ok (decEntry env tbl t0) := by
  obtain ⟨run, t0, post, hsplit, hnn, h0, hlive⟩ := live_split hterm
  have hlen : tags.length = run.length + (post.length + 1) := by rw [hsplit]; simp
  obtain ⟨hn, ht, -⟩ := drop_step (l := tags) (n := 0 + run.length) (t := t0) (rest := post) (by simp [hsplit])
  exact ⟨run, t0, post, tagFuel data d - run.length - 1, by simpa using hsplit, hnn, by simpa using h0, hlive,
    by have := tagFuel_ge V; omega, by rw [getTagRaw_view V _ hn, ht]⟩

/-- `_iter_tags(type)` consumed to its first element: the first live entry of that type -/
theorem firstTagRaw_view (V : TableView S data d le w tbl tags) (hnull : NullIs env tbl)
    (hterm : hasTerminator tags = true)
    (type : Option String) (p : Int → Bool) (hp : ∀ t, tagMatches type (decTag env tbl t) = p t) :
    firstTagRaw env S data d type
      = .ok (((liveTags tags).find? (fun t => p t.1)).map (decEntry env tbl)) := by
  obtain ⟨run, t0, post, k, hsplit, hnn, hb, hlive, hk, hlast⟩ := live_walk (env := env) V hterm
  unfold firstTagRaw
  simp only [V.nonempty, Bool.false_eq_true, if_false]
  rw [hk, firstTagRaw_go_run V hnull type p hp run 0 (k + 1) (t0 :: post) hsplit hnn, hlive, List.find?_append]
  cases run.find? (fun t => p t.1) with
  | some t => rfl
  | none =>
    rw [firstTagRaw.go]
    simp only [hlast, bind, Except.bind, getField_tag, hp, hnull t0.1, hb, Option.none_or, List.find?_cons, List.find?_nil]
    cases p t0.1 <;> rfl

end view

/-- a decoded program header with the four fields the address map reads -/
def PhdrOk (h : Val) : Prop :=
  ∃ ty va fsz po, h.getField "p_type" = .ok ty ∧ h.getNat "p_vaddr" = .ok va ∧
    h.getNat "p_filesz" = .ok fsz ∧ h.getNat "p_offset" = .ok po

/-- the file object hands out the program headers `hs` (what C01 establishes for the container) -/
structure SegsView (ifc : FileIfc) (hs : List Val) : Prop where
  num : ifc.numSegments = .ok hs.length
  get : ∀ (i : Nat) (hi : i < hs.length), ∃ k, ifc.getSegment i = .ok (k, hs[i])
  ok : ∀ h ∈ hs, PhdrOk h

theorem isStr_eq_isName (v : Val) (n : String) : isStr v n = isName v n := rfl

theorem addressOffset_go (ifc : FileIfc) (hs : List Val) (V : SegsView ifc hs) (a : Nat) :
    ∀ (k i : Nat), i + k = hs.length →
      addressOffsetFirst.go ifc a k i = .ok ((offsetsOf (hs.drop i) a).head?) := by
  intro k
  induction k with
  | zero =>
    intro i hi
    have : hs.drop i = [] := List.drop_eq_nil_of_le (by omega)
    simp [addressOffsetFirst.go, this, offsetsOf, pure, Except.pure]
  | succ k ih =>
    intro i hi
    have hlt : i < hs.length := by omega
    obtain ⟨kind, hget⟩ := V.get i hlt
    obtain ⟨ty, va, fsz, po, h1, h2, h3, h4⟩ := V.ok hs[i] (List.getElem_mem hlt)
    have hdrop : hs.drop i = hs[i] :: hs.drop (i + 1) := List.drop_eq_getElem_cons hlt
    have hlo : loadOffset hs[i] a
        = if isName ty "PT_LOAD" && decide (va ≤ a) && decide (a < va + fsz)
          then some (a - va + po) else none := by
      simp only [loadOffset, h1, h2, h3, h4]
    rw [addressOffsetFirst.go]
    simp only [hget, bind, Except.bind, h1, h2, h3, h4, isStr_eq_isName]
    rw [hdrop, offsetsOf, List.filterMap_cons, hlo]
    by_cases hty : isName ty "PT_LOAD" = true
    · simp only [hty, if_true, Bool.true_and]
      by_cases hin : (a ≥ va && a + 1 ≤ va + fsz) = true
      · have h' : (decide (va ≤ a) && decide (a < va + fsz)) = true := by
          simp at hin ⊢; omega
        simp [hin, h', pure, Except.pure]
      · have hin' : (a ≥ va && a + 1 ≤ va + fsz) = false := by simpa using hin
        have h' : (decide (va ≤ a) && decide (a < va + fsz)) = false := by
          simp at hin' ⊢; omega
        simp only [hin', h', Bool.false_eq_true, if_false]
        rw [ih (i + 1) (by omega)]; rfl
    · have hty' : isName ty "PT_LOAD" = false := by simpa using hty
      simp only [hty', Bool.false_eq_true, if_false, Bool.false_and]
      rw [ih (i + 1) (by omega)]; rfl

/-- `next(elffile.address_offsets(a), None)` is the PT_LOAD map of the gABI -/
theorem addressOffsetFirst_eq (ifc : FileIfc) (hs : List Val) (V : SegsView ifc hs) (a : Nat) :
    addressOffsetFirst ifc a = .ok (mapAddr hs a) := by
  unfold addressOffsetFirst
  simp only [V.num, bind, Except.bind]
  rw [addressOffset_go ifc hs V a hs.length 0 (by simp)]
  simp [mapAddr]

theorem parseCStringAt_strtab {data strtab rest s : Bytes} {toff v : Nat}
    (hd : data.drop toff = strtab ++ rest) (hs : strAt strtab v = some s) (hsmall : data.length < 2 ^ 63) :
    parseCStringAt data (toff + v) = .ok (some s) := by
  have hin := firstNul_drop_in hd hs
  rw [parseCStringAt_eq (Nat.lt_trans (firstNul_drop_lt hin) hsmall), hin]

section view2
variable {env : Env} {S : ElfStructs} {data : Bytes} {d : Dyn} {le : Bool} {w : Nat} {tbl : String}
  {tags : List (Int × Nat)} {ifc : FileIfc} {hs : List Val}

theorem find_map_snd (l : List (Int × Nat)) (c : Int) :
    (l.find? (fun t => t.1 == c)).map (·.2) = firstVal l c := rfl

theorem getTableOffset_view (V : TableView S data d le w tbl tags) (hnull : NullIs env tbl)
    (hterm : hasTerminator tags = true) (SV : SegsView ifc hs)
    (name : String) (c : Int) (hname : TagIs env tbl name c) :
    getTableOffset env S data ifc d name
      = .ok (firstVal (liveTags tags) c, (firstVal (liveTags tags) c).bind (mapAddr hs)) := by
  unfold getTableOffset
  rw [firstTagRaw_view V hnull hterm (some name) (fun t => t == c) (by intro t; exact hname t)]
  simp only [bind, Except.bind, firstVal]
  cases hf : (liveTags tags).find? (fun t => t.1 == c) with
  | none => simp [pure, Except.pure]
  | some t =>
    simp only [Option.map_some, getNat_ptr, addressOffsetFirst_eq ifc hs SV]
    simp [pure, Except.pure]

theorem getStringtable_given {tab : StrTab} (h : d.strtab = some tab) :
    getStringtable env S data ifc d = .ok (some tab) := by
  unfold getStringtable
  simp [h, pure, Except.pure]

/-- `_get_stringtable()` looks at the dynamic table only through what `get_table_offset('DT_STRTAB')` answers -/
theorem getStringtable_of_offset (hnone : d.strtab = none) {p o : Option Nat}
    (hoff : getTableOffset env S data ifc d "DT_STRTAB" = .ok (p, o)) :
    getStringtable env S data ifc d
      = match (generalizing := false) o with
        | some o => .ok (some (.dynamic o))
        | none => (ifc.sectionByName ".dynstr".toUTF8.toList).map fun r => r.map fun q => .section q.1 q.2 := by
  unfold getStringtable
  simp only [hnone, hoff, bind, Except.bind]
  cases o with
  | some o => rfl
  | none =>
    cases ifc.sectionByName ".dynstr".toUTF8.toList with
    | error e => rfl
    | ok r => cases r <;> rfl

/-- what the reader must show for one entry, given where the strings are -/
def obsEntry (env : Env) (tbl : String) (sunw : Bool) (strtab : Bytes) (t : Int × Nat) : DTag :=
  ⟨decEntry env tbl t, (stringAttr sunw t.1).map fun a => (a, (strAt strtab t.2).getD [])⟩

/-- the handled tags are exactly the string-valued tags of the standard -/
def AttrIs (env : Env) (tbl : String) (sunw : Bool) : Prop :=
  ∀ t : Int, handledAttr (decTag env tbl t) = stringAttr sunw t

/-- `tab` serves the strings of `strtab` (for the offsets that name a terminated string) -/
def Serves (data : Bytes) (tab : StrTab) (strtab : Bytes) : Prop :=
  ∀ (v : Nat) (s : Bytes), strAt strtab v = some s → tab.getString data v = .ok s

theorem serves_section {data strtab rest : Bytes} {hdr : Val} {toff : Nat}
    (hoff : hdr.getNat "sh_offset" = .ok toff) (hd : data.drop toff = strtab ++ rest)
    (hsmall : data.length < 2 ^ 63) : Serves data (.section "StringTableSection" hdr) strtab := fun v s hs => by
  simp only [StrTab.getString, Model.getString, hoff, bind, Except.bind, bne_self_eq_false, Bool.false_eq_true, if_false]
  rw [parseCStringAt_strtab hd hs hsmall]
  rfl

theorem serves_dynamic {data strtab rest : Bytes} {toff : Nat}
    (hd : data.drop toff = strtab ++ rest) (hsmall : data.length < 2 ^ 63) :
    Serves data (.dynamic toff) strtab := fun v s hs => by
  simp only [StrTab.getString, bind, Except.bind]
  rw [parseCStringAt_strtab hd hs hsmall]
  rfl

theorem mkTag_view {st : R (Option StrTab)} {tab : StrTab} {sunw : Bool} {strtab : Bytes}
    (hst : st = .ok (some tab)) (hattr : AttrIs env tbl sunw) (hserve : Serves data tab strtab)
    (t : Int × Nat) (hok : (stringAttr sunw t.1).isNone ∨ (strAt strtab t.2).isSome) :
    mkTag data st (decEntry env tbl t) = .ok (obsEntry env tbl sunw strtab t) := by
  unfold mkTag
  simp only [hst, bind, Except.bind, getField_tag, hattr t.1, obsEntry]
  cases ha : stringAttr sunw t.1 with
  | none => simp [pure, Except.pure]
  | some a =>
    have : (strAt strtab t.2).isSome := by
      rcases hok with h | h
      · simp [ha] at h
      · exact h
    obtain ⟨s, hs⟩ := Option.isSome_iff_exists.mp this
    simp [getNat_val, hserve t.2 s hs, hs, pure, Except.pure]

/-- every string-valued live entry names a terminated string of the table -/
def StringsOk (sunw : Bool) (strtab : Bytes) (l : List (Int × Nat)) : Prop :=
  ∀ t ∈ l, (stringAttr sunw t.1).isNone ∨ (strAt strtab t.2).isSome

theorem foldTags_go_run {σ : Type} (V : TableView S data d le w tbl tags) (hnull : NullIs env tbl)
    {st : R (Option StrTab)} {tab : StrTab} {sunw : Bool} {strtab : Bytes}
    (hst : st = .ok (some tab)) (hattr : AttrIs env tbl sunw) (hserve : Serves data tab strtab)
    (step : σ → DTag → R σ) :
    ∀ (run : List (Int × Nat)) (n fuel : Nat) (s : σ) (rest : List (Int × Nat)), tags.drop n = run ++ rest →
      (∀ t ∈ run, t.1 ≠ DT_NULL) → StringsOk sunw strtab run →
      foldTags.go env S data d none step st (fuel + run.length) n s
        = (run.foldlM (fun s t => step s (obsEntry env tbl sunw strtab t)) s).bind fun s' =>
            foldTags.go env S data d none step st fuel (n + run.length) s' := by
  intro run
  induction run with
  | nil => intro n fuel s rest _ _ _; rfl
  | cons t run ih =>
    intro n fuel s rest hdrop hnn hstr
    obtain ⟨hn, ht, hrest⟩ := drop_step (List.cons_append .. ▸ hdrop)
    have hb : (t.1 == DT_NULL) = false := by simpa using hnn t (by simp)
    rw [List.length_cons, ← Nat.add_assoc, foldTags.go]
    simp only [getTagRaw_view V n hn, ht, bind, Except.bind, getField_tag, tagMatches, if_true, hnull t.1, hb,
      mkTag_view hst hattr hserve t (hstr t (by simp)), List.foldlM_cons, Bool.false_eq_true, if_false]
    cases step s (obsEntry env tbl sunw strtab t) with
    | error e => rfl
    | ok s' =>
      simp only []
      rw [ih (n + 1) fuel s' rest hrest (fun x hx => hnn x (List.mem_cons_of_mem _ hx))
        (fun x hx => hstr x (List.mem_cons_of_mem _ hx)), show n + 1 + run.length = n + (run.length + 1) by omega]
      rfl

theorem foldTags_view {σ : Type} (V : TableView S data d le w tbl tags) (hnull : NullIs env tbl)
    (hterm : hasTerminator tags = true) {tab : StrTab} {sunw : Bool} {strtab : Bytes}
    (hst : getStringtable env S data ifc d = .ok (some tab)) (hattr : AttrIs env tbl sunw)
    (hserve : Serves data tab strtab) (hstr : StringsOk sunw strtab (liveTags tags))
    (step : σ → DTag → R σ) (init : σ) :
    foldTags env S data ifc d none step init
      = (liveTags tags).foldlM (fun s t => step s (obsEntry env tbl sunw strtab t)) init := by
  obtain ⟨run, t0, post, k, hsplit, hnn, hb, hlive, hk, hlast⟩ := live_walk (env := env) V hterm
  rw [hlive] at hstr ⊢
  unfold foldTags
  simp only [V.nonempty, Bool.false_eq_true, if_false]
  rw [hk, foldTags_go_run V hnull hst hattr hserve step run 0 (k + 1) init (t0 :: post) hsplit hnn
    (fun x hx => hstr x (List.mem_append_left _ hx)), List.foldlM_append]
  congr 1
  funext s'
  rw [foldTags.go]
  simp only [hlast, bind, Except.bind, getField_tag, tagMatches, if_true, hnull t0.1, hb,
    mkTag_view hst hattr hserve t0 (hstr t0 (by simp)), List.foldlM_cons, List.foldlM_nil]

theorem iterTags_view (V : TableView S data d le w tbl tags) (hnull : NullIs env tbl)
    (hterm : hasTerminator tags = true) {tab : StrTab} {sunw : Bool} {strtab : Bytes}
    (hst : getStringtable env S data ifc d = .ok (some tab)) (hattr : AttrIs env tbl sunw)
    (hserve : Serves data tab strtab) (hstr : StringsOk sunw strtab (liveTags tags)) :
    iterTags env S data ifc d none = .ok ((liveTags tags).map (obsEntry env tbl sunw strtab)) := by
  unfold iterTags
  rw [foldTags_view V hnull hterm hst hattr hserve hstr]
  show ((liveTags tags).foldlM (fun acc t => (Except.ok (obsEntry env tbl sunw strtab t :: acc) : R (List DTag))) []).bind _ = _
  rw [Engine.foldlM_cons_ok]
  simp [Except.bind, pure, Except.pure]

theorem numTags_go_run (V : TableView S data d le w tbl tags) (hnull : NullIs env tbl)
    {tab : StrTab} {sunw : Bool} {strtab : Bytes}
    (hst : getStringtable env S data ifc d = .ok (some tab)) (hattr : AttrIs env tbl sunw)
    (hserve : Serves data tab strtab) :
    ∀ (run : List (Int × Nat)) (n fuel : Nat) (rest : List (Int × Nat)), tags.drop n = run ++ rest →
      (∀ t ∈ run, t.1 ≠ DT_NULL) → StringsOk sunw strtab run →
      numTags.go env S data ifc d (fuel + run.length) n = numTags.go env S data ifc d fuel (n + run.length) := by
  intro run
  induction run with
  | nil => intro n fuel rest _ _ _; rfl
  | cons t run ih =>
    intro n fuel rest hdrop hnn hstr
    obtain ⟨hn, ht, hrest⟩ := drop_step (List.cons_append .. ▸ hdrop)
    have hb : (t.1 == DT_NULL) = false := by simpa using hnn t (by simp)
    rw [List.length_cons, ← Nat.add_assoc, numTags.go]
    unfold getTag
    simp only [getTagRaw_view V n hn, ht, bind, Except.bind, mkTag_view hst hattr hserve t (hstr t (by simp)), obsEntry,
      getField_tag, hnull t.1, hb, Bool.false_eq_true, if_false]
    rw [ih (n + 1) fuel rest hrest (fun x hx => hnn x (List.mem_cons_of_mem _ hx))
      (fun x hx => hstr x (List.mem_cons_of_mem _ hx)), show n + 1 + run.length = n + (run.length + 1) by omega]

theorem numTags_view (V : TableView S data d le w tbl tags) (hnull : NullIs env tbl)
    (hterm : hasTerminator tags = true) {tab : StrTab} {sunw : Bool} {strtab : Bytes}
    (hst : getStringtable env S data ifc d = .ok (some tab)) (hattr : AttrIs env tbl sunw)
    (hserve : Serves data tab strtab) (hstr : StringsOk sunw strtab (liveTags tags)) :
    numTags env S data ifc d = .ok (liveTags tags).length := by
  obtain ⟨run, t0, post, k, hsplit, hnn, hb, hlive, hk, hlast⟩ := live_walk (env := env) V hterm
  rw [hlive] at hstr ⊢
  unfold numTags
  simp only [V.nonempty, Bool.false_eq_true, if_false]
  rw [hk, numTags_go_run V hnull hst hattr hserve run 0 (k + 1) (t0 :: post) hsplit hnn
    (fun x hx => hstr x (List.mem_append_left _ hx))]
  rw [numTags.go]
  unfold getTag
  simp only [hlast, bind, Except.bind, mkTag_view hst hattr hserve t0 (hstr t0 (by simp)), obsEntry,
    getField_tag, hnull t0.1, hb, if_true]
  simp [pure, Except.pure]

end view2

theorem encWords_cons (le : Bool) (n x : Nat) (xs : List Nat) :
    encWords le n (x :: xs) = encNat le n x ++ encWords le n xs := by
  simp [encWords]

theorem encWords_length (le : Bool) (n : Nat) (xs : List Nat) : (encWords le n xs).length = xs.length * n := by
  rw [Nat.mul_comm, ← HashHeader.words_length le n xs]; simp [encWords, List.flatMap]

theorem sysvNumSymbols_eq (env : Env) (S : ElfStructs) (le : Bool) (hS : S.Elf_Hash = HashHeader.hashCon le)
    (h : SysvHash) (hb : h.buckets.length < 2 ^ 32) (hc : h.chains.length < 2 ^ 32)
    (data : Bytes) (off : Nat) (rest : Bytes) (hd : data.drop off = h.enc le ++ rest)
    (hsmall : data.length < 2 ^ 63) :
    sysvNumSymbols env S data off = .ok h.chains.length := by
  have hoff : off < 2 ^ 63 := by
    have := congrArg List.length hd
    simp [SysvHash.enc, encNat_length] at this
    omega
  unfold sysvNumSymbols
  rw [structParseAt_eq hoff, hS, HashHeader.structParse_hash env le h.buckets h.chains hb hc (rest := rest)
    (by rw [hd]; simp [SysvHash.enc, encWords, List.flatMap])]
  exact HashHeader.hashRec_nchains h.buckets h.chains

theorem rangeMapM_ok {α : Type} (f : Nat → R α) (g : Nat → α) :
    ∀ (k i : Nat) (acc : List α), (∀ j, i ≤ j → j < i + k → f j = .ok (g j)) →
      rangeMapM f k i acc = .ok (acc.reverse ++ (List.range' i k).map g) := by
  intro k
  induction k with
  | zero => intro i acc _; simp [rangeMapM]
  | succ k ih =>
    intro i acc h
    rw [rangeMapM, h i (Nat.le_refl _) (by omega)]
    simp only
    rw [ih (i + 1) _ (fun j h1 h2 => h j (by omega) (by omega))]
    simp [List.range'_succ]

/-- the symbol table `d` designates holds `syms`; `es` are the decoded entries -/
structure SymView (env : Env) (S : ElfStructs) (data : Bytes) (symOff : Nat) (syms : List Fields) (es : List Val) : Prop where
  fixed : S.Elf_Sym.fixed = true
  size : ∃ sz, S.Elf_Sym.sizeof = some sz ∧ 0 < sz
  placed : ∃ bs rest, encAll S.Elf_Sym (syms.map .record) = some bs ∧ data.drop symOff = bs ++ rest
  len : es.length = syms.length
  dec : ∀ (i : Nat) (h1 : i < syms.length) (h2 : i < es.length),
    S.Elf_Sym.decodeRaw env [] (.record syms[i]) = .ok es[i] ∧ es[i].getNat "st_name" = .ok (getNatD syms[i] "st_name")

section symbols
variable {env : Env} {S : ElfStructs} {data : Bytes} {d : Dyn} {le : Bool} {w : Nat} {tbl : String}
  {tags : List (Int × Nat)} {ifc : FileIfc} {hs : List Val}

/-- the record is read before the string table is asked for (`None.get_string`: AttributeError) -/
theorem getSymbol_eq (V : TableView S data d le w tbl tags) (hnull : NullIs env tbl)
    (hterm : hasTerminator tags = true) (SV : SegsView ifc hs)
    (hsymtab : TagIs env tbl "DT_SYMTAB" DT_SYMTAB)
    {a symOff : Nat} (ha : firstVal (liveTags tags) DT_SYMTAB = some a) (ho : mapAddr hs a = some symOff)
    {syms : List Fields} {es : List Val} (Y : SymView env S data symOff syms es)
    (i : Nat) (h1 : i < syms.length) (h2 : i < es.length) :
    getSymbol env S data ifc d i
      = (getStringtable env S data ifc d).bind fun st =>
          match st with
          | none => .error .attributeError
          | some tab => (tab.getString data (getNatD syms[i] "st_name")).map fun nm => (nm, es[i]) := by
  obtain ⟨sz, hsz, hpos⟩ := Y.size
  obtain ⟨bs, rest, he, hd⟩ := Y.placed
  obtain ⟨hdec, hnm⟩ := Y.dec i h1 h2
  unfold getSymbol
  rw [getTableOffset_view V hnull hterm SV "DT_SYMTAB" DT_SYMTAB hsymtab]
  simp only [ha, ho, bind, Except.bind, Option.bind, sizeofR, hsz]
  rw [structParseAt_entry env S.Elf_Sym Y.fixed sz hsz (syms.map .record) bs he data symOff rest hd V.small hpos i
    (by simpa using h1)]
  simp only [List.getElem_map, hdec, Except.map, hnm]
  cases getStringtable env S data ifc d with
  | error e => rfl
  | ok st =>
    cases st with
    | none => rfl
    | some tab => cases tab.getString data (getNatD syms[i] "st_name") <;> rfl

theorem getSymbol_view (V : TableView S data d le w tbl tags) (hnull : NullIs env tbl)
    (hterm : hasTerminator tags = true) (SV : SegsView ifc hs)
    (hsymtab : TagIs env tbl "DT_SYMTAB" DT_SYMTAB)
    {a symOff : Nat} (ha : firstVal (liveTags tags) DT_SYMTAB = some a) (ho : mapAddr hs a = some symOff)
    {syms : List Fields} {es : List Val} (Y : SymView env S data symOff syms es)
    {tab : StrTab} {strtab : Bytes} (hst : getStringtable env S data ifc d = .ok (some tab))
    (hserve : Serves data tab strtab)
    (i : Nat) (h1 : i < syms.length) (h2 : i < es.length)
    (hname : (strAt strtab (getNatD syms[i] "st_name")).isSome) :
    getSymbol env S data ifc d i = .ok ((strAt strtab (getNatD syms[i] "st_name")).getD [], es[i]) := by
  obtain ⟨s, hs'⟩ := Option.isSome_iff_exists.mp hname
  rw [getSymbol_eq V hnull hterm SV hsymtab ha ho Y i h1 h2, hst]
  simp [Except.bind, hserve _ s hs', hs', Except.map]

theorem iterSymbols_of_count {iterSegs : R (List (String × Val))} {n : Nat} {g : Nat → Bytes × Val}
    (hnum : numSymbols env S data ifc d iterSegs le = .ok n)
    (hget : ∀ i, i < n → getSymbol env S data ifc d i = .ok (g i)) :
    iterSymbols env S data ifc d iterSegs le = .ok ((List.range n).map g) := by
  unfold iterSymbols
  simp only [hnum, bind, Except.bind]
  rw [rangeMapM_ok _ g n 0 [] (fun j _ hj => hget j (by omega))]
  simp [List.range_eq_range']

theorem symbols_view (V : TableView S data d le w tbl tags) (hnull : NullIs env tbl)
    (hterm : hasTerminator tags = true) (SV : SegsView ifc hs)
    (hsymtab : TagIs env tbl "DT_SYMTAB" DT_SYMTAB)
    {a symOff : Nat} (ha : firstVal (liveTags tags) DT_SYMTAB = some a) (ho : mapAddr hs a = some symOff)
    {syms : List Fields} {es : List Val} (Y : SymView env S data symOff syms es)
    {tab : StrTab} {strtab : Bytes} (hst : getStringtable env S data ifc d = .ok (some tab))
    (hserve : Serves data tab strtab) (hnames : ∀ s ∈ syms, (strAt strtab (getNatD s "st_name")).isSome)
    {iterSegs : R (List (String × Val))} {le' : Bool} (hnum : numSymbols env S data ifc d iterSegs le' = .ok syms.length) :
    ∃ L : List (Bytes × Val),
      L = ((List.range syms.length).map fun i =>
            ((strAt strtab (getNatD (syms.getD i []) "st_name")).getD [], es.getD i .none)) ∧
      iterSymbols env S data ifc d iterSegs le' = .ok L ∧
      ∀ i (h : i < L.length), getSymbol env S data ifc d i = .ok L[i] := by
  have hget : ∀ i, i < syms.length → getSymbol env S data ifc d i
      = .ok ((strAt strtab (getNatD (syms.getD i []) "st_name")).getD [], es.getD i .none) := by
    intro i hi
    have h2 : i < es.length := by rw [Y.len]; exact hi
    rw [getSymbol_view V hnull hterm SV hsymtab ha ho Y hst hserve i hi h2 (hnames _ (List.getElem_mem hi))]
    simp [List.getD, List.getElem?_eq_getElem hi, List.getElem?_eq_getElem h2]
  refine ⟨_, rfl, iterSymbols_of_count hnum hget, fun i hi => ?_⟩
  have h1 : i < syms.length := by simpa using hi
  rw [hget i h1]
  simp

theorem numSymbols_eq (V : TableView S data d le w tbl tags) (hnull : NullIs env tbl)
    (hterm : hasTerminator tags = true) (SV : SegsView ifc hs)
    (hgnu : TagIs env tbl "DT_GNU_HASH" DT_GNU_HASH) (hhash : TagIs env tbl "DT_HASH" DT_HASH)
    {iterSegs : R (List (String × Val))} {le' : Bool} {sz : Nat} (hsz : S.Elf_Sym.sizeof = some sz) :
    numSymbols env S data ifc d iterSegs le'
      = match (firstVal (liveTags tags) DT_GNU_HASH).bind (mapAddr hs) with
        | some o => gnuNumSymbols env S data le' o
        | none =>
          match (firstVal (liveTags tags) DT_HASH).bind (mapAddr hs) with
          | some o => sysvNumSymbols env S data o
          | none => numSymbolsFallback env S data ifc d iterSegs sz := by
  unfold numSymbols
  rw [getTableOffset_view V hnull hterm SV "DT_GNU_HASH" DT_GNU_HASH hgnu,
      getTableOffset_view V hnull hterm SV "DT_HASH" DT_HASH hhash]
  simp only [sizeofR, hsz, bind, Except.bind]
  cases (firstVal (liveTags tags) DT_GNU_HASH).bind (mapAddr hs) with
  | some o => rfl
  | none => cases (firstVal (liveTags tags) DT_HASH).bind (mapAddr hs) <;> rfl

end symbols

end PyElf.Proofs.Dynamic
