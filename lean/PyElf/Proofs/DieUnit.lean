/-
  Every entry of an encoded tree is found by `_get_cached_DIE` at its offset (`covered_unit`: the `Covered` hypothesis of
  the iteration layer, discharged by the entry layer), given a predicate on every node of the tree (`TreeAll`, here
  `NodeOK`); `forall_flatten` is the walk over entries and bytes that carries it.  With them the parts of `wfTree` by name
  and what well-formedness gives of sizes: every entry takes a byte (`flatten_size_pos`), so a tree has no more entries
  than bytes (`count_le_length`).
-/
import PyElf.Spec.DieTree
import PyElf.Model.Die
import PyElf.Proofs.DieEntry
import PyElf.Proofs.DieIter
namespace PyElf.Proofs.C04
open PyElf PyElf.Spec PyElf.Spec.C04 PyElf.Model PyElf.Model.C04 PyElf.Proofs

mutual
def TreeAll (Q : Node → Prop) : Tree → Prop
  | .mk n kids _ => Q n ∧ ForestAll Q kids
def ForestAll (Q : Node → Prop) : List Tree → Prop
  | [] => True
  | t :: ts => TreeAll Q t ∧ ForestAll Q ts
end

theorem wfTree_node {c : DwarfCfg} {n : Node} {kids : List Tree} {nl : Nat} (h : wfTree c (.mk n kids nl) = true) :
    wfNode c n = true := by
  simp only [wfTree, Bool.and_eq_true] at h; exact h.1

/-- the children of a well-formed node are well-formed (a node without the children flag has none) -/
theorem wfTree_kids {c : DwarfCfg} {n : Node} {kids : List Tree} {nl : Nat} (h : wfTree c (.mk n kids nl) = true) :
    wfForest c kids = true := by
  simp only [wfTree, Bool.and_eq_true] at h
  cases hk : n.decl.children with
  | false =>
    rw [hk] at h
    have : kids = [] := by simpa using h.2
    subst this; rfl
  | true =>
    rw [hk] at h
    simp only [if_true, Bool.and_eq_true] at h
    exact h.2.1

theorem wfTree_null {c : DwarfCfg} {n : Node} {kids : List Tree} {nl : Nat} (h : wfTree c (.mk n kids nl) = true)
    (hk : n.decl.children = true) : 1 ≤ nl := by
  simp only [wfTree, hk, if_true, Bool.and_eq_true, decide_eq_true_eq] at h; exact h.2.2

mutual
theorem treeAll_imp_wf {c : DwarfCfg} {Q Q' : Node → Prop} (h : ∀ x, wfNode c x = true → Q x → Q' x) :
    ∀ t : Tree, wfTree c t = true → TreeAll Q t → TreeAll Q' t
  | .mk n kids nl, hwf, hq => by
    simp only [TreeAll] at hq ⊢
    exact ⟨h n (wfTree_node hwf) hq.1, forestAll_imp_wf h kids (wfTree_kids hwf) hq.2⟩
theorem forestAll_imp_wf {c : DwarfCfg} {Q Q' : Node → Prop} (h : ∀ x, wfNode c x = true → Q x → Q' x) :
    ∀ ts : List Tree, wfForest c ts = true → ForestAll Q ts → ForestAll Q' ts
  | [], _, _ => trivial
  | t :: ts, hwf, hq => by
    simp only [wfForest, Bool.and_eq_true] at hwf
    simp only [ForestAll] at hq ⊢
    exact ⟨treeAll_imp_wf h t hwf.1 hq.1, forestAll_imp_wf h ts hwf.2 hq.2⟩
end

/-- the attribute names a declaration lists are presented differently from one another
    (DWARF 5 §2.2: an entry has at most one attribute with a given name) -/
def DistinctAt (nm : Names) : List AttrSpec → Prop
  | [] => True
  | s :: ss => (∀ s' ∈ ss, (nm.at_ s.name == nm.at_ s'.name) = false) ∧ DistinctAt nm ss

theorem mem_attrObs_name (nm : Names) (c : DwarfCfg) (ρ : Val → Val → Val) (ss : List AttrSpec) (as : List AttrV)
    (off : Nat) (b : AttrObs) (h : b ∈ attrObs nm c ρ off ss as) : ∃ s' ∈ ss, b.name = nm.at_ s'.name := by
  obtain ⟨p, hp, off', rfl⟩ := mem_attrObs h
  exact ⟨p.1, (List.of_mem_zip hp).1, rfl⟩

theorem namesDistinct_attrObs (nm : Names) (c : DwarfCfg) (ρ : Val → Val → Val) :
    ∀ (ss : List AttrSpec) (as : List AttrV) (off : Nat), DistinctAt nm ss → NamesDistinct (attrObs nm c ρ off ss as) := by
  intro ss
  induction ss with
  | nil => intro as off _; simp [attrObs]
  | cons s ss ih =>
    intro as off h
    cases as with
    | nil => simp [attrObs]
    | cons a as =>
      rw [attrObs_cons]
      refine List.pairwise_cons.2 ⟨?_, ih as _ h.2⟩
      intro b hb
      obtain ⟨s', hs', e⟩ := mem_attrObs_name nm c ρ ss as _ b hb
      rw [e]; exact h.1 s' hs'

/-- the side conditions of one node as `_parse_DIE` needs them: its declaration is the one the unit's abbreviation dict has
    under its code, its values TRANSLATE (to `ρ`), its attribute names are distinct.  Two weaker forms lead here from the
    Spec's Boolean `nodeInB`, each a step nearer the description, carried over a tree by `treeAll_imp_wf`: `NodeIn`
    (Proofs/DieSection: the declaration is in the described TABLE, every value resolves) and `NodeWF` (Proofs/DieTop: the
    declaration is in the DICT the table parses to). -/
def NodeOK (U : UnitCtx) (ti : Option (List AttrObs)) (nm : Names) (ρ : Val → Val → Val) (m : List (Nat × Val))
    (n : Node) : Prop :=
  mapGet? m n.decl.code = some (declVal nm n.decl) ∧ TransOK U ti nm ρ n.decl.specs n.attrs ∧ DistinctAt nm n.decl.specs

theorem encEntry_length_pos (c : DwarfCfg) (n : Node) (h : wfNode c n = true) : 1 ≤ (encEntry c n).length := by
  have := (ulebFits_iff.1 (wfNode_code h)).1
  rw [encEntry_length]; omega

mutual
theorem count_le_length (c : DwarfCfg) : ∀ t : Tree, wfTree c t = true → t.count ≤ (encTree c t).length
  | .mk n kids nl, hwf => by
    have hpos := encEntry_length_pos c n (wfTree_node hwf)
    rw [Tree.count, encTree_length]
    cases hk : n.decl.children with
    | false => simp; omega
    | true =>
      have := countForest_le_length c kids (wfTree_kids hwf)
      have := wfTree_null hwf hk
      simp only [if_true]; omega
theorem countForest_le_length (c : DwarfCfg) : ∀ ts : List Tree, wfForest c ts = true →
    countForest ts ≤ (encForest c ts).length
  | [], _ => by simp [countForest]
  | t :: ts, hwf => by
    simp only [wfForest, Bool.and_eq_true] at hwf
    have h1 := count_le_length c t hwf.1
    have h2 := countForest_le_length c ts hwf.2
    rw [countForest, encForest, List.length_append]; omega
end

mutual
theorem flatten_size_pos (nm : Names) (c : DwarfCfg) (ρ : Val → Val → Val) :
    ∀ (t : Tree) (off : Nat), wfTree c t = true → ∀ d ∈ flatten nm c ρ off t, 1 ≤ d.size
  | .mk n kids nl, off, hwf, d, hd => by
    rw [flatten, List.mem_cons] at hd
    rcases hd with rfl | hd
    · exact encEntry_length_pos c n (wfTree_node hwf)
    · cases hk : n.decl.children with
      | false => rw [hk] at hd; simp at hd
      | true =>
        rw [hk] at hd
        simp only [if_true] at hd
        rcases List.mem_append.1 hd with h1 | h1
        · exact flattenForest_size_pos nm c ρ kids _ (wfTree_kids hwf) d h1
        · simp only [List.mem_singleton] at h1
          rw [h1]; exact wfTree_null hwf hk
theorem flattenForest_size_pos (nm : Names) (c : DwarfCfg) (ρ : Val → Val → Val) :
    ∀ (ts : List Tree) (off : Nat), wfForest c ts = true → ∀ d ∈ flattenForest nm c ρ off ts, 1 ≤ d.size
  | [], _, _, d, hd => by simp [flattenForest] at hd
  | t :: ts, off, hwf, d, hd => by
    simp only [wfForest, Bool.and_eq_true] at hwf
    rw [flattenForest] at hd
    rcases List.mem_append.1 hd with h1 | h1
    · exact flatten_size_pos nm c ρ t off hwf.1 d h1
    · exact flattenForest_size_pos nm c ρ ts _ hwf.2 d h1
end

theorem flattenUnit_size_pos (nm : Names) (c : DwarfCfg) (ρtop ρ : Val → Val → Val) (t : Tree) (off : Nat)
    (hwf : wfTree c t = true) : ∀ d ∈ flattenUnit nm c ρtop ρ off t, 1 ≤ d.size := by
  obtain ⟨n, kids, nl⟩ := t
  intro d hd
  rw [flattenUnit, List.mem_cons] at hd
  rcases hd with rfl | hd
  · exact encEntry_length_pos c n (wfTree_node hwf)
  · exact flatten_size_pos nm c ρ (.mk n kids nl) off hwf d (by rw [flatten]; exact List.mem_cons_of_mem _ hd)

mutual
theorem forall_flatten {P : DieObs → Prop} (nm : Names) (c : DwarfCfg) (ρ : Val → Val → Val) (data : Bytes) (lo : Nat)
    (Q : Node → Prop)
    (hnode : ∀ n off rest, Q n → wfNode c n = true → data.drop off = encEntry c n ++ rest → lo ≤ off →
      P (entryObs nm c ρ off n))
    (hnull : ∀ l off rest, 1 ≤ l → data.drop off = encUlebN l 0 ++ rest → lo ≤ off → P (nullObs off l)) :
    ∀ (t : Tree) (off : Nat) (rest : Bytes), wfTree c t = true → TreeAll Q t → data.drop off = encTree c t ++ rest →
      lo ≤ off → ∀ d ∈ flatten nm c ρ off t, P d
  | .mk n kids nl, off, rest, hwf, hall, hd, hlo => by
    simp only [TreeAll] at hall
    rw [encTree, List.append_assoc] at hd
    intro d hdm
    rw [flatten, List.mem_cons] at hdm
    rcases hdm with rfl | hdm
    · exact hnode n off _ hall.1 (wfTree_node hwf) hd hlo
    · cases hk : n.decl.children with
      | false => rw [hk] at hdm; simp at hdm
      | true =>
        rw [hk] at hdm hd
        simp only [if_true, List.append_assoc] at hdm hd
        have hd1 := drop_add_of_drop hd
        rcases List.mem_append.1 hdm with h1 | h1
        · exact forall_flattenForest nm c ρ data lo Q hnode hnull kids _ _ (wfTree_kids hwf) hall.2 hd1 (by omega) d h1
        · have hd2 := drop_add_of_drop hd1
          simp only [List.mem_singleton] at h1
          rw [h1]
          exact hnull nl _ rest (wfTree_null hwf hk) hd2 (by omega)
theorem forall_flattenForest {P : DieObs → Prop} (nm : Names) (c : DwarfCfg) (ρ : Val → Val → Val) (data : Bytes) (lo : Nat)
    (Q : Node → Prop)
    (hnode : ∀ n off rest, Q n → wfNode c n = true → data.drop off = encEntry c n ++ rest → lo ≤ off →
      P (entryObs nm c ρ off n))
    (hnull : ∀ l off rest, 1 ≤ l → data.drop off = encUlebN l 0 ++ rest → lo ≤ off → P (nullObs off l)) :
    ∀ (ts : List Tree) (off : Nat) (rest : Bytes), wfForest c ts = true → ForestAll Q ts →
      data.drop off = encForest c ts ++ rest → lo ≤ off → ∀ d ∈ flattenForest nm c ρ off ts, P d
  | [], _, _, _, _, _, _ => by intro d hd; simp [flattenForest] at hd
  | t :: ts, off, rest, hwf, hall, hd, hlo => by
    simp only [wfForest, Bool.and_eq_true] at hwf
    simp only [ForestAll] at hall
    rw [encForest, List.append_assoc] at hd
    intro d hdm
    rw [flattenForest] at hdm
    rcases List.mem_append.1 hdm with h1 | h1
    · exact forall_flatten nm c ρ data lo Q hnode hnull t off _ hwf.1 hall.1 hd hlo d h1
    · exact forall_flattenForest nm c ρ data lo Q hnode hnull ts _ rest hwf.2 hall.2 (drop_add_of_drop hd) (by omega) d h1
end

theorem lt_length_of_drop {data : Bytes} {off : Nat} {bs rest : Bytes} (hd : data.drop off = bs ++ rest)
    (hb : 1 ≤ bs.length) : off < data.length := by
  have := length_of_drop hd
  rw [List.length_append] at this
  omega

/--
  `Covered` for `G := _get_cached_DIE` on the bytes of an encoded tree: the top entry is what `get_top_DIE` builds
  (`htop`), every other entry is parsed at its offset with the top entry's attributes at hand for the index forms.
-/
theorem covered_unit {U : UnitCtx} {c : DwarfCfg} {nm : Names} (hU : UnitOK U c nm) (ρtop ρ : Val → Val → Val)
    {m : List (Nat × Val)} (hab : U.abbrevs = .ok m) (n : Node) (kids : List Tree) (nl : Nat) {rest : Bytes}
    (hwf : wfTree c (.mk n kids nl) = true)
    (hd : U.data.drop U.cuDieOffset = encTree c (.mk n kids nl) ++ rest) (hlen : U.data.length ≤ 2 ^ 63)
    (htop : getTopDIE U = .ok (entryObs nm c ρtop U.cuDieOffset n))
    (hkids : ForestAll (NodeOK U (some (entryObs nm c ρtop U.cuDieOffset n).attrs) nm ρ m) kids) :
    Covered (getCachedDIE U) (flattenUnit nm c ρtop ρ U.cuDieOffset (.mk n kids nl)) := by
  have hpos := encEntry_length_pos c n (wfTree_node hwf)
  have hother : ∀ d : DieObs, U.cuDieOffset < d.offset →
      parseDIE U (some (entryObs nm c ρtop U.cuDieOffset n).attrs) d.offset = .ok d → getCachedDIE U d.offset = .ok d := by
    intro d hlt hp
    have hne : ¬ d.offset = U.cuDieOffset := by omega
    unfold getCachedDIE
    simp only [htop, bind, Except.bind, hne, if_false, hp]
  intro d hdm
  rw [flattenUnit, List.mem_cons] at hdm
  rcases hdm with rfl | hdm
  · unfold getCachedDIE
    simp [htop, bind, Except.bind, entryObs, pure, Except.pure]
  · cases hk : n.decl.children with
    | false => rw [hk] at hdm; simp at hdm
    | true =>
      rw [hk] at hdm
      rw [encTree, hk] at hd
      simp only [if_true, List.append_assoc] at hdm hd
      have hd1 := drop_add_of_drop hd
      have hP : ∀ d ∈ flattenForest nm c ρ (U.cuDieOffset + (encEntry c n).length) kids ++
          [nullObs (U.cuDieOffset + (encEntry c n).length + (encForest c kids).length) nl],
          U.cuDieOffset < d.offset ∧
            parseDIE U (some (entryObs nm c ρtop U.cuDieOffset n).attrs) d.offset = .ok d := by
        intro d hdm
        rcases List.mem_append.1 hdm with h1 | h1
        · refine forall_flattenForest (P := fun d => U.cuDieOffset < d.offset ∧
              parseDIE U (some (entryObs nm c ρtop U.cuDieOffset n).attrs) d.offset = .ok d) nm c ρ U.data
            (U.cuDieOffset + (encEntry c n).length) _ ?_ ?_ kids _ _ (wfTree_kids hwf) hkids hd1 (Nat.le_refl _) d h1
          · intro n' off' rest' hq hwn' hd' hlo
            have hlt := lt_length_of_drop hd' (encEntry_length_pos c n' hwn')
            refine ⟨by simp only [entryObs]; omega, ?_⟩
            exact parseDIE_encoded (off := off') hU _ ρ n' hwn' (by omega) hab hq.1 hq.2.1
              (namesDistinct_attrObs nm c ρ _ _ _ hq.2.2) hd'
          · intro l off' rest' hl hd' hlo
            have hlt := lt_length_of_drop hd' (by rw [encUlebN_length]; exact hl)
            refine ⟨by simp only [nullObs]; omega, ?_⟩
            exact parseDIE_null (off := off') hU _ hl (by omega) hd'
        · have hd2 := drop_add_of_drop hd1
          simp only [List.mem_singleton] at h1
          rw [h1]
          have hlt := lt_length_of_drop hd2 (by rw [encUlebN_length]; exact wfTree_null hwf hk)
          refine ⟨by simp only [nullObs]; omega, ?_⟩
          exact parseDIE_null (off := U.cuDieOffset + (encEntry c n).length + (encForest c kids).length) hU _
            (wfTree_null hwf hk) (by omega) hd2
      obtain ⟨h1, h2⟩ := hP d hdm
      exact hother d h1 h2

theorem getTopDIE_of_cached {U : UnitCtx} {d : DieObs} (h : getCachedDIE U U.cuDieOffset = .ok d) : getTopDIE U = .ok d := by
  unfold getCachedDIE at h
  simp only [bind, Except.bind, pure, Except.pure, if_true] at h
  cases ht : getTopDIE U with
  | error e => rw [ht] at h; cases h
  | ok t => rw [ht] at h; exact h

theorem unitDIEFromRefaddr_covered (U : UnitCtx) (l : List DieObs) (hcov : Covered (getCachedDIE U) l) (d : DieObs)
    (hd : d ∈ l) (hr : U.cuDieOffset ≤ d.offset ∧ d.offset < U.cuOffset + U.size) :
    unitDIEFromRefaddr U d.offset = .ok d := by
  unfold unitDIEFromRefaddr
  rw [if_pos hr]
  exact hcov d hd

end PyElf.Proofs.C04
