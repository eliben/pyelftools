/-
  Whole-file composition.  For a well-formed abstract ELF image (C01: `ElfDesc.wfZ`, `Layout`) one of whose sections is an
  assembled version section, `ELFFile(bytes).get_section(sec)` builds the version-section object whose constructor
  arguments are the ones the description says, and the file is a layout of the version records in the sense of
  `Spec/GnuVersions.lean`.  What is known of a section of the opened file is `SecAt` (Proofs/ElfFile.lean).
-/
import PyElf.Proofs.ImageOpeners
import PyElf.Proofs.GnuAssembled
import PyElf.Model.GnuVersionsFile
namespace PyElf.Proofs.C15
open PyElf PyElf.Spec PyElf.Spec.C15 PyElf.Model PyElf.Model.C15 PyElf.Proofs

structure VerFileFacts (env : Env) (d : ElfDesc) (sec : Nat) (ty : String) (body : Bytes) (declared n : Nat)
    (linkOk : Bytes → Bool) : Prop where
  wfz : d.wfZ env = true
  le : declared ≤ n
  sec : verSecAt env d sec ty body declared linkOk = true

theorem needFileWf_unpack {env : Env} {d : ElfDesc} {sec : Nat} {fill : UInt8} {size : Nat} {es : List NeedEntry}
    {declared : Nat} (h : needFileWf env d sec fill size es declared = true) :
    VerFileFacts env d sec "SHT_GNU_verneed" (assembleNeed d.le fill size es) declared es.length
      (fun st => needWf d.le st es) := by
  simp only [needFileWf, Bool.and_eq_true, decide_eq_true_eq] at h
  exact ⟨h.1.1, h.1.2, h.2⟩

theorem defFileWf_unpack {env : Env} {d : ElfDesc} {sec : Nat} {fill : UInt8} {size : Nat} {es : List DefEntry}
    {declared : Nat} (h : defFileWf env d sec fill size es declared = true) :
    VerFileFacts env d sec "SHT_GNU_verdef" (assembleDef d.le fill size es) declared es.length
      (fun st => defWf d.le st es) := by
  simp only [defFileWf, Bool.and_eq_true, decide_eq_true_eq] at h
  exact ⟨h.1.1, h.1.2, h.2⟩

/-- `get_section(n)` once `getSection` and the header reads are known -/
theorem getVerSection_need_of {env : Env} {f : ElfFile} {n : Nat} {nm : Bytes} {sh st : Val}
    {link off info strOff : Nat}
    (hget : getSection env f.S f.data f.header f.shstr n = .ok ("GNUVerNeedSection", nm, sh))
    (hlink : sh.getNat "sh_link" = .ok link) (hstr : linkedHeader env f link = .ok st)
    (hoff : sh.getNat "sh_offset" = .ok off) (hinfo : sh.getNat "sh_info" = .ok info)
    (hstroff : st.getNat "sh_offset" = .ok strOff) :
    getVerSection env f n = .ok (.need (VerSec.mkNeed f.S f.data off info strOff)) := by
  unfold getVerSection
  simp only [hget, bind, Except.bind, hlink, hstr, hoff, hinfo, hstroff]
  rfl

theorem getVerSection_def_of {env : Env} {f : ElfFile} {n : Nat} {nm : Bytes} {sh st : Val}
    {link off info strOff : Nat}
    (hget : getSection env f.S f.data f.header f.shstr n = .ok ("GNUVerDefSection", nm, sh))
    (hlink : sh.getNat "sh_link" = .ok link) (hstr : linkedHeader env f link = .ok st)
    (hoff : sh.getNat "sh_offset" = .ok off) (hinfo : sh.getNat "sh_info" = .ok info)
    (hstroff : st.getNat "sh_offset" = .ok strOff) :
    getVerSection env f n = .ok (.def_ (VerSec.mkDef f.S f.data off info strOff)) := by
  unfold getVerSection
  simp only [hget, bind, Except.bind, hlink, hstr, hoff, hinfo, hstroff]
  rfl

theorem getVerSection_versym_of {env : Env} {f : ElfFile} {n : Nat} {nm : Bytes} {sh symh strh : Val}
    {link link2 off size es symOff symEs symStrOff : Nat}
    (hget : getSection env f.S f.data f.header f.shstr n = .ok ("GNUVerSymSection", nm, sh))
    (hlink : sh.getNat "sh_link" = .ok link) (hsym : linkedHeader env f link = .ok symh)
    (hlink2 : symh.getNat "sh_link" = .ok link2) (hstr : linkedHeader env f link2 = .ok strh)
    (hoff : sh.getNat "sh_offset" = .ok off) (hsize : sh.getNat "sh_size" = .ok size)
    (hent : sh.getNat "sh_entsize" = .ok es) (hsymoff : symh.getNat "sh_offset" = .ok symOff)
    (hsyment : symh.getNat "sh_entsize" = .ok symEs) (hstroff : strh.getNat "sh_offset" = .ok symStrOff) :
    getVerSection env f n = .ok (.versym (VersymSec.mk' f.S f.data off size es symOff symEs symStrOff)) := by
  unfold getVerSection
  simp only [hget, bind, Except.bind, hlink, hsym, hlink2, hstr, hoff, hsize, hent, hsymoff, hsyment, hstroff]
  rfl

theorem getVerSection_ver {env : Env} {d : ElfDesc} {bytes : Bytes} {hdr : Val} {st : Option Val} (X : Setup env d bytes hdr st)
    {sec : Nat} {ty : String} {body : Bytes} {declared : Nat} {linkOk : Bytes → Bool}
    (h : verSecAt env d sec ty body declared linkOk = true) :
    ∃ off strOff strtab rest rest', linkOk strtab = true ∧ bytes.drop off = body ++ rest ∧
      bytes.drop strOff = strtab ++ rest' ∧
      (ty = "SHT_GNU_verneed" → getVerSection env (fileOf d bytes hdr st) sec
        = .ok (.need (VerSec.mkNeed d.S bytes off declared strOff))) ∧
      (ty = "SHT_GNU_verdef" → getVerSection env (fileOf d bytes hdr st) sec
        = .ok (.def_ (VerSec.mkDef d.S bytes off declared strOff))) := by
  unfold verSecAt at h
  obtain ⟨hi, sh, V, h⟩ := X.secAt_cases h
  simp only [Bool.and_eq_true, decide_eq_true_eq] at h
  obtain ⟨⟨⟨hty, hbody⟩, hinfo⟩, hlink⟩ := h
  obtain ⟨hli, hlink⟩ := linkMatch_true hlink
  obtain ⟨lh, LV⟩ := X.secAt_lt hli
  refine ⟨_, _, _, _, _, hlink, V.drop_body hbody, LV.body, ?_, ?_⟩
  all_goals
    intro hty'
    subst hty'
    have hget := V.get_of_type (typeIn_single hty)
  · exact getVerSection_need_of (f := fileOf d bytes hdr st) hget V.link (linkedHeader_ok LV) V.offset (hinfo ▸ V.info)
      LV.offset
  · exact getVerSection_def_of (f := fileOf d bytes hdr st) hget V.link (linkedHeader_ok LV) V.offset (hinfo ▸ V.info)
      LV.offset

theorem versymFileWf_wfZ {env : Env} {d : ElfDesc} {sec : Nat} {fill : UInt8} {rows : List (Sym × VersymRow)}
    {slack moreSyms : Bytes} (h : versymFileWf env d sec fill rows slack moreSyms = true) : d.wfZ env = true := by
  unfold versymFileWf at h
  exact (Bool.and_eq_true_iff.1 h).1

theorem getVerSection_versym {env : Env} {d : ElfDesc} {bytes : Bytes} {hdr : Val} {st : Option Val} (X : Setup env d bytes hdr st)
    {sec : Nat} {fill : UInt8} {rows : List (Sym × VersymRow)} {slack moreSyms : Bytes}
    (h : versymFileWf env d sec fill rows slack moreSyms = true) :
    ∃ off size es symOff symEs symStrOff,
      getVerSection env (fileOf d bytes hdr st) sec
        = .ok (.versym (VersymSec.mk' d.S bytes off size es symOff symEs symStrOff)) ∧
      0 < es ∧ size / es = rows.length ∧
      versymAt d.le bytes off es 0 (rows.map (·.2)) = true ∧
      symsAt d.cls d.le bytes symOff symEs symStrOff 0 rows = true := by
  unfold versymFileWf at h
  obtain ⟨hi, vh, V, h⟩ := X.secAt_cases (Bool.and_eq_true_iff.1 h).2
  simp only [Bool.and_eq_true, decide_eq_true_eq] at h
  obtain ⟨⟨⟨⟨hty, hbody⟩, hvwf⟩, hsize⟩, hy⟩ := h
  obtain ⟨hli, hy⟩ := linkMatch_true hy
  simp only [Bool.and_eq_true, decide_eq_true_eq] at hy
  obtain ⟨hli2, hswf⟩ := linkMatch_true hy.2
  obtain ⟨yh, YV⟩ := X.secAt_lt hli
  obtain ⟨sh, SV⟩ := X.secAt_lt hli2
  have hrest := V.drop_body hbody
  have hrest1 := YV.drop_body hy.1
  have hrest2 := SV.body
  rw [List.append_assoc] at hrest hrest1
  exact ⟨_, _, _, _, _, _,
    getVerSection_versym_of (f := fileOf d bytes hdr st) (V.get_of_type (typeIn_single hty)) V.link (linkedHeader_ok YV)
      YV.link (linkedHeader_ok SV) V.offset V.size V.entsize YV.offset YV.entsize SV.offset,
    versymWf_pos hvwf, hsize, assembleVersym_layout hvwf hrest, assembleSyms_layout hswf hrest1 hrest2⟩

theorem getVerSectionByName_eq {env : Env} {d : ElfDesc} {bytes : Bytes} {hdr : Val} {st : Option Val} {obs : ElfObs}
    (X : Setup env d bytes hdr st) (ho : d.observe env = .ok obs) (name : Bytes) :
    getVerSectionByName env (fileOf d bytes hdr st) name =
      match d.indexOfName name with
      | none => .ok none
      | some i => (getVerSection env (fileOf d bytes hdr st) i).map some :=
  X.byName ho name (getVerSection env (fileOf d bytes hdr st))

theorem assemble_length_lt {env : Env} {d : ElfDesc} {tail : Nat} {bytes : Bytes} (hwf : d.wfZ env = true)
    (hfit : imageFits d tail = true) (h : d.assemble tail = some bytes) : bytes.length < 2 ^ 63 := by
  obtain ⟨rs, hrs, hdisj⟩ := (wfZ_facts hwf).disj
  unfold imageFits at hfit
  simp only [hrs, List.all_eq_true, decide_eq_true_eq] at hfit
  -- one region is needed for `tail ≤ 2^63 - 1`: the file header's
  have hne : rs ≠ [] := by
    unfold ElfDesc.regions at hrs
    intro he
    subst he
    simp only [Option.bind_eq_bind, Option.bind_eq_some_iff, Option.pure_def, Option.some.injEq] at hrs
    obtain ⟨_, _, _, _, _, _, h⟩ := hrs
    simp at h
  obtain ⟨r0, hr0⟩ := List.exists_mem_of_ne_nil rs hne
  have hb := hfit r0 hr0
  have := assemble_length_le hrs hdisj (B := 2 ^ 63 - 1 - tail) (fun r hr => by have := hfit r hr; omega) h
  omega

end PyElf.Proofs.C15
