/-
  `RangeLists.iter_CU_range_lists_ex(cu)`: on a unit whose body is its range lists one
  after the other, the enumeration yields exactly those lists, whatever the size of the
  offset table.
-/
import PyElf.Spec.DwarfStructs
import PyElf.Spec.Lists
import PyElf.Model.Lists
import PyElf.Proofs.Primitives
import PyElf.Proofs.ListsV5
import PyElf.Proofs.ListsUnits
namespace PyElf.Proofs.ListsUnitLists
open PyElf PyElf.Spec PyElf.Spec.Lists PyElf.Model.Lists PyElf.Proofs

/-- one round per list, read by the entry parser as stored (no translation) -/
theorem rangeListsExLoop_lists (env : Env) (cfg : DwarfCfg) (l : Model.Lists.Lists) (rest : Bytes)
    (henv : ∀ k ∈ rleKinds, env.enumDecode "ENUM_DW_RLE" (k.code : Int) = some k.name)
    (hS : l.S.Dwarf_rnglists_entries = (Spec.dwarfStructs cfg).Dwarf_rnglists_entries) :
    ∀ (ls : List (List Ent)) (fuel pos : Nat) (acc : List Val) (stop : Int),
      (∀ es ∈ ls, ∀ e ∈ es, e.wf rleKinds cfg.asz = true) → ls.length + 1 ≤ fuel →
      l.data.drop pos = encLists cfg.le cfg.asz ls ++ rest →
      stop = ((pos + (encLists cfg.le cfg.asz ls).length : Nat) : Int) →
      rangeListsExLoop env l stop fuel pos acc
        = .ok (acc.reverse ++ (rawObsLists cfg.asz pos ls).map Val.list) := by
  intro ls
  induction ls with
  | nil =>
    intro fuel pos acc stop _ hf _ hstop
    cases fuel with
    | zero => omega
    | succ fuel =>
      simp only [encLists, List.flatMap_nil, List.length_nil, Nat.add_zero] at hstop
      rw [rangeListsExLoop, if_neg (by omega)]
      simp [rawObsLists]
  | cons es ls ih =>
    intro fuel pos acc stop hwf hf hd hstop
    cases fuel with
    | zero => omega
    | succ fuel =>
      have hd0 : l.data.drop pos = encList cfg.le cfg.asz es ++ (encLists cfg.le cfg.asz ls ++ rest) := by
        simpa [encLists, List.append_assoc] using hd
      have hd1 : l.data.drop (pos + listSize cfg.asz es) = encLists cfg.le cfg.asz ls ++ rest := by
        rw [← ListsV5.encList_length cfg.le cfg.asz es]; exact drop_add_of_drop hd0
      have hpos := ListsV5.listSize_pos cfg.asz es
      have hlen : (encLists cfg.le cfg.asz (es :: ls)).length
          = listSize cfg.asz es + (encLists cfg.le cfg.asz ls).length := by
        simp [encLists, ListsV5.encList_length]
      rw [hlen] at hstop
      rw [rangeListsExLoop, if_pos (by omega), hS,
        Engine.structParse_of_parse (ListsV5.parse_rnglists_at env cfg l.data _ pos es [] henv (hwf es (by simp)) hd0)]
      simp only
      rw [ih fuel _ _ stop (fun x hx => hwf x (by simp [hx])) (by simp at hf; omega) hd1
        (by rw [hstop]; omega)]
      simp [rawObsLists]

theorem drop_after_table {data : Bytes} {pos : Nat} (le : Bool) (u : UnitHdr) (body rest : Bytes)
    (hd : data.drop pos = encUnit le u body ++ rest) :
    data.drop (pos + u.lenSize + 8 + u.osz * u.offsets.length) = body ++ rest := by
  have := drop_add_of_drop (ListsUnits.drop_after_header le u body rest hd)
  rwa [ListsUnits.encOffsets_length] at this

theorem lists_count_le (le : Bool) (asz : Nat) (ls : List (List Ent)) :
    ls.length ≤ (encLists le asz ls).length :=
  Engine.flatMap_length_ge _ ls fun es _ => by rw [ListsV5.encList_length]; exact ListsV5.listSize_pos asz es

theorem iterCURangeListsEx_exact (env : Env) (cfg : DwarfCfg) (l : Model.Lists.Lists) (u : UnitHdr)
    (ls : List (List Ent)) (pre rest : Bytes)
    (henv : ∀ k ∈ rleKinds, env.enumDecode "ENUM_DW_RLE" (k.code : Int) = some k.name)
    (hS : l.S.Dwarf_rnglists_entries = (Spec.dwarfStructs cfg).Dwarf_rnglists_entries)
    (hd : l.data = pre ++ encUnit cfg.le u (encLists cfg.le cfg.asz ls) ++ rest)
    (hwf : ∀ es ∈ ls, ∀ e ∈ es, e.wf rleKinds cfg.asz = true)
    (hsmall : l.data.length < 2 ^ 63) :
    iterCURangeListsEx env l (u.obs pre.length (encLists cfg.le cfg.asz ls))
      = .ok ((rawObsLists cfg.asz (pre.length + u.lenSize + 8 + u.osz * u.offsets.length) ls).map Val.list) := by
  have hdrop : l.data.drop pre.length = encUnit cfg.le u (encLists cfg.le cfg.asz ls) ++ rest := by
    rw [hd]; exact drop_pre _ _ _
  have hbody := drop_after_table cfg.le u _ rest hdrop
  have hl := length_of_drop hbody
  have hlu := length_of_drop hdrop
  rw [List.length_append, ListsUnits.encUnit_length] at hlu
  rw [List.length_append] at hl
  have hcnt := lists_count_le cfg.le cfg.asz ls
  have hplen : pre.length ≤ l.data.length := by rw [hd]; simp only [List.length_append]; omega
  have hsz : u.size (encLists cfg.le cfg.asz ls)
      = u.lenSize + 8 + u.osz * u.offsets.length + (encLists cfg.le cfg.asz ls).length := by
    simp only [UnitHdr.size, UnitHdr.innerLen]; omega
  -- the walk starts behind the whole offset table: `offset_table_offset + (8 if is64 else 4) * offset_count`
  have hseek : seekInt (((pre.length + u.lenSize + 8 : Nat) : Int)
        + (if u.fmt64 then (8 : Int) else 4) * (u.offsets.length : Int))
      = .ok (pre.length + u.lenSize + 8 + u.osz * u.offsets.length) := by
    have e : ((pre.length + u.lenSize + 8 : Nat) : Int) + (if u.fmt64 then (8 : Int) else 4) * (u.offsets.length : Int)
        = ((pre.length + u.lenSize + 8 + u.osz * u.offsets.length : Nat) : Int) := by
      cases hf : u.fmt64 <;> simp [UnitHdr.osz, hf]
    rw [e, ListsSeek.seekInt_nat (by omega)]
  have A := ListsUnits.attr_hdr u pre.length (encLists cfg.le cfg.asz ls)
    [("offsets", if u.offsets.isEmpty then .bool false else .list (u.offsets.map fun (o : Nat) => Val.int o))]
  rw [show Val.record _ = u.obs pre.length (encLists cfg.le cfg.asz ls) from rfl] at A
  unfold iterCURangeListsEx
  simp only [A.offset_table_offset, A.is64, A.offset_count, A.offset_after_length, A.unit_length, bind, Except.bind,
    Val.asInt, ListsUnits.UnitHdr.truthy_fmt64, hseek]
  rw [rangeListsExLoop_lists env cfg l rest henv hS ls _ _ [] _ hwf (by omega) hbody
    (by simp only [UnitHdr.innerLen]; omega)]
  simp

example : ∀ es ∈ ([[⟨⟨6, "DW_RLE_start_end", [("start_address", .addr), ("end_address", .addr)]⟩,
      [.addr 1, .addr 2]⟩], []] : List (List Ent)), ∀ e ∈ es, e.wf rleKinds 8 = true := by decide

end PyElf.Proofs.ListsUnitLists
