/-
  `d[k] = v` on an insertion-ordered dict, as an association list: an existing key keeps its position
  and takes the new value, a new key is appended.  The model writes this function out once per dict;
  a property that needs the facts here first shows its own copy equal to `upsert`.  `Fields.set`, the assignment
  of construct Containers, is one of the copies (`Fields.set_eq_upsert`; the `Fields` lemmas stand in `PyElf`, beside
  the definitions).
-/
import PyElf.Core.Val
namespace PyElf.Proofs
open PyElf
universe u v

def upsert {κ : Type u} {V : Type v} [DecidableEq κ] : List (κ × V) → κ → V → List (κ × V)
  | [], k, v => [(k, v)]
  | (k', v') :: rest, k, v => if k' = k then (k', v) :: rest else (k', v') :: upsert rest k v

section
variable {κ : Type u} {V : Type v} [DecidableEq κ]

theorem upsert_fresh (d : List (κ × V)) (k : κ) (v : V) (h : k ∉ d.map (·.1)) : upsert d k v = d ++ [(k, v)] := by
  induction d with
  | nil => rfl
  | cons p d ih =>
    obtain ⟨k', v'⟩ := p
    simp only [List.map_cons, List.mem_cons, not_or] at h
    have hne : ¬ k' = k := fun e => h.1 e.symm
    simp [upsert, hne, ih h.2]

theorem foldl_upsert_nodup : ∀ (ps d : List (κ × V)),
    (∀ p ∈ ps, p.1 ∉ d.map (·.1)) → (ps.map (·.1)).Nodup →
    ps.foldl (fun d p => upsert d p.1 p.2) d = d ++ ps := by
  intro ps
  induction ps with
  | nil => intro d _ _; simp
  | cons p ps ih =>
    intro d hd hn
    rw [List.map_cons, List.nodup_cons] at hn
    rw [List.foldl_cons, upsert_fresh d p.1 p.2 (hd p List.mem_cons_self), ih]
    · simp
    · intro q hq
      simp only [List.map_append, List.map_cons, List.map_nil, List.mem_append, List.mem_singleton, not_or]
      exact ⟨hd q (List.mem_cons_of_mem _ hq), fun e => hn.1 (e ▸ List.mem_map_of_mem hq)⟩
    · exact hn.2

theorem keys_upsert (d : List (κ × V)) (k : κ) (v : V) [Decidable (k ∈ d.map (·.1))] :
    (upsert d k v).map (·.1) = if k ∈ d.map (·.1) then d.map (·.1) else d.map (·.1) ++ [k] := by
  split
  · rename_i h
    induction d with
    | nil => simp at h
    | cons p d ih =>
      obtain ⟨k', v'⟩ := p
      unfold upsert
      by_cases hk : k' = k
      · simp [hk]
      · have h' : k ∈ d.map (·.1) := by
          simp only [List.map_cons, List.mem_cons] at h
          exact h.resolve_left fun e => hk e.symm
        simp [hk, ih h']
  · rename_i h
    rw [upsert_fresh d k v h, List.map_append]; rfl

theorem find?_upsert [BEq κ] [LawfulBEq κ] (d : List (κ × V)) (k k' : κ) (v : V) :
    ((upsert d k v).find? (·.1 == k')).map (·.2)
      = if k = k' then some v else (d.find? (·.1 == k')).map (·.2) := by
  induction d with
  | nil => by_cases h : k = k' <;> simp [upsert, h]
  | cons p d ih =>
    obtain ⟨k0, v0⟩ := p
    unfold upsert
    by_cases h0 : k0 = k
    · subst h0
      by_cases h : k0 = k' <;> simp [h]
    · have hk : ¬ k = k0 := fun e => h0 e.symm
      by_cases h1 : k0 = k'
      · subst h1; simp [h0, hk]
      · have hb : (k0 == k') = false := by simpa using h1
        simp only [h0, if_false, List.find?_cons, hb, ih]

theorem forall_upsert [BEq κ] [LawfulBEq κ] {P : κ → V → Prop} {d : List (κ × V)} {k : κ} {v : V}
    (h : ∀ k' x, (d.find? (·.1 == k')).map (·.2) = some x → P k' x) (hv : P k v) :
    ∀ k' x, ((upsert d k v).find? (·.1 == k')).map (·.2) = some x → P k' x := by
  intro k' x hg
  rw [find?_upsert] at hg
  split at hg
  · next hk => injection hg with hg; exact hk ▸ hg ▸ hv
  · exact h k' x hg

theorem mem_keys_upsert (d : List (κ × V)) (k : κ) (v : V) (z : κ) :
    z ∈ (upsert d k v).map (·.1) ↔ z ∈ d.map (·.1) ∨ z = k := by
  rw [keys_upsert]
  split
  · next hk => exact ⟨Or.inl, fun h => h.elim id fun e => e ▸ hk⟩
  · simp

/-! a run of assignments, keys repeating: each key ends with the value of its last assignment -/

theorem find?_foldl_upsert [BEq κ] [LawfulBEq κ] (ps d : List (κ × V)) (k : κ) :
    ((ps.foldl (fun d p => upsert d p.1 p.2) d).find? (·.1 == k)).map (·.2)
      = ((ps.reverse.find? (·.1 == k)).map (·.2)).or ((d.find? (·.1 == k)).map (·.2)) := by
  induction ps generalizing d with
  | nil => simp
  | cons p ps ih =>
    rw [List.foldl_cons, ih, find?_upsert]
    simp only [List.reverse_cons, List.find?_append]
    cases List.find? (fun x => x.1 == k) ps.reverse with
    | some q => simp
    | none => by_cases h : p.1 = k <;> simp [h]

theorem mem_keys_foldl_upsert (ps d : List (κ × V)) (z : κ) :
    z ∈ (ps.foldl (fun d p => upsert d p.1 p.2) d).map (·.1) ↔ z ∈ d.map (·.1) ∨ z ∈ ps.map (·.1) := by
  induction ps generalizing d with
  | nil => simp
  | cons p ps ih =>
    simp only [List.foldl_cons, ih, mem_keys_upsert, List.map_cons, List.mem_cons, or_assoc]

/-- a value found after the run is one the run assigned or one the dict held -/
theorem mem_of_find?_foldl_upsert [BEq κ] [LawfulBEq κ] {ps d : List (κ × V)} {k : κ} {v : V}
    (h : ((ps.foldl (fun d p => upsert d p.1 p.2) d).find? (·.1 == k)).map (·.2) = some v) :
    (k, v) ∈ ps ∨ (d.find? (·.1 == k)).map (·.2) = some v := by
  rw [find?_foldl_upsert] at h
  cases hf : ps.reverse.find? (·.1 == k) with
  | none => rw [hf] at h; exact Or.inr (by simpa using h)
  | some q =>
    rw [hf] at h
    have hq := List.find?_some hf
    have hm := List.mem_reverse.1 (List.mem_of_find?_eq_some hf)
    have hv : q.2 = v := by simpa using h
    exact Or.inl (by rw [← hv, ← (beq_iff_eq.1 hq)]; exact hm)

end

end PyElf.Proofs

namespace PyElf
open PyElf.Proofs

theorem Fields.set_eq_upsert (fs : Fields) (k : String) (v : Val) : Fields.set fs k v = upsert fs k v := by
  induction fs with
  | nil => rfl
  | cons p fs ih =>
    obtain ⟨k', v'⟩ := p
    simp only [Fields.set, upsert, ih]

theorem Fields.get?_eq_none_iff (fs : Fields) (k : String) : Fields.get? fs k = none ↔ k ∉ fs.map (·.1) := by
  induction fs with
  | nil => simp [Fields.get?]
  | cons p fs ih =>
    obtain ⟨k', v'⟩ := p
    by_cases hk : k' = k
    · simp [Fields.get?, hk]
    · have hk' : ¬ k = k' := fun e => hk e.symm
      simp [Fields.get?, hk, hk', ih]

theorem Fields.foldl_set_fresh (kvs d : Fields) (hn : (kvs.map (·.1)).Nodup) (hd : ∀ kv ∈ kvs, Fields.get? d kv.1 = none) :
    kvs.foldl (fun o kv => Fields.set o kv.1 kv.2) d = d ++ kvs := by
  simp only [Fields.set_eq_upsert]
  exact foldl_upsert_nodup kvs d (fun p hp => (Fields.get?_eq_none_iff d p.1).1 (hd p hp)) hn

end PyElf
