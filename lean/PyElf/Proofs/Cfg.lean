/-
  The configurations are compared by their derived `BEq`; look-ups in the regenerated bundle lists
  (`Model.elfStructsFor`, `Model.dwarfStructsFor`) are reasoned about through its lawfulness.
-/
import PyElf.Core.Bundles
namespace PyElf.Proofs
open PyElf

instance : LawfulBEq ElfCfg where
  eq_of_beq {a b} h := by
    cases a; cases b
    simpa [BEq.beq, instBEqElfCfg.beq] using h
  rfl {a} := by
    cases a
    simp [BEq.beq, instBEqElfCfg.beq]

instance : LawfulBEq DwarfCfg where
  eq_of_beq {a b} h := by
    cases a; cases b
    simpa [BEq.beq, instBEqDwarfCfg.beq] using h
  rfl {a} := by
    cases a
    simp [BEq.beq, instBEqDwarfCfg.beq]

end PyElf.Proofs
