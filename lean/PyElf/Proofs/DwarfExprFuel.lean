/-
  C12, termination half: the fuel of `Model.parseExpr` is never exhausted, whatever the input bytes and
  whatever the dispatch / name tables.  (The Python loop always terminates: every iteration consumes the
  opcode byte, and a nested block is strictly shorter than what is left of its parent.)  Every reader is `Good`:
  it moves forward, stays inside the data, and does not report `outOfFuel`.  Namespace `PyElf.Proofs`.
-/
import PyElf.Core.Construct
import PyElf.Model.DwarfExpr
import PyElf.Proofs.Good
namespace PyElf.Proofs
open PyElf PyElf.Spec PyElf.Model

section
variable {data : Bytes} {pos : Nat}

theorem good_fixed {c : Con} {n : Nat} {f : Bytes → Val} (hpos : pos ≤ data.length)
    (hc : Con.parse Env.empty data c [] pos = readExact data pos n >>= fun bs => pure (f bs, pos + n, [])) :
    Good data.length pos (structParse Env.empty c data pos) := by
  unfold structParse
  rw [hc]
  cases hr : readExact data pos n with
  | error e =>
    rcases ElfErrors.readExact_only false data pos n e hr with rfl | ⟨h, -⟩
    · exact fun h => nomatch h
    · cases h
  | ok bs =>
    have hl : (readN data pos n).length = n := by
      by_cases hl : (readN data pos n).length = n
      · exact hl
      · simp [readExact, hl] at hr
    rw [readN_length] at hl
    exact ⟨Nat.le_add_right .., by omega⟩

theorem good_uint {n : Nat} {le : Bool} (hpos : pos ≤ data.length) :
    Good data.length pos (structParse Env.empty (.uint n le) data pos) :=
  good_fixed (f := fun bs => .int (decNat le bs)) hpos (by rw [Con.parse])

theorem good_sint {n : Nat} {le : Bool} (hpos : pos ≤ data.length) :
    Good data.length pos (structParse Env.empty (.sint n le) data pos) :=
  good_fixed (f := fun bs => .int (toSigned (8 * n) (decNat le bs))) hpos (by rw [Con.parse])

theorem good_leb {α : Type} {c : Con} {loop : R (α × Nat)} {g : α → Val} (hl : Good data.length pos loop)
    (hc : Con.parse Env.empty data c [] pos = loop >>= fun x => pure (g x.1, x.2, [])) :
    Good data.length pos (structParse Env.empty c data pos) := by
  unfold structParse
  rw [hc]
  cases loop with
  | error e => exact hl
  | ok x => exact hl

theorem good_uleb : Good data.length pos (structParse Env.empty .uleb data pos) :=
  good_leb (loop := parseUleb data pos) (g := fun v => .int v) (ulebLoop_good data _ pos 0 0) (by rw [Con.parse])

theorem good_sleb : Good data.length pos (structParse Env.empty .sleb data pos) :=
  good_leb (loop := parseSleb data pos) (g := fun v => .int v) (slebLoop_good data _ pos 0 0) (by rw [Con.parse])

end

theorem readBlob_inside (data : Bytes) : ∀ (n pos : Nat) (acc : Bytes), pos ≤ data.length →
    match readBlob data n pos acc with
    | .ok (bs, p) => p = pos + n ∧ p ≤ data.length ∧ bs.length = acc.length + n
    | .error e => e ≠ .outOfFuel
  | 0, pos, acc, hpos => by simp [readBlob, hpos]
  | n + 1, pos, acc, _ => by
    rw [readBlob]
    cases hb : data[pos]? with
    | none => exact fun h => nomatch h
    | some b =>
      have hlt := (List.getElem?_eq_some_iff.1 hb).1
      have := readBlob_inside data n (pos + 1) (b :: acc) hlt
      simp only
      cases hr : readBlob data n (pos + 1) (b :: acc) with
      | error e => rw [hr] at this; exact this
      | ok x =>
        rw [hr] at this
        simp only [List.length_cons] at this ⊢
        omega

/-- `parse_blob`, the blob of `parse_typedblob`, the body of `parse_nestedexpr`.  `k` is asked to be `Good` behind the
    bytes, knowing that they lie between `pos` and there: that bounds the nested parser's input. -/
theorem good_lenBlob {β : Type} {data : Bytes} {pos : Nat} {len : R (Val × Nat)} {k : Bytes × Nat → R (β × Nat)}
    (hL : Good data.length pos len)
    (hk : ∀ bs p, p ≤ data.length → bs.length + pos ≤ p → Good data.length p (k (bs, p))) :
    Good data.length pos (len >>= fun x => x.1.asNat >>= fun m => readBlob data m x.2 [] >>= k) :=
  hL.bind fun v p h1 h2 => Good.bindVal (ElfErrors.nf_asNat v) fun n => by
    have := readBlob_inside data n p [] h2
    cases hr : readBlob data n p [] with
    | error e => rw [hr] at this; exact this
    | ok x =>
      obtain ⟨bs, p'⟩ := x
      rw [hr] at this
      obtain ⟨rfl, hle, hlen⟩ := this
      have hg := hk bs (p + n) hle (by simp only [List.length_nil] at hlen; omega)
      show Good data.length p (k (bs, p + n))
      cases hkx : k (bs, p + n) with
      | error e => rw [hkx] at hg; exact hg
      | ok y => rw [hkx] at hg; exact ⟨Nat.le_trans (Nat.le_add_right ..) hg.1, hg.2⟩

/-- `hN`: the nested parser does not run out of fuel on a block that fits between `pos` and the end of the data — the
    only blocks `parse_nestedexpr` can hand it. -/
theorem parseArg_good {nested : Bytes → R (List Val)} {data : Bytes} (k : ArgKind) {pos : Nat}
    (hpos : pos ≤ data.length)
    (hN : ∀ blob : Bytes, blob.length + pos ≤ data.length → ∀ e, nested blob = .error e → e ≠ .outOfFuel) :
    Good data.length pos (parseArg nested data k pos) := by
  cases k with
  | u n le =>
    unfold parseArg
    exact (good_uint hpos).bind_same fun _ _ => ⟨_, rfl⟩
  | s n le =>
    unfold parseArg
    exact (good_sint hpos).bind_same fun _ _ => ⟨_, rfl⟩
  | uleb =>
    unfold parseArg
    exact good_uleb.bind_same fun _ _ => ⟨_, rfl⟩
  | sleb =>
    unfold parseArg
    exact good_sleb.bind_same fun _ _ => ⟨_, rfl⟩
  | block => exact good_lenBlob (k := fun y => pure ([blobVal y.1], y.2)) good_uleb fun _ _ h _ => ⟨Nat.le_refl _, h⟩
  | block1 => exact good_lenBlob (k := fun y => pure ([blobVal y.1], y.2)) (good_uint hpos) fun _ _ h _ => ⟨Nat.le_refl _, h⟩
  | expr =>
    refine good_lenBlob (k := fun y => nested y.1 >>= fun ops => pure ([Val.list ops], y.2)) good_uleb fun bs p hp hb => ?_
    show Good data.length p (nested bs >>= fun ops => pure ([Val.list ops], p))
    cases hn : nested bs with
    | error e => exact hN bs (by omega) e hn
    | ok ops => exact ⟨Nat.le_refl _, hp⟩
  | wasm le =>
    unfold parseArg
    refine Good.bind (good_uint hpos) fun op p _ h2 => Good.bindVal (ElfErrors.nf_asInt op) fun opn => ?_
    show Good data.length p (if 0 ≤ opn ∧ opn ≤ 2 then _ else _)
    split
    · exact good_uleb.bind_same fun _ _ => ⟨_, rfl⟩
    · split
      · exact (good_uint h2).bind_same fun _ _ => ⟨_, rfl⟩
      · exact fun h => nomatch h
  | refused w => exact fun h => nomatch h

theorem parseArgs_good {nested : Bytes → R (List Val)} {data : Bytes} : ∀ (ks : List ArgKind) (pos : Nat),
    pos ≤ data.length →
    (∀ blob : Bytes, blob.length + pos ≤ data.length → ∀ e, nested blob = .error e → e ≠ .outOfFuel) →
    Good data.length pos (parseArgs nested data ks pos) := by
  intro ks
  induction ks with
  | nil => intro pos hpos _; simp [parseArgs, Good, hpos]
  | cons k ks ih =>
    intro pos hpos hN
    unfold parseArgs
    refine Good.bind (parseArg_good k hpos hN) ?_
    intro vs p h1 h2
    exact (ih p h2 fun blob hb => hN blob (by omega)).bind_same fun _ _ => ⟨_, rfl⟩

/-- Invariant: `data.length + 1 ≤ fuel + pos` — what is left of the data, plus one, fits into the fuel.  A round spends one
    unit and moves past the opcode byte at least; the nested parser gets the fuel left and a block that fits between the
    operands' start and the end of the data (`hN` of `parseArg_good`), so the same invariant holds for it at position 0. -/
theorem loop_fuel (D : List (Nat × List ArgKind)) (N : List (Nat × String)) :
    ∀ (fuel : Nat) (data : Bytes) (pos : Nat) (parsed : List Val), pos ≤ data.length → data.length + 1 ≤ fuel + pos →
      ∀ e, parseExprLoop D N fuel data pos parsed = .error e → e ≠ .outOfFuel := by
  intro fuel
  induction fuel with
  | zero => intro data pos parsed h1 h2; omega
  | succ fuel ih =>
    intro data pos parsed hpos hf e h
    rw [parseExprLoop] at h
    cases hb : data[pos]? with
    | none => simp [hb] at h
    | some b =>
      have hlt := (List.getElem?_eq_some_iff.1 hb).1
      simp only [hb] at h
      cases hk : D.lookup b.toNat with
      | none => simp only [hk] at h; cases h; decide
      | some kinds =>
        simp only [hk] at h
        have hg := parseArgs_good (nested := fun blob => parseExprLoop D N fuel blob 0 []) (data := data) kinds (pos + 1)
          hlt (fun blob hbl e he => ih blob 0 [] (Nat.zero_le _) (by omega) e he)
        cases hr : parseArgs (fun blob => parseExprLoop D N fuel blob 0 []) data kinds (pos + 1) with
        | error e' =>
          rw [hr] at hg h
          cases h
          exact hg
        | ok x =>
          obtain ⟨args, pos'⟩ := x
          rw [hr] at hg h
          exact ih data pos' _ hg.2 (by have := hg.1; omega) e h

end PyElf.Proofs
