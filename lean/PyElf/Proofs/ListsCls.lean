/-
  Attribute classification: the boolean expressions of `LocationParser` compute the
  decision table `Spec.Lists.classify`.
-/
import PyElf.Spec.Lists
import PyElf.Model.Lists
namespace PyElf.Proofs.ListsCls
open PyElf PyElf.Spec.Lists

theorem dataForms_eq : Model.Lists.dataForms = Spec.Lists.dataForms := rfl

theorem const_eq (name form : String) (ver : Nat) :
    Model.Lists.attributeIsConstant name form ver = constantClass name form ver := by
  have h : ∀ a b : String, (a == b) = decide (a = b) := fun _ _ => rfl
  simp [Model.Lists.attributeIsConstant, constantClass, dataForms_eq, constForms, Bool.or_assoc, h]

/-! The model's three predicates over the Spec's lists: the vocabulary both comparisons with `classify` share. -/

theorem hasLocList_eq (name form : String) (ver : Nat) :
    Model.Lists.attributeHasLocList name form ver
      = ((decide (ver < 4) && Spec.Lists.dataForms.contains form && !(name == "DW_AT_const_value")
          || listForms.contains form) && !constantClass name form ver) := by
  unfold Model.Lists.attributeHasLocList
  rw [const_eq, dataForms_eq]
  rfl

theorem hasLocExpr_eq (name form : String) (ver : Nat)
    (hform : "DW_FORM_block".toList.isPrefixOf form.toList = blockForms.contains form) :
    Model.Lists.attributeHasLocExpr name form ver
      = (decide (ver < 4) && blockForms.contains form && !(name == "DW_AT_const_value") || form == "DW_FORM_exprloc") := by
  unfold Model.Lists.attributeHasLocExpr
  rw [hform]

theorem hasLocation_eq (name form : String) (ver : Nat) :
    Model.Lists.attributeHasLocation name form ver
      = (locAttrs.contains name
          && (Model.Lists.attributeHasLocExpr name form ver || Model.Lists.attributeHasLocList name form ver)) := rfl

/-- what the code's `parse_from_attribute` decides -/
def modelClass (name form : String) (ver : Nat) : LocClass :=
  if Model.Lists.attributeHasLocation name form ver then
    if Model.Lists.attributeHasLocExpr name form ver then .expr
    else if Model.Lists.attributeHasLocList name form ver then .list else .neither
  else .neither

theorem modelClass_cases (name form : String) (ver : Nat) :
    (Model.Lists.attributeHasLocation name form ver = false ∧ modelClass name form ver = .neither)
    ∨ (Model.Lists.attributeHasLocation name form ver = true ∧ Model.Lists.attributeHasLocExpr name form ver = true
        ∧ modelClass name form ver = .expr)
    ∨ (Model.Lists.attributeHasLocation name form ver = true ∧ Model.Lists.attributeHasLocExpr name form ver = false
        ∧ Model.Lists.attributeHasLocList name form ver = true ∧ modelClass name form ver = .list) := by
  unfold modelClass
  cases h1 : Model.Lists.attributeHasLocation name form ver with
  | false => exact Or.inl ⟨rfl, rfl⟩
  | true =>
    cases h2 : Model.Lists.attributeHasLocExpr name form ver with
    | true => exact Or.inr (Or.inl ⟨rfl, rfl, rfl⟩)
    | false =>
      cases h3 : Model.Lists.attributeHasLocList name form ver with
      | true => exact Or.inr (Or.inr ⟨rfl, rfl, rfl, rfl⟩)
      | false => simp [Model.Lists.attributeHasLocation, h2, h3] at h1

/-- `hform` holds of every form the library knows (`Props.TieC07.block_prefix_forms`) -/
theorem modelClass_eq_classify (name form : String) (ver : Nat)
    (hform : "DW_FORM_block".toList.isPrefixOf form.toList = blockForms.contains form) :
    modelClass name form ver = classify name form ver := by
  unfold modelClass classify
  rw [hasLocation_eq, hasLocExpr_eq name form ver hform, hasLocList_eq, show (name != "DW_AT_const_value") = !(name == "DW_AT_const_value") from rfl]
  generalize locAttrs.contains name = L
  generalize (form == "DW_FORM_exprloc") = E
  generalize blockForms.contains form = B
  generalize (name == "DW_AT_const_value") = CV
  generalize Spec.Lists.dataForms.contains form = D
  generalize listForms.contains form = LF
  generalize constantClass name form ver = C
  generalize decide (ver < 4) = v4
  revert L E B CV D LF C v4
  decide +kernel

section
open PyElf.Model.Lists (attributeHasLocation attributeHasLocList attributeHasLocExpr attributeIsLoclistptrClass)

theorem form_disj (form : String)
    (h : (Spec.Lists.dataForms.contains form || listForms.contains form) = true) :
    (form == "DW_FORM_exprloc") = false ∧ blockForms.contains form = false := by
  simp only [Spec.Lists.dataForms, listForms, List.contains_cons, List.contains_nil, Bool.or_false,
    Bool.or_eq_true, beq_iff_eq] at h
  rcases h with (h | h | h | h) | (h | h) <;> subst h <;> decide

/-- the scan's test `attribute_has_location and _attribute_has_loc_list` is "the table says list" -/
theorem classify_list (name form : String) (ver : Nat) :
    (attributeHasLocation name form ver && attributeHasLocList name form ver)
      = (classify name form ver == .list) := by
  unfold classify
  rw [hasLocation_eq, hasLocList_eq, show (name != "DW_AT_const_value") = !(name == "DW_AT_const_value") from rfl]
  have hd := form_disj form
  -- `attributeHasLocExpr` stays as it is (`X`): a form that passes the list test is neither `exprloc` nor a block form
  -- (`hd`), so the expression rows of the table are not met whatever it says
  generalize attributeHasLocExpr name form ver = X
  generalize locAttrs.contains name = L
  generalize (form == "DW_FORM_exprloc") = E at hd ⊢
  generalize blockForms.contains form = B at hd ⊢
  generalize (name == "DW_AT_const_value") = CV
  generalize Spec.Lists.dataForms.contains form = D at hd ⊢
  generalize listForms.contains form = LF at hd ⊢
  generalize constantClass name form ver = C
  generalize decide (ver < 4) = v4
  revert L E B CV D LF C v4 X
  decide +kernel

/-- for `DW_AT_location` the assertion's `_attribute_has_loc_list` alone says the same -/
theorem hasLocList_location (form : String) (ver : Nat) :
    attributeHasLocList "DW_AT_location" form ver = (classify "DW_AT_location" form ver == .list) := by
  rw [← classify_list]
  have : attributeIsLoclistptrClass "DW_AT_location" = true := by decide
  cases h : attributeHasLocList "DW_AT_location" form ver <;> simp [attributeHasLocation, this, h]

end

theorem hasLocation_eq_classify (name form : String) (ver : Nat)
    (hform : "DW_FORM_block".toList.isPrefixOf form.toList = blockForms.contains form) :
    Model.Lists.attributeHasLocation name form ver = (classify name form ver != .neither) := by
  rw [← modelClass_eq_classify name form ver hform]
  rcases modelClass_cases name form ver with ⟨h1, hm⟩ | ⟨h1, _, hm⟩ | ⟨h1, _, _, hm⟩
  · rw [h1, hm]; rfl
  · rw [h1, hm]; rfl
  · rw [h1, hm]; rfl

end PyElf.Proofs.ListsCls
