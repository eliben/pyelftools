/-
  C20, whole files: `EnvC20` (the enum environment names the three ARM / RISC-V section types) and two unpackers of the
  Bool tests a section predicate makes on a section description (`rawIs_true`, `body_beq_true`).
-/
import PyElf.Spec.C20File
namespace PyElf.Proofs.C20
open PyElf PyElf.Spec PyElf.Spec.C20

/-- the processor-specific section types C20 is about, as the enum environment must name them
    (psABI for the Arm architecture: SHT_ARM_EXIDX = 0x70000001, SHT_ARM_ATTRIBUTES = 0x70000003;
    RISC-V psABI: SHT_RISCV_ATTRIBUTES = 0x70000003) -/
structure EnvC20 (env : Env) : Prop where
  armAttr : env.enumDecode "ENUM_SH_TYPE_ARM" 0x70000003 = some "SHT_ARM_ATTRIBUTES"
  riscvAttr : env.enumDecode "ENUM_SH_TYPE_RISCV" 0x70000003 = some "SHT_RISCV_ATTRIBUTES"
  armExidx : env.enumDecode "ENUM_SH_TYPE_ARM" 0x70000001 = some "SHT_ARM_EXIDX"

theorem EnvC20.attr {env : Env} (he : EnvC20 env) (arch : Spec.Attr.Arch) :
    env.enumDecode (shTypeTable (mclassOf arch)) 0x70000003 = some (attrTypeName arch) := by
  cases arch
  · exact he.armAttr
  · exact he.riscvAttr

theorem rawIs_true {fs : Fields} {k : String} {v : Int} (h : rawIs fs k v = true) : Fields.get? fs k = some (.int v) := by
  unfold rawIs at h
  cases hg : Fields.get? fs k with
  | none => simp [hg] at h
  | some x =>
    cases x <;> simp [hg] at h
    rw [h]

theorem body_beq_true {body : Option Bytes} {X : Bytes}
    (h : (match body with | some b => b == X | none => false) = true) : body = some X := by
  cases body with
  | none => cases h
  | some b => rw [beq_iff_eq.1 h]

end PyElf.Proofs.C20
