/-
  The symbol-table model WITH the name decoding of `StringTableSection.get_string` (`Model/SymbolsDecoded.lean`) over a
  laid-out table, for names that are arbitrary byte strings: every symbol is reported with `utf8Replace` of the bytes its
  `st_name` denotes; the by-name map is keyed by these reported names.  On tables whose names are valid UTF-8 the decoding
  model is the plain one (`Model/Symbols.lean`), so everything proved about that one carries over.
-/
import PyElf.Model.SymbolsDecoded
import PyElf.Proofs.SymUtf8
import PyElf.Proofs.SymTable
namespace PyElf.Proofs.C03D
open PyElf PyElf.Spec PyElf.Spec.C03 PyElf.Model PyElf.Model.C03 PyElf.Proofs PyElf.Proofs.C03 PyElf.Proofs.C03U

def decSym (s : Symbol) : Symbol := (s.1, utf8Replace s.2)

theorem getSymbolD_eq (S : ElfStructs) (env : Env) (data : Bytes) (h : SecHdr) (strOff n : Nat) :
    getSymbolD S env data h strOff n = (getSymbol S env data h strOff n).map decSym := by
  unfold getSymbolD getSymbol symGetStringD symGetString pyDecodeReplace
  simp only [bind, Except.bind]
  cases structParse env S.Elf_Sym data (h.off + n * h.entsize) with
  | error e => rfl
  | ok r =>
    obtain ⟨entry, p⟩ := r
    simp only
    cases entry.getNat "st_name" with
    | error e => rfl
    | ok off =>
      simp only
      cases parseCStringFromStream data (strOff + off) with
      | error e => rfl
      | ok o =>
        cases o with
        | none => simp [pure, Except.pure, Except.map, decSym, utf8Replace_nil]
        | some s => rfl

theorem getD_map_utf8 (names : List Bytes) (i : Nat) :
    (names.map utf8Replace).getD i [] = utf8Replace (names.getD i []) := by
  simp only [List.getD_eq_getElem?_getD, List.getElem?_map]
  cases names[i]? with
  | none => simp [utf8Replace_nil]
  | some x => rfl

theorem decSym_symObs (dec : String → Int → Option String) (cls : Nat) (es : List SymE) (names : List Bytes) (i : Nat) :
    decSym (symObs dec cls es names i) = symObs dec cls es (names.map utf8Replace) i := by
  simp only [decSym, symObs, getD_map_utf8]

section table
variable {le : Bool} {cls : Nat} {data : Bytes} {h : SecHdr} {strOff : Nat} {es : List SymE} {names : List Bytes}
variable (env : Env) {S : ElfStructs} (hS : S.Elf_Sym = symCon le cls)
include hS

theorem layout_getSymbolD (L : SymtabLayout le cls data h strOff es names) (i : Nat) (hi : i < es.length) :
    getSymbolD S env data h strOff i
      = .ok (symObs env.enumDecode cls es (names.map utf8Replace) i) := by
  rw [getSymbolD_eq, layout_getSymbol env hS L i hi, ← decSym_symObs]
  rfl

theorem layout_iterSymbolsD (L : SymtabLayout le cls data h strOff es names) :
    iterSymbolsD S env data h strOff
      = .ok ((List.range es.length).map (symObs env.enumDecode cls es (names.map utf8Replace))) := by
  simp only [iterSymbolsD, layout_numSymbols L, bind, Except.bind]
  exact collectRange_src (layout_getSymbolD env hS L)

theorem layout_byNameD (L : SymtabLayout le cls data h strOff es names) (name : Bytes) :
    getSymbolByNameD S env data h strOff name
      = .ok (if byName (names.map utf8Replace) name = [] then none
             else some ((byName (names.map utf8Replace) name).map
                    (symObs env.enumDecode cls es (names.map utf8Replace)))) := by
  simp only [getSymbolByNameD, layout_iterSymbolsD env hS L, bind, Except.bind]
  rw [byNameFrom_ok (layout_getSymbolD env hS L), srcNames_symObs (by rw [List.length_map, L.nlen])]

end table

theorem map_utf8Replace_valid (names : List Bytes) (hv : ∀ nm ∈ names, validUtf8 nm = true) :
    names.map utf8Replace = names := by
  induction names with
  | nil => rfl
  | cons x xs ih =>
    rw [List.map_cons, utf8Replace_of_valid x (hv x List.mem_cons_self),
      ih (fun nm h => hv nm (List.mem_cons_of_mem _ h))]

end PyElf.Proofs.C03D
