/-
  `bytes(expr)` on the description side: the list of numbers a block value is (`Spec.C04.byteList`, which is also
  `Spec.Lists.exprVal`) denotes its bytes (`Spec.C12.bytesOf`).  No model is involved.  Namespace `PyElf.Proofs.C12`.
-/
import PyElf.Spec.DwarfExprInfo
namespace PyElf.Proofs.C12
open PyElf PyElf.Spec PyElf.Spec.C12

theorem bytesOf_byteList (p : Bytes) : bytesOf (Spec.C04.byteList p) = some p := by
  simp only [bytesOf, Spec.C04.byteList]
  induction p with
  | nil => rfl
  | cons b p ih =>
    rw [List.map_cons, List.mapM_cons, ih]
    have hb : b.toNat < 256 := b.toNat_lt
    have h1 : (0 : Int) ≤ (b.toNat : Int) ∧ (b.toNat : Int) < 256 := by omega
    simp only [byteOf, h1, and_self, if_true, Int.toNat_natCast, bind, Option.bind, pure]
    congr 2
    exact UInt8.ofNat_toNat

end PyElf.Proofs.C12
