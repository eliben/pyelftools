/-
  Exact behaviour on malformed call-frame data, instruction level: an opcode byte outside the DW_CFA set → DWARFError
  (`parseInstr_unknown`); the data ends where an opcode byte is expected, or inside an instruction (inside either operand,
  a LEB128, a block) → ELFParseError (`parseInstr_eof`, `parseInstr_cut`); in namespace `CfiBad`.  At the end, in namespace
  `CfiSetLoc`, what the reader does with DW_CFA_set_loc whatever the FDE pointer encoding is (`parseInstr_set_loc`).
-/
import PyElf.Spec.CFI
import PyElf.Model.CallFrame
import PyElf.Proofs.Primitives
import PyElf.Proofs.CfiTable
import PyElf.Proofs.CfiParse
namespace PyElf.Proofs.CfiBad
open PyElf PyElf.Spec PyElf.Model PyElf.Proofs PyElf.Proofs.Cfi PyElf.Proofs.Engine

/-- the extended (high bits 00) opcodes of the DW_CFA set: DWARF 5 table 7.29 plus the two vendor opcodes -/
def knownExt : List Nat :=
  [0, 1, 2, 3, 4, 5, 6, 7, 8, 9, 0xa, 0xb, 0xc, 0xd, 0xe, 0xf, 0x10, 0x11, 0x12, 0x13, 0x14, 0x15, 0x16, 0x2d, 0x2e]

theorem and_c0_lt : ∀ op < 64, op &&& 0xc0 = 0 := by decide

/-- `dwarf_assert(False, 'Unknown CFI opcode')`: an opcode byte outside the DW_CFA set -/
theorem parseInstrArgs_unknown (S : DwarfStructs) (env : Env) (data : Bytes) (op p : Nat)
    (hlt : op < 0x40) (hunk : op ∉ knownExt) :
    parseInstrArgs Spec.cfiTables S env data op p = .error .dwarfError := by
  have h0 := and_c0_lt op hlt
  simp only [knownExt, List.mem_cons, List.not_mem_nil, or_false, not_or] at hunk
  obtain ⟨h00, h01, h02, h03, h04, h05, h06, h07, h08, h09, h0a, h0b, h0c, h0d, h0e, h0f, h10, h11, h12, h13, h14,
    h15, h16, h2d, h2e⟩ := hunk
  simp [parseInstrArgs, Spec.cfiTables, cfaOps, h0, h00, h01, h02, h03, h04, h05, h06, h07, h08, h09, h0a, h0b, h0c,
    h0d, h0e, h0f, h10, h11, h12, h13, h14, h15, h16, h2d, h2e]

theorem parseInstr_unknown {S : DwarfStructs} {le : Bool} {asz : Nat} (hS : InstrStructs S le asz) (env : Env)
    (data : Bytes) (pos op : Nat) (rest : Bytes) (hd : data.drop pos = byte op ++ rest)
    (hlt : op < 0x40) (hunk : op ∉ knownExt) :
    parseInstr Spec.cfiTables S env data pos = .error .dwarfError := by
  simp only [parseInstr, hS.u8, (Reads.byte (by omega)).structParse hd, asNat_nat, parseInstrArgs_unknown S env data op (pos + 1) hlt hunk,
    bind, Except.bind]

theorem parseInstr_eof {S : DwarfStructs} {le : Bool} {asz : Nat} (hS : InstrStructs S le asz) (env : Env)
    (data : Bytes) (pos : Nat) (h : data.length ≤ pos) :
    parseInstr Spec.cfiTables S env data pos = .error .elfParseError := by
  simp only [parseInstr, hS.u8, structParse_error (parse_uint_short (n := 1) (List.drop_eq_nil_of_le h) (by simp)), bind, Except.bind]

def hasOperands : Cfa → Bool
  | .advance_loc _ | .restore _ | .nop | .remember_state | .restore_state | .negate_ra_state => false
  | _ => true

theorem parseInstr_cut {S : DwarfStructs} {le : Bool} {asz : Nat} (hS : InstrStructs S le asz) (env : Env)
    (data : Bytes) (pos : Nat) (i : Cfa) (hw : i.wf asz = true) (k : Nat)
    (hk : k < (i.enc le asz).length) (hd : data.drop pos = (i.enc le asz).take k) :
    parseInstr Spec.cfiTables S env data pos = .error .elfParseError :=
  (parseInstr_parses hS env data pos i hw).cut hk hd

theorem enc_length_gt {le : Bool} {asz : Nat} {i : Cfa} (hw : i.wf asz = true) (ho : hasOperands i = true)
    (hasz : 0 < asz) : 1 < (i.enc le asz).length := by
  have hwf := opnds_wf hw
  rw [enc_eq_opnds, List.length_append, byte_length]
  cases i
  -- the six instructions without operands are excluded by `ho`
  all_goals simp only [hasOperands, Bool.false_eq_true] at ho
  -- every operand kind occupies at least one byte (`0 < asz` for the target address of `DW_CFA_set_loc`)
  all_goals simp only [opnds, List.flatMap_cons, List.flatMap_nil, List.length_append, List.length_nil, Opnd.enc_length,
    Opnd.len, List.mem_cons, List.not_mem_nil, or_false, forall_eq_or_imp, forall_eq, Opnd.wf, ULeb.wf, SLeb.wf,
    Block.wf, Bool.and_eq_true, decide_eq_true_eq] at hwf ⊢
  all_goals omega

theorem parseInstr_operand_eof {S : DwarfStructs} {le : Bool} {asz : Nat} (hS : InstrStructs S le asz) (env : Env)
    (data : Bytes) (pos : Nat) (i : Cfa) (hw : i.wf asz = true) (ho : hasOperands i = true) (hasz : 0 < asz)
    (hd : data.drop pos = byte i.opcode) :
    parseInstr Spec.cfiTables S env data pos = .error .elfParseError := by
  refine parseInstr_cut hS env data pos i hw 1 (enc_length_gt hw ho hasz) ?_
  rw [hd, enc_eq_opnds]
  rfl

end PyElf.Proofs.CfiBad

namespace PyElf.Proofs.CfiSetLoc
open PyElf PyElf.Spec PyElf.Model PyElf.Proofs PyElf.Proofs.Cfi PyElf.Proofs.Engine

/-- the boundary `eh-set-loc-encoding`: the reader takes the `asz` bytes after opcode 0x01 as an unsigned target address,
    whatever the FDE pointer encoding is -/
theorem parseInstr_set_loc {S : DwarfStructs} {le : Bool} {asz : Nat} (hS : InstrStructs S le asz) (env : Env)
    (data : Bytes) (pos : Nat) (bs rest : Bytes) (hd : data.drop pos = byte 1 ++ (bs ++ rest)) (hn : bs.length = asz) :
    parseInstr Spec.cfiTables S env data pos = .ok (⟨1, [.int (decNat le bs)]⟩, pos + 1 + asz) := by
  have hd1 : data.drop (pos + 1) = bs ++ rest := drop_after hd (n := 1) rfl
  have hop : structParse env (.uint asz le) data (pos + 1) = .ok (.int (decNat le bs), pos + 1 + asz) := by
    simp only [structParse, parse_uint_ok hd1 hn, bind, Except.bind, pure, Except.pure]
  have hargs : parseInstrArgs Spec.cfiTables S env data 1 (pos + 1) = .ok ([.int (decNat le bs)], pos + 1 + asz) := by
    simp (config := { decide := true }) [parseInstrArgs, hS.addr, hop, bind, Except.bind, pure,
      Except.pure]
  simp only [parseInstr, hS.u8, (Reads.byte (by decide)).structParse hd, asNat_nat, hargs, bind, Except.bind, pure, Except.pure]

end PyElf.Proofs.CfiSetLoc
