/-
  The regenerated enumeration tables as the tie theorems use them: `name` is the name the table reports for
  code `c`, and for no other code.  Decided per table by one linear pass in the kernel (`namesOnly`, `nameAbsent`);
  everything the properties ask of a table's names follows from `decodeIn_eq_some_iff` (`NamesOnly` is the same of
  an environment, for a list of names; `decodeIn_elim` is the case split on what a table decodes a code to).
  The file also holds the lists of tables that share a common part (`dynTagTables`, `pTypeTables`, `shTypeTables`):
  a property evaluates what it asks of such a family in ONE theorem, since within one kernel run what the tables
  share is compared once.
-/
import PyElf.Model.Env
import PyElf.Proofs.ListFacts
import PyElf.Spec.Dynamic
import PyElf.Proofs.Engine
namespace PyElf.Proofs.EnumTable
open PyElf PyElf.Model

def genTable (tid : String) : List (String × Int) :=
  match Gen.tables.find? (·.1 == tid) with
  | some (_, t, _) => t
  | none => []

theorem genEnumDecode_eq (tid : String) (v : Int) : genEnumDecode tid v = decodeIn (genTable tid) v := by
  unfold genEnumDecode genTable
  cases Gen.tables.find? (·.1 == tid) <;> rfl

theorem mem_of_decodeIn {T : List (String × Int)} {v : Int} {k : String} (h : decodeIn T v = some k) : (k, v) ∈ T := by
  obtain ⟨A, ⟨n, x⟩, B, hT, hx, hk, -⟩ := Engine.foldl_last_none (fun e : String × Int => e.2) (·.1) (T := T) (v := v) h
  rw [hT, ← hx, ← hk]
  exact List.mem_append_right _ List.mem_cons_self

/-- `T` decodes `p.2` to `p.1`, and no entry with another code bears that name -/
def namesOnly (T : List (String × Int)) (p : String × Int) : Bool :=
  decodeIn T p.2 == some p.1 && T.all fun e => e.2 == p.2 || e.1 != p.1

theorem decodeIn_eq_some_iff {T : List (String × Int)} {name : String} {c : Int} (h : namesOnly T (name, c) = true)
    (n : Int) : decodeIn T n = some name ↔ n = c := by
  simp only [namesOnly, Bool.and_eq_true, beq_iff_eq, List.all_eq_true, Bool.or_eq_true, bne_iff_ne] at h
  refine ⟨fun hn => ?_, fun hn => hn ▸ h.1⟩
  exact (h.2 _ (mem_of_decodeIn hn)).resolve_right (fun ne => ne rfl)

theorem genEnumDecode_iff {tid name : String} {c : Int} (h : namesOnly (genTable tid) (name, c) = true) (n : Int) :
    genEnumDecode tid n = some name ↔ n = c := by
  rw [genEnumDecode_eq]
  exact decodeIn_eq_some_iff h n

theorem genEnumDecode_nat_iff {tid name : String} {v : Nat} (h : namesOnly (genTable tid) (name, v) = true) (n : Nat) :
    genEnumDecode tid n = some name ↔ n = v :=
  (genEnumDecode_iff h n).trans Int.natCast_inj

/-- the environment names the codes of `L` as `L` does, and nothing else by those names -/
def NamesOnly (env : Env) (tbl : String) (L : List (String × Int)) : Prop :=
  ∀ p ∈ L, ∀ n : Int, env.enumDecode tbl n = some p.1 ↔ n = p.2

theorem namesOnly_elfEnv {tid : String} {L : List (String × Int)} (h : L.all (namesOnly (genTable tid)) = true) :
    NamesOnly elfEnv tid L :=
  fun p hp n => genEnumDecode_iff (List.all_eq_true.1 h p hp) n

/-- a code is presented under `name` exactly when it is `name`'s code -/
theorem NamesOnly.beq {env : Env} {tbl : String} {L : List (String × Int)} (h : NamesOnly env tbl L) {name : String}
    {c : Int} (hp : (name, c) ∈ L) (t : Int) : (Engine.enumVal env.enumDecode tbl t == Val.str name) = (t == c) := by
  have h := h _ hp t
  simp only at h
  unfold Engine.enumVal
  cases hd : env.enumDecode tbl t with
  | none =>
    have : t ≠ c := fun e => by rw [h.2 e] at hd; cases hd
    simp [Val.int_beq_str, this]
  | some s =>
    rw [hd] at h
    simp only [Val.str_beq, Option.some.injEq] at h ⊢
    exact Bool.eq_iff_iff.2 (by simpa using h)

def nameAbsent (T : List (String × Int)) (name : String) : Bool := T.all fun e => e.1 != name

theorem decodeIn_ne_of_absent {T : List (String × Int)} {name : String} (h : nameAbsent T name = true) (n : Int) :
    decodeIn T n ≠ some name := fun hn => by
  simpa using List.all_eq_true.1 h _ (mem_of_decodeIn hn)

/-- the tag tables `Elf_Dyn` is built over (`Spec.dTagTable`), each with whether it holds the Solaris tags (`usesSunw`) -/
def dynTagTables : List (String × Bool) :=
  [("ENUM_D_TAG_COMMON", false), ("ENUM_D_TAG_COMMON+ENUM_D_TAG_SOLARIS", true),
   ("ENUM_D_TAG_COMMON+ENUM_D_TAG_MIPS", false), ("ENUM_D_TAG_COMMON+ENUM_D_TAG_AARCH64", false)]

theorem dTagTable_mem (m : String) (s : Bool) :
    (Spec.dTagTable m s, Spec.Dynamic.usesSunw m s) ∈ dynTagTables := by
  unfold Spec.dTagTable Spec.Dynamic.usesSunw
  split <;> split <;> first | contradiction | (cases s <;> simp_all [dynTagTables])

theorem dynTagTables_all {P : String → Bool → Bool} (h : dynTagTables.all (fun t => P t.1 t.2) = true)
    (m : String) (s : Bool) : P (Spec.dTagTable m s) (Spec.Dynamic.usesSunw m s) = true :=
  List.all_eq_true.1 h (Spec.dTagTable m s, Spec.Dynamic.usesSunw m s) (dTagTable_mem m s)

/-- the tables `Elf_Phdr.p_type` / `Elf_Shdr.sh_type` are decoded with (`Spec.pTypeTable`, `Spec.shTypeTable`) -/
def pTypeTables : List String :=
  ["ENUM_P_TYPE_BASE", "ENUM_P_TYPE_ARM", "ENUM_P_TYPE_AARCH64", "ENUM_P_TYPE_MIPS", "ENUM_P_TYPE_RISCV"]
def shTypeTables : List String :=
  ["ENUM_SH_TYPE_BASE", "ENUM_SH_TYPE_AMD64", "ENUM_SH_TYPE_ARM", "ENUM_SH_TYPE_AARCH64", "ENUM_SH_TYPE_RISCV",
   "ENUM_SH_TYPE_MIPS"]

theorem pTypeTable_mem (m : String) : Spec.pTypeTable m ∈ pTypeTables := by
  unfold Spec.pTypeTable pTypeTables
  split <;> simp

theorem shTypeTable_mem (m : String) : Spec.shTypeTable m ∈ shTypeTables := by
  unfold Spec.shTypeTable shTypeTables
  split <;> simp

/-- To prove something of `decodeIn T v` for every `v`, check it at each entry of the table and at the codes outside
    it: dispatching on the decoded name is dispatching on the code. -/
theorem decodeIn_elim (T : List (String × Int)) (v : Int) (P : Option String → Prop)
    (hin : ∀ p ∈ T, p.2 = v → P (some p.1)) (hout : (∀ p ∈ T, p.2 ≠ v) → P none) : P (decodeIn T v) := by
  rcases Engine.foldl_last (fun e : String × Int => e.2) (·.1) v T none with ⟨h1, h2⟩ | ⟨A, p, B, hT, h1, -, h2⟩
  · rw [show decodeIn T v = none from h2]
    exact hout h1
  · rw [show decodeIn T v = some p.1 from h2]
    exact hin p (hT ▸ List.mem_append_right _ List.mem_cons_self) h1

end PyElf.Proofs.EnumTable
