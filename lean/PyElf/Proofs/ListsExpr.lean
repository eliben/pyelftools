/-
  C07 × C12: the expression bytes a location entry (or a `LocationExpr`) carries, handed to `DWARFExprParser`.

  `loc_expr` is a Python list of ints (`exprVal`); `parse_expr` wraps it in `BytesIO(bytes(expr))` — `exprBytes`
  is that conversion (`bytes()` refuses an element outside 0..255: `none`).
-/
import PyElf.Spec.Lists
import PyElf.Model.Lists
import PyElf.Proofs.BytesOf
namespace PyElf.Proofs.ListsExpr
open PyElf PyElf.Spec PyElf.Spec.Lists

def exprBytes : Val → Option Bytes
  | .list vs => vs.mapM fun v => match v with
      | .int n => if 0 ≤ n ∧ n < 256 then some (UInt8.ofNat n.toNat) else none
      | _ => none
  | _ => none

/-- `Spec.C12.bytesOf` written out -/
theorem exprBytes_eq_bytesOf : exprBytes = Spec.C12.bytesOf := by
  funext v
  cases v <;> rfl

theorem exprBytes_exprVal (x : Bytes) : exprBytes (exprVal x) = some x := by
  rw [exprBytes_eq_bytesOf]
  exact C12.bytesOf_byteList x

theorem locationEntry_expr (off len : Nat) (b e : Int) (x : Bytes) (abs : Bool) :
    Model.Lists.attr (locationEntry off len b e x abs) "loc_expr" = .ok (exprVal x) := by
  simp [Model.Lists.attr, locationEntry, Fields.get?]

end PyElf.Proofs.ListsExpr
