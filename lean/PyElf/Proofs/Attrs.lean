/-
  C20: the ARM / RISC-V build-attributes parser (Model/Attributes.lean) over the encoder of Spec/Attributes.lean.
  Every reader is stated once, as `Parses` (Proofs/Cut.lean): the bytes are read as the description says, and where the
  data end inside them the reader raises ELFParseError.  The three loops are `walk`s (Proofs/Walk.lean), and what is
  proved per level is that the member is parsed (`parses_attr`, `parses_subSub`, `parses_subSection`).
  `tagTableId`, `attrs_roundtrip_at` and `attrs_roundtrip` are in `PyElf.Proofs`, the rest in `PyElf.Proofs.Attrs`.
-/
import PyElf.Proofs.Walk
import PyElf.Proofs.Cut
import PyElf.Spec.ElfStructs
import PyElf.Spec.Attributes
import PyElf.Spec.AttrMalformed
import PyElf.Model.Attributes
namespace PyElf.Proofs
open PyElf PyElf.Spec PyElf.Model PyElf.Proofs.Engine PyElf.Proofs.Walk

def tagTableId : Spec.Attr.Arch → String
  | .arm => "ENUM_ATTR_TAG_ARM"
  | .riscv => "ENUM_ATTR_TAG_RISCV"

namespace Attrs
open Spec.Attr Model.Attr

theorem S_byte (cfg : ElfCfg) : (Spec.elfStructs cfg).Elf_byte = .uint 1 cfg.le := rfl
theorem S_word (cfg : ElfCfg) : (Spec.elfStructs cfg).Elf_word = .uint 4 cfg.le := rfl
theorem S_uleb (cfg : ElfCfg) : (Spec.elfStructs cfg).Elf_uleb128 = .uleb := rfl
theorem S_ntbs (cfg : ElfCfg) : (Spec.elfStructs cfg).Elf_ntbs = .cstring := rfl
theorem S_hdr (cfg : ElfCfg) : (Spec.elfStructs cfg).Elf_Attr_Subsection_Header
    = .struct (.cons (some "length") false (.uint 4 cfg.le) (.cons (some "vendor_name") false .cstring .nil)) := rfl
theorem S_armTag (cfg : ElfCfg) : (Spec.elfStructs cfg).Elf_Arm_Attribute_Tag
    = .struct (.cons (some "tag") false (.enum .uleb "ENUM_ATTR_TAG_ARM" false) .nil) := rfl
theorem S_riscvTag (cfg : ElfCfg) : (Spec.elfStructs cfg).Elf_RiscV_Attribute_Tag
    = .struct (.cons (some "tag") false (.enum .uleb "ENUM_ATTR_TAG_RISCV" false) .nil) := rfl

theorem U_enc_length (u : U) : u.enc.length = u.n := encUlebN_length _ _
theorem U_wf_iff {u : U} (h : u.wf = true) : 1 ≤ u.n ∧ u.v < 2 ^ (7 * u.n) := by simpa [U.wf] using h
theorem strWf_iff {s : Bytes} (h : strWf s = true) : (∀ b ∈ s, b ≠ 0) ∧ validUtf8 s = true := by
  simpa [strWf] using h

section leaves
variable {env : Env} {cfg : ElfCfg} {data : Bytes} {pos : Nat}

theorem parses_int {c : Con} {bs : Bytes} {z : Int} {err : Err}
    (h : Parses err (structParse env c data) data pos bs (.int z)) : Parses err (parseInt env c data) data pos bs z :=
  h.seq_pure rfl rfl

theorem parses_U {u : U} (hu : u.wf = true) : Parses .elfParseError (parseInt env .uleb data) data pos u.enc (u.v : Int) :=
  parses_int (parses_uleb (U_wf_iff hu).1 (U_wf_iff hu).2)

theorem parses_word {le : Bool} {v : Nat} (hv : v < 2 ^ 32) :
    Parses .elfParseError (parseInt env (.uint 4 le) data) data pos (encNat le 4 v) (v : Int) :=
  parses_int (parses_uint (by simpa using hv))

theorem encNat_byte (le : Bool) (b : UInt8) : encNat le 1 b.toNat = [b] := by
  cases le <;> simp [encNat, natBE, natLE, Nat.mod_eq_of_lt b.toNat_lt]

theorem parses_u8 {le : Bool} (b : UInt8) :
    Parses .elfParseError (parseInt env (.uint 1 le) data) data pos [b] (b.toNat : Int) :=
  (parses_int (parses_uint (n := 1) (v := b.toNat) (by simpa using b.toNat_lt))).as (encNat_byte le b).symm rfl

theorem parses_ntbs {s : Bytes} (hs : strWf s = true) :
    Parses .elfParseError (parseNtbs env (Spec.elfStructs cfg) data) data pos (s ++ [0]) (.bytes s) :=
  (parses_cstring (strWf_iff hs).1).seq_pure rfl (by simp [decodeNtbs, (strWf_iff hs).2, bind, Except.bind, pure, Except.pure])

theorem parses_tag {u : U} {tbl name : String} (hu : u.wf = true) (hn : env.enumDecode tbl (u.v : Int) = some name) :
    Parses .elfParseError (structParse env (.struct (.cons (some "tag") false (.enum .uleb tbl false) .nil)) data) data pos
      u.enc (.record [("tag", .str name)]) :=
  (Parses.of_whole (.struct (.named (.enum_named (.uleb (U_wf_iff hu).1 (U_wf_iff hu).2) hn) .nil)
    (by simp [Fields.set]))).as (by simp [U.enc]) rfl

theorem parses_hdr {le : Bool} {len : Nat} {vendor : Bytes} (hlen : len < 2 ^ 32) (hv : ∀ b ∈ vendor, b ≠ 0) :
    Parses .elfParseError
      (structParse env (.struct (.cons (some "length") false (.uint 4 le) (.cons (some "vendor_name") false .cstring .nil))) data)
      data pos (encNat le 4 len ++ (vendor ++ [0])) (.record [("length", .int len), ("vendor_name", .bytes vendor)]) :=
  (Parses.of_whole (.struct (.named (.uint (by simpa using hlen)) (.named (.cstring hv) .nil))
    (by simp [Fields.set]))).as (by simp) rfl

end leaves

theorem nameIn_mem : ∀ (tbl : List (String × Int)) (t : Nat) (name : String),
    nameIn tbl t = some name → (name, (t : Int)) ∈ tbl := by
  intro tbl
  induction tbl with
  | nil => intro t name h; simp [nameIn] at h
  | cons p tbl ih =>
    obtain ⟨k, x⟩ := p
    intro t name h
    rw [nameIn] at h
    cases hr : nameIn tbl t with
    | some k' =>
      rw [hr] at h
      simp only [Option.some.injEq] at h
      subst h
      exact List.mem_cons_of_mem _ (ih t _ hr)
    | none =>
      rw [hr] at h
      simp only at h
      split at h
      · rename_i hx
        simp only [Option.some.injEq] at h
        subst h; subst hx
        exact List.mem_cons_self
      · simp at h

def armCheck (p : String × Int) : Bool :=
  (["TAG_FILE", "TAG_SECTION", "TAG_SYMBOL"].contains p.1 == (p.2 == 1 || p.2 == 2 || p.2 == 3)) &&
  (["TAG_FILE"].contains p.1 == (p.2 == 1)) &&
  (["TAG_CPU_RAW_NAME", "TAG_CPU_NAME", "TAG_CONFORMANCE"].contains p.1 == (p.2 == 4 || p.2 == 5 || p.2 == 67)) &&
  (["TAG_COMPATIBILITY"].contains p.1 == (p.2 == 32)) &&
  (["TAG_ALSO_COMPATIBLE_WITH"].contains p.1 == (p.2 == 65))

def riscvCheck (p : String × Int) : Bool :=
  (["TAG_FILE", "TAG_SECTION", "TAG_SYMBOL"].contains p.1 == (p.2 == 1 || p.2 == 2 || p.2 == 3)) &&
  (["TAG_FILE"].contains p.1 == (p.2 == 1)) &&
  (["TAG_ARCH"].contains p.1 == (p.2 == 5))

theorem armCheck_all : armTags.all armCheck = true := by decide +kernel
theorem riscvCheck_all : riscvTags.all riscvCheck = true := by decide +kernel

theorem int_beq_nat (t k : Nat) : (((t : Int) == ((k : Nat) : Int)) = (t == k)) := by
  rw [Bool.eq_iff_iff]; simp only [beq_iff_eq]; omega

theorem arm_dispatch {t : Nat} {name : String} (h : tagName .arm t = some name) :
    tagIn (.str name) ["TAG_FILE", "TAG_SECTION", "TAG_SYMBOL"] = (t == 1 || t == 2 || t == 3) ∧
    tagIn (.str name) ["TAG_FILE"] = (t == 1) ∧
    tagIn (.str name) ["TAG_CPU_RAW_NAME", "TAG_CPU_NAME", "TAG_CONFORMANCE"] = (t == 4 || t == 5 || t == 67) ∧
    tagIn (.str name) ["TAG_COMPATIBILITY"] = (t == 32) ∧
    tagIn (.str name) ["TAG_ALSO_COMPATIBLE_WITH"] = (t == 65) := by
  have hm := nameIn_mem _ _ _ h
  have := List.all_eq_true.1 armCheck_all _ hm
  simp only [armCheck, Bool.and_eq_true, beq_iff_eq] at this
  obtain ⟨⟨⟨⟨h1, h2⟩, h3⟩, h4⟩, h5⟩ := this
  simp only [tagIn]
  rw [h1, h2, h3, h4, h5]
  have e := int_beq_nat t
  exact ⟨by rw [← e 1, ← e 2, ← e 3]; rfl, by rw [← e 1]; rfl, by rw [← e 4, ← e 5, ← e 67]; rfl,
    by rw [← e 32]; rfl, by rw [← e 65]; rfl⟩

theorem riscv_dispatch {t : Nat} {name : String} (h : tagName .riscv t = some name) :
    tagIn (.str name) ["TAG_FILE", "TAG_SECTION", "TAG_SYMBOL"] = (t == 1 || t == 2 || t == 3) ∧
    tagIn (.str name) ["TAG_FILE"] = (t == 1) ∧
    tagIn (.str name) ["TAG_ARCH"] = (t == 5) := by
  have hm := nameIn_mem _ _ _ h
  have := List.all_eq_true.1 riscvCheck_all _ hm
  simp only [riscvCheck, Bool.and_eq_true, beq_iff_eq] at this
  obtain ⟨⟨h1, h2⟩, h3⟩ := this
  simp only [tagIn]
  rw [h1, h2, h3]
  have e := int_beq_nat t
  exact ⟨by rw [← e 1, ← e 2, ← e 3]; rfl, by rw [← e 1]; rfl, by rw [← e 5]; rfl⟩

/-- the tag-name tests of `ARMAttribute.__init__` on the name of a tag of kind `k` -/
structure ArmKind (t : Nat) (k : Kind) (name : String) : Prop where
  named : tagName .arm t = some name
  scope : tagIn (.str name) ["TAG_FILE", "TAG_SECTION", "TAG_SYMBOL"] = (k == .scope)
  file : tagIn (.str name) ["TAG_FILE"] = (t == 1)
  ntbs : tagIn (.str name) ["TAG_CPU_RAW_NAME", "TAG_CPU_NAME", "TAG_CONFORMANCE"] = (k == .ntbs)
  compat : tagIn (.str name) ["TAG_COMPATIBILITY"] = (k == .compat)
  also : tagIn (.str name) ["TAG_ALSO_COMPATIBLE_WITH"] = (k == .also)

/-- the splits follow the `if` chain of `Spec.Attr.kind` (scope, then NTBS, compatibility, also-compatible-with, else
    ULEB128); in each branch the tag number is known and the five tests are evaluated -/
theorem kind_arm {t : Nat} {k : Kind} (hk : kind .arm t = some k) : ∃ name, ArmKind t k name := by
  cases htn : tagName .arm t with
  | none => simp [kind, htn] at hk
  | some name =>
    obtain ⟨h1, h2, h3, h4, h5⟩ := arm_dispatch htn
    suffices h : tagIn (.str name) ["TAG_FILE", "TAG_SECTION", "TAG_SYMBOL"] = (k == .scope) ∧
        tagIn (.str name) ["TAG_FILE"] = (t == 1) ∧
        tagIn (.str name) ["TAG_CPU_RAW_NAME", "TAG_CPU_NAME", "TAG_CONFORMANCE"] = (k == .ntbs) ∧
        tagIn (.str name) ["TAG_COMPATIBILITY"] = (k == .compat) ∧
        tagIn (.str name) ["TAG_ALSO_COMPATIBLE_WITH"] = (k == .also) from ⟨name, htn, h.1, h.2.1, h.2.2.1, h.2.2.2.1, h.2.2.2.2⟩
    rw [h1, h2, h3, h4, h5]
    simp only [kind, htn, Option.isNone_some, Bool.false_eq_true, if_false] at hk
    split at hk
    · cases hk; rename_i hc; rcases hc with rfl | rfl | rfl <;> decide
    · rename_i hc
      split at hk
      · cases hk; rename_i hc; rcases hc with rfl | rfl | rfl <;> decide
      · split at hk
        · cases hk; rename_i hc; subst hc; decide
        · split at hk
          · cases hk; rename_i hc; subst hc; decide
          · cases hk
            rename_i h4 h32 h65
            obtain ⟨a1, a2, a3⟩ := not_or.1 hc |>.imp id not_or.1
            obtain ⟨b1, b2, b3⟩ := not_or.1 h4 |>.imp id not_or.1
            have e1 : (Kind.uleb == Kind.scope) = false := by decide
            have e2 : (Kind.uleb == Kind.ntbs) = false := by decide
            have e3 : (Kind.uleb == Kind.compat) = false := by decide
            have e4 : (Kind.uleb == Kind.also) = false := by decide
            simp [*]

/-- … of `RISCVAttribute.__init__` -/
structure RiscvKind (t : Nat) (k : Kind) (name : String) : Prop where
  named : tagName .riscv t = some name
  scope : tagIn (.str name) ["TAG_FILE", "TAG_SECTION", "TAG_SYMBOL"] = (k == .scope)
  file : tagIn (.str name) ["TAG_FILE"] = (t == 1)
  ntbs : tagIn (.str name) ["TAG_ARCH"] = (k == .ntbs)
  kinds : k = .scope ∨ k = .ntbs ∨ k = .uleb

theorem kind_riscv {t : Nat} {k : Kind} (hk : kind .riscv t = some k) : ∃ name, RiscvKind t k name := by
  cases htn : tagName .riscv t with
  | none => simp [kind, htn] at hk
  | some name =>
    obtain ⟨h1, h2, h3⟩ := riscv_dispatch htn
    suffices h : tagIn (.str name) ["TAG_FILE", "TAG_SECTION", "TAG_SYMBOL"] = (k == .scope) ∧
        tagIn (.str name) ["TAG_FILE"] = (t == 1) ∧
        tagIn (.str name) ["TAG_ARCH"] = (k == .ntbs) ∧ (k = .scope ∨ k = .ntbs ∨ k = .uleb) from
      ⟨name, htn, h.1, h.2.1, h.2.2.1, h.2.2.2⟩
    rw [h1, h2, h3]
    simp only [kind, htn, Option.isNone_some, Bool.false_eq_true, if_false] at hk
    split at hk
    · cases hk; rename_i hc; rcases hc with rfl | rfl | rfl <;> decide
    · rename_i hc
      split at hk
      · cases hk; rename_i hc; subst hc; decide
      · cases hk
        rename_i h5
        obtain ⟨a1, a2, a3⟩ := not_or.1 hc |>.imp id not_or.1
        have e1 : (Kind.uleb == Kind.scope) = false := by decide
        have e2 : (Kind.uleb == Kind.ntbs) = false := by decide
        simp [*]

theorem encNums_nil : encNums [] = [0] := rfl
theorem encNums_cons (u : U) (nums : List U) : encNums (u :: nums) = u.enc ++ encNums nums := by
  simp [encNums, List.append_assoc]

section
variable {env : Env} {cfg : ElfCfg} {data : Bytes}

/-- The fuel is measured against the data left (the Python has none; the mirror passes `len(data) - pos + 2`), so the
    statement of the continuation behind a number holds only where the number stands in the data: `Parses.seq` does not
    apply and the two halves are proved by hand. -/
theorem parses_sNumbers : ∀ (nums : List U) (fuel pos : Nat) (acc : List Val),
    (∀ u ∈ nums, u.wf = true ∧ u.v ≠ 0) → data.length - pos < fuel →
    Parses .elfParseError (fun p => sNumbers env (Spec.elfStructs cfg) data fuel p acc) data pos (encNums nums)
      (acc.reverse ++ nums.map fun u => Val.int u.v)
  | [], fuel + 1, pos, acc, _, _ =>
    (parses_U (u := ⟨0, 1⟩) (by decide)).seq_pure rfl (by simp [pure, Except.pure])
  | u :: nums, fuel + 1, pos, acc, h, hf => by
    obtain ⟨hu, hnz⟩ := h u (by simp)
    have hne : ((u.v : Nat) : Int) ≠ 0 := by omega
    have hun : 1 ≤ u.enc.length := by rw [U_enc_length]; exact (U_wf_iff hu).1
    have step : ∀ {tl : Bytes}, data.drop pos = u.enc ++ tl →
        sNumbers env (Spec.elfStructs cfg) data (fuel + 1) pos acc
          = sNumbers env (Spec.elfStructs cfg) data fuel (pos + u.enc.length) (.int u.v :: acc) ∧
        data.length - (pos + u.enc.length) < fuel := fun hd => by
      have hl := length_of_drop hd
      rw [List.length_append] at hl
      refine ⟨?_, by omega⟩
      rw [sNumbers, S_uleb, (parses_U hu).ok hd]
      simp only [Engine.ok_bind, ne_eq, hne, not_false_eq_true, if_true]
    have ih := fun hf' => parses_sNumbers nums fuel (pos + u.enc.length) (.int u.v :: acc)
      (fun x hx => h x (by simp [hx])) hf'
    rw [encNums_cons]
    refine ⟨fun {rest} hd => ?_, fun {j} hj hd => ?_⟩
    · rw [List.append_assoc] at hd
      obtain ⟨e, hf'⟩ := step hd
      rw [e, (ih hf').ok (drop_add_of_drop hd), List.length_append, Nat.add_assoc]
      simp
    · rcases cut_append hd hj with ⟨h1, e1⟩ | ⟨h1, e1, e2⟩
      · rw [sNumbers, S_uleb, (parses_U hu).cut h1 e1]; rfl
      · obtain ⟨e, hf'⟩ := step e1
        rw [e, (ih hf').cut h1 e2]

end

theorem nameVal_of {a : Arch} {t : Nat} {name : String} (h : tagName a t = some name) :
    nameVal a t = .str name := by simp [nameVal, h]

theorem getField_tag (v : Val) : (Val.record [("tag", v)]).getField "tag" = .ok v := rfl

theorem encAttr_int (u w : U) : encAttr ⟨u, .simple (.int w)⟩ = u.enc ++ w.enc := rfl
theorem encAttr_str (u : U) (s : Bytes) : encAttr ⟨u, .simple (.str s)⟩ = u.enc ++ (s ++ [0]) := rfl
theorem encAttr_compat (u f : U) (v : Bytes) : encAttr ⟨u, .compat f v⟩ = u.enc ++ (f.enc ++ (v ++ [0])) := rfl
theorem encAttr_also_int (u t w : U) : encAttr ⟨u, .also t (.int w)⟩ = u.enc ++ (t.enc ++ (w.enc ++ [0])) := rfl
theorem encAttr_also_str (u t : U) (s : Bytes) : encAttr ⟨u, .also t (.str s)⟩ = u.enc ++ (t.enc ++ (s ++ [0])) := rfl

/-! stated for a variable architecture, so that no tag table is unfolded when the two sides are compared -/

theorem obsAttr_simple (a : Arch) (u : U) (sv : Simple) :
    obsAttr a ⟨u, .simple sv⟩ = attrRecord (nameVal a u.v) (obsSimple sv) .none := rfl
theorem obsAttr_compat (a : Arch) (u f : U) (v : Bytes) :
    obsAttr a ⟨u, .compat f v⟩ = attrRecord (nameVal a u.v) (.int f.v) (.bytes v) := rfl
theorem obsAttr_also (a : Arch) (u t : U) (sv : Simple) :
    obsAttr a ⟨u, .also t sv⟩ = attrRecord (nameVal a u.v) (attrRecord (nameVal a t.v) (obsSimple sv) .none) .none := rfl

def simpleKind : Simple → Kind
  | .int _ => .uleb
  | .str _ => .ntbs

theorem kind_of_simpleMatches {a : Arch} {t : Nat} {sv : Simple}
    (h : (match kind a t with
      | some .uleb => simpleMatches .uleb sv
      | some .ntbs => simpleMatches .ntbs sv
      | _ => false) = true) : kind a t = some (simpleKind sv) := by
  revert h
  cases kind a t with
  | none => simp
  | some k => cases k <;> cases sv <;> simp [simpleMatches, simpleKind]

theorem valueWf_simple {a : Arch} {t : Nat} {sv : Simple} (h : valueWf a t (.simple sv) = true) :
    simpleWf sv = true ∧ kind a t = some (simpleKind sv) := by
  simp only [valueWf, Bool.and_eq_true] at h
  exact ⟨h.1, kind_of_simpleMatches h.2⟩

theorem valueWf_compat {a : Arch} {t : Nat} {f : U} {v : Bytes} (h : valueWf a t (.compat f v) = true) :
    f.wf = true ∧ strWf v = true ∧ kind a t = some .compat := by
  simpa [valueWf, and_assoc] using h

theorem valueWf_also {a : Arch} {t : Nat} {t' : U} {sv : Simple} (h : valueWf a t (.also t' sv) = true) :
    kind a t = some .also ∧ t'.wf = true ∧ simpleWf sv = true ∧ kind a t'.v = some (simpleKind sv) := by
  simp only [valueWf, Bool.and_eq_true, beq_iff_eq] at h
  exact ⟨h.1.1.1, h.1.1.2, h.1.2, kind_of_simpleMatches h.2⟩

def numsBytes (s : SubSub) : Bytes := if s.tag.v = 1 then [] else encNums s.nums

def hdrObj (a : Arch) (s : SubSub) : AttrObj :=
  { tag := nameVal a s.tag.v, value := .int s.size,
    extra := if s.tag.v = 1 then .none else .list (s.nums.map fun u => .int u.v), valueIsStr := false }

theorem subSubHdrWf_iff {a : Arch} {s : SubSub} (h : Spec.C20.subSubHdrWf a s = true) :
    s.tag.wf = true ∧ kind a s.tag.v = some .scope
      ∧ (s.tag.v ≠ 1 → ∀ u ∈ s.nums, u.wf = true ∧ u.v ≠ 0) ∧ s.size < 2 ^ 32 := by
  simp only [Spec.C20.subSubHdrWf, Bool.and_eq_true, Bool.or_eq_true, beq_iff_eq, decide_eq_true_eq] at h
  obtain ⟨⟨⟨⟨h1, h2⟩, h3⟩, h4⟩, h6⟩ := h
  have h2' : s.tag.v = 1 ∨ s.tag.v = 2 ∨ s.tag.v = 3 := by omega
  refine ⟨h1, ?_, ?_, h6⟩
  · have : (tagName a s.tag.v).isNone = false := by
      cases hh : tagName a s.tag.v <;> simp [hh] at h3 ⊢
    simp [kind, this, h2']
  · intro hne u hu
    rw [if_neg hne] at h4
    have := List.all_eq_true.1 h4 u hu
    simpa using this

theorem subSubWf_iff {a : Arch} {s : SubSub} (h : subSubWf a s = true) :
    Spec.C20.subSubHdrWf a s = true ∧ ∀ x ∈ s.attrs, attrWf a x = true := by
  simp only [subSubWf, Spec.C20.subSubHdrWf, Bool.and_eq_true, List.all_eq_true] at h ⊢
  exact ⟨⟨h.1.1, h.2⟩, h.1.2⟩

def subSubHdr (le : Bool) (s : SubSub) : Bytes := s.tag.enc ++ (encNat le 4 s.size ++ numsBytes s)

section oneAttr
variable {env : Env} {cfg : ElfCfg} {data : Bytes} {pos : Nat}

/-- the branches of the `if` chain of `ARMAttribute.__init__` on the tag's name, by the kind of the tag -/
def armTail (env : Env) (S : ElfStructs) (data : Bytes) (fuel : Nat) (tag : Val) : Kind → Nat → R (AttrObj × Nat)
  | .scope, q => scopeBranch env S data tag q
  | .ntbs, q => do
    let (s, p) ← parseNtbs env S data q
    return ({ tag, value := s, extra := .none, valueIsStr := true }, p)
  | .compat, q => do
    let (v, p) ← parseInt env S.Elf_uleb128 data q
    let (s, p) ← parseNtbs env S data p
    return ({ tag, value := .int v, extra := s, valueIsStr := false }, p)
  | .also, q => do
    let (inner, p) ← armAttribute env S data fuel q
    if !inner.valueIsStr then
      let (nul, p) ← parseInt env S.Elf_byte data p
      if nul ≠ 0 then .error .elfError
      else return ({ tag, value := inner.toVal, extra := .none, valueIsStr := false }, p)
    else
      return ({ tag, value := inner.toVal, extra := .none, valueIsStr := false }, p)
  | .uleb, q => do
    let (v, p) ← parseInt env S.Elf_uleb128 data q
    return ({ tag, value := .int v, extra := .none, valueIsStr := false }, p)

def riscvTail (env : Env) (S : ElfStructs) (data : Bytes) (tag : Val) : Kind → Nat → R (AttrObj × Nat)
  | .scope, q => scopeBranch env S data tag q
  | .ntbs, q => do
    let (s, p) ← parseNtbs env S data q
    return ({ tag, value := s, extra := .none, valueIsStr := true }, p)
  | _, q => do
    let (v, p) ← parseInt env S.Elf_uleb128 data q
    return ({ tag, value := .int v, extra := .none, valueIsStr := false }, p)

section arm
variable (harm : ∀ t : Nat, env.enumDecode "ENUM_ATTR_TAG_ARM" (t : Int) = tagName .arm t)
include harm

theorem arm_after_tag {fuel : Nat} {u : U} {k : Kind} (hu : u.wf = true) (hk : kind .arm u.v = some k)
    {bs : Bytes} {obj : AttrObj}
    (hc : Parses .elfParseError (armTail env (Spec.elfStructs cfg) data fuel (nameVal .arm u.v) k) data
      (pos + u.enc.length) bs obj) :
    Parses .elfParseError (armAttribute env (Spec.elfStructs cfg) data (fuel + 1)) data pos (u.enc ++ bs) obj := by
  obtain ⟨name, K⟩ := kind_arm hk
  have ht := parses_tag (env := env) (data := data) (pos := pos) hu ((harm u.v).trans K.named)
  refine Parses.after (fun hj hd => by rw [armAttribute, S_armTag, ht.cut hj hd]; rfl) (fun q hd hq => ?_) hc
  subst hq
  rw [armAttribute, S_armTag, ht.ok hd]
  simp only [bind, Except.bind, getField_tag, K.scope, K.ntbs, K.compat, K.also, nameVal_of K.named]
  -- with the tests rewritten to `k == …`, for each `k` the `if` chain reduces to the branch `armTail` copies
  cases k <;> rfl

theorem arm_uleb_parses {fuel : Nat} {u w : U} (hu : u.wf = true) (hw : w.wf = true) (hk : kind .arm u.v = some .uleb) :
    Parses .elfParseError (armAttribute env (Spec.elfStructs cfg) data (fuel + 1)) data pos (u.enc ++ w.enc)
      { tag := nameVal .arm u.v, value := .int w.v, extra := .none, valueIsStr := false } :=
  arm_after_tag harm hu hk ((parses_U hw).seq_pure rfl rfl)

theorem arm_ntbs_parses {fuel : Nat} {u : U} {s : Bytes} (hu : u.wf = true) (hs : strWf s = true)
    (hk : kind .arm u.v = some .ntbs) :
    Parses .elfParseError (armAttribute env (Spec.elfStructs cfg) data (fuel + 1)) data pos (u.enc ++ (s ++ [0]))
      { tag := nameVal .arm u.v, value := .bytes s, extra := .none, valueIsStr := true } :=
  arm_after_tag harm hu hk ((parses_ntbs hs).seq_pure rfl rfl)

theorem arm_attr_parses {fuel : Nat} {x : Attribute} (hwf : attrWf .arm x = true) (hf : 2 ≤ fuel) :
    ∃ obj, Parses .elfParseError (armAttribute env (Spec.elfStructs cfg) data fuel) data pos (encAttr x) obj
      ∧ obj.toVal = obsAttr .arm x := by
  obtain ⟨fuel, rfl⟩ : ∃ f, fuel = f + 2 := ⟨fuel - 2, by omega⟩
  obtain ⟨u, val⟩ := x
  simp only [attrWf, Bool.and_eq_true] at hwf
  obtain ⟨hu, hval⟩ := hwf
  cases val with
  | simple sv =>
    obtain ⟨hsv, hk⟩ := valueWf_simple hval
    cases sv with
    | int w => exact ⟨_, arm_uleb_parses harm hu hsv hk, by rw [obsAttr_simple]; rfl⟩
    | str s => exact ⟨_, arm_ntbs_parses harm hu hsv hk, by rw [obsAttr_simple]; rfl⟩
  | compat f v =>
    obtain ⟨hf', hv, hk⟩ := valueWf_compat hval
    exact ⟨_, arm_after_tag harm hu hk ((parses_U hf').seq rfl ((parses_ntbs hv).seq_pure rfl rfl)),
      by rw [obsAttr_compat]; rfl⟩
  | also t sv =>
    obtain ⟨hk, ht, hsv, hk'⟩ := valueWf_also hval
    cases sv with
    | int w =>
      -- a nested attribute, NUL-terminated unless its value is an NTBS
      exact ⟨_, (arm_after_tag harm hu hk ((arm_uleb_parses harm ht hsv hk').seq rfl ((parses_u8 0).seq_pure rfl rfl))).as
        (by rw [encAttr_also_int]; simp) rfl, by rw [obsAttr_also]; rfl⟩
    | str s =>
      exact ⟨_, arm_after_tag harm hu hk ((arm_ntbs_parses harm ht hsv hk').seq_pure rfl rfl), by rw [obsAttr_also]; rfl⟩

end arm

section riscv
variable (hrv : ∀ t : Nat, env.enumDecode "ENUM_ATTR_TAG_RISCV" (t : Int) = tagName .riscv t)
include hrv

theorem riscv_after_tag {u : U} {k : Kind} (hu : u.wf = true) (hk : kind .riscv u.v = some k) {bs : Bytes} {obj : AttrObj}
    (hc : Parses .elfParseError (riscvTail env (Spec.elfStructs cfg) data (nameVal .riscv u.v) k) data
      (pos + u.enc.length) bs obj) :
    Parses .elfParseError (riscvAttribute env (Spec.elfStructs cfg) data) data pos (u.enc ++ bs) obj := by
  obtain ⟨name, K⟩ := kind_riscv hk
  have ht := parses_tag (env := env) (data := data) (pos := pos) hu ((hrv u.v).trans K.named)
  refine Parses.after (fun hj hd => by rw [riscvAttribute, S_riscvTag, ht.cut hj hd]; rfl) (fun q hd hq => ?_) hc
  subst hq
  rw [riscvAttribute, S_riscvTag, ht.ok hd]
  simp only [bind, Except.bind, getField_tag, K.scope, K.ntbs, nameVal_of K.named]
  rcases K.kinds with rfl | rfl | rfl <;> rfl

theorem riscv_attr_parses {x : Attribute} (hwf : attrWf .riscv x = true) :
    ∃ obj, Parses .elfParseError (riscvAttribute env (Spec.elfStructs cfg) data) data pos (encAttr x) obj
      ∧ obj.toVal = obsAttr .riscv x := by
  obtain ⟨u, val⟩ := x
  simp only [attrWf, Bool.and_eq_true] at hwf
  obtain ⟨hu, hval⟩ := hwf
  cases val with
  | simple sv =>
    obtain ⟨hsv, hk⟩ := valueWf_simple hval
    cases sv with
    | int w => exact ⟨_, riscv_after_tag hrv hu hk ((parses_U hsv).seq_pure rfl rfl), by rw [obsAttr_simple]; rfl⟩
    | str s => exact ⟨_, riscv_after_tag hrv hu hk ((parses_ntbs hsv).seq_pure rfl rfl), by rw [obsAttr_simple]; rfl⟩
  | compat f v =>
    obtain ⟨_, K⟩ := kind_riscv (valueWf_compat hval).2.2
    simpa using K.kinds
  | also t sv =>
    obtain ⟨_, K⟩ := kind_riscv (valueWf_also hval).1
    simpa using K.kinds

end riscv

theorem parses_scopeBranch {tag : Val} {s : SubSub} (hfile : tagIn tag ["TAG_FILE"] = (s.tag.v == 1))
    (hnums : s.tag.v ≠ 1 → ∀ u ∈ s.nums, u.wf = true ∧ u.v ≠ 0) (hsz : s.size < 2 ^ 32) :
    Parses .elfParseError (scopeBranch env (Spec.elfStructs cfg) data tag) data pos (encNat cfg.le 4 s.size ++ numsBytes s)
      { tag, value := .int s.size, extra := if s.tag.v = 1 then .none else .list (s.nums.map fun u => .int u.v),
        valueIsStr := false } := by
  by_cases h1 : s.tag.v = 1
  · have ht : tagIn tag ["TAG_FILE"] = true := by rw [hfile]; simp [h1]
    rw [numsBytes, if_pos h1, if_pos h1, List.append_nil]
    exact (parses_word hsz).seq_pure rfl (by simp [ht, pure, Except.pure])
  · have ht : tagIn tag ["TAG_FILE"] = false := by rw [hfile]; simp [h1]
    rw [numsBytes, if_neg h1, if_neg h1]
    refine (parses_word hsz).seq rfl ?_
    have hn := parses_sNumbers (env := env) (cfg := cfg) (data := data) s.nums
      (data.length - (pos + (encNat cfg.le 4 s.size).length) + 2) (pos + (encNat cfg.le 4 s.size).length) [] (hnums h1)
      (by omega)
    refine Parses.of_eq (p' := fun q => do
      let (ns, p) ← sNumbers env (Spec.elfStructs cfg) data
        (data.length - (pos + (encNat cfg.le 4 s.size).length) + 2) q []
      return ({ tag, value := .int s.size, extra := .list ns, valueIsStr := false }, p)) ?_ (by simp only [ht]; rfl)
    exact hn.seq_pure rfl (by simp [pure, Except.pure])

section top
variable {arch : Arch} (henv : ∀ t : Nat, env.enumDecode (tagTableId arch) (t : Int) = tagName arch t)
include henv

theorem attributeAt_parses {x : Attribute} (hwf : attrWf arch x = true) :
    ∃ obj, Parses .elfParseError (attributeAt arch env (Spec.elfStructs cfg) data) data pos (encAttr x) obj
      ∧ obj.toVal = obsAttr arch x := by
  cases arch with
  | arm =>
    obtain ⟨obj, h, hv⟩ := arm_attr_parses (cfg := cfg) (data := data) (pos := pos) henv hwf
      (fuel := data.length - pos + 2) (by omega)
    exact ⟨obj, h.of_eq rfl, hv⟩
  | riscv => exact riscv_attr_parses henv hwf

theorem attributeAt_scope_parses {s : SubSub} (hu : s.tag.wf = true) (hk : kind arch s.tag.v = some .scope)
    (hnums : s.tag.v ≠ 1 → ∀ u ∈ s.nums, u.wf = true ∧ u.v ≠ 0) (hsz : s.size < 2 ^ 32) :
    Parses .elfParseError (attributeAt arch env (Spec.elfStructs cfg) data) data pos (subSubHdr cfg.le s)
      (hdrObj arch s) := by
  cases arch with
  | arm =>
    obtain ⟨name, K⟩ := kind_arm hk
    exact (arm_after_tag (fuel := data.length - pos + 1) henv hu hk
      (parses_scopeBranch (by rw [nameVal_of K.named, K.file]) hnums hsz)).of_eq rfl
  | riscv =>
    obtain ⟨name, K⟩ := kind_riscv hk
    exact riscv_after_tag henv hu hk (parses_scopeBranch (by rw [nameVal_of K.named, K.file]) hnums hsz)

end top
end oneAttr

theorem encAttrs_cons (x : Attribute) (as : List Attribute) : encAttrs (x :: as) = encAttr x ++ encAttrs as := by
  simp [encAttrs]

theorem encSubSubs_cons (le : Bool) (s : SubSub) (ss : List SubSub) :
    encSubSubs le (s :: ss) = encSubSub le s ++ encSubSubs le ss := by simp [encSubSubs]

theorem encSubSections_cons (le : Bool) (s : SubSection) (sec : List SubSection) :
    encSubSections le (s :: sec) = encSubSection le s ++ encSubSections le sec := by simp [encSubSections]

theorem encAttr_length_pos {a : Arch} {x : Attribute} (h : attrWf a x = true) : 1 ≤ (encAttr x).length := by
  simp only [attrWf, Bool.and_eq_true] at h
  have := (U_wf_iff h.1).1
  rw [encAttr, List.length_append, U_enc_length]; omega

theorem body_eq (s : SubSub) : s.body = numsBytes s ++ encAttrs s.attrs := rfl

theorem size_eq (s : SubSub) : s.size = s.tag.n + 4 + (numsBytes s).length + (encAttrs s.attrs).length := by
  rw [SubSub.size, body_eq, List.length_append]; omega

theorem encSubSub_length (le : Bool) (s : SubSub) : (encSubSub le s).length = s.size := by
  simp only [encSubSub, List.length_append, U_enc_length, encNat_length, SubSub.size]; omega

theorem encSubSection_length (le : Bool) (s : SubSection) : (encSubSection le s).length = s.length le := by
  simp only [encSubSection, List.length_append, encNat_length, SubSection.length, List.length_cons, List.length_nil]; omega

theorem subSectionWf_iff {a : Arch} {le : Bool} {s : SubSection} (h : subSectionWf a le s = true) :
    strWf s.vendor = true ∧ (∀ x ∈ s.subs, subSubWf a x = true) ∧ s.length le < 2 ^ 32 := by
  simpa [subSectionWf, and_assoc] using h

theorem getNat_length (n : Nat) (v : Val) :
    (Val.record [("length", .int (n : Int)), ("vendor_name", v)]).getNat "length" = .ok n := by
  have : (Val.record [("length", .int (n : Int)), ("vendor_name", v)]).getField "length" = .ok (.int (n : Int)) := rfl
  simp only [Val.getNat, this, bind, Except.bind, asNat_nat]

theorem getField_vendor (n : Int) (v : Val) :
    (Val.record [("length", .int n), ("vendor_name", v)]).getField "vendor_name" = .ok v := rfl

theorem encSubSub_eq (le : Bool) (s : SubSub) : encSubSub le s = subSubHdr le s ++ s.attrs.flatMap encAttr := by
  rw [encSubSub, body_eq, subSubHdr]; simp only [List.append_assoc]; rfl

theorem subSubHdr_length (le : Bool) (s : SubSub) : (subSubHdr le s).length = s.tag.n + 4 + (numsBytes s).length := by
  simp only [subSubHdr, List.length_append, U_enc_length, encNat_length]; omega

def subSecHdr (le : Bool) (s : SubSection) : Bytes := encNat le 4 (s.length le) ++ (s.vendor ++ [0])

theorem encSubSection_eq (le : Bool) (s : SubSection) :
    encSubSection le s = subSecHdr le s ++ s.subs.flatMap (encSubSub le) := by
  rw [encSubSection, subSecHdr]; simp only [List.append_assoc]; rfl

theorem subSecHdr_length (le : Bool) (s : SubSection) : (subSecHdr le s).length = 4 + s.vendor.length + 1 := by
  simp only [subSecHdr, List.length_append, encNat_length, List.length_singleton]; omega

def attrItem (attr : Nat → R (AttrObj × Nat)) (p : Nat) : R (Val × Nat) := do
  let r ← attr p
  pure (r.1.toVal, r.2)

/-- what `_make_subsubsections` does before it yields: header object, offset of the next sub-subsection
    (`offset + header.value`); the stream is left behind the header (`attr_start`) -/
def subsubHdrStep (attr : Nat → R (AttrObj × Nat)) (offset : Nat) : R ((AttrObj × Nat) × Nat) := do
  let (hdr, attrStart) ← attr offset
  let hv ← hdr.value.asNat
  pure ((hdr, offset + hv), attrStart)

/-- … `_make_subsections`: length, decoded vendor name, offset of the next subsection -/
def subsecHdrStep (env : Env) (S : ElfStructs) (data : Bytes) (offset : Nat) : R ((Nat × Val × Nat) × Nat) := do
  let (h, subStart) ← structParse env S.Elf_Attr_Subsection_Header data offset
  let len ← h.getNat "length"
  let vn ← h.getField "vendor_name"
  let vendor ← (match vn with
    | .bytes b => decodeNtbs b
    | _ => .error .typeError)
  pure ((len, vendor, offset + len), subStart)

def subsubItem (attr : Nat → R (AttrObj × Nat)) (dataLen offset : Nat) : R (Val × Nat) := do
  let r ← subsubHdrStep attr offset
  let attrs ← attributesLoop attr r.1.2 (dataLen + 2) r.2 []
  pure (.record [("tag", r.1.1.tag), ("value", r.1.1.value), ("extra", r.1.1.extra), ("attributes", .list attrs)], r.1.2)

def subsecItem (arch : Arch) (env : Env) (S : ElfStructs) (data : Bytes) (offset : Nat) : R (Val × Nat) := do
  let r ← subsecHdrStep env S data offset
  let subs ← subsubLoop (attributeAt arch env S data) data.length r.1.2.2 (data.length + 2) r.2 []
  pure (.record [("length", .int r.1.1), ("vendor_name", r.1.2.1), ("subsubsections", .list subs)], r.1.2.2)

theorem attributesLoop_eq_walk (attr : Nat → R (AttrObj × Nat)) (e : Nat) : ∀ (fuel pos : Nat) (acc : List Val),
    attributesLoop attr e fuel pos acc = walk (attrItem attr) e fuel pos acc
  | 0, _, _ => rfl
  | fuel + 1, pos, acc => by
    have ih := attributesLoop_eq_walk attr e fuel
    rw [attributesLoop, walk, attrItem]
    simp only [bind_assoc, pure_bind, ih]

theorem subsubLoop_eq_walk (attr : Nat → R (AttrObj × Nat)) (n e : Nat) : ∀ (fuel pos : Nat) (acc : List Val),
    subsubLoop attr n e fuel pos acc = walk (subsubItem attr n) e fuel pos acc
  | 0, _, _ => rfl
  | fuel + 1, pos, acc => by
    have ih := subsubLoop_eq_walk attr n e fuel
    rw [subsubLoop, walk, subsubItem, subsubHdrStep]
    simp only [bind_assoc, pure_bind, ih]

theorem subsecLoop_eq_walk (arch : Arch) (env : Env) (S : ElfStructs) (data : Bytes) (e : Nat) :
    ∀ (fuel pos : Nat) (acc : List Val),
      subsecLoop arch env S data e fuel pos acc = walk (subsecItem arch env S data) e fuel pos acc
  | 0, _, _ => rfl
  | fuel + 1, pos, acc => by
    have ih := subsecLoop_eq_walk arch env S data e fuel
    rw [subsecLoop, walk, subsecItem, subsecHdrStep]
    simp only [bind_assoc, pure_bind, ih]
    rfl

theorem subSub_end (le : Bool) (s : SubSub) (off : Nat) :
    off + (subSubHdr le s).length + (s.attrs.flatMap encAttr).length = off + s.size := by
  rw [subSubHdr_length, size_eq]; show _ + (encAttrs s.attrs).length = _; omega

theorem subSection_end (le : Bool) (s : SubSection) (off : Nat) :
    off + (subSecHdr le s).length + (s.subs.flatMap (encSubSub le)).length = off + s.length le := by
  rw [subSecHdr_length, SubSection.length]; show _ + (encSubSubs le s.subs).length = _; omega

theorem subSub_layout {data rest : Bytes} {off : Nat} {le : Bool} {s : SubSub}
    (hd : data.drop off = encSubSub le s ++ rest) :
    data.drop off = subSubHdr le s ++ (encAttrs s.attrs ++ rest) ∧
    data.drop (off + (subSubHdr le s).length) = encAttrs s.attrs ++ rest ∧
    off + (subSubHdr le s).length + (encAttrs s.attrs).length = off + s.size := by
  have hd' : data.drop off = subSubHdr le s ++ (encAttrs s.attrs ++ rest) := by
    rw [hd, encSubSub_eq, List.append_assoc]; rfl
  exact ⟨hd', drop_add_of_drop hd', subSub_end le s off⟩

theorem subSection_layout {data rest : Bytes} {off : Nat} {le : Bool} {s : SubSection}
    (hd : data.drop off = encSubSection le s ++ rest) :
    data.drop off = subSecHdr le s ++ (encSubSubs le s.subs ++ rest) ∧
    data.drop (off + (subSecHdr le s).length) = encSubSubs le s.subs ++ rest ∧
    off + (subSecHdr le s).length + (encSubSubs le s.subs).length = off + s.length le := by
  have hd' : data.drop off = subSecHdr le s ++ (encSubSubs le s.subs ++ rest) := by
    rw [hd, encSubSection_eq, List.append_assoc]; rfl
  exact ⟨hd', drop_add_of_drop hd', subSection_end le s off⟩

section levels
variable {arch : Arch} {env : Env} {cfg : ElfCfg} {data : Bytes}
  (henv : ∀ t : Nat, env.enumDecode (tagTableId arch) (t : Int) = tagName arch t)
include henv

theorem parses_attr {x : Attribute} (hx : attrWf arch x = true) (pos : Nat) :
    Parses .elfParseError (attrItem (attributeAt arch env (Spec.elfStructs cfg) data)) data pos (encAttr x)
      (obsAttr arch x) := by
  obtain ⟨obj, h, hv⟩ := attributeAt_parses (cfg := cfg) (data := data) (pos := pos) henv hx
  exact hv ▸ h.seq_pure rfl rfl

theorem parses_subsubHdr {s : SubSub} (hh : Spec.C20.subSubHdrWf arch s = true) (pos : Nat) :
    Parses .elfParseError (subsubHdrStep (attributeAt arch env (Spec.elfStructs cfg) data)) data pos (subSubHdr cfg.le s)
      (hdrObj arch s, pos + s.size) := by
  obtain ⟨hu, hk, hnums, hsz⟩ := subSubHdrWf_iff hh
  exact (attributeAt_scope_parses henv hu hk hnums hsz).seq_pure rfl (by simp only [hdrObj, asNat_nat, Engine.ok_bind]; rfl)

omit henv in
theorem parses_subsecHdr {s : SubSection} (hv : strWf s.vendor = true) (hlen : s.length cfg.le < 2 ^ 32) (pos : Nat) :
    Parses .elfParseError (subsecHdrStep env (Spec.elfStructs cfg) data) data pos (subSecHdr cfg.le s)
      (s.length cfg.le, .bytes s.vendor, pos + s.length cfg.le) := by
  obtain ⟨hnul, hutf⟩ := strWf_iff hv
  exact (parses_hdr hlen hnul).seq_pure rfl
    (by simp only [getNat_length, getField_vendor, Engine.ok_bind, decodeNtbs, hutf, if_true]; rfl)

theorem parses_subSub {s : SubSub} (hs : subSubWf arch s = true) (pos : Nat) :
    Parses .elfParseError (subsubItem (attributeAt arch env (Spec.elfStructs cfg) data) data.length) data pos
      (encSubSub cfg.le s) (obsSubSub arch s) := by
  obtain ⟨hh, hattrs⟩ := subSubWf_iff hs
  rw [encSubSub_eq]
  -- behind the header the member is the attribute walk to `pos + size`, and the record of header and attributes
  refine (parses_subsubHdr henv hh pos).seq rfl (Parses.of_eq
    (parses_walk (fun _ => encAttr_length_pos) (fun x hx => parses_attr (cfg := cfg) henv hx) hattrs
      (end_ := pos + s.size) (fuel := data.length + 2) (subSub_end cfg.le s pos).symm (by omega)
      (fun l => Val.record [("tag", (hdrObj arch s).tag), ("value", (hdrObj arch s).value),
        ("extra", (hdrObj arch s).extra), ("attributes", .list l)]))
    (by simp only [attributesLoop_eq_walk]))

theorem parses_subSection {s : SubSection} (hs : subSectionWf arch cfg.le s = true) (pos : Nat) :
    Parses .elfParseError (subsecItem arch env (Spec.elfStructs cfg) data) data pos (encSubSection cfg.le s)
      (obsSubSection arch cfg.le s) := by
  obtain ⟨hvendor, hsubs, hlen⟩ := subSectionWf_iff hs
  rw [encSubSection_eq]
  refine (parses_subsecHdr hvendor hlen pos).seq rfl (Parses.of_eq
    (parses_walk (fun s _ => by rw [encSubSub_length, SubSub.size]; omega)
      (fun x hx => parses_subSub (cfg := cfg) henv hx) hsubs (end_ := pos + s.length cfg.le) (fuel := data.length + 2)
      (subSection_end cfg.le s pos).symm (by omega)
      (fun l => Val.record [("length", .int (s.length cfg.le)), ("vendor_name", .bytes s.vendor),
        ("subsubsections", .list l)]))
    (by simp only [subsubLoop_eq_walk]))

theorem reads_attr : ItemReads (attrItem (attributeAt arch env (Spec.elfStructs cfg) data)) data encAttr
    (attrWf arch · = true) (· = obsAttr arch ·) :=
  .of_parses (fun _ => encAttr_length_pos) fun _ hx => parses_attr henv hx

theorem reads_subSub : ItemReads (subsubItem (attributeAt arch env (Spec.elfStructs cfg) data) data.length) data
    (encSubSub cfg.le) (subSubWf arch · = true) (· = obsSubSub arch ·) :=
  .of_parses (fun s _ => by rw [encSubSub_length, SubSub.size]; omega) fun _ hs => parses_subSub henv hs

theorem reads_subSection : ItemReads (subsecItem arch env (Spec.elfStructs cfg) data) data
    (encSubSection cfg.le) (subSectionWf arch cfg.le · = true) (· = obsSubSection arch cfg.le ·) :=
  .of_parses (fun s _ => by rw [encSubSection_length, SubSection.length]; omega) fun _ hs => parses_subSection henv hs

end levels

theorem sectionWf_iff {a : Arch} {le : Bool} {sec : Spec.Attr.Section} :
    sectionWf a le sec = true ↔ ∀ s ∈ sec, subSectionWf a le s = true := by
  simp [sectionWf]

theorem attributesSection_open {arch : Arch} {env : Env} {cfg : ElfCfg} {data tl : Bytes} {off : Nat} (size : Nat)
    (hd : data.drop off = 0x41 :: tl) :
    attributesSection arch env (Spec.elfStructs cfg) data off size = (do
      let l ← walk (subsecItem arch env (Spec.elfStructs cfg) data) (off + size) (data.length + 2) (off + 1) []
      pure (.list l)) := by
  rw [attributesSection, S_byte, (parses_u8 _).ok hd]
  simp only [Engine.ok_bind, List.length_singleton, subsecLoop_eq_walk]
  rfl

theorem encSection_layout {data rest : Bytes} {off : Nat} {le : Bool} {sec : Spec.Attr.Section}
    (hd : data.drop off = encSection le sec ++ rest) :
    data.drop off = 0x41 :: (sec.flatMap (encSubSection le) ++ rest) ∧
    data.drop (off + 1) = sec.flatMap (encSubSection le) ++ rest ∧
    off + (encSection le sec).length = off + 1 + (sec.flatMap (encSubSection le)).length := by
  have hd1 : data.drop off = 0x41 :: (sec.flatMap (encSubSection le) ++ rest) := by rw [hd]; rfl
  exact ⟨hd1, (drop_cons_inv hd1).2, by
    show _ = off + 1 + (encSubSections le sec).length
    simp only [encSection, List.length_cons]; omega⟩

end Attrs

open Attrs Walk in
theorem attrs_roundtrip_at (arch : Spec.Attr.Arch) (env : Env) (cfg : ElfCfg) (sec : Spec.Attr.Section)
    (data rest : Bytes) (off : Nat)
    (henv : ∀ t : Nat, env.enumDecode (tagTableId arch) (t : Int) = Spec.Attr.tagName arch t)
    (hwf : Spec.Attr.sectionWf arch cfg.le sec = true)
    (hd : data.drop off = Spec.Attr.encSection cfg.le sec ++ rest) :
    Model.Attr.attributesSection arch env (Spec.elfStructs cfg) data off (Spec.Attr.encSection cfg.le sec).length
      = .ok (Spec.Attr.obsSection arch cfg.le sec) := by
  obtain ⟨hd1, hd2, e⟩ := encSection_layout hd
  rw [attributesSection_open _ hd1, e,
    walk_all (reads_subSection (cfg := cfg) henv) [] (sectionWf_iff.1 hwf) hd2 (by omega)]
  rfl

theorem attrs_roundtrip (arch : Spec.Attr.Arch) (env : Env) (cfg : ElfCfg) (sec : Spec.Attr.Section) (pre rest : Bytes)
    (henv : ∀ t : Nat, env.enumDecode (tagTableId arch) (t : Int) = Spec.Attr.tagName arch t)
    (hwf : Spec.Attr.sectionWf arch cfg.le sec = true) :
    Model.Attr.attributesSection arch env (Spec.elfStructs cfg)
        (pre ++ Spec.Attr.encSection cfg.le sec ++ rest) pre.length (Spec.Attr.encSection cfg.le sec).length
      = .ok (Spec.Attr.obsSection arch cfg.le sec) :=
  attrs_roundtrip_at arch env cfg sec _ rest pre.length henv hwf (drop_pre _ _ _)

end PyElf.Proofs
