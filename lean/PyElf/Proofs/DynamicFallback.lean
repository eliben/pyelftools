/-
  The symbol-count fallback of `DynamicSegment.num_symbols`
  (no usable hash table).  The running "nearest pointer above DT_SYMTAB"; the DT_SYMENT check; the end of the
  covering segment; the estimate and when it is exact.
-/
import PyElf.Proofs.Dynamic
import PyElf.Spec.DynamicExt
namespace PyElf.Proofs.Dynamic
open PyElf PyElf.Spec PyElf.Spec.Dynamic PyElf.Model PyElf.Model.Dynamic PyElf.Proofs

theorem except_bind_pure {α : Type} (x : R α) : (x.bind fun s => Except.ok s) = x := by
  cases x <;> rfl

def fbStep (a sz : Nat) (acc : Option Nat) (t : Int × Nat) : R (Option Nat) :=
  if t.1 = DT_SYMENT ∧ t.2 ≠ sz then .error .elfError else .ok (nearStep a acc t.2)

theorem foldlM_fbStep (a sz : Nat) : ∀ (l : List (Int × Nat)) (acc : Option Nat),
    l.foldlM (fbStep a sz) acc
      = if symentOk sz l then .ok ((l.map (·.2)).foldl (nearStep a) acc) else .error .elfError := by
  intro l
  induction l with
  | nil => intro acc; simp [symentOk, pure, Except.pure]
  | cons t l ih =>
    intro acc
    simp only [List.foldlM_cons, bind, Except.bind, fbStep]
    by_cases hbad : t.1 = DT_SYMENT ∧ t.2 ≠ sz
    · have : symentOk sz (t :: l) = false := by
        simp [symentOk, hbad.1, hbad.2]
      simp [hbad, this]
    · have h1 : (t.1 != DT_SYMENT || t.2 == sz) = true := by
        by_cases ht : t.1 = DT_SYMENT
        · have : t.2 = sz := by
            apply Classical.byContradiction
            intro hne; exact hbad ⟨ht, hne⟩
          simp [this]
        · simp [ht]
      have h2 : symentOk sz (t :: l) = symentOk sz l := by
        simp only [symentOk, List.all_cons, h1, Bool.true_and]
      simp only [hbad, if_false, h2, List.map_cons, List.foldl_cons]
      exact ih _

theorem nearStep_fold_inv (a : Nat) : ∀ (vs : List Nat) (acc : Option Nat),
    (∀ m, acc = some m → a < m) →
    (∀ e, vs.foldl (nearStep a) acc = some e →
      a < e ∧ (e ∈ vs ∨ acc = some e) ∧ (∀ v ∈ vs, a < v → e ≤ v) ∧ (∀ m, acc = some m → e ≤ m)) ∧
    (vs.foldl (nearStep a) acc = none → acc = none ∧ ∀ v ∈ vs, v ≤ a) := by
  -- `hrel` is the statement for one value; the fold's result is then either the tail's choice or what one step chose
  intro vs
  induction vs with
  | nil =>
    intro acc hacc
    refine ⟨fun e he => ?_, fun h => ⟨h, by simp⟩⟩
    simp only [List.foldl_nil] at he
    exact ⟨hacc e he, Or.inr he, by simp, fun m hm => by rw [he] at hm; cases hm; exact Nat.le_refl _⟩
  | cons v vs ih =>
    intro acc hacc
    have hrel : (∀ m, nearStep a acc v = some m →
          ((m = v ∧ a < v) ∨ acc = some m) ∧ (a < v → m ≤ v) ∧ (∀ k, acc = some k → m ≤ k)) ∧
        (nearStep a acc v = none → acc = none ∧ v ≤ a) := by
      unfold nearStep
      cases acc with
      | none =>
        by_cases hv : a < v
        · simp [hv]
        · simp [hv] <;> omega
      | some k =>
        by_cases hv : a < v
        · by_cases hk : v < k
          · simp [hv, hk] <;> omega
          · simp [hv, hk] <;> omega
        · simp [hv] <;> omega
    have hstep : ∀ m, nearStep a acc v = some m → a < m := by
      intro m hm
      rcases (hrel.1 m hm).1 with h | h
      · omega
      · exact hacc m h
    obtain ⟨ih1, ih2⟩ := ih (nearStep a acc v) hstep
    refine ⟨fun e he => ?_, fun h => ?_⟩
    · simp only [List.foldl_cons] at he
      obtain ⟨h1, h2, h3, h4⟩ := ih1 e he
      refine ⟨h1, ?_, ?_, ?_⟩
      · rcases h2 with h2 | h2
        · exact Or.inl (List.mem_cons_of_mem _ h2)
        · rcases (hrel.1 e h2).1 with h5 | h5
          · exact Or.inl (by rw [h5.1]; simp)
          · exact Or.inr h5
      · intro x hx hax
        rcases List.mem_cons.1 hx with rfl | hx'
        · cases hn : nearStep a acc x with
          | none => have := (hrel.2 hn).2; omega
          | some m =>
            have := (hrel.1 m hn).2.1 hax
            have := h4 m hn
            omega
        · exact h3 x hx' hax
      · intro m hm
        cases hn : nearStep a acc v with
        | none => have := (hrel.2 hn).1; rw [this] at hm; cases hm
        | some k =>
          have := (hrel.1 k hn).2.2 m hm
          have := h4 k hn
          omega
    · simp only [List.foldl_cons] at h
      obtain ⟨h1, h2⟩ := ih2 h
      obtain ⟨h3, h4⟩ := hrel.2 h1
      exact ⟨h3, fun x hx => by
        rcases List.mem_cons.1 hx with rfl | hx'
        · exact h4
        · exact h2 x hx'⟩

theorem minAbove_some_iff (vs : List Nat) (a e : Nat) :
    minAbove vs a = some e ↔ e ∈ vs ∧ a < e ∧ ∀ v ∈ vs, a < v → e ≤ v := by
  obtain ⟨h1, h2⟩ := nearStep_fold_inv a vs none (by simp)
  constructor
  · intro h
    obtain ⟨p1, p2, p3, -⟩ := h1 e h
    rcases p2 with p2 | p2
    · exact ⟨p2, p1, p3⟩
    · cases p2
  · intro ⟨m1, m2, m3⟩
    cases hm : minAbove vs a with
    | none =>
      have := (h2 hm).2 e m1
      omega
    | some e' =>
      obtain ⟨p1, p2, p3, -⟩ := h1 e' hm
      rcases p2 with p2 | p2
      · have := m3 e' p2 p1
        have := p3 e m1 m2
        congr 1; omega
      · cases p2

theorem minAbove_none_iff (vs : List Nat) (a : Nat) : minAbove vs a = none ↔ ∀ v ∈ vs, v ≤ a := by
  obtain ⟨h1, h2⟩ := nearStep_fold_inv a vs none (by simp)
  constructor
  · intro h; exact (h2 h).2
  · intro h
    cases hm : minAbove vs a with
    | none => rfl
    | some e =>
      obtain ⟨p1, p2, -, -⟩ := h1 e hm
      rcases p2 with p2 | p2
      · have := h e p2; omega
      · cases p2

theorem foldlM_eq_of {σ α : Type} {f g : σ → α → R σ} (h : ∀ s t, f s t = g s t) :
    ∀ (l : List α) (init : σ), l.foldlM f init = l.foldlM g init :=
  fun _ _ => by rw [show f = g from funext fun s => funext (h s)]

theorem ite_ok {α : Type} (c : Prop) [Decidable c] (x y : α) :
    (if c then (Except.ok x : R α) else Except.ok y) = Except.ok (if c then x else y) := by
  split <;> rfl

def segStep (a : Nat) (acc : Option Nat) (h : Val) : R (Option Nat) :=
  match h.getNat "p_vaddr", h.getNat "p_filesz" with
  | .ok va, .ok fsz => .ok (if decide (va ≤ a) && decide (a ≤ va + fsz) then some (va + fsz) else acc)
  | .error e, _ => .error e
  | .ok _, .error e => .error e

theorem segEnd_fold (a : Nat) : ∀ (gs : List (String × Val)) (acc : Option Nat),
    (∀ g ∈ gs, PhdrOk g.2) →
    gs.foldlM (fun acc g => segStep a acc g.2) acc
      = (.ok (((gs.map (·.2)).filterMap (coverEnd · a)).getLast?.or acc) : R (Option Nat)) := by
  intro gs
  induction gs with
  | nil => intro acc _; simp [pure, Except.pure]
  | cons g gs ih =>
    intro acc hok
    obtain ⟨ty, va, fsz, po, -, h2, h3, -⟩ := hok g (by simp)
    have hs1 : segStep a acc g.2
        = .ok (if decide (va ≤ a) && decide (a ≤ va + fsz) then some (va + fsz) else acc) := by
      simp only [segStep, h2, h3]
    have hc1 : coverEnd g.2 a = if decide (va ≤ a) && decide (a ≤ va + fsz) then some (va + fsz) else none := by
      simp only [coverEnd, h2, h3]
    rw [List.foldlM_cons, hs1]
    simp only [bind, Except.bind]
    rw [ih _ (fun x hx => hok x (by simp [hx])), List.map_cons, List.filterMap_cons, hc1]
    by_cases hc : (decide (va ≤ a) && decide (a ≤ va + fsz)) = true
    · simp only [hc, if_true]
      rw [Engine.getLast?_cons_or]
      cases (List.filterMap (fun x => coverEnd x a) (List.map (fun x => x.2) gs)).getLast? <;> simp
    · have hc' : (decide (va ≤ a) && decide (a ≤ va + fsz)) = false := by simpa using hc
      simp only [hc', Bool.false_eq_true, if_false]

section fallback
variable {env : Env} {S : ElfStructs} {data : Bytes} {d : Dyn} {le : Bool} {w : Nat} {tbl : String}
  {tags : List (Int × Nat)} {ifc : FileIfc} {hs : List Val}

theorem obsEntry_entry (sunw : Bool) (strtab : Bytes) (t : Int × Nat) :
    (obsEntry env tbl sunw strtab t).entry = decEntry env tbl t := rfl

/-- the loop body on a shown entry is `fbStep`; then `foldlM_fbStep` and, where no entry lies above the table,
    `segEnd_fold` -/
theorem numSymbolsFallback_view (V : TableView S data d le w tbl tags) (hnull : NullIs env tbl)
    (hterm : hasTerminator tags = true) (SV : SegsView ifc hs)
    (hsymtab : TagIs env tbl "DT_SYMTAB" DT_SYMTAB) (hsyment : TagIs env tbl "DT_SYMENT" DT_SYMENT)
    {tab : StrTab} {sunw : Bool} {strtab : Bytes}
    (hst : getStringtable env S data ifc d = .ok (some tab)) (hattr : AttrIs env tbl sunw)
    (hserve : Serves data tab strtab) (hstr : StringsOk sunw strtab (liveTags tags))
    {iterSegs : R (List (String × Val))} {gs : List (String × Val)}
    (hsegs : iterSegs = .ok gs) (hgs : gs.map (·.2) = hs)
    {a o : Nat} (ha : firstVal (liveTags tags) DT_SYMTAB = some a) (ho : mapAddr hs a = some o)
    (sz : Nat) (hpos : 0 < sz) :
    numSymbolsFallback env S data ifc d iterSegs sz
      = if symentOk sz (liveTags tags) then
          (match fallbackEnd hs (liveTags tags) a with
           | some e => .ok ((e - a) / sz)
           | none => .error .typeError)
        else .error .elfError := by
  unfold numSymbolsFallback
  rw [getTableOffset_view V hnull hterm SV "DT_SYMTAB" DT_SYMTAB hsymtab]
  simp only [ha, ho, bind, Except.bind, Option.bind]
  rw [foldTags_view V hnull hterm hst hattr hserve hstr]
  rw [foldlM_eq_of (g := fbStep a sz)]
  · rw [foldlM_fbStep]
    by_cases hse : symentOk sz (liveTags tags) = true
    · simp only [hse, if_true]
      change (match minAbove ((liveTags tags).map (·.2)) a with
        | some p => _
        | none => _) = _
      unfold fallbackEnd
      have hz : ¬ sz = 0 := by omega
      cases hm : minAbove ((liveTags tags).map (·.2)) a with
      | some e => simp [hz, pure, Except.pure]
      | none =>
        simp only [hsegs, pure, Except.pure]
        have hok : ∀ g ∈ gs, PhdrOk g.2 := by
          intro g hg
          exact SV.ok g.2 (by rw [← hgs]; exact List.mem_map_of_mem hg)
        rw [foldlM_eq_of (g := fun acc g => segStep a acc g.2)]
        · rw [segEnd_fold a gs none hok, hgs]
          simp only [Option.or_none, segEnd]
          cases (List.filterMap (fun x => coverEnd x a) hs).getLast? with
          | none => rfl
          | some e => simp [hz]
        · intro acc g
          simp only [segStep]
          cases g.2.getNat "p_vaddr" with
          | error e => rfl
          | ok va =>
            cases g.2.getNat "p_filesz" with
            | error e => rfl
            | ok fsz => simp only [ite_ok]
    · have hse' : symentOk sz (liveTags tags) = false := by simpa using hse
      simp [hse']
  · intro s t
    simp only [obsEntry_entry, getNat_ptr, getNat_val, getField_tag, hsyment t.1, fbStep]
    by_cases h1 : t.1 = DT_SYMENT
    · by_cases h2 : t.2 = sz
      · subst h2
        simp [h1, nearStep, pure, Except.pure, ite_ok]
        cases s <;> rfl
      · have h2' : (sz != t.2) = true := by simpa using (fun h => h2 h.symm)
        simp [h1, h2, h2', throw, throwThe, MonadExceptOf.throw]
    · have h1' : (t.1 == DT_SYMENT) = false := by simpa using h1
      simp [h1, h1', nearStep, pure, Except.pure, ite_ok]
      cases s <;> rfl

theorem numSymbolsFallback_nosymtab (V : TableView S data d le w tbl tags) (hnull : NullIs env tbl)
    (hterm : hasTerminator tags = true) (SV : SegsView ifc hs)
    (hsymtab : TagIs env tbl "DT_SYMTAB" DT_SYMTAB)
    {iterSegs : R (List (String × Val))}
    (hno : (firstVal (liveTags tags) DT_SYMTAB).bind (mapAddr hs) = none) (sz : Nat) :
    numSymbolsFallback env S data ifc d iterSegs sz = .error .elfError := by
  unfold numSymbolsFallback
  rw [getTableOffset_view V hnull hterm SV "DT_SYMTAB" DT_SYMTAB hsymtab]
  rw [hno]
  cases firstVal (liveTags tags) DT_SYMTAB <;> rfl

theorem numSymbols_nohash (V : TableView S data d le w tbl tags) (hnull : NullIs env tbl)
    (hterm : hasTerminator tags = true) (SV : SegsView ifc hs)
    (hgnu : TagIs env tbl "DT_GNU_HASH" DT_GNU_HASH) (hhash : TagIs env tbl "DT_HASH" DT_HASH)
    {iterSegs : R (List (String × Val))} {le' : Bool} {sz : Nat} (hsz : S.Elf_Sym.sizeof = some sz)
    (hnog : (firstVal (liveTags tags) DT_GNU_HASH).bind (mapAddr hs) = none)
    (hnoh : (firstVal (liveTags tags) DT_HASH).bind (mapAddr hs) = none) :
    numSymbols env S data ifc d iterSegs le' = numSymbolsFallback env S data ifc d iterSegs sz := by
  rw [numSymbols_eq V hnull hterm SV hgnu hhash hsz, hnog, hnoh]

end fallback

theorem between_of_div_eq {x sz n : Nat} (hpos : 0 < sz) (h : x / sz = n) : n * sz ≤ x ∧ x < (n + 1) * sz := by
  subst h
  constructor
  · exact Nat.div_mul_le_self x sz
  · have := Nat.lt_div_mul_add hpos (a := x)
    rw [Nat.add_mul]; omega

theorem fallbackEnd_ge {hs : List Val} {live : List (Int × Nat)} {a e : Nat}
    (he : fallbackEnd hs live a = some e) : a ≤ e := by
  unfold fallbackEnd at he
  cases hm : minAbove (live.map (·.2)) a with
  | some e' =>
    simp only [hm, Option.some.injEq] at he
    subst he
    have := ((minAbove_some_iff _ _ _).1 hm).2.1
    omega
  | none =>
    simp only [hm, segEnd] at he
    have hmem := List.mem_of_getLast? he
    obtain ⟨h, -, hc⟩ := List.mem_filterMap.1 hmem
    unfold coverEnd at hc
    split at hc
    · split at hc
      · rename_i hcond
        simp only [Bool.and_eq_true, decide_eq_true_eq] at hcond
        cases hc; omega
      · cases hc
    · cases hc

theorem fallbackCount_of_symtab {sz : Nat} {hs : List Val} {live : List (Int × Nat)} {a : Nat}
    (ha : firstVal live DT_SYMTAB = some a) :
    fallbackCount sz hs live = (fallbackEnd hs live a).map fun e => (e - a) / sz := by
  simp only [fallbackCount, ha, Option.bind_some]

theorem fallbackCount_eq_iff {sz : Nat} (hpos : 0 < sz) (hs : List Val) (live : List (Int × Nat)) (n : Nat) :
    fallbackCount sz hs live = some n ↔ FallbackExact sz hs live n := by
  unfold fallbackCount FallbackExact
  constructor
  · intro h
    cases ha : firstVal live DT_SYMTAB with
    | none => simp [ha] at h
    | some a =>
      cases he : fallbackEnd hs live a with
      | none => simp [ha, he] at h
      | some e =>
        simp only [ha, he, Option.bind_some, Option.map_some, Option.some.injEq] at h
        have hle := fallbackEnd_ge he
        obtain ⟨b1, b2⟩ := between_of_div_eq hpos h
        exact ⟨a, e, rfl, he, by omega, by omega⟩
  · intro ⟨a, e, ha, he, h1, h2⟩
    simp only [ha, he, Option.bind_some, Option.map_some, Option.some.injEq]
    exact Nat.div_eq_of_lt_le (by omega) (by omega)

end PyElf.Proofs.Dynamic
