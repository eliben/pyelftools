/-
  Unit blocks of the DWARF 5 list sections (.debug_rnglists / .debug_loclists):
  header round trip, offset table round trip, enumeration of the units.
-/
import PyElf.Spec.DwarfStructs
import PyElf.Spec.Lists
import PyElf.Model.Lists
import PyElf.Proofs.Primitives
import PyElf.Proofs.Reads
import PyElf.Proofs.ListsSeek
namespace PyElf.Proofs.ListsUnits
open PyElf PyElf.Spec PyElf.Spec.Lists PyElf.Model.Lists PyElf.Proofs

theorem encOffsets_length (le : Bool) (osz : Nat) (offs : List Nat) :
    (encOffsets le osz offs).length = osz * offs.length := by
  rw [encOffsets, Engine.length_flatMap_const _ osz offs (fun _ _ => encNat_length le osz _), Nat.mul_comm]

theorem parse_offset_table_at (env : Env) (le : Bool) (osz : Nat) (offs : List Nat) (data rest : Bytes)
    (pos : Nat) (ctx : Fields) (hwf : ∀ o ∈ offs, o < 256 ^ osz)
    (hd : data.drop pos = encOffsets le osz offs ++ rest) :
    Con.parse env data (.array (.lit (offs.length : Int)) (.uint osz le)) ctx pos
      = .ok (.list (offs.map fun (o : Nat) => Val.int o), pos + osz * offs.length, ctx) :=
  ((Engine.Reads.array (enc := encNat le osz) (obs := fun (o : Nat) => Val.int o) rfl
    fun o ho _ _ => (Engine.Reads.uint (hwf o ho)).as rfl rfl (by rw [encNat_length])).as rfl rfl
      (by rw [← encOffsets, encOffsets_length])).parse hd

theorem parse_offset_table (env : Env) (le : Bool) (osz : Nat) (offs : List Nat) (pre rest : Bytes) (ctx : Fields)
    (hwf : ∀ o ∈ offs, o < 256 ^ osz) :
    Con.parse env (pre ++ encOffsets le osz offs ++ rest) (.array (.lit (offs.length : Int)) (.uint osz le)) ctx pre.length
      = .ok (.list (offs.map fun (o : Nat) => Val.int o), pre.length + osz * offs.length, ctx) :=
  parse_offset_table_at env le osz offs _ rest pre.length ctx hwf (drop_pre _ _ _)

theorem hdr_eq (cfg : DwarfCfg) : (Spec.dwarfStructs cfg).Dwarf_rnglists_CU_header =
    .struct (.cons (some "cu_offset") false .streamOffset
      (.cons (some "unit_length") false (.initialLength cfg.le)
      (.cons (some "is64") false (.value (Spec.ctx "is64"))
      (.cons (some "offset_after_length") false .streamOffset
      (.cons (some "version") false (.uint 2 cfg.le)
      (.cons (some "address_size") false (.uint 1 cfg.le)
      (.cons (some "segment_selector_size") false (.uint 1 cfg.le)
      (.cons (some "offset_count") false (.uint 4 cfg.le)
      (.cons (some "offset_table_offset") false .streamOffset .nil))))))))) := rfl

theorem loc_hdr_eq (cfg : DwarfCfg) :
    (Spec.dwarfStructs cfg).Dwarf_loclists_CU_header = (Spec.dwarfStructs cfg).Dwarf_rnglists_CU_header := rfl

/-- the block written as the header derivation reads it, field by field -/
theorem encUnit_eq (le : Bool) (u : UnitHdr) (body : Bytes) :
    encUnit le u body
      = (if u.fmt64 then encNat le 4 0xffffffff ++ encNat le 8 (u.innerLen body) else encNat le 4 (u.innerLen body))
        ++ (encNat le 2 5 ++ (encNat le 1 u.asz ++ (encNat le 1 u.segsz ++ (encNat le 4 u.offsets.length
          ++ (encOffsets le u.osz u.offsets ++ body))))) := by
  cases hf : u.fmt64 <;> simp [encUnit, UnitHdr.fixedPart, encInitLen, hf, List.append_assoc]

theorem UnitHdr.wf_unpack {u : UnitHdr} {body : Bytes} (h : u.wf body = true) :
    u.asz < 256 ∧ u.segsz < 256 ∧ u.offsets.length < 2 ^ 32 ∧ (∀ o ∈ u.offsets, o < 256 ^ u.osz)
      ∧ if u.fmt64 then u.innerLen body < 2 ^ 64 else u.innerLen body < 0xFFFFFF00 := by
  simp only [UnitHdr.wf, Bool.and_eq_true, decide_eq_true_eq, List.all_eq_true] at h
  obtain ⟨⟨⟨⟨hasz, hseg⟩, hcnt⟩, hoffs⟩, hlen⟩ := h
  refine ⟨hasz, hseg, hcnt, hoffs, ?_⟩
  cases hf : u.fmt64 <;> simp [hf] at hlen ⊢ <;> exact hlen

/-- `offset_after_length + unit_length` as the enumerations compute it -/
theorem UnitHdr.end_cast (u : UnitHdr) (pos : Nat) (body : Bytes) :
    ((pos + u.lenSize : Nat) : Int) + ((u.innerLen body : Nat) : Int) = ((pos + u.size body : Nat) : Int) := by
  simp only [UnitHdr.size]; omega

theorem structParse_header_at (env : Env) (cfg : DwarfCfg) (u : UnitHdr) (body rest data : Bytes) (pos : Nat)
    (hwf : u.wf body = true) (hd : data.drop pos = encUnit cfg.le u body ++ rest) :
    structParse env (Spec.dwarfStructs cfg).Dwarf_rnglists_CU_header data pos
      = .ok (.record (u.obsFields pos body), pos + u.lenSize + 8) := by
  obtain ⟨hasz, hseg, hcnt, -, hlen'⟩ := UnitHdr.wf_unpack hwf
  simp only [encUnit_eq, List.append_assoc] at hd
  rw [hdr_eq]
  -- `initialLength` leaves `is64` in the context; the `is64` field reads it back
  exact ((Engine.ReadsF.struct (.named .streamOffset <| .named (Engine.Reads.initlen hlen') <|
      .named (Engine.Reads.value (v := .bool u.fmt64) (Engine.eval_ctx (by simp [Fields.get?_set]))) <|
      .named .streamOffset <| .named (Engine.Reads.uint (by decide)) <| .named (Engine.Reads.uint (by omega)) <|
      .named (Engine.Reads.uint (by omega)) <| .named (Engine.Reads.uint (by omega)) <| .named .streamOffset .nil)
    (by simp [Fields.set, UnitHdr.obsFields, UnitHdr.lenSize]; omega)).as rfl rfl
      (by unfold UnitHdr.lenSize; omega)).structParse hd

theorem encInitLen_unit_length (le : Bool) (u : UnitHdr) (n : Nat) :
    (encInitLen le (if u.fmt64 then .dwarf64 n else .dwarf32 n)).length = u.lenSize := by
  cases hf : u.fmt64 <;> simp [encInitLen, UnitHdr.lenSize, hf, encNat_length]

theorem fixedPart_length (le : Bool) (u : UnitHdr) : (u.fixedPart le).length = 8 := by
  simp [UnitHdr.fixedPart, encNat_length]

theorem encUnit_length (le : Bool) (u : UnitHdr) (body : Bytes) : (encUnit le u body).length = u.size body := by
  simp only [encUnit, List.length_append, encInitLen_unit_length, fixedPart_length, encOffsets_length,
    UnitHdr.size, UnitHdr.innerLen]
  omega

theorem size_ge (u : UnitHdr) (body : Bytes) : 12 ≤ u.size body := by
  unfold UnitHdr.size UnitHdr.innerLen UnitHdr.lenSize
  split <;> omega

theorem encUnits_length_ge (le : Bool) (us : List (UnitHdr × Bytes)) : us.length ≤ (encUnits le us).length :=
  Engine.flatMap_length_ge _ us fun ub _ => by
    have := size_ge ub.1 ub.2
    rw [encUnit_length]; omega

theorem drop_after_header {data : Bytes} {pos : Nat} (le : Bool) (u : UnitHdr) (body rest : Bytes)
    (hd : data.drop pos = encUnit le u body ++ rest) :
    data.drop (pos + u.lenSize + 8) = encOffsets le u.osz u.offsets ++ (body ++ rest) := by
  have hd0 : data.drop pos
      = (encInitLen le (if u.fmt64 then .dwarf64 (u.innerLen body) else .dwarf32 (u.innerLen body)) ++ u.fixedPart le)
        ++ (encOffsets le u.osz u.offsets ++ (body ++ rest)) := by
    rw [hd]; simp [encUnit, List.append_assoc]
  have := drop_add_of_drop hd0
  rwa [List.length_append, encInitLen_unit_length, fixedPart_length, ← Nat.add_assoc] at this

/-- the fields of a reported unit header `r` the enumerations read -/
structure HdrAttrs (u : UnitHdr) (pos : Nat) (body : Bytes) (r : Val) : Prop where
  offset_count : attr r "offset_count" = .ok (.int u.offsets.length)
  is64 : attr r "is64" = .ok (.bool u.fmt64)
  offset_after_length : attr r "offset_after_length" = .ok (.int (pos + u.lenSize : Nat))
  unit_length : attr r "unit_length" = .ok (.int (u.innerLen body))
  version : attr r "version" = .ok (.int 5)
  offset_table_offset : attr r "offset_table_offset" = .ok (.int (pos + u.lenSize + 8 : Nat))

/-- `tail`: nothing for a parsed header, the `offsets` entry for a unit `iter_CUs()` yielded -/
theorem attr_hdr (u : UnitHdr) (pos : Nat) (body : Bytes) (tail : Fields) :
    HdrAttrs u pos body (.record (u.obsFields pos body ++ tail)) := by
  constructor <;> simp [attr, UnitHdr.obsFields, Fields.get?]

/-- `8 if cu.is64 else 4` and the like, on a reported header -/
theorem UnitHdr.truthy_fmt64 {α : Type} (u : UnitHdr) (a b : α) :
    (if (Val.bool u.fmt64).truthy = true then a else b) = if u.fmt64 then a else b := by
  cases u.fmt64 <;> rfl

theorem set_offsets (u : UnitHdr) (pos : Nat) (body : Bytes) (v : Val) :
    Fields.set (u.obsFields pos body) "offsets" v = u.obsFields pos body ++ [("offsets", v)] := by
  simp [UnitHdr.obsFields, Fields.set]

/-- one round of `_iter_CUs_in_section`: the header, the offset table when `offset_count > 0` (`False` otherwise), on to
    the block's end -/
theorem iter_step (env : Env) (cfg : DwarfCfg) (S : DwarfStructs)
    (h64 : S.Dwarf_uint64 = .uint 8 cfg.le) (h32 : S.Dwarf_uint32 = .uint 4 cfg.le)
    (data : Bytes) (pos : Nat) (u : UnitHdr) (body rest : Bytes) (fuel : Nat) (acc : List Val)
    (hwf : u.wf body = true) (hd : data.drop pos = encUnit cfg.le u body ++ rest) (hpos : pos < 2 ^ 63) :
    iterCUsLoop env S (Spec.dwarfStructs cfg).Dwarf_rnglists_CU_header data (fuel + 1) (pos : Int) acc
      = iterCUsLoop env S (Spec.dwarfStructs cfg).Dwarf_rnglists_CU_header data fuel
          ((pos + u.size body : Nat) : Int) (u.obs pos body :: acc) := by
  have hsz := size_ge u body
  have hl := length_of_drop hd
  rw [List.length_append, encUnit_length] at hl
  have hlt : (pos : Int) < (data.length : Int) := by omega
  obtain ⟨-, -, -, hoffs, -⟩ := UnitHdr.wf_unpack hwf
  rw [iterCUsLoop, if_pos hlt, ListsSeek.seekInt_nat hpos]
  simp only [structParse_header_at env cfg u body rest data pos hwf hd]
  have A := attr_hdr u pos body []
  rw [List.append_nil] at A
  simp only [A.offset_count, A.is64, A.offset_after_length, A.unit_length, bind, Except.bind, Val.asInt, set_offsets, pure,
    Except.pure, UnitHdr.truthy_fmt64]
  have hsub : (if u.fmt64 then S.Dwarf_uint64 else S.Dwarf_uint32) = .uint u.osz cfg.le := by
    cases hf : u.fmt64 <;> simp [UnitHdr.osz, h64, h32, hf]
  rw [hsub, UnitHdr.end_cast]
  by_cases hc : u.offsets.length = 0
  · have he : u.offsets.isEmpty = true := by
      rw [List.isEmpty_iff]; exact List.length_eq_zero_iff.1 hc
    rw [if_neg (by omega)]
    simp only [UnitHdr.obs, he, if_true]
  · have he : u.offsets.isEmpty = false := by
      cases h : u.offsets with
      | nil => simp [h] at hc
      | cons a t => rfl
    rw [if_pos (by omega)]
    rw [Engine.structParse_of_parse (parse_offset_table_at env cfg.le u.osz u.offsets data (body ++ rest) _ [] hoffs
      (drop_after_header _ _ _ _ hd))]
    simp only [UnitHdr.obs, he, Bool.false_eq_true, if_false]

theorem iterCUsLoop_units (env : Env) (cfg : DwarfCfg) (S : DwarfStructs)
    (h64 : S.Dwarf_uint64 = .uint 8 cfg.le) (h32 : S.Dwarf_uint32 = .uint 4 cfg.le)
    (data : Bytes) (hsmall : data.length < 2 ^ 63) :
    ∀ (us : List (UnitHdr × Bytes)) (pre : Bytes) (fuel : Nat) (acc : List Val),
      (∀ ub ∈ us, ub.1.wf ub.2 = true) → us.length + 1 ≤ fuel → data = pre ++ encUnits cfg.le us →
      iterCUsLoop env S (Spec.dwarfStructs cfg).Dwarf_rnglists_CU_header data fuel (pre.length : Int) acc
        = .ok (acc.reverse ++ obsUnits pre.length us) := by
  -- over the units, the bytes read so far carried as `pre`: one unit is one `iter_step`, which lands on `pre`'s new end
  intro us
  induction us with
  | nil =>
    intro pre fuel acc _ hf hdata
    cases fuel with
    | zero => omega
    | succ fuel =>
      have : data.length = pre.length := by rw [hdata]; simp [encUnits]
      rw [iterCUsLoop, if_neg (by omega)]
      simp [obsUnits]
  | cons ub us ih =>
    intro pre fuel acc hwf hf hdata
    obtain ⟨u, body⟩ := ub
    cases fuel with
    | zero => omega
    | succ fuel =>
      have hdata' : data = (pre ++ encUnit cfg.le u body) ++ encUnits cfg.le us := by
        rw [hdata]; simp [encUnits, List.append_assoc]
      have hd : data.drop pre.length = encUnit cfg.le u body ++ encUnits cfg.le us := by
        rw [hdata']; exact drop_pre _ _ _
      have hpl : pre.length < 2 ^ 63 := by
        have : pre.length ≤ data.length := by rw [hdata]; simp
        omega
      rw [iter_step env cfg S h64 h32 data pre.length u body _ fuel acc (hwf (u, body) (by simp)) hd hpl]
      have hlen : pre.length + u.size body = (pre ++ encUnit cfg.le u body).length := by
        rw [List.length_append, encUnit_length]
      rw [hlen, ih _ fuel _ (fun x hx => hwf x (by simp [hx])) (by simp at hf; omega) hdata']
      simp [obsUnits, hlen]

example : (UnitHdr.mk false 8 0 [4]).wf [7,0,0,0,0,0,0,0,0,0,0] = true := by decide

example : (UnitHdr.mk true 4 0 []).wf [] = true := by decide

end PyElf.Proofs.ListsUnits
