/-
  C12 — DWARF expressions are split into exactly their operations and operands.

  Spec side: PyElf/Spec/DwarfExpr.lean (operation table of DWARF 2–5 §7.7.1
  plus the GNU / WebAssembly rows, the assembler `encodeOps`, the prescribed observation `annotate`).
  Model side: PyElf/Model/DwarfExpr.lean (`parse_expr`, the dispatch closures, `read_blob`).
  Tie: PyElf/Props/TieC12.lean (the regenerated dispatch and name tables are the standard's).

  Proved with no hypothesis besides the stated well-formedness: the round trip and its converse, termination on every
  input, names ↔ opcodes, expressions where they occur (C12 × C04, with the per-structs parser cache), the operand
  extremes, and every truncation.
  Correspondence-only (model ↔ code on every run, no theorem): arbitrary / corrupted bytes (unknown opcodes → KeyError,
  DW_OP_WASM_location kinds > 3 → DWARFError, byte flips; stream `raw`); the client-side walk on forests that are NOT
  well formed; CPython's recursion limit on nests deeper than ~300 (the model has no limit).
  The reference operand of DW_OP_call_ref / DW_OP_implicit_pointer / DW_OP_GNU_implicit_pointer is format-sized from
  DWARF 3 on and ADDRESS-sized in a DWARF 2 unit (`Spec.refSize`), as `gcc -O2 -gdwarf-2` emits it on 64-bit targets and
  binutils / LLVM read it (/repo fix `C12-ref-operand-dwarf2`).

  The statements speak of:
  `TablesOk` (Proofs/DwarfExpr.lean) — a dispatch and a name table that hold every row of the standard's;
  `PCacheOK` (Proofs/DwarfExprInfo.lean) — every cached parser is the one built for its key;
  `forestDInfo`, `genBundles`, `genNames`, `unitRho` (Props/C04.lean), `flattenUnitP` (Proofs/DieIter.lean) — the encoded
    sections of a forest as C04's model reads them, and the entries it yields per unit; `fetch` is `Model.C04.fetch`.
-/
import PyElf.Spec.DwarfExpr
import PyElf.Model.DwarfExpr
import PyElf.Gen.Extra_C12
import PyElf.Proofs.DwarfExpr
import PyElf.Proofs.DwarfExprFuel
import PyElf.Proofs.DwarfExprReenc
import PyElf.Props.TieC12
import PyElf.Spec.DwarfExprInfo
import PyElf.Model.DwarfExprInfo
import PyElf.Proofs.BytesOf
import PyElf.Proofs.DwarfExprInfo
import PyElf.Proofs.DwarfExprTrunc
import PyElf.Props.C04
namespace PyElf.Props.C12
open PyElf PyElf.Spec PyElf.Model PyElf.Proofs

/-- a member of the regenerated dispatch table is a configuration of the property's quantifier with the standard's
    table for it (`TieC12.sig_table_eq_spec`) -/
theorem gen_dispatch_eq {c : DwarfCfg} {D : List (Nat × List ArgKind)} (hD : (c, D) ∈ Gen.opDispatch) : D = opTable c := by
  rw [TieC12.sig_table_eq_spec] at hD
  obtain ⟨c', _, hc'⟩ := List.mem_map.1 hD
  obtain ⟨rfl, rfl⟩ := Prod.mk.inj hc'
  rfl

/-- the regenerated tables satisfy what the round-trip proof assumes about dispatch and names -/
theorem gen_tables_ok (c : DwarfCfg) (D : List (Nat × List ArgKind)) (hD : (c, D) ∈ Gen.opDispatch) :
    TablesOk c D Gen.opOpcode2Name := by
  rw [gen_dispatch_eq hD, TieC12.opcode2name_eq_spec]
  exact .spec c fun _ _ h => Engine.lookup_append_some _ h

/-- Round trip.  For every configuration with the dispatch table the library builds for it and every well-formed operation
    sequence (every opcode of the table, operands anywhere in their ranges, LEB128s and block lengths minimal or padded,
    entry-value blocks nested to any depth), parsing the assembled bytes returns exactly `annotate c 0 ops`: per operation
    the opcode, the name, the operand values and the byte offset (a nested block is numbered from 0 again). -/
theorem expr_roundtrip (c : DwarfCfg) (D : List (Nat × List ArgKind)) (hD : (c, D) ∈ Gen.opDispatch)
    (ops : List Op) (hwf : WFops c ops = true) :
    parseExpr D Gen.opOpcode2Name (encodeOps c ops) = .ok (annotate c 0 ops) :=
  parseExpr_roundtrip (gen_tables_ok c D hD) ops hwf

/-- the same statement for the Spec's own tables (no regenerated data involved) -/
theorem expr_roundtrip_spec (c : DwarfCfg) (ops : List Op) (hwf : WFops c ops = true) :
    parseExpr (opTable c) opNames (encodeOps c ops) = .ok (annotate c 0 ops) :=
  parseExpr_roundtrip (.spec c fun _ _ h => h) ops hwf

/-- Re-encoding the parsed result reproduces the input bytes.  `Spec.reencOps` assembles bytes from the parsed list alone
    (opcodes and operand values), always choosing the minimal LEB128 form; so the statement is about sequences whose
    LEB128 operands and block lengths are minimal — a padded LEB128 is not recoverable from its value. -/
theorem reencode_roundtrip (c : DwarfCfg) (D : List (Nat × List ArgKind)) (hD : (c, D) ∈ Gen.opDispatch)
    (ops : List Op) (hwf : WFops c ops = true) (hmin : opsMinimal c ops = true)
    (fuel : Nat) (hf : (encodeOps c ops).length + 1 ≤ fuel) :
    ∃ parsed, parseExpr D Gen.opOpcode2Name (encodeOps c ops) = .ok parsed
      ∧ reencOps c fuel parsed = some (encodeOps c ops) :=
  ⟨annotate c 0 ops, expr_roundtrip c D hD ops hwf, reencOps_ok c ops hwf hmin fuel 0 hf⟩

/-- offsets are prefix sums: the observation of `a ++ b` is that of `a`, then that of `b` with every top-level offset shifted
    by the encoded length of `a` -/
theorem expr_concat (c : DwarfCfg) (a b : List Op) (off : Nat) :
    encodeOps c (a ++ b) = encodeOps c a ++ encodeOps c b
    ∧ WFops c (a ++ b) = (WFops c a && WFops c b)
    ∧ annotate c off (a ++ b) = annotate c off a ++ annotate c (off + (encodeOps c a).length) b :=
  ⟨encodeOps_append c a b, WFops_append c a b, annotate_append c a b off⟩

/-- Termination.  Whatever the input bytes and the tables, the model's fuel `len(expr) + 1` is never exhausted: the model
    describes the terminating Python loop on every input of the correspondence check, not only on well-formed ones. -/
theorem parse_fuel_sufficient (D : List (Nat × List ArgKind)) (N : List (Nat × String)) (expr : Bytes) :
    parseExpr D N expr ≠ .error .outOfFuel :=
  fun h => loop_fuel D N (expr.length + 1) expr 0 [] (Nat.zero_le _) (by omega) _ h rfl

/-- every configuration of the property's quantifier has a dispatch table -/
theorem every_cfg_has_table : Gen.opDispatch.map (·.1) = Spec.allDwarfCfgs := by
  rw [TieC12.sig_table_eq_spec, List.map_map]; exact List.map_id _

/-- Nat keys (`int.from_bytes(name, 'big')`) of the two range-marker names `DW_OP_lo_user`, `DW_OP_hi_user`
    (they delimit the vendor range, DWARF 5 §7.1; they are not operations).  `marker_keys` ties them to the strings. -/
def markerKeys : List Nat := [5414555469326863032897248650610, 5414555469326861900400272041330]

/-- forward name table with String names and Nat keys side by side (the generator emits both in dict order) -/
def forward : List ((String × Nat) × (Nat × Nat)) := Gen.opName2Opcode.zip Gen.opName2OpcodeK

/-- the operations of the forward name table: everything but the two range markers -/
def operations : List (String × Nat) := (forward.filter fun p => !(markerKeys.contains p.2.1)).map (·.1)
/-- the same, names as Nat keys -/
def operationsK : List (Nat × Nat) := Gen.opName2OpcodeK.filter fun e => !(markerKeys.contains e.1)

/-- the entries removed are exactly the standard's two range markers, and the keyed list is aligned with the
    String list (same length, same opcodes position by position) -/
theorem marker_keys :
    (forward.filter fun p => markerKeys.contains p.2.1).map (·.1) = Spec.opRangeMarkers
    ∧ Gen.opName2OpcodeK.map (·.2) = Gen.opName2Opcode.map (·.2)
    ∧ operations.map (·.2) = operationsK.map (·.2) := by
  refine ⟨?_, ?_, ?_⟩ <;> decide +kernel

theorem operations_sub : ∀ e ∈ operations, e ∈ Gen.opName2Opcode := by
  intro e he
  obtain ⟨p, hp, rfl⟩ := List.mem_map.1 he
  exact (List.of_mem_zip (List.mem_filter.1 hp).1).1

/-- the one operation that shares its opcode with a range marker (DW_OP_GNU_push_tls_address, 0xe0 = DW_OP_lo_user)
    is a row of the standard's table: only the entries at the two marker opcodes are looked at, `operations_rows` has
    the others from the tie -/
theorem marker_opcode_ops : ∀ e ∈ operations, e.2 = 0xe0 ∨ e.2 = 0xff → opNames.lookup e.2 = some e.1 := by
  decide +kernel

/-- every operation of the forward table is a row of the standard's table, under its name: from the tie
    `name2opcode_sub_spec`; away from the two marker opcodes an entry cannot be a marker -/
theorem operations_rows : ∀ e ∈ operations, opNames.lookup e.2 = some e.1 := by
  intro e he
  by_cases hm : e.2 = 0xe0 ∨ e.2 = 0xff
  · exact marker_opcode_ops e he hm
  · rcases TieC12.name2opcode_sub_spec e (operations_sub e he) with h | h
    · exact h
    · simp only [opRangeMarkers, List.mem_cons, List.not_mem_nil, or_false] at h
      rcases h with rfl | rfl
      · exact absurd (Or.inl rfl) hm
      · exact absurd (Or.inr rfl) hm

/-- every row of the standard's table is an operation of the forward table -/
theorem rows_operations : ∀ r ∈ opRows, r.1 ∈ operationsK.map (·.2) := by decide +kernel

/-- Operation names are in one-to-one correspondence with opcodes:
    (1) no name occurs twice in the forward table (names compared through their Nat keys);
    (2) on operations, no opcode occurs twice — so name ↦ opcode is injective;
    (3) the reverse table sends every operation's opcode back to its name;
    (4) the reverse table has one entry per opcode and no opcodes other than those of the operations and the
        `DW_OP_hi_user` marker — with (3), it is exactly the inverse of the forward table on operations. -/
theorem names_bijective :
    (Gen.opName2OpcodeK.map (·.1)).Nodup
    ∧ (operationsK.map (·.2)).Nodup
    ∧ (∀ e ∈ operations, Gen.opOpcode2Name.lookup e.2 = some e.1)
    ∧ ((Gen.opOpcode2Name.map (·.1)).Nodup ∧ ∀ e ∈ Gen.opOpcode2Name, e.1 = 0xff ∨ e.1 ∈ operationsK.map (·.2)) := by
  refine ⟨Engine.nodupB_nodup _ (by decide +kernel), Engine.nodupB_nodup _ (by decide +kernel), ?_,
    Engine.strictAsc_nodup _ (by decide +kernel), ?_⟩
  · intro e he
    rw [TieC12.opcode2name_eq_spec]
    exact Engine.lookup_append_some _ (operations_rows e he)
  · intro e he
    rw [TieC12.opcode2name_eq_spec, List.mem_append] at he
    rcases he with he | he
    · obtain ⟨r, hr, rfl⟩ := List.mem_map.1 he
      exact Or.inr (rows_operations r hr)
    · rw [List.mem_singleton] at he
      exact Or.inl (by rw [he])

/-- the standard gives an operand signature to exactly the operations of the name table
    (every named opcode except the range markers has a parser; nothing else has) -/
theorem sig_domain :
    (∀ e ∈ operationsK, (opSigAbs e.2).isSome = true) ∧ (∀ r ∈ opRows, r.1 ∈ operationsK.map (·.2)) := by
  refine ⟨fun e he => ?_, rows_operations⟩
  have hmem : e.2 ∈ operations.map (·.2) := by
    rw [marker_keys.2.2]
    exact List.mem_map_of_mem he
  obtain ⟨e', he', h2⟩ := List.mem_map.1 hmem
  have hrow := operations_rows e' he'
  rw [h2, opNames_lookup] at hrow
  unfold opName? at hrow
  unfold opSigAbs
  cases hr : opRow? e.2 with
  | none => rw [hr] at hrow; cases hrow
  | some r => rfl

/-- a concrete expression: address, a depth-3 nest of entry values (DWARF 5 and GNU spellings, one with a padded
    length), a typed constant, a WebAssembly global, an implicit value; 64-bit DWARF, 8-byte addresses, big endian -/
def sample : List Op :=
  [.plain 0x03 [.u 0x1122334455667788],
   .entry 0xa3 2 [.plain 0x50 [], .entry 0xf3 1 [.entry 0xa3 1 [.plain 0x91 [.sleb 2 (-5)]], .plain 0x96 []]],
   .plain 0xa4 [.uleb 1 9, .block1 [0xaa, 0xbb]],
   .plain 0xed [.wasm 3 0 7],
   .plain 0x94 [.u 0x80],
   .plain 0xfa [.u 0xdeadbeef],
   .plain 0x9e [.block 1 [1, 2, 3]]]

example : WFops ⟨false, 64, 8, 5⟩ sample = true := by decide +kernel
example : opsMinimal ⟨false, 64, 8, 5⟩ [.plain 0x10 [.uleb 2 300], .entry 0xa3 1 [.plain 0x91 [.sleb 1 (-5)]]] = true := by
  decide +kernel
example : (encodeOps ⟨false, 64, 8, 5⟩ sample).length = 44 := by decide +kernel
example (D : List (Nat × List ArgKind)) (hD : ((⟨false, 64, 8, 5⟩ : DwarfCfg), D) ∈ Gen.opDispatch) :
    parseExpr D Gen.opOpcode2Name (encodeOps ⟨false, 64, 8, 5⟩ sample) = .ok (annotate ⟨false, 64, 8, 5⟩ 0 sample) :=
  expr_roundtrip _ D hD sample (by decide +kernel)
example : (⟨false, 64, 8, 5⟩ : DwarfCfg) ∈ Gen.opDispatch.map (·.1) := by rw [every_cfg_has_table]; simp [allDwarfCfgs]

section Info
open PyElf.Spec.C04 PyElf.Spec.C12 PyElf.Model.C12 PyElf.Proofs.C12

/-- `_init_dispatch_table(DWARFStructs(c))`, as regenerated, looked up by the cache key: the standard's table -/
theorem gen_table_get (c : DwarfCfg) (hc : c ∈ Spec.allDwarfCfgs) : tableGet Gen.opDispatch c = some (opTable c) := by
  have e : ∀ x : DwarfCfg, decide (x = c) = (x == c) := fun x => by rw [Bool.eq_iff_iff]; simp
  rw [TieC12.sig_table_eq_spec, tableGet]
  simp only [e]
  exact Engine.find?_map_key_mem opTable c _ hc

theorem gen_table_mem (c : DwarfCfg) (hc : c ∈ Spec.allDwarfCfgs) : (c, opTable c) ∈ Gen.opDispatch := by
  rw [TieC12.sig_table_eq_spec]
  exact List.mem_map.2 ⟨c, hc, rfl⟩

/-- `unitRho` (Props/C04) is the resolved-value function `Spec.C12.unitEntries` uses -/
theorem unitEntries_eq (F : Forest) (p : Nat × UnitDesc) (dieOff : Nat) :
    flattenUnit C04.genNames (p.2.cfg F.le) (C04.unitRho F p.2) (C04.unitRho F p.2) dieOff p.2.tree
      = unitEntries C04.genNames F p dieOff := rfl

/-- both sections at once: `ps` are the units as C04's model yields them (unit object `cuF p`, entries at `dieOff p`) -/
theorem walk_exprs (F : Forest) (dasz : Nat) (G : Model.C04.UnitCtx → Nat → R DieObs) (sec : Option Bytes) (isTypes : Bool)
    (ps : List (Nat × UnitDesc)) (cuF : Nat × UnitDesc → Model.Lookup.CU) (dieOff : Nat × UnitDesc → Nat)
    (hiter : Model.C04.iterSection G (C04.forestDInfo F dasz) (C04.genBundles F.le dasz).S0 sec isTypes
      = (ps.map fun p => (cuF p, .ok (C04.flattenUnitP C04.genNames (p.2.cfg F.le) (C04.unitRho F p.2) (C04.unitRho F p.2)
          (dieOff p) p.2.tree)), none))
    (hcfg : ∀ p ∈ ps, unitCfg (C04.forestDInfo F dasz) (cuF p) = .ok (p.2.cfg F.le))
    (hmem : ∀ p ∈ ps, p.2.cfg F.le ∈ Spec.allDwarfCfgs)
    (sel : Val → Val → Nat → Bool) (E : DwarfCfg → Bytes → List Op)
    (hok : ∀ p ∈ ps, ∀ d ∈ unitEntries C04.genNames F p (dieOff p), dieOK sel (p.2.cfg F.le) E d = true)
    (pc : PCache) (hpc : PCacheOK Gen.opDispatch pc) :
    ∃ pc', sectionExprs G (C04.forestDInfo F dasz) (C04.genBundles F.le dasz).S0 sec isTypes
          Gen.opDispatch Gen.opOpcode2Name sel pc
        = .ok (ps.map (fun p => (unitEntries C04.genNames F p (dieOff p)).map (expectDie sel (p.2.cfg F.le) E)), pc')
      ∧ PCacheOK Gen.opDispatch pc' := by
  unfold sectionExprs
  rw [hiter]
  obtain ⟨pc', h, hpc'⟩ := unitsExprs_ok (C04.forestDInfo F dasz) Gen.opDispatch Gen.opOpcode2Name sel E opTable cuF
    (fun p => C04.flattenUnitP C04.genNames (p.2.cfg F.le) (C04.unitRho F p.2) (C04.unitRho F p.2) (dieOff p) p.2.tree)
    (fun p => p.2.cfg F.le) ps hcfg
    (fun p hp => gen_table_get _ (hmem p hp))
    (fun p hp ops hops => expr_roundtrip _ _ (gen_table_mem _ (hmem p hp)) ops hops)
    (fun p hp d hd => by
      have := hok p hp d.1
      rw [← unitEntries_eq, ← C04.flattenUnitP_fst] at this
      exact this (List.mem_map.2 ⟨d, hd, rfl⟩))
    pc hpc
  refine ⟨pc', ?_, hpc'⟩
  simp only [h, bind, Except.bind, pure, Except.pure]
  congr 2
  apply List.map_congr_left
  intro p _
  rw [← unitEntries_eq, ← C04.flattenUnitP_fst, List.map_map]
  rfl

/--
  Expressions where they occur.  For every well-formed forest description `F` (C04's `wfForestB`) and every selection
  `sel` of attributes by (name, final form, unit version) — `Spec.C12.isExprAttr` is the standard's: DW_FORM_exprloc,
  and before DWARF 4 the block forms on the attributes of class exprloc — such that every selected attribute carries the
  encoding, in the configuration of its own unit, of a well-formed operation sequence (`forestExprsOK`, decidable;
  `E c b` names the sequence for the bytes `b`), the model of

      for cu in dwarfinfo.iter_CUs():
          parser = parsers.setdefault(id(cu.structs), DWARFExprParser(cu.structs))
          for die in cu.iter_DIEs():
              for attr in die.attributes.values():
                  if sel(attr.name, attr.form, cu['version']): parser.parse_expr(attr.value)

  run on the Spec encoding of the sections as the driver runs it (C04's `forestDInfo`, the regenerated tables) yields,
  per unit and entry in iteration order, for exactly the selected attributes, the attribute's section offset and the
  encoded operations, annotated with that unit's byte order, format, address size and version.  `pc` is the state of
  the per-structs parser cache before the walk — whatever earlier walks of this or any other file left (`PCacheOK`):
  the result does not depend on it, i.e. no unit is parsed with another configuration's parser.
-/
theorem debug_info_exprs_exact (F : Forest) (dasz : Nat) (hdasz : dasz = 4 ∨ dasz = 8)
    (hwf : wfForestB C04.genNames F = true)
    (G : Model.C04.UnitCtx → Nat → R DieObs) (hG : ∀ U o, U.cuDieOffset ≤ o → G U o = Model.C04.getCachedDIE U o)
    (sel : Val → Val → Nat → Bool) (E : DwarfCfg → Bytes → List Op)
    (hE : forestExprsOK sel E C04.genNames F = true)
    (pc : PCache) (hpc : PCacheOK Gen.opDispatch pc) :
    ∃ pc', sectionExprs G (C04.forestDInfo F dasz) (C04.genBundles F.le dasz).S0 (some (infoSec F)) false
          Gen.opDispatch Gen.opOpcode2Name sel pc = .ok (expectInfoExprs sel E C04.genNames F, pc')
      ∧ PCacheOK Gen.opDispatch pc' := by
  have hW := Proofs.C04.wfForest_of_B _ F hwf
  simp only [forestExprsOK, Bool.and_eq_true, List.all_eq_true] at hE
  exact walk_exprs F dasz G _ false (placeInfo F 0 F.units)
    (fun p => Proofs.Lookup.cuOf F.le p.1 (infoUnitOf F p.2)) (fun p => infoDieOff F p.1 p.2)
    (C04.debug_info_exact F dasz hdasz hwf G hG).1
    (fun p _ => by
      have h1 : (Proofs.Lookup.cuOf F.le p.1 (infoUnitOf F p.2)).header = Spec.Lookup.unitHdrVal F.le (infoUnitOf F p.2) := rfl
      simp only [unitCfg, h1, Proofs.C04.unitHdrVal_asz, Proofs.C04.unitHdrVal_version, bind, Except.bind, pure, Except.pure]
      rfl)
    (fun p hp => Proofs.C04.wfUnit_cfg_mem (hW.infoHdr p.2 (Proofs.C04.mem_placeInfo F _ _ p hp)))
    sel E hE.1 pc hpc

/-- the same for the type units of `.debug_types` (`iter_TUs()`) -/
theorem debug_types_exprs_exact (F : Forest) (dasz : Nat) (hdasz : dasz = 4 ∨ dasz = 8)
    (hwf : wfForestB C04.genNames F = true)
    (G : Model.C04.UnitCtx → Nat → R DieObs) (hG : ∀ U o, U.cuDieOffset ≤ o → G U o = Model.C04.getCachedDIE U o)
    (sel : Val → Val → Nat → Bool) (E : DwarfCfg → Bytes → List Op)
    (hE : forestExprsOK sel E C04.genNames F = true)
    (pc : PCache) (hpc : PCacheOK Gen.opDispatch pc) :
    ∃ pc', sectionExprs G (C04.forestDInfo F dasz) (C04.genBundles F.le dasz).S0 (some (typesSec F)) true
          Gen.opDispatch Gen.opOpcode2Name sel pc = .ok (expectTypesExprs sel E C04.genNames F, pc')
      ∧ PCacheOK Gen.opDispatch pc' := by
  have hW := Proofs.C04.wfForest_of_B _ F hwf
  simp only [forestExprsOK, Bool.and_eq_true, List.all_eq_true] at hE
  exact walk_exprs F dasz G _ true (placeTypes F 0 F.tus)
    (fun p => Proofs.C04.tuOf F.le p.1 (tuHeaderOf F p.2) (encTree (p.2.cfg F.le) p.2.tree))
    (fun p => typesDieOff F p.1 p.2)
    (C04.debug_types_exact F dasz hdasz hwf G hG).1
    (fun p _ => by
      have h1 : (Proofs.C04.tuOf F.le p.1 (tuHeaderOf F p.2) (encTree (p.2.cfg F.le) p.2.tree)).header
          = tuHdrVal F.le (tuHeaderOf F p.2) (encTree (p.2.cfg F.le) p.2.tree) := rfl
      simp only [unitCfg, h1, Proofs.C04.tuHdrVal_asz, Proofs.C04.tuHdrVal_version, bind, Except.bind, pure, Except.pure]
      rfl)
    (fun p hp => Proofs.C04.wfTU_cfg_mem (hW.typesHdr p.2 (Proofs.C04.mem_placeTypes F _ _ p hp)))
    sel E hE.2 pc hpc

/--
  The cache key makes units independent.  The per-structs parser cache is keyed by the identity of the structs object,
  which `DWARFStructs.__new__` makes a function of (byte order, format, address size, version) — the model's key
  `DwarfCfg`.  From every cache state that can arise (`PCacheOK`: the empty cache is one, `getParser` preserves it),
  asking for the parser of configuration `c` answers with the table the constructor builds for `c`, never with another
  configuration's; two reachable cache states give the same parser.
-/
theorem parser_cache_independent (c : DwarfCfg) (hc : c ∈ Spec.allDwarfCfgs) :
    PCacheOK Gen.opDispatch []
    ∧ (∀ pc, PCacheOK Gen.opDispatch pc →
        ∃ pc', getParser Gen.opDispatch pc c = .ok (opTable c, pc') ∧ PCacheOK Gen.opDispatch pc')
    ∧ (∀ pc₁ pc₂, PCacheOK Gen.opDispatch pc₁ → PCacheOK Gen.opDispatch pc₂ →
        (getParser Gen.opDispatch pc₁ c).map (·.1) = (getParser Gen.opDispatch pc₂ c).map (·.1)) := by
  refine ⟨pcacheOK_nil _, fun pc hpc => getParser_ok _ pc hpc c _ (gen_table_get c hc), fun pc₁ pc₂ h₁ h₂ => ?_⟩
  obtain ⟨_, e₁, _⟩ := getParser_ok _ pc₁ h₁ c _ (gen_table_get c hc)
  obtain ⟨_, e₂, _⟩ := getParser_ok _ pc₂ h₂ c _ (gen_table_get c hc)
  rw [e₁, e₂]; rfl

/-- what the key must distinguish: two configurations have the same dispatch table exactly when byte order, address size
    and the width of the reference operand agree (`refSize`: the format from DWARF 3 on, the address size in DWARF 2 — so
    version and format are part of what the key must carry) -/
theorem dispatch_key_exact :
    ∀ a ∈ Spec.allDwarfCfgs, ∀ b ∈ Spec.allDwarfCfgs,
      (opTable a = opTable b ↔ (a.le = b.le ∧ a.asz = b.asz ∧ refSize a = refSize b)) :=
  fun a _ b _ => opTable_eq_iff a b

/-- … in particular two units that differ ONLY in their version can need different parsers -/
example : opTable ⟨true, 32, 8, 2⟩ ≠ opTable ⟨true, 32, 8, 3⟩ :=
  fun h => absurd ((opTable_eq_iff _ _).1 h).2.2 (by decide +kernel)

/-- the prescribed value of an attribute in DW_FORM_exprloc or a block form is its payload, whatever the sections
    (`resolve` leaves a block untouched), and `bytes()` of it is the payload: the hypothesis `forestExprsOK` is
    about the encoded payload bytes of the description's operands (`Operand.blockU` / `Operand.block`) -/
theorem block_value_bytes (c : DwarfCfg) (secs : Sections) (b : Bases) (f : String)
    (hf : f ∈ "DW_FORM_exprloc" :: blockFormNames) (payload : Bytes) :
    resolveD c secs b (.str f) (byteList payload) = byteList payload
    ∧ bytesOf (byteList payload) = some payload
    ∧ exprBytes (byteList payload) = .ok payload := by
  refine ⟨?_, bytesOf_byteList payload, exprBytes_of_bytesOf _ _ (bytesOf_byteList payload)⟩
  simp only [blockFormNames, List.mem_cons, List.not_mem_nil, or_false] at hf
  rcases hf with rfl | rfl | rfl | rfl | rfl <;> rfl

/-! non-vacuity of the composed theorems: three units of different configurations sharing one abbreviation table — a
    DWARF 5 unit (64-bit format, 8-byte addresses) with an exprloc next to a DW_AT_const_value block that is not an
    expression; a DWARF 2 unit (32-bit format, 4-byte addresses) whose block attributes hold expressions; a DWARF 4 unit
    whose block attributes hold bytes that are no expression and are not selected -/

def exC1 : DwarfCfg := ⟨true, 64, 8, 5⟩
def exC2 : DwarfCfg := ⟨true, 32, 4, 2⟩
def exOps1 : List Op :=
  [.plain 0x03 [.u 0x1122334455667788], .plain 0x9a [.u 0x0102030405060708],
   .entry 0xa3 1 [.plain 0x50 [], .entry 0xf3 2 [.plain 0x91 [.sleb 1 (-5)]]], .plain 0x9f []]
def exOps2 : List Op := [.plain 0x03 [.u 0x11223344], .plain 0x9a [.u 0xdeadbeef], .plain 0x91 [.sleb 2 (-5)]]
def exOps3 : List Op := [.plain 0x9e [.block 1 [7, 8, 9]], .plain 0xf2 [.u 0x10, .sleb 1 (-1)]]

def exDa : AbbrevDecl := { code := 1, tag := 0x11, children := true, specs := [] }
def exDb : AbbrevDecl :=
  { code := 2, tag := 0x34, children := false, specs := [{ name := 0x02, form := 0x18 }, { name := 0x1c, form := 0x0a }] }
def exDc : AbbrevDecl :=
  { code := 3, tag := 0x34, children := false, specs := [{ name := 0x02, form := 0x0a }, { name := 0x40, form := 0x03 },
                                                        { name := 0x1c, form := 0x0a }] }

def exExprForest : Forest :=
  { le := true,
    tables := [{ decls := [exDa, exDb, exDc] }],
    units := [{ fmt64 := true, version := 5, asz := 8, table := 0,
                tree := .mk { decl := exDa, attrs := [] }
                  [.mk { decl := exDb, attrs := [{ form := 0x18, op := .blockU 1 (encodeOps exC1 exOps1) },
                                                 { form := 0x0a, op := .block [1, 2, 3] }] } [] 1] 1 },
              { fmt64 := false, version := 2, asz := 4, table := 0,
                tree := .mk { decl := exDa, attrs := [] }
                  [.mk { decl := exDc, attrs := [{ form := 0x0a, op := .block (encodeOps exC2 exOps2) },
                                                 { form := 0x03, op := .block (encodeOps exC2 exOps3) },
                                                 { form := 0x0a, op := .block [0xff, 0xff] }] } [] 1] 1 },
              { fmt64 := false, version := 4, asz := 8, table := 0,
                tree := .mk { decl := exDa, attrs := [] }
                  [.mk { decl := exDc, attrs := [{ form := 0x0a, op := .block [0xff] },
                                                 { form := 0x03, op := .block [] },
                                                 { form := 0x0a, op := .block [0xfe] }] } [] 1] 1 }],
    tus := [{ fmt64 := false, version := 4, asz := 4, id8 := 9, typeOff := 23, table := 0,
              tree := .mk { decl := exDa, attrs := [] }
                [.mk { decl := exDb, attrs := [{ form := 0x18, op := .blockU 2 (encodeOps ⟨true, 32, 4, 4⟩ exOps2) },
                                               { form := 0x0a, op := .block [] }] } [] 1] 1 }] }

/-- the abstract syntax of the expression bytes that occur, per configuration -/
def exE : DwarfCfg → Bytes → List Op := tableE [(exC1, exOps1), (exC2, exOps2), (exC2, exOps3), (⟨true, 32, 4, 4⟩, exOps2)]

theorem exExprForest_wf : wfForestB C04.genNames exExprForest = true := by decide +kernel
/-- the hypothesis of `debug_info_exprs_exact` with the STANDARD selection `isExprAttr` -/
theorem exExprForest_ok : forestExprsOK isExprAttr exE C04.genNames exExprForest = true := by decide +kernel

set_option maxRecDepth 100000 in
/-- per unit, per entry: (attribute offset, number of top-level operations) of the selected attributes -/
example : (expectInfoExprs isExprAttr exE C04.genNames exExprForest).map (·.map (·.map fun x => (x.1, x.2.length)))
    = [[[], [(26, 4)], []], [[], [(72, 3), (86, 2)], []], [[], [], []]] := by decide +kernel

/-- `debug_info_exprs_exact` / `debug_types_exprs_exact` apply, from the empty cache and from a cache an earlier walk left -/
example := debug_info_exprs_exact exExprForest 8 (Or.inr rfl) exExprForest_wf Model.C04.fetch C04.fetch_agrees
  isExprAttr exE exExprForest_ok [] (pcacheOK_nil _)
example := debug_types_exprs_exact exExprForest 4 (Or.inl rfl) exExprForest_wf Model.C04.getCachedDIE (fun _ _ _ => rfl)
  isExprAttr exE exExprForest_ok [] (pcacheOK_nil _)
/-- chained: the cache the `.debug_info` walk leaves is a legitimate start for the `.debug_types` walk -/
example (pc : PCache) (hpc : PCacheOK Gen.opDispatch pc) :
    ∃ pc' pc'', sectionExprs Model.C04.fetch (C04.forestDInfo exExprForest 8) (C04.genBundles true 8).S0
          (some (infoSec exExprForest)) false Gen.opDispatch Gen.opOpcode2Name isExprAttr pc
            = .ok (expectInfoExprs isExprAttr exE C04.genNames exExprForest, pc')
      ∧ sectionExprs Model.C04.fetch (C04.forestDInfo exExprForest 8) (C04.genBundles true 8).S0
          (some (typesSec exExprForest)) true Gen.opDispatch Gen.opOpcode2Name isExprAttr pc'
            = .ok (expectTypesExprs isExprAttr exE C04.genNames exExprForest, pc'') := by
  obtain ⟨pc', h, h'⟩ := debug_info_exprs_exact exExprForest 8 (Or.inr rfl) exExprForest_wf Model.C04.fetch C04.fetch_agrees
    isExprAttr exE exExprForest_ok pc hpc
  obtain ⟨pc'', h2, _⟩ := debug_types_exprs_exact exExprForest 8 (Or.inr rfl) exExprForest_wf Model.C04.fetch
    C04.fetch_agrees isExprAttr exE exExprForest_ok pc' h'
  exact ⟨pc', pc'', h, h2⟩
example : exC1 ∈ Spec.allDwarfCfgs ∧ exC2 ∈ Spec.allDwarfCfgs := by simp [exC1, exC2, Spec.allDwarfCfgs]
example : opTable exC1 ≠ opTable exC2 := fun h => absurd ((opTable_eq_iff _ _).1 h).2.1 (by decide +kernel)

end Info

theorem sig_addr (c : DwarfCfg) : opSig c 0x03 = some [.u c.asz c.le] := rfl
theorem sig_call_ref (c : DwarfCfg) : opSig c 0x9a = some [.u (refSize c) c.le] := rfl
theorem sig_implicit_pointer (c : DwarfCfg) (op : Nat) (h : op = 0xa0 ∨ op = 0xf2) :
    opSig c op = some [.u (refSize c) c.le, .sleb] := by rcases h with rfl | rfl <;> rfl
theorem sig_implicit_value (c : DwarfCfg) : opSig c 0x9e = some [.block] := rfl
theorem sig_const_type (c : DwarfCfg) (op : Nat) (h : op = 0xa4 ∨ op = 0xf4) : opSig c op = some [.uleb, .block1] := by
  rcases h with rfl | rfl <;> rfl
theorem sig_entry_value (c : DwarfCfg) (op : Nat) (h : op = 0xa3 ∨ op = 0xf3) : opSig c op = some [.expr] := by
  rcases h with rfl | rfl <;> rfl
theorem sig_constu (c : DwarfCfg) : opSig c 0x10 = some [.uleb] := rfl
theorem sig_consts (c : DwarfCfg) : opSig c 0x11 = some [.sleb] := rfl

/-- widths of the unit-dependent operands in the REGENERATED dispatch tables, for all 32 configurations -/
theorem unit_dependent_widths :
    ∀ e ∈ Gen.opDispatch,
      e.2.lookup 0x03 = some [.u e.1.asz e.1.le]
      ∧ e.2.lookup 0x9a = some [.u (refSize e.1) e.1.le]
      ∧ e.2.lookup 0xa0 = some [.u (refSize e.1) e.1.le, .sleb]
      ∧ e.2.lookup 0xf2 = some [.u (refSize e.1) e.1.le, .sleb]
      ∧ e.2.lookup 0xa1 = some [.uleb] ∧ e.2.lookup 0xa2 = some [.uleb] := by
  intro e he
  rw [gen_dispatch_eq (c := e.1) (D := e.2) he]
  simp only [opTable_lookup]
  exact ⟨sig_addr _, sig_call_ref _, sig_implicit_pointer _ _ (.inl rfl), sig_implicit_pointer _ _ (.inr rfl), rfl, rfl⟩

theorem plain_roundtrip {c : DwarfCfg} {D : List (Nat × List ArgKind)} (hD : (c, D) ∈ Gen.opDispatch)
    {op : Nat} {ks : List ArgKind} {args : List Arg} (hs : opSig c op = some ks) (hfit : argsFit ks args = true) :
    (encodeOps c [.plain op args]).length = 1 + (encArgs ks args).length
    ∧ parseExpr D Gen.opOpcode2Name (encodeOps c [.plain op args]) = .ok [obsRecord op (args.flatMap obsArg) 0] := by
  refine ⟨?_, ?_⟩
  · simp [encodeOps, encodeOp, hs]
    omega
  · rw [expr_roundtrip c D hD _ (by simp [WFops, WFop, hs, hfit])]
    simp [annotate, obsOp]

/-- DW_OP_addr: the operand is `address_size` bytes of the unit (4 or 8), any value of that width -/
theorem addr_roundtrip (c : DwarfCfg) (D : List (Nat × List ArgKind)) (hD : (c, D) ∈ Gen.opDispatch)
    (v : Nat) (hv : v < 256 ^ c.asz) :
    (encodeOps c [.plain 0x03 [.u v]]).length = 1 + c.asz
    ∧ parseExpr D Gen.opOpcode2Name (encodeOps c [.plain 0x03 [.u v]]) = .ok [obsRecord 0x03 [.int v] 0] := by
  simpa [encArgs, encArg, encNat_length, obsArg] using
    plain_roundtrip hD (sig_addr c) (args := [.u v]) (by simp [argsFit, argFit, hv])

/-- DW_OP_call_ref: the operand is `refSize` bytes — 4 in the 32-bit and 8 in the 64-bit DWARF format from DWARF 3 on
    (§2.5.1.5), the size of an address in a DWARF 2 unit (the DW_FORM_ref_addr convention every producer and
    consumer follows for this operand) -/
theorem call_ref_roundtrip (c : DwarfCfg) (D : List (Nat × List ArgKind)) (hD : (c, D) ∈ Gen.opDispatch)
    (v : Nat) (hv : v < 256 ^ refSize c) :
    (encodeOps c [.plain 0x9a [.u v]]).length = 1 + refSize c
    ∧ parseExpr D Gen.opOpcode2Name (encodeOps c [.plain 0x9a [.u v]]) = .ok [obsRecord 0x9a [.int v] 0] := by
  simpa [encArgs, encArg, encNat_length, obsArg] using
    plain_roundtrip hD (sig_call_ref c) (args := [.u v]) (by simp [argsFit, argFit, hv])

/-- DW_OP_implicit_pointer / DW_OP_GNU_implicit_pointer: a reference of `refSize` bytes (format-sized from DWARF 3 on,
    ADDRESS-sized in a DWARF 2 unit — what `gcc -gdwarf-2` emits), then an SLEB128 of any encoded length `n` (10 bytes
    and more included) -/
theorem implicit_pointer_roundtrip (c : DwarfCfg) (D : List (Nat × List ArgKind)) (hD : (c, D) ∈ Gen.opDispatch)
    (op : Nat) (hop : op = 0xa0 ∨ op = 0xf2) (v : Nat) (hv : v < 256 ^ refSize c) (n : Nat) (s : Int) (hn : 1 ≤ n)
    (hlo : -((2 ^ (7 * n - 1) : Nat) : Int) ≤ s) (hhi : s < ((2 ^ (7 * n - 1) : Nat) : Int)) :
    (encodeOps c [.plain op [.u v, .sleb n s]]).length = 1 + refSize c + n
    ∧ parseExpr D Gen.opOpcode2Name (encodeOps c [.plain op [.u v, .sleb n s]])
        = .ok [obsRecord op [.int v, .int s] 0] := by
  have hfit : argsFit [.u (refSize c) c.le, .sleb] [.u v, .sleb n s] = true := by
    simp [argsFit, argFit, hv, hn]
    exact ⟨by exact_mod_cast hlo, by exact_mod_cast hhi⟩
  simpa [encArgs, encArg, encNat_length, encSlebN_length, obsArg, Nat.add_assoc] using
    plain_roundtrip hD (sig_implicit_pointer c op hop) hfit

/-- DW_OP_implicit_value: a block of ANY length — 0, 255, 256, thousands — behind a ULEB128 length of any encoded
    width `n` that can hold it -/
theorem implicit_value_roundtrip (c : DwarfCfg) (D : List (Nat × List ArgKind)) (hD : (c, D) ∈ Gen.opDispatch)
    (n : Nat) (b : Bytes) (hn : 1 ≤ n) (hb : b.length < 2 ^ (7 * n)) :
    (encodeOps c [.plain 0x9e [.block n b]]).length = 1 + n + b.length
    ∧ parseExpr D Gen.opOpcode2Name (encodeOps c [.plain 0x9e [.block n b]]) = .ok [obsRecord 0x9e [obsBytes b] 0] := by
  simpa [encArgs, encArg, encUlebN_length, obsArg, Nat.add_assoc] using
    plain_roundtrip hD (sig_implicit_value c) (args := [.block n b]) (by simp [argsFit, argFit, hn, hb])

/-- DW_OP_const_type / DW_OP_GNU_const_type: a ULEB128 type reference of any encoded length, then a value block of
    EVERY length a one-byte count can express, 0..255 -/
theorem const_type_roundtrip (c : DwarfCfg) (D : List (Nat × List ArgKind)) (hD : (c, D) ∈ Gen.opDispatch)
    (op : Nat) (hop : op = 0xa4 ∨ op = 0xf4) (n t : Nat) (hn : 1 ≤ n) (ht : t < 2 ^ (7 * n)) (b : Bytes) (hb : b.length ≤ 255) :
    (encodeOps c [.plain op [.uleb n t, .block1 b]]).length = 1 + n + 1 + b.length
    ∧ parseExpr D Gen.opOpcode2Name (encodeOps c [.plain op [.uleb n t, .block1 b]])
        = .ok [obsRecord op [.int t, obsBytes b] 0] := by
  have hfit : argsFit [.uleb, .block1] [.uleb n t, .block1 b] = true := by
    simp [argsFit, argFit, hn, ht]
    omega
  simpa [encArgs, encArg, encUlebN_length, obsArg, Nat.add_assoc, Nat.add_comm b.length 1] using
    plain_roundtrip hD (sig_const_type c op hop) hfit

/-- DW_OP_entry_value / DW_OP_GNU_entry_value: a nested expression of ANY encoded length (0 included), the nested
    operations numbered from 0 -/
theorem entry_value_roundtrip (c : DwarfCfg) (D : List (Nat × List ArgKind)) (hD : (c, D) ∈ Gen.opDispatch)
    (op : Nat) (hop : op = 0xa3 ∨ op = 0xf3) (n : Nat) (body : List Op) (hn : 1 ≤ n)
    (hlen : (encodeOps c body).length < 2 ^ (7 * n)) (hbody : WFops c body = true) :
    (encodeOps c [.entry op n body]).length = 1 + n + (encodeOps c body).length
    ∧ parseExpr D Gen.opOpcode2Name (encodeOps c [.entry op n body])
        = .ok [obsRecord op [.list (annotate c 0 body)] 0] := by
  have hs := sig_entry_value c op hop
  refine ⟨?_, ?_⟩
  · simp [encodeOps, encodeOp, encUlebN_length]; omega
  · rw [expr_roundtrip c D hD _ (by simp [WFops, WFop, hs, hn, hlen, hbody])]
    simp [annotate, obsOp]

/-- LEB128 operands of EVERY encoded length: DW_OP_constu / DW_OP_consts with `n` bytes (minimal or padded; `n = 10`
    carries every 64-bit value and more, Python ints are unbounded) -/
theorem leb_operand_roundtrip (c : DwarfCfg) (D : List (Nat × List ArgKind)) (hD : (c, D) ∈ Gen.opDispatch) (n : Nat)
    (hn : 1 ≤ n) :
    (∀ v : Nat, v < 2 ^ (7 * n) →
      parseExpr D Gen.opOpcode2Name (encodeOps c [.plain 0x10 [.uleb n v]]) = .ok [obsRecord 0x10 [.int v] 0])
    ∧ (∀ s : Int, -((2 ^ (7 * n - 1) : Nat) : Int) ≤ s → s < ((2 ^ (7 * n - 1) : Nat) : Int) →
      parseExpr D Gen.opOpcode2Name (encodeOps c [.plain 0x11 [.sleb n s]]) = .ok [obsRecord 0x11 [.int s] 0]) := by
  refine ⟨fun v hv => ?_, fun s hlo hhi => ?_⟩
  · simpa [obsArg] using
      (plain_roundtrip hD (sig_constu c) (args := [.uleb n v]) (by simp [argsFit, argFit, hn, hv])).2
  · have hfit : argsFit [.sleb] [.sleb n s] = true := by
      simp [argsFit, argFit, hn]
      exact ⟨by exact_mod_cast hlo, by exact_mod_cast hhi⟩
    simpa [obsArg] using (plain_roundtrip hD (sig_consts c) hfit).2

/-! the extremes are inside the domain: blocks of length 0 / 255 / 256 / 300, a 255-byte typed constant, an empty and
    a 200-byte nested expression, 10- and 11-byte LEB128s at the 64-bit boundaries, 4- and 8-byte addresses and offsets -/
example : WFops ⟨true, 32, 4, 2⟩
    [.plain 0x9e [.block 1 []], .plain 0x9e [.block 2 (List.replicate 255 0xab)], .plain 0x9e [.block 2 (List.replicate 256 1)],
     .plain 0x9e [.block 3 (List.replicate 300 0xff)], .plain 0xa4 [.uleb 1 0, .block1 []],
     .plain 0xf4 [.uleb 5 0xffffffff, .block1 (List.replicate 255 0x80)],
     .entry 0xa3 1 [], .entry 0xf3 2 (List.replicate 200 (.plain 0x96 [])),
     .plain 0x10 [.uleb 10 (2 ^ 64 - 1)], .plain 0x10 [.uleb 10 (2 ^ 70 - 1)], .plain 0x10 [.uleb 11 (2 ^ 64)],
     .plain 0x11 [.sleb 10 (-(2 ^ 63))], .plain 0x11 [.sleb 10 (2 ^ 63 - 1)], .plain 0x11 [.sleb 11 (-(2 ^ 69) - 1)],
     .plain 0xa1 [.uleb 10 (2 ^ 64 - 1)],
     .plain 0x03 [.u 0xffffffff], .plain 0x9a [.u 0xffffffff], .plain 0xa0 [.u 0xffffffff, .sleb 10 (-(2 ^ 63))]] = true := by
  decide +kernel
example : WFops ⟨false, 64, 8, 5⟩
    [.plain 0x03 [.u 0xffffffffffffffff], .plain 0x9a [.u 0xffffffffffffffff], .plain 0xf2 [.u 0x100000000, .sleb 1 (-1)]] = true := by
  decide +kernel
/-- … and what is NOT encodable is outside it: a 256-byte typed constant (one-byte count), a 4-byte address in an
    8-byte slot is fine but a 5-byte value in a 4-byte slot is not -/
example : WFops ⟨true, 32, 4, 5⟩ [.plain 0xa4 [.uleb 1 0, .block1 (List.replicate 256 0)]] = false := by decide +kernel
example : WFops ⟨true, 32, 4, 5⟩ [.plain 0x03 [.u 0x100000000]] = false := by decide +kernel
example : (encodeOps ⟨true, 32, 4, 3⟩ [.plain 0x9a [.u 1]]).length = 5 ∧ (encodeOps ⟨true, 64, 4, 3⟩ [.plain 0x9a [.u 1]]).length = 9
    ∧ (encodeOps ⟨true, 32, 8, 5⟩ [.plain 0x03 [.u 1]]).length = 9 := by decide +kernel
/-- the DWARF 2 convention: in a DWARF 2 unit with 8-byte addresses and the 32-bit format the reference of
    DW_OP_GNU_implicit_pointer takes 8 bytes (the bytes `gcc -O2 -gdwarf-2` emits on x86-64: f2 a3 00 00 00 00 00 00 00 00),
    in a DWARF 3+ unit 4 -/
example : encodeOps ⟨true, 32, 8, 2⟩ [.plain 0xf2 [.u 0xa3, .sleb 1 0]] = [0xf2, 0xa3, 0, 0, 0, 0, 0, 0, 0, 0]
    ∧ encodeOps ⟨true, 32, 8, 3⟩ [.plain 0xf2 [.u 0xa3, .sleb 1 0]] = [0xf2, 0xa3, 0, 0, 0, 0]
    ∧ refSize ⟨true, 64, 4, 2⟩ = 4 ∧ refSize ⟨true, 64, 4, 4⟩ = 8 := by decide +kernel

/--
  Every truncation of a well-formed expression: the encoded bytes cut `j` bytes into the operation `o`
  (by `truncation_exhaustive` every proper prefix is such a cut).
   * `j = 0`, between two operations: parsing returns exactly the operations before the cut, annotated as in the uncut
     expression;
   * `j ≥ 1`, the opcode byte is there but the operands are not complete (inside a constant, a LEB128, the count or the
     bytes of a block, the length or the body of a nested expression at any depth, between two operands): `parse_expr`
     raises ELFParseError — never another exception class, never a shortened operation; the complete operations in
     front of the cut are not returned.
-/
theorem truncated_expr (c : DwarfCfg) (D : List (Nat × List ArgKind)) (hD : (c, D) ∈ Gen.opDispatch)
    (done : List Op) (o : Op) (rest : List Op) (hwf : WFops c (done ++ o :: rest) = true) (j : Nat)
    (hj : j < (encodeOp c o).length) :
    parseExpr D Gen.opOpcode2Name ((encodeOps c (done ++ o :: rest)).take ((encodeOps c done).length + j))
      = if j = 0 then .ok (annotate c 0 done) else .error .elfParseError := by
  by_cases h0 : j = 0
  · subst h0
    rw [if_pos rfl, Nat.add_zero]
    exact parseExpr_cut_boundary (gen_tables_ok c D hD) done (o :: rest) hwf
  · rw [if_neg h0]
    exact parseExpr_cut_inside (gen_tables_ok c D hD) done o rest hwf j (by omega) hj

/-- every proper prefix of an encoded sequence is a cut of `truncated_expr` -/
theorem truncation_exhaustive (c : DwarfCfg) (ops : List Op) (k : Nat) (hk : k < (encodeOps c ops).length) :
    ∃ done o rest j, ops = done ++ o :: rest ∧ k = (encodeOps c done).length + j ∧ j < (encodeOp c o).length := by
  induction ops generalizing k with
  | nil => simp [encodeOps] at hk
  | cons o ops ih =>
    rw [encodeOps_cons, List.length_append] at hk
    by_cases h : k < (encodeOp c o).length
    · exact ⟨[], o, ops, k, rfl, by simp [encodeOps], h⟩
    · obtain ⟨done, o', rest, j, e, hk', hj⟩ := ih (k - (encodeOp c o).length) (by omega)
      refine ⟨o :: done, o', rest, j, by rw [e]; rfl, ?_, hj⟩
      rw [encodeOps_cons, List.length_append]
      omega

/-- the two together: EVERY proper prefix (cut at any byte `k`) parses to a prefix of the operations or raises
    ELFParseError -/
theorem truncated_expr_every_byte (c : DwarfCfg) (D : List (Nat × List ArgKind)) (hD : (c, D) ∈ Gen.opDispatch)
    (ops : List Op) (hwf : WFops c ops = true) (k : Nat) (hk : k < (encodeOps c ops).length) :
    (∃ done rest, ops = done ++ rest ∧ k = (encodeOps c done).length
        ∧ parseExpr D Gen.opOpcode2Name ((encodeOps c ops).take k) = .ok (annotate c 0 done))
    ∨ parseExpr D Gen.opOpcode2Name ((encodeOps c ops).take k) = .error .elfParseError := by
  obtain ⟨done, o, rest, j, rfl, rfl, hj⟩ := truncation_exhaustive c ops k hk
  have h := truncated_expr c D hD done o rest hwf j hj
  by_cases h0 : j = 0
  · subst h0
    rw [if_pos rfl] at h
    exact Or.inl ⟨done, o :: rest, rfl, rfl, h⟩
  · rw [if_neg h0] at h
    exact Or.inr h

/-- non-vacuity: `sample` (44 bytes) cut at byte 23 — inside the typed constant, behind the depth-3 nest — and at
    byte 9, between DW_OP_addr and the nest -/
example (D : List (Nat × List ArgKind)) (hD : ((⟨false, 64, 8, 5⟩ : DwarfCfg), D) ∈ Gen.opDispatch) :
    parseExpr D Gen.opOpcode2Name ((encodeOps ⟨false, 64, 8, 5⟩ sample).take 23) = .error .elfParseError := by
  have h := truncated_expr ⟨false, 64, 8, 5⟩ D hD (sample.take 2) (.plain 0xa4 [.uleb 1 9, .block1 [0xaa, 0xbb]]) (sample.drop 3)
    (by decide +kernel) 2 (by decide +kernel)
  have e : (encodeOps ⟨false, 64, 8, 5⟩ (sample.take 2)).length + 2 = 23 := by decide +kernel
  rw [e] at h
  exact h
example (D : List (Nat × List ArgKind)) (hD : ((⟨false, 64, 8, 5⟩ : DwarfCfg), D) ∈ Gen.opDispatch) :
    parseExpr D Gen.opOpcode2Name ((encodeOps ⟨false, 64, 8, 5⟩ sample).take 9)
      = .ok (annotate ⟨false, 64, 8, 5⟩ 0 (sample.take 1)) := by
  have h := truncated_expr ⟨false, 64, 8, 5⟩ D hD (sample.take 1) (sample[1]) (sample.drop 2) (by decide +kernel) 0
    (by decide +kernel)
  have e : (encodeOps ⟨false, 64, 8, 5⟩ (sample.take 1)).length + 0 = 9 := by decide +kernel
  rw [e] at h
  exact h

end PyElf.Props.C12
