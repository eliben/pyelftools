/-
  C01 tie: the structures elffile.py parses with (file, section and program
  headers) and sizes it consults when it builds section objects are, for every
  configuration, the gABI's; and every e_machine name falls in the behaviour
  class the Spec assigns (so "every e_machine" is a finite kernel check).
  No theorem of Props/C01 applies the field ties (the property is stated over the Spec's structures): each stands so
  that the check fails, naming the field, when the struct the library builds for some configuration stops being the
  Spec's.  That the regenerated factory opens a file as the Spec's does is Props/TieElfFile, outside C01's check.
-/
import PyElf.Gen.Structs
import PyElf.Spec.ElfStructs
namespace PyElf.Props.TieC01
open PyElf

theorem machine_class_eq_spec : Gen.machineClass = Spec.machineClass := by rfl
theorem elf_cfgs_eq_spec : Gen.elfBundles.map (·.1) = Spec.allElfCfgs := by rfl

theorem elf_Elf_Ehdr : Gen.elfBundles.map (fun b => (b.1, b.2.Elf_Ehdr)) = Spec.allElfCfgs.map (fun c => (c, (Spec.elfStructs c).Elf_Ehdr)) := by rfl
theorem elf_Elf_Shdr : Gen.elfBundles.map (fun b => (b.1, b.2.Elf_Shdr)) = Spec.allElfCfgs.map (fun c => (c, (Spec.elfStructs c).Elf_Shdr)) := by rfl
theorem elf_Elf_Phdr : Gen.elfBundles.map (fun b => (b.1, b.2.Elf_Phdr)) = Spec.allElfCfgs.map (fun c => (c, (Spec.elfStructs c).Elf_Phdr)) := by rfl
theorem elf_Elf_Chdr : Gen.elfBundles.map (fun b => (b.1, b.2.Elf_Chdr)) = Spec.allElfCfgs.map (fun c => (c, (Spec.elfStructs c).Elf_Chdr)) := by rfl
theorem elf_Elf_Rel : Gen.elfBundles.map (fun b => (b.1, b.2.Elf_Rel)) = Spec.allElfCfgs.map (fun c => (c, (Spec.elfStructs c).Elf_Rel)) := by rfl
theorem elf_Elf_Rela : Gen.elfBundles.map (fun b => (b.1, b.2.Elf_Rela)) = Spec.allElfCfgs.map (fun c => (c, (Spec.elfStructs c).Elf_Rela)) := by rfl
theorem elf_Elf_Relr : Gen.elfBundles.map (fun b => (b.1, b.2.Elf_Relr)) = Spec.allElfCfgs.map (fun c => (c, (Spec.elfStructs c).Elf_Relr)) := by rfl
theorem elf_Elf_Dyn : Gen.elfBundles.map (fun b => (b.1, b.2.Elf_Dyn)) = Spec.allElfCfgs.map (fun c => (c, (Spec.elfStructs c).Elf_Dyn)) := by rfl
theorem elf_Elf_Sym : Gen.elfBundles.map (fun b => (b.1, b.2.Elf_Sym)) = Spec.allElfCfgs.map (fun c => (c, (Spec.elfStructs c).Elf_Sym)) := by rfl
theorem elf_Elf_Hash : Gen.elfBundles.map (fun b => (b.1, b.2.Elf_Hash)) = Spec.allElfCfgs.map (fun c => (c, (Spec.elfStructs c).Elf_Hash)) := by rfl
theorem elf_Gnu_Hash : Gen.elfBundles.map (fun b => (b.1, b.2.Gnu_Hash)) = Spec.allElfCfgs.map (fun c => (c, (Spec.elfStructs c).Gnu_Hash)) := by rfl
theorem elf_Elf_byte : Gen.elfBundles.map (fun b => (b.1, b.2.Elf_byte)) = Spec.allElfCfgs.map (fun c => (c, (Spec.elfStructs c).Elf_byte)) := by rfl
theorem elf_Elf_word : Gen.elfBundles.map (fun b => (b.1, b.2.Elf_word)) = Spec.allElfCfgs.map (fun c => (c, (Spec.elfStructs c).Elf_word)) := by rfl
theorem elf_Elf_xword : Gen.elfBundles.map (fun b => (b.1, b.2.Elf_xword)) = Spec.allElfCfgs.map (fun c => (c, (Spec.elfStructs c).Elf_xword)) := by rfl

end PyElf.Props.TieC01
