/-
  C20 — ARM/RISC-V build attributes and ARM unwind tables are decoded exactly.

  `pre`/`gap`/`rest` are arbitrary surrounding bytes; the models are the mirrors of the Python in
  Model/Attributes.lean, Model/Ehabi.lean, Model/AttrFile.lean, Model/AttrHistory.lean; `Gen.*` is
  regenerated from the tree on every run.

  Four groups: sections (attribute round trip, prel31, entry classification against the EHABI reference decoder, whole
  index tables with the handler table anywhere, byte-code against table 4); whole files (composition with C01: `d` an
  abstract ELF description, `bytes` any byte string with `Layout d bytes`; the `_generated` forms are about the very
  functions the driver runs, Props/TieC20File.lean); order-independence of the generator API; malformed input (unknown
  tag, `sh_size` beyond the file, truncated file, truncated byte-code operands, references outside the file).
  Correspondence-only: sections cut short while the FILE goes on, or with length fields that point into
  the middle of a structure (the walk then reads whatever bytes follow: no closed form; `attr_raw`,
  `hist` streams), zero length fields (the Python loops for ever: model `outOfFuel`), compressed attribute
  sections, `iter_*` with a filter argument, files C01 does not call well-formed, and the tie of the
  hand-written mirrors to the Python text (every stream compares impl == model).

  The statements speak of (besides Spec/Attributes.lean, Spec/Ehabi.lean, Spec/C20File.lean and the models):
    Proofs/Attrs.lean           `tagTableId` — id of the architecture's attribute-tag enum table.
    Proofs/C20Sec.lean          `EnvC20` — the environment names the three ARM / RISC-V section types.
    Proofs/Walk.lean            `AllMatch` — two lists related member by member.
    Proofs/AttrGenerators.lean  `SubsecMatch`, `SubsubMatch` — a yielded object is the description's subsection /
                                sub-subsection; `AttrsExact` — its attribute generator lists the description's attributes.
    Proofs/AttrHistory.lean     `nextAnswers` — answers to the `next(g)` calls of a history; `soloAnswers` — answers of
                                a generator advanced alone.
    Proofs/EhabiImage.lean      `tabOf` — file offset of entry `i`'s handler-table words.
    Proofs/EhabiFile.lean       `specEH` — the standard's EHABI structs as the factory the reader is given.
    Proofs/C20Examples.lean     `exArmFile`, `exRiscvFile`, `exArmSec`, … — the concrete objects of the examples.
-/
import PyElf.Spec.Attributes
import PyElf.Spec.Ehabi
import PyElf.Model.Env
import PyElf.Model.Attributes
import PyElf.Model.Ehabi
import PyElf.Proofs.Attrs
import PyElf.Proofs.AttrTie
import PyElf.Proofs.EhabiEntry
import PyElf.Proofs.EhabiImage
import PyElf.Proofs.EhabiBytecode
import PyElf.Props.TieC20
import PyElf.Props.TieC20File
import PyElf.Proofs.AttrFile
import PyElf.Proofs.EhabiFile
import PyElf.Proofs.AttrHistory
import PyElf.Proofs.AttrGenerators
import PyElf.Proofs.AttrErrors
import PyElf.Proofs.C20Examples
namespace PyElf.Props.C20
open PyElf PyElf.Spec

theorem elfEnv_tags (arch : Attr.Arch) (t : Nat) :
    Model.elfEnv.enumDecode (Proofs.tagTableId arch) (t : Int) = Attr.tagName arch t :=
  Proofs.genEnumDecode_tags TieC20.arm_tag_table TieC20.riscv_tag_table arch t

/-- Any well-formed attributes section (any number of vendor subsections, scopes and attributes over the ARM or RISC-V
    tag table, every ULEB128 with any padding, either byte order, anywhere in a file) is observed through
    iter_subsections → iter_subsubsections → iter_attributes as exactly its description. -/
theorem attrs_roundtrip (arch : Attr.Arch) (env : Env) (cfg : ElfCfg) (sec : Attr.Section) (pre rest : Bytes)
    (henv : ∀ t : Nat, env.enumDecode (Proofs.tagTableId arch) (t : Int) = Attr.tagName arch t)
    (hwf : Attr.sectionWf arch cfg.le sec = true) :
    Model.Attr.attributesSection arch env (Spec.elfStructs cfg)
        (pre ++ Attr.encSection cfg.le sec ++ rest) pre.length (Attr.encSection cfg.le sec).length
      = .ok (Attr.obsSection arch cfg.le sec) :=
  Proofs.attrs_roundtrip arch env cfg sec pre rest henv hwf

/-- the same with the enum tables regenerated from the tree (`Model.elfEnv`): its ARM / RISC-V tag
    tables are the ABI's (`TieC20.arm_tag_table`, `riscv_tag_table`) -/
theorem attrs_roundtrip_gen (arch : Attr.Arch) (cfg : ElfCfg) (sec : Attr.Section) (pre rest : Bytes)
    (hwf : Attr.sectionWf arch cfg.le sec = true) :
    Model.Attr.attributesSection arch Model.elfEnv (Spec.elfStructs cfg)
        (pre ++ Attr.encSection cfg.le sec ++ rest) pre.length (Attr.encSection cfg.le sec).length
      = .ok (Attr.obsSection arch cfg.le sec) :=
  Proofs.attrs_roundtrip arch Model.elfEnv cfg sec pre rest (elfEnv_tags arch) hwf

/-- non-vacuity: two vendor subsections of EQUAL length (a walk that advanced from the first subsection's start
    instead of each one's own would not terminate on them), the second with two sub-subsections, padded ULEB128s, an
    NTBS, a nested tag -/
example : Attr.sectionWf .arm true
    [⟨[0x61], [⟨⟨1, 1⟩, [], [⟨⟨6, 1⟩, .simple (.int ⟨10, 2⟩)⟩]⟩]⟩,
     ⟨[0x62], [⟨⟨1, 1⟩, [], [⟨⟨6, 1⟩, .simple (.int ⟨11, 2⟩)⟩]⟩]⟩,
     ⟨[0x63], [⟨⟨2, 1⟩, [⟨1, 1⟩, ⟨300, 3⟩], [⟨⟨5, 1⟩, .simple (.str [0x41, 0x39])⟩]⟩,
               ⟨⟨3, 2⟩, [], [⟨⟨65, 1⟩, .also ⟨6, 1⟩ (.int ⟨3, 1⟩)⟩, ⟨⟨32, 1⟩, .compat ⟨1, 1⟩ [0x67]⟩]⟩]⟩] = true := by
  decide +kernel

example : Attr.sectionWf .riscv false
    [⟨[0x72], [⟨⟨1, 1⟩, [], [⟨⟨5, 1⟩, .simple (.str [0x72, 0x76])⟩, ⟨⟨4, 1⟩, .simple (.int ⟨16, 1⟩)⟩]⟩]⟩] = true := by
  decide +kernel

/-- `arm_expand_prel31` (the T3 translation of the Python) is the EHABI's place-relative 31-bit
    offset, sign-extended from bit 30, modulo 2^64 — for every word and every place -/
theorem prel31_eq_std (w place : Nat) :
    Gen.Pure.arm_expand_prel31 (w : Int) (place : Int) = ((Ehabi.expand w place : Nat) : Int) :=
  Proofs.prel31_eq_std w place

/-- bit 30 set, bit 26 clear (negative): 0x40000000 − 0x30000000; bit 26 set, bit 30 clear (positive) -/
example : Gen.Pure.arm_expand_prel31 0x50000000 0x40000000 = 0x10000000 := by decide +kernel
example : Gen.Pure.arm_expand_prel31 0x04000000 0x100 = 0x04000100 := by decide +kernel

/-- On every file image and every entry index in range, `get_entry` classifies the entry (corrupt / cannot-unwind /
    inline compact / table-based compact 0-2 / generic) and unpacks it exactly as the EHABI reference decoder reads it off
    the words; a reference outside the file is the library's parse error.  `htab` only excludes table references that
    wrap to ≥ 2^63, where CPython's `seek` overflows. -/
theorem entry_classification_exact (env : Env) (le : Bool) (data : Bytes) (shOffset shSize n : Nat)
    (hn : n < shSize / 8) (hplace : shOffset + 8 * n + 8 < 2 ^ 63)
    (htab : ∀ w1, Ehabi.wordAt le data (shOffset + 8 * n + 4) = some w1 →
              Ehabi.expand w1 (shOffset + 8 * n + 4) < 2 ^ 63) :
    Model.Ehabi.getEntry env (Spec.ehabiStructs le) data shOffset shSize n
      = (match Ehabi.decodeEntry (Ehabi.wordAt le data) (shOffset + 8 * n) with
         | some d => .ok (Ehabi.obsDecoded d)
         | none => .error .elfParseError) :=
  Proofs.getEntry_eq_std env le data shOffset shSize n hn hplace htab

/-- the reference decoder inverts the abstract entries' encoding (Spec-internal consistency) -/
theorem reference_decoder_inverts_encoding (mem : Nat → Option Nat) (e : Ehabi.Entry) (place tab : Nat)
    (hwf : Ehabi.entryWf e = true) (hd : Ehabi.dispOk ((tab : Int) - ((place : Int) + 4)) = true)
    (hne : tab ≠ place + 5) (ht : tab < 2 ^ 62)
    (h0 : mem place = (Ehabi.encIndex e place tab)[0]?) (h1 : mem (place + 4) = (Ehabi.encIndex e place tab)[1]?)
    (hT : ∀ i, i < e.tableWords.length → mem (tab + 4 * i) = e.tableWords[i]?) :
    (Ehabi.decodeEntry mem place).map Ehabi.obsDecoded = some (Ehabi.obsEntry e place tab) :=
  Proofs.decodeEntry_enc mem e place tab hwf hd hne ht h0 h1 hT

/-- For an index table of any number of entries of any kind, with the handler-table entries laid out after it, anywhere in
    a file image of either byte order, `get_entry(i)` is exactly entry `i`. -/
theorem exidx_roundtrip (env : Env) (le : Bool) (pre gap rest : Bytes) (es : List Ehabi.Entry) (i : Nat)
    (hi : i < es.length) (hwf : es.all Ehabi.entryWf = true)
    (hsize : (Ehabi.encImage le pre gap rest es).length < 2 ^ 30) :
    Model.Ehabi.getEntry env (Spec.ehabiStructs le) (Ehabi.encImage le pre gap rest es) pre.length (8 * es.length) i
      = .ok (Ehabi.obsEntry es[i] (pre.length + 8 * i)
              (Proofs.tabOf (pre.length + 8 * es.length + gap.length) es i)) :=
  Proofs.C20.exidx_roundtrip env le pre gap rest es i hi hwf hsize

example : [Ehabi.Entry.cantUnwind (-0x30000000), .inline 0x04000000 0x97 0x84 0x08,
           .table (-4) (.long 1 0xb2 0x81 [[0x01, 0xb0, 0xb0, 0xb0]]), .table 8 (.generic (-0x40000000))].all
          Ehabi.entryWf = true := by decide +kernel

/-- For every byte-code array (any length, the whole opcode space, ULEB128 operands of any length)
    the decoder — the regenerated `ring` dispatch table and the handlers — produces exactly the
    EHABI table-4 disassembly, instruction bytes and mnemonics; an array that ends inside an
    instruction is Python's IndexError. -/
theorem bytecode_eq_std (arr : Bytes) :
    Model.Ehabi.decode Gen.ehabiRing arr
      = (match Ehabi.ehabiStd arr with
         | some l => .ok l
         | none => .error .indexError) :=
  Proofs.decode_eq_std arr

/-- multi-byte ULEB128 operand followed by an opcode < 0x80: the operand ends at its first byte below 0x80, and the
    opcode behind it is not swallowed -/
example : Ehabi.ehabiStd [0xb2, 0x81, 0x82, 0x01, 0x00, 0xb0]
    = some [([0xb2, 0x81, 0x82, 0x01], "vsp = vsp + 67080"), ([0x00], "vsp = vsp + 4"), ([0xb0], "finish")] := by
  decide +kernel

/-- `exidx_roundtrip` freed from the image shape `encImage`: for any byte string in which the index
    table of `es` sits at `shOffset` and the handler-table entries sit consecutively at `tab0` —
    before the index table, after it, in another section — with every reference expressible as a
    prel31 offset (`refsOk`), `get_entry(i)` is exactly entry `i`. -/
theorem exidx_roundtrip_anywhere (env : Env) (le : Bool) (data irest trest : Bytes) (shOffset tab0 : Nat)
    (es : List Ehabi.Entry) (i : Nat) (hi : i < es.length) (hwf : es.all Ehabi.entryWf = true)
    (hidx : data.drop shOffset = Ehabi.encExidxFrom le shOffset es (Ehabi.tableOffsets tab0 es) ++ irest)
    (htab : data.drop tab0 = Ehabi.encWords le (C20.tableWordsOf es) ++ trest)
    (hrefs : C20.refsOk shOffset es (Ehabi.tableOffsets tab0 es) = true)
    (hsize : shOffset + 8 * es.length < 2 ^ 62) :
    Model.Ehabi.getEntry env (Spec.ehabiStructs le) data shOffset (8 * es.length) i
      = .ok (Ehabi.obsEntry es[i] (shOffset + 8 * i) (Proofs.tabOf tab0 es i)) :=
  Proofs.C20.getEntry_tables env le data irest trest shOffset tab0 es i hi hwf hidx htab hrefs hsize

/-- the handler table 4 bytes into a region BEFORE the index table (negative references) -/
example : C20.refsOk 400 Proofs.C20.exEntries (Ehabi.tableOffsets 100 Proofs.C20.exEntries) = true := by decide +kernel

/-! Whole files (composition with C01).  `d` is an abstract ELF description (Spec/ElfImage.lean), `bytes` any byte string that carries it
  (`Layout d bytes`: header, tables and section bodies sit where the description puts them, nothing
  else is constrained), `d.wfZ env` C01's well-formedness (compressed sections admitted), `obs` what
  C01 says must be reported.  The struct factory and machine classification `Proofs.specSF` /
  `Proofs.specMC` are C01's `specStructs` / `specMachineClass` (`C01.specStructs_eq`); the `_generated`
  forms replace them by the regenerated ones the driver runs.  The model functions
  (Model/AttrFile.lean) are C01's mirror of elffile.py followed by the attribute / EHABI mirrors on the
  header the file object decoded.  `C20.attrSecAt arch d i sec`: the machine is `arch`'s, section `i`
  has raw type 0x70000003, is not flagged SHF_COMPRESSED, its body is the Spec encoding of the
  well-formed `sec` and `sh_size` the encoding's length (decidable; Spec/C20File.lean). -/

open PyElf.Model PyElf.Model.C20 PyElf.Proofs PyElf.Proofs.C20 in
/-- `ELFFile(BytesIO(bytes)).get_section(i)` is an `ARMAttributesSection` / `RISCVAttributesSection`
    and `iter_subsections() → iter_subsubsections() → iter_attributes()` yield exactly the description. -/
theorem file_attributes_exact (env : Env) (he : EnvC20 env) (arch : Attr.Arch)
    (htags : ∀ t : Nat, env.enumDecode (Proofs.tagTableId arch) (t : Int) = Attr.tagName arch t)
    (d : ElfDesc) (bytes : Bytes) (obs : ElfObs)
    (hwf : d.wfZ env = true) (hl : Layout d bytes) (ho : d.observe env = .ok obs)
    (i : Nat) (sec : Attr.Section) (hsec : C20.attrSecAt arch d i sec = true) :
    fileAttrSection env specSF specMC bytes i = .ok (C20.attrKindName arch, Attr.obsSection arch d.le sec) := by
  obtain ⟨sd, hsd, F⟩ := attrSecAt_unpack hsec
  exact fileAttrSection_ok he htags hwf hl hsd F

open PyElf.Model PyElf.Model.C20 PyElf.Proofs PyElf.Proofs.C20 in
/-- the same through `get_section_by_name(name)`, `i` being the section the name designates (the last
    one bearing it) -/
theorem file_attributes_by_name_exact (env : Env) (he : EnvC20 env) (arch : Attr.Arch)
    (htags : ∀ t : Nat, env.enumDecode (Proofs.tagTableId arch) (t : Int) = Attr.tagName arch t)
    (d : ElfDesc) (bytes : Bytes) (obs : ElfObs)
    (hwf : d.wfZ env = true) (hl : Layout d bytes) (ho : d.observe env = .ok obs)
    (name : Bytes) (i : Nat) (hname : d.indexOfName name = some i)
    (sec : Attr.Section) (hsec : C20.attrSecAt arch d i sec = true) :
    fileAttrSectionByName env specSF specMC bytes name
      = .ok (some (C20.attrKindName arch, Attr.obsSection arch d.le sec)) := by
  obtain ⟨sd, hsd, F⟩ := attrSecAt_unpack hsec
  rw [fileAttrSectionByName_eq hwf hl ho name, hname]
  simp only [fileAttrSection_ok he htags hwf hl hsd F]
  rfl

open PyElf.Model PyElf.Model.C20 PyElf.Proofs PyElf.Proofs.C20 in
/-- for every name and whatever the sections contain: `get_section_by_name(name)` is `None` when no
    section bears the name and `get_section(i)` for the last section `i` that does -/
theorem file_attributes_by_name_eq (env : Env) (d : ElfDesc) (bytes : Bytes) (obs : ElfObs)
    (hwf : d.wfZ env = true) (hl : Layout d bytes) (ho : d.observe env = .ok obs) (name : Bytes) :
    fileAttrSectionByName env specSF specMC bytes name =
      match d.indexOfName name with
      | none => .ok none
      | some i => (fileAttrSection env specSF specMC bytes i).map some :=
  fileAttrSectionByName_eq hwf hl ho name

open PyElf.Model PyElf.Model.C20 PyElf.Proofs PyElf.Proofs.C20 in
/-- Reduction, with no hypothesis on the contents: `get_section(i)` of an uncompressed section of the
    machine's attributes type is the attributes class, and its iteration IS the attribute walk at
    (`sh_offset`, `sh_size`) of the description's header with the description's bundle.  Every
    section-level theorem of this file (round trip, malformed input) thereby speaks about whole files. -/
theorem file_attributes_reduce (env : Env) (he : EnvC20 env) (arch : Attr.Arch)
    (d : ElfDesc) (bytes : Bytes) (obs : ElfObs)
    (hwf : d.wfZ env = true) (hl : Layout d bytes) (ho : d.observe env = .ok obs)
    (i : Nat) (sd : SecDesc) (hsd : d.sections[i]? = some sd)
    (hm : d.mclass = C20.mclassOf arch) (hty : Fields.get? sd.hdr "sh_type" = some (.int 0x70000003))
    (hplain : getNatD sd.hdr "sh_flags" &&& 0x800 = 0) :
    fileAttrSection env specSF specMC bytes i
      = (Model.Attr.attributesSection arch env (elfStructs d.cfg) bytes (getNatD sd.hdr "sh_offset")
          (getNatD sd.hdr "sh_size")).map fun t => (C20.attrKindName arch, t) :=
  fileAttrSection_reduce he hwf hl hsd hm hty hplain

open PyElf.Model PyElf.Model.C20 PyElf.Proofs PyElf.Proofs.C20 in
/-- closed over the whole tie: the functions the driver runs on every generated file — regenerated
    enum tables, struct factory and machine classification -/
theorem file_attributes_exact_generated (arch : Attr.Arch) (d : ElfDesc) (bytes : Bytes) (obs : ElfObs)
    (hwf : d.wfZ Model.elfEnv = true) (hl : Layout d bytes) (ho : d.observe Model.elfEnv = .ok obs)
    (i : Nat) (sec : Attr.Section) (hsec : C20.attrSecAt arch d i sec = true) :
    fileAttrSection Model.elfEnv Model.elfStructsFor Model.machineClassOf bytes i
      = .ok (C20.attrKindName arch, Attr.obsSection arch d.le sec) := by
  rw [TieC20File.fileAttrSection_generated]
  exact file_attributes_exact _ TieC20File.elfEnv_c20 arch (elfEnv_tags arch) d bytes obs hwf hl ho i sec hsec

open PyElf.Model PyElf.Model.C20 PyElf.Proofs PyElf.Proofs.C20 in
theorem file_attributes_by_name_exact_generated (arch : Attr.Arch) (d : ElfDesc) (bytes : Bytes) (obs : ElfObs)
    (hwf : d.wfZ Model.elfEnv = true) (hl : Layout d bytes) (ho : d.observe Model.elfEnv = .ok obs)
    (name : Bytes) (i : Nat) (hname : d.indexOfName name = some i)
    (sec : Attr.Section) (hsec : C20.attrSecAt arch d i sec = true) :
    fileAttrSectionByName Model.elfEnv Model.elfStructsFor Model.machineClassOf bytes name
      = .ok (some (C20.attrKindName arch, Attr.obsSection arch d.le sec)) := by
  rw [TieC20File.fileAttrSectionByName_generated]
  exact file_attributes_by_name_exact _ TieC20File.elfEnv_c20 arch
    (elfEnv_tags arch) d bytes obs hwf hl ho name i hname sec hsec

/-! non-vacuity.  `attrSecAt` / `exidxAt` / `indexOfName` are kernel-checked on the concrete
    descriptions of Proofs/C20Examples.lean (an ARM shared object with two sections named
    `.ARM.attributes`, the handler table in `.x`, the index table in `.i`; a big-endian RISC-V executable).  `ElfDesc.wfZ` and
    `observe` go through `Con.encodeRaw` / `Con.decodeRaw`, which are compiled by well-founded recursion
    and do not reduce in the kernel (as in C01 / C14 / C15): they are evaluated at build time by
    `#guard`, and by the driver on every description of the `file_attr` / `file_ehabi` streams (the
    harness counts the cases inside the theorems' domain as `file_*:theorem-domain`).
    `C01.assemble_layout_z` produces layouts. -/

example : C20.attrSecAt .arm Proofs.C20.exArmFile 1 Proofs.C20.exArmSec = true := by decide +kernel
example : C20.attrSecAt .arm Proofs.C20.exArmFile 4 Proofs.C20.exArmSec2 = true := by decide +kernel
/-- by name: the LATER of the two sections called `.ARM.attributes` -/
example : Proofs.C20.exArmFile.indexOfName Proofs.C20.nAttr = some 4 := by decide +kernel
example : C20.attrSecAt .riscv Proofs.C20.exRiscvFile 2 Proofs.C20.exRiscvSec = true := by decide +kernel
#guard Proofs.C20.exArmFile.wfZ Model.elfEnv && (Proofs.C20.exArmFile.observe Model.elfEnv).toOption.isSome &&
  (Proofs.C20.exArmFile.assemble 3).isSome
#guard Proofs.C20.exRiscvFile.wfZ Model.elfEnv && (Proofs.C20.exRiscvFile.observe Model.elfEnv).toOption.isSome &&
  (Proofs.C20.exRiscvFile.assemble 0).isSome

/-! `C20.exidxAt d i x xpre es`: an ARM file whose section `i` has raw type 0x70000001, body the index
  table of the well-formed `es` and `sh_size = 8 * |es|`; the handler-table entries lie consecutively
  in the body of section `x`, `xpre` bytes in; every reference is expressible (`refsOk`); the index
  table lies below 2^62.  `EHABIInfo` never consults `sh_link`: the table words are read through the
  file's stream at the offsets the index words encode. -/

open PyElf.Model PyElf.Model.C20 PyElf.Proofs PyElf.Proofs.C20 in
/-- `EHABIInfo(ELFFile(BytesIO(bytes)).get_section(i), elffile.little_endian)`: `num_entry()` is the
    number of entries and `get_entry(n)`, for every `n`, is exactly entry `n` — function address, kind,
    personality, byte-code and (long forms) the file offset of its `.ARM.extab` entry. -/
theorem file_ehabi_exact (env : Env) (he : EnvC20 env) (d : ElfDesc) (bytes : Bytes) (obs : ElfObs)
    (hwf : d.wfZ env = true) (hl : Layout d bytes) (ho : d.observe env = .ok obs)
    (i x xpre : Nat) (es : List Ehabi.Entry) (hex : C20.exidxAt d i x xpre es = true) :
    fileEhabiNumEntry env specSF specMC specEH bytes i = .ok es.length ∧
    ∀ n (hn : n < es.length), fileEhabiEntry env specSF specMC specEH bytes i n
      = .ok (Ehabi.obsEntry es[n] (C20.secOffset d i + 8 * n) (Proofs.tabOf (C20.secOffset d x + xpre) es n)) := by
  obtain ⟨sd, sx, hsd, hsx, F⟩ := exidxAt_unpack hex
  have e1 : C20.secOffset d i = getNatD sd.hdr "sh_offset" := by simp [C20.secOffset, hsd]
  have e2 : C20.secOffset d x = getNatD sx.hdr "sh_offset" := by simp [C20.secOffset, hsx]
  rw [e1, e2]
  exact fileEhabi_ok he hwf hl hsd hsx F

open PyElf.Model PyElf.Model.C20 PyElf.Proofs PyElf.Proofs.C20 in
theorem file_ehabi_exact_generated (d : ElfDesc) (bytes : Bytes) (obs : ElfObs)
    (hwf : d.wfZ Model.elfEnv = true) (hl : Layout d bytes) (ho : d.observe Model.elfEnv = .ok obs)
    (i x xpre : Nat) (es : List Ehabi.Entry) (hex : C20.exidxAt d i x xpre es = true) :
    fileEhabiNumEntry Model.elfEnv Model.elfStructsFor Model.machineClassOf Model.ehabiStructsFor bytes i = .ok es.length ∧
    ∀ n (hn : n < es.length),
      fileEhabiEntry Model.elfEnv Model.elfStructsFor Model.machineClassOf Model.ehabiStructsFor bytes i n
        = .ok (Ehabi.obsEntry es[n] (C20.secOffset d i + 8 * n) (Proofs.tabOf (C20.secOffset d x + xpre) es n)) := by
  rw [TieC20File.fileEhabiNumEntry_generated]
  simp only [TieC20File.fileEhabiEntry_generated]
  exact file_ehabi_exact _ TieC20File.elfEnv_c20 d bytes obs hwf hl ho i x xpre es hex

open PyElf.Model PyElf.Model.C20 PyElf.Proofs PyElf.Proofs.C20 in
/-- Reduction, for any contents of an SHT_ARM_EXIDX section of an ARM file: `get_entry(n)` and
    `num_entry()` of the `EHABIInfo` over `get_section(i)` are the section-level functions at
    (`sh_offset`, `sh_size`) of the description's header, on the whole byte string. -/
theorem file_ehabi_reduce (env : Env) (he : EnvC20 env) (d : ElfDesc) (bytes : Bytes) (obs : ElfObs)
    (hwf : d.wfZ env = true) (hl : Layout d bytes) (ho : d.observe env = .ok obs)
    (i : Nat) (sd : SecDesc) (hsd : d.sections[i]? = some sd)
    (hm : d.mclass = "EM_ARM") (hty : Fields.get? sd.hdr "sh_type" = some (.int 0x70000001)) (n : Nat) :
    fileEhabiEntry env specSF specMC specEH bytes i n
      = Model.Ehabi.getEntry env (Spec.ehabiStructs d.le) bytes (getNatD sd.hdr "sh_offset") (getNatD sd.hdr "sh_size") n ∧
    fileEhabiNumEntry env specSF specMC specEH bytes i = .ok (getNatD sd.hdr "sh_size" / 8) :=
  fileEhabiEntry_reduce he hwf hl hsd hm hty n

open PyElf.Model PyElf.Model.C20 PyElf.Proofs PyElf.Proofs.C20 in
/-- `entry_classification_exact` for whole files: whatever the index section and the rest of the file
    contain, `get_entry(n)` (n in range) classifies and unpacks the entry exactly as the EHABI reference
    decoder reads it off the words of the FILE; a reference outside the file is ELFParseError. -/
theorem file_entry_classification_exact (env : Env) (he : EnvC20 env) (d : ElfDesc) (bytes : Bytes) (obs : ElfObs)
    (hwf : d.wfZ env = true) (hl : Layout d bytes) (ho : d.observe env = .ok obs)
    (i : Nat) (sd : SecDesc) (hsd : d.sections[i]? = some sd)
    (hm : d.mclass = "EM_ARM") (hty : Fields.get? sd.hdr "sh_type" = some (.int 0x70000001)) (n : Nat)
    (hn : n < getNatD sd.hdr "sh_size" / 8) (hplace : getNatD sd.hdr "sh_offset" + 8 * n + 8 < 2 ^ 63)
    (htab : ∀ w1, Ehabi.wordAt d.le bytes (getNatD sd.hdr "sh_offset" + 8 * n + 4) = some w1 →
              Ehabi.expand w1 (getNatD sd.hdr "sh_offset" + 8 * n + 4) < 2 ^ 63) :
    fileEhabiEntry env specSF specMC specEH bytes i n
      = (match Ehabi.decodeEntry (Ehabi.wordAt d.le bytes) (getNatD sd.hdr "sh_offset" + 8 * n) with
         | some dd => .ok (Ehabi.obsDecoded dd)
         | none => .error .elfParseError) := by
  rw [(fileEhabiEntry_reduce he hwf hl hsd hm hty n).1]
  exact Proofs.getEntry_eq_std env d.le bytes _ _ n hn hplace htab

open PyElf.Model PyElf.Model.C20 PyElf.Proofs PyElf.Proofs.C20 in
/-- an index at or beyond `num_entry()`: IndexError -/
theorem file_ehabi_out_of_range (env : Env) (he : EnvC20 env) (d : ElfDesc) (bytes : Bytes) (obs : ElfObs)
    (hwf : d.wfZ env = true) (hl : Layout d bytes) (ho : d.observe env = .ok obs)
    (i : Nat) (sd : SecDesc) (hsd : d.sections[i]? = some sd)
    (hm : d.mclass = "EM_ARM") (hty : Fields.get? sd.hdr "sh_type" = some (.int 0x70000001))
    (n : Nat) (hn : getNatD sd.hdr "sh_size" / 8 ≤ n) :
    fileEhabiEntry env specSF specMC specEH bytes i n = .error .indexError := by
  rw [(fileEhabiEntry_reduce he hwf hl hsd hm hty n).1]
  unfold Model.Ehabi.getEntry
  rw [entrySize_eq, if_pos hn]

open PyElf.Model PyElf.Model.C20 PyElf.Proofs PyElf.Proofs.C20 in
/-- `ELFFile.get_ehabi_infos()` of a file that is not relocatable (`notRel`; ET_REL is an `assert False` in the library):
    `get_ehabi_infos()[k].get_entry(n)` is `EHABIInfo(get_section(i), little_endian).get_entry(n)` for the `k`-th section
    `i` (in file order) reported SHT_ARM_EXIDX; with no such section the result is `None` (subscripting it: TypeError),
    `k` beyond the list is IndexError. -/
theorem file_ehabi_infos_eq (env : Env) (d : ElfDesc) (bytes : Bytes) (obs : ElfObs)
    (hwf : d.wfZ env = true) (hl : Layout d bytes) (ho : d.observe env = .ok obs) (hnr : C20.notRel obs = true)
    (k n : Nat) :
    fileEhabiInfosEntry env specSF specMC specEH bytes k n
      = (if C20.exidxIndices obs = [] then .error .typeError
         else match (C20.exidxIndices obs)[k]? with
           | none => .error .indexError
           | some i => fileEhabiEntry env specSF specMC specEH bytes i n) :=
  fileEhabiInfosEntry_eq hwf hl ho hnr k n

open PyElf.Model PyElf.Model.C20 PyElf.Proofs PyElf.Proofs.C20 in
theorem file_ehabi_infos_eq_generated (d : ElfDesc) (bytes : Bytes) (obs : ElfObs)
    (hwf : d.wfZ Model.elfEnv = true) (hl : Layout d bytes) (ho : d.observe Model.elfEnv = .ok obs)
    (hnr : C20.notRel obs = true) (k n : Nat) :
    fileEhabiInfosEntry Model.elfEnv Model.elfStructsFor Model.machineClassOf Model.ehabiStructsFor bytes k n
      = (if C20.exidxIndices obs = [] then .error .typeError
         else match (C20.exidxIndices obs)[k]? with
           | none => .error .indexError
           | some i => fileEhabiEntry Model.elfEnv Model.elfStructsFor Model.machineClassOf Model.ehabiStructsFor bytes i n) := by
  rw [TieC20File.fileEhabiInfosEntry_generated]
  simp only [TieC20File.fileEhabiEntry_generated]
  exact file_ehabi_infos_eq _ d bytes obs hwf hl ho hnr k n

/-- the index table of Proofs/C20Examples.lean: section 3 (`.i`), AFTER the handler table (section 2, `.x`, table 4 bytes
    in): a cannot-unwind, an inline, a long compact and a generic entry, negative table references -/
example : C20.exidxAt Proofs.C20.exArmFile 3 2 4 Proofs.C20.exEntries = true := by decide +kernel
#guard (match Proofs.C20.exArmFile.observe Model.elfEnv with
        | .ok o => C20.notRel o && C20.exidxIndices o == [3]
        | .error _ => false)

/-! Order-independence.  Model/AttrHistory.lean: objects are immutable, a suspended generator keeps its own `offset`, the only
  shared mutable state is the position of the file's stream (`HState.pos`), which every resumption
  receives and returns (`Gen.resume`).  `Op.seek` stands for any other reader of the stream between two
  calls.  (The harness stream `hist` runs the same histories through the library and compares every
  answer and the stream position after every call.) -/

open PyElf.Model.C20 in
/-- a resumed generator — `next()` on the result of `iter_subsections()`, `iter_subsubsections()`,
    `iter_attributes()` — goes one of three ways, each UNIFORMLY in where the shared stream stands:
    StopIteration (the stream is left where it was), an item and a stream position that depend on the
    generator alone, or an exception -/
theorem generator_resume_independent_of_stream (env : Env) (S : ElfStructs) (data : Bytes) (g : Gen) :
    (∀ q, Gen.resume env S data g q = .ok (none, q)) ∨
    (∃ x q, ∀ q', Gen.resume env S data g q' = .ok (some x, q)) ∨
    (∃ e, ∀ q', Gen.resume env S data g q' = .error e) :=
  Proofs.C20.resume_cases g

open PyElf.Model.C20 in
/-- In any state in which handle `g` holds the generator `gen`, and for any history `ops` —
    repositioning of the shared stream, creating / advancing / draining / abandoning other generators
    of this or ANOTHER section of the file, section constructors, list-style properties — the answers to
    the `next(g)` calls are exactly what `gen` answers when it is advanced alone. -/
theorem interleaving_irrelevant (env : Env) (S : ElfStructs) (data : Bytes) (fuel g : Nat) (ops : List Op)
    (st : HState) (gen : Gen) (hg : st.gens[g]? = some gen) :
    Proofs.C20.nextAnswers env S data g fuel st ops
      = Proofs.C20.soloAnswers env S data gen (ops.countP (Op.isNext g)) :=
  Proofs.C20.interleaving_irrelevant fuel g ops st gen hg

open PyElf.Model.C20 in
/-- … hence two histories that advance the generator equally often get the same answers from it,
    whatever else they do -/
theorem answers_independent_of_history (env : Env) (S : ElfStructs) (data : Bytes) (fuel g : Nat)
    (st st' : HState) (gen : Gen) (hg : st.gens[g]? = some gen) (hg' : st'.gens[g]? = some gen)
    (ops ops' : List Op) (hc : ops.countP (Op.isNext g) = ops'.countP (Op.isNext g)) :
    Proofs.C20.nextAnswers env S data g fuel st ops = Proofs.C20.nextAnswers env S data g fuel st' ops' :=
  Proofs.C20.answers_independent_of_history fuel g st st' gen hg hg' ops ops' hc

/-- a fresh attribute generator in a state whose stream stands anywhere, advanced twice with a seek, a
    second generator and a list-style call in between: 2 of the 6 calls are `next(0)` -/
example : ([Model.C20.Op.next 0, .seek 7, .iterAttrs ⟨.arm, 0, ⟨.none, .none, .none, false⟩, 0⟩, .next 1,
            .listAttrs ⟨.arm, 0, ⟨.none, .none, .none, false⟩, 0⟩, .next 0].countP (Model.C20.Op.isNext 0)) = 2 := by
  decide +kernel

open PyElf.Model.C20 in
/-- `list(generator)` and stepping agree: if draining `gen` gives `xs`, advancing it alone answers the
    items of `xs` in order, then StopIteration for ever -/
theorem generator_enumerates_list (env : Env) (S : ElfStructs) (data : Bytes) (fuel : Nat) (gen : Gen)
    (pos : Nat) (xs : List Item) (q : Nat) (h : Gen.collect env S data fuel gen pos [] = .ok (xs, q)) (k : Nat) :
    Proofs.C20.soloAnswers env S data gen (xs.length + k) = xs.map .item ++ List.replicate k .stop :=
  Proofs.C20.solo_of_list h k

open PyElf.Model.C20 PyElf.Proofs.C20 in
/-- For every well-formed section anywhere in a file the constructor succeeds, and from ANY position of the shared stream
    `list(sec.iter_subsections())` is one object per subsection of the description (`SubsecMatch`),
    `list(iter_subsubsections())` of each one object per sub-subsection (`SubsubMatch`), and `list(iter_attributes())` of
    each of those the description's attribute list (`AttrsExact`). -/
theorem section_generators_exact (arch : Attr.Arch) (cfg : ElfCfg) (sec : Attr.Section) (pre rest : Bytes)
    (hwf : Attr.sectionWf arch cfg.le sec = true) :
    ∃ o, (∀ p, openSec Model.elfEnv (Spec.elfStructs cfg) (pre ++ Attr.encSection cfg.le sec ++ rest) arch pre.length
              (Attr.encSection cfg.le sec).length p = .ok (o, pre.length + 1)) ∧
      ∀ pos, ∃ xs q, Gen.collect Model.elfEnv (Spec.elfStructs cfg) (pre ++ Attr.encSection cfg.le sec ++ rest)
            ((pre ++ Attr.encSection cfg.le sec ++ rest).length + 3) (.subsecs o o.subsecStart) pos [] = .ok (xs, q) ∧
          AllMatch (SubsecMatch arch Model.elfEnv cfg (pre ++ Attr.encSection cfg.le sec ++ rest)) xs sec :=
  Proofs.C20.section_generators_exact (env := Model.elfEnv) (cfg := cfg) (data := pre ++ Attr.encSection cfg.le sec ++ rest)
    (elfEnv_tags arch) sec rest pre.length hwf (Proofs.drop_pre _ _ _)

open PyElf.Model.C20 PyElf.Proofs.C20 in
/-- … and therefore under any interleaving: when `list(gen)` is `zs`, then in any state in which handle `g` holds `gen`
    and for any history, the answers to the `c` calls `next(g)` are the first `c` of: the items of `zs` in order, then
    StopIteration for ever. -/
theorem generator_answers_under_any_interleaving (env : Env) (S : ElfStructs) (data : Bytes) (fuel' : Nat) (gen : Gen)
    (pos : Nat) (zs : List Item) (q : Nat) (hc : Gen.collect env S data fuel' gen pos [] = .ok (zs, q))
    (fuel g : Nat) (st : HState) (hg : st.gens[g]? = some gen) (ops : List Op) :
    nextAnswers env S data g fuel st ops
      = (zs.map Ans.item ++ List.replicate (ops.countP (Op.isNext g)) Ans.stop).take (ops.countP (Op.isNext g)) := by
  rw [Proofs.C20.interleaving_irrelevant fuel g ops st gen hg, ← solo_of_list hc (ops.countP (Op.isNext g)), Nat.add_comm, solo_prefix]

/-- LEVELWISE = NESTED: whenever the nested observation of a section (every generator drained before
    the next one is advanced — the subject of `attrs_roundtrip`) returns a tree, listing all subsections
    first, then the sub-subsections of each, then the attributes of each — all through the one shared
    stream — returns the same tree.  On every byte string, well formed or not. -/
theorem levelwise_eq_nested (env : Env) (S : ElfStructs) (data : Bytes) (arch : Attr.Arch) (shOffset shSize : Nat)
    (v : Val) (h : Model.Attr.attributesSection arch env S data shOffset shSize = .ok v) :
    Model.C20.levelwise env S data arch shOffset shSize = .ok v :=
  Proofs.C20.levelwise_of_nested arch shOffset shSize v h

/-- … in particular for every well-formed section: the levelwise observation is the description -/
theorem levelwise_roundtrip (arch : Attr.Arch) (cfg : ElfCfg) (sec : Attr.Section) (pre rest : Bytes)
    (hwf : Attr.sectionWf arch cfg.le sec = true) :
    Model.C20.levelwise Model.elfEnv (Spec.elfStructs cfg) (pre ++ Attr.encSection cfg.le sec ++ rest) arch
        pre.length (Attr.encSection cfg.le sec).length
      = .ok (Attr.obsSection arch cfg.le sec) :=
  levelwise_eq_nested _ _ _ arch _ _ _ (attrs_roundtrip_gen arch cfg sec pre rest hwf)

/-- When the first malformation of a section in document order is an attribute whose tag number is not in the
    architecture's public table (`sectionUnknownTag`; nothing is asked of what follows it), the nested observation raises
    ELFParseError (the library's `Enum` has no default), wherever the section sits and whatever follows. -/
theorem attrs_unknown_tag (arch : Attr.Arch) (cfg : ElfCfg) (sec : Attr.Section) (pre rest : Bytes)
    (hbad : C20.sectionUnknownTag arch cfg.le sec = true) :
    Model.Attr.attributesSection arch Model.elfEnv (Spec.elfStructs cfg)
        (pre ++ Attr.encSection cfg.le sec ++ rest) pre.length (Attr.encSection cfg.le sec).length
      = .error .elfParseError :=
  Proofs.C20.attrs_unknown_tag_at (env := Model.elfEnv) (cfg := cfg) (data := pre ++ Attr.encSection cfg.le sec ++ rest)
    (elfEnv_tags arch) sec rest pre.length hbad (Proofs.drop_pre _ _ _)

/-- tag 33 after a well-formed attribute, in the second sub-subsection of the second subsection, with
    more attributes and a further subsection after it -/
example : C20.sectionUnknownTag .arm true Proofs.C20.exUnknownTagSec = true := by decide +kernel

open PyElf.Model PyElf.Model.C20 PyElf.Proofs PyElf.Proofs.C20 in
/-- the same for whole files: `get_section(i)` succeeds (the constructor reads the format byte only),
    the iteration raises ELFParseError -/
theorem file_attributes_unknown_tag (arch : Attr.Arch) (d : ElfDesc) (bytes : Bytes) (obs : ElfObs)
    (hwf : d.wfZ Model.elfEnv = true) (hl : Layout d bytes) (ho : d.observe Model.elfEnv = .ok obs)
    (i : Nat) (sd : SecDesc) (hsd : d.sections[i]? = some sd)
    (hm : d.mclass = C20.mclassOf arch) (hty : Fields.get? sd.hdr "sh_type" = some (.int 0x70000003))
    (hplain : getNatD sd.hdr "sh_flags" &&& 0x800 = 0)
    (sec : Attr.Section) (hbad : C20.sectionUnknownTag arch d.le sec = true)
    (hbody : sd.body = some (Attr.encSection d.le sec))
    (hsize : getNatD sd.hdr "sh_size" = (Attr.encSection d.le sec).length) :
    fileAttrSection Model.elfEnv specSF specMC bytes i = .error .elfParseError := by
  refine fileAttrSection_error TieC20File.elfEnv_c20 hwf hl hsd hm hty hplain ?_
  rw [hsize]
  exact Proofs.C20.attrs_unknown_tag_at (cfg := d.cfg) (elfEnv_tags arch) sec _ _ hbad
    (body_drop hl (List.mem_of_getElem? hsd) hbody)

/-- A well-formed section with which the file ends, under a section header
    whose `sh_size` claims more than the encoding's length: every subsection is walked, then the walk looks for
    another subsection header at the end of the file: ELFParseError. -/
theorem attrs_size_overrun (arch : Attr.Arch) (cfg : ElfCfg) (sec : Attr.Section) (pre : Bytes) (shSize : Nat)
    (hwf : Attr.sectionWf arch cfg.le sec = true) (hsize : (Attr.encSection cfg.le sec).length < shSize) :
    Model.Attr.attributesSection arch Model.elfEnv (Spec.elfStructs cfg)
        (pre ++ Attr.encSection cfg.le sec) pre.length shSize = .error .elfParseError :=
  Proofs.C20.attrs_size_overrun_at (env := Model.elfEnv) (cfg := cfg) (data := pre ++ Attr.encSection cfg.le sec)
    (elfEnv_tags arch) sec pre.length shSize hwf (Proofs.drop_pre' _ _) hsize

/-- The file ends inside a well-formed attributes section — after any `k` of its bytes
    (`k` less than its length: inside the format byte, a subsection length, a vendor name, a scope tag, a
    size field, a section-number list, a tag, a ULEB128 / NTBS / compatibility / nested value) — while
    the section header still claims the full size: the nested observation raises ELFParseError. -/
theorem attrs_truncated (arch : Attr.Arch) (cfg : ElfCfg) (sec : Attr.Section) (pre : Bytes) (k : Nat)
    (hwf : Attr.sectionWf arch cfg.le sec = true) (hk : k < (Attr.encSection cfg.le sec).length) :
    Model.Attr.attributesSection arch Model.elfEnv (Spec.elfStructs cfg)
        (pre ++ (Attr.encSection cfg.le sec).take k) pre.length (Attr.encSection cfg.le sec).length
      = .error .elfParseError :=
  Proofs.C20.attrs_truncated_at (env := Model.elfEnv) (cfg := cfg) (data := pre ++ (Attr.encSection cfg.le sec).take k)
    (elfEnv_tags arch) sec pre.length k hwf (Proofs.drop_pre' _ _) hk

/-- a cut after 23 of the 61 bytes of the section of Proofs/C20Examples.lean (inside an NTBS) -/
example : (23 : Nat) < (Attr.encSection true Proofs.C20.exArmSec).length := by decide +kernel

open PyElf.Model PyElf.Model.C20 PyElf.Proofs PyElf.Proofs.C20 in
/-- … for whole files: the section header claims (`sh_size`) the length of the encoding of a well-formed `sec`, the byte
    string ENDS `k` bytes into it (`hfile`): `get_section(i)` succeeds for `k ≥ 1` and the iteration raises
    ELFParseError. -/
theorem file_attributes_truncated (arch : Attr.Arch) (d : ElfDesc) (bytes : Bytes) (obs : ElfObs)
    (hwf : d.wfZ Model.elfEnv = true) (hl : Layout d bytes) (ho : d.observe Model.elfEnv = .ok obs)
    (i : Nat) (sd : SecDesc) (hsd : d.sections[i]? = some sd)
    (hm : d.mclass = C20.mclassOf arch) (hty : Fields.get? sd.hdr "sh_type" = some (.int 0x70000003))
    (hplain : getNatD sd.hdr "sh_flags" &&& 0x800 = 0)
    (sec : Attr.Section) (hsec : Attr.sectionWf arch d.le sec = true) (k : Nat)
    (hk : k < (Attr.encSection d.le sec).length)
    (hsize : getNatD sd.hdr "sh_size" = (Attr.encSection d.le sec).length)
    (hfile : bytes.drop (getNatD sd.hdr "sh_offset") = (Attr.encSection d.le sec).take k) :
    fileAttrSection Model.elfEnv specSF specMC bytes i = .error .elfParseError := by
  refine fileAttrSection_error TieC20File.elfEnv_c20 hwf hl hsd hm hty hplain ?_
  rw [hsize]
  exact Proofs.C20.attrs_truncated_at (cfg := d.cfg) (elfEnv_tags arch) sec _ k hsec hfile hk

open PyElf.Model PyElf.Model.C20 PyElf.Proofs PyElf.Proofs.C20 in
/-- … and `attrs_size_overrun` for whole files: the file ends with the (complete, well-formed) section,
    `sh_size` claims more -/
theorem file_attributes_size_overrun (arch : Attr.Arch) (d : ElfDesc) (bytes : Bytes) (obs : ElfObs)
    (hwf : d.wfZ Model.elfEnv = true) (hl : Layout d bytes) (ho : d.observe Model.elfEnv = .ok obs)
    (i : Nat) (sd : SecDesc) (hsd : d.sections[i]? = some sd)
    (hm : d.mclass = C20.mclassOf arch) (hty : Fields.get? sd.hdr "sh_type" = some (.int 0x70000003))
    (hplain : getNatD sd.hdr "sh_flags" &&& 0x800 = 0)
    (sec : Attr.Section) (hsec : Attr.sectionWf arch d.le sec = true)
    (hsize : (Attr.encSection d.le sec).length < getNatD sd.hdr "sh_size")
    (hfile : bytes.drop (getNatD sd.hdr "sh_offset") = Attr.encSection d.le sec) :
    fileAttrSection Model.elfEnv specSF specMC bytes i = .error .elfParseError :=
  fileAttrSection_error TieC20File.elfEnv_c20 hwf hl hsd hm hty hplain
    (Proofs.C20.attrs_size_overrun_at (cfg := d.cfg) (elfEnv_tags arch) sec _ _ hsec hfile hsize)

/-- A well-formed PREFIX is walked exactly, whatever the loop is heading for and whatever follows: after `sec` the
    subsection walk continues at the end of `sec` with the observations of `sec` accumulated. -/
theorem wellformed_prefix_walked (arch : Attr.Arch) (cfg : ElfCfg) (data : Bytes) (sec : List Attr.SubSection)
    (fuel offset : Nat) (acc : List Val) (rest : Bytes) (end_ : Nat)
    (hwf : ∀ s ∈ sec, Attr.subSectionWf arch cfg.le s = true)
    (hd : data.drop offset = Attr.encSubSections cfg.le sec ++ rest)
    (hle : offset + (Attr.encSubSections cfg.le sec).length ≤ end_) :
    Model.Attr.subsecLoop arch Model.elfEnv (Spec.elfStructs cfg) data end_ (fuel + sec.length) offset acc
      = Model.Attr.subsecLoop arch Model.elfEnv (Spec.elfStructs cfg) data end_ fuel
          (offset + (Attr.encSubSections cfg.le sec).length) ((sec.map (Attr.obsSubSection arch cfg.le)).reverse ++ acc) := by
  rw [Proofs.Attrs.subsecLoop_eq_walk, Proofs.Attrs.subsecLoop_eq_walk]
  exact Proofs.Walk.walk_prefix (Proofs.Attrs.reads_subSection (elfEnv_tags arch)) sec fuel offset acc rest end_ hwf hd hle

end PyElf.Props.C20
