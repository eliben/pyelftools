/-
  C13 tie: the structs the lookup tables are decoded with are, for every
  configuration, the ones the standard prescribes (DWARF §7.21 aranges header, §7.19
  name-table header, §7.5.1 unit headers, and the integer fields they are made of).
  The theorems of Props/C13 are stated over `Spec.dwarfStructs c` itself and apply none of the field ties: each
  stands so that the check fails, naming the field, when the struct the library builds for some configuration stops
  being the Spec's.  Only `enum_ut` is applied (the `_gen` theorems of Props/C13).
-/
import PyElf.Gen.Structs
import PyElf.Gen.Tables
import PyElf.Spec.DwarfStructs
import PyElf.Spec.DwarfLookup
import PyElf.Model.Env
import PyElf.Props.TieC04
namespace PyElf.Props.TieC13
open PyElf

theorem dwarf_Dwarf_aranges_header : Gen.dwarfBundles.map (fun b => (b.1, b.2.Dwarf_aranges_header)) = Spec.allDwarfCfgs.map (fun c => (c, (Spec.dwarfStructs c).Dwarf_aranges_header)) := by rfl
theorem dwarf_Dwarf_nameLUT_header : Gen.dwarfBundles.map (fun b => (b.1, b.2.Dwarf_nameLUT_header)) = Spec.allDwarfCfgs.map (fun c => (c, (Spec.dwarfStructs c).Dwarf_nameLUT_header)) := by rfl
theorem dwarf_Dwarf_CU_header : Gen.dwarfBundles.map (fun b => (b.1, b.2.Dwarf_CU_header)) = Spec.allDwarfCfgs.map (fun c => (c, (Spec.dwarfStructs c).Dwarf_CU_header)) := by rfl
theorem dwarf_Dwarf_uint32 : Gen.dwarfBundles.map (fun b => (b.1, b.2.Dwarf_uint32)) = Spec.allDwarfCfgs.map (fun c => (c, (Spec.dwarfStructs c).Dwarf_uint32)) := by rfl
theorem dwarf_Dwarf_uint64 : Gen.dwarfBundles.map (fun b => (b.1, b.2.Dwarf_uint64)) = Spec.allDwarfCfgs.map (fun c => (c, (Spec.dwarfStructs c).Dwarf_uint64)) := by rfl
theorem dwarf_Dwarf_offset : Gen.dwarfBundles.map (fun b => (b.1, b.2.Dwarf_offset)) = Spec.allDwarfCfgs.map (fun c => (c, (Spec.dwarfStructs c).Dwarf_offset)) := by rfl
theorem dwarf_the_Dwarf_uint32 : Gen.dwarfBundles.map (fun b => (b.1, b.2.the_Dwarf_uint32)) = Spec.allDwarfCfgs.map (fun c => (c, (Spec.dwarfStructs c).the_Dwarf_uint32)) := by rfl

/-- the unit-type names the version 5 unit header switches on are DWARF 5 table 7.2 -/
theorem dw_ut_decode :
    [1, 2, 3, 4, 5, 6].map (Model.genEnumDecode "ENUM_DW_UT")
      = [some "DW_UT_compile", some "DW_UT_type", some "DW_UT_partial", some "DW_UT_skeleton",
         some "DW_UT_split_compile", some "DW_UT_split_type"] := by decide +kernel

/-- the same, in the form the unit-header theorems take it -/
theorem enum_ut : ∀ k : Nat, 1 ≤ k → k ≤ 6 → Model.genEnumDecode "ENUM_DW_UT" k = Spec.Lookup.utName k :=
  TieC04.enum_ut

end PyElf.Props.TieC13
