/-
  C09 tie: the structures and the tag tables dynamic.py works with, as
  regenerated from /repo on this run, are the ones the C09 theorems assume:
  `Elf_Dyn` (every machine / OS-ABI tag set), `Elf_Sym`, `Elf_Phdr`, the hash
  table headers, the relocation entries; and in each of the four tag tables
  exactly the gABI code bears each name the reader steers by (DT_SYMENT included), exactly the
  string-valued codes are the "handled" tags; and in every section-type table `_create_shdr` can select the codes
  the full layout of a `DynDesc` uses bear their gABI names.
  The fields the container reader itself parses are TieC01's evaluations, restated.
  Applied in Props/C09: `tag_facts`, `syment_fact`, `sh_types`.  The field ties and `dt_rela_code`
  only alarm: the property is stated over the Spec's structures, and `get_relocation_tables` is C08's.
-/
import PyElf.Gen.Structs
import PyElf.Spec.ElfStructs
import PyElf.Model.Env
import PyElf.Proofs.Dynamic
import PyElf.Proofs.DynamicImage
import PyElf.Proofs.EnumTable
import PyElf.Props.TieC01
namespace PyElf.Props.TieC09
open PyElf PyElf.Model PyElf.Model.Dynamic PyElf.Spec.Dynamic PyElf.Proofs.Dynamic PyElf.Proofs.EnumTable

theorem elf_Elf_Dyn : Gen.elfBundles.map (fun b => (b.1, b.2.Elf_Dyn)) = Spec.allElfCfgs.map (fun c => (c, (Spec.elfStructs c).Elf_Dyn)) := TieC01.elf_Elf_Dyn
theorem elf_Elf_Sym : Gen.elfBundles.map (fun b => (b.1, b.2.Elf_Sym)) = Spec.allElfCfgs.map (fun c => (c, (Spec.elfStructs c).Elf_Sym)) := TieC01.elf_Elf_Sym
theorem elf_Elf_Phdr : Gen.elfBundles.map (fun b => (b.1, b.2.Elf_Phdr)) = Spec.allElfCfgs.map (fun c => (c, (Spec.elfStructs c).Elf_Phdr)) := TieC01.elf_Elf_Phdr
theorem elf_Elf_Shdr : Gen.elfBundles.map (fun b => (b.1, b.2.Elf_Shdr)) = Spec.allElfCfgs.map (fun c => (c, (Spec.elfStructs c).Elf_Shdr)) := TieC01.elf_Elf_Shdr
theorem elf_Elf_Hash : Gen.elfBundles.map (fun b => (b.1, b.2.Elf_Hash)) = Spec.allElfCfgs.map (fun c => (c, (Spec.elfStructs c).Elf_Hash)) := TieC01.elf_Elf_Hash
theorem elf_Gnu_Hash : Gen.elfBundles.map (fun b => (b.1, b.2.Gnu_Hash)) = Spec.allElfCfgs.map (fun c => (c, (Spec.elfStructs c).Gnu_Hash)) := TieC01.elf_Gnu_Hash
theorem elf_Elf_Rel : Gen.elfBundles.map (fun b => (b.1, b.2.Elf_Rel)) = Spec.allElfCfgs.map (fun c => (c, (Spec.elfStructs c).Elf_Rel)) := TieC01.elf_Elf_Rel
theorem elf_Elf_Rela : Gen.elfBundles.map (fun b => (b.1, b.2.Elf_Rela)) = Spec.allElfCfgs.map (fun c => (c, (Spec.elfStructs c).Elf_Rela)) := TieC01.elf_Elf_Rela
theorem elf_Elf_Relr : Gen.elfBundles.map (fun b => (b.1, b.2.Elf_Relr)) = Spec.allElfCfgs.map (fun c => (c, (Spec.elfStructs c).Elf_Relr)) := TieC01.elf_Elf_Relr
theorem elf_Elf_word : Gen.elfBundles.map (fun b => (b.1, b.2.Elf_word)) = Spec.allElfCfgs.map (fun c => (c, (Spec.elfStructs c).Elf_word)) := TieC01.elf_Elf_word
theorem elf_Elf_xword : Gen.elfBundles.map (fun b => (b.1, b.2.Elf_xword)) = Spec.allElfCfgs.map (fun c => (c, (Spec.elfStructs c).Elf_xword)) := TieC01.elf_Elf_xword

/-- `ENUM_D_TAG['DT_RELA']`, the constant `get_relocation_tables` compares DT_PLTREL with -/
theorem dt_rela_code : genEnumValue "ENUM_D_TAG" "DT_RELA" = some DT_RELA := by decide +kernel

theorem decTag_elfEnv (tid : String) (t : Int) :
    decTag elfEnv tid t = (match decodeIn (genTable tid) t with | some s => .str s | none => .int t) := by
  unfold decTag
  simp only [elfEnv, genEnumDecode_eq]
  rfl

theorem isStr_eq_beq (v : Val) (s : String) : isStr v s = (v == Val.str s) := by
  cases v <;> rfl

theorem tagIs_of_namesOnly {tid name : String} {c : Int} (h : namesOnly (genTable tid) (name, c) = true) :
    TagIs elfEnv tid name c := fun t =>
  (isStr_eq_beq _ _).trans
    ((namesOnly_elfEnv (L := [(name, c)]) (by simp [h])).beq List.mem_cons_self t)

/-- the names `handledAttr` knows, with the codes `stringAttr` gives them -/
def attrNames : List (String × Int) :=
  [("DT_NEEDED", DT_NEEDED), ("DT_SONAME", DT_SONAME), ("DT_RPATH", DT_RPATH), ("DT_RUNPATH", DT_RUNPATH)]

theorem attrIs_of_names {tid : String} {sunw : Bool}
    (needed : namesOnly (genTable tid) ("DT_NEEDED", DT_NEEDED) = true)
    (soname : namesOnly (genTable tid) ("DT_SONAME", DT_SONAME) = true)
    (rpath : namesOnly (genTable tid) ("DT_RPATH", DT_RPATH) = true)
    (runpath : namesOnly (genTable tid) ("DT_RUNPATH", DT_RUNPATH) = true)
    (filter : (if sunw then namesOnly (genTable tid) ("DT_SUNW_FILTER", DT_SUNW_FILTER)
           else nameAbsent (genTable tid) "DT_SUNW_FILTER") = true) :
    AttrIs elfEnv tid sunw := by
  intro t
  have needed := decodeIn_eq_some_iff needed t
  have soname := decodeIn_eq_some_iff soname t
  have rpath := decodeIn_eq_some_iff rpath t
  have runpath := decodeIn_eq_some_iff runpath t
  have filter : decodeIn (genTable tid) t = some "DT_SUNW_FILTER" ↔ (sunw = true ∧ t = DT_SUNW_FILTER) := by
    cases sunw with
    | true => simpa using decodeIn_eq_some_iff filter t
    | false => simpa using decodeIn_ne_of_absent filter t
  rw [decTag_elfEnv]
  unfold stringAttr
  cases hd : decodeIn (genTable tid) t with
  | none =>
    simp only [hd, reduceCtorEq, false_iff] at needed soname rpath runpath filter
    simp only [handledAttr, if_neg needed, if_neg soname, if_neg rpath, if_neg runpath]
    rw [if_neg (by simpa using filter)]
  | some s =>
    simp only [hd, Option.some.injEq] at needed soname rpath runpath filter
    simp only [handledAttr]
    split <;> simp_all

/-- the facts the C09 theorems need of a tag table -/
structure TagFacts (tid : String) (sunw : Bool) : Prop where
  null : NullIs elfEnv tid
  strtab : TagIs elfEnv tid "DT_STRTAB" DT_STRTAB
  symtab : TagIs elfEnv tid "DT_SYMTAB" DT_SYMTAB
  hash : TagIs elfEnv tid "DT_HASH" DT_HASH
  gnuHash : TagIs elfEnv tid "DT_GNU_HASH" DT_GNU_HASH
  attr : AttrIs elfEnv tid sunw

/-- the names the dynamic reader steers by, with their gABI codes -/
def steerNames : List (String × Int) :=
  [("DT_NULL", DT_NULL), ("DT_STRTAB", DT_STRTAB), ("DT_SYMTAB", DT_SYMTAB), ("DT_HASH", DT_HASH),
   ("DT_GNU_HASH", DT_GNU_HASH)]

/-- everything the C09 theorems ask of the tag table `tid`, as one evaluation -/
def tagNamesOk (tid : String) (sunw : Bool) : Bool :=
  (steerNames ++ attrNames ++ [("DT_SYMENT", DT_SYMENT)]).all (namesOnly (genTable tid)) &&
    (if sunw then namesOnly (genTable tid) ("DT_SUNW_FILTER", DT_SUNW_FILTER) else nameAbsent (genTable tid) "DT_SUNW_FILTER")

/-- the parts of `tagNamesOk`, named once, in the order of the three lists -/
theorem tagNamesOk_unpack {tid : String} {sunw : Bool} (h : tagNamesOk tid sunw = true) :
    TagFacts tid sunw ∧ TagIs elfEnv tid "DT_SYMENT" DT_SYMENT := by
  simp only [tagNamesOk, steerNames, attrNames, List.all_append, List.all_cons, List.all_nil, Bool.and_true,
    Bool.and_eq_true] at h
  obtain ⟨⟨⟨⟨null, strtab, symtab, hash, gnuHash⟩, needed, soname, rpath, runpath⟩, syment⟩, filter⟩ := h
  exact ⟨{ null := tagIs_of_namesOnly null, strtab := tagIs_of_namesOnly strtab, symtab := tagIs_of_namesOnly symtab,
           hash := tagIs_of_namesOnly hash, gnuHash := tagIs_of_namesOnly gnuHash,
           attr := attrIs_of_names needed soname rpath runpath filter }, tagIs_of_namesOnly syment⟩

theorem tagFacts_of_names {tid : String} {sunw : Bool} (h : tagNamesOk tid sunw = true) : TagFacts tid sunw :=
  (tagNamesOk_unpack h).1

/-- DT_SYMENT (the tag the symbol-count fallback of `DynamicSegment.num_symbols` checks against `Elf_Sym.sizeof()`) -/
theorem syment_of_names {tid : String} {sunw : Bool} (h : tagNamesOk tid sunw = true) :
    TagIs elfEnv tid "DT_SYMENT" DT_SYMENT := (tagNamesOk_unpack h).2

/-- the four tag tables `_create_dyn` can build, in one evaluation (see `dynTagTables`): a failure names this theorem,
    not the table -/
theorem tag_names : dynTagTables.all (fun t => tagNamesOk t.1 t.2) = true := by decide +kernel

/-- every tag table the library can build (common, +MIPS, +AArch64, +Solaris) names exactly the gABI codes
    DT_NULL / DT_STRTAB / DT_SYMTAB / DT_HASH / DT_GNU_HASH and handles exactly the string-valued tags -/
theorem tag_facts (mclass : String) (solaris : Bool) :
    TagFacts (Spec.dTagTable mclass solaris) (usesSunw mclass solaris) :=
  tagFacts_of_names (dynTagTables_all tag_names mclass solaris)

theorem syment_fact (mclass : String) (solaris : Bool) :
    TagIs elfEnv (Spec.dTagTable mclass solaris) "DT_SYMENT" DT_SYMENT :=
  syment_of_names (dynTagTables_all tag_names mclass solaris)

section shTypes
open PyElf.Spec

theorem sh_codes : shTypeTables.all (fun t =>
    elfEnv.enumDecode t 0 == some "SHT_NULL" && elfEnv.enumDecode t 1 == some "SHT_PROGBITS" &&
    elfEnv.enumDecode t 3 == some "SHT_STRTAB" && elfEnv.enumDecode t 6 == some "SHT_DYNAMIC" &&
    elfEnv.enumDecode t 11 == some "SHT_DYNSYM") = true := by decide +kernel

theorem shTy_of {m s : String} {c : Nat} (h : elfEnv.enumDecode (shTypeTable m) (c : Int) = some s) :
    shTy elfEnv m c = .str s := by
  unfold shTy
  rw [h]

theorem sh_types : ShTypes elfEnv := by
  have codes := fun m => List.all_eq_true.1 sh_codes _ (shTypeTable_mem m)
  simp only [Bool.and_eq_true, beq_iff_eq] at codes
  refine { null := fun m => ?_, progbits := fun m => ?_, strtab := fun m => ?_, dynamic := fun m => ?_,
           dynsym := fun m => ?_ }
  all_goals obtain ⟨⟨⟨⟨null, progbits⟩, strtab⟩, dynamic⟩, dynsym⟩ := codes m
  · exact shTy_of null
  · exact shTy_of progbits
  · exact shTy_of strtab
  · exact shTy_of dynamic
  · exact shTy_of dynsym

end shTypes

end PyElf.Props.TieC09
