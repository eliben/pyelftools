/-
  C19 — the other loops of the enumeration battery (notes, dynamic tags, symbol counts, hash headers)
  are bounded by the file size.

  As in Props/C19.lean the statements quantify over all byte strings `data` (and all offsets / extents / header
  values handed to the loops).  The loops are the ones other properties model (C14 `iterNotes`, C09 `iterTags` /
  `gnuNumSymbols`, C03 `gnuHashCount` / `elfHashCount`); the models are imported unchanged.  Per loop: the model's
  `fuel` always suffices (`outOfFuel`, the mark of a Python loop that would not end, is unreachable), and a count
  (iterations that succeed / elements yielded / chain words read) bounded by `len / entry size`.  Where the entry
  size depends on the class, `c.cls` is 32 or 64 — what `openElf` guarantees (`ElfErrors.openElf_ok`); a
  configuration with word size 0 has zero-size entries and no file selects it.

  The statements speak of: `Con.loopFree` (Proofs/EngineFuel.lean) — no `RepeatUntil` anywhere inside;
  `IfcNF` (Proofs/ElfLoops.lean) — the ELFFile operations handed in never report `outOfFuel`.
-/
import PyElf.Proofs.ElfLoops
namespace PyElf.Props.C19Loops
open PyElf PyElf.Spec PyElf.Model PyElf.Proofs PyElf.Proofs.ElfErrors PyElf.Proofs.ElfLoops

/-- the only fuel-bounded loop of the construct engine is `RepeatUntil`: every other construct — in particular every
    structure the loops below parse — never reports `outOfFuel`, on any bytes -/
theorem parse_never_out_of_fuel (env : Env) (data : Bytes) (c : Con) (hc : Con.loopFree c = true) (ctx : Fields) (pos : Nat) :
    ∀ e, Con.parse env data c ctx pos = .error e → e ≠ .outOfFuel :=
  nf_parse env data c hc ctx pos

/-- every iteration of the `while` loop advances the offset by at least the note-header size (12 bytes) -/
theorem note_advances (env : Env) (c : ElfCfg) (cls : Nat) (data : Bytes) (offset : Nat) (note : Val) (offset' : Nat)
    (h : noteAt (elfStructs c) env cls data 12 offset = .ok (note, offset')) : offset + 12 ≤ offset' :=
  noteAt_adv (elfStructs c) env cls data 12 offset note offset' h

/-- on ANY bytes, for ANY extent: `iter_notes` never runs out of fuel (neither the note loop nor the
    GNU-property loop inside a note), and it yields at most `size / 12` notes -/
theorem notes_bounded (env : Env) (c : ElfCfg) (cls : Nat) (data : Bytes) (offset size : Nat) :
    iterNotes (elfStructs c) env cls data offset size ≠ .error .outOfFuel ∧
    ∀ notes, iterNotes (elfStructs c) env cls data offset size = .ok notes → notes.length ≤ size / 12 := by
  obtain ⟨h1, h2⟩ := iterNotes_bounds (notesLoopFree_spec c) env cls data (nhdr_sizeofCon c) (by decide) offset size
  exact ⟨fun h => h1 _ h rfl, h2⟩

/-- the same for the two front ends (`NoteSection.iter_notes`, `NoteSegment.iter_notes`), whatever the header says -/
theorem note_section_never_out_of_fuel (env : Env) (c : ElfCfg) (cls : Nat) (data : Bytes) (shdr : Val) :
    noteSectionIterNotes (elfStructs c) env cls data shdr ≠ .error .outOfFuel := by
  intro h
  unfold noteSectionIterNotes at h
  exact (Only.bind (nf_getNat _ _) (fun o _ => Only.bind (nf_getNat _ _) (fun s _ =>
    (iterNotes_bounds (notesLoopFree_spec c) env cls data (nhdr_sizeofCon c) (by decide) o s).1))) _ h rfl

theorem note_segment_never_out_of_fuel (env : Env) (c : ElfCfg) (cls : Nat) (data : Bytes) (phdr : Val) :
    noteSegmentIterNotes (elfStructs c) env cls data phdr ≠ .error .outOfFuel := by
  intro h
  unfold noteSegmentIterNotes at h
  exact (Only.bind (nf_getNat _ _) (fun o _ => Only.bind (nf_getNat _ _) (fun s _ =>
    (iterNotes_bounds (notesLoopFree_spec c) env cls data (nhdr_sizeofCon c) (by decide) o s).1))) _ h rfl

/-- an index at which `_get_tag(n)` succeeds lies within the file: at most `(len − offset)/tagsize` —
    so the walk reads at most `(len − offset)/tagsize + 1` entries before DT_NULL or a parse error -/
theorem tag_steps_bounded (env : Env) (c : ElfCfg) (hc : c.cls = 32 ∨ c.cls = 64) (data : Bytes) (d : Dynamic.Dyn)
    (ht : 0 < d.tagsize) (n : Nat) (v : Val) (h : Dynamic.getTagRaw env (elfStructs c) data d n = .ok v) :
    n ≤ (data.length - d.offset) / d.tagsize ∧ d.offset + n * d.tagsize + 2 * (c.cls / 8) ≤ data.length :=
  ⟨getTagRaw_ok_index (dynOK_spec c hc) ht h, getTagRaw_ok_bound (dynOK_spec c hc) h⟩

/-- `list(iter_tags(type))` on ANY bytes: never out of fuel, and at most `(len − offset)/tagsize + 1` tags.
    `IfcNF ifc`: the ELFFile operations the string-table lookup calls (`num_segments`, `get_segment`,
    `get_section_by_name`) do not themselves report `outOfFuel` (C19's `make_section_fuel_sufficient` is that fact
    for `get_section`); `0 < d.tagsize`: `Elf_Dyn.sizeof()` is 8 or 16. -/
theorem tags_bounded (env : Env) (c : ElfCfg) (hc : c.cls = 32 ∨ c.cls = 64) (data : Bytes) (ifc : Dynamic.FileIfc)
    (hI : IfcNF ifc) (d : Dynamic.Dyn) (ht : 0 < d.tagsize) (type : Option String) :
    Dynamic.iterTags env (elfStructs c) data ifc d type ≠ .error .outOfFuel ∧
    ∀ l, Dynamic.iterTags env (elfStructs c) data ifc d type = .ok l →
      l.length ≤ (data.length - d.offset) / d.tagsize + 1 :=
  ⟨fun h => nf_iterTags (dynOK_spec c hc) ht hI type _ h rfl, fun _ h => iterTags_count (dynOK_spec c hc) ht type h⟩

/-- the early-exit walk (`next(iter_tags(type))`, `get_table_offset`) needs nothing of the file interface -/
theorem first_tag_never_out_of_fuel (env : Env) (c : ElfCfg) (hc : c.cls = 32 ∨ c.cls = 64) (data : Bytes)
    (d : Dynamic.Dyn) (ht : 0 < d.tagsize) (type : Option String) :
    Dynamic.firstTagRaw env (elfStructs c) data d type ≠ .error .outOfFuel :=
  fun h => nf_firstTagRaw (dynOK_spec c hc) ht type _ h rfl

-- non-vacuity: an interface that satisfies `IfcNF`, and the tag sizes of the two classes
example : IfcNF ⟨.ok 0, fun _ => .error .indexError, fun _ => .ok none⟩ :=
  ⟨Only.ok _, fun _ => Only.error (by decide +kernel), fun _ => Only.ok _⟩
example : sizeofR (elfStructs ⟨true, 64, "default", false, false⟩).Elf_Dyn = .ok 16 := by rfl
example : sizeofR (elfStructs ⟨true, 32, "default", false, false⟩).Elf_Dyn = .ok 8 := by rfl

/-- GNU hash, C03's model: the chain walk of `get_number_of_symbols` (called with fuel `len + 1`) ends with a value
    or with struct.error (the 4-byte read came up short) — never out of fuel — and reads at most
    `(len − pos)/4` chain words (`r − maxIdx` is the number of words read) -/
theorem gnu_chain_walk_bounded (le : Bool) (data : Bytes) (pos maxIdx : Nat) :
    (∀ e, gnuCountLoop le data (data.length + 1) pos maxIdx = .error e → e = .structError) ∧
    ∀ r, gnuCountLoop le data (data.length + 1) pos maxIdx = .ok r →
      maxIdx < r ∧ r - maxIdx ≤ (data.length - pos) / 4 :=
  ⟨gnuCountLoop_only le data _ pos maxIdx (by omega), gnuCountLoop_steps le data _ pos maxIdx⟩

/-- `GNUHashTable.get_number_of_symbols` (C03's model), any params whatsoever -/
theorem gnu_count_never_out_of_fuel (le : Bool) (data : Bytes) (g : GnuHash) :
    gnuHashCount le data g ≠ .error .outOfFuel :=
  fun h => nf_gnuHashCount le data g _ h rfl

/-- the same walk as dynamic.py reaches it (C09's model; fuel `(len − pos)/4 + 2`) -/
theorem gnu_chain_walk_bounded_dyn (le : Bool) (data : Bytes) (pos maxIdx : Nat) :
    (∀ e, Dynamic.gnuNumSymbols.walk data le 4 ((data.length - pos) / 4 + 2) pos maxIdx = .error e → e = .structError) ∧
    ∀ r, Dynamic.gnuNumSymbols.walk data le 4 ((data.length - pos) / 4 + 2) pos maxIdx = .ok r →
      maxIdx < r ∧ r - maxIdx ≤ (data.length - pos) / 4 :=
  ⟨walk_only data le _ pos maxIdx (Nat.le_refl _), walk_steps data le _ pos maxIdx⟩

theorem gnu_num_symbols_never_out_of_fuel (env : Env) (c : ElfCfg) (data : Bytes) (le : Bool) (off : Nat) :
    Dynamic.gnuNumSymbols env (elfStructs c) data le off ≠ .error .outOfFuel :=
  fun h => nf_gnuNumSymbols env c data le off _ h rfl

/-- SysV hash: after the header parse the count is one dictionary access (no loop at all) -/
theorem sysv_count_is_a_lookup (params : Val) : elfHashCount params = params.getField "nchains" := rfl

theorem sysv_num_symbols_never_out_of_fuel (env : Env) (c : ElfCfg) (data : Bytes) (off : Nat) :
    Dynamic.sysvNumSymbols env (elfStructs c) data off ≠ .error .outOfFuel := by
  intro h
  unfold Dynamic.sysvNumSymbols at h
  refine (Only.bind (nf_structParseAt (c := (elfStructs c).Elf_Hash) (by rfl) data off) ?_) _ h rfl
  rintro ⟨p, q⟩ _
  exact nf_getNat _ _

/-- `MetaArray._parse` is lazy: if the loop over `m` elements fails, the loop over ANY larger count fails in exactly
    the same way — nothing beyond the failing element is evaluated (the `arrayLoop` form of `mapM_range_stops`) -/
theorem counted_array_stops (step : Nat → Fields → PRes) (e : Err) (m n pos : Nat) (ctx : Fields) (acc : List Val)
    (hmn : m ≤ n) (h : arrayLoop step m pos ctx acc = .error e) : arrayLoop step n pos ctx acc = .error e :=
  arrayLoop_stops step m n pos ctx acc hmn h

/-- an array of `k`-byte integers counted by the context field `key` whose value `n` is absurd — more elements than
    the rest of the file can hold — fails with ELFParseError, and its parse IS the loop over `(len − pos)/k + 1`
    elements: at most that many (≤ len/4 + 1 for the 4-byte words of the hash tables) are parsed before the failure -/
theorem counted_array_absurd (env : Env) (data : Bytes) (key : String) (k : Nat) (le : Bool) (ctx : Fields)
    (pos n : Nat) (hk : 0 < k) (hkey : Fields.get? ctx key = some (.int (n : Int)))
    (hn : (data.length - pos) / k + 1 ≤ n) :
    Con.parse env data (.array (.ctx key) (.uint k le)) ctx pos = .error .elfParseError ∧
    Con.parse env data (.array (.ctx key) (.uint k le)) ctx pos
      = arrayLoop (fun p c => Con.parse env data (.uint k le) c p) ((data.length - pos) / k + 1) pos ctx [] := by
  have hm : data.length < pos + ((data.length - pos) / k + 1) * k := by
    have := Nat.lt_div_mul_add (a := data.length - pos) hk
    rw [Nat.succ_mul]; omega
  -- the loop over `(len − pos)/k + 1` elements fails, and every larger count fails in the same way
  have h2 := arrayLoop_uint_fails env data k le hk ((data.length - pos) / k + 1) pos ctx [] (Nat.succ_pos _) hm
  rw [Engine.parse_array_ctx hkey]
  exact ⟨arrayLoop_stops _ _ n pos ctx [] hn h2, by rw [arrayLoop_stops _ _ n pos ctx [] hn h2, h2]⟩

/-- `Elf_Hash` (ELFHashTable.__init__) parses only if the header and BOTH arrays lie inside the file:
    with `nbucket`, `nchain` the two words the file holds at `off`, `8 + 4·nbucket + 4·nchain ≤ len − off`.
    Absurd counts therefore always fail (with the work bound of `counted_array_absurd`). -/
theorem sysv_header_parse_bounded (env : Env) (c : ElfCfg) (data : Bytes) (off : Nat) (r : Val × Nat)
    (h : structParse env (elfStructs c).Elf_Hash data off = .ok r) :
    r.2 = off + 8 + 4 * decNat c.le (readN data off 4) + 4 * decNat c.le (readN data (off + 4) 4) ∧
    r.2 ≤ data.length := by
  rw [HashHeader.spec_hash] at h
  simp only [HashHeader.hashCon, st, mkFields, f, ctx] at h
  obtain ⟨obj, cx, h⟩ := structParse_struct_ok h
  obtain ⟨hl1, h⟩ := parseFields_uint_ok (by decide) h
  obtain ⟨hl2, h⟩ := parseFields_uint_ok (by decide) h
  obtain ⟨e3, v3, h⟩ := parseFields_array_ctx_ok (n := decNat c.le (readN data off 4)) (by decide)
    (by simp [Fields.set, Fields.get?]) h
  obtain ⟨e4, v4, h⟩ := parseFields_array_ctx_ok (n := decNat c.le (readN data (off + 4) 4)) (by decide)
    (by simp [Fields.set, Fields.get?]) h
  rw [Con.parseFields] at h
  simp only [Except.ok.injEq, Prod.mk.injEq] at h
  obtain ⟨-, hp, -⟩ := h
  rw [← hp]
  refine ⟨by omega, ?_⟩
  by_cases hz2 : 0 < decNat c.le (readN data (off + 4) 4)
  · have := e4 hz2; omega
  · by_cases hz1 : 0 < decNat c.le (readN data off 4)
    · have := e3 hz1; omega
    · omega

/-- `Gnu_Hash` (GNUHashTable.__init__): with `nbuckets` the word at `off` and `bloom_size` the word at `off + 8`,
    `16 + bloom_size·(cls/8) + 4·nbuckets ≤ len − off` -/
theorem gnu_header_parse_bounded (env : Env) (c : ElfCfg) (hc : c.cls = 32 ∨ c.cls = 64) (data : Bytes) (off : Nat)
    (r : Val × Nat) (h : structParse env (elfStructs c).Gnu_Hash data off = .ok r) :
    r.2 = off + 16 + decNat c.le (readN data (off + 8) 4) * (c.cls / 8) + 4 * decNat c.le (readN data off 4) ∧
    r.2 ≤ data.length := by
  have hw : 0 < c.cls / 8 := by rcases hc with h | h <;> rw [h] <;> decide
  rw [HashHeader.spec_gnu] at h
  simp only [HashHeader.gnuCon, st, mkFields, f, ctx] at h
  obtain ⟨obj, cx, h⟩ := structParse_struct_ok h
  obtain ⟨hl1, h⟩ := parseFields_uint_ok (by decide) h
  obtain ⟨hl2, h⟩ := parseFields_uint_ok (by decide) h
  obtain ⟨hl3, h⟩ := parseFields_uint_ok (by decide) h
  obtain ⟨hl4, h⟩ := parseFields_uint_ok (by decide) h
  have ho : off + 4 + 4 = off + 8 := by omega
  rw [ho] at h hl3 hl4
  obtain ⟨e5, v5, h⟩ := parseFields_array_ctx_ok (n := decNat c.le (readN data (off + 8) 4)) hw
    (by simp [Fields.set, Fields.get?]) h
  obtain ⟨e6, v6, h⟩ := parseFields_array_ctx_ok (n := decNat c.le (readN data off 4)) (by decide)
    (by simp [Fields.set, Fields.get?]) h
  rw [Con.parseFields] at h
  simp only [Except.ok.injEq, Prod.mk.injEq] at h
  obtain ⟨-, hp, -⟩ := h
  rw [← hp]
  refine ⟨by omega, ?_⟩
  by_cases hz2 : 0 < decNat c.le (readN data off 4)
  · have := e6 hz2; omega
  · by_cases hz1 : 0 < decNat c.le (readN data (off + 8) 4)
    · have := e5 hz1; omega
    · have hz : decNat c.le (readN data (off + 8) 4) = 0 := by omega
      rw [hz, Nat.zero_mul]; omega

/-- neither header parse can run out of fuel -/
theorem hash_headers_never_out_of_fuel (env : Env) (c : ElfCfg) (data : Bytes) (off : Nat) :
    structParse env (elfStructs c).Elf_Hash data off ≠ .error .outOfFuel ∧
    structParse env (elfStructs c).Gnu_Hash data off ≠ .error .outOfFuel :=
  ⟨fun h => nf_structParse (c := (elfStructs c).Elf_Hash) (by rfl) data off [] _ h rfl,
   fun h => nf_structParse (c := (elfStructs c).Gnu_Hash) (by rfl) data off [] _ h rfl⟩

-- non-vacuity of the absurd-count statement: 8 bytes claiming 0xffffffff buckets fail after ONE element
example : structParse Env.empty (elfStructs ⟨true, 64, "default", false, false⟩).Elf_Hash
    [0xff, 0xff, 0xff, 0xff, 0, 0, 0, 0] 0 = .error .elfParseError := by rfl
-- and a table that fits parses, ending at 8 + 4·1 + 4·1
example : (structParse Env.empty (elfStructs ⟨true, 64, "default", false, false⟩).Elf_Hash
    [1, 0, 0, 0, 1, 0, 0, 0, 0, 0, 0, 0, 0, 0, 0, 0] 0).toOption.map (·.2) = some 16 := by rfl

end PyElf.Props.C19Loops
