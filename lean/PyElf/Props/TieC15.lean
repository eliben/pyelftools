/-
  C15 tie: the five version records (and the symbol record the version-symbol
  table is paired with) that the library builds, for every configuration, are
  the Spec's; the generated ENUM_VERSYM table names the reserved indexes as
  the Spec does.
  The fields the container reader itself parses are TieC01's evaluations, restated.
  No theorem of Props/C15 applies these ties (the property is stated over the Spec's structures and `Spec.versymVal`):
  they only alarm.
-/
import PyElf.Gen.Structs
import PyElf.Gen.Tables
import PyElf.Spec.ElfStructs
import PyElf.Spec.GnuVersions
import PyElf.Model.Env
import PyElf.Proofs.GnuVersions
import PyElf.Props.TieC01
namespace PyElf.Props.TieC15
open PyElf

theorem elf_Elf_Verneed : Gen.elfBundles.map (fun b => (b.1, b.2.Elf_Verneed)) = Spec.allElfCfgs.map (fun c => (c, (Spec.elfStructs c).Elf_Verneed)) := by rfl
theorem elf_Elf_Vernaux : Gen.elfBundles.map (fun b => (b.1, b.2.Elf_Vernaux)) = Spec.allElfCfgs.map (fun c => (c, (Spec.elfStructs c).Elf_Vernaux)) := by rfl
theorem elf_Elf_Verdef : Gen.elfBundles.map (fun b => (b.1, b.2.Elf_Verdef)) = Spec.allElfCfgs.map (fun c => (c, (Spec.elfStructs c).Elf_Verdef)) := by rfl
theorem elf_Elf_Verdaux : Gen.elfBundles.map (fun b => (b.1, b.2.Elf_Verdaux)) = Spec.allElfCfgs.map (fun c => (c, (Spec.elfStructs c).Elf_Verdaux)) := by rfl
theorem elf_Elf_Versym : Gen.elfBundles.map (fun b => (b.1, b.2.Elf_Versym)) = Spec.allElfCfgs.map (fun c => (c, (Spec.elfStructs c).Elf_Versym)) := by rfl
theorem elf_Elf_Sym : Gen.elfBundles.map (fun b => (b.1, b.2.Elf_Sym)) = Spec.allElfCfgs.map (fun c => (c, (Spec.elfStructs c).Elf_Sym)) := TieC01.elf_Elf_Sym

theorem versym_table : Gen.tables.find? (·.1 == "ENUM_VERSYM")
    = some ("ENUM_VERSYM", [("VER_NDX_LOCAL", 0), ("VER_NDX_GLOBAL", 1), ("VER_NDX_LORESERVE", 0xff00),
                            ("VER_NDX_ELIMINATE", 0xff01)], true) := by decide +kernel

theorem versym_env : Proofs.EnvVersym Model.elfEnv := by
  intro n
  simp only [Model.elfEnv, Model.genEnumDecode, versym_table, Model.decodeIn, List.foldl, Spec.versymVal]
  by_cases h0 : n = 0
  · subst h0; simp
  by_cases h1 : n = 1
  · subst h1; simp
  by_cases h2 : n = 0xff00
  · subst h2; simp
  by_cases h3 : n = 0xff01
  · subst h3; simp
  have e0 : ¬ ((0 : Int) = n) := by omega
  have e1 : ¬ ((1 : Int) = n) := by omega
  have e2 : ¬ ((0xff00 : Int) = n) := by omega
  have e3 : ¬ ((0xff01 : Int) = n) := by omega
  simp [h0, h1, h2, h3, e0, e1, e2, e3]

end PyElf.Props.TieC15
