/-
  C06 tie: the constant tables and the struct fields callframe.py relies on are the Spec's.
  The theorems of Props/C06 are stated over `Spec.dwarfStructs c` itself and apply none of the field ties: each
  stands so that the check fails, naming the field, when the struct the library builds for some configuration stops
  being the Spec's.  The list is the attributes of `DWARFStructs` that callframe.py mentions: `Dwarf_X` is the factory
  (called with a field name for the augmentation and pointer fields, `entry_structs.Dwarf_uint8('encoding')`),
  `the_Dwarf_X` its anonymous instance (the instruction decoder reads operands with it), `forms` is `Dwarf_dw_form`.
-/
import PyElf.Gen.Structs
import PyElf.Gen.Extra_C06
import PyElf.Spec.DwarfStructs
import PyElf.Spec.CFI
namespace PyElf.Props.TieC06
open PyElf

/-- DW_CFA_* values, `_OPCODE_NAME_MAP`, `DW_EH_encoding_flags`, `_eh_encoding_to_field`, the opcode masks:
    the regenerated record is the one written from DWARF 5 table 7.29 and the LSB pointer-encoding table -/
theorem cfi_tables : Gen.cfiTables = Spec.cfiTables := by rfl

/-- the translator recognised every DW_CFA_* / DW_EH_PE_* name and every encoding's field factory -/
theorem cfi_tables_not_refused : Gen.cfiTablesRefused = false := by rfl

theorem dwarf_Dwarf_CIE_header : Gen.dwarfBundles.map (fun b => (b.1, b.2.Dwarf_CIE_header)) = Spec.allDwarfCfgs.map (fun c => (c, (Spec.dwarfStructs c).Dwarf_CIE_header)) := by rfl
theorem dwarf_EH_CIE_header : Gen.dwarfBundles.map (fun b => (b.1, b.2.EH_CIE_header)) = Spec.allDwarfCfgs.map (fun c => (c, (Spec.dwarfStructs c).EH_CIE_header)) := by rfl
theorem dwarf_Dwarf_FDE_header : Gen.dwarfBundles.map (fun b => (b.1, b.2.Dwarf_FDE_header)) = Spec.allDwarfCfgs.map (fun c => (c, (Spec.dwarfStructs c).Dwarf_FDE_header)) := by rfl
theorem dwarf_Dwarf_initial_length : Gen.dwarfBundles.map (fun b => (b.1, b.2.Dwarf_initial_length)) = Spec.allDwarfCfgs.map (fun c => (c, (Spec.dwarfStructs c).Dwarf_initial_length)) := by rfl
theorem dwarf_Dwarf_offset : Gen.dwarfBundles.map (fun b => (b.1, b.2.Dwarf_offset)) = Spec.allDwarfCfgs.map (fun c => (c, (Spec.dwarfStructs c).Dwarf_offset)) := by rfl
theorem dwarf_Dwarf_target_addr : Gen.dwarfBundles.map (fun b => (b.1, b.2.Dwarf_target_addr)) = Spec.allDwarfCfgs.map (fun c => (c, (Spec.dwarfStructs c).Dwarf_target_addr)) := by rfl
theorem dwarf_Dwarf_uint8 : Gen.dwarfBundles.map (fun b => (b.1, b.2.Dwarf_uint8)) = Spec.allDwarfCfgs.map (fun c => (c, (Spec.dwarfStructs c).Dwarf_uint8)) := by rfl
theorem dwarf_Dwarf_uint16 : Gen.dwarfBundles.map (fun b => (b.1, b.2.Dwarf_uint16)) = Spec.allDwarfCfgs.map (fun c => (c, (Spec.dwarfStructs c).Dwarf_uint16)) := by rfl
theorem dwarf_Dwarf_uint32 : Gen.dwarfBundles.map (fun b => (b.1, b.2.Dwarf_uint32)) = Spec.allDwarfCfgs.map (fun c => (c, (Spec.dwarfStructs c).Dwarf_uint32)) := by rfl
theorem dwarf_Dwarf_uint64 : Gen.dwarfBundles.map (fun b => (b.1, b.2.Dwarf_uint64)) = Spec.allDwarfCfgs.map (fun c => (c, (Spec.dwarfStructs c).Dwarf_uint64)) := by rfl
theorem dwarf_Dwarf_int16 : Gen.dwarfBundles.map (fun b => (b.1, b.2.Dwarf_int16)) = Spec.allDwarfCfgs.map (fun c => (c, (Spec.dwarfStructs c).Dwarf_int16)) := by rfl
theorem dwarf_Dwarf_int32 : Gen.dwarfBundles.map (fun b => (b.1, b.2.Dwarf_int32)) = Spec.allDwarfCfgs.map (fun c => (c, (Spec.dwarfStructs c).Dwarf_int32)) := by rfl
theorem dwarf_Dwarf_int64 : Gen.dwarfBundles.map (fun b => (b.1, b.2.Dwarf_int64)) = Spec.allDwarfCfgs.map (fun c => (c, (Spec.dwarfStructs c).Dwarf_int64)) := by rfl
theorem dwarf_Dwarf_uleb128 : Gen.dwarfBundles.map (fun b => (b.1, b.2.Dwarf_uleb128)) = Spec.allDwarfCfgs.map (fun c => (c, (Spec.dwarfStructs c).Dwarf_uleb128)) := by rfl
theorem dwarf_Dwarf_sleb128 : Gen.dwarfBundles.map (fun b => (b.1, b.2.Dwarf_sleb128)) = Spec.allDwarfCfgs.map (fun c => (c, (Spec.dwarfStructs c).Dwarf_sleb128)) := by rfl
theorem dwarf_the_Dwarf_uint8 : Gen.dwarfBundles.map (fun b => (b.1, b.2.the_Dwarf_uint8)) = Spec.allDwarfCfgs.map (fun c => (c, (Spec.dwarfStructs c).the_Dwarf_uint8)) := by rfl
theorem dwarf_the_Dwarf_uint16 : Gen.dwarfBundles.map (fun b => (b.1, b.2.the_Dwarf_uint16)) = Spec.allDwarfCfgs.map (fun c => (c, (Spec.dwarfStructs c).the_Dwarf_uint16)) := by rfl
theorem dwarf_the_Dwarf_uint32 : Gen.dwarfBundles.map (fun b => (b.1, b.2.the_Dwarf_uint32)) = Spec.allDwarfCfgs.map (fun c => (c, (Spec.dwarfStructs c).the_Dwarf_uint32)) := by rfl
theorem dwarf_the_Dwarf_offset : Gen.dwarfBundles.map (fun b => (b.1, b.2.the_Dwarf_offset)) = Spec.allDwarfCfgs.map (fun c => (c, (Spec.dwarfStructs c).the_Dwarf_offset)) := by rfl
theorem dwarf_the_Dwarf_target_addr : Gen.dwarfBundles.map (fun b => (b.1, b.2.the_Dwarf_target_addr)) = Spec.allDwarfCfgs.map (fun c => (c, (Spec.dwarfStructs c).the_Dwarf_target_addr)) := by rfl
theorem dwarf_the_Dwarf_uleb128 : Gen.dwarfBundles.map (fun b => (b.1, b.2.the_Dwarf_uleb128)) = Spec.allDwarfCfgs.map (fun c => (c, (Spec.dwarfStructs c).the_Dwarf_uleb128)) := by rfl
theorem dwarf_the_Dwarf_sleb128 : Gen.dwarfBundles.map (fun b => (b.1, b.2.the_Dwarf_sleb128)) = Spec.allDwarfCfgs.map (fun c => (c, (Spec.dwarfStructs c).the_Dwarf_sleb128)) := by rfl
theorem dwarf_forms : Gen.dwarfBundles.map (fun b => (b.1, b.2.forms)) = Spec.allDwarfCfgs.map (fun c => (c, (Spec.dwarfStructs c).forms)) := by rfl

end PyElf.Props.TieC06
