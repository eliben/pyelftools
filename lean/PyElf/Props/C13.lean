/-
  C13 — address-range and name lookup tables resolve to the right compilation unit.

  `S = Spec.dwarfStructs ⟨le, 32, dasz, dver⟩` is the struct bundle
  `DWARFInfo.structs` (32-bit format, the container's default address size); `Props/TieC13.lean` ties the fields these
  theorems read to the regenerated bundle, column by column (no theorem composes the two).  `env` is arbitrary.

  In the order of the file, with no hypothesis beyond the well-formedness of the encoded object: `.debug_aranges`
  (`aranges_entries_exact`, `aranges_init_exact`; `lookup_exact` under `noShadow`, which is needed:
  `lookup_shadowed_counterexample`); name tables (`names_exact`; `names_exact_ordered` — the exact ordered content for
  ANY entry list, names repeated within and across sets: keys in first-occurrence order, value of the last occurrence);
  the unit lookups on an abstract `Chain` / `Inv` (`cu_containing_exact`, `cu_at_exact`, `lut_entry_exact`) and on
  encoded sections of units of every version 2–5, all six DWARF 5 unit types, both formats, mixed freely
  (`chain_encoded`, `…_encoded`; `hUT` on the enum decoder is discharged for the regenerated one in the `_gen` forms and
  not needed below version 5: `…_encoded_partial`); address → range table → unit (`addr_to_unit`) and the tables that
  give nothing; and the lookups that end in an ENTRY, composed with C04's section theorems (Proofs/DieSection
  `forest_refs_info`, `kind_unit_top`) on a forest description (`ref_addr_scan_agrees`, `ref_addr_resolution_exact`, `lut_entry_die_exact`, `name_to_die_exact`,
  `addr_to_top_die`).
  CORRESPONDENCE ONLY (model = code by differential runs, no theorem): the hand-written models
  themselves (the tie for control flow); malformed / truncated tables and every error class
  (`ar_raw`, `nm_raw`, `cu_raw`); `need_empty=True`; shadowed range tables (outside `noShadow`);
  name tables with ill-formed UTF-8; 64-bit-format range/name tables (not in the quantifier);
  the per-unit DIE cache behind `_get_cached_DIE` (C10; the entry model is C04's pure parse-on-miss);
  the ELF container glue.

  Proof-side definitions in the statements: `Chain`, `Inv` (Proofs/DwarfLookup), `cuOf`, `cusOf`, `specP`
  (Proofs/DwarfUnits), `forestCUs` (Proofs/DwarfForest), `forestP`, `forestEntries` (this file, before its namespace),
  `forestDInfo`, `genBundles`, `genNames`, `exForest` (Props/C04).
-/
import PyElf.Spec.DwarfLookup
import PyElf.Spec.DwarfStructs
import PyElf.Model.DwarfLookup
import PyElf.Proofs.DwarfLookup
import PyElf.Proofs.DwarfTables
import PyElf.Proofs.DwarfUnits
import PyElf.Proofs.DieHeaders
import PyElf.Proofs.DwarfNameOrder
import PyElf.Proofs.DwarfResolve
import PyElf.Proofs.DwarfRefResolve
import PyElf.Proofs.DwarfForest
import PyElf.Props.C04
import PyElf.Props.TieC13

namespace PyElf.Proofs.Lookup
open PyElf PyElf.Model.Lookup
open PyElf.Spec.C04 (Forest UnitDesc DieObs infoSec infoDieOff flattenUnit)
open PyElf.Props.C04 (forestDInfo genBundles genNames unitRho)

/-- the entries of the unit `p` of a forest, as `debug_info_exact` lists them -/
abbrev forestEntries (F : Forest) (p : Nat × UnitDesc) : List DieObs :=
  flattenUnit genNames (p.2.cfg F.le) (unitRho F p.2) (unitRho F p.2) (infoDieOff F p.1 p.2) p.2.tree

/-- `_parse_CU_at_offset` of the forest's `DWARFInfo` on its `.debug_info` -/
abbrev forestP (F : Forest) (dasz : Nat) : Nat → R CU :=
  infoParser (forestDInfo F dasz) (genBundles F.le dasz).S0 (infoSec F)

end PyElf.Proofs.Lookup

namespace PyElf.Props.C13
open PyElf PyElf.Spec.Lookup PyElf.Model.Lookup PyElf.Proofs.Lookup

/-- `ARanges._get_entries()` on the encoding of any well-formed list of sets (address size 4/8 per set, padding to tuple
    alignment with any fill byte, empty sets, trailing bytes inside the unit length, tuples in any order) returns
    exactly the encoded tuples, each with its set's header, in encoded order. -/
theorem aranges_entries_exact (env : Env) (le : Bool) (dasz dver : Nat) (sets : List ARSet)
    (hwf : wfSets le 0 sets = true) :
    getEntries env (Spec.dwarfStructs ⟨le, 32, dasz, dver⟩) 32 (encSets le 0 sets) (encSets le 0 sets).length
      = .ok (entriesOf le 0 sets) :=
  getEntries_encoded env le dasz dver sets hwf

/-- the table object: entries ordered by begin address (ties in encoded order) and the key list -/
theorem aranges_init_exact (env : Env) (le : Bool) (dasz dver : Nat) (sets : List ARSet)
    (hwf : wfSets le 0 sets = true) :
    ARanges.init env (Spec.dwarfStructs ⟨le, 32, dasz, dver⟩) 32 (encSets le 0 sets) (encSets le 0 sets).length
      = .ok ⟨sortByBegin (entriesOf le 0 sets), (sortByBegin (entriesOf le 0 sets)).map (·.begin)⟩ := by
  rw [sortByBegin_eq]
  exact aranges_init_encoded env le dasz dver sets hwf

theorem aranges_sorted (es : List AREntry) :
    (∀ e, e ∈ sortByBegin es ↔ e ∈ es) ∧ (sortByBegin es).Pairwise (fun a b => a.begin ≤ b.begin) := by
  rw [sortByBegin_eq]
  exact ⟨fun e => mem_pySortBy _ e es, pairwise_pySortBy _ es⟩

/-- For every address: the bisect lookup on the sorted table returns the debug-info offset of
    the encoded range containing the address, and `None` when no range contains it — provided
    no range begins inside another one (`noShadow`; this is forced: see
    `lookup_shadowed_counterexample`). -/
theorem lookup_exact (env : Env) (le : Bool) (dasz dver : Nat) (sets : List ARSet)
    (hwf : wfSets le 0 sets = true) (hns : (entriesOf le 0 sets).Pairwise noShadow) (a : Nat) :
    (do let t ← ARanges.init env (Spec.dwarfStructs ⟨le, 32, dasz, dver⟩) 32 (encSets le 0 sets)
                  (encSets le 0 sets).length
        t.cuOffsetAtAddr a)
      = .ok (cuOffsetAt (entriesOf le 0 sets) a) := by
  rw [aranges_init_exact env le dasz dver sets hwf, sortByBegin_eq]
  exact cuOffsetAtAddr_eq _ hns a

/-- non-vacuity of the hypotheses of `lookup_exact`: two sets (address sizes 4 and 8, the second needing 4 bytes of
    padding… ) with unsorted and adjacent ranges are well-formed and shadow-free -/
example :
    let sets : List ARSet := [⟨2, 0, 4, [⟨0x2000, 0x10⟩, ⟨0x1000, 0x20⟩], 0, []⟩, ⟨2, 0x40, 8, [⟨0x1020, 8⟩], 0xAA, [1, 2]⟩,
                              ⟨2, 0x80, 4, [], 0, []⟩]
    wfSets true 0 sets = true ∧ (entriesOf true 0 sets).Pairwise noShadow := by
  decide +kernel

/-- the declarative reading of `cuOffsetAt` -/
theorem lookup_some_iff (es : List AREntry) (hns : es.Pairwise noShadow) (a o : Nat) :
    cuOffsetAt es a = some o ↔ ∃ e ∈ es, (e.begin ≤ a ∧ a < e.begin + e.len) ∧ e.infoOff = o :=
  cuOffsetAt_some_iff hns a o

theorem lookup_none_iff (es : List AREntry) (a : Nat) :
    cuOffsetAt es a = none ↔ ∀ e ∈ es, ¬ (e.begin ≤ a ∧ a < e.begin + e.len) :=
  cuOffsetAt_none_iff

/-- for pairwise disjoint, non-empty ranges -/
theorem lookup_exact_disjoint (env : Env) (le : Bool) (dasz dver : Nat) (sets : List ARSet)
    (hwf : wfSets le 0 sets = true) (hd : (entriesOf le 0 sets).Pairwise disjoint)
    (hpos : ∀ e ∈ entriesOf le 0 sets, 0 < e.len) (a : Nat) :
    (do let t ← ARanges.init env (Spec.dwarfStructs ⟨le, 32, dasz, dver⟩) 32 (encSets le 0 sets)
                  (encSets le 0 sets).length
        t.cuOffsetAtAddr a)
      = .ok (cuOffsetAt (entriesOf le 0 sets) a) :=
  lookup_exact env le dasz dver sets hwf (noShadow_of_disjoint hd hpos) a

/-- a table in which a zero-length tuple lies inside a range: `[10, 20)` → unit 1, and an empty
    tuple at 15 -/
def shadowedTable : List AREntry := [⟨10, 10, 1, 28, 2, 4, 0⟩, ⟨15, 0, 2, 28, 2, 4, 0⟩]

/-- the hypothesis of `lookup_exact` is needed: address 16 is inside the first range, but the
    bisect lookup lands on the empty tuple and answers `None` (the claim's boundary) -/
theorem lookup_shadowed_counterexample :
    ARanges.cuOffsetAtAddr ⟨pySortBy (·.begin) shadowedTable, (pySortBy (·.begin) shadowedTable).map (·.begin)⟩ 16
        = .ok none
      ∧ cuOffsetAt shadowedTable 16 = some 1 := by
  refine ⟨?_, by decide +kernel⟩
  simp [shadowedTable, ARanges.cuOffsetAtAddr, pySortBy, insertByKey, bisectRight, bisectLoop, bind, Except.bind,
    pure, Except.pure]

/-- a table without any range (no sets, or only empty sets) answers `None` for every address -/
theorem lookup_empty (a : Nat) : ARanges.cuOffsetAtAddr ⟨[], []⟩ a = .ok none := by
  simp [ARanges.cuOffsetAtAddr, bisectRight, bisectLoop, bind, Except.bind, pure, Except.pure]

/-- `NameLUT._get_entries()` on the encoding of any well-formed list of name sets: the mapping
    built from the encoded (name → unit offset, unit offset + entry offset) pairs in encoded
    order, and every set header in encoded order. -/
theorem names_exact (env : Env) (le : Bool) (dasz dver : Nat) (sets : List NameSet)
    (hwf : ∀ s ∈ sets, wfNameSet le s = true) :
    nameGetEntries env (Spec.dwarfStructs ⟨le, 32, dasz, dver⟩) 32 (encNameSets le sets) (encNameSets le sets).length
      = .ok (mappingOf (namePairs sets), sets.map (nameHdrVal le)) :=
  nameGetEntries_encoded env le dasz dver sets hwf

/-- non-vacuity of `hwf`: a set with an ASCII and a two-byte UTF-8 name -/
example : wfNameSet false ⟨2, 0x10, 0x40, [⟨11, [0x6d, 0x61, 0x69, 0x6e]⟩, ⟨25, [0xc3, 0xa9]⟩]⟩ = true := by decide +kernel

/-- for distinct names the mapping is the encoded pair list itself (order preserved) -/
theorem names_distinct (ps : List (Bytes × Nat × Nat)) (h : (ps.map (·.1)).Nodup) : mappingOf ps = ps :=
  mappingOf_nodup ps h

/-- with repeated names: a name maps to the value of its LAST occurrence … -/
theorem names_value_last (ps : List (Bytes × Nat × Nat)) (k : Bytes) :
    assocGet? (mappingOf ps) k = assocGet? ps.reverse k :=
  assocGet_mappingOf ps k

/-- THE EXACT ORDERED CONTENT, repeated names included: the mapping `NameLUT` builds from the encoding is the item list
    whose keys are the distinct encoded names in order of FIRST occurrence, each carrying the (unit offset, absolute
    entry offset) of its LAST occurrence — Python `dict` overwrite semantics — together with every set header in
    encoded order.  `OrderedLastWins` (Spec/DwarfNameOrder.lean) says this without reference to any algorithm and
    determines the list uniquely (`ordered_last_wins_unique`); `orderedLastWins` is its computable form. -/
theorem names_exact_ordered (env : Env) (le : Bool) (dasz dver : Nat) (sets : List NameSet)
    (hwf : ∀ s ∈ sets, wfNameSet le s = true) :
    ∃ m, nameGetEntries env (Spec.dwarfStructs ⟨le, 32, dasz, dver⟩) 32 (encNameSets le sets) (encNameSets le sets).length
          = .ok (m, sets.map (nameHdrVal le))
      ∧ OrderedLastWins (namePairs sets) m ∧ m = orderedLastWins (namePairs sets) := by
  refine ⟨mappingOf (namePairs sets), names_exact env le dasz dver sets hwf, ?_, mappingOf_eq_orderedLastWins _⟩
  rw [mappingOf_eq_orderedLastWins]
  exact orderedLastWins_spec _

theorem names_mapping_ordered (ps : List (Bytes × Nat × Nat)) :
    mappingOf ps = orderedLastWins ps ∧ OrderedLastWins ps (mappingOf ps) := by
  refine ⟨mappingOf_eq_orderedLastWins ps, ?_⟩
  rw [mappingOf_eq_orderedLastWins]; exact orderedLastWins_spec ps

theorem ordered_last_wins_unique (ps m : List (Bytes × Nat × Nat)) : OrderedLastWins ps m ↔ m = orderedLastWins ps :=
  orderedLastWins_iff ps m

/-- non-vacuity and a worked case: `main` occurs twice in the first set and again in the second,
    `x` occurs in both sets; the sets are well-formed, and the content is `main`, `x`, `y` (first
    occurrence order) with the values of the last occurrences -/
example :
    let sets : List NameSet :=
      [⟨2, 0x10, 0x40, [⟨11, [0x6d, 0x61, 0x69, 0x6e]⟩, ⟨12, [0x78]⟩, ⟨13, [0x6d, 0x61, 0x69, 0x6e]⟩]⟩,
       ⟨2, 0x50, 0x40, [⟨21, [0x79]⟩, ⟨22, [0x78]⟩, ⟨23, [0x6d, 0x61, 0x69, 0x6e]⟩]⟩]
    (∀ s ∈ sets, wfNameSet true s = true) ∧
      orderedLastWins (namePairs sets)
        = [([0x6d, 0x61, 0x69, 0x6e], 0x50, 0x50 + 23), ([0x78], 0x50, 0x50 + 22), ([0x79], 0x50, 0x50 + 21)] := by
  decide +kernel

/-- `get_CU_containing(x)`: for every cache state reachable by lookups (`Inv`) and every unit `c` of the section whose
    extent contains `x`, the answer is `c` and the cache stays consistent.  `P` is `_parse_CU_at_offset`. -/
theorem cu_containing_exact {P : Nat → R CU} {size x sz : Nat} {cs : List CU} {st : CUCache} {c : CU}
    (hPo : ∀ o c, P o = .ok c → c.cuOffset = o) (hch : Chain P size 0 cs) (hinv : Inv P cs st)
    (hc : c ∈ cs) (hsz : c.size = .ok sz) (h1 : c.cuOffset ≤ x) (h2 : x < c.cuOffset + sz) :
    ∃ st', getCUContaining P size st x = (.ok c, st') ∧ Inv P cs st' :=
  getCUContaining_exact hPo hch hinv hc hsz h1 h2

/-- every offset inside the section is inside some unit, so the lookup never misses -/
theorem cu_containing_total {P : Nat → R CU} {size x : Nat} {cs : List CU} {st : CUCache}
    (hPo : ∀ o c, P o = .ok c → c.cuOffset = o) (hch : Chain P size 0 cs) (hinv : Inv P cs st) (hx : x < size) :
    ∃ c sz st', getCUContaining P size st x = (.ok c, st') ∧ c ∈ cs ∧ c.size = .ok sz ∧
      c.cuOffset ≤ x ∧ x < c.cuOffset + sz ∧ Inv P cs st' :=
  let ⟨c, sz, st', hr, hf⟩ := getCUContaining_spec hPo hch hinv hx
  ⟨c, sz, st', hr, hf.mem, hf.size, hf.lo, hf.hi, hf.inv⟩

/-- `get_CU_at(o)` for a unit start returns the unit starting there -/
theorem cu_at_exact {P : Nat → R CU} {size : Nat} {cs : List CU} {st : CUCache} {c : CU}
    (hPo : ∀ o c, P o = .ok c → c.cuOffset = o) (hch : Chain P size 0 cs) (hinv : Inv P cs st) (hc : c ∈ cs) :
    ∃ st', getCUAt P size st c.cuOffset = (.ok c, st') ∧ Inv P cs st' :=
  let ⟨st', h, hi, _⟩ := getCUAt_exact hPo hch hinv hc
  ⟨st', h, hi⟩

/-- `get_DIE_from_lut_entry`: the DIE is read in the unit the entry names, at the entry's
    absolute offset -/
theorem lut_entry_exact {P : Nat → R CU} {size sz d : Nat} {cs : List CU} {st : CUCache} {c : CU}
    (hPo : ∀ o c, P o = .ok c → c.cuOffset = o) (hch : Chain P size 0 cs) (hinv : Inv P cs st) (hc : c ∈ cs)
    (hsz : c.size = .ok sz) (h1 : c.cuDieOffset ≤ d) (h2 : d < c.cuOffset + sz) :
    ∃ st', getDIEFromLutEntry P size st c.cuOffset d = (.ok (c, d), st') ∧ Inv P cs st' :=
  getDIEFromLutEntry_exact hPo hch hinv hc hsz h1 h2

/-- the empty cache of a fresh `DWARFInfo` satisfies the invariant, and every lookup keeps it:
    the unit-lookup theorems therefore hold after any history of lookups -/
theorem cache_inv_initial (P : Nat → R CU) (cs : List CU) : Inv P cs CUCache.empty := inv_empty P cs

/-- `bisect_right` (CPython's loop) on a sorted list returns the split point between the keys
    ≤ x and the keys > x -/
theorem bisect_right_sorted (keys : List Nat) (x : Nat) (hs : keys.Pairwise (· ≤ ·)) :
    ∃ i, bisectRight keys x = .ok i ∧ i ≤ keys.length ∧
      (∀ j k, j < i → keys[j]? = some k → k ≤ x) ∧ (∀ j k, i ≤ j → keys[j]? = some k → x < k) :=
  bisectRight_spec x (sortedKeys_of_pairwise hs)

/-- An encoded sequence of well-formed units is a chain for the model's `_parse_CU_at_offset`: the unit-header round
    trip.  Versions 2–4: these headers never consult the enum decoder, so nothing is assumed of it; likewise the three
    `_partial` theorems that follow. -/
theorem chain_encoded_partial (enumDecode : String → Int → Option String) (le : Bool) (dasz : Nat)
    (us : List InfoUnit) (hwf : ∀ u ∈ us, wfUnit le u = true ∧ u.version < 5) :
    Chain (specP enumDecode le dasz (encUnits le us)) (encUnits le us).length 0 (cusOf le 0 us) :=
  Proofs.C04.chain_encoded_of us 0 (fun u hu => ⟨(hwf u hu).1, fun h5 => absurd h5 (by have := (hwf u hu).2; omega)⟩)
    (by simp) (by simp)

/-- non-vacuity of `hwf`: a version 4 unit and a version 3 unit in 64-bit format -/
example : wfUnit true ⟨false, 4, 1, 0, 8, 0, 0, [1, 0]⟩ = true ∧ wfUnit true ⟨true, 3, 1, 7, 4, 0, 0, []⟩ = true := by decide +kernel

/-- every offset of the section, every reachable cache state: `get_CU_containing` returns the unit
    whose extent contains the offset (its start, first-DIE offset, format and header as encoded) -/
theorem cu_containing_encoded_partial (enumDecode : String → Int → Option String) (le : Bool) (dasz : Nat)
    (us : List InfoUnit) (hwf : ∀ u ∈ us, wfUnit le u = true ∧ u.version < 5) (st : CUCache)
    (hinv : Inv (specP enumDecode le dasz (encUnits le us)) (cusOf le 0 us) st) (x o : Nat) (u : InfoUnit)
    (hu : unitContaining le us x = some (o, u)) :
    ∃ st', getCUContaining (specP enumDecode le dasz (encUnits le us)) (encUnits le us).length st x
        = (.ok (cuOf le o u), st') ∧ Inv (specP enumDecode le dasz (encUnits le us)) (cusOf le 0 us) st' :=
  cu_containing_of_chain parseCU_offset (chain_encoded_partial enumDecode le dasz us hwf) st hinv x o u hu

/-- an offset-exact lookup returns the unit starting there -/
theorem cu_at_encoded_partial (enumDecode : String → Int → Option String) (le : Bool) (dasz : Nat)
    (us : List InfoUnit) (hwf : ∀ u ∈ us, wfUnit le u = true ∧ u.version < 5) (st : CUCache)
    (hinv : Inv (specP enumDecode le dasz (encUnits le us)) (cusOf le 0 us) st) (x o : Nat) (u : InfoUnit)
    (hu : unitAt le us x = some (o, u)) :
    ∃ st', getCUAt (specP enumDecode le dasz (encUnits le us)) (encUnits le us).length st x
        = (.ok (cuOf le o u), st') ∧ Inv (specP enumDecode le dasz (encUnits le us)) (cusOf le 0 us) st' :=
  cu_at_of_chain parseCU_offset (chain_encoded_partial enumDecode le dasz us hwf) st hinv x o u hu

/-- a name-table entry that names a unit start and an offset between that unit's first DIE and
    its end leads to that unit and that offset -/
theorem lut_entry_encoded_partial (enumDecode : String → Int → Option String) (le : Bool) (dasz : Nat)
    (us : List InfoUnit) (hwf : ∀ u ∈ us, wfUnit le u = true ∧ u.version < 5) (st : CUCache)
    (hinv : Inv (specP enumDecode le dasz (encUnits le us)) (cusOf le 0 us) st) (x d o : Nat) (u : InfoUnit)
    (hu : unitAt le us x = some (o, u)) (h1 : (unitObs le o u).dieOff ≤ d) (h2 : d < o + unitSize le u) :
    ∃ st', getDIEFromLutEntry (specP enumDecode le dasz (encUnits le us)) (encUnits le us).length st x d
        = (.ok (cuOf le o u, d), st') ∧ Inv (specP enumDecode le dasz (encUnits le us)) (cusOf le 0 us) st' :=
  lut_entry_of_chain parseCU_offset (chain_encoded_partial enumDecode le dasz us hwf) st hinv x d o u hu h1 h2

/-! Units of every version 2–5.  `hUT` says that the enum decoder names the six unit types as
  DWARF 5 table 7.2 does; the regenerated decoder does (`TieC13.enum_ut`), which gives the hypothesis-free `_gen`
  forms. -/

theorem chain_encoded (enumDecode : String → Int → Option String)
    (hUT : ∀ k : Nat, 1 ≤ k → k ≤ 6 → enumDecode "ENUM_DW_UT" k = utName k) (le : Bool) (dasz : Nat)
    (us : List InfoUnit) (hwf : ∀ u ∈ us, wfUnit le u = true) :
    Chain (specP enumDecode le dasz (encUnits le us)) (encUnits le us).length 0 (cusOf le 0 us) :=
  Proofs.C04.chain_encoded_all hUT us 0 hwf (by simp) (by simp)

theorem cu_containing_encoded (enumDecode : String → Int → Option String)
    (hUT : ∀ k : Nat, 1 ≤ k → k ≤ 6 → enumDecode "ENUM_DW_UT" k = utName k) (le : Bool) (dasz : Nat)
    (us : List InfoUnit) (hwf : ∀ u ∈ us, wfUnit le u = true) (st : CUCache)
    (hinv : Inv (specP enumDecode le dasz (encUnits le us)) (cusOf le 0 us) st) (x o : Nat) (u : InfoUnit)
    (hu : unitContaining le us x = some (o, u)) :
    ∃ st', getCUContaining (specP enumDecode le dasz (encUnits le us)) (encUnits le us).length st x
        = (.ok (cuOf le o u), st') ∧ Inv (specP enumDecode le dasz (encUnits le us)) (cusOf le 0 us) st' :=
  cu_containing_of_chain parseCU_offset (chain_encoded enumDecode hUT le dasz us hwf) st hinv x o u hu

/-- the hypothesis `hu` of `cu_containing_encoded` is satisfiable for all `x` in `0 .. size-1` (and for no other `x`) -/
theorem unit_containing_defined (le : Bool) (us : List InfoUnit) (x : Nat) :
    x < (encUnits le us).length ↔ ∃ o u, unitContaining le us x = some (o, u) := by
  have := find_unitStarts_isSome_iff le us 0 x
  unfold unitContaining
  rw [← this]; omega

theorem cu_at_encoded (enumDecode : String → Int → Option String)
    (hUT : ∀ k : Nat, 1 ≤ k → k ≤ 6 → enumDecode "ENUM_DW_UT" k = utName k) (le : Bool) (dasz : Nat)
    (us : List InfoUnit) (hwf : ∀ u ∈ us, wfUnit le u = true) (st : CUCache)
    (hinv : Inv (specP enumDecode le dasz (encUnits le us)) (cusOf le 0 us) st) (x o : Nat) (u : InfoUnit)
    (hu : unitAt le us x = some (o, u)) :
    ∃ st', getCUAt (specP enumDecode le dasz (encUnits le us)) (encUnits le us).length st x
        = (.ok (cuOf le o u), st') ∧ Inv (specP enumDecode le dasz (encUnits le us)) (cusOf le 0 us) st' :=
  cu_at_of_chain parseCU_offset (chain_encoded enumDecode hUT le dasz us hwf) st hinv x o u hu

theorem lut_entry_encoded (enumDecode : String → Int → Option String)
    (hUT : ∀ k : Nat, 1 ≤ k → k ≤ 6 → enumDecode "ENUM_DW_UT" k = utName k) (le : Bool) (dasz : Nat)
    (us : List InfoUnit) (hwf : ∀ u ∈ us, wfUnit le u = true) (st : CUCache)
    (hinv : Inv (specP enumDecode le dasz (encUnits le us)) (cusOf le 0 us) st) (x d o : Nat) (u : InfoUnit)
    (hu : unitAt le us x = some (o, u)) (h1 : (unitObs le o u).dieOff ≤ d) (h2 : d < o + unitSize le u) :
    ∃ st', getDIEFromLutEntry (specP enumDecode le dasz (encUnits le us)) (encUnits le us).length st x d
        = (.ok (cuOf le o u, d), st') ∧ Inv (specP enumDecode le dasz (encUnits le us)) (cusOf le 0 us) st' :=
  lut_entry_of_chain parseCU_offset (chain_encoded enumDecode hUT le dasz us hwf) st hinv x d o u hu h1 h2

/-- non-vacuity of `hUT`: the decoder regenerated from the code satisfies it -/
example : ∀ k : Nat, 1 ≤ k → k ≤ 6 → Model.genEnumDecode "ENUM_DW_UT" k = utName k := TieC13.enum_ut

/-- non-vacuity of `hwf`: one section mixing a v2 unit, all six v5 unit types (32- and 64-bit
    format) and a v4 unit is well-formed -/
example :
    ∀ u ∈ ([⟨false, 2, 1, 0, 4, 0, 0, [1]⟩, ⟨false, 5, 1, 0, 8, 0, 0, [1, 0]⟩, ⟨true, 5, 2, 7, 4, 0x1122334455667788, 0x21, []⟩,
            ⟨false, 5, 3, 0, 4, 0, 0, [1]⟩, ⟨true, 5, 4, 0, 8, 0xFFFFFFFFFFFFFFFF, 0, [1]⟩,
            ⟨false, 5, 5, 0, 4, 1, 0, []⟩, ⟨false, 5, 6, 0, 8, 2, 0xFFFFFFFF, [1, 1, 0]⟩, ⟨true, 4, 1, 3, 8, 0, 0, [1]⟩] : List InfoUnit),
      wfUnit true u = true := by decide +kernel

/-! with the regenerated enum decoder no hypothesis besides well-formedness is left -/

theorem chain_encoded_gen (le : Bool) (dasz : Nat) (us : List InfoUnit) (hwf : ∀ u ∈ us, wfUnit le u = true) :
    Chain (specP Model.genEnumDecode le dasz (encUnits le us)) (encUnits le us).length 0 (cusOf le 0 us) :=
  chain_encoded _ TieC13.enum_ut le dasz us hwf

theorem cu_containing_encoded_gen (le : Bool) (dasz : Nat) (us : List InfoUnit) (hwf : ∀ u ∈ us, wfUnit le u = true)
    (st : CUCache) (hinv : Inv (specP Model.genEnumDecode le dasz (encUnits le us)) (cusOf le 0 us) st) (x o : Nat)
    (u : InfoUnit) (hu : unitContaining le us x = some (o, u)) :
    ∃ st', getCUContaining (specP Model.genEnumDecode le dasz (encUnits le us)) (encUnits le us).length st x
        = (.ok (cuOf le o u), st') ∧ Inv (specP Model.genEnumDecode le dasz (encUnits le us)) (cusOf le 0 us) st' :=
  cu_containing_encoded _ TieC13.enum_ut le dasz us hwf st hinv x o u hu

theorem cu_at_encoded_gen (le : Bool) (dasz : Nat) (us : List InfoUnit) (hwf : ∀ u ∈ us, wfUnit le u = true)
    (st : CUCache) (hinv : Inv (specP Model.genEnumDecode le dasz (encUnits le us)) (cusOf le 0 us) st) (x o : Nat)
    (u : InfoUnit) (hu : unitAt le us x = some (o, u)) :
    ∃ st', getCUAt (specP Model.genEnumDecode le dasz (encUnits le us)) (encUnits le us).length st x
        = (.ok (cuOf le o u), st') ∧ Inv (specP Model.genEnumDecode le dasz (encUnits le us)) (cusOf le 0 us) st' :=
  cu_at_encoded _ TieC13.enum_ut le dasz us hwf st hinv x o u hu

theorem lut_entry_encoded_gen (le : Bool) (dasz : Nat) (us : List InfoUnit) (hwf : ∀ u ∈ us, wfUnit le u = true)
    (st : CUCache) (hinv : Inv (specP Model.genEnumDecode le dasz (encUnits le us)) (cusOf le 0 us) st) (x d o : Nat)
    (u : InfoUnit) (hu : unitAt le us x = some (o, u)) (h1 : (unitObs le o u).dieOff ≤ d) (h2 : d < o + unitSize le u) :
    ∃ st', getDIEFromLutEntry (specP Model.genEnumDecode le dasz (encUnits le us)) (encUnits le us).length st x d
        = (.ok (cuOf le o u, d), st') ∧ Inv (specP Model.genEnumDecode le dasz (encUnits le us)) (cusOf le 0 us) st' :=
  lut_entry_encoded _ TieC13.enum_ut le dasz us hwf st hinv x d o u hu h1 h2

/-! `unitForAddr` (Model/DwarfLookupInfo.lean) is the idiom the docstrings of `get_CU_at` and `get_CU_containing`
  describe: `off = get_aranges().cu_offset_at_addr(addr)`, then `get_CU_containing(off)` (`byC = true`) or
  `get_CU_at(off)` (`byC = false`); the library has no function of its own for it, and no fall-back inside
  `get_CU_containing` (which never consults the range table). -/

/-- For every encoded range table (well-formed, shadow-free) whose unit offsets are starts of units of the encoded
    `.debug_info`, every reachable cache state and every address: `none` when no encoded range contains the address —
    the cache untouched — and otherwise the unit starting at the offset of the range containing it, by either lookup
    function, with a consistent cache. -/
theorem addr_to_unit (env : Env) (enumDecode : String → Int → Option String)
    (hUT : ∀ k : Nat, 1 ≤ k → k ≤ 6 → enumDecode "ENUM_DW_UT" k = utName k) (le : Bool) (dasz dver : Nat)
    (sets : List ARSet) (us : List InfoUnit) (hwfS : wfSets le 0 sets = true)
    (hns : (entriesOf le 0 sets).Pairwise noShadow) (hwfU : ∀ u ∈ us, wfUnit le u = true)
    (hstarts : ∀ e ∈ entriesOf le 0 sets, ∃ u, unitAt le us e.infoOff = some (e.infoOff, u))
    (st : CUCache) (hinv : Inv (specP enumDecode le dasz (encUnits le us)) (cusOf le 0 us) st) (byC : Bool) (a : Nat) :
    ∃ t, getAranges env (Spec.dwarfStructs ⟨le, 32, dasz, dver⟩) (some (encSets le 0 sets)) = .ok (some t) ∧
      match cuOffsetAt (entriesOf le 0 sets) a with
      | none => unitForAddr byC (some t) (specP enumDecode le dasz) (some (encUnits le us)) st a = (.ok none, st)
      | some o => ∃ u st', unitAt le us o = some (o, u) ∧
          unitForAddr byC (some t) (specP enumDecode le dasz) (some (encUnits le us)) st a
            = (.ok (some (cuOf le o u)), st') ∧
          Inv (specP enumDecode le dasz (encUnits le us)) (cusOf le 0 us) st' :=
  ⟨_, getAranges_encoded env le dasz dver sets hwfS,
    unitForAddr_of_chain (P := specP enumDecode le dasz) parseCU_offset
      (chain_encoded enumDecode hUT le dasz us hwfU) hinv hns hstarts byC a⟩

/-- non-vacuity of `addr_to_unit`: two units (a v5 skeleton unit and a v4 unit starting at offset
    20) and a range table naming both starts -/
example :
    let us : List InfoUnit := [⟨false, 5, 4, 0, 4, 7, 0, []⟩, ⟨false, 4, 1, 0, 8, 0, 0, [1]⟩]
    let sets : List ARSet := [⟨2, 0, 4, [⟨0x1000, 0x20⟩], 0, []⟩, ⟨2, 20, 8, [⟨0x2000, 8⟩, ⟨0x1020, 8⟩], 0, []⟩]
    wfSets true 0 sets = true ∧ (entriesOf true 0 sets).Pairwise noShadow ∧ (∀ u ∈ us, wfUnit true u = true) ∧
      (∀ e ∈ entriesOf true 0 sets, (unitAt true us e.infoOff).map (·.1) = some e.infoOff) := by
  decide +kernel

/-- no `.debug_aranges` section: `get_aranges()` is `None`, and there is nothing to resolve -/
theorem aranges_absent (env : Env) (S : DwarfStructs) (byC : Bool) (P : Bytes → Nat → R CU) (info : Option Bytes)
    (st : CUCache) (a : Nat) :
    getAranges env S none = .ok none ∧ unitForAddr byC none P info st a = (.ok none, st) := ⟨rfl, rfl⟩

/-- a table without any tuple (no sets, or only empty sets): every address resolves to nothing -/
theorem aranges_empty_resolves_nothing (env : Env) (le : Bool) (dasz dver : Nat) (sets : List ARSet)
    (hwfS : wfSets le 0 sets = true) (hempty : ∀ s ∈ sets, s.tuples = []) (byC : Bool) (P : Bytes → Nat → R CU)
    (info : Option Bytes) (st : CUCache) (a : Nat) :
    ∃ t, getAranges env (Spec.dwarfStructs ⟨le, 32, dasz, dver⟩) (some (encSets le 0 sets)) = .ok (some t) ∧
      t.cuOffsetAtAddr a = .ok none ∧ unitForAddr byC (some t) P info st a = (.ok none, st) := by
  have hes : ∀ (sets : List ARSet) (off : Nat), (∀ s ∈ sets, s.tuples = []) → entriesOf le off sets = [] := by
    intro sets
    induction sets with
    | nil => intro _ _; rfl
    | cons s ss ih =>
      intro off h
      simp [entriesOf, entriesOfSet, h s List.mem_cons_self, ih _ (fun x hx => h x (List.mem_cons_of_mem _ hx))]
  refine ⟨⟨[], []⟩, ?_, lookup_empty a, ?_⟩
  · rw [getAranges_encoded env le dasz dver sets hwfS, hes sets 0 hempty]
    rfl
  · simp only [unitForAddr, lookup_empty a]

/-- non-vacuity: a table of two empty sets (the second with padding fill and trailing bytes) -/
example :
    let sets : List ARSet := [⟨2, 0, 4, [], 0, []⟩, ⟨2, 9, 8, [], 0xAA, [1, 2]⟩]
    wfSets false 0 sets = true ∧ ∀ s ∈ sets, s.tuples = [] := by decide +kernel

/-- `get_CU_containing` does not depend on the range table: with the table absent or empty it still returns, for every
    offset of the section, the unit whose extent contains it (the scan a consumer falls back to); without a
    `.debug_info` section both unit lookups raise `DWARFError` -/
theorem cu_containing_without_table (enumDecode : String → Int → Option String)
    (hUT : ∀ k : Nat, 1 ≤ k → k ≤ 6 → enumDecode "ENUM_DW_UT" k = utName k) (le : Bool) (dasz : Nat)
    (us : List InfoUnit) (hwf : ∀ u ∈ us, wfUnit le u = true) (st : CUCache)
    (hinv : Inv (specP enumDecode le dasz (encUnits le us)) (cusOf le 0 us) st) (x : Nat)
    (hx : x < (encUnits le us).length) :
    ∃ o u st', unitContaining le us x = some (o, u) ∧
      getCUContainingI (specP enumDecode le dasz) (some (encUnits le us)) st x = (.ok (cuOf le o u), st') ∧
      Inv (specP enumDecode le dasz (encUnits le us)) (cusOf le 0 us) st' := by
  obtain ⟨o, u, hu⟩ := (unit_containing_defined le us x).1 hx
  obtain ⟨st', h, hinv'⟩ := cu_containing_encoded enumDecode hUT le dasz us hwf st hinv x o u hu
  exact ⟨o, u, st', hu, h, hinv'⟩

/-- non-vacuity: the fresh cache satisfies `hinv` (`cache_inv_initial`), and offset 40 lies in the
    second unit of a well-formed two-unit section (a v5 split-type unit of 28 bytes, then a 64-bit v2 unit) -/
example :
    let us : List InfoUnit := [⟨false, 5, 6, 0, 8, 2, 0xFFFFFFFF, [1, 1, 0, 0]⟩, ⟨true, 2, 1, 0, 4, 0, 0, [1]⟩]
    (∀ u ∈ us, wfUnit true u = true) ∧ 40 < (encUnits true us).length ∧
      (unitContaining true us 40).map (·.1) = some 28 := by decide +kernel

theorem cu_lookup_no_info (P : Bytes → Nat → R CU) (st : CUCache) (x : Nat) :
    getCUContainingI P none st x = (.error .dwarfError, st) ∧ getCUAtI P none st x = (.error .dwarfError, st) :=
  ⟨rfl, rfl⟩

/-- the unit object of the model is the observation the Spec prescribes -/
theorem cuOf_obs (le : Bool) (o : Nat) (u : InfoUnit) :
    let c := cuOf le o u
    let ob := unitObs le o u
    c.cuOffset = ob.off ∧ c.cuDieOffset = ob.dieOff ∧ c.fmt = ob.fmt ∧ c.header = ob.hdr := by
  exact ⟨rfl, rfl, rfl, rfl⟩

/-! Lookups that end in an entry (Model/DwarfLookupDie.lean), all through C13's model of the unit cache, the entry read
  in the context C04's glue `unitCtx` builds for the unit object the cache returned.  `Props.C04.forestDInfo F dasz` is
  the `DWARFInfo` on the encoding of a forest with everything else regenerated — the model C04's driver and this
  property's driver run; `forestEntries F p` = what `debug_info_exact` says `iter_DIEs()` yields for the unit `p`. -/

/-- THE CONNECTION between the two models of DW_FORM_ref_addr resolution.  On every unit chain, from every reachable
    state of the unit cache and for EVERY integer `x` (an entry offset, a header offset, negative, beyond the section):
    `get_DIE_from_refaddr(x)` as C13 models it — `get_CU_containing` by bisect over the cache and a scan from the closest
    cached unit, then the unit's `get_DIE_from_refaddr` — answers exactly what C04's linear scan over all units
    (`Driver.C04.sectionRef`, the function C04's correspondence check runs) answers: the same unit, the same entry or the
    same exception; and the cache stays reachable. -/
theorem ref_addr_scan_agrees (w : Model.C04.DInfo) (S0 : DwarfStructs) (data : Bytes) (hinfo : w.info = some data)
    (cs : List CU) (hch : Chain (infoParser w S0 data) data.length 0 cs) (st : CUCache)
    (hinv : Inv (infoParser w S0 data) cs st) (x : Int) :
    ∃ r st', getDIEFromRefaddr w S0 st x = (r, st') ∧ Inv (infoParser w S0 data) cs st' ∧
      r.map (fun p => (p.1.cuOffset, p.2))
        = Driver.C04.sectionRef (Model.C04.sectionUnits w S0 (some data) false) data.length x :=
  getDIEFromRefaddr_eq_sectionRef w S0 data hinfo cs hch st hinv x

/-- the `.debug_info` of every well-formed forest is such a chain (for the `DWARFInfo` as the drivers run it) -/
theorem forest_unit_chain (F : Spec.C04.Forest) (dasz : Nat) (hdasz : dasz = 4 ∨ dasz = 8)
    (hwf : Spec.C04.wfForestB Props.C04.genNames F = true) :
    Chain (forestP F dasz) (Spec.C04.infoSec F).length 0 (forestCUs F) :=
  forest_chain Props.C04.registry_gen F (Props.C04.genBundles_ok F.le dasz hdasz) (Proofs.C04.wfForest_of_B _ F hwf)

/-- `refs_info_exact` of C04 OVER C13's MODEL, from section bytes: for every entry `d` (null entries included) of every
    unit `p` of a well-formed forest and every reachable state of the unit cache,
    `dwarfinfo.get_DIE_from_refaddr(d.offset)` — what `DIE.get_DIE_from_attribute` calls for DW_FORM_ref_addr — returns
    the unit object of `p` and exactly the entry `d`, leaving a reachable cache; and the linear scan of C04's driver
    designates the same unit offset and entry. -/
theorem ref_addr_resolution_exact (F : Spec.C04.Forest) (dasz : Nat) (hdasz : dasz = 4 ∨ dasz = 8)
    (hwf : Spec.C04.wfForestB Props.C04.genNames F = true) (p : Nat × Spec.C04.UnitDesc)
    (hp : p ∈ Spec.C04.placeInfo F 0 F.units) (d : Spec.C04.DieObs) (hd : d ∈ forestEntries F p)
    (st : CUCache) (hinv : Inv (forestP F dasz) (forestCUs F) st) :
    (∃ st', getDIEFromRefaddr (Props.C04.forestDInfo F dasz) (Props.C04.genBundles F.le dasz).S0 st (d.offset : Int)
          = (.ok (cuOf F.le p.1 (Spec.C04.infoUnitOf F p.2), d), st') ∧ Inv (forestP F dasz) (forestCUs F) st')
      ∧ Driver.C04.sectionRef
          (Model.C04.sectionUnits (Props.C04.forestDInfo F dasz) (Props.C04.genBundles F.le dasz).S0
            (some (Spec.C04.infoSec F)) false)
          (Spec.C04.infoSec F).length (d.offset : Int) = .ok (p.1, d) :=
  forest_getDIEFromRefaddr Props.C04.registry_gen F (Props.C04.genBundles_ok F.le dasz hdasz) (Proofs.C04.wfForest_of_B _ F hwf)
    p hp d hd st hinv

/-- non-vacuity: C04's example forest (three units of versions 4, 5, 2; `Props.C04.exForest_wf`), the entry at offset
    26 of its first unit, the fresh cache -/
example :
    ∃ st', getDIEFromRefaddr (Props.C04.forestDInfo Props.C04.exForest 4) (Props.C04.genBundles true 4).S0 CUCache.empty 26
      = (.ok (cuOf true 0 (Spec.C04.infoUnitOf Props.C04.exForest Props.C04.exForest.units[0]), Props.C04.exEntry), st') := by
  have hmem : Props.C04.exEntry ∈ forestEntries Props.C04.exForest (0, Props.C04.exForest.units[0]) := List.getElem_mem _
  obtain ⟨⟨st', h, _⟩, _⟩ := ref_addr_resolution_exact Props.C04.exForest 4 (Or.inl rfl) Props.C04.exForest_wf
    (0, Props.C04.exForest.units[0]) (List.Mem.head _) _ hmem CUCache.empty (cache_inv_initial _ _)
  rw [Props.C04.exEntry_offset] at h
  exact ⟨st', h⟩

/-- `get_DIE_from_lut_entry(NameLUTEntry(cu_ofs, die_ofs))` END TO END: for an entry naming the start of the unit `p` of
    a well-formed forest and the offset of its entry `d`: the unit object of `p` (through `get_CU_at`) and exactly the
    forest's entry `d`.  (`lut_entry_encoded` is the unit-and-offset half on arbitrary unit bodies.) -/
theorem lut_entry_die_exact (F : Spec.C04.Forest) (dasz : Nat) (hdasz : dasz = 4 ∨ dasz = 8)
    (hwf : Spec.C04.wfForestB Props.C04.genNames F = true) (p : Nat × Spec.C04.UnitDesc)
    (hp : p ∈ Spec.C04.placeInfo F 0 F.units) (d : Spec.C04.DieObs) (hd : d ∈ forestEntries F p)
    (st : CUCache) (hinv : Inv (forestP F dasz) (forestCUs F) st) :
    ∃ st', getDIEFromLutEntryDie (Props.C04.forestDInfo F dasz) (Props.C04.genBundles F.le dasz).S0 st p.1 d.offset
        = (.ok (cuOf F.le p.1 (Spec.C04.infoUnitOf F p.2), d), st') ∧ Inv (forestP F dasz) (forestCUs F) st' :=
  forest_lutEntryDie Props.C04.registry_gen F (Props.C04.genBundles_ok F.le dasz hdasz) (Proofs.C04.wfForest_of_B _ F hwf)
    p hp d hd st hinv

/-- non-vacuity of `lut_entry_die_exact`: the entry at offset 26 of the first unit of C04's example forest, the fresh
    cache -/
example :
    ∃ st', getDIEFromLutEntryDie (Props.C04.forestDInfo Props.C04.exForest 4) (Props.C04.genBundles true 4).S0 CUCache.empty 0 26
      = (.ok (cuOf true 0 (Spec.C04.infoUnitOf Props.C04.exForest Props.C04.exForest.units[0]), Props.C04.exEntry), st') := by
  have hmem : Props.C04.exEntry ∈ forestEntries Props.C04.exForest (0, Props.C04.exForest.units[0]) := List.getElem_mem _
  obtain ⟨st', h, _⟩ := lut_entry_die_exact Props.C04.exForest 4 (Or.inl rfl) Props.C04.exForest_wf
    (0, Props.C04.exForest.units[0]) (List.Mem.head _) _ hmem CUCache.empty (cache_inv_initial _ _)
  rw [Props.C04.exEntry_offset] at h
  exact ⟨st', h⟩

/-- `dwarfinfo.get_DIE_from_lut_entry(dwarfinfo.get_pubnames()[name])` (or `get_pubtypes()`) FROM THE BYTES OF BOTH
    SECTIONS: if the table's entry for `name` — the LAST encoded one, `orderedLastWins` — names the unit `p` and the
    offset of its entry `d`, the answer is the unit object of `p` and exactly `d`. -/
theorem name_to_die_exact (env : Env) (F : Spec.C04.Forest) (dasz dver : Nat) (hdasz : dasz = 4 ∨ dasz = 8)
    (hwf : Spec.C04.wfForestB Props.C04.genNames F = true) (sets : List NameSet)
    (hwfN : ∀ s ∈ sets, wfNameSet F.le s = true) (name : Bytes) (p : Nat × Spec.C04.UnitDesc)
    (hp : p ∈ Spec.C04.placeInfo F 0 F.units) (d : Spec.C04.DieObs) (hd : d ∈ forestEntries F p)
    (hitem : (name, p.1, d.offset) ∈ orderedLastWins (namePairs sets))
    (st : CUCache) (hinv : Inv (forestP F dasz) (forestCUs F) st) :
    ∃ st', dieByName env (Spec.dwarfStructs ⟨F.le, 32, dasz, dver⟩) (some (encNameSets F.le sets))
          (Props.C04.forestDInfo F dasz) (Props.C04.genBundles F.le dasz).S0 st name
        = (.ok (some (cuOf F.le p.1 (Spec.C04.infoUnitOf F p.2), d)), st')
      ∧ Inv (forestP F dasz) (forestCUs F) st' :=
  forest_dieByName Props.C04.registry_gen F (Props.C04.genBundles_ok F.le dasz hdasz) (Proofs.C04.wfForest_of_B _ F hwf)
    env dver sets hwfN name p hp d hd hitem st hinv

/-- non-vacuity of `name_to_die_exact`: a table of two sets in which `x` occurs twice; its last occurrence names the
    first unit of C04's example forest (offset 0) and the entry at offset 26 -/
example :
    let sets : List NameSet := [⟨2, 35, 55, [⟨43, [0x78]⟩, ⟨40, [0xc3, 0xa9]⟩]⟩, ⟨2, 0, 35, [⟨26, [0x78]⟩]⟩]
    (∀ s ∈ sets, wfNameSet true s = true) ∧ (([0x78], 0, 26) : Bytes × Nat × Nat) ∈ orderedLastWins (namePairs sets) ∧
      Props.C04.exEntry.offset = 26 ∧
      Props.C04.exEntry ∈ forestEntries Props.C04.exForest (0, Props.C04.exForest.units[0]) :=
  ⟨by decide +kernel, by decide +kernel, Props.C04.exEntry_offset, List.getElem_mem _⟩

/-- ADDRESS → RANGE TABLE → UNIT → TOP ENTRY, exact from the bytes of `.debug_aranges`, `.debug_info`, `.debug_abbrev`
    (and the sections the top entry's values resolve against): nothing when no encoded range contains the address
    (cache untouched); otherwise the unit `p` starting at the offset of the containing range and `p.get_top_DIE()` = the
    FIRST entry of the unit as `debug_info_exact` lists it, lying at the unit's first-entry offset. -/
theorem addr_to_top_die (env : Env) (F : Spec.C04.Forest) (dasz dver : Nat) (hdasz : dasz = 4 ∨ dasz = 8)
    (hwf : Spec.C04.wfForestB Props.C04.genNames F = true) (sets : List ARSet) (hwfS : wfSets F.le 0 sets = true)
    (hns : (entriesOf F.le 0 sets).Pairwise noShadow)
    (hstarts : ∀ e ∈ entriesOf F.le 0 sets, ∃ p ∈ Spec.C04.placeInfo F 0 F.units, p.1 = e.infoOff)
    (st : CUCache) (hinv : Inv (forestP F dasz) (forestCUs F) st) (byC : Bool) (a : Nat) :
    ∃ t, getAranges env (Spec.dwarfStructs ⟨F.le, 32, dasz, dver⟩) (some (encSets F.le 0 sets)) = .ok (some t) ∧
      match cuOffsetAt (entriesOf F.le 0 sets) a with
      | none => topDIEForAddr byC (some t) (Props.C04.forestDInfo F dasz) (Props.C04.genBundles F.le dasz).S0 st a
                  = (.ok none, st)
      | some o => ∃ p ∈ Spec.C04.placeInfo F 0 F.units, p.1 = o ∧ ∃ top rest st', forestEntries F p = top :: rest ∧
          top.offset = Spec.C04.infoDieOff F p.1 p.2 ∧
          topDIEForAddr byC (some t) (Props.C04.forestDInfo F dasz) (Props.C04.genBundles F.le dasz).S0 st a
            = (.ok (some (cuOf F.le p.1 (Spec.C04.infoUnitOf F p.2), top)), st') ∧
          Inv (forestP F dasz) (forestCUs F) st' :=
  forest_topDIEForAddr Props.C04.registry_gen F (Props.C04.genBundles_ok F.le dasz hdasz) (Proofs.C04.wfForest_of_B _ F hwf)
    env dver sets hwfS hns hstarts st hinv byC a

/-- non-vacuity of `addr_to_top_die`: a range table naming the units at offsets 35 and 0 of C04's example forest (units
    at 0, 35, 90), unsorted and adjacent ranges -/
example :
    let sets : List ARSet := [⟨2, 35, 8, [⟨0x2000, 0x10⟩, ⟨0x1000, 0x20⟩], 0, []⟩, ⟨2, 0, 4, [⟨0x1020, 8⟩], 0xAA, []⟩]
    wfSets true 0 sets = true ∧ (entriesOf true 0 sets).Pairwise noShadow ∧
      (entriesOf true 0 sets).all (fun e =>
        (Spec.C04.placeInfo Props.C04.exForest 0 Props.C04.exForest.units).any (fun p => p.1 == e.infoOff)) = true :=
  ⟨by decide +kernel, by decide +kernel, by decide +kernel⟩

/-- non-vacuity of `ref_addr_scan_agrees`: the example forest's `DWARFInfo`, its unit chain, the fresh cache, and
    (for instance) the offsets 26 (an entry), 3 (inside a header), -1 and 1000 (outside the section) -/
example (x : Int) := ref_addr_scan_agrees (Props.C04.forestDInfo Props.C04.exForest 4) (Props.C04.genBundles true 4).S0 _ rfl _
  (forest_unit_chain Props.C04.exForest 4 (Or.inl rfl) Props.C04.exForest_wf) CUCache.empty (cache_inv_initial _ _) x

/-- the lookups never read the `DWARFInfo`'s `.debug_types` descriptor: the theorems on a forest, stated for its
    `DWARFInfo` as C04 states `debug_info_exact` (`types := some (typesSec F)`), are equally about the `DWARFInfo` the
    driver and the harness build (no `.debug_types`: `types := none`) -/
theorem lookups_ignore_types (w : Model.C04.DInfo) (t : Option Bytes) (S0 : DwarfStructs) (st : CUCache) :
    (∀ x, getDIEFromRefaddr { w with types := t } S0 st x = getDIEFromRefaddr w S0 st x) ∧
    (∀ c d, getDIEFromLutEntryDie { w with types := t } S0 st c d = getDIEFromLutEntryDie w S0 st c d) ∧
    (∀ env S sec nm, dieByName env S sec { w with types := t } S0 st nm = dieByName env S sec w S0 st nm) ∧
    (∀ byC tb a, topDIEForAddr byC tb { w with types := t } S0 st a = topDIEForAddr byC tb w S0 st a) :=
  ⟨fun _ => rfl, fun _ _ => rfl, fun _ _ _ _ => rfl, fun _ _ _ => rfl⟩

end PyElf.Props.C13
