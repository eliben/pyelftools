/-
  C20 tie: the structures, tables and pure functions of the current tree that the C20 model and
  theorems rely on are the Spec's.  (The byte-code `ring`, `gpr_register_names`,
  `EHABI_INDEX_ENTRY_SIZE` and the T3 translation of `arm_expand_prel31` need no separate tie: the
  C20 theorems are stated about the regenerated definitions themselves.)
  The whole-file theorems of this property are stated over the struct factory, whose tie (TieElf
  `bundles_eq`) evaluates every bundle once; the fields listed here are read off it, so that the file lists what the
  property reads.  Applied: `ehabi_bundles` (Props/TieC20File), `arm_tag_table`, `riscv_tag_table` (Props/C20).
-/
import PyElf.Gen.Structs
import PyElf.Gen.Tables
import PyElf.Gen.Extra_C20
import PyElf.Spec.ElfStructs
import PyElf.Spec.DwarfStructs
import PyElf.Spec.Attributes
import PyElf.Props.TieElf
namespace PyElf.Props.TieC20
open PyElf

theorem elf_Elf_byte : Gen.elfBundles.map (fun b => (b.1, b.2.Elf_byte)) = Spec.allElfCfgs.map (fun c => (c, (Spec.elfStructs c).Elf_byte)) := TieElf.bundles_field (·.Elf_byte)
theorem elf_Elf_word : Gen.elfBundles.map (fun b => (b.1, b.2.Elf_word)) = Spec.allElfCfgs.map (fun c => (c, (Spec.elfStructs c).Elf_word)) := TieElf.bundles_field (·.Elf_word)
theorem elf_Elf_uleb128 : Gen.elfBundles.map (fun b => (b.1, b.2.Elf_uleb128)) = Spec.allElfCfgs.map (fun c => (c, (Spec.elfStructs c).Elf_uleb128)) := TieElf.bundles_field (·.Elf_uleb128)
theorem elf_Elf_ntbs : Gen.elfBundles.map (fun b => (b.1, b.2.Elf_ntbs)) = Spec.allElfCfgs.map (fun c => (c, (Spec.elfStructs c).Elf_ntbs)) := TieElf.bundles_field (·.Elf_ntbs)
theorem elf_Elf_Attr_Subsection_Header : Gen.elfBundles.map (fun b => (b.1, b.2.Elf_Attr_Subsection_Header)) = Spec.allElfCfgs.map (fun c => (c, (Spec.elfStructs c).Elf_Attr_Subsection_Header)) := TieElf.bundles_field (·.Elf_Attr_Subsection_Header)
theorem elf_Elf_Arm_Attribute_Tag : Gen.elfBundles.map (fun b => (b.1, b.2.Elf_Arm_Attribute_Tag)) = Spec.allElfCfgs.map (fun c => (c, (Spec.elfStructs c).Elf_Arm_Attribute_Tag)) := TieElf.bundles_field (·.Elf_Arm_Attribute_Tag)
theorem elf_Elf_RiscV_Attribute_Tag : Gen.elfBundles.map (fun b => (b.1, b.2.Elf_RiscV_Attribute_Tag)) = Spec.allElfCfgs.map (fun c => (c, (Spec.elfStructs c).Elf_RiscV_Attribute_Tag)) := TieElf.bundles_field (·.Elf_RiscV_Attribute_Tag)

/-- `EHABIStructs(little_endian)` for both byte orders -/
theorem ehabi_bundles : Gen.ehabiBundles = [(true, Spec.ehabiStructs true), (false, Spec.ehabiStructs false)] := by rfl

theorem arm_tag_table :
    (Gen.tables.find? (·.1 == "ENUM_ATTR_TAG_ARM")).map (·.2.1) = some Spec.Attr.armTags := by rfl

theorem riscv_tag_table :
    (Gen.tables.find? (·.1 == "ENUM_ATTR_TAG_RISCV")).map (·.2.1) = some Spec.Attr.riscvTags := by rfl

/-- the tag-name tests of `ARMAttribute.__init__`, in order, are the ones the model mirrors -/
theorem arm_attr_dispatch :
    Gen.armAttrDispatch =
      [(["TAG_FILE", "TAG_SECTION", "TAG_SYMBOL"], 0),
       (["TAG_CPU_RAW_NAME", "TAG_CPU_NAME", "TAG_CONFORMANCE"], 1),
       (["TAG_COMPATIBILITY"], 2), (["TAG_ALSO_COMPATIBLE_WITH"], 3), ([], 4)] := by rfl

theorem riscv_attr_dispatch :
    Gen.riscvAttrDispatch = [(["TAG_FILE", "TAG_SECTION", "TAG_SYMBOL"], 0), (["TAG_ARCH"], 1), ([], 2)] := by rfl

/-- every NTBS of the attribute code is decoded as UTF-8 (the step the model adds to `Con.cstring`) -/
theorem attr_ntbs_utf8 : Gen.attrNtbsUtf8 = true := by rfl

end PyElf.Props.TieC20
