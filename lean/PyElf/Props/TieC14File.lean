/-
  C14 tie for the whole-file theorems: the note readers of a file opened with the regenerated factory are those of the
  file opened with the Spec's (Props/TieElfFile).
-/
import PyElf.Model.NotesFile
import PyElf.Props.TieElfFile
namespace PyElf.Props.TieC14File
open PyElf PyElf.Spec PyElf.Model PyElf.Proofs

theorem fileSectionNotes_generated (env : Env) (data : Bytes) (i : Nat) :
    Model.C14.fileSectionNotes env Model.elfStructsFor Model.machineClassOf data i
      = Model.C14.fileSectionNotes env specSF specMC data i := by
  unfold Model.C14.fileSectionNotes
  rw [TieElfFile.openElf_generated]

theorem fileSegmentNotes_generated (env : Env) (data : Bytes) (j : Nat) :
    Model.C14.fileSegmentNotes env Model.elfStructsFor Model.machineClassOf data j
      = Model.C14.fileSegmentNotes env specSF specMC data j := by
  unfold Model.C14.fileSegmentNotes
  rw [TieElfFile.openElf_generated]

end PyElf.Props.TieC14File
