/-
  C17 — catch-all theorems over the whole regenerated table index (robust against tables being added to or
  removed from the library: whatever gen.py finds is covered), and the tie of the index to gen.py's own lists.
-/
import PyElf.Props.C17Base
namespace PyElf.Props.C17All
open PyElf PyElf.Spec PyElf.Proofs.Registry PyElf.Props.C17
set_option maxRecDepth 100000

/-- the index lists exactly the tables of Gen/Tables.lean, in order, with their ids -/
theorem index_tables : Gen.tableIndex.map (fun x => x.2.2.2) = Gen.keyTables.map (·.2) ++ Gen.constKeyTables.map (·.2) := by rfl
theorem index_ids : Gen.tableIndex.map (fun x => x.2.1) = Gen.keyTables.map (·.1) ++ Gen.constKeyTables.map (·.1) := by rfl
theorem index_kinds : Gen.tableIndex.map (fun x => x.2.2.1) = Gen.keyTables.map (fun _ => true) ++ Gen.constKeyTables.map (fun _ => false) := by decide +kernel
theorem index_keys_distinct : Gen.tableIndexComplete = true := by rfl

/-- C17, conformance: every (name, value) pair of every exported table whose name a registry defines has a registry value -/
theorem every_table_conforms : ∀ k id e T, (k, id, e, T) ∈ Gen.tableIndex → Conforms Registry.entries T := by
  have h : Gen.tableIndex.all (fun x => conformsB Registry.tree x.2.2.2) = true := by decide +kernel
  intro k id e T hm
  exact conformsB_sound registry_ordered (List.all_eq_true.mp h _ hm)

/-- C17, decoding direction, for every ENUM_* dictionary (incl. the per-machine compositions built by structs.py) -/
theorem every_enum_decodes_to_standard_name :
    ∀ k id T, (k, id, true, T) ∈ Gen.tableIndex → DecodesStd Registry.entries legacyAliases T := by
  have h : Gen.tableIndex.all (fun x => !x.2.2.1 ||
      decodesWalk Registry.tree legacyAliases (knownVals Registry.tree x.2.2.2) x.2.2.2) = true := by
    decide +kernel
  intro k id T hm
  have := List.all_eq_true.mp h _ hm
  simp only [Bool.not_true, Bool.false_or] at this
  exact decodesWalk_sound registry_ordered this

/-- the marker index lists one flag list per table of the index, under the same id keys, in the same order, each of the
    length of its table -/
theorem marker_index_parallel :
    Gen.markerIndex.map (fun x => (x.1, x.2.length)) = Gen.tableIndex.map (fun x => (x.1, x.2.2.2.length)) := by
  decide +kernel

/-- C17, range-marker rule, for every ENUM_* dictionary (incl. the per-machine compositions built by structs.py):
    a code for which the table knows a real (non-marker) name is never reported under a range marker sharing its
    value (`DT_FILTER` / `DT_HIPROC` = 0x7fffffff …) -/
theorem every_enum_no_marker_shadow :
    ∀ k id T, (k, id, true, T) ∈ Gen.tableIndex →
      ∃ ms M, findMarkers k Gen.markerIndex = some ms ∧ attachMarkers T ms = some M ∧ NoMarkerShadow M := by
  have h : Gen.tableIndex.all (fun x => !x.2.2.1 || markerCheckB x.1 x.2.2.2) = true := by
    decide +kernel
  intro k id T hm
  have := List.all_eq_true.mp h _ hm
  simp only [Bool.not_true, Bool.false_or] at this
  exact markerCheckB_elim this

end PyElf.Props.C17All
