/-
  C03 — symbol tables enumerate exactly; name and hash lookups are complete and sound.

  Layers:
    * hash functions: the regenerated (T3) `elf_hash` / `gnu_hash` are the standard's 32-bit functions;
    * lookups over a parsed table: `params` is the Container the `Elf_Hash` / `Gnu_Hash` parse yields for
      a table `t` (`sysvParams t` / `gnuParams t`), the symbol table is anything offering `get_symbol`
      that returns symbol `j` for `j < n` (exactly how the Python classes are parameterised);
    * the table predicates `WFSysV` / `WFGnu` are decidable and evaluated by the driver on every
      generated table (`wf`); that they hold of the BUILDERS' output (`buildSysV`, `buildGnu` ∘ `gnuOrder`)
      is proved for every symbol list (`buildSysV_wf`, `buildGnu_wf`, `buildGnu_perturbed_wf`), so the
      lookup theorems are closed end to end over built tables (`sysv_lookup_built`, `gnu_lookup_built`,
      their `_file` and `_generated` forms);
    * whole-table forms: syminfo iteration (`syminfo_iter_exact`), the SHNDX companion table
      (`shndx_table_exact`), and every table theorem over the regenerated bundles (`…_generated`).
    * whole files, composed with C01 (`Spec.ElfDesc`, `Layout`, `wfZ`): every table theorem through
      `ELFFile(BytesIO(bytes)).get_section(i)` and `get_section_by_name(name)` for ANY byte string carrying a
      well-formed description one of whose sections is the table (`symtab_file_exact`, `sysv_file_exact`,
      `sysv_file_built_exact`, `gnu_file_exact`, `syminfo_file_exact`, `shndx_file_exact`, `by_name_section_exact`,
      `symtab_file_by_name_exact`, `shndx_companion_exact`/`_reads`, their `_generated` forms, `built_symtab_at`):
      tables and the tables they link to anywhere in the file, in any order.
    * the link guards of the constructors (`_get_linked_strtab_section`,
      `_get_linked_symtab_section`): which error `get_section` raises for a link of the wrong type / out of range
      / nested, in the relaxed domain `wfZCore` (`link_wrong_type_error`, `link_beyond_file_error`,
      `link_truncated_header_error`, `link_stray_header_wrong_type_error`, `link_nested_wrong_type_error`,
      `link_nested_beyond_file_error`, `wfZ_link_verdict`); index tables accept any link (`shndx_file_exact`).
    * names that are not valid UTF-8: the decoding model (`getSymbolD` …) reports
      `utf8Replace` of the name bytes (`get_symbol_decoded_exact`, `iter_symbols_decoded_exact`,
      `by_name_decoded_exact`, `sysv_lookup_decoded`, `symtab_file_decoded_exact_generated`); it is the raw model
      on valid UTF-8 (`utf8_valid_unchanged`, `get_symbol_decoded_valid`, `gnu_lookup_decoded_valid`).
    * the cache `_symbol_name_map`: after any history of `get_symbol_by_name` calls on one section object every
      answer is the stateless one (`symtab_by_name_history_independent`, `by_name_exact_any_history`,
      `symtab_failed_walk_publishes_nothing`).

  The statements speak of (proof-side definitions, by file):
    * Proofs/SymTable.lean: `SymtabLayout` — entries and names of a table laid out in a file; `symObs` — the
      (entry, name) to be observed of symbol `i`; `SyminfoLayout` — syminfo entries laid out in a file;
      `syminfoObs` — the (entry, name) of syminfo row `i`;
    * Proofs/SysVLookup.lean: `natsVal` — a Python list of ints; `sysvParams` — Container of a parsed `Elf_Hash`;
    * Proofs/GnuLookup.lean: `gnuParams` — Container of a parsed `Gnu_Hash` header;
    * Proofs/SymBuildGnu.lean: `GnuSorted` — hashes of the hashed part ordered by bucket;
    * Proofs/SymBuilt.lean: `sysvLastNamed` — highest-indexed symbol bearing a name;
    * Proofs/SymImage.lean: `builtEntries` — symbols with `st_name` from the built string table;
    * Proofs/SymFile.lean: `SymtabObserved`, `SysvObserved`, `GnuObserved`, `SyminfoObserved` — all the property says
      of one section object; `rawSecHdr` — the `sh_offset`, `sh_size`, `sh_entsize` of section `i`;
    * Proofs/SymDecoded.lean: `decSym` — a symbol with its name decoded;
    * Proofs/GnuExamples.lean: `exImage`, `ExSec`, `nDynstr` … — builder of the example images.

  Ties applied: `TieElf.mem_bundles` (a regenerated bundle is the Spec's: every `_generated` form) and
  `TieElfFile.openElf_generated` (the regenerated factory opens the file the Spec's opens: `open_generated`).

  "The run" is the correspondence run: the harness generates inputs, the driver answers from the model, and the answers
  are compared with the library's.

  Correspondence-only (no theorem; the model is compared with the library on every run):
    * malformed contents (stream `raw`): truncated tables, `sh_entsize` 0 / not dividing `sh_size`, flipped bytes in
      hash tables (cyclic chains, out-of-range buckets), unterminated names; `get_symbol(n)` beyond the table;
    * GNU hash lookups when name bytes are NOT valid UTF-8 (soundness with respect to the reported name holds by
      construction of the loop, but is not stated; the exact theorems `gnu_lookup_exact` … are over names that are
      strings); a stray in-file header reached through an out-of-range link that happens to have an accepted type;
      a nested link that straddles the end of the file;
    * offsets ≥ 2^63 (`Model/Symbols.lean` does not model the seek overflow; no byte string Python can hold reaches it).
-/
import PyElf.Spec.Symbols
import PyElf.Model.Symbols
import PyElf.Model.Env
import PyElf.Proofs.HashFns
import PyElf.Proofs.SysVLookup
import PyElf.Proofs.GnuLookup
import PyElf.Proofs.SymTable
import PyElf.Proofs.HashParse
import PyElf.Proofs.SymBuilt
import PyElf.Proofs.SymImage
import PyElf.Proofs.SymFile
import PyElf.Proofs.SymLink
import PyElf.Proofs.SymDecoded
import PyElf.Proofs.GnuExamples
import PyElf.Props.C01
import PyElf.Props.TieElfFile
import PyElf.Props.TieC03
import PyElf.Model.SymCache
import PyElf.Proofs.SigCache
namespace PyElf.Props.C03
open PyElf PyElf.Spec PyElf.Model PyElf.Proofs

/-- `GNUHashTable.gnu_hash`: unbounded `h*33+c` and one final mask ≡ `uint32_t` wrap at every step -/
theorem gnu_hash_eq (bs : Bytes) : Gen.Pure.gnu_hash bs = ((gnuHash32 bs).toNat : Int) :=
  Proofs.gnu_hash_eq bs

/-- `ELFHashTable.elf_hash` is the gABI function.  The truncation of `(h << 4) + c` to 32 bits matters:
    without it the statement is false (`elf_hash_old_counterexample`). -/
theorem elf_hash_eq (bs : Bytes) : Gen.Pure.elf_hash bs = ((elfHash32 bs).toNat : Int) :=
  Proofs.elf_hash_eq bs

/-- the loop body of `elf_hash` without the 32-bit truncation of `(h << 4) + c` -/
def elfHashOld (name : Bytes) : Int :=
  (name.foldl (fun (st : Int × Int) (b8 : UInt8) =>
    let h : Int := PyInt.shl st.1 4 + (b8.toNat : Int)
    let x : Int := PyInt.land h 4026531840
    let h : Int := if x != 0 then PyInt.xor h (PyInt.shr x 24) else h
    (PyInt.land h (PyInt.inv x), x)) (0, 0)).1

/-- on `0x0f`×7 ++ "A" the untruncated loop returns a 33-bit value, the standard hash is 0x31 -/
theorem elf_hash_old_counterexample :
    elfHashOld [0x0f, 0x0f, 0x0f, 0x0f, 0x0f, 0x0f, 0x0f, 0x41] = 0x100000031
      ∧ (elfHash32 [0x0f, 0x0f, 0x0f, 0x0f, 0x0f, 0x0f, 0x0f, 0x41]).toNat = 0x31 := by
  constructor <;> decide

/-- Elf32_Sym: every field of every entry is read back, at any position, whatever follows -/
theorem sym_roundtrip32 (env : Env) (le : Bool) (m : String) (sol core : Bool) (e : SymE) (hwf : e.WF 32 = true)
    (pre rest : Bytes) :
    structParse env (Spec.elfStructs ⟨le, 32, m, sol, core⟩).Elf_Sym (pre ++ encSym le 32 e ++ rest) pre.length
      = .ok (obsEntry env.enumDecode 32 e, pre.length + 16) :=
  Proofs.sym_roundtrip env (S := Spec.elfStructs ⟨le, 32, m, sol, core⟩) (le := le) (cls := 32) (spec_sym _) (Or.inl rfl)
    e hwf _ _ rest (drop_pre pre _ rest)

/-- Elf64_Sym (different field order and widths) -/
theorem sym_roundtrip64 (env : Env) (le : Bool) (m : String) (sol core : Bool) (e : SymE) (hwf : e.WF 64 = true)
    (pre rest : Bytes) :
    structParse env (Spec.elfStructs ⟨le, 64, m, sol, core⟩).Elf_Sym (pre ++ encSym le 64 e ++ rest) pre.length
      = .ok (obsEntry env.enumDecode 64 e, pre.length + 24) :=
  Proofs.sym_roundtrip env (S := Spec.elfStructs ⟨le, 64, m, sol, core⟩) (le := le) (cls := 64) (spec_sym _) (Or.inr rfl)
    e hwf _ _ rest (drop_pre pre _ rest)

section table
variable {le : Bool} {cls : Nat} {data : Bytes} {h : SecHdr} {strOff : Nat} {es : List SymE} {names : List Bytes}
variable (env : Env) (m : String) (sol core : Bool)

/-- the constructor's guards pass and `num_symbols` is the number of entries -/
theorem num_symbols_exact (L : SymtabLayout le cls data h strOff es names) :
    symtabInit h = .ok () ∧ numSymbols h = .ok es.length :=
  ⟨layout_init L, layout_numSymbols L⟩

/-- `get_symbol(i)`: entry addressed by `sh_entsize`, name from the linked string table -/
theorem get_symbol_exact (L : SymtabLayout le cls data h strOff es names) (i : Nat) (hi : i < es.length) :
    getSymbol (Spec.elfStructs ⟨le, cls, m, sol, core⟩) env data h strOff i
      = .ok (symObs env.enumDecode cls es names i) :=
  layout_getSymbol env (spec_sym _) L i hi

/-- `iter_symbols` yields exactly the encoded entries, in index order -/
theorem iter_symbols_exact (L : SymtabLayout le cls data h strOff es names) :
    iterSymbols (Spec.elfStructs ⟨le, cls, m, sol, core⟩) env data h strOff
      = .ok ((List.range es.length).map (symObs env.enumDecode cls es names)) :=
  layout_iterSymbols env (spec_sym _) L

/-- `get_symbol_by_name(n)` is `None` iff no symbol bears the name, else exactly the symbols bearing it,
    in index order (duplicates, empty names included) -/
theorem by_name_exact (L : SymtabLayout le cls data h strOff es names) (name : Bytes) :
    getSymbolByName (Spec.elfStructs ⟨le, cls, m, sol, core⟩) env data h strOff name
      = .ok (if byName names name = [] then none
             else some ((byName names name).map (symObs env.enumDecode cls es names))) :=
  layout_byName env (spec_sym _) L name

end table

/-- SHT_SYMTAB_SHNDX: the extended section index of symbol `n` is the `n`-th word of the companion table -/
theorem shndx_exact (env : Env) (c : ElfCfg) (data : Bytes) (h : SecHdr) (n w : Nat) (rest : Bytes)
    (hw : w < 2 ^ 32) (hd : data.drop (h.off + n * h.entsize) = encNat c.le 4 w ++ rest) :
    getSectionIndex (Spec.elfStructs c) env data h n = .ok (.int w) :=
  getSectionIndex_ok env (spec_word c) data h n w rest hw hd

theorem syminfo_entry_exact (env : Env) (c : ElfCfg) (b fl : Nat) (hb : b < 65536) (hf : fl < 65536) (pre rest : Bytes) :
    structParse env (Spec.elfStructs c).Elf_Sunw_Syminfo (pre ++ encSyminfo c.le [(b, fl)] ++ rest) pre.length
      = .ok (obsSyminfo env.enumDecode (b, fl), pre.length + 4) :=
  syminfo_entry_ok env (spec_syminfo c) _ _ b fl rest hb hf (drop_pre pre _ rest)

def exE0 : SymE := ⟨0, 0, 0, 0, 0, 0⟩
def exE1 : SymE := ⟨1, 0x1000, 4, 0x12, 3, 0xfff1⟩
def exData : Bytes := encSymtab true 32 0 [exE0, exE1] ++ [0, 0x61, 0]

/-- non-vacuity: a two-entry ELF32 table followed by its string table satisfies `SymtabLayout` -/
example : SymtabLayout true 32 exData ⟨0, 32, 16⟩ 32 [exE0, exE1] [[], [0x61]] :=
  Proofs.C03.built_layout true 32 0 false [([], exE0), ([0x61], { exE1 with stName := 0 })] (Or.inl rfl)
    (by decide +kernel) (by decide +kernel) (by decide +kernel) exData 0 32 [0, 0x61, 0] [] (by decide +kernel)
    (by decide +kernel)

section sysv
variable (names : List Bytes) (t : SysVTable) (getSym : Nat → R Symbol) (sym : Nat → Symbol) (name : Bytes)

/-- exact result: the first symbol bearing the name on the chain of the name's bucket; the walk
    terminates (no `outOfFuel`) and raises nothing -/
theorem sysv_lookup_exact (hwf : WFSysV names t = true)
    (hget : ∀ j, j < names.length → getSym j = .ok (sym j)) :
    ∃ l, sysvBucketChain t name = some l ∧
      elfHashGetSymbol (sysvParams t) getSym name = .ok ((l.find? fun j => decide ((sym j).2 = name)).map sym) :=
  elfHashGetSymbol_eq names t getSym sym name hwf hget

theorem sysv_lookup_sound (hwf : WFSysV names t = true)
    (hget : ∀ j, j < names.length → getSym j = .ok (sym j))
    (hname : ∀ j, j < names.length → (sym j).2 = names.getD j []) :
    ∃ r, elfHashGetSymbol (sysvParams t) getSym name = .ok r ∧
      ∀ s, r = some s → ∃ j, 1 ≤ j ∧ j < names.length ∧ names.getD j [] = name ∧ s = sym j := by
  obtain ⟨r, hr, hs⟩ := sysv_sound_reported names t getSym sym name hwf hget
  exact ⟨r, hr, fun s h => by
    obtain ⟨j, h1, h2, h3, h4⟩ := hs s h
    exact ⟨j, h1, h2, hname j h2 ▸ h3, h4⟩⟩

theorem sysv_lookup_complete (hwf : WFSysV names t = true)
    (hget : ∀ j, j < names.length → getSym j = .ok (sym j))
    (hname : ∀ j, j < names.length → (sym j).2 = names.getD j [])
    (i : Nat) (hi1 : 1 ≤ i) (hin : i < names.length) (hnm : names.getD i [] = name) :
    ∃ j, 1 ≤ j ∧ j < names.length ∧ names.getD j [] = name ∧
      elfHashGetSymbol (sysvParams t) getSym name = .ok (some (sym j)) := by
  obtain ⟨j, h1, h2, h3, h4⟩ :=
    sysv_complete_reported names t getSym sym name hwf hget i hi1 hin hnm ((hname i hin).trans hnm)
  exact ⟨j, h1, h2, hname j h2 ▸ h3, h4⟩

theorem sysv_lookup_absent (hwf : WFSysV names t = true)
    (hget : ∀ j, j < names.length → getSym j = .ok (sym j))
    (hname : ∀ j, j < names.length → (sym j).2 = names.getD j [])
    (habs : ∀ i, 1 ≤ i → i < names.length → names.getD i [] ≠ name) :
    elfHashGetSymbol (sysvParams t) getSym name = .ok none :=
  sysv_absent_reported names t getSym sym name hwf hget (fun i h1 h2 => hname i h2 ▸ habs i h1 h2)

/-- the count recovered from the table is the symbol table's length -/
theorem sysv_count (hwf : WFSysV names t = true) : elfHashCount (sysvParams t) = .ok (.int names.length) :=
  sysv_count_eq names t hwf

/-- an empty table (`nbucket = 0`) finds nothing and does not divide by zero -/
theorem sysv_empty_none (hnb : t.nbucket = 0) : elfHashGetSymbol (sysvParams t) getSym name = .ok none := by
  simp [elfHashGetSymbol, sysv_getNat_nbuckets, bind, Except.bind, pure, Except.pure, hnb]

end sysv

section gnu
variable (cls : Nat) (names : List Bytes) (t : GnuTable) (le : Bool) (data : Bytes) (g : GnuHash)
variable (getSym : Nat → R Symbol) (sym : Nat → Symbol) (name : Bytes)

/-- exact result: the first hashed symbol (`symoffset ≤ i < n`) bearing the name, or `None`.
    `hread` says the chain words of `t` lie at `_chain_pos` in the file. Covers Bloom-filter
    false positives, bucket collisions and `hash|1` collisions (the name compare decides). -/
theorem gnu_lookup_exact (hwf : WFGnu cls names t = true) (hg : g.params = gnuParams t) (hws : g.wordsize = 4)
    (hread : ∀ k (hk : k < t.chain.length), readHashWord le data (g.chainPos + k * 4) = .ok t.chain[k])
    (hget : ∀ j, j < names.length → getSym j = .ok (sym j))
    (hname : ∀ j, j < names.length → (sym j).2 = names.getD j []) :
    gnuHashGetSymbol le cls data g getSym name = .ok ((gnuFirstNamed names t.symoffset name).map sym) :=
  gnuHashGetSymbol_eq cls names t le data g getSym sym name hwf hg hws hread hget hname

theorem gnu_lookup_sound (hwf : WFGnu cls names t = true) (hg : g.params = gnuParams t) (hws : g.wordsize = 4)
    (hread : ∀ k (hk : k < t.chain.length), readHashWord le data (g.chainPos + k * 4) = .ok t.chain[k])
    (hget : ∀ j, j < names.length → getSym j = .ok (sym j))
    (hname : ∀ j, j < names.length → (sym j).2 = names.getD j []) :
    ∃ r, gnuHashGetSymbol le cls data g getSym name = .ok r ∧
      ∀ s, r = some s → ∃ j, t.symoffset ≤ j ∧ j < names.length ∧ names.getD j [] = name ∧ s = sym j := by
  exact ⟨_, gnu_lookup_exact cls names t le data g getSym sym name hwf hg hws hread hget hname,
    (gnu_sound_complete (WFGnuH_facts hwf).son rfl).1⟩

/-- completeness: the Bloom filter never rejects a present name, and hash collisions fall through -/
theorem gnu_lookup_complete (hwf : WFGnu cls names t = true) (hg : g.params = gnuParams t) (hws : g.wordsize = 4)
    (hread : ∀ k (hk : k < t.chain.length), readHashWord le data (g.chainPos + k * 4) = .ok t.chain[k])
    (hget : ∀ j, j < names.length → getSym j = .ok (sym j))
    (hname : ∀ j, j < names.length → (sym j).2 = names.getD j [])
    (i : Nat) (hi1 : t.symoffset ≤ i) (hin : i < names.length) (hnm : names.getD i [] = name) :
    ∃ j, t.symoffset ≤ j ∧ j < names.length ∧ names.getD j [] = name ∧
      gnuHashGetSymbol le cls data g getSym name = .ok (some (sym j)) := by
  obtain ⟨j, h1, h2, h3, h4⟩ := (gnu_sound_complete (sym := sym) (WFGnuH_facts hwf).son rfl).2.2 i hi1 hin hnm
  exact ⟨j, h1, h2, h3, by
    rw [gnu_lookup_exact cls names t le data g getSym sym name hwf hg hws hread hget hname, h4]⟩

theorem gnu_lookup_absent (hwf : WFGnu cls names t = true) (hg : g.params = gnuParams t) (hws : g.wordsize = 4)
    (hread : ∀ k (hk : k < t.chain.length), readHashWord le data (g.chainPos + k * 4) = .ok t.chain[k])
    (hget : ∀ j, j < names.length → getSym j = .ok (sym j))
    (hname : ∀ j, j < names.length → (sym j).2 = names.getD j [])
    (habs : ∀ i, t.symoffset ≤ i → i < names.length → names.getD i [] ≠ name) :
    gnuHashGetSymbol le cls data g getSym name = .ok none := by
  rw [gnu_lookup_exact cls names t le data g getSym sym name hwf hg hws hread hget hname,
    (gnu_sound_complete (sym := sym) (WFGnuH_facts hwf).son rfl).2.1.mpr habs]

/-- the count recovered from the buckets and the last chain is the symbol table's true length -/
theorem gnu_count_exact (hwf : WFGnu cls names t = true) (hg : g.params = gnuParams t) (hws : g.wordsize = 4)
    (hread : ∀ k (hk : k < t.chain.length), readHashWord le data (g.chainPos + k * 4) = .ok t.chain[k]) :
    gnuHashCount le data g = .ok names.length :=
  gnuHashCount_eq cls names t le data g hwf hg hws hread

end gnu

/-! from bytes: the encoded tables parse to the params the lookup theorems speak about -/

/-- `ELFHashTable.__init__` on an encoded well-formed SysV table yields exactly `sysvParams t` -/
theorem sysv_init_exact (env : Env) (c : ElfCfg) (names : List Bytes) (t : SysVTable)
    (pre rest : Bytes) (hwf : WFSysV names t = true) :
    elfHashInit (Spec.elfStructs c) env (pre ++ encSysV c.le t ++ rest) pre.length = .ok (sysvParams t) :=
  sysv_init_of_wf env c rfl names t _ _ rest hwf (drop_pre pre _ rest)

/-- `GNUHashTable.__init__` on an encoded well-formed GNU table: the params, the word size and the
    chain words at `_chain_pos` — the hypotheses `hg`, `hws`, `hread` of the GNU theorems above -/
theorem gnu_init_exact (env : Env) (c : ElfCfg) (hcls : c.cls = 32 ∨ c.cls = 64) (names : List Bytes) (t : GnuTable)
    (pre rest : Bytes) (hwf : WFGnu c.cls names t = true) :
    ∃ g, gnuHashInit (Spec.elfStructs c) env c.cls (pre ++ encGnu c.le c.cls t ++ rest) pre.length = .ok g
      ∧ g.params = gnuParams t ∧ g.wordsize = 4
      ∧ ∀ k (hk : k < t.chain.length),
          readHashWord c.le (pre ++ encGnu c.le c.cls t ++ rest) (g.chainPos + k * 4) = .ok t.chain[k] :=
  gnu_init_of_wf env c rfl hcls names t _ _ rest hwf (drop_pre pre _ rest)

/-- end to end for the GNU table: from the encoded bytes to the lookup result and the count -/
theorem gnu_bytes_exact (env : Env) (c : ElfCfg) (hcls : c.cls = 32 ∨ c.cls = 64) (names : List Bytes) (t : GnuTable)
    (pre rest : Bytes) (hwf : WFGnu c.cls names t = true)
    (getSym : Nat → R Symbol) (sym : Nat → Symbol)
    (hget : ∀ j, j < names.length → getSym j = .ok (sym j))
    (hname : ∀ j, j < names.length → (sym j).2 = names.getD j []) :
    ∃ g, gnuHashInit (Spec.elfStructs c) env c.cls (pre ++ encGnu c.le c.cls t ++ rest) pre.length = .ok g
      ∧ gnuHashCount c.le (pre ++ encGnu c.le c.cls t ++ rest) g = .ok names.length
      ∧ ∀ name, gnuHashGetSymbol c.le c.cls (pre ++ encGnu c.le c.cls t ++ rest) g getSym name
          = .ok ((gnuFirstNamed names t.symoffset name).map sym) := by
  obtain ⟨g, h1, h2, h3, h4⟩ := gnu_init_exact env c hcls names t pre rest hwf
  exact ⟨g, h1, gnu_count_exact c.cls names t c.le _ g hwf h2 h3 h4,
    fun name => gnu_lookup_exact c.cls names t c.le _ g getSym sym name hwf h2 h3 h4 hget hname⟩

/-! non-vacuity: concrete tables satisfy the hypotheses (with hash and bucket collisions) -/

/-- "bB" and "c!" have the same GNU hash (33·a + b) -/
example : gnuHash32 [0x62, 0x42] = gnuHash32 [0x63, 0x21] := by decide +kernel

def exNames : List Bytes := [[], [0x62, 0x42], [0x63, 0x21], [0x70], [0x70], [0xc3, 0xa9]]

example : WFSysV exNames (buildSysV exNames 2) = true := by decide +kernel
example : WFSysV exNames (buildSysV exNames 1) = true := by decide +kernel
example : WFGnu 64 exNames (buildGnu 64 exNames 1 1 1 6) = true := by decide +kernel
example : WFGnu 32 exNames (buildGnu 32 exNames 1 3 2 5) = true := by decide +kernel

/-! `buildSysV` / `buildGnu` (with `gnuOrder`) are the constructions the run's inputs come from.  The
  theorems below discharge the hypothesis `WFSysV … = true` / `WFGnu … = true` of the lookup theorems
  for EVERY list of names (any size, duplicate and empty names, any number of buckets ≥ 1, any
  `symoffset` with `1 ≤ symoffset ≤ n`, any Bloom size ≥ 1 and shift).  Preconditions (all decidable, all necessary
  for the predicates): entry 0 exists (`1 ≤ n`; it is the null symbol and is never hashed), every count fits
  the 32-bit header words, and for GNU `1 ≤ symoffset` (index 0 means "empty bucket"). -/

open PyElf.Proofs.C03 (sysvLastNamed SyminfoLayout syminfoObs GnuSorted builtEntries)

/-- `buildSysV` (push-front, in index order) satisfies the gABI conditions, for every list of names -/
theorem buildSysV_wf (names : List Bytes) (nb : Nat) (hn : 1 ≤ names.length) (hn32 : names.length < 2 ^ 32)
    (hnb : 1 ≤ nb) (hnb32 : nb < 2 ^ 32) : WFSysV names (buildSysV names nb) = true :=
  Proofs.C03.buildSysV_wf names nb hn hn32 hnb hnb32

/-- `gnuOrder` permutes the symbols, -/
theorem gnuOrder_perm {β : Type} (nb so : Nat) (syms : List (Bytes × β)) : (gnuOrder nb so syms).Perm syms :=
  Proofs.C03.gnuOrder_perm nb so syms

/-- leaves the unhashed symbols `i < symoffset` in place, -/
theorem gnuOrder_take {β : Type} (nb so : Nat) (syms : List (Bytes × β)) :
    (gnuOrder nb so syms).take so = syms.take so := by
  by_cases h : so ≤ syms.length
  · have hl : (syms.take so).length = so := by simp [List.length_take]; omega
    unfold gnuOrder
    rw [List.take_append_of_le_length (by omega), List.take_of_length_le (by omega)]
  · have hd : syms.drop so = [] := List.drop_eq_nil_of_le (by omega)
    simp [gnuOrder, hd, sortByKey, List.take_take]

/-- permutes the hashed part within itself, -/
theorem gnuOrder_hashed_perm {β : Type} (nb so : Nat) (syms : List (Bytes × β)) :
    ((gnuOrder nb so syms).drop so).Perm (syms.drop so) :=
  Proofs.C03.gnuOrder_drop_perm nb so syms

/-- and sorts the hashed part by bucket -/
theorem gnuOrder_sorted {β : Type} (nb so : Nat) (syms : List (Bytes × β)) :
    GnuSorted nb (gnuHashes ((gnuOrder nb so syms).map (·.1)) so) :=
  Proofs.C03.gnuOrder_sorted nb so syms

/-- `buildGnu` over names whose hashed part is sorted by bucket satisfies the GNU-hash conditions
    (Bloom bits of every hashed symbol set, words within the class, buckets = first symbol of each
    bucket, chain words = hash with the end-of-bucket bit) -/
theorem buildGnu_wf_sorted (cls : Nat) (names : List Bytes) (nb so bs sh : Nat) (hcls : 0 < cls)
    (hnb : 1 ≤ nb) (hnb32 : nb < 2 ^ 32) (hbs : 1 ≤ bs) (hbs32 : bs < 2 ^ 32) (hsh32 : sh < 2 ^ 32)
    (hso1 : 1 ≤ so) (hson : so ≤ names.length) (hn32 : names.length < 2 ^ 32)
    (hsorted : GnuSorted nb (gnuHashes names so)) :
    WFGnu cls names (buildGnu cls names nb so bs sh) = true :=
  Proofs.C03.buildGnu_wf_sorted cls names nb so bs sh hcls hnb hnb32 hbs hbs32 hsh32 hso1 hson hn32 hsorted

/-- for EVERY symbol list, ordered as the linker orders it -/
theorem buildGnu_wf {β : Type} (cls : Nat) (syms : List (Bytes × β)) (nb so bs sh : Nat) (hcls : 0 < cls)
    (hnb : 1 ≤ nb) (hnb32 : nb < 2 ^ 32) (hbs : 1 ≤ bs) (hbs32 : bs < 2 ^ 32) (hsh32 : sh < 2 ^ 32)
    (hso1 : 1 ≤ so) (hson : so ≤ syms.length) (hn32 : syms.length < 2 ^ 32) :
    WFGnu cls ((gnuOrder nb so syms).map (·.1)) (buildGnu cls ((gnuOrder nb so syms).map (·.1)) nb so bs sh) = true :=
  Proofs.C03.buildGnu_wf cls syms nb so bs sh hcls hnb hnb32 hbs hbs32 hsh32 hso1 hson hn32

/-- with extra Bloom bits (false positives; what the run's `bloom_or` perturbation produces) the table
    stays well-formed -/
theorem WFGnu_bloom_super (cls : Nat) (names : List Bytes) (t : GnuTable) (bloom' : List Nat)
    (hwf : WFGnu cls names t = true) (hlen : bloom'.length = t.bloom.length) (hb : ∀ w ∈ bloom', w < 2 ^ cls)
    (hsup : ∀ (i w : Nat), t.bloom[i]? = some w → ∃ w' : Nat, bloom'[i]? = some w' ∧ w' &&& w = w) :
    WFGnu cls names { t with bloom := bloom' } = true :=
  Proofs.C03.WFGnu_bloom_super cls names t bloom' hwf hlen hb hsup

/-- exactly the table the run builds: `buildGnu` over the ordered names with the words `orW` ORed into
    the Bloom filter (to provoke false positives) is well-formed, for every symbol list -/
theorem buildGnu_perturbed_wf {β : Type} (cls : Nat) (syms : List (Bytes × β)) (nb so bs sh : Nat) (hcls : 0 < cls)
    (hnb : 1 ≤ nb) (hnb32 : nb < 2 ^ 32) (hbs : 1 ≤ bs) (hbs32 : bs < 2 ^ 32) (hsh32 : sh < 2 ^ 32)
    (hso1 : 1 ≤ so) (hson : so ≤ syms.length) (hn32 : syms.length < 2 ^ 32)
    (orW : List Nat) (hor : ∀ w ∈ orW, w < 2 ^ cls) :
    WFGnu cls ((gnuOrder nb so syms).map (·.1))
      { buildGnu cls ((gnuOrder nb so syms).map (·.1)) nb so bs sh with
        bloom := ((buildGnu cls ((gnuOrder nb so syms).map (·.1)) nb so bs sh).bloom.zipIdx).map
                    fun (w, i) => w ||| orW.getD i 0 } = true :=
  Proofs.C03.WFGnu_bloomOr cls _ _ orW
    (Proofs.C03.buildGnu_wf cls syms nb so bs sh hcls hnb hnb32 hbs hbs32 hsh32 hso1 hson hn32) hor

/-- non-vacuity of the builder theorems: their hypotheses are plain range conditions -/
example : WFSysV exNames (buildSysV exNames 3) = true :=
  buildSysV_wf exNames 3 (by decide +kernel) (by decide +kernel) (by decide +kernel) (by decide +kernel)
example : WFGnu 64 ((gnuOrder 5 2 (exNames.map fun n => (n, ()))).map (·.1))
    (buildGnu 64 ((gnuOrder 5 2 (exNames.map fun n => (n, ()))).map (·.1)) 5 2 2 6) = true :=
  buildGnu_wf 64 _ 5 2 2 6 (by decide +kernel) (by decide +kernel) (by decide +kernel) (by decide +kernel) (by decide +kernel) (by decide +kernel) (by decide +kernel)
    (by decide +kernel) (by decide +kernel)
/-- the ordering really moves symbols: with 5 buckets the hashed part of `exNames` is rearranged -/
example : (gnuOrder 5 2 (exNames.map fun n => (n, ()))).map (·.1) ≠ exNames := by decide +kernel

/-- SysV, exact: on the bytes of the table built for ANY list of names, `__init__` succeeds, the count
    is the table length, and the lookup of any name returns the highest-indexed symbol `1 ≤ i < n`
    bearing it (`None` if there is none) -/
theorem sysv_lookup_built_exact (env : Env) (c : ElfCfg) (names : List Bytes) (nb : Nat)
    (hn : 1 ≤ names.length) (hn32 : names.length < 2 ^ 32) (hnb : 1 ≤ nb) (hnb32 : nb < 2 ^ 32)
    (pre rest : Bytes) (getSym : Nat → R Symbol) (sym : Nat → Symbol)
    (hget : ∀ j, j < names.length → getSym j = .ok (sym j))
    (hname : ∀ j, j < names.length → (sym j).2 = names.getD j []) :
    ∃ params, elfHashInit (Spec.elfStructs c) env (pre ++ encSysV c.le (buildSysV names nb) ++ rest) pre.length = .ok params
      ∧ elfHashCount params = .ok (.int names.length)
      ∧ ∀ name, elfHashGetSymbol params getSym name = .ok ((sysvLastNamed names name).map sym) :=
  Proofs.C03.sysv_built_bytes env c rfl names nb hn hn32 hnb hnb32 _ _ rest (drop_pre pre _ rest) getSym sym hget hname

theorem sysvLastNamed_spec (names : List Bytes) (name : Bytes) :
    (∀ j, sysvLastNamed names name = some j →
        1 ≤ j ∧ j < names.length ∧ names.getD j [] = name ∧ ∀ i, j < i → i < names.length → names.getD i [] ≠ name)
      ∧ (sysvLastNamed names name = none → ∀ i, 1 ≤ i → i < names.length → names.getD i [] ≠ name) :=
  ⟨fun _ h => ⟨(Proofs.C03.sysvLastNamed_some h).1, (Proofs.C03.sysvLastNamed_some h).2.1,
      (Proofs.C03.sysvLastNamed_some h).2.2, Proofs.C03.sysvLastNamed_last h⟩,
   Proofs.C03.sysvLastNamed_none⟩

/-- SysV: every name present among the symbols `1 ≤ i < n` is found, every absent name is not, and
    the recovered count is the table length — for every list of names and every bucket count -/
theorem sysv_lookup_built (env : Env) (c : ElfCfg) (names : List Bytes) (nb : Nat)
    (hn : 1 ≤ names.length) (hn32 : names.length < 2 ^ 32) (hnb : 1 ≤ nb) (hnb32 : nb < 2 ^ 32)
    (pre rest : Bytes) (getSym : Nat → R Symbol) (sym : Nat → Symbol)
    (hget : ∀ j, j < names.length → getSym j = .ok (sym j))
    (hname : ∀ j, j < names.length → (sym j).2 = names.getD j []) :
    ∃ params, elfHashInit (Spec.elfStructs c) env (pre ++ encSysV c.le (buildSysV names nb) ++ rest) pre.length = .ok params
      ∧ elfHashCount params = .ok (.int names.length)
      ∧ (∀ i, 1 ≤ i → i < names.length → ∃ j, 1 ≤ j ∧ j < names.length ∧ names.getD j [] = names.getD i [] ∧
            elfHashGetSymbol params getSym (names.getD i []) = .ok (some (sym j)))
      ∧ (∀ name, (∀ i, 1 ≤ i → i < names.length → names.getD i [] ≠ name) →
            elfHashGetSymbol params getSym name = .ok none) := by
  obtain ⟨params, h1, h2, h3⟩ :=
    sysv_lookup_built_exact env c names nb hn hn32 hnb hnb32 pre rest getSym sym hget hname
  refine ⟨params, h1, h2, fun i hi1 hin => ?_, fun name habs => ?_⟩
  · obtain ⟨j, a, b, c', e⟩ := (Proofs.C03.sysv_complete_absent_built (sym := sym) rfl).1 i hi1 hin rfl
    exact ⟨j, a, b, c', by rw [h3, e]⟩
  · rw [h3, (Proofs.C03.sysv_complete_absent_built (sym := sym) rfl).2 habs]

/-- SysV, whole file: the symbol table of the lookups is the real `get_symbol` over a laid-out symbol
    table in the same file, the hash table the one built for its names -/
theorem sysv_lookup_built_file {le : Bool} {cls : Nat} {data : Bytes} {h : SecHdr} {strOff : Nat} {es : List SymE}
    {names : List Bytes} (env : Env) (m : String) (sol core : Bool)
    (L : SymtabLayout le cls data h strOff es names) (nb : Nat)
    (hn : 1 ≤ es.length) (hn32 : es.length < 2 ^ 32) (hnb : 1 ≤ nb) (hnb32 : nb < 2 ^ 32)
    (off : Nat) (rest : Bytes) (hd : data.drop off = encSysV le (buildSysV names nb) ++ rest) :
    ∃ params, elfHashInit (Spec.elfStructs ⟨le, cls, m, sol, core⟩) env data off = .ok params
      ∧ elfHashCount params = .ok (.int es.length)
      ∧ ∀ name, elfHashGetSymbol params (getSymbol (Spec.elfStructs ⟨le, cls, m, sol, core⟩) env data h strOff) name
          = .ok ((sysvLastNamed names name).map (symObs env.enumDecode cls es names)) := by
  exact Proofs.C03.sysv_built_file env ⟨le, cls, m, sol, core⟩ (spec_sym _) rfl L nb hn hn32 hnb hnb32 off rest hd

/-- GNU, exact: on the bytes of the table built for ANY symbol list (ordered by `gnuOrder`), `__init__`
    succeeds, the recovered count is the number of symbols, and the lookup of any name returns the
    first hashed symbol bearing it (`None` if there is none) -/
theorem gnu_lookup_built_exact {β : Type} (env : Env) (c : ElfCfg) (hcls : c.cls = 32 ∨ c.cls = 64)
    (syms : List (Bytes × β)) (nb so bs sh : Nat)
    (hnb : 1 ≤ nb) (hnb32 : nb < 2 ^ 32) (hbs : 1 ≤ bs) (hbs32 : bs < 2 ^ 32) (hsh32 : sh < 2 ^ 32)
    (hso1 : 1 ≤ so) (hson : so ≤ syms.length) (hn32 : syms.length < 2 ^ 32)
    (pre rest : Bytes) (getSym : Nat → R Symbol) (sym : Nat → Symbol)
    (hget : ∀ j, j < ((gnuOrder nb so syms).map (·.1)).length → getSym j = .ok (sym j))
    (hname : ∀ j, j < ((gnuOrder nb so syms).map (·.1)).length → (sym j).2 = ((gnuOrder nb so syms).map (·.1)).getD j []) :
    ∃ g, gnuHashInit (Spec.elfStructs c) env c.cls
          (pre ++ encGnu c.le c.cls (buildGnu c.cls ((gnuOrder nb so syms).map (·.1)) nb so bs sh) ++ rest) pre.length = .ok g
      ∧ gnuHashCount c.le (pre ++ encGnu c.le c.cls (buildGnu c.cls ((gnuOrder nb so syms).map (·.1)) nb so bs sh) ++ rest) g
          = .ok syms.length
      ∧ ∀ name, gnuHashGetSymbol c.le c.cls
            (pre ++ encGnu c.le c.cls (buildGnu c.cls ((gnuOrder nb so syms).map (·.1)) nb so bs sh) ++ rest) g getSym name
          = .ok ((gnuFirstNamed ((gnuOrder nb so syms).map (·.1)) so name).map sym) :=
  Proofs.C03.gnu_built_bytes env c rfl hcls syms nb so bs sh hnb hnb32 hbs hbs32 hsh32 hso1 hson hn32 _ _ rest
    (drop_pre pre _ rest) getSym sym hget hname

/-- GNU: every name borne by a symbol of the hashed part `syms.drop symoffset` of the ORIGINAL list is
    found (a symbol with that name, at a hashed index of the ordered table, is returned), every name
    not borne by one is not found — Bloom false positives, bucket and hash collisions included —, and
    the recovered count is the number of symbols; for every symbol list and all table parameters -/
theorem gnu_lookup_built {β : Type} (env : Env) (c : ElfCfg) (hcls : c.cls = 32 ∨ c.cls = 64)
    (syms : List (Bytes × β)) (nb so bs sh : Nat)
    (hnb : 1 ≤ nb) (hnb32 : nb < 2 ^ 32) (hbs : 1 ≤ bs) (hbs32 : bs < 2 ^ 32) (hsh32 : sh < 2 ^ 32)
    (hso1 : 1 ≤ so) (hson : so ≤ syms.length) (hn32 : syms.length < 2 ^ 32)
    (pre rest : Bytes) (getSym : Nat → R Symbol) (sym : Nat → Symbol)
    (hget : ∀ j, j < ((gnuOrder nb so syms).map (·.1)).length → getSym j = .ok (sym j))
    (hname : ∀ j, j < ((gnuOrder nb so syms).map (·.1)).length → (sym j).2 = ((gnuOrder nb so syms).map (·.1)).getD j []) :
    ∃ g, gnuHashInit (Spec.elfStructs c) env c.cls
          (pre ++ encGnu c.le c.cls (buildGnu c.cls ((gnuOrder nb so syms).map (·.1)) nb so bs sh) ++ rest) pre.length = .ok g
      ∧ gnuHashCount c.le (pre ++ encGnu c.le c.cls (buildGnu c.cls ((gnuOrder nb so syms).map (·.1)) nb so bs sh) ++ rest) g
          = .ok syms.length
      ∧ (∀ s ∈ syms.drop so, ∃ j, so ≤ j ∧ j < syms.length ∧ ((gnuOrder nb so syms).map (·.1)).getD j [] = s.1 ∧
          gnuHashGetSymbol c.le c.cls
            (pre ++ encGnu c.le c.cls (buildGnu c.cls ((gnuOrder nb so syms).map (·.1)) nb so bs sh) ++ rest) g getSym s.1
            = .ok (some (sym j)))
      ∧ (∀ name, (∀ s ∈ syms.drop so, s.1 ≠ name) →
          gnuHashGetSymbol c.le c.cls
            (pre ++ encGnu c.le c.cls (buildGnu c.cls ((gnuOrder nb so syms).map (·.1)) nb so bs sh) ++ rest) g getSym name
            = .ok none) := by
  obtain ⟨g, h1, h2, h3⟩ := gnu_lookup_built_exact env c hcls syms nb so bs sh hnb hnb32 hbs hbs32 hsh32 hso1 hson hn32
    pre rest getSym sym hget hname
  have hl : ((gnuOrder nb so syms).map (·.1)).length = syms.length := by
    rw [List.length_map, Proofs.C03.gnuOrder_length]
  have hso : so ≤ ((gnuOrder nb so syms).map (·.1)).length := hl ▸ hson
  refine ⟨g, h1, h2, fun s hs => ?_, fun name habs => ?_⟩
  · obtain ⟨i, hi1, hi2, hi3⟩ := Proofs.C03.gnuOrder_hashed_mem nb so syms s hs
    obtain ⟨j, a, b, c', e⟩ := (gnu_sound_complete (sym := sym) hso rfl).2.2 i hi1 hi2 hi3
    exact ⟨j, a, hl ▸ b, c', by rw [h3, e]⟩
  · rw [h3, (gnu_sound_complete (sym := sym) hso rfl).2.1.mpr (fun i a b hnm => by
      obtain ⟨s, hs, hsn⟩ := Proofs.C03.gnuOrder_hashed_of_idx nb so syms i a b
      exact habs s hs (hsn ▸ hnm))]

/-- GNU, whole file: lookups through the real `get_symbol` over the laid-out (ordered) symbol table -/
theorem gnu_lookup_built_file {β : Type} {le : Bool} {cls : Nat} {data : Bytes} {h : SecHdr} {strOff : Nat}
    {es : List SymE} (env : Env) (m : String) (sol core : Bool) (syms : List (Bytes × β)) (nb so bs sh : Nat)
    (L : SymtabLayout le cls data h strOff es ((gnuOrder nb so syms).map (·.1)))
    (hnb : 1 ≤ nb) (hnb32 : nb < 2 ^ 32) (hbs : 1 ≤ bs) (hbs32 : bs < 2 ^ 32) (hsh32 : sh < 2 ^ 32)
    (hso1 : 1 ≤ so) (hson : so ≤ syms.length) (hn32 : syms.length < 2 ^ 32)
    (off : Nat) (rest : Bytes)
    (hd : data.drop off = encGnu le cls (buildGnu cls ((gnuOrder nb so syms).map (·.1)) nb so bs sh) ++ rest) :
    ∃ g, gnuHashInit (Spec.elfStructs ⟨le, cls, m, sol, core⟩) env cls data off = .ok g
      ∧ gnuHashCount le data g = .ok es.length
      ∧ ∀ name, gnuHashGetSymbol le cls data g (getSymbol (Spec.elfStructs ⟨le, cls, m, sol, core⟩) env data h strOff) name
          = .ok ((gnuFirstNamed ((gnuOrder nb so syms).map (·.1)) so name).map
                  (symObs env.enumDecode cls es ((gnuOrder nb so syms).map (·.1)))) := by
  exact Proofs.C03.gnu_built_file env ⟨le, cls, m, sol, core⟩ (spec_sym _) rfl syms nb so bs sh L hnb hnb32 hbs hbs32
    hsh32 hso1 hson hn32 off rest hd

/-- `SUNWSyminfoTableSection.num_symbols` and `list(iter_symbols())`: the entries 1 … k−1 of a table of
    `k` entries in order (entry 0, the version record, is skipped; `k = 0` gives `num_symbols = −1`
    and nothing), each paired with the name of the same-numbered symbol of the linked symbol table -/
theorem syminfo_iter_exact {le : Bool} {cls : Nat} {data : Bytes} {h symH : SecHdr} {strOff : Nat} {es : List SymE}
    {names : List Bytes} {si : List (Nat × Nat)} (env : Env) (m : String) (sol core : Bool)
    (L : SymtabLayout le cls data symH strOff es names) (LS : SyminfoLayout le data h si)
    (hle : si.length ≤ es.length) :
    syminfoNum h = .ok ((si.length : Int) - 1)
      ∧ syminfoIter (Spec.elfStructs ⟨le, cls, m, sol, core⟩) env data h symH strOff
          = .ok ((List.range' 1 (si.length - 1)).map (syminfoObs env.enumDecode si names)) :=
  ⟨Proofs.C03.syminfoNum_ok LS, Proofs.C03.syminfoIter_ok env (spec_sym _) (spec_syminfo _) L LS hle⟩

/-- the packed section every producer writes (`sh_entsize = 4`, the encoded entries at `sh_offset`) is such a layout -/
theorem syminfo_packed_layout (le : Bool) (data : Bytes) (h : SecHdr) (si : List (Nat × Nat)) (rest : Bytes)
    (hent : h.entsize = 4) (hsize : h.size = si.length * 4)
    (hwf : ∀ e ∈ si, e.1 < 65536 ∧ e.2 < 65536) (hd : data.drop h.off = encSyminfo le si ++ rest) :
    SyminfoLayout le data h si :=
  Proofs.C03.syminfoLayout_packed le data h si rest hent hsize hwf hd

/-- every entry of the companion table: `get_section_index(n)` is the `n`-th word, for all `n` in range -/
theorem shndx_table_exact (env : Env) (c : ElfCfg) (data : Bytes) (h : SecHdr) (ws : List Nat) (rest : Bytes)
    (hent : h.entsize = 4) (hws : ∀ w ∈ ws, w < 2 ^ 32) (hd : data.drop h.off = encShndx c.le ws ++ rest)
    (n : Nat) (hn : n < ws.length) :
    getSectionIndex (Spec.elfStructs c) env data h n = .ok (.int ws[n]) :=
  Proofs.C03.shndx_table_ok env (spec_word c) data h ws rest hent hws hd n hn

/-- every regenerated bundle reads symbol entries with the gABI's `Elf_Sym` of its byte order and class -/
theorem elfSym_generated {c : ElfCfg} {S : ElfStructs} (hS : (c, S) ∈ Gen.elfBundles) : S.Elf_Sym = symCon c.le c.cls :=
  (congrArg (·.Elf_Sym) (TieElf.mem_bundles hS)).trans (spec_sym c)

section generated
variable (c : ElfCfg) (S : ElfStructs) (hS : (c, S) ∈ Gen.elfBundles)
include hS

/-- Elf_Sym round trip with the bundle and the code tables regenerated from the library on this run -/
theorem sym_roundtrip_generated (hcls : c.cls = 32 ∨ c.cls = 64) (e : SymE) (hwf : e.WF c.cls = true) (pre rest : Bytes) :
    structParse Model.elfEnv S.Elf_Sym (pre ++ encSym c.le c.cls e ++ rest) pre.length
      = .ok (obsEntry Model.elfEnv.enumDecode c.cls e, pre.length + symSize c.cls) := by
  exact Proofs.sym_roundtrip Model.elfEnv (elfSym_generated hS) hcls e hwf _ _ rest (drop_pre pre _ rest)

theorem iter_symbols_exact_generated {data : Bytes} {h : SecHdr} {strOff : Nat} {es : List SymE} {names : List Bytes}
    (L : SymtabLayout c.le c.cls data h strOff es names) :
    iterSymbols S Model.elfEnv data h strOff
      = .ok ((List.range es.length).map (symObs Model.elfEnv.enumDecode c.cls es names)) := by
  exact layout_iterSymbols Model.elfEnv (elfSym_generated hS) L

theorem by_name_exact_generated {data : Bytes} {h : SecHdr} {strOff : Nat} {es : List SymE} {names : List Bytes}
    (L : SymtabLayout c.le c.cls data h strOff es names) (name : Bytes) :
    getSymbolByName S Model.elfEnv data h strOff name
      = .ok (if byName names name = [] then none
             else some ((byName names name).map (symObs Model.elfEnv.enumDecode c.cls es names))) := by
  exact layout_byName Model.elfEnv (elfSym_generated hS) L name

/-- SysV hash lookups over a whole file, regenerated bundle: built table, real `get_symbol` -/
theorem sysv_lookup_built_generated {data : Bytes} {h : SecHdr} {strOff : Nat} {es : List SymE} {names : List Bytes}
    (L : SymtabLayout c.le c.cls data h strOff es names) (nb : Nat)
    (hn : 1 ≤ es.length) (hn32 : es.length < 2 ^ 32) (hnb : 1 ≤ nb) (hnb32 : nb < 2 ^ 32)
    (off : Nat) (rest : Bytes) (hd : data.drop off = encSysV c.le (buildSysV names nb) ++ rest) :
    ∃ params, elfHashInit S Model.elfEnv data off = .ok params
      ∧ elfHashCount params = .ok (.int es.length)
      ∧ ∀ name, elfHashGetSymbol params (getSymbol S Model.elfEnv data h strOff) name
          = .ok ((sysvLastNamed names name).map (symObs Model.elfEnv.enumDecode c.cls es names)) := by
  exact Proofs.C03.sysv_built_file Model.elfEnv c (elfSym_generated hS)
    (congrArg (·.Elf_Hash) (TieElf.mem_bundles hS)) L nb hn hn32 hnb hnb32 off rest hd

/-- GNU hash lookups over a whole file, regenerated bundle -/
theorem gnu_lookup_built_generated {β : Type} {data : Bytes} {h : SecHdr} {strOff : Nat} {es : List SymE}
    (syms : List (Bytes × β)) (nb so bs sh : Nat)
    (L : SymtabLayout c.le c.cls data h strOff es ((gnuOrder nb so syms).map (·.1)))
    (hnb : 1 ≤ nb) (hnb32 : nb < 2 ^ 32) (hbs : 1 ≤ bs) (hbs32 : bs < 2 ^ 32) (hsh32 : sh < 2 ^ 32)
    (hso1 : 1 ≤ so) (hson : so ≤ syms.length) (hn32 : syms.length < 2 ^ 32)
    (off : Nat) (rest : Bytes)
    (hd : data.drop off = encGnu c.le c.cls (buildGnu c.cls ((gnuOrder nb so syms).map (·.1)) nb so bs sh) ++ rest) :
    ∃ g, gnuHashInit S Model.elfEnv c.cls data off = .ok g
      ∧ gnuHashCount c.le data g = .ok es.length
      ∧ ∀ name, gnuHashGetSymbol c.le c.cls data g (getSymbol S Model.elfEnv data h strOff) name
          = .ok ((gnuFirstNamed ((gnuOrder nb so syms).map (·.1)) so name).map
                  (symObs Model.elfEnv.enumDecode c.cls es ((gnuOrder nb so syms).map (·.1)))) := by
  exact Proofs.C03.gnu_built_file Model.elfEnv c (elfSym_generated hS)
    (congrArg (·.Gnu_Hash) (TieElf.mem_bundles hS)) syms nb so bs sh L hnb hnb32 hbs hbs32 hsh32
    hso1 hson hn32 off rest hd

theorem shndx_table_exact_generated (data : Bytes) (h : SecHdr) (ws : List Nat) (rest : Bytes)
    (hent : h.entsize = 4) (hws : ∀ w ∈ ws, w < 2 ^ 32) (hd : data.drop h.off = encShndx c.le ws ++ rest)
    (n : Nat) (hn : n < ws.length) :
    getSectionIndex S Model.elfEnv data h n = .ok (.int ws[n]) := by
  exact Proofs.C03.shndx_table_ok Model.elfEnv
    ((congrArg (·.Elf_word) (TieElf.mem_bundles hS)).trans (spec_word c)) data h ws rest hent hws hd n hn

theorem syminfo_iter_exact_generated {data : Bytes} {h symH : SecHdr} {strOff : Nat} {es : List SymE}
    {names : List Bytes} {si : List (Nat × Nat)}
    (L : SymtabLayout c.le c.cls data symH strOff es names) (LS : SyminfoLayout c.le data h si)
    (hle : si.length ≤ es.length) :
    syminfoIter S Model.elfEnv data h symH strOff
      = .ok ((List.range' 1 (si.length - 1)).map (syminfoObs Model.elfEnv.enumDecode si names)) := by
  exact Proofs.C03.syminfoIter_ok Model.elfEnv (elfSym_generated hS)
    ((congrArg (·.Elf_Sunw_Syminfo) (TieElf.mem_bundles hS)).trans (spec_syminfo c)) L LS hle

end generated

/-! The symbol-table side of the run's inputs is built by `buildStrtab` and `encSymtab`.  The theorems
  below discharge `SymtabLayout` for every symbol list (names without NUL, fields in range, string
  table shorter than 2^32), so that nothing about the generated inputs remains a hypothesis. -/

/-- `buildStrtab` (with or without sharing of equal names): one offset per name, each denoting its name -/
theorem buildStrtab_exact (share : Bool) (names : List Bytes) (hnul : ∀ nm ∈ names, (0 : UInt8) ∉ nm) :
    (buildStrtab share names).2.length = names.length
      ∧ ∀ i (hi : i < names.length), ∃ o, (buildStrtab share names).2[i]? = some o
          ∧ strAt (buildStrtab share names).1 o = some names[i] :=
  Proofs.C03.buildStrtab_ok share names hnul

/-- the entries and the string table built from any symbol list, anywhere in a file, are a `SymtabLayout`
    (stride `symSize + pad`; `sh_size = n · sh_entsize`) -/
theorem built_symtab_layout (le : Bool) (cls pad : Nat) (share : Bool) (syms : List (Bytes × SymE))
    (hcls : cls = 32 ∨ cls = 64)
    (hnul : ∀ s ∈ syms, (0 : UInt8) ∉ s.1) (hwf : ∀ s ∈ syms, s.2.WF cls = true)
    (hlen : (buildStrtab share (syms.map (·.1))).1.length < 2 ^ 32)
    (data : Bytes) (symOff strOff : Nat) (rest1 rest2 : Bytes)
    (h1 : data.drop symOff
        = encSymtab le cls pad (builtEntries syms (buildStrtab share (syms.map (·.1))).2) ++ rest1)
    (h2 : data.drop strOff = (buildStrtab share (syms.map (·.1))).1 ++ rest2) :
    SymtabLayout le cls data ⟨symOff, syms.length * (symSize cls + pad), symSize cls + pad⟩ strOff
      (builtEntries syms (buildStrtab share (syms.map (·.1))).2) (syms.map (·.1)) :=
  Proofs.C03.built_layout le cls pad share syms hcls hnul hwf hlen data symOff strOff rest1 rest2 h1 h2

/-- SysV, the whole image from ONE symbol list (any size ≥ 1, duplicates, empty names, any padding,
    shared or unshared string table, any bucket count ≥ 1), regenerated bundle and code tables:
    enumeration yields exactly the symbols; `__init__` of the hash table succeeds; the recovered count is
    the number of symbols; every lookup returns the highest-indexed symbol `1 ≤ i < n` bearing the name,
    or `None` -/
theorem sysv_image_generated (c : ElfCfg) (S : ElfStructs) (hS : (c, S) ∈ Gen.elfBundles)
    (hcls : c.cls = 32 ∨ c.cls = 64) (pad : Nat) (share : Bool) (syms : List (Bytes × SymE)) (nb : Nat)
    (hnul : ∀ s ∈ syms, (0 : UInt8) ∉ s.1) (hwf : ∀ s ∈ syms, s.2.WF c.cls = true)
    (hlen : (buildStrtab share (syms.map (·.1))).1.length < 2 ^ 32)
    (hn : 1 ≤ syms.length) (hn32 : syms.length < 2 ^ 32) (hnb : 1 ≤ nb) (hnb32 : nb < 2 ^ 32)
    (data : Bytes) (symOff strOff hashOff : Nat) (rest1 rest2 rest3 : Bytes)
    (h1 : data.drop symOff
        = encSymtab c.le c.cls pad (builtEntries syms (buildStrtab share (syms.map (·.1))).2) ++ rest1)
    (h2 : data.drop strOff = (buildStrtab share (syms.map (·.1))).1 ++ rest2)
    (h3 : data.drop hashOff = encSysV c.le (buildSysV (syms.map (·.1)) nb) ++ rest3) :
    iterSymbols S Model.elfEnv data ⟨symOff, syms.length * (symSize c.cls + pad), symSize c.cls + pad⟩ strOff
        = .ok ((List.range syms.length).map (symObs Model.elfEnv.enumDecode c.cls
                (builtEntries syms (buildStrtab share (syms.map (·.1))).2) (syms.map (·.1))))
      ∧ ∃ params, elfHashInit S Model.elfEnv data hashOff = .ok params
          ∧ elfHashCount params = .ok (.int syms.length)
          ∧ ∀ name, elfHashGetSymbol params
                (getSymbol S Model.elfEnv data ⟨symOff, syms.length * (symSize c.cls + pad), symSize c.cls + pad⟩ strOff) name
              = .ok ((sysvLastNamed (syms.map (·.1)) name).map (symObs Model.elfEnv.enumDecode c.cls
                  (builtEntries syms (buildStrtab share (syms.map (·.1))).2) (syms.map (·.1)))) := by
  have L := built_symtab_layout c.le c.cls pad share syms hcls hnul hwf hlen data symOff strOff rest1 rest2 h1 h2
  have hel : (builtEntries syms (buildStrtab share (syms.map (·.1))).2).length = syms.length := by
    rw [← L.nlen, List.length_map]
  have a := iter_symbols_exact_generated c S hS L
  have b := sysv_lookup_built_generated c S hS L nb (by omega) (by omega) hnb hnb32 hashOff rest3 h3
  rw [hel] at a b
  exact ⟨a, b⟩

/-- GNU, the whole image from ONE symbol list, ordered by `gnuOrder` (any size, any `1 ≤ symoffset ≤ n`,
    any bucket count ≥ 1, Bloom size ≥ 1, shift), regenerated bundle and code tables: enumeration
    yields exactly the (ordered) symbols; `__init__` succeeds; the count recovered from buckets and
    chain is the number of symbols; every lookup returns the first hashed symbol bearing the name, or `None` -/
theorem gnu_image_generated (c : ElfCfg) (S : ElfStructs) (hS : (c, S) ∈ Gen.elfBundles)
    (hcls : c.cls = 32 ∨ c.cls = 64) (pad : Nat) (share : Bool) (syms0 : List (Bytes × SymE)) (nb so bs sh : Nat)
    (hnul : ∀ s ∈ syms0, (0 : UInt8) ∉ s.1) (hwf : ∀ s ∈ syms0, s.2.WF c.cls = true)
    (hlen : (buildStrtab share ((gnuOrder nb so syms0).map (·.1))).1.length < 2 ^ 32)
    (hnb : 1 ≤ nb) (hnb32 : nb < 2 ^ 32) (hbs : 1 ≤ bs) (hbs32 : bs < 2 ^ 32) (hsh32 : sh < 2 ^ 32)
    (hso1 : 1 ≤ so) (hson : so ≤ syms0.length) (hn32 : syms0.length < 2 ^ 32)
    (data : Bytes) (symOff strOff hashOff : Nat) (rest1 rest2 rest3 : Bytes)
    (h1 : data.drop symOff = encSymtab c.le c.cls pad
            (builtEntries (gnuOrder nb so syms0) (buildStrtab share ((gnuOrder nb so syms0).map (·.1))).2) ++ rest1)
    (h2 : data.drop strOff = (buildStrtab share ((gnuOrder nb so syms0).map (·.1))).1 ++ rest2)
    (h3 : data.drop hashOff
        = encGnu c.le c.cls (buildGnu c.cls ((gnuOrder nb so syms0).map (·.1)) nb so bs sh) ++ rest3) :
    iterSymbols S Model.elfEnv data ⟨symOff, syms0.length * (symSize c.cls + pad), symSize c.cls + pad⟩ strOff
        = .ok ((List.range syms0.length).map (symObs Model.elfEnv.enumDecode c.cls
                (builtEntries (gnuOrder nb so syms0) (buildStrtab share ((gnuOrder nb so syms0).map (·.1))).2)
                ((gnuOrder nb so syms0).map (·.1))))
      ∧ ∃ g, gnuHashInit S Model.elfEnv c.cls data hashOff = .ok g
          ∧ gnuHashCount c.le data g = .ok syms0.length
          ∧ ∀ name, gnuHashGetSymbol c.le c.cls data g
                (getSymbol S Model.elfEnv data ⟨symOff, syms0.length * (symSize c.cls + pad), symSize c.cls + pad⟩ strOff) name
              = .ok ((gnuFirstNamed ((gnuOrder nb so syms0).map (·.1)) so name).map (symObs Model.elfEnv.enumDecode c.cls
                  (builtEntries (gnuOrder nb so syms0) (buildStrtab share ((gnuOrder nb so syms0).map (·.1))).2)
                  ((gnuOrder nb so syms0).map (·.1)))) := by
  have hperm := Proofs.C03.gnuOrder_perm nb so syms0
  have hgl : (gnuOrder nb so syms0).length = syms0.length := Proofs.C03.gnuOrder_length nb so syms0
  have L := built_symtab_layout c.le c.cls pad share (gnuOrder nb so syms0) hcls
    (fun s hs => hnul s (hperm.mem_iff.mp hs)) (fun s hs => hwf s (hperm.mem_iff.mp hs)) hlen
    data symOff strOff rest1 rest2 h1 h2
  rw [hgl] at L
  have hel : (builtEntries (gnuOrder nb so syms0) (buildStrtab share ((gnuOrder nb so syms0).map (·.1))).2).length
      = syms0.length := by rw [← L.nlen, List.length_map, hgl]
  have a := iter_symbols_exact_generated c S hS L
  have b := gnu_lookup_built_generated c S hS syms0 nb so bs sh L hnb hnb32 hbs hbs32 hsh32 hso1 hson hn32 hashOff rest3 h3
  rw [hel] at a b
  exact ⟨a, b⟩

/-- a file: the two-entry ELF32 symbol table of `exData`, its string table, then the SysV hash table
    built for its names, then a packed two-entry syminfo table -/
def exFile : Bytes :=
  exData ++ encSysV true (buildSysV [[], [0x61]] 1) ++ encSyminfo true [(0, 0), (0xffff, 5)]

theorem ex_file_layout : SymtabLayout true 32 exFile ⟨0, 32, 16⟩ 32 [exE0, exE1] [[], [0x61]] :=
  Proofs.C03.built_layout true 32 0 false [([], exE0), ([0x61], { exE1 with stName := 0 })] (Or.inl rfl)
    (by decide +kernel) (by decide +kernel) (by decide +kernel) exFile 0 32 (exFile.drop 32) (exFile.drop 35)
    (by decide +kernel) (by decide +kernel)

/-- the hypotheses of `sysv_lookup_built_file` are met by `exFile` (hash table at offset 35) … -/
example (env : Env) (m : String) (sol core : Bool) :
    ∃ params, elfHashInit (Spec.elfStructs ⟨true, 32, m, sol, core⟩) env exFile 35 = .ok params
      ∧ elfHashCount params = .ok (.int 2)
      ∧ ∀ name, elfHashGetSymbol params (getSymbol (Spec.elfStructs ⟨true, 32, m, sol, core⟩) env exFile ⟨0, 32, 16⟩ 32) name
          = .ok ((sysvLastNamed [[], [0x61]] name).map (symObs env.enumDecode 32 [exE0, exE1] [[], [0x61]])) :=
  sysv_lookup_built_file env m sol core ex_file_layout 1 (by decide +kernel) (by decide +kernel) (by decide +kernel) (by decide +kernel) 35
    (encSyminfo true [(0, 0), (0xffff, 5)]) (by decide +kernel)

/-- … and those of `syminfo_iter_exact` (syminfo table at offset 55, `sh_size` 8, `sh_entsize` 4) -/
example (env : Env) (m : String) (sol core : Bool) :
    syminfoIter (Spec.elfStructs ⟨true, 32, m, sol, core⟩) env exFile ⟨55, 8, 4⟩ ⟨0, 32, 16⟩ 32
      = .ok [(obsSyminfo env.enumDecode (0xffff, 5), [0x61])] :=
  (syminfo_iter_exact env m sol core ex_file_layout
    (syminfo_packed_layout true exFile ⟨55, 8, 4⟩ [(0, 0), (0xffff, 5)] [] (by decide +kernel) (by decide +kernel) (by decide +kernel) (by decide +kernel))
    (by decide +kernel)).2

/-- the configuration of `exFile` is one the translator enumerated, so the `_generated` forms apply to it -/
example : (Gen.elfBundles.map (·.1)).contains ⟨true, 32, "default", false, false⟩ = true := by decide +kernel

/-- the hypotheses of the whole-image theorems on a symbol list with duplicate, empty and colliding names:
    NUL-free names, fields in range, string table below 2^32 — and the three sections laid end to end
    satisfy the three placement hypotheses -/
def exSyms : List (Bytes × SymE) := exNames.map fun n => (n, { exE1 with stName := 0 })
example : (∀ s ∈ exSyms, (0 : UInt8) ∉ s.1) ∧ (∀ s ∈ exSyms, s.2.WF 32 = true)
    ∧ (buildStrtab true (exSyms.map (·.1))).1.length < 2 ^ 32
    ∧ (buildStrtab false ((gnuOrder 5 2 exSyms).map (·.1))).1.length < 2 ^ 32 := by decide +kernel
example (A B C : Bytes) : (A ++ B ++ C).drop 0 = A ++ (B ++ C) ∧ (A ++ B ++ C).drop A.length = B ++ C
    ∧ (A ++ B ++ C).drop (A.length + B.length) = C ++ [] := by
  refine ⟨by simp, by simp, ?_⟩
  rw [← List.length_append, List.append_nil]; exact List.drop_left' rfl

/-! Whole files: the tables through `ELFFile(BytesIO(bytes)).get_section(i)` / `get_section_by_name`.
  `d` is an abstract ELF description (C01, Spec/ElfImage.lean: sections anywhere in the file, in any order,
  compressed sections admitted: `wfZ`); `Layout d bytes` says the byte string carries it — nothing else about
  `bytes` is constrained.  `symFileWf` / `sysvFileWf` / `gnuFileWf` / `syminfoFileWf` / `shndxFileWf`
  (Spec/SymbolsFile.lean; decidable, evaluated by the driver on every description of the run's `file`
  stream) say that a section of `d` IS the table: its type, its `sh_link`, and what its body holds.
  `getSymSection` (Model/SymbolsFile.lean) mirrors `get_section` for the C03 classes; the objects it
  returns carry the constructor arguments the table theorems above take as given, so those theorems are
  closed over the container: nothing about offsets, header fields or the position of the linked tables
  remains a hypothesis. -/

open PyElf.Spec.C03 PyElf.Model.C03 PyElf.Proofs.C03F
open PyElf.Proofs.C15 (fileOf exImage ExSec)

/-- the file object the regenerated factory (`Model.elfStructsFor`, `Model.machineClassOf`: what the driver
    runs) opens is, on every byte string, the one the standards-side factory opens (`Props/TieElfFile.lean`) -/
theorem open_generated (env : Env) (bytes : Bytes) :
    openElf env Model.elfStructsFor Model.machineClassOf bytes
      = openElf env C01.specStructs C01.specMachineClass bytes := by
  rw [C01.specStructs_eq, C01.specMachineClass_eq]
  exact TieElfFile.openElf_generated env bytes

/-- `symFile_setup` with the factory under the names the statements use -/
theorem symFile_opened {env : Env} {d : ElfDesc} {bytes : Bytes} {sec : Nat} {es : List SymE} {names : List Bytes}
    (hwf : symFileWf env d sec es names = true) (hl : Layout d bytes) :
    ∃ hdr st, Setup env d bytes hdr st ∧
      openElf env C01.specStructs C01.specMachineClass bytes = .ok (fileOf d bytes hdr st) ∧
      SymtabFacts env d sec es names ∧
      getSymSection env (fileOf d bytes hdr st) sec
        = .ok (.symtab (rawSecHdr d sec) (hdrNat d (hdrNat d sec "sh_link") "sh_offset")) ∧
      SymtabLayout d.le d.cls bytes (rawSecHdr d sec) (hdrNat d (hdrNat d sec "sh_link") "sh_offset") es names :=
  C01.specStructs_eq ▸ C01.specMachineClass_eq ▸ symFile_setup hwf hl

/-- `core_setup`, likewise -/
theorem core_opened {env : Env} {d : ElfDesc} {bytes : Bytes} (hwf : wfZCore env d = true) (hl : Layout d bytes)
    (hn : 0 < d.sections.length) :
    ∃ hdr st, Proofs.C03L.CoreSetup env d bytes hdr st ∧
      openElf env C01.specStructs C01.specMachineClass bytes = .ok (fileOf d bytes hdr st) :=
  C01.specStructs_eq ▸ C01.specMachineClass_eq ▸ Proofs.C03L.core_setup hwf hl hn

/-- SYMBOL TABLE of a whole file: `get_section(sec)` is a SymbolTableSection whose `num_symbols()`,
    `get_symbol(i)`, `iter_symbols()` and `get_symbol_by_name(n)` are exactly those of the entries and names
    the description holds — the table and its string table anywhere in the file, in any order -/
theorem symtab_file_exact (env : Env) (d : ElfDesc) (bytes : Bytes) (sec : Nat) (es : List SymE) (names : List Bytes)
    (hwf : symFileWf env d sec es names = true) (hl : Layout d bytes) :
    ∃ f h strOff, openElf env C01.specStructs C01.specMachineClass bytes = .ok f ∧
      getSymSection env f sec = .ok (.symtab h strOff) ∧
      SymtabObserved env f.S bytes d.cls h strOff es names := by
  obtain ⟨hdr, st, X, hopen, F, hget, L⟩ := symFile_opened hwf hl
  exact ⟨_, _, _, hopen, hget, symtab_observed env (spec_sym d.cfg) L⟩

/-- SYSTEM V HASH SECTION of a whole file: `get_section(hsec)` is an ELFHashSection over the symbol table its
    `sh_link` designates; the recovered count is the table's true length; a lookup returns a symbol
    `1 ≤ j < n` bearing the name whenever one is present, and nothing otherwise -/
theorem sysv_file_exact (env : Env) (d : ElfDesc) (bytes : Bytes) (hsec sec : Nat) (es : List SymE) (names : List Bytes)
    (t : SysVTable) (hwf : sysvFileWf env d hsec sec es names t = true) (hl : Layout d bytes) :
    ∃ f params symH strOff, openElf env C01.specStructs C01.specMachineClass bytes = .ok f ∧
      getSymSection env f hsec = .ok (.sysv params symH strOff) ∧
      SysvObserved env f.S bytes d.cls params symH strOff es names := by
  have W := sysvFileWf_unpack hwf
  obtain ⟨hdr, st, X, hopen, F, -, L⟩ := symFile_opened W.sym hl
  exact ⟨_, _, _, _, hopen, getSymSection_sysv X F W.link W.wf, sysv_observed env (spec_sym d.cfg) L t W.wf⟩

/-- the same over the table the linker's construction builds: the lookup returns exactly the highest-indexed
    symbol `1 ≤ i < n` bearing the name -/
theorem sysv_file_built_exact (env : Env) (d : ElfDesc) (bytes : Bytes) (hsec sec : Nat) (es : List SymE)
    (names : List Bytes) (nb : Nat) (hnb : 1 ≤ nb) (hnb32 : nb < 2 ^ 32) (hn : 1 ≤ es.length) (hn32 : es.length < 2 ^ 32)
    (hwf : (symFileWf env d sec es names && linkedAt env d hsec sec "SHT_HASH" (encSysV d.le (buildSysV names nb))) = true)
    (hl : Layout d bytes) :
    ∃ f params symH strOff, openElf env C01.specStructs C01.specMachineClass bytes = .ok f ∧
      getSymSection env f hsec = .ok (.sysv params symH strOff) ∧
      elfHashCount params = .ok (.int es.length) ∧
      ∀ name, elfHashGetSymbol params (getSymbol f.S env bytes symH strOff) name
          = .ok ((sysvLastNamed names name).map (symObs env.enumDecode d.cls es names)) := by
  rw [Bool.and_eq_true] at hwf
  obtain ⟨hdr, st, X, hopen, F, -, L⟩ := symFile_opened hwf.1 hl
  have hnl := F.content.nlen
  have ht : WFSysV names (buildSysV names nb) = true := buildSysV_wf names nb (by omega) (by omega) hnb hnb32
  refine ⟨_, _, _, _, hopen, getSymSection_sysv X F hwf.2 ht, ?_, fun name => ?_⟩
  · rw [← hnl]; exact sysv_count names _ ht
  · exact Proofs.C03.sysv_built_exact names nb (by omega) (by omega) hnb hnb32 _ _
      (fun j hj => layout_getSymbol env (spec_sym d.cfg) L j (by omega)) (fun _ _ => rfl) name

/-- GNU HASH SECTION of a whole file: `get_section(hsec)` is a GNUHashSection over the symbol table its
    `sh_link` designates; the count recovered from buckets and chain is the table's true length; a lookup
    returns the first hashed symbol (`symoffset ≤ j < n`) bearing the name, nothing when there is none -/
theorem gnu_file_exact (env : Env) (d : ElfDesc) (bytes : Bytes) (hsec sec : Nat) (es : List SymE) (names : List Bytes)
    (t : GnuTable) (hwf : gnuFileWf env d hsec sec es names t = true) (hl : Layout d bytes) :
    ∃ f g symH strOff, openElf env C01.specStructs C01.specMachineClass bytes = .ok f ∧
      getSymSection env f hsec = .ok (.gnu g symH strOff) ∧
      GnuObserved env f.S bytes d.le d.cls g symH strOff es names t.symoffset := by
  have W := gnuFileWf_unpack hwf
  obtain ⟨hdr, st, X, hopen, F, -, L⟩ := symFile_opened W.sym hl
  obtain ⟨g, hget, h2, h3, h4⟩ := getSymSection_gnu X F W.link W.wf
  exact ⟨_, g, _, _, hopen, hget, gnu_observed env (spec_sym d.cfg) L t W.wf g h2 h3 h4⟩

/-- what `GnuObserved` says of present and absent names (soundness, completeness) -/
theorem gnu_observed_sound_complete {env : Env} {S : ElfStructs} {data : Bytes} {le : Bool} {cls : Nat} {g : GnuHash}
    {symH : SecHdr} {strOff : Nat} {es : List SymE} {names : List Bytes} {so : Nat} (hso : so ≤ names.length)
    (O : GnuObserved env S data le cls g symH strOff es names so) (name : Bytes) :
    ∃ r, gnuHashGetSymbol le cls data g (getSymbol S env data symH strOff) name = .ok r ∧
      (∀ s, r = some s → ∃ j, so ≤ j ∧ j < names.length ∧ names.getD j [] = name ∧ s = symObs env.enumDecode cls es names j) ∧
      (r = none → ∀ i, so ≤ i → i < names.length → names.getD i [] ≠ name) := by
  have h := gnu_sound_complete (sym := symObs env.enumDecode cls es names) (name := name) hso rfl
  exact ⟨_, O.2 name, h.1, h.2.1.mp⟩

/-- SUNW SYMINFO SECTION of a whole file: entries 1 … k−1 in order, each with the name of the same-numbered
    symbol of the symbol table `sh_link` designates -/
theorem syminfo_file_exact (env : Env) (d : ElfDesc) (bytes : Bytes) (isec sec : Nat) (es : List SymE)
    (names : List Bytes) (si : List (Nat × Nat)) (hwf : syminfoFileWf env d isec sec es names si = true)
    (hl : Layout d bytes) :
    ∃ f h symH strOff, openElf env C01.specStructs C01.specMachineClass bytes = .ok f ∧
      getSymSection env f isec = .ok (.syminfo h symH strOff) ∧
      SyminfoObserved env f.S bytes h symH strOff si names := by
  have W := syminfoFileWf_unpack hwf
  obtain ⟨hdr, st, X, hopen, F, -, L⟩ := symFile_opened W.sym hl
  obtain ⟨hget, LS⟩ := getSymSection_syminfo X F W.link W.entsize W.size W.fits
  exact ⟨_, _, _, _, hopen, hget, Proofs.C03.syminfoNum_ok LS,
    Proofs.C03.syminfoIter_ok env (spec_sym d.cfg) (spec_syminfo d.cfg) L LS W.le⟩

/-- EXTENDED SECTION INDEX TABLE of a whole file: `get_section(xsec)` is a SymbolTableIndexSection whose
    `symboltable` attribute is the number in `sh_link` — ANY number: the constructor does not look at what it
    designates — and `get_section_index(n)` is the `n`-th word -/
theorem shndx_file_exact (env : Env) (d : ElfDesc) (bytes : Bytes) (xsec target : Nat) (ws : List Nat)
    (hwf : shndxFileWf env d xsec target ws = true) (hl : Layout d bytes) :
    ∃ f h, openElf env C01.specStructs C01.specMachineClass bytes = .ok f ∧
      getSymSection env f xsec = .ok (.shndx h target) ∧
      ∀ n (hn : n < ws.length), getSectionIndex f.S env bytes h n = .ok (.int ws[n]) := by
  have W := shndxFileWf_unpack hwf
  obtain ⟨hdr, st, X, -, hopen⟩ := C01.opened W.wfz hl
  obtain ⟨hget, hidx⟩ := getSymSection_shndx X W.link W.entsize W.fits
  exact ⟨_, _, hopen, hget, hidx⟩

/-- `get_section_by_name(name)` is `get_section` of the last section bearing the name, `None` when no section
    bears it (C01's `lookup_exact`, composed): every theorem above also holds through the name — `.dynsym`,
    `.symtab`, `.hash`, `.gnu.hash`, … — of the section -/
theorem by_name_section_exact (env : Env) (d : ElfDesc) (bytes : Bytes) (obs : ElfObs) (f : ElfFile)
    (hwf : d.wfZ env = true) (hl : Layout d bytes) (ho : d.observe env = .ok obs)
    (hf : openElf env C01.specStructs C01.specMachineClass bytes = .ok f) (name : Bytes) :
    getSymSectionByName env f name =
      match d.indexOfName name with
      | none => .ok none
      | some i => (getSymSection env f i).map some := by
  obtain ⟨hdr, st, X, rfl⟩ := C01.opened_eq hwf hl hf
  exact getSymSectionByName_eq X ho name

/-- in particular the symbol table by its name -/
theorem symtab_file_by_name_exact (env : Env) (d : ElfDesc) (bytes : Bytes) (obs : ElfObs) (sec : Nat) (es : List SymE)
    (names : List Bytes) (hwf : symFileWf env d sec es names = true) (hl : Layout d bytes)
    (ho : d.observe env = .ok obs) (name : Bytes) (hname : d.indexOfName name = some sec) :
    ∃ f h strOff, openElf env C01.specStructs C01.specMachineClass bytes = .ok f ∧
      getSymSectionByName env f name = .ok (some (.symtab h strOff)) ∧
      SymtabObserved env f.S bytes d.cls h strOff es names := by
  obtain ⟨f, h, strOff, hf, hget, hobs⟩ := symtab_file_exact env d bytes sec es names hwf hl
  have hz := symFileWf_wfZ hwf
  refine ⟨f, h, strOff, hf, ?_, hobs⟩
  rw [by_name_section_exact env d bytes obs f hz hl ho hf name, hname]
  simp only [hget]
  rfl

/-- and a name no section bears gives `None` -/
theorem by_name_absent (env : Env) (d : ElfDesc) (bytes : Bytes) (obs : ElfObs) (f : ElfFile)
    (hwf : d.wfZ env = true) (hl : Layout d bytes) (ho : d.observe env = .ok obs)
    (hf : openElf env C01.specStructs C01.specMachineClass bytes = .ok f) (name : Bytes)
    (hname : d.indexOfName name = none) : getSymSectionByName env f name = .ok none := by
  rw [by_name_section_exact env d bytes obs f hwf hl ho hf name, hname]

/-- the whole-file symbol table theorem with everything regenerated from the library on this run: the
    factory that opens the file, the bundle the table is read with, the code tables -/
theorem symtab_file_exact_generated (d : ElfDesc) (bytes : Bytes) (sec : Nat) (es : List SymE) (names : List Bytes)
    (hwf : symFileWf Model.elfEnv d sec es names = true) (hl : Layout d bytes) :
    ∃ f h strOff, openElf Model.elfEnv Model.elfStructsFor Model.machineClassOf bytes = .ok f ∧
      getSymSection Model.elfEnv f sec = .ok (.symtab h strOff) ∧
      SymtabObserved Model.elfEnv f.S bytes d.cls h strOff es names := by
  rw [open_generated]
  exact symtab_file_exact Model.elfEnv d bytes sec es names hwf hl

theorem sysv_file_exact_generated (d : ElfDesc) (bytes : Bytes) (hsec sec : Nat) (es : List SymE) (names : List Bytes)
    (t : SysVTable) (hwf : sysvFileWf Model.elfEnv d hsec sec es names t = true) (hl : Layout d bytes) :
    ∃ f params symH strOff, openElf Model.elfEnv Model.elfStructsFor Model.machineClassOf bytes = .ok f ∧
      getSymSection Model.elfEnv f hsec = .ok (.sysv params symH strOff) ∧
      SysvObserved Model.elfEnv f.S bytes d.cls params symH strOff es names := by
  rw [open_generated]
  exact sysv_file_exact Model.elfEnv d bytes hsec sec es names t hwf hl

theorem gnu_file_exact_generated (d : ElfDesc) (bytes : Bytes) (hsec sec : Nat) (es : List SymE) (names : List Bytes)
    (t : GnuTable) (hwf : gnuFileWf Model.elfEnv d hsec sec es names t = true) (hl : Layout d bytes) :
    ∃ f g symH strOff, openElf Model.elfEnv Model.elfStructsFor Model.machineClassOf bytes = .ok f ∧
      getSymSection Model.elfEnv f hsec = .ok (.gnu g symH strOff) ∧
      GnuObserved Model.elfEnv f.S bytes d.le d.cls g symH strOff es names t.symoffset := by
  rw [open_generated]
  exact gnu_file_exact Model.elfEnv d bytes hsec sec es names t hwf hl

theorem syminfo_file_exact_generated (d : ElfDesc) (bytes : Bytes) (isec sec : Nat) (es : List SymE)
    (names : List Bytes) (si : List (Nat × Nat)) (hwf : syminfoFileWf Model.elfEnv d isec sec es names si = true)
    (hl : Layout d bytes) :
    ∃ f h symH strOff, openElf Model.elfEnv Model.elfStructsFor Model.machineClassOf bytes = .ok f ∧
      getSymSection Model.elfEnv f isec = .ok (.syminfo h symH strOff) ∧
      SyminfoObserved Model.elfEnv f.S bytes h symH strOff si names := by
  rw [open_generated]
  exact syminfo_file_exact Model.elfEnv d bytes isec sec es names si hwf hl

theorem shndx_file_exact_generated (d : ElfDesc) (bytes : Bytes) (xsec target : Nat) (ws : List Nat)
    (hwf : shndxFileWf Model.elfEnv d xsec target ws = true) (hl : Layout d bytes) :
    ∃ f h, openElf Model.elfEnv Model.elfStructsFor Model.machineClassOf bytes = .ok f ∧
      getSymSection Model.elfEnv f xsec = .ok (.shndx h target) ∧
      ∀ n (hn : n < ws.length), getSectionIndex f.S Model.elfEnv bytes h n = .ok (.int ws[n]) := by
  rw [open_generated]
  exact shndx_file_exact Model.elfEnv d bytes xsec target ws hwf hl

/-! Non-vacuity of the whole-file hypotheses, with the regenerated environment `Model.elfEnv`.  As in
   C01/C09/C15 a kernel-checked `example` is not available (`ElfDesc.wfZ` goes through `Con.encodeRaw` /
   `Con.decodeRaw`, compiled by well-founded recursion, which do not reduce in the kernel); instead a concrete
   image is evaluated at build time by `#guard` (the build fails if it does not satisfy the hypotheses), and the
   driver evaluates the same predicates on every description of the run's `file` stream (`file:<kind>:wf`;
   the run aborts if it finds none). -/

open PyElf.Proofs.C15 (nDynstr nVer nShstr nDynsym) in
/-- a 32-bit image in which every table PRECEDES or FOLLOWS the table it links to in no particular order:
    null, `.v` = the SysV hash table (linked to section 4), `.dynstr`, `.s` = the section names, `.dynsym` (two
    entries, linked to 2), then a GNU hash table, a syminfo table and an extended index table, all linked to 4
    and all named `.v` -/
def exSymFile : ElfDesc :=
  exImage 32 true
    [{ name := [], nameOff := 0, ty := 0 },
     { name := nVer, nameOff := 9, ty := 5, link := 4, entsize := 4, body := some (encSysV true (buildSysV [[], [0x61]] 1)) },
     { name := nDynstr, nameOff := 1, ty := 3, body := some [0, 0x61, 0] },
     { name := nShstr, nameOff := 12, ty := 3, body := some PyElf.Proofs.C15.exNames },
     { name := nDynsym, nameOff := 15, ty := 11, link := 2, info := 1, entsize := 16,
       body := some (encSymtab true 32 0 [exE0, exE1]) },
     { name := nVer, nameOff := 9, ty := 0x6ffffff6, link := 4, body := some (encGnu true 32 (buildGnu 32 [[], [0x61]] 1 1 1 5)) },
     { name := nVer, nameOff := 9, ty := 0x6ffffffc, link := 4, entsize := 4,
       body := some (encSyminfo true [(0, 0), (0xffff, 5)]) },
     { name := nVer, nameOff := 9, ty := 18, link := 4, entsize := 4, body := some (encShndx true [7, 0x12345]) }] 3

#guard symFileWf Model.elfEnv exSymFile 4 [exE0, exE1] [[], [0x61]]
#guard sysvFileWf Model.elfEnv exSymFile 1 4 [exE0, exE1] [[], [0x61]] (buildSysV [[], [0x61]] 1)
#guard gnuFileWf Model.elfEnv exSymFile 5 4 [exE0, exE1] [[], [0x61]] (buildGnu 32 [[], [0x61]] 1 1 1 5)
#guard syminfoFileWf Model.elfEnv exSymFile 6 4 [exE0, exE1] [[], [0x61]] [(0, 0), (0xffff, 5)]
#guard shndxFileWf Model.elfEnv exSymFile 7 4 [7, 0x12345]
#guard (exSymFile.observe Model.elfEnv).toOption.isSome && exSymFile.indexOfName PyElf.Proofs.C15.nDynsym == some 4
  && exSymFile.indexOfName PyElf.Proofs.C15.nVer == some 7 && (exSymFile.assemble 3).isSome

/-- how a client finds the SHT_SYMTAB_SHNDX table of symbol table `symIdx` (scripts/readelf.py: a dict
    `symboltable → section` over `iter_sections()`): it is the LAST index table whose `sh_link` is `symIdx`,
    nothing when there is none — for every well-formed image -/
theorem shndx_companion_exact (env : Env) (d : ElfDesc) (bytes : Bytes) (obs : ElfObs) (f : ElfFile)
    (hwf : d.wfZ env = true) (hl : Layout d bytes) (ho : d.observe env = .ok obs)
    (hf : openElf env C01.specStructs C01.specMachineClass bytes = .ok f) (symIdx : Nat) :
    shndxCompanion env f symIdx
      = .ok ((shndxTablesFor env d symIdx).getLast?.map fun i => (i, rawSecHdr d i)) := by
  obtain ⟨hdr, st, X, rfl⟩ := C01.opened_eq hwf hl hf
  exact shndxCompanion_eq X ho symIdx

/-- … and through it the extended section index of every symbol: when `xsec` is that last table and holds the
    words `ws`, the companion found by the scan answers `get_section_index(n) = ws[n]` -/
theorem shndx_companion_reads (env : Env) (d : ElfDesc) (bytes : Bytes) (obs : ElfObs) (xsec sec : Nat) (ws : List Nat)
    (hwf : shndxFileWf env d xsec sec ws = true) (hl : Layout d bytes) (ho : d.observe env = .ok obs)
    (hlast : (shndxTablesFor env d sec).getLast? = some xsec) :
    ∃ f h, openElf env C01.specStructs C01.specMachineClass bytes = .ok f ∧
      shndxCompanion env f sec = .ok (some (xsec, h)) ∧
      ∀ n (hn : n < ws.length), getSectionIndex f.S env bytes h n = .ok (.int ws[n]) := by
  have W := shndxFileWf_unpack hwf
  obtain ⟨hdr, st, X, -, hopen⟩ := C01.opened W.wfz hl
  obtain ⟨-, hidx⟩ := getSymSection_shndx X W.link W.entsize W.fits
  have hc := shndxCompanion_eq X ho sec
  rw [hlast] at hc
  exact ⟨_, _, hopen, hc, hidx⟩

#guard shndxTablesFor Model.elfEnv exSymFile 4 == [7] && shndxTablesFor Model.elfEnv exSymFile 2 == []

/-- closing the hypothesis `symtabAt` over BUILT images: a section holding the entries `encSymtab` lays out for
    ANY symbol list (NUL-free names — valid UTF-8 or not —, fields in range, any padding), linked to a section
    holding the string table `buildStrtab` builds (shared or unshared), each followed by arbitrary slack, IS a
    symbol table in the sense of `symtabAt`; with `wfZ` of the container this is `symFileWf`, so
    `symtab_file_exact` / `sysv_file_built_exact` / `gnu_file_exact` (with `buildGnu_wf`) apply to every image
    built from a symbol list — nothing about the contents remains a hypothesis -/
theorem built_symtab_at (env : Env) (d : ElfDesc) (sec pad : Nat) (share : Bool) (syms : List (Bytes × SymE))
    (slack slack2 : Bytes) (hcls : d.cls = 32 ∨ d.cls = 64)
    (hnul : ∀ s ∈ syms, (0 : UInt8) ∉ s.1) (hwf : ∀ s ∈ syms, s.2.WF d.cls = true)
    (hlen : (buildStrtab share (syms.map (·.1))).1.length < 2 ^ 32)
    (hi : sec < d.sections.length)
    (hty : ∃ h, d.decHdr env sec = some h ∧ typeIn h ["SHT_SYMTAB", "SHT_DYNSYM", "SHT_SUNW_LDYNSYM"] = true)
    (hent : getNatD (d.sections[sec]).hdr "sh_entsize" = symSize d.cls + pad)
    (hsize : getNatD (d.sections[sec]).hdr "sh_size" = syms.length * (symSize d.cls + pad))
    (hbody : bodyOf (d.sections[sec])
      = encSymtab d.le d.cls pad (builtEntries syms (buildStrtab share (syms.map (·.1))).2) ++ slack)
    (hlink : getNatD (d.sections[sec]).hdr "sh_link" < d.sections.length)
    (hstr : bodyOf (d.sections[getNatD (d.sections[sec]).hdr "sh_link"])
      = (buildStrtab share (syms.map (·.1))).1 ++ slack2) :
    symtabAt env d sec (builtEntries syms (buildStrtab share (syms.map (·.1))).2) (syms.map (·.1)) = true := by
  have _ := hcls
  obtain ⟨h, hdec, htin⟩ := hty
  obtain ⟨t, ht, hm⟩ := typeIn_unpack htin
  have C := Proofs.C03.built_content d.le d.cls pad share syms hnul hwf hlen slack slack2
  rw [← hbody, ← hstr, ← hent] at C
  have hel : (builtEntries syms (buildStrtab share (syms.map (·.1))).2).length = syms.length := by
    rw [← C.nlen, List.length_map]
  exact symtabAt_iff.mpr ⟨hi, ⟨h, t, hdec, ht, hm⟩, by have := symSize_pos d.cls; omega, by rw [hsize, hent, hel], hlink, C⟩

/-- non-vacuity: `exSymFile`'s symbol table is such a built one (two symbols, `buildStrtab` of their names) -/
example : buildStrtab false [[], [0x61]] = ([0, 0x61, 0], [0, 1])
    ∧ builtEntries [([], exE0), ([0x61], { exE1 with stName := 0 })] [0, 1] = [exE0, exE1] := by decide +kernel

/-! What `ELFFile.get_section(sec)` does — error class, or silent acceptance — when the section's link does
  not designate a table of the required type, exactly as `_make_symbol_table_section`,
  `_make_sunwsyminfo_table_section`, `_make_elf_hash_section`, `_make_gnu_hash_section` (through
  `_get_linked_strtab_section` / `_get_linked_symtab_section`) and `_make_symbol_table_index_section` have
  it.  Domain: `wfZCore` (Spec/SymbolsFile.lean) — C01's `wfZ` WITHOUT the clause that every section be
  interpretable: the container is sound, every section's link / entry size / contents are arbitrary.
  `linkVerdict` (Spec/SymbolsFile.lean) classifies the link of section `sec` from the description alone:

    * symbol tables (SHT_SYMTAB, SHT_DYNSYM, SHT_SUNW_LDYNSYM) must name an SHT_STRTAB section;
      syminfo, SysV hash and GNU hash sections must name an SHT_SYMTAB or SHT_DYNSYM section
      (an SHT_SUNW_LDYNSYM table is NOT accepted as the symbol table of a hash / syminfo section);
    * `.wrongType l`: section `l` exists and has another type (SHT_NOBITS, SHT_PROGBITS, SHT_NULL, an unnamed
      type code, the section itself, …)  → ELFError (`link_wrong_type_error`);
    * `.outOfRange l`: `l ≥ e_shnum`.  The code does not compare `l` with the section count; it reads a header
      at `e_shoff + l·e_shentsize`: beyond the end of the file `_get_section_header` answers `None`, which the
      type check subscripts → TypeError (`link_beyond_file_error`); an entry that starts inside the file but
      does not fit → ELFParseError (`link_truncated_header_error`); otherwise the stray bytes found there are
      taken for the linked header (silently accepted as far as the range is concerned) and judged by their
      `sh_type` like any header (`link_stray_header_wrong_type_error`);
    * `.linked l` with the linked symbol table's own link bad: the inner error surfaces
      (`link_nested_wrong_type_error`, `link_nested_beyond_file_error`);
    * `.unchecked`: SHT_SYMTAB_SHNDX — the constructor keeps `sh_link` as a number and never looks at what it
      designates: ANY value is silently accepted (`shndx_file_exact`, whose `target` is unconstrained).

  In every case the guard runs BEFORE `Section.__init__` and the `sh_entsize` asserts of
  `SymbolTableSection.__init__` (nothing about them is assumed here), and the error is raised by
  `get_section` itself, not by a later use of the object. -/

open PyElf.Proofs.C03L in
/-- the link designates an existing section of the wrong type: ELFError -/
theorem link_wrong_type_error (env : Env) (d : ElfDesc) (bytes : Bytes) (sec l : Nat)
    (hwf : wfZCore env d = true) (hl : Layout d bytes) (hv : linkVerdict env d sec = some (.wrongType l)) :
    ∃ f, openElf env C01.specStructs C01.specMachineClass bytes = .ok f ∧
      getSymSection env f sec = .error .elfError := by
  obtain ⟨g, lh, V, hldec, hbad⟩ := verdict_wrongType hv
  obtain ⟨hdr, st, X, hopen⟩ := core_opened hwf hl V.pos
  exact ⟨_, hopen, getSymSection_of_guardErr X V (guard_wrongType X g hldec hbad 3)⟩

open PyElf.Proofs.C03L in
/-- the link designates no section and the entry it would be lies beyond the end of the file: TypeError
    (`None['sh_type']`) — not ELFError, not IndexError -/
theorem link_beyond_file_error (env : Env) (d : ElfDesc) (bytes : Bytes) (sec l : Nat)
    (hwf : wfZCore env d = true) (hl : Layout d bytes) (hv : linkVerdict env d sec = some (.outOfRange l))
    (hb : bytes.length < d.shoff + l * d.shentsize) :
    ∃ f, openElf env C01.specStructs C01.specMachineClass bytes = .ok f ∧
      getSymSection env f sec = .error .typeError := by
  obtain ⟨g, V, -⟩ := verdict_outOfRange hv
  have hn := V.pos
  obtain ⟨hdr, st, X, hopen⟩ := core_opened hwf hl hn
  exact ⟨_, hopen, getSymSection_of_guardErr X V (guard_beyond X g hn hb 3)⟩

open PyElf.Proofs.C03L in
/-- the entry the link would designate starts inside the file but does not fit before its end: ELFParseError -/
theorem link_truncated_header_error (env : Env) (d : ElfDesc) (bytes : Bytes) (sec l : Nat)
    (hwf : wfZCore env d = true) (hl : Layout d bytes) (hv : linkVerdict env d sec = some (.outOfRange l))
    (h1 : d.shoff + l * d.shentsize ≤ bytes.length)
    (h2 : bytes.length < d.shoff + l * d.shentsize + (16 + 6 * (d.cls / 8))) :
    ∃ f, openElf env C01.specStructs C01.specMachineClass bytes = .ok f ∧
      getSymSection env f sec = .error .elfParseError := by
  obtain ⟨g, V, -⟩ := verdict_outOfRange hv
  have hn := V.pos
  obtain ⟨hdr, st, X, hopen⟩ := core_opened hwf hl hn
  exact ⟨_, hopen, getSymSection_of_guardErr X V (guard_truncated X g hn h1 h2 3)⟩

open PyElf.Proofs.C03L in
/-- whatever header `_get_section_header(sh_link)` returns — for an out-of-range link, the stray bytes at
    `e_shoff + l·e_shentsize` — is judged by its `sh_type`: a string-table guard rejects anything but
    SHT_STRTAB, a symbol-table guard anything but SHT_SYMTAB / SHT_DYNSYM, with ELFError -/
theorem link_stray_header_wrong_type_error (env : Env) (d : ElfDesc) (bytes : Bytes) (sec l : Nat)
    (hwf : wfZCore env d = true) (hl : Layout d bytes) (hv : linkVerdict env d sec = some (.outOfRange l))
    (f : ElfFile) (hf : openElf env C01.specStructs C01.specMachineClass bytes = .ok f) (lh t' : Val)
    (hget : getSectionHeader env f.S bytes f.header l = .ok (some lh)) (hty : lh.getField "sh_type" = .ok t')
    (hbad : ∀ s ∈ ["SHT_STRTAB", "SHT_SYMTAB", "SHT_DYNSYM"], isStr t' s = false) :
    getSymSection env f sec = .error .elfError := by
  obtain ⟨g, V, -⟩ := verdict_outOfRange hv
  have hn := V.pos
  obtain ⟨hdr, st, X, hopen⟩ := core_opened hwf hl hn
  rw [hopen] at hf
  cases hf
  exact getSymSection_of_guardErr X V (g.run_wrongType hget hty (List.any_eq_false.mpr fun s hs => by simp [hbad s (g.types_sub hs)]))

open PyElf.Proofs.C03L in
/-- a hash / syminfo section whose link designates a symbol table of an accepted type whose OWN link
    designates a section of the wrong type: the symbol table cannot be built, ELFError -/
theorem link_nested_wrong_type_error (env : Env) (d : ElfDesc) (bytes : Bytes) (sec l l2 : Nat)
    (hwf : wfZCore env d = true) (hl : Layout d bytes) (hv : linkVerdict env d sec = some (.linked l))
    (hv2 : linkVerdict env d l = some (.wrongType l2)) :
    ∃ f, openElf env C01.specStructs C01.specMachineClass bytes = .ok f ∧
      getSymSection env f sec = .error .elfError := by
  obtain ⟨g, lh, V, hldec, hgood⟩ := verdict_linked hv
  obtain ⟨g2, lh2, V2, hldec2, hbad2⟩ := verdict_wrongType hv2
  obtain ⟨hdr, st, X, hopen⟩ := core_opened hwf hl V.pos
  refine ⟨_, hopen, getSymSection_of_guardErr X V ?_⟩
  obtain rfl := guard_of_guarded V2 hldec hgood
  exact guard_nested X V2 hldec hgood (guard_wrongType X g2 hldec2 hbad2 2)

open PyElf.Proofs.C03L in
/-- … or designates no section, beyond the end of the file: TypeError -/
theorem link_nested_beyond_file_error (env : Env) (d : ElfDesc) (bytes : Bytes) (sec l l2 : Nat)
    (hwf : wfZCore env d = true) (hl : Layout d bytes) (hv : linkVerdict env d sec = some (.linked l))
    (hv2 : linkVerdict env d l = some (.outOfRange l2)) (hb : bytes.length < d.shoff + l2 * d.shentsize) :
    ∃ f, openElf env C01.specStructs C01.specMachineClass bytes = .ok f ∧
      getSymSection env f sec = .error .typeError := by
  obtain ⟨g, lh, V, hldec, hgood⟩ := verdict_linked hv
  obtain ⟨g2, V2, -⟩ := verdict_outOfRange hv2
  have hn := V.pos
  obtain ⟨hdr, st, X, hopen⟩ := core_opened hwf hl hn
  refine ⟨_, hopen, getSymSection_of_guardErr X V ?_⟩
  obtain rfl := guard_of_guarded V2 hldec hgood
  exact guard_nested X V2 hldec hgood (guard_beyond X g2 hn hb 2)

/-- the relaxed domain contains every well-formed description (so the theorems above speak about the same
    files as C01's, plus those with arbitrary links / entry sizes / contents) -/
theorem wfZ_imp_wfZCore (env : Env) (d : ElfDesc) (h : d.wfZ env = true) : wfZCore env d = true := by
  have W := wfZ_facts h
  unfold ElfDesc.wfZ at h
  unfold wfZCore
  simp only [Bool.and_eq_true, List.all_eq_true, List.mem_range] at h ⊢
  obtain ⟨⟨h1, h16⟩, h17⟩ := h
  refine ⟨⟨⟨h1, ?_⟩, ?_⟩, h17⟩
  · intro i hi
    obtain ⟨_, _, hd, _, _, hdec, _⟩ := secOkZ_unpack (h16 i hi)
    simp [hdec]
  · by_cases hn : d.sections.length = 0
    · simp [hn]
    · simp [h16 _ (W.shpos.resolve_left hn).2]

/-- in a well-formed description no link is of the wrong type or out of range: the verdicts `.wrongType` /
    `.outOfRange` and `wfZ` exclude each other (the error theorems are about files outside C01's domain) -/
theorem wfZ_link_verdict (env : Env) (d : ElfDesc) (bytes : Bytes) (sec : Nat) (v : LinkVerdict)
    (hwf : d.wfZ env = true) (hl : Layout d bytes) (hv : linkVerdict env d sec = some v) :
    (∃ l, v = .linked l) ∨ v = .unchecked := by
  by_cases hu : v = .unchecked
  · exact Or.inr hu
  · obtain ⟨l, g, V, hcase⟩ := Proofs.C03L.verdict_unpack hv hu
    obtain ⟨lh, hldec, hgood⟩ := Proofs.C03L.wfZ_guarded_link hwf hl V
    rcases hcase with ⟨h, _⟩ | ⟨_, lh', hldec', hbad⟩ | ⟨_, hge⟩
    · exact Or.inl ⟨l, h⟩
    · rw [hldec] at hldec'
      cases hldec'
      rw [hgood] at hbad
      cases hbad
    · obtain ⟨hlt, _⟩ := decHdr_some hldec
      omega

/-- non-vacuity of `Layout` in the relaxed domain, for every description: the image the Spec assembler produces
    (what the run's `link` stream feeds the library) carries the description -/
theorem assemble_layout_core (env : Env) (d : ElfDesc) (tail : Nat) (bytes : Bytes)
    (hwf : wfZCore env d = true) (h : d.assemble tail = some bytes) : Layout d bytes := by
  obtain ⟨rs, hrs, hdisj⟩ := (Proofs.C03L.wfZCore_facts hwf).disj
  exact layout_of_disjoint hrs hdisj h

open PyElf.Proofs.C15 (nDynstr nVer nShstr nDynsym) in
/-- non-vacuity of the bad-link theorems: `exSymFile` with `.dynsym` linked to the null section (wrong type),
    a second symbol table linked to section 99 (out of range; the file ends long before entry 99 of the
    header table), a third linked to itself, and a hash table over an SHT_SUNW_LDYNSYM table -/
def exBadLinkFile : ElfDesc :=
  exImage 32 true
    [{ name := [], nameOff := 0, ty := 0 },
     { name := nVer, nameOff := 9, ty := 5, link := 4, entsize := 4, body := some (encSysV true (buildSysV [[], [0x61]] 1)) },
     { name := nDynstr, nameOff := 1, ty := 3, body := some [0, 0x61, 0] },
     { name := nShstr, nameOff := 12, ty := 3, body := some PyElf.Proofs.C15.exNames },
     { name := nDynsym, nameOff := 15, ty := 11, link := 0, info := 1, entsize := 16,
       body := some (encSymtab true 32 0 [exE0, exE1]) },
     { name := nDynsym, nameOff := 15, ty := 2, link := 99, info := 1, entsize := 0, body := some [1, 2, 3] },
     { name := nDynsym, nameOff := 15, ty := 2, link := 6, info := 1, entsize := 16, body := none },
     { name := nDynsym, nameOff := 15, ty := 0x6ffffff3, link := 2, info := 1, entsize := 16,
       body := some (encSymtab true 32 0 [exE0, exE1]) },
     { name := nVer, nameOff := 9, ty := 0x6ffffff6, link := 7, body := some [] }] 3

#guard wfZCore Model.elfEnv exBadLinkFile && !exBadLinkFile.wfZ Model.elfEnv && (exBadLinkFile.assemble 0).isSome
#guard linkVerdict Model.elfEnv exBadLinkFile 4 == some (.wrongType 0)          -- `link_wrong_type_error`
#guard linkVerdict Model.elfEnv exBadLinkFile 6 == some (.wrongType 6)          -- its own header is not a string table
#guard linkVerdict Model.elfEnv exBadLinkFile 8 == some (.wrongType 7)          -- SHT_SUNW_LDYNSYM under a hash table
#guard linkVerdict Model.elfEnv exBadLinkFile 5 == some (.outOfRange 99)        -- `link_beyond_file_error` …
#guard ((exBadLinkFile.assemble 0).map fun b => decide (b.length < exBadLinkFile.shoff + 99 * exBadLinkFile.shentsize)) == some true
#guard linkVerdict Model.elfEnv exBadLinkFile 1 == some (.linked 4)             -- `link_nested_wrong_type_error`
#guard linkVerdict Model.elfEnv exBadLinkFile 7 == some (.linked 2) && linkVerdict Model.elfEnv exBadLinkFile 2 == some .unchecked
#guard wfZCore Model.elfEnv exSymFile && linkVerdict Model.elfEnv exSymFile 7 == some .unchecked

/-! `StringTableSection.get_string` returns `s.decode('utf-8', errors='replace')`.  The theorems above carry a
  name as the bytes of the string table, which IS the reported `str` (through its UTF-8 encoding) when the
  bytes are valid UTF-8.  `Model/SymbolsDecoded.lean` makes the decoding explicit — `getSymbolD`,
  `iterSymbolsD`, `getSymbolByNameD` — with `bytes.decode('utf-8', errors='replace')` =
  `Spec.C03.utf8Replace` (Unicode 15 §3.9: every maximal subpart of an ill-formed subsequence becomes one
  U+FFFD; CPython's codec is trusted to implement it and is compared with `utf8Replace` on every run:
  stream `utf8`, and every name of every table of the other streams).  For EVERY byte string found at
  `st_name` the exact reported name is `utf8Replace` of it; the by-name map is keyed by reported names
  (two different byte strings that decode to the same `str` are the same name); hash lookups compare reported
  names.  The driver runs the decoding model. -/

open PyElf.Proofs.C03D PyElf.Proofs.C03U

/-- valid UTF-8 is reported unchanged (so on such tables the decoding model is the raw one) -/
theorem utf8_valid_unchanged (bs : Bytes) (h : validUtf8 bs = true) : utf8Replace bs = bs :=
  utf8Replace_of_valid bs h

/-- every reported name is valid UTF-8 — a `str` — whatever the bytes -/
theorem utf8_reported_valid (bs : Bytes) : validUtf8 (utf8Replace bs) = true :=
  validUtf8_utf8Replace bs

theorem utf8_idempotent (bs : Bytes) : utf8Replace (utf8Replace bs) = utf8Replace bs :=
  utf8_valid_unchanged _ (utf8_reported_valid bs)

/-- the decoding model is the raw model followed by the decoding of the name, on every input -/
theorem get_symbol_decoded_eq (S : ElfStructs) (env : Env) (data : Bytes) (h : SecHdr) (strOff n : Nat) :
    getSymbolD S env data h strOff n = (getSymbol S env data h strOff n).map decSym :=
  getSymbolD_eq S env data h strOff n

section decoded
variable {le : Bool} {cls : Nat} {data : Bytes} {h : SecHdr} {strOff : Nat} {es : List SymE} {names : List Bytes}
variable (env : Env) (m : String) (sol core : Bool)

/-- `get_symbol(i)` reports the name `utf8Replace (names[i])`, for ARBITRARY name bytes -/
theorem get_symbol_decoded_exact (L : SymtabLayout le cls data h strOff es names) (i : Nat) (hi : i < es.length) :
    getSymbolD (Spec.elfStructs ⟨le, cls, m, sol, core⟩) env data h strOff i
      = .ok (symObs env.enumDecode cls es (names.map utf8Replace) i) :=
  layout_getSymbolD env (spec_sym _) L i hi

theorem iter_symbols_decoded_exact (L : SymtabLayout le cls data h strOff es names) :
    iterSymbolsD (Spec.elfStructs ⟨le, cls, m, sol, core⟩) env data h strOff
      = .ok ((List.range es.length).map (symObs env.enumDecode cls es (names.map utf8Replace))) :=
  layout_iterSymbolsD env (spec_sym _) L

/-- `get_symbol_by_name(n)`: exactly the symbols REPORTED under `n`, in index order, or `None` -/
theorem by_name_decoded_exact (L : SymtabLayout le cls data h strOff es names) (name : Bytes) :
    getSymbolByNameD (Spec.elfStructs ⟨le, cls, m, sol, core⟩) env data h strOff name
      = .ok (if byName (names.map utf8Replace) name = [] then none
             else some ((byName (names.map utf8Replace) name).map
                    (symObs env.enumDecode cls es (names.map utf8Replace)))) :=
  layout_byNameD env (spec_sym _) L name

/-- on valid UTF-8 names the two models agree: every theorem about `getSymbol` is one about `getSymbolD` -/
theorem get_symbol_decoded_valid (L : SymtabLayout le cls data h strOff es names)
    (hv : ∀ nm ∈ names, validUtf8 nm = true) (i : Nat) (hi : i < es.length) :
    getSymbolD (Spec.elfStructs ⟨le, cls, m, sol, core⟩) env data h strOff i
      = getSymbol (Spec.elfStructs ⟨le, cls, m, sol, core⟩) env data h strOff i := by
  rw [layout_getSymbolD env (spec_sym _) L i hi, layout_getSymbol env (spec_sym _) L i hi, map_utf8Replace_valid names hv]

/-- SysV hash lookups through the decoding model, names arbitrary bytes: what is returned is a symbol
    `1 ≤ j < n` reported under the requested name; a requested name that is a valid string and the name (as
    bytes) of a symbol `1 ≤ i < n` is found; a name under which no symbol is reported is not.
    (A symbol whose name bytes are NOT valid UTF-8 sits on the chain of the hash of its bytes; a lookup
    hashes the UTF-8 encoding of the requested string, so such a symbol is found only by accident: its
    reported name is not the name the linker hashed.  The property's names are strings.) -/
theorem sysv_lookup_decoded (L : SymtabLayout le cls data h strOff es names) (t : SysVTable)
    (hwf : WFSysV names t = true) (name : Bytes) :
    ∃ r, elfHashGetSymbol (sysvParams t) (getSymbolD (Spec.elfStructs ⟨le, cls, m, sol, core⟩) env data h strOff) name
          = .ok r ∧
      (∀ s, r = some s → ∃ j, 1 ≤ j ∧ j < es.length ∧ utf8Replace (names.getD j []) = name ∧
          s = symObs env.enumDecode cls es (names.map utf8Replace) j) ∧
      (validUtf8 name = true → (∃ i, 1 ≤ i ∧ i < es.length ∧ names.getD i [] = name) → r ≠ none) ∧
      ((∀ i, 1 ≤ i → i < es.length → utf8Replace (names.getD i []) ≠ name) → r = none) := by
  have hl := L.nlen
  have hget : ∀ j, j < names.length →
      getSymbolD (Spec.elfStructs ⟨le, cls, m, sol, core⟩) env data h strOff j
        = .ok (symObs env.enumDecode cls es (names.map utf8Replace) j) :=
    fun j hj => layout_getSymbolD env (spec_sym _) L j (by omega)
  have hname : ∀ j, j < names.length →
      (symObs env.enumDecode cls es (names.map utf8Replace) j).2 = utf8Replace (names.getD j []) :=
    fun j _ => getD_map_utf8 names j
  obtain ⟨r, hr, hs, hn⟩ := sysv_lookup_reported names t _ _ name hwf hget
  refine ⟨r, hr, ?_, ?_, ?_⟩
  · intro s hsome
    obtain ⟨j, a, b, c, e⟩ := hs s hsome
    exact ⟨j, a, by omega, hname j b ▸ c, e⟩
  · intro hv ⟨i, hi1, hin, hnm⟩ hnone
    exact hn hnone i hi1 (by omega) hnm (by rw [hname i (by omega), hnm]; exact utf8_valid_unchanged name hv)
  · intro habs
    cases r with
    | none => rfl
    | some s =>
      obtain ⟨j, a, b, c, _⟩ := hs s rfl
      exact absurd (hname j b ▸ c) (habs j a (by omega))

end decoded

/-- GNU hash lookups through the decoding model on a table whose names are valid UTF-8 (strings): exactly as
    `gnu_lookup_exact` — the first hashed symbol bearing the name, or `None` -/
theorem gnu_lookup_decoded_valid {le : Bool} {cls : Nat} {data : Bytes} {h : SecHdr} {strOff : Nat} {es : List SymE}
    {names : List Bytes} (env : Env) (m : String) (sol core : Bool)
    (L : SymtabLayout le cls data h strOff es names) (hv : ∀ nm ∈ names, validUtf8 nm = true)
    (t : GnuTable) (hwf : WFGnu cls names t = true) (g : GnuHash) (hg : g.params = gnuParams t) (hws : g.wordsize = 4)
    (hread : ∀ k (hk : k < t.chain.length), readHashWord le data (g.chainPos + k * 4) = .ok t.chain[k])
    (name : Bytes) :
    gnuHashGetSymbol le cls data g (getSymbolD (Spec.elfStructs ⟨le, cls, m, sol, core⟩) env data h strOff) name
      = .ok ((gnuFirstNamed names t.symoffset name).map (symObs env.enumDecode cls es names)) := by
  have hl := L.nlen
  refine gnuHashGetSymbol_eq cls names t le data g _ _ name hwf hg hws hread (fun j hj => ?_) (fun _ _ => rfl)
  rw [layout_getSymbolD env (spec_sym _) L j (by omega), map_utf8Replace_valid names hv]

/-- everything the property says of a SymbolTableSection, with names as Python reports them -/
def SymtabObservedD (env : Env) (S : ElfStructs) (data : Bytes) (cls : Nat) (h : SecHdr) (strOff : Nat)
    (es : List SymE) (names : List Bytes) : Prop :=
  numSymbols h = .ok es.length ∧
  (∀ i, i < es.length → getSymbolD S env data h strOff i
      = .ok (symObs env.enumDecode cls es (names.map utf8Replace) i)) ∧
  iterSymbolsD S env data h strOff
      = .ok ((List.range es.length).map (symObs env.enumDecode cls es (names.map utf8Replace))) ∧
  ∀ name, getSymbolByNameD S env data h strOff name
    = .ok (if byName (names.map utf8Replace) name = [] then none
           else some ((byName (names.map utf8Replace) name).map (symObs env.enumDecode cls es (names.map utf8Replace))))

/-- the symbol table of a whole file with ARBITRARY name bytes, through `get_section(sec)`, regenerated
    factory / bundle / code tables: count, every entry with its reported name, enumeration, lookup by
    reported name -/
theorem symtab_file_decoded_exact_generated (d : ElfDesc) (bytes : Bytes) (sec : Nat) (es : List SymE)
    (names : List Bytes) (hwf : symFileWf Model.elfEnv d sec es names = true) (hl : Layout d bytes) :
    ∃ f h strOff, openElf Model.elfEnv Model.elfStructsFor Model.machineClassOf bytes = .ok f ∧
      getSymSection Model.elfEnv f sec = .ok (.symtab h strOff) ∧
      SymtabObservedD Model.elfEnv f.S bytes d.cls h strOff es names := by
  rw [open_generated]
  obtain ⟨hdr, st, X, hopen, F, hget, L⟩ := symFile_opened hwf hl
  exact ⟨_, _, _, hopen, hget, layout_numSymbols L,
    fun i hi => layout_getSymbolD Model.elfEnv (spec_sym d.cfg) L i hi,
    layout_iterSymbolsD Model.elfEnv (spec_sym d.cfg) L,
    fun name => layout_byNameD Model.elfEnv (spec_sym d.cfg) L name⟩

/-! non-vacuity: byte patterns of every kind the run generates, and a table with such a name -/
#guard utf8Replace [0x61, 0xff, 0xe2, 0x82, 0x41, 0xf0, 0x9f, 0x98, 0x80, 0xed, 0xa0, 0x80, 0xc3]
  == [0x61] ++ replChar ++ replChar ++ [0x41, 0xf0, 0x9f, 0x98, 0x80] ++ replChar ++ replChar ++ replChar ++ replChar
#guard utf8Replace [0xc0, 0x80] == replChar ++ replChar && utf8Replace [0xf4, 0x90, 0x80, 0x80] == replChar ++ replChar ++ replChar ++ replChar
  && utf8Replace [0xf0, 0x9f, 0x98] == replChar && utf8Replace [0xe2, 0x82] == replChar && utf8Replace [0xc3, 0xa9] == [0xc3, 0xa9]
  && !validUtf8 [0xff] && validUtf8 (utf8Replace [0xff])

/-- two entries; the second is named by the single byte `ff` -/
def exDataU : Bytes := encSymtab true 32 0 [exE0, exE1] ++ [0, 0xff, 0]

theorem ex_layout_u : SymtabLayout true 32 exDataU ⟨0, 32, 16⟩ 32 [exE0, exE1] [[], [0xff]] :=
  Proofs.C03.built_layout true 32 0 false [([], exE0), ([0xff], { exE1 with stName := 0 })] (Or.inl rfl)
    (by decide +kernel) (by decide +kernel) (by decide +kernel) exDataU 0 32 [0, 0xff, 0] [] (by decide +kernel)
    (by decide +kernel)

/-- … it is reported as U+FFFD and found under that name, not under its bytes -/
example (env : Env) (m : String) (sol core : Bool) :
    getSymbolByNameD (Spec.elfStructs ⟨true, 32, m, sol, core⟩) env exDataU ⟨0, 32, 16⟩ 32 [0xff]
      = .ok (if byName ([[], [0xff]].map utf8Replace) [0xff] = [] then none
             else some ((byName ([[], [0xff]].map utf8Replace) [0xff]).map
                    (symObs env.enumDecode 32 [exE0, exE1] ([[], [0xff]].map utf8Replace)))) :=
  by_name_decoded_exact env m sol core ex_layout_u [0xff]
#guard byName ([[], [0xff]].map utf8Replace) [0xff] == [] && byName ([[], [0xff]].map utf8Replace) replChar == [1]

/-- For ANY section bytes: after ANY history of `get_symbol_by_name` calls on one
    `SymbolTableSection` object — repeated names, absent names, calls whose walk raised — every answer is the stateless
    `getSymbolByName` (the function the by-name exactness theorems are about).  The harness asks all the names of a case
    on ONE section object and compares each answer with the stateless model and with the description. -/
theorem symtab_by_name_history_independent (S : ElfStructs) (env : Env) (data : Bytes) (h : SecHdr) (strOff : Nat)
    (qs : List Bytes) :
    (symByNameHist S env data h strOff qs).1 = qs.map (getSymbolByName S env data h strOff) := by
  refine Proofs.SigCache.history_independent _ _ _ (fun q => ?_) qs
  unfold Model.SigCache.stateless symNameScan getSymbolByName
  cases iterSymbols S env data h strOff <;> rfl

/-- composed with `by_name_exact` -/
theorem by_name_exact_any_history {le : Bool} {cls : Nat} {data : Bytes} {h : SecHdr} {strOff : Nat} {es : List SymE}
    {names : List Bytes} (env : Env) (m : String) (sol core : Bool) (L : SymtabLayout le cls data h strOff es names)
    (qs : List Bytes) :
    (symByNameHist (Spec.elfStructs ⟨le, cls, m, sol, core⟩) env data h strOff qs).1
      = qs.map (fun name => .ok (if byName names name = [] then none
                                 else some ((byName names name).map (symObs env.enumDecode cls es names)))) := by
  rw [symtab_by_name_history_independent]
  exact List.map_congr_left (fun q _ => by_name_exact env m sol core L q)

/-- a walk that raised publishes no map (the defect class of the half-built `defaultdict`) -/
theorem symtab_failed_walk_publishes_nothing (S : ElfStructs) (env : Env) (data : Bytes) (h : SecHdr) (strOff : Nat)
    (e : Err) (he : iterSymbols S env data h strOff = .error e) (qs : List Bytes) :
    (symByNameHist S env data h strOff qs).2.map.isSome = false := by
  unfold symByNameHist
  rw [Proofs.SigCache.run_published]
  unfold symNameScan
  rw [he]
  simp

end PyElf.Props.C03
