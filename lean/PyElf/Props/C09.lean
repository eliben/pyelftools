/-
  C09 — dynamic linking information is exact, with or without section headers.

  `Dyn` is the model of a `DynamicSection` / `DynamicSegment` object (Model/Dynamic.lean);
  `TableView … d … tags` says the object looks at a stored table holding `tags` (terminator and
  whatever follows it included), anywhere in any byte string; `SegsView ifc hs` says the file
  object hands out the program headers `hs` (the C01 guarantee for the container; in the stripped
  image there is nothing else to rely on).

  The statement of the design,
      segment_view_eq_section_view : WF d → obs (model (assembleStripped d)) = obs (model (assembleFull d)),
  is `segment_view_eq_section_view` (`…_assembled` for the assembler's output): the two layouts of a
  `DynDesc` are `Spec.ElfDesc`s (`DynDesc.container`, the very description whose regions
  `DynDesc.assemble` lays out), and the container accessors of `ELFFile` (`get_segment`,
  `get_section`, the constructors' section search) are what C01 establishes of an opened file
  (Proofs/ElfView.lean, Proofs/ElfFile.lean), applied to them in Proofs/DynamicImage.lean and Proofs/DynamicRoutes.lean.
  `segment_view_eq_section_view_partial` states the same about two objects, with those accessors as
  hypotheses (`TableView`, `SegsView`, `d.strtab = …`).

  DT_STRSZ is never read: every theorem here quantifies over all tag lists, with or without it.  `DynDesc.wf` is split
  into the parts each whole-file theorem uses (`wfBase`, `wfTags`, `wfSyms`, `wfHash`; Spec/DynamicExt.lean).

  Correspondence only (model == library on generated inputs, no theorem):
             `get_relocation_tables` and the relocation entries (REL / RELA / RELR / JMPREL);
             the `DynamicSection` view of a table without DT_NULL (`sec_tags_exact_base` covers
               every terminated table, with or without a usable DT_STRTAB);
             symbol names that are not valid UTF-8 (lookup is keyed on decoded text);
             the GNU-hash count on malformed hash tables;
             a table without DT_NULL that is followed by further bytes (what is read then is
               whatever follows — outside the quantifier).
-/
import PyElf.Spec.Dynamic
import PyElf.Model.Dynamic
import PyElf.Proofs.Dynamic
import PyElf.Proofs.DynamicGnu
import PyElf.Proofs.DynamicImage
import PyElf.Proofs.DynamicRegions
import PyElf.Proofs.DynamicSym
import PyElf.Spec.DynamicExt
import PyElf.Proofs.DynamicByName
import PyElf.Proofs.DynamicFallback
import PyElf.Proofs.DynamicRoutes
import PyElf.Proofs.DynamicErrors
import PyElf.Proofs.DynamicTrunc
import PyElf.Props.TieC09
import PyElf.Model.DynCache
import PyElf.Proofs.SigCache
import PyElf.Props.C09Examples
import PyElf.Props.C01
namespace PyElf.Props.C09
open PyElf PyElf.Spec PyElf.Spec.Dynamic PyElf.Model PyElf.Model.Dynamic PyElf.Proofs.Dynamic PyElf.Props.TieC09

abbrev S (c : ElfCfg) : ElfStructs := elfStructs c
abbrev tbl (c : ElfCfg) : String := dTagTable c.mclass c.solaris
abbrev sunw (c : ElfCfg) : Bool := usesSunw c.mclass c.solaris
/-- "the object looks at a stored table of `tags`" for configuration `c` -/
abbrev View (c : ElfCfg) (data : Bytes) (d : Dyn) (tags : List (Int × Nat)) : Prop :=
  TableView (S c) data d c.le (c.cls / 8) (tbl c) tags

theorem tag_facts (c : ElfCfg) : TagFacts (tbl c) (sunw c) := TieC09.tag_facts c.mclass c.solaris

theorem syment_fact (c : ElfCfg) : TagIs elfEnv (tbl c) "DT_SYMENT" DT_SYMENT := TieC09.syment_fact c.mclass c.solaris

/-- size of a symbol record of the configuration (16 / 24 bytes) -/
def symSz (c : ElfCfg) : Nat := (S c).Elf_Sym.sizeof.getD 0

theorem symSz_spec (c : ElfCfg) : (S c).Elf_Sym.sizeof = some (symSz c) ∧ 0 < symSz c := by
  obtain ⟨sz, h, hp⟩ := sym_size c
  have h' : (S c).Elf_Sym.sizeof = some sz := h
  simp [symSz, h', hp]

/-! ## one object: a `Dyn` looking at a stored table, over any bytes -/

/-- what follows the first DT_NULL is not live, further DT_NULLs included -/
theorem live_ignores_trailing (pre post : List (Int × Nat)) (v : Nat) (h : ∀ t ∈ pre, t.1 ≠ DT_NULL) :
    liveTags (pre ++ (DT_NULL, v) :: post) = pre ++ [(DT_NULL, v)] := by
  induction pre with
  | nil => simp [liveTags]
  | cons t pre ih =>
    have ht : t.1 ≠ DT_NULL := h t (by simp)
    simp only [List.cons_append, liveTags, ht, if_false]
    rw [ih (fun x hx => h x (by simp [hx]))]

/-- `iter_tags()` / `num_tags()`: exactly the entries up to and including the first DT_NULL — tag
    named through the configuration's tag table (number kept when unnamed), value, pointer — each
    string-valued one (needed, soname, rpath, runpath; Solaris filter) with the string its value
    names in the string table `tab` serves; duplicates stay, what follows the terminator is ignored -/
theorem tags_exact (c : ElfCfg) (data : Bytes) (ifc : FileIfc) (d : Dyn) (tags : List (Int × Nat))
    (strtab : Bytes) (tab : StrTab)
    (V : View c data d tags) (hterm : hasTerminator tags = true)
    (hst : getStringtable elfEnv (S c) data ifc d = .ok (some tab)) (hserve : Serves data tab strtab)
    (hstr : StringsOk (sunw c) strtab (liveTags tags)) :
    iterTags elfEnv (S c) data ifc d none = .ok ((liveTags tags).map (obsEntry elfEnv (tbl c) (sunw c) strtab)) ∧
    numTags elfEnv (S c) data ifc d = .ok (liveTags tags).length :=
  let F := tag_facts c
  ⟨iterTags_view V F.null hterm hst F.attr hserve hstr, numTags_view V F.null hterm hst F.attr hserve hstr⟩

/-- an object constructed with a string table (the section `sh_link` names) uses it -/
theorem stringtable_by_link (c : ElfCfg) (data : Bytes) (ifc : FileIfc) (d : Dyn) (tab : StrTab)
    (h : d.strtab = some tab) : getStringtable elfEnv (S c) data ifc d = .ok (some tab) :=
  getStringtable_given h

/-- an object constructed without one (no section headers, or no `.dynamic` section at the
    segment's offset) uses the table the first live DT_STRTAB designates through the PT_LOADs -/
theorem stringtable_by_pointer (c : ElfCfg) (data : Bytes) (ifc : FileIfc) (d : Dyn) (tags : List (Int × Nat))
    (hs : List Val) (V : View c data d tags) (hterm : hasTerminator tags = true) (SV : SegsView ifc hs)
    (hnone : d.strtab = none) (a o : Nat)
    (ha : firstVal (liveTags tags) DT_STRTAB = some a) (ho : mapAddr hs a = some o) :
    getStringtable elfEnv (S c) data ifc d = .ok (some (.dynamic o)) := by
  rw [getStringtable_of_offset hnone (getTableOffset_view V (tag_facts c).null hterm SV _ _ (tag_facts c).strtab), ha]
  simp [ho]

/-- an object constructed without a string table whose DT_STRTAB is absent or maps nowhere uses
    whatever `get_section_by_name('.dynstr')` returns (a section object, or `None`) -/
theorem stringtable_by_name (c : ElfCfg) (data : Bytes) (ifc : FileIfc) (d : Dyn) (tags : List (Int × Nat))
    (hs : List Val) (V : View c data d tags) (hterm : hasTerminator tags = true) (SV : SegsView ifc hs)
    (hnone : d.strtab = none) (hno : (firstVal (liveTags tags) DT_STRTAB).bind (mapAddr hs) = none)
    (r : Option (String × Val)) (hby : ifc.sectionByName (nm ".dynstr") = .ok r) :
    getStringtable elfEnv (S c) data ifc d = .ok (r.map fun p => .section p.1 p.2) :=
  getStringtable_byName V (tag_facts c).null hterm SV (tag_facts c).strtab hnone hno hby

/-- no string table by any route (object constructed without one, DT_STRTAB absent or outside every
    PT_LOAD, no section called `.dynstr`): `_get_stringtable()` is `None` -/
theorem stringtable_none (c : ElfCfg) (data : Bytes) (ifc : FileIfc) (d : Dyn) (tags : List (Int × Nat))
    (hs : List Val) (V : View c data d tags) (hterm : hasTerminator tags = true) (SV : SegsView ifc hs)
    (hnone : d.strtab = none) (hno : (firstVal (liveTags tags) DT_STRTAB).bind (mapAddr hs) = none)
    (hby : ifc.sectionByName (nm ".dynstr") = .ok none) :
    getStringtable elfEnv (S c) data ifc d = .ok none := by
  have := stringtable_by_name c data ifc d tags hs V hterm SV hnone hno none hby
  simpa using this

theorem strings_resolved_section (data strtab rest : Bytes) (hdr : Val) (toff : Nat)
    (hoff : hdr.getNat "sh_offset" = .ok toff) (hd : data.drop toff = strtab ++ rest)
    (hsmall : data.length < 2 ^ 63) :
    Serves data (.section "StringTableSection" hdr) strtab :=
  serves_section hoff hd hsmall

theorem strings_resolved_pointer (data strtab rest : Bytes) (toff : Nat)
    (hd : data.drop toff = strtab ++ rest) (hsmall : data.length < 2 ^ 63) :
    Serves data (.dynamic toff) strtab :=
  serves_dynamic hd hsmall

/-- `get_table_offset(name)`: value of the first live entry of that tag, and the file offset the
    PT_LOAD segments give it (stated for the tags the reader itself follows) -/
theorem table_offset_exact (c : ElfCfg) (data : Bytes) (ifc : FileIfc) (d : Dyn) (tags : List (Int × Nat))
    (hs : List Val) (V : View c data d tags) (hterm : hasTerminator tags = true) (SV : SegsView ifc hs) :
    (∀ nc ∈ [("DT_STRTAB", DT_STRTAB), ("DT_SYMTAB", DT_SYMTAB), ("DT_HASH", DT_HASH), ("DT_GNU_HASH", DT_GNU_HASH)],
      getTableOffset elfEnv (S c) data ifc d nc.1
        = .ok (firstVal (liveTags tags) nc.2, (firstVal (liveTags tags) nc.2).bind (mapAddr hs))) := by
  have F := tag_facts c
  intro nc hnc
  simp only [List.mem_cons, List.not_mem_nil, or_false] at hnc
  rcases hnc with h | h | h | h <;> subst h
  · exact getTableOffset_view V F.null hterm SV _ _ F.strtab
  · exact getTableOffset_view V F.null hterm SV _ _ F.symtab
  · exact getTableOffset_view V F.null hterm SV _ _ F.hash
  · exact getTableOffset_view V F.null hterm SV _ _ F.gnuHash

/-- Two objects, the container accessors as hypotheses (see the header).  The `DynamicSection` of an image
    with section headers (`dF`: string table = the linked section, contents at its `sh_offset`) and
    the `DynamicSegment` of an image without them, or whose `.dynamic` section sits elsewhere
    (`dS`: no string table given; DT_STRTAB mapped by the PT_LOADs `hs` to where the same string
    table is stored) report the same entries, the same strings and the same count.  `dataF` and
    `dataS` may be the same image or two different layouts of one description. -/
theorem segment_view_eq_section_view_partial (c : ElfCfg) (tags : List (Int × Nat)) (strtab : Bytes)
    (hterm : hasTerminator tags = true) (hstr : StringsOk (sunw c) strtab (liveTags tags))
    -- section view
    (dataF : Bytes) (ifcF : FileIfc) (dF : Dyn) (VF : View c dataF dF tags)
    (hdr : Val) (offF : Nat) (restF : Bytes) (hlink : dF.strtab = some (.section "StringTableSection" hdr))
    (hoff : hdr.getNat "sh_offset" = .ok offF) (hplF : dataF.drop offF = strtab ++ restF)
    -- segment view
    (dataS : Bytes) (ifcS : FileIfc) (dS : Dyn) (VS : View c dataS dS tags)
    (hs : List Val) (SV : SegsView ifcS hs) (hnone : dS.strtab = none)
    (a offS : Nat) (restS : Bytes) (ha : firstVal (liveTags tags) DT_STRTAB = some a) (ho : mapAddr hs a = some offS)
    (hplS : dataS.drop offS = strtab ++ restS) :
    iterTags elfEnv (S c) dataS ifcS dS none = iterTags elfEnv (S c) dataF ifcF dF none ∧
    numTags elfEnv (S c) dataS ifcS dS = numTags elfEnv (S c) dataF ifcF dF := by
  have eF := tags_exact c dataF ifcF dF tags strtab _ VF hterm (stringtable_by_link c dataF ifcF dF _ hlink)
    (strings_resolved_section dataF strtab restF hdr offF hoff hplF VF.small) hstr
  have eS := tags_exact c dataS ifcS dS tags strtab _ VS hterm
    (stringtable_by_pointer c dataS ifcS dS tags hs VS hterm SV hnone a offS ha ho)
    (strings_resolved_pointer dataS strtab restS offS hplS VS.small) hstr
  exact ⟨eS.1.trans eF.1.symm, eS.2.trans eF.2.symm⟩

/-- with a SysV hash table (and no GNU one) the recovered count is the true count: gABI `nchain` =
    number of symbol table entries (`SysvHash.wf`) -/
theorem num_symbols_exact_sysv (c : ElfCfg) (data : Bytes) (ifc : FileIfc) (d : Dyn) (tags : List (Int × Nat))
    (hs : List Val) (V : View c data d tags) (hterm : hasTerminator tags = true) (SV : SegsView ifc hs)
    (iterSegs : R (List (String × Val)))
    (hnog : firstVal (liveTags tags) DT_GNU_HASH = none)
    (a o : Nat) (ha : firstVal (liveTags tags) DT_HASH = some a) (ho : mapAddr hs a = some o)
    (h : SysvHash) (nsyms : Nat) (hwf : h.wf nsyms = true) (rest : Bytes) (hd : data.drop o = h.enc c.le ++ rest) :
    numSymbols elfEnv (S c) data ifc d iterSegs c.le = .ok nsyms := by
  have F := tag_facts c
  simp only [SysvHash.wf, Bool.and_eq_true, decide_eq_true_eq] at hwf
  obtain ⟨⟨⟨⟨h1, h2⟩, h3⟩, _⟩, _⟩ := hwf
  obtain ⟨sz, hsz⟩ := Proofs.sym_sizeof c
  rw [numSymbols_eq V F.null hterm SV F.gnuHash F.hash hsz, hnog, ha]
  simp only [Option.bind, ho]
  rw [sysvNumSymbols_eq elfEnv (S c) c.le (Proofs.HashHeader.spec_hash c) h h3 (by omega) data o rest hd V.small, h1]

/-- with a GNU hash table the recovered count is the true count: highest bucket, then its chain to
    the entry with bit 0 set (`GnuHash.wf`: symbols from `symoffset` on are all hashed, grouped by
    bucket; at least one bucket; `symoffset ≥ 1`).  A SysV table that is also present is not consulted. -/
theorem num_symbols_exact_gnu (c : ElfCfg) (data : Bytes) (ifc : FileIfc) (d : Dyn) (tags : List (Int × Nat))
    (hs : List Val) (V : View c data d tags) (hterm : hasTerminator tags = true) (SV : SegsView ifc hs)
    (iterSegs : R (List (String × Val)))
    (a o : Nat) (ha : firstVal (liveTags tags) DT_GNU_HASH = some a) (ho : mapAddr hs a = some o)
    (h : GnuHash) (nsyms : Nat) (hwf : h.wf nsyms = true) (rest : Bytes)
    (hd : data.drop o = h.enc c.le (c.cls / 8) ++ rest) :
    numSymbols elfEnv (S c) data ifc d iterSegs c.le = .ok nsyms := by
  have F := tag_facts c
  obtain ⟨sz, hsz⟩ := Proofs.sym_sizeof c
  rw [numSymbols_eq V F.null hterm SV F.gnuHash F.hash hsz, ha]
  simp only [Option.bind, ho]
  exact gnuNumSymbols_eq elfEnv (S c) c.le (c.cls / 8) (Proofs.HashHeader.spec_gnu c) rfl rfl h nsyms hwf data o rest hd V.small

/-- under `GnuHash.wf ∨ SysvHash.wf` (each table, where its tag is live, stored where the tag points and well formed)
    the recovered count is the true count -/
theorem num_symbols_exact (c : ElfCfg) (data : Bytes) (ifc : FileIfc) (d : Dyn) (tags : List (Int × Nat))
    (hs : List Val) (V : View c data d tags) (hterm : hasTerminator tags = true) (SV : SegsView ifc hs)
    (iterSegs : R (List (String × Val))) (nsyms : Nat)
    (hwf :
      (∃ a o h rest, firstVal (liveTags tags) DT_GNU_HASH = some a ∧ mapAddr hs a = some o ∧
          GnuHash.wf h nsyms = true ∧ data.drop o = h.enc c.le (c.cls / 8) ++ rest) ∨
      (firstVal (liveTags tags) DT_GNU_HASH = none ∧
        ∃ a o h rest, firstVal (liveTags tags) DT_HASH = some a ∧ mapAddr hs a = some o ∧
          SysvHash.wf h nsyms = true ∧ data.drop o = h.enc c.le ++ rest)) :
    numSymbols elfEnv (S c) data ifc d iterSegs c.le = .ok nsyms := by
  rcases hwf with ⟨a, o, h, rest, ha, ho, hw, hd⟩ | ⟨hnog, a, o, h, rest, ha, ho, hw, hd⟩
  · exact num_symbols_exact_gnu c data ifc d tags hs V hterm SV iterSegs a o ha ho h nsyms hw rest hd
  · exact num_symbols_exact_sysv c data ifc d tags hs V hterm SV iterSegs hnog a o ha ho h nsyms hw rest hd

/-- the symbols the segment view enumerates are the stored ones, each named through the string
    table, given the count (`hnum`) and the decoding of the stored records (`SymView.dec`);
    `symbols_exact` establishes both. -/
theorem symbols_exact_partial (c : ElfCfg) (data : Bytes) (ifc : FileIfc) (d : Dyn) (tags : List (Int × Nat))
    (hs : List Val) (V : View c data d tags) (hterm : hasTerminator tags = true) (SV : SegsView ifc hs)
    (iterSegs : R (List (String × Val)))
    (a symOff : Nat) (ha : firstVal (liveTags tags) DT_SYMTAB = some a) (ho : mapAddr hs a = some symOff)
    (syms : List Fields) (es : List Val) (Y : SymView elfEnv (S c) data symOff syms es)
    (tab : StrTab) (strtab : Bytes) (hst : getStringtable elfEnv (S c) data ifc d = .ok (some tab))
    (hserve : Serves data tab strtab)
    (hnames : ∀ s ∈ syms, (strAt strtab (getNatD s "st_name")).isSome)
    (hnum : numSymbols elfEnv (S c) data ifc d iterSegs c.le = .ok syms.length) :
    iterSymbols elfEnv (S c) data ifc d iterSegs c.le
      = .ok ((List.range syms.length).map fun i =>
              ((strAt strtab (getNatD (syms.getD i []) "st_name")).getD [], es.getD i .none)) := by
  obtain ⟨L, rfl, h, -⟩ := symbols_view V (tag_facts c).null hterm SV (tag_facts c).symtab ha ho Y hst hserve hnames hnum
  exact h

/-- The symbol table (raw records `syms`, encodable) stored where DT_SYMTAB points, a hash
    table as in `num_symbols_exact` stored where its tag points: `iter_symbols()` yields exactly
    `syms.length` symbols, the `i`-th being the decoding `es[i]` of `syms[i]` named by the string its
    `st_name` designates.  Neither the count nor the decoding of `st_name` is assumed. -/
theorem symbols_exact (c : ElfCfg) (data : Bytes) (ifc : FileIfc) (d : Dyn) (tags : List (Int × Nat))
    (hs : List Val) (V : View c data d tags) (hterm : hasTerminator tags = true) (SV : SegsView ifc hs)
    (iterSegs : R (List (String × Val)))
    (a symOff : Nat) (ha : firstVal (liveTags tags) DT_SYMTAB = some a) (ho : mapAddr hs a = some symOff)
    (syms : List Fields) (sb rest : Bytes)
    (henc : encAll (S c).Elf_Sym (syms.map .record) = some sb) (hpl : data.drop symOff = sb ++ rest)
    (tab : StrTab) (strtab : Bytes) (hst : getStringtable elfEnv (S c) data ifc d = .ok (some tab))
    (hserve : Serves data tab strtab)
    (hnames : ∀ s ∈ syms, (strAt strtab (getNatD s "st_name")).isSome)
    (hwf :
      (∃ a o h rest, firstVal (liveTags tags) DT_GNU_HASH = some a ∧ mapAddr hs a = some o ∧
          GnuHash.wf h syms.length = true ∧ data.drop o = h.enc c.le (c.cls / 8) ++ rest) ∨
      (firstVal (liveTags tags) DT_GNU_HASH = none ∧
        ∃ a o h rest, firstVal (liveTags tags) DT_HASH = some a ∧ mapAddr hs a = some o ∧
          SysvHash.wf h syms.length = true ∧ data.drop o = h.enc c.le ++ rest)) :
    ∃ es : List Val, es.length = syms.length ∧
      (∀ i (h1 : i < syms.length) (h2 : i < es.length),
        (S c).Elf_Sym.decodeRaw elfEnv [] (.record syms[i]) = .ok es[i]) ∧
      numSymbols elfEnv (S c) data ifc d iterSegs c.le = .ok syms.length ∧
      iterSymbols elfEnv (S c) data ifc d iterSegs c.le
        = .ok ((List.range syms.length).map fun i =>
                ((strAt strtab (getNatD (syms.getD i []) "st_name")).getD [], es.getD i .none)) := by
  obtain ⟨es, Y⟩ := symView_of elfEnv c data symOff syms sb rest henc hpl
  have hnum := num_symbols_exact c data ifc d tags hs V hterm SV iterSegs syms.length hwf
  exact ⟨es, Y.len, fun i h1 h2 => (Y.dec i h1 h2).1, hnum,
    symbols_exact_partial c data ifc d tags hs V hterm SV iterSegs a symOff ha ho syms es Y tab strtab hst hserve
      hnames hnum⟩

/-- `get_symbol_by_name` over any object whose enumeration is exact: all enumerated symbols bearing
    the name in index order, `None` for an absent name (`byNameOf`; `by_name_meaning`) -/
theorem by_name_of_enumeration (c : ElfCfg) (data : Bytes) (ifc : FileIfc) (d : Dyn)
    (iterSegs : R (List (String × Val))) (L : List (Bytes × Val))
    (hit : iterSymbols elfEnv (S c) data ifc d iterSegs c.le = .ok L)
    (hget : ∀ i (h : i < L.length), getSymbol elfEnv (S c) data ifc d i = .ok L[i]) (q : Bytes) :
    getSymbolByName elfEnv (S c) data ifc d iterSegs c.le q = .ok (byNameOf L q) :=
  getSymbolByName_of hit hget q

/-- what the answer means: absent name → `None`; otherwise exactly the symbols bearing the name
    (duplicates included, nothing else), in index order -/
theorem by_name_meaning (L : List (Bytes × Val)) (q : Bytes) :
    ((∀ x ∈ L, x.1 ≠ q) → byNameOf L q = none) ∧
    (∀ hit, byNameOf L q = some hit →
      hit ≠ [] ∧ hit.Sublist L ∧ (∀ x ∈ hit, x.1 = q) ∧ (∀ x ∈ L, x.1 = q → x ∈ hit) ∧
      hit.length = L.countP (·.1 == q)) :=
  ⟨byNameOf_absent, fun _ h => byNameOf_present h⟩

/-- Neither hash tag leads anywhere (absent, or its pointer outside every PT_LOAD);
    DT_SYMTAB live and mapped; every live entry can be shown (`iter_tags()` builds a `DynamicTag`
    for each).  Then `num_symbols()` is ELFError when some live DT_SYMENT is not the record size,
    else the number of whole records between the table's address and `fallbackEnd` — the least
    value of ANY live entry above that address, else the end of the last program header (of any
    type) whose extent, end included, holds it — and TypeError (`None - int`) when there is no such
    end. -/
theorem num_symbols_fallback (c : ElfCfg) (data : Bytes) (ifc : FileIfc) (d : Dyn) (tags : List (Int × Nat))
    (hs : List Val) (V : View c data d tags) (hterm : hasTerminator tags = true) (SV : SegsView ifc hs)
    (iterSegs : R (List (String × Val))) (gs : List (String × Val)) (hsegs : iterSegs = .ok gs)
    (hgs : gs.map (·.2) = hs)
    (hnog : (firstVal (liveTags tags) DT_GNU_HASH).bind (mapAddr hs) = none)
    (hnoh : (firstVal (liveTags tags) DT_HASH).bind (mapAddr hs) = none)
    (a o : Nat) (ha : firstVal (liveTags tags) DT_SYMTAB = some a) (ho : mapAddr hs a = some o)
    (tab : StrTab) (strtab : Bytes) (hst : getStringtable elfEnv (S c) data ifc d = .ok (some tab))
    (hserve : Serves data tab strtab) (hstr : StringsOk (sunw c) strtab (liveTags tags)) :
    numSymbols elfEnv (S c) data ifc d iterSegs c.le
      = if symentOk (symSz c) (liveTags tags) then
          (match fallbackEnd hs (liveTags tags) a with
           | some e => .ok ((e - a) / symSz c)
           | none => .error .typeError)
        else .error .elfError := by
  have F := tag_facts c
  rw [numSymbols_nohash V F.null hterm SV F.gnuHash F.hash (symSz_spec c).1 hnog hnoh]
  exact numSymbolsFallback_view V F.null hterm SV F.symtab (syment_fact c) hst F.attr hserve hstr hsegs hgs ha ho _
    (symSz_spec c).2

/-- Under the hypotheses of `num_symbols_fallback` and a consistent
    DT_SYMENT, the count recovered is `n` exactly when the assumed end lies in
    `[a + n·size, a + (n+1)·size)` (`FallbackExact`): the nearest entry value above the table's
    address (or the covering segment's end) is less than one record past the table's true end. -/
theorem num_symbols_fallback_exact_iff (c : ElfCfg) (data : Bytes) (ifc : FileIfc) (d : Dyn) (tags : List (Int × Nat))
    (hs : List Val) (V : View c data d tags) (hterm : hasTerminator tags = true) (SV : SegsView ifc hs)
    (iterSegs : R (List (String × Val))) (gs : List (String × Val)) (hsegs : iterSegs = .ok gs)
    (hgs : gs.map (·.2) = hs)
    (hnog : (firstVal (liveTags tags) DT_GNU_HASH).bind (mapAddr hs) = none)
    (hnoh : (firstVal (liveTags tags) DT_HASH).bind (mapAddr hs) = none)
    (a o : Nat) (ha : firstVal (liveTags tags) DT_SYMTAB = some a) (ho : mapAddr hs a = some o)
    (tab : StrTab) (strtab : Bytes) (hst : getStringtable elfEnv (S c) data ifc d = .ok (some tab))
    (hserve : Serves data tab strtab) (hstr : StringsOk (sunw c) strtab (liveTags tags))
    (hse : symentOk (symSz c) (liveTags tags) = true) (n : Nat) :
    numSymbols elfEnv (S c) data ifc d iterSegs c.le = .ok n ↔ FallbackExact (symSz c) hs (liveTags tags) n := by
  rw [num_symbols_fallback c data ifc d tags hs V hterm SV iterSegs gs hsegs hgs hnog hnoh a o ha ho tab strtab hst
    hserve hstr]
  simp only [hse, if_true]
  rw [← fallbackCount_eq_iff (symSz_spec c).2 hs (liveTags tags) n, fallbackCount_of_symtab ha]
  cases fallbackEnd hs (liveTags tags) a <;> simp

/-- a DT_SYMENT that is not the record size: ELFError — but only on this path; with a usable hash
    table DT_SYMENT is not looked at (`num_symbols_exact` has no such hypothesis) -/
theorem num_symbols_syment_mismatch (c : ElfCfg) (data : Bytes) (ifc : FileIfc) (d : Dyn) (tags : List (Int × Nat))
    (hs : List Val) (V : View c data d tags) (hterm : hasTerminator tags = true) (SV : SegsView ifc hs)
    (iterSegs : R (List (String × Val))) (gs : List (String × Val)) (hsegs : iterSegs = .ok gs)
    (hgs : gs.map (·.2) = hs)
    (hnog : (firstVal (liveTags tags) DT_GNU_HASH).bind (mapAddr hs) = none)
    (hnoh : (firstVal (liveTags tags) DT_HASH).bind (mapAddr hs) = none)
    (a o : Nat) (ha : firstVal (liveTags tags) DT_SYMTAB = some a) (ho : mapAddr hs a = some o)
    (tab : StrTab) (strtab : Bytes) (hst : getStringtable elfEnv (S c) data ifc d = .ok (some tab))
    (hserve : Serves data tab strtab) (hstr : StringsOk (sunw c) strtab (liveTags tags))
    (t : Int × Nat) (ht : t ∈ liveTags tags) (h1 : t.1 = DT_SYMENT) (h2 : t.2 ≠ symSz c) :
    numSymbols elfEnv (S c) data ifc d iterSegs c.le = .error .elfError := by
  rw [num_symbols_fallback c data ifc d tags hs V hterm SV iterSegs gs hsegs hgs hnog hnoh a o ha ho tab strtab hst
    hserve hstr]
  have : symentOk (symSz c) (liveTags tags) = false := by
    apply Bool.eq_false_iff.2
    intro h
    have := List.all_eq_true.1 h t ht
    simp [h1, h2] at this
  simp [this]

/-- DT_SYMTAB absent or outside every PT_LOAD: `get_symbol(i)` raises ELFError for every `i`, and so
    does `num_symbols()` when it has to take the fallback -/
theorem symbol_table_unmapped (c : ElfCfg) (data : Bytes) (ifc : FileIfc) (d : Dyn) (tags : List (Int × Nat))
    (hs : List Val) (V : View c data d tags) (hterm : hasTerminator tags = true) (SV : SegsView ifc hs)
    (iterSegs : R (List (String × Val)))
    (hno : (firstVal (liveTags tags) DT_SYMTAB).bind (mapAddr hs) = none) :
    (∀ i, getSymbol elfEnv (S c) data ifc d i = .error .elfError) ∧
    ((firstVal (liveTags tags) DT_GNU_HASH).bind (mapAddr hs) = none →
     (firstVal (liveTags tags) DT_HASH).bind (mapAddr hs) = none →
      numSymbols elfEnv (S c) data ifc d iterSegs c.le = .error .elfError ∧
      iterSymbols elfEnv (S c) data ifc d iterSegs c.le = .error .elfError ∧
      ∀ q, getSymbolByName elfEnv (S c) data ifc d iterSegs c.le q = .error .elfError) := by
  have F := tag_facts c
  refine ⟨fun i => getSymbol_unmapped V F.null hterm SV F.symtab hno i, fun hnog hnoh => ?_⟩
  have hn : numSymbols elfEnv (S c) data ifc d iterSegs c.le = .error .elfError := by
    rw [numSymbols_nohash V F.null hterm SV F.gnuHash F.hash (symSz_spec c).1 hnog hnoh]
    exact numSymbolsFallback_nosymtab V F.null hterm SV F.symtab hno _
  have hi : iterSymbols elfEnv (S c) data ifc d iterSegs c.le = .error .elfError := by
    unfold iterSymbols; simp [hn, bind, Except.bind]
  exact ⟨hn, hi, fun q => getSymbolByName_error hi q⟩

/-- with no string table by any route (`stringtable_none`) no entry can be shown: `iter_tags()`, `num_tags()` and
    `get_tag(n)` raise ELFError at the first entry (`DynamicTag.__init__`); `get_table_offset` is unaffected (`table_offset_exact`
    has no string-table hypothesis) -/
theorem tags_without_stringtable (c : ElfCfg) (data : Bytes) (ifc : FileIfc) (d : Dyn) (tags : List (Int × Nat))
    (V : View c data d tags) (hterm : hasTerminator tags = true)
    (hst : getStringtable elfEnv (S c) data ifc d = .ok none) :
    iterTags elfEnv (S c) data ifc d none = .error .elfError ∧ numTags elfEnv (S c) data ifc d = .error .elfError ∧
    ∀ n, n < tags.length → getTag elfEnv (S c) data ifc d n = .error .elfError :=
  tags_no_strtab V (tags_pos_of_term hterm) hst

/-- with no string table, `get_symbol(i)` reads the record and fails on `None.get_string`: AttributeError -/
theorem symbols_without_stringtable (c : ElfCfg) (data : Bytes) (ifc : FileIfc) (d : Dyn) (tags : List (Int × Nat))
    (hs : List Val) (V : View c data d tags) (hterm : hasTerminator tags = true) (SV : SegsView ifc hs)
    (a symOff : Nat) (ha : firstVal (liveTags tags) DT_SYMTAB = some a) (ho : mapAddr hs a = some symOff)
    (syms : List Fields) (sb rest : Bytes)
    (henc : encAll (S c).Elf_Sym (syms.map .record) = some sb) (hpl : data.drop symOff = sb ++ rest)
    (hst : getStringtable elfEnv (S c) data ifc d = .ok none) (i : Nat) (hi : i < syms.length) :
    getSymbol elfEnv (S c) data ifc d i = .error .attributeError := by
  obtain ⟨es, Y⟩ := symView_of elfEnv c data symOff syms sb rest henc hpl
  exact getSymbol_no_strtab V (tag_facts c).null hterm SV (tag_facts c).symtab ha ho Y hst i hi

/-- a dynamic table that runs off the end of the file without DT_NULL (at most a partial entry
    follows the stored ones): every stored entry is still produced by `get_tag(n)`, each with its
    string; the entry after the last raises ELFParseError, and so do `list(iter_tags())` and
    `num_tags()` -/
theorem tags_truncated (c : ElfCfg) (data : Bytes) (ifc : FileIfc) (d : Dyn) (tags : List (Int × Nat))
    (strtab : Bytes) (tab : StrTab)
    (V : View c data d tags) (hnt : hasTerminator tags = false)
    (hend : data.length < d.offset + tags.length * (2 * (c.cls / 8)) + 2 * (c.cls / 8))
    (hst : getStringtable elfEnv (S c) data ifc d = .ok (some tab)) (hserve : Serves data tab strtab)
    (hstr : StringsOk (sunw c) strtab tags) :
    iterTags elfEnv (S c) data ifc d none = .error .elfParseError ∧
    numTags elfEnv (S c) data ifc d = .error .elfParseError ∧
    (∀ n (hn : n < tags.length),
      getTag elfEnv (S c) data ifc d n = .ok (obsEntry elfEnv (tbl c) (sunw c) strtab tags[n])) ∧
    getTag elfEnv (S c) data ifc d tags.length = .error .elfParseError :=
  tags_trunc ⟨V, hnt, hend⟩ (tag_facts c).null hst (tag_facts c).attr hserve hstr

/-! ## whole files: the two layouts of one description -/

/-- what the property observes through a dynamic object: `list(iter_tags())` (entries with their
    strings) and `num_tags()` -/
structure TagObs where
  tags : R (List DTag)
  numTags : R Nat

def tagObs (f : ElfFile) (dy : Dyn) : TagObs :=
  ⟨iterTags elfEnv f.S f.data (realIfc elfEnv f) dy none, numTags elfEnv f.S f.data (realIfc elfEnv f) dy⟩

/-- `obs`, section side: open the image, take its first `DynamicSection` (none in a stripped image) -/
def secObs (bytes : Bytes) : R (Option TagObs) := do
  let f ← openElf elfEnv C01.specStructs C01.specMachineClass bytes
  match ← dynamicSection elfEnv f with
  | none => return none
  | some dy => return some (tagObs f dy)

/-- `obs`, segment side (tags): open the image, take its first `DynamicSegment` -/
def segObs (bytes : Bytes) : R (Option TagObs) := do
  let f ← openElf elfEnv C01.specStructs C01.specMachineClass bytes
  match ← dynamicSegment elfEnv f with
  | none => return none
  | some dy => return some (tagObs f dy)

/-- what must be observed (Spec/Dynamic.lean `obsTags`, `DynDesc.live`) -/
def specTagObs (d : DynDesc) : TagObs :=
  ⟨.ok (d.live.map (obsEntry elfEnv (tbl d.cfg) (sunw d.cfg) d.strtab)), .ok d.live.length⟩

/-- `specTagObs` is the Spec's `obsTags` (the `expect` of the correspondence check) -/
theorem specTagObs_eq (d : DynDesc) :
    obsTags elfEnv d = (specTagObs d).tags.map (·.map fun t => (t.entry, t.attr)) := by
  unfold obsTags specTagObs
  simp only [Except.map]
  have : ∀ l : List (Int × Nat), l.mapM (obsTag elfEnv d)
      = .ok ((l.map (obsEntry elfEnv (tbl d.cfg) (sunw d.cfg) d.strtab)).map fun t => (t.entry, t.attr)) := by
    intro l
    induction l with
    | nil => rfl
    | cons t l ih =>
      have h1 : obsTag elfEnv d t = .ok ((obsEntry elfEnv (tbl d.cfg) (sunw d.cfg) d.strtab t).entry,
          (obsEntry elfEnv (tbl d.cfg) (sunw d.cfg) d.strtab t).attr) := by
        unfold obsTag
        have : d.S.Elf_Dyn = dynCon d.le d.w (tbl d.cfg) := spec_dyn d.cfg
        rw [this, decodeRaw_dyn]
        simp only [bind, Except.bind, obsEntry]
        have hs : d.sunw = sunw d.cfg := rfl
        rw [hs]
        cases stringAttr (sunw d.cfg) t.1 <;> rfl
      simp [List.mapM_cons, h1, ih, bind, Except.bind, pure, Except.pure]
  exact this d.live

theorem segObs_of {d : DynDesc} {full : Bool} {bytes : Bytes} {f : ElfFile} {dy : Dyn}
    (X : SegBase elfEnv d full bytes f dy) {a : R (List DTag)} {b : R Nat}
    (e1 : iterTags elfEnv d.S f.data (realIfc elfEnv f) dy none = a)
    (e2 : numTags elfEnv d.S f.data (realIfc elfEnv f) dy = b) : segObs bytes = .ok (some ⟨a, b⟩) := by
  unfold segObs
  simp only [X.opened, X.seg, bind, Except.bind, pure, Except.pure, tagObs, X.S, e1, e2]

theorem secObs_of {d : DynDesc} {bytes : Bytes} {f : ElfFile} {dy : Dyn} {tab : StrTab}
    (hopen : openElf elfEnv C01.specStructs C01.specMachineClass bytes = .ok f) (hS : f.S = d.S)
    (Y : SecSide elfEnv d bytes f dy tab) {a : R (List DTag)} {b : R Nat}
    (e1 : iterTags elfEnv d.S f.data (realIfc elfEnv f) dy none = a)
    (e2 : numTags elfEnv d.S f.data (realIfc elfEnv f) dy = b) : secObs bytes = .ok (some ⟨a, b⟩) := by
  unfold secObs
  simp only [hopen, Y.sec, bind, Except.bind, pure, Except.pure, tagObs, hS, e1, e2]

/-- `obs`, segment side (symbols): `list(iter_symbols())` and `num_symbols()` of the image's
    `DynamicSegment` -/
structure SymObs where
  symbols : R (List (Bytes × Val))
  numSymbols : R Nat

def symObs (bytes : Bytes) : R (Option SymObs) := do
  let f ← openElf elfEnv C01.specStructs C01.specMachineClass bytes
  match ← dynamicSegment elfEnv f with
  | none => return none
  | some dy =>
    let segs := iterSegments elfEnv f.S f.data f.header f.shstr
    return some ⟨iterSymbols elfEnv f.S f.data (realIfc elfEnv f) dy segs f.le,
                 numSymbols elfEnv f.S f.data (realIfc elfEnv f) dy segs f.le⟩

/-- what must be observed (Spec/Dynamic.lean `obsSyms`; the true count) -/
def specSymObs (d : DynDesc) : SymObs := ⟨obsSyms elfEnv d, .ok d.syms.length⟩

/-- `obs`, segment side (lookup): `get_symbol_by_name(q)` of the image's `DynamicSegment` -/
def byNameObs (bytes : Bytes) (q : Bytes) : R (Option (R (Option (List (Bytes × Val))))) := do
  let f ← openElf elfEnv C01.specStructs C01.specMachineClass bytes
  match ← dynamicSegment elfEnv f with
  | none => return none
  | some dy =>
    let segs := iterSegments elfEnv f.S f.data f.header f.shstr
    return some (getSymbolByName elfEnv f.S f.data (realIfc elfEnv f) dy segs f.le q)

theorem symObs_of {d : DynDesc} {full : Bool} {bytes : Bytes} {f : ElfFile} {dy : Dyn}
    (X : SegBase elfEnv d full bytes f dy) {a : R (List (Bytes × Val))} {b : R Nat}
    (e1 : iterSymbols elfEnv d.S f.data (realIfc elfEnv f) dy (iterSegments elfEnv d.S f.data f.header f.shstr) d.le = a)
    (e2 : numSymbols elfEnv d.S f.data (realIfc elfEnv f) dy (iterSegments elfEnv d.S f.data f.header f.shstr) d.le = b) :
    symObs bytes = .ok (some ⟨a, b⟩) := by
  unfold symObs
  simp only [X.opened, X.seg, bind, Except.bind, pure, Except.pure, X.S, X.le, e1, e2]

theorem byNameObs_of {d : DynDesc} {full : Bool} {bytes : Bytes} {f : ElfFile} {dy : Dyn}
    (X : SegBase elfEnv d full bytes f dy) (q : Bytes) {a : R (Option (List (Bytes × Val)))}
    (e : getSymbolByName elfEnv d.S f.data (realIfc elfEnv f) dy (iterSegments elfEnv d.S f.data f.header f.shstr) d.le q
      = a) : byNameObs bytes q = .ok (some a) := by
  unfold byNameObs
  simp only [X.opened, X.seg, bind, Except.bind, pure, Except.pure, X.S, X.le, e]

/-- what a reader without a usable hash table must be expected to report as the count
    (Spec/DynamicExt.lean) -/
def specFallbackCount (d : DynDesc) : R Nat :=
  if symentOk d.symsz d.live then
    (match d.fallbackCount elfEnv with
     | some n => .ok n
     | none => .error .typeError)
  else .error .elfError

/-- `get_table_offset` through the `DynamicSegment` of either layout: the pointer of the first live
    entry and the file offset the described PT_LOADs give it (Spec `obsTableOffset`), for the tags
    the reader itself follows — the same answer from the stripped and the full image -/
theorem seg_table_offsets_exact (d : DynDesc) (full : Bool) (bytes : Bytes)
    (hc : (d.container full).wf elfEnv = true) (hd : d.wf elfEnv full = true)
    (hl : DynLayout d full bytes) (hsmall : bytes.length < 2 ^ 63) :
    ∃ f dy, openElf elfEnv C01.specStructs C01.specMachineClass bytes = .ok f ∧
      dynamicSegment elfEnv f = .ok (some dy) ∧
      ∀ nc ∈ [("DT_STRTAB", DT_STRTAB), ("DT_SYMTAB", DT_SYMTAB), ("DT_HASH", DT_HASH), ("DT_GNU_HASH", DT_GNU_HASH)],
        getTableOffset elfEnv f.S f.data (realIfc elfEnv f) dy nc.1 = .ok (obsTableOffset elfEnv d nc.2) := by
  obtain ⟨f, dy, X⟩ := segBase_of sh_types hc (wf_base hd) hl hsmall
  refine ⟨f, dy, X.opened, X.seg, ?_⟩
  intro nc hnc
  have := table_offset_exact d.cfg f.data (realIfc elfEnv f) dy d.tags (d.phdrs elfEnv) X.view' (dyn_wf hd).term X.segs
    nc hnc
  rw [X.S]
  rw [show getTableOffset elfEnv d.S f.data (realIfc elfEnv f) dy nc.1 = _ from this]
  unfold obsTableOffset DynDesc.live
  cases firstVal (liveTags d.tags) nc.2 <;> rfl

theorem sec_stripped_none (d : DynDesc) (bytes : Bytes)
    (hc : (d.container false).wf elfEnv = true) (hd : d.wf elfEnv false = true)
    (hl : DynLayout d false bytes) :
    secObs bytes = .ok none := by
  obtain ⟨hdr, st, -, X, -, hopen, -, -⟩ := image_opened hc hl
  unfold secObs
  simp [C01.specStructs_eq, C01.specMachineClass_eq, hopen, dynamicSection_stripped X, bind, Except.bind, pure,
    Except.pure]

/-- the tags and strings of one layout through its `DynamicSegment`, by whichever route the string
    table is reached (`DynDesc.wfTags`: terminator, strings terminated, `strOk`; `DynDesc.wf` implies the
    hypotheses: `wf_base`, `wf_tags`), the route through the section called `.dynstr` included -/
theorem seg_tags_exact_routes (d : DynDesc) (full : Bool) (bytes : Bytes)
    (hc : (d.container full).wf elfEnv = true) (hb : d.wfBase elfEnv = true) (ht : d.wfTags elfEnv full = true)
    (hl : DynLayout d full bytes) (hsmall : bytes.length < 2 ^ 63) :
    segObs bytes = .ok (some (specTagObs d)) := by
  have F := tag_facts d.cfg
  obtain ⟨f, dy, X⟩ := segBase_of sh_types hc hb hl hsmall
  obtain ⟨tab, R⟩ := X.ready F.null F.strtab ht
  have e := tags_exact d.cfg f.data (realIfc elfEnv f) dy d.tags d.strtab tab R.view R.term R.strtab R.serves R.tagStrs
  exact segObs_of X e.1 e.2

/-- the tags and strings of the full layout through its `DynamicSection`, from the container part
    of the well-formedness alone: the section link serves the strings whether or not the table
    holds a (mapped) DT_STRTAB. -/
theorem sec_tags_exact_base (d : DynDesc) (bytes : Bytes)
    (hc : (d.container true).wf elfEnv = true) (hb : d.wfBase elfEnv = true)
    (hterm : hasTerminator d.tags = true) (hstrs : stringsOk d = true)
    (hl : DynLayout d true bytes) (hsmall : bytes.length < 2 ^ 63) :
    secObs bytes = .ok (some (specTagObs d)) := by
  obtain ⟨hdr, st, dy, tab, hopen, Y⟩ := secSide_base sh_types hc hb hl hsmall
  have e := tags_exact d.cfg bytes _ dy d.tags d.strtab tab Y.view hterm Y.strtab Y.serves (stringsOk_tags hstrs)
  exact secObs_of (by rw [C01.specStructs_eq, C01.specMachineClass_eq]; exact hopen) rfl Y e.1 e.2

/-- the common core: the `DynamicSegment` of a layout, string table reached by any route, DT_SYMTAB
    designating the symbol table, and a recovered count that is the true count — then the symbols,
    their count and every lookup by name are the described ones -/
theorem seg_symbols_core (d : DynDesc) (full : Bool) (bytes : Bytes) (f : ElfFile) (dy : Dyn)
    (X : SegBase elfEnv d full bytes f dy) (ht : d.wfTags elfEnv full = true) (hs : d.wfSyms elfEnv = true)
    (hnum : numSymbols elfEnv d.S f.data (realIfc elfEnv f) dy (iterSegments elfEnv d.S f.data f.header f.shstr) d.le
      = .ok d.syms.length) :
    symObs bytes = .ok (some (specSymObs d)) ∧ (∃ ss, obsSyms elfEnv d = .ok ss ∧ ss.length = d.syms.length) ∧
    ∀ q, byNameObs bytes q = .ok (some (obsByName elfEnv d q)) := by
  have F := tag_facts d.cfg
  obtain ⟨tab, R⟩ := X.ready F.null F.strtab ht
  obtain ⟨sb, rest, hsb, hrest⟩ := X.symsAt
  obtain ⟨a, ha, ho⟩ := ptrOk_some hs
  obtain ⟨es, Y⟩ := symView_of elfEnv d.cfg f.data d.symOff d.syms sb rest hsb hrest
  have hobs := obsSyms_eq (d := d) Y
  obtain ⟨L, hL, hit, hget⟩ := symbols_view R.view F.null R.term X.segs F.symtab ha ho Y R.strtab R.serves R.symStrs
    (le' := d.le) hnum
  rw [← hL] at hobs
  refine ⟨symObs_of X (hit.trans hobs.symm) hnum, ⟨_, hobs, by simp [hL]⟩, fun q => ?_⟩
  rw [obsByName_eq hobs q]
  exact byNameObs_of X q (getSymbolByName_of (le := d.le) hit hget q)

theorem seg_count_hash (d : DynDesc) (full : Bool) (bytes : Bytes) (f : ElfFile) (dy : Dyn)
    (X : SegBase elfEnv d full bytes f dy) (hterm : hasTerminator d.tags = true) (hh : d.wfHash elfEnv = true)
    (hok : hashOk d = true) :
    numSymbols elfEnv d.S f.data (realIfc elfEnv f) dy (iterSegments elfEnv d.S f.data f.header f.shstr) d.le
      = .ok d.syms.length := by
  exact num_symbols_exact d.cfg f.data (realIfc elfEnv f) dy d.tags (d.phdrs elfEnv) X.view' hterm X.segs _ d.syms.length
    (X.hashAt hh hok)

/-- the dynamic symbols, their count and every lookup by name of one layout through its
    `DynamicSegment`, string table by any route, when a well-formed hash table is present -/
theorem seg_by_name_exact (d : DynDesc) (full : Bool) (bytes : Bytes)
    (hc : (d.container full).wf elfEnv = true) (hb : d.wfBase elfEnv = true) (ht : d.wfTags elfEnv full = true)
    (hs : d.wfSyms elfEnv = true) (hh : d.wfHash elfEnv = true) (hok : hashOk d = true)
    (hl : DynLayout d full bytes) (hsmall : bytes.length < 2 ^ 63) :
    symObs bytes = .ok (some (specSymObs d)) ∧ (∃ ss, obsSyms elfEnv d = .ok ss ∧ ss.length = d.syms.length) ∧
    ∀ q, byNameObs bytes q = .ok (some (obsByName elfEnv d q)) := by
  obtain ⟨f, dy, X⟩ := segBase_of sh_types hc hb hl hsmall
  exact seg_symbols_core d full bytes f dy X ht hs (seg_count_hash d full bytes f dy X (wfTags_parts ht).1 hh hok)

/-- The statement of the design: `WF d → obs (assembleStripped d) = obs (assembleFull d)`, for any
    two byte strings carrying the two layouts of one description.  `DynDesc.WF`: the dynamic
    information is well formed in both layouts and both containers are well-formed ELF descriptions
    in the sense of C01.  The `DynamicSegment` of the image without section headers, the
    `DynamicSegment` of the image with them and its `DynamicSection` (whether the `.dynamic` section
    sits at the segment's offset or elsewhere) report the same entries, strings and count — the
    ones the description holds — and, when a well-formed hash table is present, the same dynamic
    symbols and symbol count.  Nothing is assumed of the container accessors of `ELFFile`: what
    C01 establishes of an opened file (`Proofs.opened`, `Setup.segAt`: Proofs/ElfView.lean;
    `Setup.secAt`, `Setup.numSections`: Proofs/ElfFile.lean) is applied to `DynDesc.container`. -/
theorem segment_view_eq_section_view (d : DynDesc) (imgF imgS : Bytes) (hwf : d.WF elfEnv = true)
    (hF : DynLayout d true imgF) (hS : DynLayout d false imgS)
    (hsF : imgF.length < 2 ^ 63) (hsS : imgS.length < 2 ^ 63) :
    segObs imgS = secObs imgF ∧ segObs imgS = segObs imgF ∧
    secObs imgF = .ok (some (specTagObs d)) ∧ secObs imgS = .ok none ∧
    (hashOk d = true → symObs imgS = symObs imgF ∧ symObs imgF = .ok (some (specSymObs d))) := by
  have W := WF_parts hwf
  have h1 := seg_tags_exact_routes d false imgS W.cStripped (wf_base W.stripped) (wf_tags W.stripped) hS hsS
  have h2 := seg_tags_exact_routes d true imgF W.cFull (wf_base W.full) (wf_tags W.full) hF hsF
  have h3 := sec_tags_exact_base d imgF W.cFull (wf_base W.full) (dyn_wf W.full).term (dyn_wf W.full).strings hF hsF
  refine ⟨h1.trans h3.symm, h1.trans h2.symm, h3, sec_stripped_none d imgS W.cStripped W.stripped hS, ?_⟩
  intro hh
  have s1 := (seg_by_name_exact d false imgS W.cStripped (wf_base W.stripped) (wf_tags W.stripped) (wf_syms W.stripped) (wf_hash W.stripped) hh hS hsS).1
  have s2 := (seg_by_name_exact d true imgF W.cFull (wf_base W.full) (wf_tags W.full) (wf_syms W.full) (wf_hash W.full) hh hF hsF).1
  exact ⟨s1.trans s2.symm, s2⟩

/-- the same for the images the assembler produces -/
theorem segment_view_eq_section_view_assembled (d : DynDesc) (imgF imgS : Bytes) (hwf : d.WF elfEnv = true)
    (hF : d.assemble true = some imgF) (hS : d.assemble false = some imgS)
    (hsF : imgF.length < 2 ^ 63) (hsS : imgS.length < 2 ^ 63) :
    segObs imgS = secObs imgF ∧ segObs imgS = segObs imgF ∧
    secObs imgF = .ok (some (specTagObs d)) ∧ secObs imgS = .ok none ∧
    (hashOk d = true → symObs imgS = symObs imgF ∧ symObs imgF = .ok (some (specSymObs d))) := by
  exact segment_view_eq_section_view d imgF imgS hwf (assemble_dynLayout (WF_parts hwf).full hF)
    (assemble_dynLayout (WF_parts hwf).stripped hS) hsF hsS

/-- `by_name_exact` of the design: for the two layouts of one well-formed description with a
    well-formed hash table, `get_symbol_by_name(q)` on the `DynamicSegment` of the image without
    section headers and on that of the image with them give the same answer, namely the described
    one: every described symbol bearing the name `q` (duplicates included), in index order, each
    with its name and decoded entry; `None` when no symbol bears it. -/
theorem by_name_exact (d : DynDesc) (imgF imgS : Bytes) (hwf : d.WF elfEnv = true)
    (hF : DynLayout d true imgF) (hS : DynLayout d false imgS)
    (hsF : imgF.length < 2 ^ 63) (hsS : imgS.length < 2 ^ 63) (hok : hashOk d = true) (q : Bytes) :
    byNameObs imgS q = byNameObs imgF q ∧ byNameObs imgF q = .ok (some (obsByName elfEnv d q)) ∧
    ∃ ss, obsSyms elfEnv d = .ok ss ∧ ss.length = d.syms.length ∧ obsByName elfEnv d q = .ok (byNameOf ss q) := by
  have W := WF_parts hwf
  have h1 := seg_by_name_exact d true imgF W.cFull (wf_base W.full) (wf_tags W.full) (wf_syms W.full) (wf_hash W.full) hok hF hsF
  have h2 := seg_by_name_exact d false imgS W.cStripped (wf_base W.stripped) (wf_tags W.stripped) (wf_syms W.stripped) (wf_hash W.stripped) hok hS hsS
  obtain ⟨ss, hss, hlen⟩ := h1.2.1
  exact ⟨(h2.2.2 q).trans (h1.2.2 q).symm, h1.2.2 q, ss, hss, hlen, obsByName_eq hss q⟩

/-- the same for the images the assembler produces -/
theorem by_name_exact_assembled (d : DynDesc) (imgF imgS : Bytes) (hwf : d.WF elfEnv = true)
    (hF : d.assemble true = some imgF) (hS : d.assemble false = some imgS)
    (hsF : imgF.length < 2 ^ 63) (hsS : imgS.length < 2 ^ 63) (hok : hashOk d = true) (q : Bytes) :
    byNameObs imgS q = byNameObs imgF q ∧ byNameObs imgF q = .ok (some (obsByName elfEnv d q)) := by
  have := by_name_exact d imgF imgS hwf (assemble_dynLayout (WF_parts hwf).full hF)
    (assemble_dynLayout (WF_parts hwf).stripped hS) hsF hsS hok q
  exact ⟨this.1, this.2.1⟩

theorem seg_count_fallback (d : DynDesc) (full : Bool) (bytes : Bytes) (f : ElfFile) (dy : Dyn)
    (X : SegBase elfEnv d full bytes f dy) (ht : d.wfTags elfEnv full = true) (hs : d.wfSyms elfEnv = true)
    (hno : d.noHash elfEnv = true) :
    numSymbols elfEnv d.S f.data (realIfc elfEnv f) dy (iterSegments elfEnv d.S f.data f.header f.shstr) d.le
      = specFallbackCount d := by
  have F := tag_facts d.cfg
  obtain ⟨tab, R⟩ := X.ready F.null F.strtab ht
  obtain ⟨a, ha, ho⟩ := ptrOk_some hs
  obtain ⟨gs, hsegs, hgs⟩ := X.iterSegs
  rw [X.S] at hsegs
  simp only [DynDesc.noHash, Bool.and_eq_true, Option.isNone_iff_eq_none] at hno
  have := num_symbols_fallback d.cfg f.data (realIfc elfEnv f) dy d.tags (d.phdrs elfEnv) R.view R.term X.segs
    (iterSegments elfEnv d.S f.data f.header f.shstr) gs hsegs hgs hno.1 hno.2 a d.symOff ha ho tab d.strtab R.strtab
    R.serves R.tagStrs
  rw [show numSymbols elfEnv d.S f.data (realIfc elfEnv f) dy (iterSegments elfEnv d.S f.data f.header f.shstr) d.le = _
    from this]
  unfold specFallbackCount DynDesc.fallbackCount
  rw [fallbackCount_of_symtab ha, show liveTags d.tags = d.live from rfl]
  cases fallbackEnd (d.phdrs elfEnv) d.live a <;> rfl

/-- the count of one layout through its `DynamicSegment`, no hash table reachable: the estimate of
    Spec/DynamicExt.lean (`specFallbackCount`), whether or not it is the true count -/
theorem seg_num_symbols_fallback (d : DynDesc) (full : Bool) (bytes : Bytes)
    (hc : (d.container full).wf elfEnv = true) (hb : d.wfBase elfEnv = true) (ht : d.wfTags elfEnv full = true)
    (hs : d.wfSyms elfEnv = true) (hno : d.noHash elfEnv = true)
    (hl : DynLayout d full bytes) (hsmall : bytes.length < 2 ^ 63) :
    ∃ so, symObs bytes = .ok (some so) ∧ so.numSymbols = specFallbackCount d := by
  obtain ⟨f, dy, X⟩ := segBase_of sh_types hc hb hl hsmall
  have := seg_count_fallback d full bytes f dy X ht hs hno
  exact ⟨_, symObs_of X rfl rfl, this⟩

/-- No hash table reachable, DT_SYMENT consistent, and the
    estimate is the true count (`fallbackExact`: by `num_symbols_fallback_exact_iff`, the nearest
    entry value above the symbol table's address — or the covering segment's end — is less than one
    record past the table's end): the symbols, their count and every lookup by name are the
    described ones, from either layout. -/
theorem seg_symbols_exact_fallback (d : DynDesc) (full : Bool) (bytes : Bytes)
    (hc : (d.container full).wf elfEnv = true) (hb : d.wfBase elfEnv = true) (ht : d.wfTags elfEnv full = true)
    (hs : d.wfSyms elfEnv = true) (hno : d.noHash elfEnv = true)
    (hse : symentOk d.symsz d.live = true) (hex : d.fallbackExact elfEnv = true)
    (hl : DynLayout d full bytes) (hsmall : bytes.length < 2 ^ 63) :
    symObs bytes = .ok (some (specSymObs d)) ∧ (∃ ss, obsSyms elfEnv d = .ok ss ∧ ss.length = d.syms.length) ∧
    ∀ q, byNameObs bytes q = .ok (some (obsByName elfEnv d q)) := by
  obtain ⟨f, dy, X⟩ := segBase_of sh_types hc hb hl hsmall
  have hn := seg_count_fallback d full bytes f dy X ht hs hno
  have hex' : d.fallbackCount elfEnv = some d.syms.length := by
    simpa [DynDesc.fallbackExact] using hex
  have : specFallbackCount d = .ok d.syms.length := by
    simp [specFallbackCount, hse, hex']
  rw [this] at hn
  exact seg_symbols_core d full bytes f dy X ht hs hn

/-- … and when the estimate is NOT the true count the count reported is the estimate, i.e. wrong:
    the fallback is exact only under `fallbackExact` -/
theorem seg_num_symbols_fallback_inexact (d : DynDesc) (full : Bool) (bytes : Bytes)
    (hc : (d.container full).wf elfEnv = true) (hb : d.wfBase elfEnv = true) (ht : d.wfTags elfEnv full = true)
    (hs : d.wfSyms elfEnv = true) (hno : d.noHash elfEnv = true)
    (hse : symentOk d.symsz d.live = true) (hex : d.fallbackExact elfEnv = false)
    (hl : DynLayout d full bytes) (hsmall : bytes.length < 2 ^ 63) :
    ∃ so, symObs bytes = .ok (some so) ∧ so.numSymbols ≠ .ok d.syms.length := by
  obtain ⟨so, h1, h2⟩ := seg_num_symbols_fallback d full bytes hc hb ht hs hno hl hsmall
  refine ⟨so, h1, ?_⟩
  rw [h2]
  unfold specFallbackCount
  simp only [hse, if_true]
  have hne : d.fallbackCount elfEnv ≠ some d.syms.length := by
    intro h; simp [DynDesc.fallbackExact, h] at hex
  cases hf : d.fallbackCount elfEnv with
  | none => simp
  | some n =>
    intro h
    cases h
    exact hne hf

/-- the tags of the image without section headers whose DT_STRTAB is absent or outside every
    PT_LOAD: ELFError from both enumerations -/
theorem seg_tags_no_strtab (d : DynDesc) (bytes : Bytes)
    (hc : (d.container false).wf elfEnv = true) (hb : d.wfBase elfEnv = true)
    (hterm : hasTerminator d.tags = true) (hr : d.strRoute elfEnv false = .none)
    (hl : DynLayout d false bytes) (hsmall : bytes.length < 2 ^ 63) :
    segObs bytes = .ok (some ⟨.error .elfError, .error .elfError⟩) := by
  have F := tag_facts d.cfg
  obtain ⟨f, dy, X⟩ := segBase_of sh_types hc hb hl hsmall
  have hst := strtab_none X F.null F.strtab hterm hr
  have V : View d.cfg f.data dy d.tags := X.view'
  have e := tags_without_stringtable d.cfg f.data (realIfc elfEnv f) dy d.tags V hterm hst
  exact segObs_of X e.1 e.2.1

/-- the tags of a layout whose table runs off the end of the image, string table by the section
    link or a stored DT_STRTAB: ELFParseError from both enumerations -/
theorem seg_tags_truncated (d : DynDesc) (full : Bool) (bytes : Bytes)
    (hc : (d.container full).wf elfEnv = true) (hb : d.wfBase elfEnv = true)
    (hnt : hasTerminator d.tags = false) (hstrs : stringsOk d = true)
    (hok : d.strOk elfEnv full = true) (hr : d.strRoute elfEnv full ≠ .byName)
    (hl : DynLayout d full bytes) (hsmall : bytes.length < 2 ^ 63)
    (hend : bytes.length < d.dynOff + d.tags.length * (2 * d.w) + 2 * d.w) :
    segObs bytes = .ok (some ⟨.error .elfParseError, .error .elfParseError⟩) := by
  have F := tag_facts d.cfg
  obtain ⟨f, dy, X⟩ := segBase_of sh_types hc hb hl hsmall
  have T := truncView_of X hnt hend
  obtain ⟨tab, hst, hserve⟩ := strtab_of_route X (strOff_trunc X T F.null F.strtab hok hr) hok
  have V : View d.cfg f.data dy d.tags := X.view'
  have hstr : StringsOk (sunw d.cfg) d.strtab d.tags := by
    have := stringsOk_tags hstrs
    rwa [live_noTerm hnt] at this
  have hend' : f.data.length < dy.offset + d.tags.length * (2 * (d.cfg.cls / 8)) + 2 * (d.cfg.cls / 8) := by
    rw [X.data, X.offset]; exact hend
  have e := tags_truncated d.cfg f.data (realIfc elfEnv f) dy d.tags d.strtab tab V hnt hend' hst hserve hstr
  exact segObs_of X e.1 e.2.1

/-- DT_SYMTAB absent or outside every PT_LOAD and no hash table reachable, whole file: the count,
    the enumeration and every lookup by name raise ELFError (no string table is needed to say so) -/
theorem seg_symbols_unmapped (d : DynDesc) (full : Bool) (bytes : Bytes)
    (hc : (d.container full).wf elfEnv = true) (hb : d.wfBase elfEnv = true)
    (hterm : hasTerminator d.tags = true) (hno : d.noHash elfEnv = true)
    (hun : ((firstVal d.live DT_SYMTAB).bind (mapAddr (d.phdrs elfEnv))).isNone = true)
    (hl : DynLayout d full bytes) (hsmall : bytes.length < 2 ^ 63) :
    symObs bytes = .ok (some ⟨.error .elfError, .error .elfError⟩) ∧
    ∀ q, byNameObs bytes q = .ok (some (.error .elfError)) := by
  obtain ⟨f, dy, X⟩ := segBase_of sh_types hc hb hl hsmall
  have V : View d.cfg f.data dy d.tags := X.view'
  simp only [DynDesc.noHash, Bool.and_eq_true, Option.isNone_iff_eq_none] at hno
  simp only [Option.isNone_iff_eq_none] at hun
  obtain ⟨h1, h2, h3⟩ := (symbol_table_unmapped d.cfg f.data (realIfc elfEnv f) dy d.tags (d.phdrs elfEnv) V hterm X.segs
    (iterSegments elfEnv d.S f.data f.header f.shstr) hun).2 hno.1 hno.2
  exact ⟨symObs_of X h2 h1, fun q => byNameObs_of X q (h3 q)⟩

/-- the whole-file theorems speak of any byte string carrying a layout; the assembler's output
    is one whenever the regions do not overlap (descriptions outside `DynDesc.wf` included) -/
theorem assembled_is_layout (d : DynDesc) (full : Bool) (bytes : Bytes) (hok : d.regionsOk full = true)
    (h : d.assemble full = some bytes) : DynLayout d full bytes :=
  assemble_dynLayout_of_regionsOk hok h

/-- For ANY image and ANY dynamic table (no well-formedness): the k-th call of
    `num_symbols()` on one object answers what the first call on a fresh object answers — the stateless count
    `numSymbols` all the count theorems are about — also after calls that raised (nothing is assigned then). -/
theorem num_symbols_history_independent (env : Env) (S : ElfStructs) (data : Bytes) (ifc : FileIfc) (d : Dyn)
    (iterSegs : R (List (String × Val))) (le : Bool) (k : Nat) :
    (numHist env S data ifc d iterSegs le k).1 = List.replicate k (numSymbols env S data ifc d iterSegs le) := by
  unfold numHist
  rw [(Proofs.SigCache.run_answers _ _ _ _ (Proofs.SigCache.inv_init _)).1, List.map_replicate]
  congr 1
  unfold Model.SigCache.stateless numScan
  cases numSymbols env S data ifc d iterSegs le <;> rfl

/-- For ANY image: after ANY history of `get_symbol_by_name` calls on one object —
    repeated names, absent names, calls whose walk raised — every answer is the stateless `getSymbolByName` (the
    function `by_name_exact` / `seg_by_name_exact` / `by_name_of_enumeration` are about). -/
theorem by_name_history_independent (env : Env) (S : ElfStructs) (data : Bytes) (ifc : FileIfc) (d : Dyn)
    (iterSegs : R (List (String × Val))) (le : Bool) (qs : List Bytes) :
    (nameHist env S data ifc d iterSegs le qs).1 = qs.map (getSymbolByName env S data ifc d iterSegs le) := by
  unfold nameHist
  rw [(Proofs.SigCache.run_answers _ _ _ _ (Proofs.SigCache.inv_init _)).1]
  apply List.map_congr_left
  intro q _
  unfold Model.SigCache.stateless nameScan getSymbolByName nameLook
  cases iterSymbols env S data ifc d iterSegs le <;> rfl

/-- composed with `by_name_of_enumeration`: over any object whose enumeration is exact, after ANY history of
    `get_symbol_by_name` calls every answer is "all enumerated symbols bearing the name, in index order, or None" -/
theorem by_name_of_enumeration_any_history (c : ElfCfg) (data : Bytes) (ifc : FileIfc) (d : Dyn)
    (iterSegs : R (List (String × Val))) (L : List (Bytes × Val))
    (hit : iterSymbols elfEnv (S c) data ifc d iterSegs c.le = .ok L)
    (hget : ∀ i (h : i < L.length), getSymbol elfEnv (S c) data ifc d i = .ok L[i]) (qs : List Bytes) :
    (nameHist elfEnv (S c) data ifc d iterSegs c.le qs).1 = qs.map (fun q => .ok (byNameOf L q)) := by
  rw [by_name_history_independent]
  exact List.map_congr_left (fun q _ => by_name_of_enumeration c data ifc d iterSegs L hit hget q)

/-- a walk that raised publishes no name map: the next call walks again (the map is assigned only after the whole walk) -/
theorem by_name_failed_walk_publishes_nothing (env : Env) (S : ElfStructs) (data : Bytes) (ifc : FileIfc) (d : Dyn)
    (iterSegs : R (List (String × Val))) (le : Bool) (e : Err)
    (he : iterSymbols env S data ifc d iterSegs le = .error e) (qs : List Bytes) :
    (nameHist env S data ifc d iterSegs le qs).2.map.isSome = false := by
  unfold nameHist
  rw [Proofs.SigCache.run_published]
  unfold nameScan
  rw [he]
  simp

example : hasTerminator [(DT_NEEDED, 1), (DT_STRTAB, 0x1000), (DT_NULL, 0), (DT_NEEDED, 99)] = true := by decide +kernel
example : liveTags [(DT_NEEDED, 1), (DT_NEEDED, 1), (DT_NULL, 0), (DT_NEEDED, 99), (DT_NULL, 0)]
    = [(DT_NEEDED, 1), (DT_NEEDED, 1), (DT_NULL, 0)] := by decide +kernel
example : strAt [0, 0x6c, 0x69, 0x62, 0x63, 0] 1 = some [0x6c, 0x69, 0x62, 0x63] := by decide +kernel
example : (SysvHash.mk [1, 0] [0, 0, 1]).wf 3 = true := by decide +kernel
example : (GnuHash.mk 1 [0xdeadbeef] 6 [[0x7c92e3bb, 0x0b887389], [], [0x10]]).wf 4 = true := by decide +kernel
example : bucketStarts 1 [[0x7c92e3bb, 0x0b887389], [], [0x10]] = [1, 0, 3] := by decide +kernel
example : chainWords [0x7c92e3bb, 0x0b887389] = [0x7c92e3ba, 0x0b887389] := by decide +kernel
example : mapAddr [.record [("p_type", .str "PT_LOAD"), ("p_offset", .int 0x200), ("p_vaddr", .int 0), ("p_filesz", .int 0x80)]] 0
    = some 0x200 := by decide +kernel

/-- a concrete object satisfying `View`: a 64-bit LSB table NEEDED, STRTAB, NULL, (trailing) NEEDED
    stored 3 bytes into a byte string and followed by 2 more bytes -/
def exCfg : ElfCfg := ⟨true, 64, "default", false, false⟩
def exTags : List (Int × Nat) := [(DT_NEEDED, 1), (DT_STRTAB, 0x1000), (DT_NULL, 0), (DT_NEEDED, 99)]
def w8 (n : Nat) : Bytes := [UInt8.ofNat n, 0, 0, 0, 0, 0, 0, 0]
def exTable : Bytes := w8 1 ++ w8 1 ++ w8 5 ++ [0, 0x10, 0, 0, 0, 0, 0, 0] ++ w8 0 ++ w8 0 ++ w8 1 ++ w8 99
def exData : Bytes := [1, 2, 3] ++ exTable ++ [4, 5]

theorem exTable_enc : encAll (dynCon true 8 (tbl exCfg)) (exTags.map rawTag) = some exTable := by
  simp [encAll, exTags, rawTag, dynCon, st, mkFields, f, enumOf, Con.encodeRaw, ConFields.encodeRaw, Fields.get?,
    DT_NEEDED, DT_STRTAB, DT_NULL, bind, Option.bind, pure]
  decide

theorem exView : View exCfg exData ⟨none, 3, false, 16⟩ exTags where
  con := rfl
  wpos := by decide +kernel
  nonempty := rfl
  tagsize := rfl
  placed := ⟨exTable, [4, 5], exTable_enc, by decide +kernel⟩
  small := by decide +kernel

example : View exCfg exData ⟨none, 3, false, 16⟩ exTags := exView

example : hasTerminator exTags = true ∧ liveTags exTags = [(DT_NEEDED, 1), (DT_STRTAB, 0x1000), (DT_NULL, 0)] := by decide +kernel

/-- a concrete file object satisfying `SegsView` -/
def exPhdr : Val := .record [("p_type", .str "PT_LOAD"), ("p_offset", .int 0x200), ("p_vaddr", .int 0x1000), ("p_filesz", .int 0x80)]
example : SegsView ⟨.ok 1, fun _ => .ok ("Segment", exPhdr), fun _ => .ok none⟩ [exPhdr] where
  num := rfl
  get := fun i hi => ⟨"Segment", by
    have : i = 0 := by simpa using hi
    subst this; rfl⟩
  ok := fun h hh => by
    have : h = exPhdr := by simpa using hh
    subst this
    exact ⟨.str "PT_LOAD", 0x1000, 0x80, 0x200, rfl, rfl, rfl, rfl⟩

example : mapAddr [exPhdr] 0x1000 = some 0x200 := by decide +kernel

/-- a concrete stored symbol table satisfying `SymView`: two 64-bit LSB records (`st_name` 0 and 6,
    GLOBAL FUNC, value 0x1000, size 8) stored 2 bytes into a byte string and followed by one more byte -/
def exSym (name : Nat) : Fields :=
  [("st_name", .int name), ("st_info", .record [("bind", .int 1), ("type", .int 2)]),
   ("st_other", .record [("local", .int 0), ("visibility", .int 0)]), ("st_shndx", .int 0),
   ("st_value", .int 0x1000), ("st_size", .int 8)]

def exSymBytes : Bytes :=
  [0, 0, 0, 0, 0x12, 0, 0, 0, 0, 0x10, 0, 0, 0, 0, 0, 0, 8, 0, 0, 0, 0, 0, 0, 0,
   6, 0, 0, 0, 0x12, 0, 0, 0, 0, 0x10, 0, 0, 0, 0, 0, 0, 8, 0, 0, 0, 0, 0, 0, 0]

theorem exSym_enc : encAll (S exCfg).Elf_Sym ([exSym 0, exSym 6].map .record) = some exSymBytes := by
  simp [encAll, exSym, exCfg, S, elfStructs, st, mkFields, f, enumOf, Con.encodeRaw, ConFields.encodeRaw, Fields.get?,
    packBits, bind, Option.bind, pure]
  decide

example : ∃ es, SymView elfEnv (S exCfg) ([9, 9] ++ exSymBytes ++ [7]) 2 [exSym 0, exSym 6] es :=
  symView_of elfEnv exCfg _ 2 _ exSymBytes [7] exSym_enc (by decide +kernel)

def exHashD : DynDesc :=
  { cls := 64, le := true, mclass := "default", solaris := false, ehdr := [], tags := [], dynOff := 0,
    strtab := [], strOff := 0, syms := [exSym 0, exSym 6], symOff := 0, sysv := some (⟨[0], [0, 0]⟩, 0),
    segments := [], phoff := 0, shoff := 0, phentsize := 0, shentsize := 0 }
example : hashOk exHashD = true := by decide +kernel

/- Non-vacuity of `DynDesc.WF` (hypothesis of `segment_view_eq_section_view`): `DynLayout` is inhabited
   by the assembler's output (`assemble_dynLayout`); `DynDesc.WF` itself is evaluated by the driver on
   every generated description (`wf` ∧ `wf_c01` of Driver/C09.lean; the harness counts the cases in
   the theorem's domain as `…:WF-theorem-domain`), and at build time by the `#guard`s of
   Props/C09Examples.lean on one description per domain.  There is no kernel-checked `example`:
   `Con.encodeRaw` / `Con.decodeRaw` are compiled by well-founded recursion and do not reduce in the kernel. -/

/-! ### the fallback on concrete images: an exact case, and a counterexample

  A 64-bit LSB image: the dynamic table at offset 0 (5 entries), one PT_LOAD mapping addresses
  0x200–0x23f to offsets 0x50–0x8f, two symbol records at address 0x200 (offset 0x50), the string
  table directly behind them at address 0x230.  No hash table.
  * `exFbTagsOk`: DT_STRSZ = 5 — the nearest value above 0x200 is DT_STRTAB = 0x230 = the true end:
    two symbols are counted.
  * `exFbTagsBad`: the same with DT_STRSZ = 0x210 (a 528-byte string table — an ordinary size).
    DT_STRSZ is not a pointer, but the fallback compares `d_ptr` of every entry: 0x210 is the
    nearest value above 0x200, and (0x210 − 0x200) div 24 = 0 symbols are counted. -/

def exFbTagsOk : List (Int × Nat) := [(DT_SYMTAB, 0x200), (DT_STRTAB, 0x230), (10, 5), (DT_SYMENT, 24), (DT_NULL, 0)]
def exFbTagsBad : List (Int × Nat) := [(DT_SYMTAB, 0x200), (DT_STRTAB, 0x230), (10, 0x210), (DT_SYMENT, 24), (DT_NULL, 0)]
def w8' (a b : Nat) : Bytes := [UInt8.ofNat a, UInt8.ofNat b, 0, 0, 0, 0, 0, 0]
def exFbTable (strsz : Bytes) : Bytes :=
  w8 6 ++ w8' 0 2 ++ w8 5 ++ w8' 0x30 2 ++ w8 10 ++ strsz ++ w8 11 ++ w8 24 ++ w8 0 ++ w8 0
def exFbStr : Bytes := [0, 0x61, 0, 0x62, 0x63, 0, 0x66, 0]
def exFbData (strsz : Bytes) : Bytes := exFbTable strsz ++ exSymBytes ++ exFbStr
def exFbPhdr : Val :=
  .record [("p_type", .str "PT_LOAD"), ("p_offset", .int 0x50), ("p_vaddr", .int 0x200), ("p_filesz", .int 0x40)]
def exFbIfc : FileIfc := ⟨.ok 1, fun _ => .ok ("Segment", exFbPhdr), fun _ => .ok none⟩
def exFbDyn : Dyn := ⟨some (.dynamic 0x80), 0, false, 16⟩
def exFbSegs : R (List (String × Val)) := .ok [("Segment", exFbPhdr)]

theorem exFbOk_enc : encAll (dynCon true 8 (tbl exCfg)) (exFbTagsOk.map rawTag) = some (exFbTable (w8 5)) := by
  simp [encAll, exFbTagsOk, rawTag, dynCon, st, mkFields, f, enumOf, Con.encodeRaw, ConFields.encodeRaw, Fields.get?,
    DT_SYMTAB, DT_STRTAB, DT_SYMENT, DT_NULL, bind, Option.bind, pure]
  decide

theorem exFbBad_enc : encAll (dynCon true 8 (tbl exCfg)) (exFbTagsBad.map rawTag) = some (exFbTable (w8' 0x10 2)) := by
  simp [encAll, exFbTagsBad, rawTag, dynCon, st, mkFields, f, enumOf, Con.encodeRaw, ConFields.encodeRaw, Fields.get?,
    DT_SYMTAB, DT_STRTAB, DT_SYMENT, DT_NULL, bind, Option.bind, pure]
  decide

theorem exFb_segs : SegsView exFbIfc [exFbPhdr] where
  num := rfl
  get := fun i hi => ⟨"Segment", by
    have : i = 0 := by simpa using hi
    subst this; rfl⟩
  ok := fun h hh => by
    have : h = exFbPhdr := by simpa using hh
    subst this
    exact ⟨.str "PT_LOAD", 0x200, 0x40, 0x50, rfl, rfl, rfl, rfl⟩

theorem exFbOk_view : View exCfg (exFbData (w8 5)) exFbDyn exFbTagsOk where
  con := rfl
  wpos := by decide +kernel
  nonempty := rfl
  tagsize := rfl
  placed := ⟨exFbTable (w8 5), exSymBytes ++ exFbStr, exFbOk_enc, by simp [exFbData, exFbDyn]⟩
  small := by simp [exFbData, exFbTable, w8, w8', exSymBytes, exFbStr]

theorem exFbBad_view : View exCfg (exFbData (w8' 0x10 2)) exFbDyn exFbTagsBad where
  con := rfl
  wpos := by decide +kernel
  nonempty := rfl
  tagsize := rfl
  placed := ⟨exFbTable (w8' 0x10 2), exSymBytes ++ exFbStr, exFbBad_enc, by simp [exFbData, exFbDyn]⟩
  small := by simp [exFbData, exFbTable, w8, w8', exSymBytes, exFbStr]

theorem symSz_ex : symSz exCfg = 24 := by
  simp [symSz, S, Proofs.sym_sizeof_eq, exCfg]

theorem exFb_serves (data : Bytes) : Serves data (.dynamic 0x80) [] := by
  intro v s h
  simp [strAt, firstNul] at h

/-- non-vacuity of `num_symbols_fallback` / `…_exact_iff`: a concrete image on which the fallback
    counts the two stored symbols -/
theorem num_symbols_fallback_example :
    numSymbols elfEnv (S exCfg) (exFbData (w8 5)) exFbIfc exFbDyn exFbSegs true = .ok 2 ∧
    FallbackExact (symSz exCfg) [exFbPhdr] (liveTags exFbTagsOk) 2 := by
  have h := num_symbols_fallback exCfg (exFbData (w8 5)) exFbIfc exFbDyn exFbTagsOk [exFbPhdr] exFbOk_view (by decide)
    exFb_segs exFbSegs [("Segment", exFbPhdr)] rfl rfl (by decide) (by decide) 0x200 0x50 (by decide) (by decide)
    (.dynamic 0x80) [] (stringtable_by_link exCfg _ _ exFbDyn _ rfl) (exFb_serves _)
    (fun t ht => Or.inl (by revert t ht; decide))
  rw [symSz_ex] at h
  have h2 : numSymbols elfEnv (S exCfg) (exFbData (w8 5)) exFbIfc exFbDyn exFbSegs true = .ok 2 := by
    rw [show (true : Bool) = exCfg.le from rfl, h]; rfl
  refine ⟨h2, ?_⟩
  rw [symSz_ex]
  exact ⟨0x200, 0x230, by decide, by decide, by decide, by decide⟩

/-- The counterexample.  The symbol table DT_SYMTAB designates holds two records (`SymView`) and the
    string table follows it directly, yet `num_symbols()` is 0: the fallback takes the value of
    DT_STRSZ (0x210, between DT_SYMTAB = 0x200 and DT_STRTAB = 0x230) for the nearest following
    pointer.  `iter_symbols()` then yields nothing and `get_symbol_by_name` finds nothing.  So
    without a hash table the count is exact only under `FallbackExact`. -/
theorem num_symbols_fallback_counterexample :
    (∃ es, SymView elfEnv (S exCfg) (exFbData (w8' 0x10 2)) 0x50 [exSym 0, exSym 6] es) ∧
    getTableOffset elfEnv (S exCfg) (exFbData (w8' 0x10 2)) exFbIfc exFbDyn "DT_SYMTAB" = .ok (some 0x200, some 0x50) ∧
    numSymbols elfEnv (S exCfg) (exFbData (w8' 0x10 2)) exFbIfc exFbDyn exFbSegs true = .ok 0 ∧
    iterSymbols elfEnv (S exCfg) (exFbData (w8' 0x10 2)) exFbIfc exFbDyn exFbSegs true = .ok [] ∧
    ¬ FallbackExact (symSz exCfg) [exFbPhdr] (liveTags exFbTagsBad) 2 := by
  have h := num_symbols_fallback exCfg (exFbData (w8' 0x10 2)) exFbIfc exFbDyn exFbTagsBad [exFbPhdr] exFbBad_view
    (by decide) exFb_segs exFbSegs [("Segment", exFbPhdr)] rfl rfl (by decide) (by decide) 0x200 0x50 (by decide)
    (by decide) (.dynamic 0x80) [] (stringtable_by_link exCfg _ _ exFbDyn _ rfl) (exFb_serves _)
    (fun t ht => Or.inl (by revert t ht; decide))
  rw [symSz_ex] at h
  have h2 : numSymbols elfEnv (S exCfg) (exFbData (w8' 0x10 2)) exFbIfc exFbDyn exFbSegs true = .ok 0 := by
    rw [show (true : Bool) = exCfg.le from rfl, h]; rfl
  refine ⟨symView_of elfEnv exCfg _ 0x50 _ exSymBytes exFbStr exSym_enc (by decide), ?_, h2, ?_, ?_⟩
  · have := table_offset_exact exCfg _ exFbIfc exFbDyn exFbTagsBad [exFbPhdr] exFbBad_view (by decide) exFb_segs
      ("DT_SYMTAB", DT_SYMTAB) (by simp)
    rw [this]; rfl
  · unfold iterSymbols
    rw [h2]; rfl
  · rw [symSz_ex]
    intro ⟨a, e, ha, he, h1, h2⟩
    have ha' : a = 0x200 := by
      have : firstVal (liveTags exFbTagsBad) DT_SYMTAB = some 0x200 := by decide
      rw [this] at ha; exact (Option.some.inj ha).symm
    subst ha'
    have he' : e = 0x210 := by
      have : fallbackEnd [exFbPhdr] (liveTags exFbTagsBad) 0x200 = some 0x210 := by decide
      rw [this] at he; exact (Option.some.inj he).symm
    subst he'
    omega

/-- lookups over a concrete enumeration: duplicates in index order, absent name -/
example : byNameOf [([0x66], .int 1), ([0x67], .int 2), ([0x66], .int 3)] [0x66]
    = some [([0x66], .int 1), ([0x66], .int 3)] := rfl
example : byNameOf [([0x66], .int 1), ([0x67], .int 2), ([0x66], .int 3)] [0x68] = none := rfl
example : minAbove [5, 0x230, 0x210, 24, 0] 0x200 = some 0x210 ∧ minAbove [5, 24, 0] 0x200 = none := by decide +kernel
example : segEnd [exFbPhdr] 0x200 = some 0x240 ∧ segEnd [exFbPhdr] 0x240 = some 0x240 ∧ segEnd [exFbPhdr] 0x241 = none := by
  decide

/-- a file object without program headers and without sections -/
def exIfc0 : FileIfc := ⟨.ok 0, fun _ => .error .indexError, fun _ => .ok none⟩
theorem exSegs0 : SegsView exIfc0 [] where
  num := rfl
  get := fun i hi => by simp at hi
  ok := fun h hh => by simp at hh

/-- `stringtable_none` / `tags_without_stringtable` on a concrete object: DT_STRTAB = 0x1000 maps
    nowhere (no PT_LOAD), no `.dynstr` section -/
example : getStringtable elfEnv (S exCfg) exData exIfc0 ⟨none, 3, false, 16⟩ = .ok none ∧
    iterTags elfEnv (S exCfg) exData exIfc0 ⟨none, 3, false, 16⟩ none = .error .elfError := by
  have h := stringtable_none exCfg exData exIfc0 _ exTags [] exView (by decide +kernel) exSegs0 rfl (by decide +kernel) rfl
  exact ⟨h, (tags_without_stringtable exCfg exData exIfc0 _ exTags exView (by decide +kernel) h).1⟩

/-- `symbol_table_unmapped` on the same object (no DT_SYMTAB at all) -/
example : getSymbol elfEnv (S exCfg) exData exIfc0 ⟨none, 3, false, 16⟩ 0 = .error .elfError :=
  (symbol_table_unmapped exCfg exData exIfc0 _ exTags [] exView (by decide +kernel) exSegs0 (.ok []) (by decide +kernel)).1 0

/-- a table that runs off the end: NEEDED, STRTAB and then the file ends -/
def exTruncTags : List (Int × Nat) := [(DT_NEEDED, 1), (DT_STRTAB, 0x1000)]
def exTruncTable : Bytes := w8 1 ++ w8 1 ++ w8 5 ++ [0, 0x10, 0, 0, 0, 0, 0, 0]
def exTruncData : Bytes := [1, 2, 3] ++ exTruncTable ++ [9]

theorem exTrunc_enc : encAll (dynCon true 8 (tbl exCfg)) (exTruncTags.map rawTag) = some exTruncTable := by
  simp [encAll, exTruncTags, rawTag, dynCon, st, mkFields, f, enumOf, Con.encodeRaw, ConFields.encodeRaw, Fields.get?,
    DT_NEEDED, DT_STRTAB, bind, Option.bind, pure]
  decide

theorem exTrunc_view : View exCfg exTruncData ⟨some (.dynamic 0), 3, false, 16⟩ exTruncTags where
  con := rfl
  wpos := by decide +kernel
  nonempty := rfl
  tagsize := rfl
  placed := ⟨exTruncTable, [9], exTrunc_enc, by decide +kernel⟩
  small := by decide +kernel

/-- `tags_truncated` on a concrete object (string table `[0, 0x61, 0]` assumed served) -/
example (hserve : Serves exTruncData (.dynamic 0) [0, 0x61, 0]) :
    iterTags elfEnv (S exCfg) exTruncData exIfc0 ⟨some (.dynamic 0), 3, false, 16⟩ none = .error .elfParseError :=
  (tags_truncated exCfg exTruncData exIfc0 _ exTruncTags [0, 0x61, 0] (.dynamic 0) exTrunc_view (by decide +kernel) (by decide +kernel)
    (stringtable_by_link exCfg _ _ _ _ rfl) hserve (by
      intro t ht
      simp only [exTruncTags, List.mem_cons, List.not_mem_nil, or_false] at ht
      rcases ht with rfl | rfl
      · exact Or.inr (by decide +kernel)
      · exact Or.inl (by decide +kernel))).1

end PyElf.Props.C09
