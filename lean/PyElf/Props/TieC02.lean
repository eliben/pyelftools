/-
  C02 tie: what the property's theorems assume about the regenerated side.
  * the structures `Section.__init__` / the segment and section accessors read with
    (compression, section and program headers) are the gABI's, for every configuration;
  * the `SH_FLAGS` constants the code consults are the gABI's;
  * in every `p_type` / `sh_type` / `ch_type` decoding table of /repo the names the code compares
    against carry exactly their standard codes, and the PT_GNU_SFRAME / PT_GNU_MBIND range is unnamed.
  Fields the container reader itself parses are evaluated once, in TieC01 (part of this property's
  check already, through Props/C01); they are restated here so that this file lists all it relies on.
  The name facts are applied in Props/C02; the three field ties and `sh_flags_eq_spec` only alarm.
-/
import PyElf.Gen.Structs
import PyElf.Gen.Tables
import PyElf.Spec.ElfStructs
import PyElf.Proofs.ContentsHyps
import PyElf.Props.TieC01
import PyElf.Proofs.EnumTable
namespace PyElf.Props.TieC02
open PyElf PyElf.Proofs.C02 PyElf.Proofs.EnumTable

theorem elf_Elf_Chdr : Gen.elfBundles.map (fun b => (b.1, b.2.Elf_Chdr)) = Spec.allElfCfgs.map (fun c => (c, (Spec.elfStructs c).Elf_Chdr)) := TieC01.elf_Elf_Chdr
theorem elf_Elf_Shdr : Gen.elfBundles.map (fun b => (b.1, b.2.Elf_Shdr)) = Spec.allElfCfgs.map (fun c => (c, (Spec.elfStructs c).Elf_Shdr)) := TieC01.elf_Elf_Shdr
theorem elf_Elf_Phdr : Gen.elfBundles.map (fun b => (b.1, b.2.Elf_Phdr)) = Spec.allElfCfgs.map (fun c => (c, (Spec.elfStructs c).Elf_Phdr)) := TieC01.elf_Elf_Phdr

/-- `SH_FLAGS.SHF_ALLOC / SHF_TLS / SHF_COMPRESSED` -/
theorem sh_flags_eq_spec :
    ((Gen.constTables.find? (·.1 == "EC.SH_FLAGS")).bind fun p => Model.C02.flagsOfTable p.2) = some Spec.C02.shFlags := by
  decide +kernel

theorem nameOr_gen (tid : String) : Spec.nameOr Model.genEnumDecode tid = decOfTable (genTable tid) :=
  nameOr_eq_decOfTable (genEnumDecode_eq tid)

theorem tables_cover : ∀ m ∈ Spec.machineClasses,
    Spec.pTypeTable m ∈ pTypeTables ∧ Spec.shTypeTable m ∈ shTypeTables := fun m _ => ⟨pTypeTable_mem m, shTypeTable_mem m⟩

/-- what the property asks of a `p_type` table: the seven names its accessors compare against and PT_INTERP are exact,
    the PT_GNU_SFRAME / PT_GNU_MBIND range is unnamed.  All five tables in one evaluation (they repeat the base table);
    a failure names this theorem, not the table. -/
theorem ptype_tables_ok : pTypeTables.all (fun tid =>
    ptypeTableOk (genTable tid) && namesOnly (genTable tid) ("PT_INTERP", Spec.C02.PT_INTERP)) = true := by decide +kernel

theorem shtype_tables_ok : shTypeTables.all (fun tid =>
    namesOnly (genTable tid) ("SHT_NOBITS", Spec.C02.SHT_NOBITS) && namesOnly (genTable tid) ("SHT_STRTAB", 3)) = true := by
  decide +kernel

theorem chtype_table_ok :
    namesOnly (genTable "ENUM_ELFCOMPRESS_TYPE") ("ELFCOMPRESS_ZLIB", Spec.C02.ELFCOMPRESS_ZLIB) = true := by decide +kernel

/-- every `p_type` decoder of /repo names PT_LOAD, PT_DYNAMIC, PT_PHDR, PT_TLS, PT_GNU_EH_FRAME,
    PT_GNU_STACK, PT_GNU_RELRO by their standard codes only and leaves PT_GNU_SFRAME / PT_GNU_MBIND unnamed -/
theorem ptype_naming (tid : String) (h : tid ∈ pTypeTables) :
    PTypeNaming (Spec.nameOr Model.genEnumDecode tid) := by
  rw [nameOr_gen]
  exact ptypeNaming_of_table (Bool.and_eq_true_iff.1 (List.all_eq_true.1 ptype_tables_ok tid h)).1

theorem nobits_naming (tid : String) (h : tid ∈ shTypeTables) :
    NobitsNaming (Spec.nameOr Model.genEnumDecode tid) := by
  rw [nameOr_gen]
  exact nobitsNaming_of_table (Bool.and_eq_true_iff.1 (List.all_eq_true.1 shtype_tables_ok tid h)).1

theorem zlib_naming : ZlibNaming (Spec.nameOr Model.genEnumDecode "ENUM_ELFCOMPRESS_TYPE") := by
  rw [nameOr_gen]
  exact zlibNaming_of_table chtype_table_ok

theorem strtab_naming (tid : String) (h : tid ∈ shTypeTables) (n : Nat) :
    Spec.nameOr Model.genEnumDecode tid n = .str "SHT_STRTAB" ↔ n = 3 := by
  rw [nameOr_gen]
  exact decOfTable_name_iff (Bool.and_eq_true_iff.1 (List.all_eq_true.1 shtype_tables_ok tid h)).2 n

theorem interp_naming (tid : String) (h : tid ∈ pTypeTables) (n : Nat) :
    Spec.nameOr Model.genEnumDecode tid n = .str "PT_INTERP" ↔ n = Spec.C02.PT_INTERP := by
  rw [nameOr_gen]
  exact decOfTable_name_iff (Bool.and_eq_true_iff.1 (List.all_eq_true.1 ptype_tables_ok tid h)).2 n

end PyElf.Props.TieC02
