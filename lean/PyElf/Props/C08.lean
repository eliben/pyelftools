/-
  C08 — relocation tables decode exactly; debug-section relocation follows the psABI.

  In order: REL / RELA tables and RELR streams with the entry-size guards; the RELR cache; the recipe dicts against
  the psABI table of Spec/Reloc.lean; applying one relocation and a whole table, with the rejections; the dynamic
  tables of `get_relocation_tables`; `find_relocations_for_section` over header lists; the edges of the two domains
  as theorems; then the same over whole files — for any byte string `bytes` with `Spec.Layout d bytes` for a `wfZ`
  description `d`, everything decoded from `bytes` by the mirror of elffile.py (C01) and of `_read_dwarf_section`
  (C11's Model/DwarfView.lean).  The struct bundle is `Spec.elfStructs cfg` (tied to the regenerated bundles by
  Props/TieC08.lean); `pre` / `rest` are arbitrary surrounding bytes.  `WFApplyOne` asks neither for 8 bytes of room
  for R_*_NONE nor for zero MIPS64 sub-fields; `WFApplyRoom`, which does, lies inside it (`wfApply_of_room`).

  CORRESPONDENCE-ONLY (impl == model on every run, no theorem): R_ARM_CALL and the eBPF recipes; machines outside the
  list; section names that are not valid UTF-8 (the model compares bytes); SHF_COMPRESSED / SHT_NOBITS / phantom-byte
  debug sections under relocation (C11's subject); error behaviour on truncated files (short reads inside a table:
  ELFParseError) and on relocation sections whose `sh_link` is not a symbol table (AttributeError at the first entry).

  Where the vocabulary of the statements is defined: `relCfgOf`, `specTable` (Proofs/Reloc.lean); `archString`,
  `recipeTable` (Proofs/RelocApply.lean); `DTagEnv`, `dtagVal`, `toLoad`, `specDynTables`, `specRelr`, `obsDynTable`
  (Proofs/RelocDyn.lean); `SecDescribes`, `AllDescribe` (Proofs/RelocLookup.lean); `EnvRel` (Proofs/RelocEnv.lean);
  `exRelFile` (Proofs/RelocExamples.lean); `Setup` (Proofs/ElfSections.lean), `fileOf` (Proofs/ElfView.lean).
-/
import PyElf.Spec.Reloc
import PyElf.Spec.RelocFile
import PyElf.Model.Relocation
import PyElf.Model.RelocationFile
import PyElf.Proofs.Reloc
import PyElf.Proofs.Relr
import PyElf.Proofs.RelocApply
import PyElf.Proofs.RelocSection
import PyElf.Proofs.RelocSym
import PyElf.Proofs.RelocDyn
import PyElf.Proofs.RelocLookup
import PyElf.Proofs.RelocFile
import PyElf.Proofs.RelocExamples
import PyElf.Props.TieC08
import PyElf.Model.RelrCache
import PyElf.Proofs.SigCache
import PyElf.Props.C01
namespace PyElf.Props.C08
open PyElf PyElf.Spec PyElf.Spec.RelocDyn PyElf.Spec.C08 PyElf.Model PyElf.Model.Reloc PyElf.Model.C08 PyElf.Proofs PyElf.Proofs.Reloc
  PyElf.Proofs.RelocDyn PyElf.Proofs.RelocFile

/-- `RelocationTable` (sections and dynamic tables share it) over a table of `es` placed anywhere in a file: any length,
    any field values in range, negative addends, MIPS64 sub-fields. -/
theorem rel_roundtrip (cfg : ElfCfg) (hcls : cfg.cls = 32 ∨ cfg.cls = 64) (env : Env) (rela : Bool)
    (es : List RelEntry) (hwf : ∀ e ∈ es, WFRel (relCfgOf cfg) rela e = true) (pre rest : Bytes)
    (hfit : pre.length + es.length * relEntSize (relCfgOf cfg) rela ≤ 2 ^ 63) :
    let c := relCfgOf cfg
    let data := pre ++ encRelTable c rela es ++ rest
    ∃ t, mkTable (Spec.elfStructs cfg) (some pre.length) (encRelTable c rela es).length rela = .ok t ∧
      t.isRela = rela ∧ t.entrySize = relEntSize c rela ∧
      numRelocations t = .ok es.length ∧
      iterRelocations env data t = .ok (es.map (observeRel c rela)) ∧
      ∀ n (h : n < es.length), getRelocation env data t n = .ok (observeRel c rela es[n]) := by
  intro c data
  have P := specTable_presents cfg hcls env rela es hwf (drop_pre pre _ rest) hfit
  exact ⟨_, mkTable_spec cfg hcls _ _ rela, rfl, rfl, P.count, P.iter, P.get⟩

/-- one entry at any position, in each of the three layouts; exactly the entry's bytes are consumed -/
theorem rel_entry_roundtrip (cfg : ElfCfg) (hcls : cfg.cls = 32 ∨ cfg.cls = 64) (env : Env) (rela : Bool) (e : RelEntry)
    (hwf : WFRel (relCfgOf cfg) rela e = true) (pre rest : Bytes) :
    structParse env (if rela then (Spec.elfStructs cfg).Elf_Rela else (Spec.elfStructs cfg).Elf_Rel)
        (pre ++ encRel (relCfgOf cfg) rela e ++ rest) pre.length
      = .ok (observeRel (relCfgOf cfg) rela e, pre.length + relEntSize (relCfgOf cfg) rela) :=
  (rel_entry_reads cfg hcls env rela e hwf).structParse (drop_pre pre _ rest)

/-- `RelocationSection` guard: a section whose sh_entsize is not the entry size is the library's ELFError -/
theorem relsec_entsize_guard (cfg : ElfCfg) (hcls : cfg.cls = 32 ∨ cfg.cls = 64) (rela : Bool)
    (shOffset shSize shEntsize : Nat) (h : shEntsize ≠ relEntSize (relCfgOf cfg) rela) :
    relocSectionInit (Spec.elfStructs cfg) (.str (if rela then "SHT_RELA" else "SHT_REL")) shOffset shSize shEntsize
      = .error .elfError := by
  unfold relocSectionInit
  rw [(relTypeName_beq rela).1, mkTable_spec cfg hcls]
  cases rela <;> simp [bind, Except.bind, specTable, h] <;> rfl

/-- every RELR stream (any mix of anchors and bitmaps, any bit pattern) expands to exactly the address sequence the
    encoding denotes; a bitmap before any anchor is the library's ELFError -/
theorem relr_eq_std (cfg : ElfCfg) (hcls : cfg.cls = 32 ∨ cfg.cls = 64) (env : Env) (ws : List Nat)
    (hws : ∀ x ∈ ws, x < 2 ^ cfg.cls) (pre rest : Bytes) (hfit : pre.length + ws.length * (cfg.cls / 8) ≤ 2 ^ 63) :
    let w := cfg.cls / 8
    ∃ t, relrInit (Spec.elfStructs cfg) (some pre.length) (encRelr cfg.le w ws).length w = .ok t ∧
      relrIter env (pre ++ encRelr cfg.le w ws ++ rest) t
        = match relrStd w none ws with
          | some xs => .ok xs
          | none => .error .elfError := by
  intro w
  refine ⟨_, relrInit_spec cfg _ _, ?_⟩
  have hw : 1 ≤ w ∧ 8 * w = cfg.cls := cls_bytes hcls
  exact relrIter_spec env cfg.le w hw.1 ws (by rw [hw.2]; exact hws) pre rest hfit

theorem relr_bitmap_eq_std (base w word : Nat) (hw : 1 ≤ w) (h : word < 2 ^ (8 * w)) :
    relrBitmapLoop base w (8 * w) word 0 = .ok (relrBitmap w base word) :=
  relrBitmapLoop_word base w word hw h

theorem relr_fresh_eq (env : Env) (data : Bytes) (t : RelrTable) (q : RelrQ) :
    Model.SigCache.stateless (relrScan env data t) relrLook q = relrFresh env data t q := by
  unfold Model.SigCache.stateless relrScan relrFresh
  cases relrIter env data t <;> rfl

/-- `num_relocations()` / `get_relocation(n)` answer from the lazily built `_cached_relocations`.  For any table (any
    bytes) and after any history of such queries on one object — repeated, out of range, negative, after an expansion
    that raised — every answer is the one a freshly made table object gives.  The driver runs exactly this `relrHist`,
    and the harness compares it with the library's answers on one object and with `_cached_relocations is not None`. -/
theorem relr_cache_history_independent (env : Env) (data : Bytes) (t : RelrTable) (qs : List RelrQ) :
    (relrHist env data t qs).1 = qs.map (relrFresh env data t) :=
  Proofs.SigCache.history_independent _ _ _ (relr_fresh_eq env data t) qs

theorem relr_cache_published_iff (env : Env) (data : Bytes) (t : RelrTable) (qs : List RelrQ) :
    (relrHist env data t qs).2.map.isSome = (!qs.isEmpty && (relrIter env data t).isOk) := by
  unfold relrHist
  rw [Proofs.SigCache.run_published]
  unfold relrScan
  cases relrIter env data t <;> rfl

/-- with `relr_eq_std`: on a well-formed stream the answers are those of the standard's expansion (Python indexing) -/
theorem relr_cache_exact (cfg : ElfCfg) (hcls : cfg.cls = 32 ∨ cfg.cls = 64) (env : Env) (ws : List Nat)
    (hws : ∀ x ∈ ws, x < 2 ^ cfg.cls) (pre rest : Bytes) (hfit : pre.length + ws.length * (cfg.cls / 8) ≤ 2 ^ 63)
    (xs : List Nat) (hstd : relrStd (cfg.cls / 8) none ws = some xs) (qs : List RelrQ) :
    ∃ t, relrInit (Spec.elfStructs cfg) (some pre.length) (encRelr cfg.le (cfg.cls / 8) ws).length (cfg.cls / 8) = .ok t ∧
      (relrHist env (pre ++ encRelr cfg.le (cfg.cls / 8) ws ++ rest) t qs).1 = qs.map (fun q => relrLook xs q) := by
  obtain ⟨t, ht, hiter⟩ := relr_eq_std cfg hcls env ws hws pre rest hfit
  refine ⟨t, ht, ?_⟩
  rw [relr_cache_history_independent]
  apply List.map_congr_left
  intro q _
  unfold relrFresh
  rw [hiter, hstd]

theorem relr_entsize_guard (cfg : ElfCfg) (off : Option Nat) (size ent : Nat) (h : ent ≠ cfg.cls / 8) :
    relrInit (Spec.elfStructs cfg) off size ent = .error .elfError := by
  unfold relrInit
  simp [spec_Elf_Relr, st, f, mkFields, conSizeof, fieldsSizeof, bind, Except.bind, pure, Except.pure]
  intro h'; exact absurd h'.symm h

/-- For every (machine, flavour, type) the psABI table lists, the library's recipe dict has an entry of the psABI's
    field width whose calc function computes the psABI's formula for all arguments (REL: the in-place value is the
    addend).  Rests on kernel evaluation: one walk of the regenerated dicts (`Proofs.Reloc.recipes_walk`) and the checks
    that `psabiTypes` lists every row of `psabi`, in the flavour its machine uses (`psabiTypes_complete`, `psabi_flavour`). -/
theorem recipes_match_psabi (a : Arch) (rela : Bool) (t w : Nat) (fm : Formula) (h : psabi a rela t = some (w, fm)) :
    ∃ r fn, recipeGet (recipeTable a rela) (t : Int) = .ok (some r) ∧
      (fm ≠ .keep → r.bytesize = w) ∧ (r.bytesize = 1 ∨ r.bytesize = 2 ∨ r.bytesize = 4 ∨ r.bytesize = 8) ∧
      Gen.relocCalc r.calcName = some fn ∧ (r.hasAddend = true → rela = true) ∧
      ∀ V S P A : Int, fn V S P (if r.hasAddend then A else 0) = fm.eval S (if rela then A else V) P V := by
  obtain ⟨r, fn, hget, R⟩ := recipe_of_psabi h
  exact ⟨r, fn, hget, R.width, R.size, R.fn_eq, R.addend, R.formula⟩

/-- conversely, a type the psABI table does not list (and that is not the unclaimed R_ARM_CALL) has no recipe -/
theorem recipes_only_psabi (a : Arch) (rela : Bool) (t : Nat) (hf : flavourOk a rela = true)
    (h : psabi a rela t = none) (hu : unclaimed a rela t = false) :
    recipeGet (recipeTable a rela) (t : Int) = .ok none :=
  recipe_of_unlisted hf h hu

/-- One relocation once the symbol value is known: the field holds the psABI formula's value truncated to the field
    width in the file's byte order and every other byte is unchanged (`Spec.writeField`); R_*_NONE reads and changes
    nothing; wrong flavour, unlisted type and MIPS64 composites are ELFRelocationError. -/
theorem apply_eq_std (a : Arch) (c : RelCfg) (hm : c.mips = decide (a = .mips)) (rela : Bool) (sec : Bytes)
    (e : RelEntry) (s : Nat) (hwf : WFApplyOne a c rela sec.length e = true) (hlen : sec.length < 2 ^ 63) :
    applyWithSym c.le c.cls (archString a) sec (observeRel c rela e) (s : Int) =
      match applyAfterSym a c rela s sec e with
      | some b => .ok b
      | none => .error .elfRelocError :=
  applyWithSym_eq_std a c hm rela sec e s hwf hlen

theorem apply_frame (le : Bool) (w : Nat) (sec : Bytes) (off : Nat) (v : Int) (h : off + w ≤ sec.length) :
    (writeField le w sec off v).length = sec.length ∧
    (writeField le w sec off v).take off = sec.take off ∧
    (writeField le w sec off v).drop (off + w) = sec.drop (off + w) ∧
    readField le w (writeField le w sec off v) off = (v % ((2 ^ (8 * w) : Nat) : Int)).toNat :=
  writeField_frame le w sec off v h

/-- `apply_section_relocations` with the symbol table abstract: any `symtab` whose entry `i` parses to an `Elf_Sym` with
    `st_value = syms[i]` (so also tables that are not value-only).  The result is the standard's fold, or
    ELFRelocationError as soon as one entry must be rejected. -/
theorem apply_section_eq_std_partial (cfg : ElfCfg) (hcls : cfg.cls = 32 ∨ cfg.cls = 64) (env : Env) (a : Arch)
    (hm : (relCfgOf cfg).mips = decide (a = .mips)) (rela : Bool) (es : List RelEntry) (syms : List Nat) (sec : Bytes)
    (symtab : SymTab) (pre rest : Bytes)
    (hfit : pre.length + es.length * relEntSize (relCfgOf cfg) rela ≤ 2 ^ 63)
    (hwf : WFApply a (relCfgOf cfg) rela syms sec.length es = true)
    (hent : symtab.shEntsize ≠ 0) (hcount : symtab.shSize / symtab.shEntsize = syms.length)
    (hsym : ∀ i (h : i < syms.length), ∃ symv,
      seekParse env (Spec.elfStructs cfg).Elf_Sym (pre ++ encRelTable (relCfgOf cfg) rela es ++ rest)
        (symtab.shOffset + i * symtab.shEntsize) = .ok symv ∧
      symv.getInt "st_value" = .ok (syms[i] : Int)) :
    applySectionRelocations env (Spec.elfStructs cfg) cfg.le cfg.cls (archString a)
        (pre ++ encRelTable (relCfgOf cfg) rela es ++ rest) symtab
        (specTable cfg (some pre.length) (encRelTable (relCfgOf cfg) rela es).length rela) sec
      = match applyStd a (relCfgOf cfg) rela syms sec es with
        | some b => .ok b
        | none => .error .elfRelocError :=
  specTable_apply cfg hcls env a hm rela es syms sec symtab (drop_pre pre _ rest) hfit hwf ⟨hent, hcount, hsym⟩

theorem symtab_entry_st_value (cfg : ElfCfg) (hcls : cfg.cls = 32 ∨ cfg.cls = 64) (env : Env) (syms : List Nat)
    (hsyms : ∀ s ∈ syms, s < 2 ^ cfg.cls) (data rest : Bytes) (symoff : Nat)
    (hd : data.drop symoff = syms.flatMap (rel_encSym cfg.le cfg.cls) ++ rest)
    (hfit : symoff + syms.length * symEntSize cfg.cls ≤ 2 ^ 63) (i : Nat) (h : i < syms.length) :
    ∃ symv, seekParse env (Spec.elfStructs cfg).Elf_Sym data (symoff + i * symEntSize cfg.cls) = .ok symv ∧
      symv.getInt "st_value" = .ok (syms[i] : Int) :=
  symtab_st_value cfg hcls env syms hsyms hd hfit i h

/-- `apply_section_relocations`, symbol table included: `data` is any file that holds the relocation table at `base` and
    the value-only symbol table at `symtab.shOffset` (anything before, between and after them; either order). -/
theorem apply_section_eq_std (cfg : ElfCfg) (hcls : cfg.cls = 32 ∨ cfg.cls = 64) (env : Env) (a : Arch)
    (hm : (relCfgOf cfg).mips = decide (a = .mips)) (rela : Bool) (es : List RelEntry) (syms : List Nat) (sec : Bytes)
    (symtab : SymTab) (data : Bytes) (base : Nat) (rest rest' : Bytes)
    (hrel : data.drop base = encRelTable (relCfgOf cfg) rela es ++ rest)
    (hsymtab : data.drop symtab.shOffset = syms.flatMap (rel_encSym cfg.le cfg.cls) ++ rest')
    (hentsz : symtab.shEntsize = symEntSize cfg.cls) (hsize : symtab.shSize = syms.length * symEntSize cfg.cls)
    (hfit : base + es.length * relEntSize (relCfgOf cfg) rela ≤ 2 ^ 63)
    (hfitS : symtab.shOffset + syms.length * symEntSize cfg.cls ≤ 2 ^ 63)
    (hwf : WFApply a (relCfgOf cfg) rela syms sec.length es = true) :
    applySectionRelocations env (Spec.elfStructs cfg) cfg.le cfg.cls (archString a) data symtab
        (specTable cfg (some base) (encRelTable (relCfgOf cfg) rela es).length rela) sec
      = match applyStd a (relCfgOf cfg) rela syms sec es with
        | some b => .ok b
        | none => .error .elfRelocError :=
  specTable_apply cfg hcls env a hm rela es syms sec symtab hrel hfit hwf
    (symtab_answers cfg hcls env syms (wfApply_iff.1 hwf).syms hsymtab hfitS hentsz hsize)

theorem apply_section_eq_std_layout (cfg : ElfCfg) (hcls : cfg.cls = 32 ∨ cfg.cls = 64) (env : Env) (a : Arch)
    (hm : (relCfgOf cfg).mips = decide (a = .mips)) (rela : Bool) (es : List RelEntry) (syms : List Nat) (sec : Bytes)
    (pre mid post : Bytes)
    (hfit : pre.length + (encRelTable (relCfgOf cfg) rela es).length + mid.length
              + syms.length * symEntSize cfg.cls ≤ 2 ^ 63)
    (hwf : WFApply a (relCfgOf cfg) rela syms sec.length es = true) :
    let relTab := encRelTable (relCfgOf cfg) rela es
    let symTab := syms.flatMap (rel_encSym cfg.le cfg.cls)
    applySectionRelocations env (Spec.elfStructs cfg) cfg.le cfg.cls (archString a)
        (pre ++ relTab ++ mid ++ symTab ++ post)
        ⟨pre.length + relTab.length + mid.length, symTab.length, symEntSize cfg.cls⟩
        (specTable cfg (some pre.length) relTab.length rela) sec
      = match applyStd a (relCfgOf cfg) rela syms sec es with
        | some b => .ok b
        | none => .error .elfRelocError := by
  intro relTab symTab
  have hlen : (encRelTable (relCfgOf cfg) rela es).length = es.length * relEntSize (relCfgOf cfg) rela :=
    encRelTable_length _ hcls rela es
  refine apply_section_eq_std cfg hcls env a hm rela es syms sec _ _ pre.length (mid ++ symTab ++ post) post
    ?_ ?_ rfl (encSymTable_length cfg.le cfg.cls syms) (by omega) (by simpa using hfit) hwf
  · simp [relTab, List.append_assoc]
  · show List.drop (pre.length + relTab.length + mid.length) _ = _
    have e : pre.length + relTab.length + mid.length = (pre ++ relTab ++ mid).length := by
      simp only [List.length_append]
    rw [e, drop_pre]

theorem apply_rejects_symbol (env : Env) (S : ElfStructs) (le : Bool) (cls : Nat) (arch : String) (data : Bytes)
    (symtab : SymTab) (stream : Bytes) (c : RelCfg) (rela : Bool) (e : RelEntry)
    (hent : symtab.shEntsize ≠ 0) (h : e.sym ≥ symtab.shSize / symtab.shEntsize) :
    doApplyRelocation env S le cls arch data symtab stream (observeRel c rela e) = .error .elfRelocError :=
  doApply_rejects_sym env S le cls arch data symtab stream c rela e hent h

theorem apply_rejects_flavour (a : Arch) (c : RelCfg) (hm : c.mips = decide (a = .mips)) (rela : Bool) (sec : Bytes)
    (e : RelEntry) (s : Int) (hf : flavourOk a rela = false) :
    applyWithSym c.le c.cls (archString a) sec (observeRel c rela e) s = .error .elfRelocError := by
  exact applyWithSym_early a c hm rela sec e s (by rw [hf]; rfl)

theorem apply_rejects_type (a : Arch) (c : RelCfg) (hm : c.mips = decide (a = .mips)) (rela : Bool) (sec : Bytes)
    (e : RelEntry) (s : Nat) (hwf : WFApplyOne a c rela sec.length e = true) (hlen : sec.length < 2 ^ 63)
    (h : psabi a rela e.type = none) :
    applyWithSym c.le c.cls (archString a) sec (observeRel c rela e) (s : Int) = .error .elfRelocError := by
  exact applyWithSym_unlisted a c hm rela sec e s (wfApplyOne_iff.1 hwf).claimed h

theorem relocate_false_identity (env : Env) (S : ElfStructs) (le : Bool) (cls : Nat) (arch : String) (data : Bytes)
    (secs : List Reloc.SecHdr) (symtabOf : Nat → Option SymTab) (name : String) (sectionData : Bytes) :
    readDwarfSection env S le cls arch data secs symtabOf name sectionData false false = .ok sectionData := by
  simp [readDwarfSection, pure, Except.pure]

theorem relocate_no_relsec_identity (env : Env) (S : ElfStructs) (le : Bool) (cls : Nat) (arch : String) (data : Bytes)
    (secs : List Reloc.SecHdr) (symtabOf : Nat → Option SymTab) (name : String) (sectionData : Bytes)
    (h : findRelocations S name secs = .ok none) :
    readDwarfSection env S le cls arch data secs symtabOf name sectionData true false = .ok sectionData := by
  simp [readDwarfSection, h, bind, Except.bind, pure, Except.pure]

/-- `_iter_tags`: the entries are read up to and including the first DT_NULL, whatever follows; tag numbers are presented
    by name where the environment has one -/
theorem dyn_tags_roundtrip (cfg : ElfCfg) (hcls : cfg.cls = 32 ∨ cfg.cls = 64) (env : Env)
    (henv : DTagEnv env (dTagTable cfg.mclass cfg.solaris)) (tags : List DynEntry) (nv : Nat)
    (hwf : ∀ e ∈ tags ++ [(DT_NULL, nv)], WFDyn cfg.cls e = true) (hnn : ∀ e ∈ tags, e.1 ≠ DT_NULL)
    (data rest : Bytes) (off : Nat)
    (hd : data.drop off = encDynArray cfg.le cfg.cls (tags ++ [(DT_NULL, nv)]) ++ rest)
    (hfit : off + (tags.length + 1) * (2 * (cfg.cls / 8)) ≤ 2 ^ 63) :
    iterTags env (Spec.elfStructs cfg) data off false
      = .ok ((tags ++ [(DT_NULL, nv)]).map fun e => (dtagVal env (dTagTable cfg.mclass cfg.solaris) e.1, e.2)) :=
  iterTags_spec cfg hcls env henv tags nv hwf hnn hd hfit

/-- `get_relocation_tables` on a dynamic array whose relocation-related entries are those describing `d` (in any order,
    amid any other entries): exactly the tables of `d`, in the order REL, RELA, RELR, JMPREL; each table's file offset
    is its address mapped through the PT_LOAD segment holding it (`None` when no segment does; address 0 is an address
    like any other); JMPREL has the flavour DT_PLTREL names.  `specDynTables` builds the objects `rel_roundtrip` and
    `relr_eq_std` are about (`specTable`; `specRelr`, which is `Reloc.specRelrTable` at the configuration). -/
theorem dyn_reloc_tables_exact (cfg : ElfCfg) (hcls : cfg.cls = 32 ∨ cfg.cls = 64) (env : Env)
    (henv : DTagEnv env (dTagTable cfg.mclass cfg.solaris)) (d : DynRelocs) (tags : List DynEntry) (nv : Nat)
    (loads : List LoadSeg) (data rest : Bytes) (off : Nat)
    (hd : data.drop off = encDynArray cfg.le cfg.cls (tags ++ [(DT_NULL, nv)]) ++ rest)
    (hfit : off + (tags.length + 1) * (2 * (cfg.cls / 8)) ≤ 2 ^ 63)
    (hwf : ∀ e ∈ tags ++ [(DT_NULL, nv)], WFDyn cfg.cls e = true) (hnn : ∀ e ∈ tags, e.1 ≠ DT_NULL)
    (hdesc : DynDescribes (relCfgOf cfg) d tags = true) :
    (do let tg ← iterTags env (Spec.elfStructs cfg) data off false
        getRelocationTables (Spec.elfStructs cfg) tg (loads.map toLoad))
      = .ok (specDynTables cfg loads d) ∧
    (specDynTables cfg loads d).map (fun p => (p.1, obsDynTable p.2)) = dynTablesStd (relCfgOf cfg) loads d := by
  refine ⟨?_, specDynTables_obs cfg loads d⟩
  rw [iterTags_spec cfg hcls env henv tags nv hwf hnn hd hfit]
  show getRelocationTables _ _ _ = _
  exact getRelocationTables_spec cfg hcls _ loads d
    (fun _ hp hk => tagsOf_described henv hdesc nv hp hk)

/-- the form with the extra hypothesis `WFDynRelocs d` (no table at virtual address 0) -/
theorem dyn_reloc_tables_exact_partial (cfg : ElfCfg) (hcls : cfg.cls = 32 ∨ cfg.cls = 64) (env : Env)
    (henv : DTagEnv env (dTagTable cfg.mclass cfg.solaris)) (d : DynRelocs) (tags : List DynEntry) (nv : Nat)
    (loads : List LoadSeg) (data rest : Bytes) (off : Nat)
    (hd : data.drop off = encDynArray cfg.le cfg.cls (tags ++ [(DT_NULL, nv)]) ++ rest)
    (hfit : off + (tags.length + 1) * (2 * (cfg.cls / 8)) ≤ 2 ^ 63)
    (hwf : ∀ e ∈ tags ++ [(DT_NULL, nv)], WFDyn cfg.cls e = true) (hnn : ∀ e ∈ tags, e.1 ≠ DT_NULL)
    (hdesc : DynDescribes (relCfgOf cfg) d tags = true) (_hd0 : WFDynRelocs d = true) :
    (do let tg ← iterTags env (Spec.elfStructs cfg) data off false
        getRelocationTables (Spec.elfStructs cfg) tg (loads.map toLoad))
      = .ok (specDynTables cfg loads d) ∧
    (specDynTables cfg loads d).map (fun p => (p.1, obsDynTable p.2)) = dynTablesStd (relCfgOf cfg) loads d :=
  dyn_reloc_tables_exact cfg hcls env henv d tags nv loads data rest off hd hfit hwf hnn hdesc

/-- of the library's own environment (`TieC08.dtag_env`) -/
theorem dyn_reloc_tables_exact_elfEnv (cfg : ElfCfg) (hcls : cfg.cls = 32 ∨ cfg.cls = 64)
    (d : DynRelocs) (tags : List DynEntry) (nv : Nat) (loads : List LoadSeg) (data rest : Bytes) (off : Nat)
    (hd : data.drop off = encDynArray cfg.le cfg.cls (tags ++ [(DT_NULL, nv)]) ++ rest)
    (hfit : off + (tags.length + 1) * (2 * (cfg.cls / 8)) ≤ 2 ^ 63)
    (hwf : ∀ e ∈ tags ++ [(DT_NULL, nv)], WFDyn cfg.cls e = true) (hnn : ∀ e ∈ tags, e.1 ≠ DT_NULL)
    (hdesc : DynDescribes (relCfgOf cfg) d tags = true) :
    (do let tg ← iterTags elfEnv (Spec.elfStructs cfg) data off false
        getRelocationTables (Spec.elfStructs cfg) tg (loads.map toLoad))
      = .ok (specDynTables cfg loads d) :=
  (dyn_reloc_tables_exact cfg hcls elfEnv (TieC08.dtag_env _ _) d tags nv loads data rest off hd hfit hwf hnn hdesc).1

theorem address_offset_eq_std (loads : List LoadSeg) (a : Nat) :
    addressOffset (loads.map toLoad) a = fileOffset loads a :=
  addressOffset_spec loads a

/-- `find_relocations_for_section` over section headers that are what `descs` describes: `None` when no SHT_REL /
    SHT_RELA section is named `.rel<target>` / `.rela<target>`, otherwise the first such section. -/
theorem find_relocations_exact (cfg : ElfCfg) (hcls : cfg.cls = 32 ∨ cfg.cls = 64) (target : String)
    (hdrs : List Reloc.SecHdr) (descs : List RelSecDesc) (hdesc : AllDescribe (relCfgOf cfg) hdrs descs) :
    match relocSectionFor target descs with
    | none => findRelocations (Spec.elfStructs cfg) target hdrs = .ok none
    | some s => ∃ h ∈ hdrs, ∃ r, s ∈ descs ∧ s.rela = some r ∧ SecDescribes (relCfgOf cfg) h s ∧
        findRelocations (Spec.elfStructs cfg) target hdrs
          = .ok (some (h, specTable cfg (some s.offset) s.size r)) := by
  -- header by header (`findRelocations_cons`), against `find?` over the descriptions; a later match is the tail's
  induction hdesc with
  | nil => rfl
  | @cons h s hs ss hd _ ih =>
    rw [findRelocations_cons cfg hcls target hd]
    unfold relocSectionFor at ih ⊢
    rw [List.find?_cons]
    cases hp : (s.rela.isSome && (s.name == ".rel" ++ target || s.name == ".rela" ++ target)) with
    | true =>
      obtain ⟨r, hr⟩ := Option.isSome_iff_exists.1 (Bool.and_eq_true_iff.1 hp).1
      exact ⟨h, List.mem_cons_self, r, List.mem_cons_self, hr, hd, by rw [hr]; rfl⟩
    | false =>
      simp only [Bool.false_eq_true, ↓reduceIte]
      revert ih
      cases List.find? (fun s => s.rela.isSome && (s.name == ".rel" ++ target || s.name == ".rela" ++ target)) ss with
      | none => exact id
      | some s' =>
        rintro ⟨h', hm, r, hs', hr', hd', he⟩
        exact ⟨h', List.mem_cons_of_mem _ hm, r, List.mem_cons_of_mem _ hs', hr', hd', he⟩

/-- a relocation section of the wrong `sh_entsize` met before any match is the library's ELFError, whatever its name -/
theorem find_relocations_malformed (cfg : ElfCfg) (hcls : cfg.cls = 32 ∨ cfg.cls = 64) (target : String)
    (good : List Reloc.SecHdr) (descs : List RelSecDesc) (bad : Reloc.SecHdr) (rest : List Reloc.SecHdr) (r : Bool)
    (hdesc : AllDescribe (relCfgOf cfg) good descs) (hnone : relocSectionFor target descs = none)
    (hty : bad.shType = .str (if r then "SHT_RELA" else "SHT_REL")) (hent : bad.shEntsize ≠ relEntSize (relCfgOf cfg) r) :
    findRelocations (Spec.elfStructs cfg) target (good ++ bad :: rest) = .error .elfError := by
  induction hdesc with
  | nil =>
    have hte : (Val.str (if r then "SHT_RELA" else "SHT_REL") == Val.str "SHT_REL"
        || Val.str (if r then "SHT_RELA" else "SHT_REL") == Val.str "SHT_RELA") = true := by
      rw [(relTypeName_beq r).1, (relTypeName_beq r).2, Bool.not_or_self]
    rw [List.nil_append, findRelocations, hty, if_pos hte, relsec_entsize_guard cfg hcls r _ _ _ hent]
    rfl
  | @cons h s hs ss hd _ ih =>
    -- a described section that is not the answer is passed over
    unfold relocSectionFor at hnone
    rw [List.find?_cons] at hnone
    rw [List.cons_append, findRelocations_cons cfg hcls target hd]
    cases hp : (s.rela.isSome && (s.name == ".rel" ++ target || s.name == ".rela" ++ target)) with
    | true => rw [hp] at hnone; cases hnone
    | false =>
      rw [hp] at hnone
      exact ih hnone

/-- `_read_dwarf_section(section, relocate_dwarf_sections=True)` over given section headers: the stream the DWARF parser
    receives is the standard's fold of the relocations over the section contents. -/
theorem read_dwarf_section_relocated (cfg : ElfCfg) (hcls : cfg.cls = 32 ∨ cfg.cls = 64) (env : Env) (a : Arch)
    (hm : (relCfgOf cfg).mips = decide (a = .mips)) (rela : Bool) (es : List RelEntry) (syms : List Nat) (sec : Bytes)
    (target : String) (hdrs : List Reloc.SecHdr) (descs : List RelSecDesc)
    (hdesc : AllDescribe (relCfgOf cfg) hdrs descs)
    (s : RelSecDesc) (hfound : relocSectionFor target descs = some s) (hflav : s.rela = some rela)
    (symtabOf : Nat → Option SymTab) (symtab : SymTab) (hlink : symtabOf s.link = some symtab)
    (data rest rest' : Bytes)
    (hrel : data.drop s.offset = encRelTable (relCfgOf cfg) rela es ++ rest)
    (hsize : s.size = (encRelTable (relCfgOf cfg) rela es).length)
    (hsymtab : data.drop symtab.shOffset = syms.flatMap (rel_encSym cfg.le cfg.cls) ++ rest')
    (hentsz : symtab.shEntsize = symEntSize cfg.cls) (hsizeS : symtab.shSize = syms.length * symEntSize cfg.cls)
    (hfit : s.offset + es.length * relEntSize (relCfgOf cfg) rela ≤ 2 ^ 63)
    (hfitS : symtab.shOffset + syms.length * symEntSize cfg.cls ≤ 2 ^ 63)
    (hwf : WFApply a (relCfgOf cfg) rela syms sec.length es = true) :
    readDwarfSection env (Spec.elfStructs cfg) cfg.le cfg.cls (archString a) data hdrs symtabOf target sec true false
      = match applyStd a (relCfgOf cfg) rela syms sec es with
        | some b => .ok b
        | none => .error .elfRelocError := by
  have hf := find_relocations_exact cfg hcls target hdrs descs hdesc
  rw [hfound] at hf
  obtain ⟨h, _, r, _, hr, hd, hfind⟩ := hf
  have hrr : r = rela := by rw [hflav] at hr; cases hr; rfl
  subst hrr
  have hl : h.shLink = s.link := hd.link
  unfold readDwarfSection
  simp only [hfind, bind, Except.bind, hl, hlink, Bool.false_eq_true, ↓reduceIte]
  rw [hsize]
  exact apply_section_eq_std cfg hcls env a hm r es syms sec symtab data s.offset rest rest' hrel hsymtab hentsz hsizeS
    hfit hfitS hwf

/-! ### the edges of the application domain

  * R_*_NONE.  i386 psABI table 4.9, x86-64 psABI table 4.9, MIPS psABI (chapter 4, relocation types), LoongArch ELF
    psABI: field "none", calculation "none"; the psABIs attach no meaning to `r_offset`.  The type is in the supported
    set and the property says every byte is unchanged.  The library returns for an identity recipe before it reads
    anything (/verif/fixes/C08-none-no-field.patch), so `r_offset` may lie at the section end or anywhere beyond it.
  * MIPS64 composites.  MIPS64 ELF object file specification §2.9.1: `r_type`, `r_type2`, `r_type3` are applied in
    sequence, the second with `r_ssym`.  The property wants an unsupported entry "rejected … rather than silently
    skipped": the library raises ELFRelocationError for every entry that uses a sub-field — (R_MIPS_32, R_MIPS_SUB, …),
    (R_MIPS_NONE, R_MIPS_32, …), REL or RELA — whatever its first type (/verif/fixes/C08-mips64-composite-any-type.patch).
  * a field that does not lie inside the section is a malformed object (outside the quantifier): documented boundary,
    the behaviour is `apply_field_outside`. -/

/-- R_*_NONE: whatever `r_offset`, addend, symbol value and section (even an empty one), nothing is read or changed -/
theorem apply_none_any_offset (a : Arch) (c : RelCfg) (hm : c.mips = decide (a = .mips)) (rela : Bool) (sec : Bytes)
    (e : RelEntry) (s : Int) (hf : flavourOk a rela = true)
    (hsingle : c.packed = true → e.type2 = 0 ∧ e.type3 = 0 ∧ e.ssym = 0)
    (w : Nat) (hps : psabi a rela e.type = some (w, .keep)) :
    applyWithSym c.le c.cls (archString a) sec (observeRel c rela e) s = .ok sec := by
  rw [applyWithSym_listed a c hm rela sec e s hf (not_composite hsingle) hps, if_pos rfl]

/-- MIPS64: an entry that uses `r_type2`, `r_type3` or `r_ssym` is rejected whatever its first type, before anything is read -/
theorem apply_rejects_composite (a : Arch) (c : RelCfg) (hm : c.mips = decide (a = .mips)) (rela : Bool) (sec : Bytes)
    (e : RelEntry) (s : Int) (hp : c.packed = true) (h : e.type2 ≠ 0 ∨ e.type3 ≠ 0 ∨ e.ssym ≠ 0) :
    applyWithSym c.le c.cls (archString a) sec (observeRel c rela e) s = .error .elfRelocError := by
  refine applyWithSym_early a c hm rela sec e s ?_
  rw [hp]
  rcases h with h | h | h <;> simp [h]

/-- boundary: the field does not lie inside the section — ELFParseError, and nothing has been written -/
theorem apply_field_outside (a : Arch) (c : RelCfg) (hm : c.mips = decide (a = .mips)) (rela : Bool) (sec : Bytes)
    (e : RelEntry) (s : Int) (hf : flavourOk a rela = true)
    (hsingle : c.packed = true → e.type2 = 0 ∧ e.type3 = 0 ∧ e.ssym = 0)
    (w : Nat) (fm : Formula) (hps : psabi a rela e.type = some (w, fm)) (hk : fm ≠ .keep)
    (hout : sec.length < e.offset + w) :
    applyWithSym c.le c.cls (archString a) sec (observeRel c rela e) s = .error .elfParseError := by
  rw [applyWithSym_listed a c hm rela sec e s hf (not_composite hsingle) hps, if_neg hk, if_neg (by omega)]

/-- every theorem stated with `WFApply` holds with the narrower `WFApplyRoom` in its place -/
theorem wfApply_of_room (a : Arch) (c : RelCfg) (rela : Bool) (syms : List Nat) (L : Nat) (es : List RelEntry)
    (h : WFApplyRoom a c rela syms L es = true) : WFApply a c rela syms L es = true := by
  simp only [WFApplyRoom, Bool.and_eq_true, List.all_eq_true, decide_eq_true_eq] at h
  exact wfApply_iff.2 ⟨fun e he => wfApplyOne_of_room (h.1.1 e he), h.1.2, h.2⟩

/-! ### `get_relocation_tables` at the edges of its domain

  gABI ch. 5 "Dynamic Section": DT_RELSZ and DT_RELENT are mandatory when DT_REL is present (likewise DT_RELASZ /
  DT_RELAENT with DT_RELA; DT_PLTRELSZ / DT_PLTREL with DT_JMPREL; the RELR proposal: DT_RELRSZ / DT_RELRENT with
  DT_RELR).  An array without them is malformed — outside the property's quantifier ("all relocation tables"), and the
  property prescribes no error for it.  What the library does is a bare `StopIteration` out of `next(iter_tags(..))`:
  DOCUMENTED BOUNDARY (not an `ELFError`; a caller that wraps `get_relocation_tables` in a generator would see the
  generator end silently).  `ts` is the decoded tag list, i.e. what `dyn_tags_roundtrip` shows `_iter_tags` to yield.
  A table at virtual address 0 is not an edge: `get_table_offset` maps it like any other address
  (/verif/fixes/C09-table-pointer-zero.patch), and `dyn_reloc_tables_exact` covers it. -/

theorem dyn_rel_no_size (S : ElfStructs) (ts : List (Val × Nat)) (loads : List Load)
    (h1 : tagsOf ts "DT_REL" ≠ []) (h2 : tagsOf ts "DT_RELSZ" = []) :
    getRelocationTables S ts loads = .error .stopIteration := by
  rw [getRelocationTables_steps]
  exact relStep_no_size h1 h2

theorem dyn_rel_no_ent (cfg : ElfCfg) (hcls : cfg.cls = 32 ∨ cfg.cls = 64) (ts : List (Val × Nat)) (loads : List Load)
    (h1 : tagsOf ts "DT_REL" ≠ []) (h2 : tagsOf ts "DT_RELSZ" ≠ []) (h3 : tagsOf ts "DT_RELENT" = []) :
    getRelocationTables (Spec.elfStructs cfg) ts loads = .error .stopIteration := by
  rw [getRelocationTables_steps]
  exact relStep_no_ent cfg hcls h1 h2 h3

theorem dyn_rel_bad_ent (cfg : ElfCfg) (hcls : cfg.cls = 32 ∨ cfg.cls = 64) (ts : List (Val × Nat)) (loads : List Load)
    (h1 : tagsOf ts "DT_REL" ≠ []) (h2 : tagsOf ts "DT_RELSZ" ≠ []) (e : Nat) (es : List Nat)
    (h3 : tagsOf ts "DT_RELENT" = e :: es) (hne : e ≠ relEntSize (relCfgOf cfg) false) :
    getRelocationTables (Spec.elfStructs cfg) ts loads = .error .elfError := by
  rw [getRelocationTables_steps]
  exact relStep_bad_ent cfg hcls h1 h2 h3 hne

theorem dyn_rela_no_size (S : ElfStructs) (ts : List (Val × Nat)) (loads : List Load)
    (h0 : tagsOf ts "DT_REL" = []) (h1 : tagsOf ts "DT_RELA" ≠ []) (h2 : tagsOf ts "DT_RELASZ" = []) :
    getRelocationTables S ts loads = .error .stopIteration := by
  rw [getRelocationTables_steps, relStep_absent h0]
  exact relStep_no_size h1 h2

theorem dyn_rela_no_ent (cfg : ElfCfg) (hcls : cfg.cls = 32 ∨ cfg.cls = 64) (ts : List (Val × Nat)) (loads : List Load)
    (h0 : tagsOf ts "DT_REL" = []) (h1 : tagsOf ts "DT_RELA" ≠ []) (h2 : tagsOf ts "DT_RELASZ" ≠ [])
    (h3 : tagsOf ts "DT_RELAENT" = []) :
    getRelocationTables (Spec.elfStructs cfg) ts loads = .error .stopIteration := by
  rw [getRelocationTables_steps, relStep_absent h0]
  exact relStep_no_ent cfg hcls h1 h2 h3

theorem dyn_rela_bad_ent (cfg : ElfCfg) (hcls : cfg.cls = 32 ∨ cfg.cls = 64) (ts : List (Val × Nat)) (loads : List Load)
    (h0 : tagsOf ts "DT_REL" = []) (h1 : tagsOf ts "DT_RELA" ≠ []) (h2 : tagsOf ts "DT_RELASZ" ≠ []) (e : Nat) (es : List Nat)
    (h3 : tagsOf ts "DT_RELAENT" = e :: es) (hne : e ≠ relEntSize (relCfgOf cfg) true) :
    getRelocationTables (Spec.elfStructs cfg) ts loads = .error .elfError := by
  rw [getRelocationTables_steps, relStep_absent h0]
  exact relStep_bad_ent cfg hcls h1 h2 h3 hne

theorem dyn_relr_incomplete (S : ElfStructs) (ts : List (Val × Nat)) (loads : List Load)
    (h0 : tagsOf ts "DT_REL" = []) (h0' : tagsOf ts "DT_RELA" = []) (h1 : tagsOf ts "DT_RELR" ≠ [])
    (h2 : tagsOf ts "DT_RELRSZ" = [] ∨ tagsOf ts "DT_RELRENT" = []) :
    getRelocationTables S ts loads = .error .stopIteration := by
  rw [getRelocationTables_steps, relStep_absent h0, relStep_absent h0']
  exact relrStep_incomplete h1 h2

theorem dyn_jmprel_incomplete (S : ElfStructs) (ts : List (Val × Nat)) (loads : List Load)
    (h0 : tagsOf ts "DT_REL" = []) (h0' : tagsOf ts "DT_RELA" = []) (h0'' : tagsOf ts "DT_RELR" = [])
    (h1 : tagsOf ts "DT_JMPREL" ≠ [])
    (h2 : tagsOf ts "DT_PLTRELSZ" = [] ∨ tagsOf ts "DT_PLTREL" = []) :
    getRelocationTables S ts loads = .error .stopIteration := by
  rw [getRelocationTables_steps, relStep_absent h0, relStep_absent h0', relrStep_absent h0'']
  exact jmprelStep_incomplete h1 h2

/-- the same at the level of the file, for one case (the others lift in the same way) -/
theorem dyn_rel_no_size_file (cfg : ElfCfg) (hcls : cfg.cls = 32 ∨ cfg.cls = 64) (env : Env)
    (henv : DTagEnv env (dTagTable cfg.mclass cfg.solaris)) (tags : List DynEntry) (nv : Nat)
    (loads : List Load) (data rest : Bytes) (off : Nat)
    (hd : data.drop off = encDynArray cfg.le cfg.cls (tags ++ [(DT_NULL, nv)]) ++ rest)
    (hfit : off + (tags.length + 1) * (2 * (cfg.cls / 8)) ≤ 2 ^ 63)
    (hwf : ∀ e ∈ tags ++ [(DT_NULL, nv)], WFDyn cfg.cls e = true) (hnn : ∀ e ∈ tags, e.1 ≠ DT_NULL)
    (h1 : ∃ e ∈ tags, e.1 = DT_REL) (h2 : ∀ e ∈ tags, e.1 ≠ DT_RELSZ) :
    (do let tg ← iterTags env (Spec.elfStructs cfg) data off false
        getRelocationTables (Spec.elfStructs cfg) tg loads) = .error .stopIteration := by
  rw [iterTags_spec cfg hcls env henv tags nv hwf hnn hd hfit]
  show getRelocationTables _ _ _ = _
  rw [getRelocationTables_steps]
  -- the first block fails; its two hypotheses on the decoded tags come from those on the stored entries
  apply relStep_no_size
  · rw [tagsOf_dec henv (name := "DT_REL") (k := DT_REL) (by simp [relDynTags])]
    obtain ⟨e, he, hk⟩ := h1
    intro hnil
    have : e.2 ∈ dynVals (tags ++ [(DT_NULL, nv)]) DT_REL := by
      unfold dynVals
      exact List.mem_map.2 ⟨e, List.mem_filter.2 ⟨List.mem_append_left _ he, by simp [hk]⟩, rfl⟩
    rw [hnil] at this
    cases this
  · rw [tagsOf_dec henv (name := "DT_RELSZ") (k := DT_RELSZ) (by simp [relDynTags])]
    unfold dynVals
    rw [List.map_eq_nil_iff, List.filter_eq_nil_iff]
    intro e he
    rcases List.mem_append.1 he with h | h
    · simpa using h2 e h
    · simp only [List.mem_singleton] at h
      subst h
      show ¬ ((DT_NULL == DT_RELSZ) = true)
      decide

/-- a table whose address no PT_LOAD maps has `offset = None`: `get_relocation(n)` is Python's TypeError (`None + int`) -/
theorem dyn_unmapped_access (env : Env) (data : Bytes) (t : RelocTable) (h : t.offset = none) (n : Nat) :
    getRelocation env data t n = .error .typeError := by
  simp [getRelocation, h]

/-- … iterating it is empty when it has no entries and TypeError otherwise -/
theorem dyn_unmapped_iter (env : Env) (data : Bytes) (t : RelocTable) (h : t.offset = none) (hz : t.entrySize ≠ 0) :
    iterRelocations env data t = if t.size / t.entrySize = 0 then .ok [] else .error .typeError := by
  unfold iterRelocations numRelocations
  simp only [hz, ↓reduceIte, bind, Except.bind]
  cases hc : t.size / t.entrySize with
  | zero => simp [iterFrom]
  | succ k => simp [iterFrom, getRelocation, h, bind, Except.bind]

/-- … an unmapped RELR table is empty when DT_RELRSZ is 0 and TypeError otherwise -/
theorem dyn_unmapped_relr (env : Env) (data : Bytes) (t : RelrTable) (h : t.offset = none) :
    relrIter env data t = if t.size = 0 then .ok [] else .error .typeError := by
  unfold relrIter
  split
  · rfl
  · simp [h]

/-! ### whole files: composition with C01

  `d : Spec.ElfDesc` is an abstract ELF description, `Spec.Layout d bytes` says the byte string carries it (header at
  0, tables and bodies wherever the description puts them — nothing else about `bytes` is constrained), `d.wfZ env`
  is C01's well-formedness (compressed sections admitted).  The reader is the mirror of elffile.py instantiated with
  the standards-side struct factory (`C01.specStructs`, `C01.specMachineClass`; Props/TieElfFile.lean proves them equal to
  what /repo builds); nothing is handed to the relocation code that was not decoded from `bytes`.  `EnvRel env` says the
  enum environment names SHT_SYMTAB, SHT_RELA, SHT_REL, SHT_DYNSYM, SHT_RELR as the gABI does (`elfEnv_rel`: the
  library's environment does, for every machine's table). -/

theorem elfEnv_rel : EnvRel Model.elfEnv :=
  envRel_of_tables fun m => List.all_eq_true.1 TieC08.sh_rel_tables _ (EnumTable.shTypeTable_mem m)

/-- `ELFFile(BytesIO(bytes)).get_section(i)` for a SHT_REL / SHT_RELA section (`relTableAt`): a RelocationSection of the
    flavour the type names, presenting exactly the encoded entries. -/
theorem file_rel_roundtrip (env : Env) (he : EnvRel env) (d : ElfDesc) (bytes : Bytes)
    (hwf : d.wfZ env = true) (hl : Layout d bytes) (i : Nat) (rela : Bool) (es : List RelEntry)
    (hsec : relTableAt d i rela es = true) (hwfe : ∀ e ∈ es, WFRel (relCfgOf d.cfg) rela e = true) :
    ∃ f t, openElf env C01.specStructs C01.specMachineClass bytes = .ok f ∧ f.data = bytes ∧
      getRelSection env f i = .ok (.rel t) ∧
      t.isRela = rela ∧ t.entrySize = relEntSize (relCfgOf d.cfg) rela ∧
      numRelocations t = .ok es.length ∧
      iterRelocations env bytes t = .ok (es.map (observeRel (relCfgOf d.cfg) rela)) ∧
      ∀ n (h : n < es.length), getRelocation env bytes t n = .ok (observeRel (relCfgOf d.cfg) rela es[n]) := by
  have T := relTableAt_unpack hsec
  obtain ⟨slack, hbody⟩ := T.body
  obtain ⟨hdr, st, X, -, hopen⟩ := C01.opened hwf hl
  have hcls : d.cfg.cls = 32 ∨ d.cfg.cls = 64 := X.cls
  have hdrop := body_drop hl (List.getElem_mem T.hi) hbody
  rw [List.append_assoc] at hdrop
  have P := T.size ▸ specTable_presents d.cfg hcls env rela es hwfe hdrop T.fit
  exact ⟨_, _, hopen, rfl, RelocFile.getRelSection_rel he X T.hi T.flavour, rfl, rfl, P.count, P.iter, P.get⟩

/-- `ELFFile(BytesIO(bytes)).get_section(i)` for a SHT_RELR section (`relrAt`) -/
theorem file_relr_eq_std (env : Env) (he : EnvRel env) (d : ElfDesc) (bytes : Bytes)
    (hwf : d.wfZ env = true) (hl : Layout d bytes) (i : Nat) (ws : List Nat)
    (hsec : relrAt d i ws = true) (hws : ∀ x ∈ ws, x < 2 ^ d.cls) :
    ∃ f t, openElf env C01.specStructs C01.specMachineClass bytes = .ok f ∧ f.data = bytes ∧
      getRelSection env f i = .ok (.relr t) ∧
      relrIter env bytes t
        = match relrStd (d.cls / 8) none ws with
          | some xs => .ok xs
          | none => .error .elfError := by
  have T := relrAt_unpack hsec
  obtain ⟨slack, hbody⟩ := T.body
  obtain ⟨hdr, st, X, -, hopen⟩ := C01.opened hwf hl
  have hw := cls_bytes X.cls
  have hdrop := body_drop hl (List.getElem_mem T.hi) hbody
  rw [List.append_assoc] at hdrop
  refine ⟨_, _, hopen, rfl, RelocFile.getRelSection_relr he X T.hi T.raw, ?_⟩
  rw [T.size]
  exact relrIter_drop env d.le (d.cls / 8) hw.1 ws (by rw [hw.2]; exact hws) hdrop T.fit

/-- `get_section_by_name(name)` on a fresh file object is `get_section` of the last section bearing the name
    (C01.lookup_exact), so `file_rel_roundtrip` / `file_relr_eq_std` hold of the object it returns -/
theorem file_get_section_by_name (env : Env) (d : ElfDesc) (bytes : Bytes) (obs : ElfObs) (f : ElfFile)
    (hwf : d.wfZ env = true) (hl : Layout d bytes) (ho : d.observe env = .ok obs)
    (hf : openElf env C01.specStructs C01.specMachineClass bytes = .ok f) (name : Bytes) :
    getRelSectionByName env f name =
      match d.indexOfName name with
      | none => .ok none
      | some i => (getRelSection env f i).map some := by
  obtain ⟨hdr, st, X, rfl⟩ := C01.opened_eq hwf hl hf
  exact X.byName ho name (getRelSection env _)

/-- `RelocationHandler(ELFFile(BytesIO(bytes))).find_relocations_for_section(<section named target>)` over all sections
    of the file: the first match by name — its index and the very object `get_section` reports for it. -/
theorem file_find_relocations_exact (env : Env) (he : EnvRel env) (d : ElfDesc) (bytes : Bytes) (obs : ElfObs) (f : ElfFile)
    (hwf : d.wfZ env = true) (hl : Layout d bytes) (ho : d.observe env = .ok obs)
    (hf : openElf env C01.specStructs C01.specMachineClass bytes = .ok f) (hn : 0 < d.sections.length) (target : Bytes) :
    fileFindRelocations env f target
      = .ok (match relSecByName d target with
             | none => none
             | some r => obs.sections[r]?.map fun s => (r, s)) := by
  obtain ⟨hdr, st, X, rfl⟩ := C01.opened_eq hwf hl hf
  rw [fileFind_spec he X target]
  have hlen := (observe_lengths ho).1
  cases hr : relSecByName d target with
  | none => rfl
  | some r =>
    have hr' : r < d.sections.length := by
      unfold relSecByName at hr
      exact (List.findIdx?_eq_some_iff_findIdx_eq.1 hr).1
    have hr'' : r < obs.sections.length := by omega
    simp only [getSection_obs X ho hr' hr'', Except.map, List.getElem?_eq_getElem hr'', Option.map_some]

/-- lookup by name against the gABI.  `sh_info` of a SHT_REL / SHT_RELA section is the index of the section the
    relocations apply to; the library looks the relocation section up by its conventional NAME instead.  When, among the
    relocation sections of the file, exactly those whose `sh_info` is `t` are named `.rel<target>` / `.rela<target>`
    (`namesFollowInfo`, decidable on the description; true of every object a standard toolchain writes for a section
    whose name is unique), both lookups give the same section.  Outside that — two sections of the same name, each
    with its own relocation section, as COMDAT groups produce — `file_find_relocations_exact` says exactly what is
    returned: the first by name. -/
theorem find_by_name_eq_by_info (d : ElfDesc) (t : Nat) (target : Bytes) (h : namesFollowInfo d t target = true) :
    relSecByName d target = relSecByInfo d t := by
  unfold relSecByName relSecByInfo
  apply Engine.findIdx?_congr
  intro s hs
  simp only [namesFollowInfo, List.all_eq_true, Bool.or_eq_true, Bool.not_eq_true', beq_iff_eq] at h
  unfold relForName relForInfo
  rcases h s hs with h' | h'
  · simp [h']
  · rw [h']

/-- `h = RelocationHandler(elffile); h.apply_section_relocations(stream, h.find_relocations_for_section(section))` on a
    caller-supplied copy `sec` of the section's bytes: relocation section by name, entries and symbols (through
    `sh_link`) decoded from the file, the machine from the file header. -/
theorem file_apply_section_eq_std (P : C11.Params) (hS : P.structsFor = C01.specStructs)
    (hM : P.machineClassOf = C01.specMachineClass) (he : EnvRel P.env) (d : ElfDesc) (bytes : Bytes) (obs : ElfObs)
    (hwf : d.wfZ P.env = true) (hl : Layout d bytes) (ho : d.observe P.env = .ok obs)
    (target : Bytes) (r : Nat) (rela : Bool) (es : List RelEntry) (syms : List Nat)
    (hfind : relSecByName d target = some r) (hpair : relocPairAt d r rela es syms = true)
    (m : Val) (hm : obs.header.getField "e_machine" = .ok m) (a : Arch) (harch : P.machineArchOf m = archString a)
    (hmips : (relCfgOf d.cfg).mips = decide (a = .mips))
    (sec : Bytes) (hwfa : WFApply a (relCfgOf d.cfg) rela syms sec.length es = true) :
    ∃ f, openElf P.env P.structsFor P.machineClassOf bytes = .ok f ∧
      fileApplyFor P f target sec
        = match applyStd a (relCfgOf d.cfg) rela syms sec es with
          | some b => .ok (some b)
          | none => .error .elfRelocError := by
  have R := relocPairAt_unpack hpair
  obtain ⟨st, X, hopen⟩ := C01.opened_obs hwf hl ho
  rw [hS, hM]
  exact ⟨_, hopen, fileApplyFor_spec he X target hfind R hm harch hmips sec hwfa⟩

theorem file_loaded (P : C11.Params) (hS : P.structsFor = C01.specStructs)
    (hM : P.machineClassOf = C01.specMachineClass) {d : ElfDesc} {bytes : Bytes} {obs : ElfObs}
    (hwf : d.wfZ P.env = true) (hl : Layout d bytes) (ho : d.observe P.env = .ok obs) :
    ∃ st, Setup P.env d bytes obs.header st ∧
      C11.load P bytes = .ok (Proofs.C15.fileOf d bytes obs.header st, obs.sections) := by
  obtain ⟨st, X, hopen⟩ := C01.opened_obs hwf hl ho
  exact ⟨st, X, Proofs.C11.load_opened X ho (hS ▸ hM ▸ hopen)⟩

/-- `ELFFile(BytesIO(bytes))._read_dwarf_section(<section t>, relocate_dwarf_sections=True)` (the mirror C11 maintains and
    checks against `get_dwarf_info`) for a plainly stored section: the descriptor handed to the DWARF parsers has the
    standard's fold of the relocations as its stream, or the load fails with ELFRelocationError.  (`hph`: not a
    dsPIC30F object with phantom bytes; the trailing `false` is `legacy_compressed`.) -/
theorem file_read_dwarf_section_relocated (P : C11.Params) (hS : P.structsFor = C01.specStructs)
    (hM : P.machineClassOf = C01.specMachineClass) (he : EnvRel P.env) (d : ElfDesc) (bytes : Bytes) (obs : ElfObs)
    (hwf : d.wfZ P.env = true) (hl : Layout d bytes) (ho : d.observe P.env = .ok obs)
    (hph : C11.hasPhantomBytes obs.header = .ok false)
    (t : Nat) (tsd : SecDesc) (htsd : d.sections[t]? = some tsd) (tobs : C11.Sec) (htobs : obs.sections[t]? = some tobs)
    (sec : Bytes) (htgt : plainTargetAt P.env d t sec = true)
    (r : Nat) (rela : Bool) (es : List RelEntry) (syms : List Nat)
    (hfind : relSecByName d tsd.name = some r) (hpair : relocPairAt d r rela es syms = true)
    (m : Val) (hm : obs.header.getField "e_machine" = .ok m) (a : Arch) (harch : P.machineArchOf m = archString a)
    (hmips : (relCfgOf d.cfg).mips = decide (a = .mips))
    (hwfa : WFApply a (relCfgOf d.cfg) rela syms sec.length es = true) :
    ∃ f, C11.load P bytes = .ok (f, obs.sections) ∧
      C11.readDwarfSection P f obs.sections tobs true false
        = match applyStd a (relCfgOf d.cfg) rela syms sec es with
          | some b => .ok ⟨b, tsd.name, getNatD tsd.hdr "sh_offset", sec.length, getNatD tsd.hdr "sh_addr"⟩
          | none => .error (.py .elfRelocError) := by
  have R := relocPairAt_unpack hpair
  have T := plainTargetAt_unpack htgt
  obtain ⟨hti, rfl⟩ := List.getElem?_eq_some_iff.1 htsd
  obtain ⟨hto, rfl⟩ := List.getElem?_eq_some_iff.1 htobs
  obtain ⟨st, X, hload⟩ := file_loaded P hS hM hwf hl ho
  exact ⟨_, hload, readDwarfSection_file he X ho hph T hto hfind R hm harch
    hmips hwfa⟩

/-- `relocate_dwarf_sections=False`, or no relocation section bears the conventional name: every byte unchanged -/
theorem file_read_dwarf_section_untouched (P : C11.Params) (hS : P.structsFor = C01.specStructs)
    (hM : P.machineClassOf = C01.specMachineClass) (he : EnvRel P.env) (d : ElfDesc) (bytes : Bytes) (obs : ElfObs)
    (hwf : d.wfZ P.env = true) (hl : Layout d bytes) (ho : d.observe P.env = .ok obs)
    (hph : C11.hasPhantomBytes obs.header = .ok false)
    (t : Nat) (tsd : SecDesc) (htsd : d.sections[t]? = some tsd) (tobs : C11.Sec) (htobs : obs.sections[t]? = some tobs)
    (sec : Bytes) (htgt : plainTargetAt P.env d t sec = true) (relocate : Bool)
    (hno : relocate = false ∨ relSecByName d tsd.name = none) :
    ∃ f, C11.load P bytes = .ok (f, obs.sections) ∧
      C11.readDwarfSection P f obs.sections tobs relocate false
        = .ok ⟨sec, tsd.name, getNatD tsd.hdr "sh_offset", sec.length, getNatD tsd.hdr "sh_addr"⟩ := by
  have T := plainTargetAt_unpack htgt
  obtain ⟨hti, rfl⟩ := List.getElem?_eq_some_iff.1 htsd
  obtain ⟨hto, rfl⟩ := List.getElem?_eq_some_iff.1 htobs
  obtain ⟨st, X, hload⟩ := file_loaded P hS hM hwf hl ho
  exact ⟨_, hload, readDwarfSection_file_untouched he X ho hph T hto relocate hno⟩

/-- the step of `get_dwarf_info(relocate_dwarf_sections=True)`'s per-section loop for one entry `kn` of its name table, in a
    file without `.zdebug_info`: the section is the LAST one bearing the name -/
theorem file_get_dwarf_info_section (P : C11.Params) (hS : P.structsFor = C01.specStructs)
    (hM : P.machineClassOf = C01.specMachineClass) (he : EnvRel P.env) (d : ElfDesc) (bytes : Bytes) (obs : ElfObs)
    (hwf : d.wfZ P.env = true) (hl : Layout d bytes) (ho : d.observe P.env = .ok obs)
    (hph : C11.hasPhantomBytes obs.header = .ok false)
    (kn : String × Bytes × Bool) (t : Nat) (tsd : SecDesc) (htsd : d.sections[t]? = some tsd)
    (hidx : d.indexOfName kn.2.1 = some t) (hname : tsd.name = kn.2.1)
    (sec : Bytes) (htgt : plainTargetAt P.env d t sec = true)
    (r : Nat) (rela : Bool) (es : List RelEntry) (syms : List Nat)
    (hfind : relSecByName d kn.2.1 = some r) (hpair : relocPairAt d r rela es syms = true)
    (m : Val) (hm : obs.header.getField "e_machine" = .ok m) (a : Arch) (harch : P.machineArchOf m = archString a)
    (hmips : (relCfgOf d.cfg).mips = decide (a = .mips))
    (hwfa : WFApply a (relCfgOf d.cfg) rela syms sec.length es = true) :
    ∃ f, C11.load P bytes = .ok (f, obs.sections) ∧
      C11.readOne P f obs.sections true false kn
        = match applyStd a (relCfgOf d.cfg) rela syms sec es with
          | some b => .ok (kn.1, some ⟨b, kn.2.1, getNatD tsd.hdr "sh_offset", sec.length, getNatD tsd.hdr "sh_addr"⟩)
          | none => .error (.py .elfRelocError) := by
  have R := relocPairAt_unpack hpair
  have T := plainTargetAt_unpack htgt
  obtain ⟨hti, rfl⟩ := List.getElem?_eq_some_iff.1 htsd
  obtain ⟨st, X, hload⟩ := file_loaded P hS hM hwf hl ho
  exact ⟨_, hload, readOne_file he X ho hph T kn hidx hname hfind R hm harch
    hmips hwfa⟩

example : WFRel ⟨true, 64, true⟩ true { offset := 0x10, sym := 7, type := 18, addend := -8, ssym := 1, type2 := 2, type3 := 3 } = true := by decide +kernel
example : WFRel ⟨false, 32, false⟩ false { offset := 0xfffffffc, sym := 0xffffff, type := 0xff } = true := by decide +kernel
example : relrStd 8 none [0x1000, 0x7, 0x8000000000000001] = some [0x1000, 0x1008, 0x1010, 0x1008 + 63 * 8 + 62 * 8] := by decide +kernel
example : relrStd 4 none [0x3] = none := by decide +kernel
example : psabi .x64 true 2 = some (4, .sap) := rfl
example : WFApplyOne .x64 ⟨true, 64, false⟩ true 12 { offset := 8, sym := 1, type := 2, addend := -4 } = true := by decide +kernel
example : applyAfterSym .x64 ⟨true, 64, false⟩ true 0 [0, 0, 0, 0, 0xaa, 0xaa, 0xaa, 0xaa, 1, 2, 3, 4]
    { offset := 8, sym := 1, type := 2, addend := -4 } = some [0, 0, 0, 0, 0xaa, 0xaa, 0xaa, 0xaa, 0xf4, 0xff, 0xff, 0xff] := by decide +kernel
example : flavourOk .ppc64 false = false := rfl
example : WFApply .x64 ⟨true, 64, false⟩ true [0, 0x1000] 12 [{ offset := 8, sym := 1, type := 2, addend := -4 }] = true := by decide +kernel
example : rel_encSym true 64 0x1000 = [0, 0, 0, 0, 0, 0, 0, 0, 0, 0x10, 0, 0, 0, 0, 0, 0, 0, 0, 0, 0, 0, 0, 0, 0] := by decide +kernel
-- a dynamic array with DT_NEEDED, a RELA table, DT_FLAGS_1 in between, and PLT relocations of flavour REL
example : DynDescribes ⟨true, 64, false⟩
    { rela := some ⟨0x1000, 48⟩, jmprel := some (⟨0x2000, 32⟩, false) }
    [(1, 1), (DT_PLTREL, 17), (DT_RELASZ, 48), (DT_RELA, 0x1000), (0x6ffffffb, 1), (DT_RELAENT, 24), (DT_JMPREL, 0x2000),
     (DT_PLTRELSZ, 32)] = true := by decide +kernel
example : WFDynRelocs { rela := some ⟨0x1000, 48⟩, jmprel := some (⟨0x2000, 32⟩, false) } = true := by decide +kernel
example : dynTablesStd ⟨true, 64, false⟩ [⟨0, 0x800, 0⟩, ⟨0x1000, 0x100, 0x800⟩]
    { rela := some ⟨0x1010, 48⟩, jmprel := some (⟨0x2000, 32⟩, false) }
    = [("RELA", .rel (some 0x810) 48 24 true), ("JMPREL", .rel none 32 16 false)] := by decide +kernel
example : relocSectionFor ".debug_info"
    [⟨".text", none, 64, 16, 0⟩, ⟨".rela.text", some true, 200, 48, 5⟩, ⟨".rela.debug_info", some true, 248, 24, 5⟩]
    = some ⟨".rela.debug_info", some true, 248, 24, 5⟩ := by decide +kernel

-- R_X86_64_NONE at the very end of a 12-byte section and far beyond it; R_386_NONE two bytes before the end: in the domain
example : WFApplyOne .x64 ⟨true, 64, false⟩ true 12 { offset := 12, sym := 0, type := 0, addend := 7 } = true := by decide +kernel
example : WFApplyOne .x64 ⟨true, 64, false⟩ true 12 { offset := 0xffffffffffffffff, sym := 0, type := 0 } = true := by decide +kernel
example : WFApplyOne .x86 ⟨true, 32, false⟩ false 12 { offset := 10, sym := 0, type := 0 } = true := by decide +kernel
example : applyAfterSym .x64 ⟨true, 64, false⟩ true 5 [1, 2, 3] { offset := 2, sym := 0, type := 0 } = some [1, 2, 3] := by decide +kernel
-- … and outside the narrower domain `WFApplyOneRoom`
example : WFApplyOneRoom .x64 ⟨true, 64, false⟩ true 12 { offset := 8, sym := 0, type := 0 } = false := by decide +kernel
-- MIPS64: (R_MIPS_32, R_MIPS_SUB, 0) and (R_MIPS_NONE, R_MIPS_32, 0) are in the domain, and rejected
example : WFApplyOne .mips ⟨true, 64, true⟩ true 12 { offset := 0, sym := 1, type := 2, type2 := 24, addend := 5 } = true := by decide +kernel
example : applyAfterSym .mips ⟨true, 64, true⟩ true 0x1000 [0, 0, 0, 0] { offset := 0, sym := 1, type := 2, type2 := 24 } = none := by decide +kernel
example : applyAfterSym .mips ⟨true, 64, true⟩ false 0x1000 [0, 0, 0, 0] { offset := 0, sym := 1, type := 0, type2 := 2 } = none := by decide +kernel
example : applyAfterSym .mips ⟨true, 64, true⟩ true 0x1000 [0, 0, 0, 0] { offset := 0, sym := 1, type := 2, addend := 5 }
    = some [5, 0x10, 0, 0] := by decide +kernel
-- the hypotheses of `apply_none_any_offset` / `apply_field_outside` / `apply_rejects_composite`
example : flavourOk .x64 true = true ∧ psabi .x64 true 0 = some (0, .keep) ∧ psabi .mips false 0 = some (0, .keep) := by decide +kernel
example : psabi .x64 true 2 = some (4, .sap) ∧ Formula.sap ≠ Formula.keep ∧ [1, 2, 3].length < 2 + 4 := by decide +kernel
example : (⟨true, 64, true⟩ : RelCfg).packed = true ∧ (⟨true, 32, true⟩ : RelCfg).packed = false := by decide +kernel
-- the hypotheses of the `dyn_*` edge theorems: DT_REL without DT_RELSZ; DT_JMPREL with DT_PLTRELSZ but no DT_PLTREL
example : tagsOf [(.str "DT_REL", 0x1000), (.str "DT_RELENT", 8), (.str "DT_NULL", 0)] "DT_REL" ≠ [] ∧
    tagsOf [(.str "DT_REL", 0x1000), (.str "DT_RELENT", 8), (.str "DT_NULL", 0)] "DT_RELSZ" = [] := by decide +kernel
example : tagsOf [(.str "DT_JMPREL", 0x1000), (.str "DT_PLTRELSZ", 48), (.int 0x6ffffffb, 1)] "DT_PLTREL" = [] := by decide +kernel
example : tagsOf [(.str "DT_REL", 0), (.str "DT_RELSZ", 16), (.str "DT_RELENT", 12)] "DT_RELENT" = [12] ∧
    12 ≠ relEntSize ⟨true, 32, false⟩ false := by decide +kernel
-- a table at virtual address 0 (mapped by the first PT_LOAD) is described and found
example : DynDescribes ⟨true, 64, false⟩ { rela := some ⟨0, 48⟩ } [(DT_RELASZ, 48), (DT_RELA, 0), (DT_RELAENT, 24)] = true := by decide +kernel
example : dynTablesStd ⟨true, 64, false⟩ [⟨0, 0x800, 0x40⟩] { rela := some ⟨0, 48⟩ } = [("RELA", .rel (some 0x40) 48 24 true)] := by
  decide
-- a whole image: `.debug_info` (section 3) relocated by `.rela.debug_info` (section 4, found by name and by sh_info)
-- against `.symtab` (section 2), and a `.relr.dyn` section (5).  `ElfDesc.wfZ` goes through `Con.encodeRaw` /
-- `Con.decodeRaw`, which do not reduce in the kernel: checked by the evaluator at build time, as in C01 / C14 / C15.
#guard exRelFile.wfZ Model.elfEnv && observable Model.elfEnv exRelFile && (exRelFile.assemble 3).isSome &&
  relTableAt exRelFile 4 true exRelocs && relocPairAt exRelFile 4 true exRelocs exSyms &&
  plainTargetAt Model.elfEnv exRelFile 3 exDebug && relSecByName exRelFile nDebugInfo == some 4 &&
  relSecByInfo exRelFile 3 == some 4 && namesFollowInfo exRelFile 3 nDebugInfo &&
  exRelFile.indexOfName nDebugInfo == some 3 && relrAt exRelFile 5 [0x1000, 0x7, 0x2001] &&
  exRelocs.all (WFRel (relCfgOfDesc exRelFile) true) &&
  WFApply .ppc64 (relCfgOfDesc exRelFile) true exSyms exDebug.length exRelocs &&
  archOfMachine 21 == some .ppc64 && Reloc.machineArchOf (.str "EM_PPC64") == archString .ppc64
example : applyStd .ppc64 ⟨false, 64, false⟩ true exSyms exDebug exRelocs
    = some [0, 0, 0x10, 5, 0, 0, 0x0f, 0xfb, 0xff, 0xff, 0xff, 0xff, 0xff, 0xff, 0xff, 0xef, 17] := by decide +kernel
example : relrStd 8 none [0x1000, 0x7, 0x2001] = some [0x1000, 0x1008, 0x1010, 0x1260] := by decide +kernel

end PyElf.Props.C08
