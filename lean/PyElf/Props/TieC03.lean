/-
  C03 tie: the structures the symbol-table and hash-table code parses are, for every
  configuration, the gABI / Oracle LLG / GNU-hash structures the C03 theorems are about.
  The file lists what the property reads; none of it is applied: the `_generated` theorems of Props/C03 read the
  whole bundle (`TieElf.mem_bundles`), and the evaluations behind these restatements are TieC01's and TieElf's.
-/
import PyElf.Gen.Structs
import PyElf.Spec.ElfStructs
import PyElf.Props.TieC01
import PyElf.Props.TieElf
namespace PyElf.Props.TieC03
open PyElf

theorem elf_Elf_Sym : Gen.elfBundles.map (fun b => (b.1, b.2.Elf_Sym)) = Spec.allElfCfgs.map (fun c => (c, (Spec.elfStructs c).Elf_Sym)) := TieC01.elf_Elf_Sym
theorem elf_Elf_Hash : Gen.elfBundles.map (fun b => (b.1, b.2.Elf_Hash)) = Spec.allElfCfgs.map (fun c => (c, (Spec.elfStructs c).Elf_Hash)) := TieC01.elf_Elf_Hash
theorem elf_Gnu_Hash : Gen.elfBundles.map (fun b => (b.1, b.2.Gnu_Hash)) = Spec.allElfCfgs.map (fun c => (c, (Spec.elfStructs c).Gnu_Hash)) := TieC01.elf_Gnu_Hash
theorem elf_Elf_Sunw_Syminfo : Gen.elfBundles.map (fun b => (b.1, b.2.Elf_Sunw_Syminfo)) = Spec.allElfCfgs.map (fun c => (c, (Spec.elfStructs c).Elf_Sunw_Syminfo)) :=
  TieElf.bundles_field (·.Elf_Sunw_Syminfo)
theorem elf_Elf_word : Gen.elfBundles.map (fun b => (b.1, b.2.Elf_word)) = Spec.allElfCfgs.map (fun c => (c, (Spec.elfStructs c).Elf_word)) := TieC01.elf_Elf_word
theorem elf_Elf_xword : Gen.elfBundles.map (fun b => (b.1, b.2.Elf_xword)) = Spec.allElfCfgs.map (fun c => (c, (Spec.elfStructs c).Elf_xword)) := TieC01.elf_Elf_xword

end PyElf.Props.TieC03
