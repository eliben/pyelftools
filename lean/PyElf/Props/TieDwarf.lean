/-
  Tie theorems (T2 ↔ Spec), DWARF and EHABI side: the regenerated bundle lists are the Spec's, column by column, and
  hence the look-up `Model.dwarfStructsFor` answers with the Spec's bundle (`gen_structs`).
-/
import PyElf.Gen.Structs
import PyElf.Spec.DwarfStructs
import PyElf.Model.Env
import PyElf.Proofs.ListFacts
import PyElf.Proofs.Cfg
namespace PyElf.Props.TieDwarf
open PyElf

theorem dwarf_cfgs_eq_spec : Gen.dwarfBundles.map (·.1) = Spec.allDwarfCfgs := by rfl

/-- for every (byte order, DWARF format, address size, version) the library builds the
    structures — and the whole form → parser table — the DWARF standard prescribes -/
theorem dwarf_bundles_eq_spec : Gen.dwarfBundles.map (·.2) = Spec.allDwarfCfgs.map Spec.dwarfStructs := by rfl

theorem ehabi_bundles_eq_spec :
    Gen.ehabiBundles = [(true, Spec.ehabiStructs true), (false, Spec.ehabiStructs false)] := by rfl

theorem gen_structs (c : DwarfCfg) (hc : c ∈ Spec.allDwarfCfgs) : Model.dwarfStructsFor c = some (Spec.dwarfStructs c) := by
  unfold Model.dwarfStructsFor
  rw [Proofs.Engine.eq_map_of_columns dwarf_cfgs_eq_spec dwarf_bundles_eq_spec]
  exact Proofs.Engine.find?_map_key_mem Spec.dwarfStructs c Spec.allDwarfCfgs hc

end PyElf.Props.TieDwarf
