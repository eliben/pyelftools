/-
  C04 tie theorems: the regenerated struct fields and tables this property relies on are the Spec's.
  Beside the evaluated ties the file restates, under this property's tie name, the facts of Proofs/DieForms and
  Proofs/DieAbbrev that hold of any bundle or registry (`form_table`, `formParser_ref`, `form_ref_class`, `names_refl`,
  `names_tag`), so that Props/C04 names one place for all it assumes of the regenerated side.
  Applied in Props/C04: `gen_bundles`, `enum_ok`, `enum_ut`, `enum_forms`, `raw2name_forms`, `base_names`, `form_table`
  (and `gen_at_iff` in Props/TieC05).  `form_extra_keys` and `form_ref_entry` only alarm.
-/
import PyElf.Gen.Structs
import PyElf.Gen.Tables
import PyElf.Gen.Extra_C04
import PyElf.Spec.DwarfStructs
import PyElf.Spec.DieTree
import PyElf.Model.Die
import PyElf.Model.Env
import PyElf.Proofs.DieForms
import PyElf.Proofs.DieAbbrev
import PyElf.Proofs.DieBundle
import PyElf.Spec.DwarfLookup
import PyElf.Proofs.EnumTable
import PyElf.Proofs.Cfg
namespace PyElf.Props.TieC04
open PyElf PyElf.Spec.C04

/-- for all 32 configurations: the form → parser table, the abbreviation declaration, both unit
    headers and the scalar readers the DIE code uses are the ones written from the standard -/
theorem dwarf_fields :
    Gen.dwarfBundles.map (fun b => (b.1, b.2.forms, b.2.Dwarf_abbrev_declaration, b.2.Dwarf_CU_header,
        b.2.Dwarf_TU_header, b.2.the_Dwarf_uleb128, b.2.the_Dwarf_offset, b.2.the_Dwarf_target_addr, b.2.the_Dwarf_uint32))
      = Spec.allDwarfCfgs.map (fun c => (c, (Spec.dwarfStructs c).forms, (Spec.dwarfStructs c).Dwarf_abbrev_declaration,
        (Spec.dwarfStructs c).Dwarf_CU_header, (Spec.dwarfStructs c).Dwarf_TU_header, (Spec.dwarfStructs c).the_Dwarf_uleb128,
        (Spec.dwarfStructs c).the_Dwarf_offset, (Spec.dwarfStructs c).the_Dwarf_target_addr,
        (Spec.dwarfStructs c).the_Dwarf_uint32)) := by rfl

/-- what the DIE code reads of a bundle (the columns of `dwarf_fields`) -/
abbrev dieFields (S : DwarfStructs) :=
  (S.forms, S.Dwarf_abbrev_declaration, S.Dwarf_CU_header, S.Dwarf_TU_header, S.the_Dwarf_uleb128, S.the_Dwarf_offset,
    S.the_Dwarf_target_addr, S.the_Dwarf_uint32)

/-- the same through the look-up the model (and the driver) uses -/
theorem gen_bundles (c : DwarfCfg) (hc : c ∈ Spec.allDwarfCfgs) :
    ∃ S, Model.dwarfStructsFor c = some S ∧ Proofs.C04.BundleEq S (Spec.dwarfStructs c) := by
  obtain ⟨S, hS, h⟩ := Proofs.Engine.find?_of_tie (F := dieFields) (G := fun c => dieFields (Spec.dwarfStructs c)) dwarf_fields hc
  simp only [Prod.mk.injEq] at h
  obtain ⟨forms, decl, cu, tu, uleb, offset, addr, u32⟩ := h
  exact ⟨S, hS, { forms, decl, cu, tu, uleb, offset, addr, u32 }⟩

/-- `DW_FORM_raw2name` (used by `_resolve_indirect`) names every standard form code as the standard does -/
theorem raw2name_forms : formCodes.all (fun k => Model.C04.genRaw2name k == formName k) = true := by decide +kernel

open Proofs.EnumTable in
/-- all this property asks of `ENUM_DW_FORM`, in one pass over the table -/
theorem form_table_ok : (formCodes.all (fun k => Model.genEnumDecode "ENUM_DW_FORM" k == formName k) &&
    [("DW_FORM_null", ((0 : Nat) : Int)), ("DW_FORM_implicit_const", ((0x21 : Nat) : Int))].all
      (namesOnly (genTable "ENUM_DW_FORM"))) = true := by decide +kernel

/-- `ENUM_DW_FORM` (used by the abbreviation declaration) decodes every standard form code to the standard's name -/
theorem enum_forms : formCodes.all (fun k => Model.genEnumDecode "ENUM_DW_FORM" k == formName k) = true :=
  (Bool.and_eq_true_iff.1 form_table_ok).1

theorem enum_children : Model.genEnumDecode "ENUM_DW_CHILDREN" 0 = some "DW_CHILDREN_no"
    ∧ Model.genEnumDecode "ENUM_DW_CHILDREN" 1 = some "DW_CHILDREN_yes" := by decide +kernel

/-- the parser registered under a form's name reads the operand encoding of the form's code — for every
    configuration at once (DW_FORM_strx present, DW_FORM_strx4 = 4 bytes, DW_FORM_ref_addr = address in v2 and
    offset later, DW_FORM_strp & co. = 4/8 bytes by DWARF format are instances) -/
theorem form_table (c : DwarfCfg) (k : Nat) (hk : k ∈ stdFormCodes) :
    (Spec.dwarfStructs c).form ((formName k).getD "") = (formClass c k).map (Proofs.C04.clsCon c.le) :=
  Proofs.C04.form_lookup c k hk

/-- `Dwarf_dw_form` has, outside the form list of the bundles (`DwarfStructs.formNames`), exactly one key that is the
    name of a form: DW_FORM_ref (the other stray key is an attribute name, which neither `ENUM_DW_FORM` nor
    `DW_FORM_raw2name` can produce) -/
theorem form_extra_keys :
    Gen.dieExtraFormKeys.filter (fun k => k.toList.take 8 == "DW_FORM_".toList) = ["DW_FORM_ref"] := by decide +kernel

/-- … and for all 32 configurations the regenerated `Dwarf_dw_form['DW_FORM_ref']` is the configuration's
    `the_Dwarf_uint32` — the bundle field `Model.C04.formParser` answers with for that name (`formParser_ref`),
    which `dwarf_fields` ties to the standard's 4-byte unsigned reader -/
theorem form_ref_entry :
    Gen.dieExtraForms.map (fun r => (r.1, (r.2.find? (·.1 == "DW_FORM_ref")).map (·.2)))
      = Gen.dwarfBundles.map (fun b => (b.1, some b.2.the_Dwarf_uint32)) := by rfl

theorem formParser_ref (S : DwarfStructs) : Model.C04.formParser S (.str "DW_FORM_ref") = .ok S.the_Dwarf_uint32 := rfl

/-- the operand encoding the Spec gives code 0x02 (four bytes) is what that parser reads -/
theorem form_ref_class (c : DwarfCfg) :
    (Spec.dwarfStructs c).the_Dwarf_uint32 = Proofs.C04.clsCon c.le ((formClass c 0x02).getD .present) := rfl

open Proofs.EnumTable in
/-- the attribute names the abbreviation struct's lambdas and the base-attribute look-ups compare against
    (one pass over the table) -/
theorem at_names : [("DW_AT_null", ((0 : Nat) : Int)), ("DW_AT_str_offsets_base", ((0x72 : Nat) : Int)),
    ("DW_AT_addr_base", ((0x73 : Nat) : Int)), ("DW_AT_rnglists_base", ((0x74 : Nat) : Int)),
    ("DW_AT_loclists_base", ((0x8c : Nat) : Int))].all (namesOnly (genTable "ENUM_DW_AT")) = true := by decide +kernel

open Proofs.EnumTable in
theorem gen_at_iff {name : String} {v : Nat} (h : namesOnly (genTable "ENUM_DW_AT") (name, v) = true) (k : Nat) :
    ((Proofs.C04.namesOf Model.genEnumDecode).at_ k == Val.str name) = (k == v) := by
  unfold Proofs.C04.namesOf
  rw [Proofs.C04.enumVal_beq_str]
  by_cases e : k = v <;> simp [genEnumDecode_nat_iff h, e]

open Proofs.EnumTable in
/-- the parts of `at_names` and `form_table_ok`, named once, in the order of the two lists -/
theorem names_unpack :
    Proofs.C04.EnumOK Model.genEnumDecode ∧ Proofs.C04.BaseNames (Proofs.C04.namesOf Model.genEnumDecode) := by
  have ha := at_names
  have hf := (Bool.and_eq_true_iff.1 form_table_ok).2
  simp only [List.all_cons, List.all_nil, Bool.and_true, Bool.and_eq_true] at ha hf
  obtain ⟨atNull, strOffsets, addr, rnglists, loclists⟩ := ha
  obtain ⟨formNull, formImplicit⟩ := hf
  exact ⟨{ children0 := enum_children.1, children1 := enum_children.2, at_null := genEnumDecode_nat_iff atNull,
           form_null := genEnumDecode_nat_iff formNull, form_implicit := genEnumDecode_nat_iff formImplicit },
         { strOffsets := gen_at_iff strOffsets, addr := gen_at_iff addr, rnglists := gen_at_iff rnglists,
           loclists := gen_at_iff loclists }⟩

/-- the regenerated registry has what `_parse_abbrev_table` relies on (ENUM_DW_CHILDREN = {0, 1};
    DW_AT_null / DW_FORM_null are 0 and nothing else is; DW_FORM_implicit_const is 0x21 and nothing else is) -/
theorem enum_ok : Proofs.C04.EnumOK Model.genEnumDecode := names_unpack.1

/-- `ENUM_DW_UT` (the DWARF 5 unit header's switch key) names the six unit types as the standard does -/
theorem enum_ut : ∀ k : Nat, 1 ≤ k → k ≤ 6 → Model.genEnumDecode "ENUM_DW_UT" k = Spec.Lookup.utName k := by
  have h : ∀ k ∈ List.range' 1 6, Model.genEnumDecode "ENUM_DW_UT" k = Spec.Lookup.utName k := by decide +kernel
  exact fun k h1 h6 => h k (List.mem_range'_1.2 ⟨h1, by omega⟩)

/-- the regenerated `ENUM_DW_AT` presents DW_AT_str_offsets_base / addr_base / rnglists_base / loclists_base
    (0x72, 0x73, 0x74, 0x8c) under these names and nothing else under them -/
theorem base_names : Proofs.C04.BaseNames (Proofs.C04.namesOf Model.genEnumDecode) := names_unpack.2

/-- any registry: names are strings or numbers, hence equal to themselves and never `None` -/
theorem names_refl (ed : String → Int → Option String) (k : Nat) :
    ((Proofs.C04.namesOf ed).at_ k == (Proofs.C04.namesOf ed).at_ k) = true :=
  Proofs.C04.namesOf_refl ed k

theorem names_tag (ed : String → Int → Option String) (x : Nat) : (Proofs.C04.namesOf ed).tag x ≠ Val.none :=
  Proofs.C04.namesOf_tag ed x

end PyElf.Props.TieC04
