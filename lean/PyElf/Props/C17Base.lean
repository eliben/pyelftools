/-
  C17 — shared statement forms: "the regenerated table with this id key exists and obeys the rule", and the
  evaluated forms (`tableCheckB`, `markerCheckB`) the per-table theorems are decided by.
-/
import PyElf.Spec.Registry
import PyElf.Spec.RegistryDecisions
import PyElf.Proofs.Registry
import PyElf.Proofs.RegistryMarkers
import PyElf.Gen.Extra_C17
namespace PyElf.Props.C17
open PyElf PyElf.Spec PyElf.Proofs.Registry
set_option maxRecDepth 100000

/-- the vendored tree is a search tree … -/
theorem registry_ordered : Registry.tree.bounded 0 Registry.keyBound = true := by decide +kernel

/-- … hence its lookups are lookups in the association list `Registry.entries` the theorems speak about -/
theorem registry_lookup (q : Nat) : Registry.tree.lookup q = alookup Registry.entries q :=
  lookup_eq _ _ _ registry_ordered q

def findTable (key : Nat) : List (Nat × String × Bool × List (Nat × Int)) → Option (String × Bool × List (Nat × Int))
  | [] => none
  | (k, rest) :: more => match Nat.beq k key with | true => some rest | false => findTable key more

def TableConforms (key : Nat) (id : String) : Prop :=
  ∃ e T, findTable key Gen.tableIndex = some (id, e, T) ∧ Conforms Registry.entries T

def TableDecodesStd (key : Nat) (id : String) : Prop :=
  ∃ e T, findTable key Gen.tableIndex = some (id, e, T) ∧ DecodesStd Registry.entries legacyAliases T

def TablesRelated (k1 : Nat) (id1 : String) (k2 : Nat) (id2 : String)
    (P : List (Nat × Int) → List (Nat × Int) → Prop) : Prop :=
  ∃ e1 M e2 T, findTable k1 Gen.tableIndex = some (id1, e1, M) ∧ findTable k2 Gen.tableIndex = some (id2, e2, T) ∧ P M T

def TableNoMarkerShadow (key : Nat) (id : String) : Prop :=
  ∃ e T ms M, findTable key Gen.tableIndex = some (id, e, T) ∧ findMarkers key Gen.markerIndex = some ms ∧
    attachMarkers T ms = some M ∧ NoMarkerShadow M

/-- evaluated form: the check of table `key` against ITS flag list (false when there is none) -/
def markerCheckB (key : Nat) (T : List (Nat × Int)) : Bool :=
  match findMarkers key Gen.markerIndex with
  | some ms => markerWalkB T ms
  | none => false

theorem markerCheckB_elim {key : Nat} {T : List (Nat × Int)} (h : markerCheckB key T = true) :
    ∃ ms M, findMarkers key Gen.markerIndex = some ms ∧ attachMarkers T ms = some M ∧ NoMarkerShadow M := by
  unfold markerCheckB at h
  cases hf : findMarkers key Gen.markerIndex with
  | none => rw [hf] at h; simp at h
  | some ms =>
    rw [hf] at h
    obtain ⟨M, ha, hM⟩ := markerWalkB_elim h
    exact ⟨ms, M, rfl, ha, hM⟩

def tableCheckB (key : Nat) (id : String) (f : List (Nat × Int) → Bool) : Bool :=
  match findTable key Gen.tableIndex with
  | some (id', _, T) => (id' == id) && f T
  | none => false

theorem tableCheckB_elim {key : Nat} {id : String} {f : List (Nat × Int) → Bool} (h : tableCheckB key id f = true) :
    ∃ e T, findTable key Gen.tableIndex = some (id, e, T) ∧ f T = true := by
  unfold tableCheckB at h
  split at h
  next id' e T heq =>
    simp only [Bool.and_eq_true, beq_iff_eq] at h
    obtain ⟨h1, h2⟩ := h
    subst h1
    exact ⟨e, T, heq, h2⟩
  next => simp at h

theorem tableConforms_of {key : Nat} {id : String}
    (h : tableCheckB key id (conformsB Registry.tree) = true) : TableConforms key id := by
  obtain ⟨e, T, heq, hf⟩ := tableCheckB_elim h
  exact ⟨e, T, heq, conformsB_sound registry_ordered hf⟩

theorem tableDecodesStd_of {key : Nat} {id : String}
    (h : tableCheckB key id (fun T => decodesWalk Registry.tree legacyAliases (knownVals Registry.tree T) T) = true) :
    TableDecodesStd key id := by
  obtain ⟨e, T, heq, hf⟩ := tableCheckB_elim h
  exact ⟨e, T, heq, decodesWalk_sound registry_ordered hf⟩

theorem tableNoMarkerShadow_of {key : Nat} {id : String}
    (h : tableCheckB key id (markerCheckB key) = true) : TableNoMarkerShadow key id := by
  obtain ⟨e, T, heq, hf⟩ := tableCheckB_elim h
  obtain ⟨ms, M, h1, h2, h3⟩ := markerCheckB_elim hf
  exact ⟨e, T, ms, M, heq, h1, h2, h3⟩

theorem tablesRelated_of {k1 k2 : Nat} {id1 id2 : String} {P : List (Nat × Int) → List (Nat × Int) → Prop}
    (f : List (Nat × Int) → List (Nat × Int) → Bool) (hf : ∀ M T, f M T = true → P M T)
    (h : tableCheckB k1 id1 (fun M => tableCheckB k2 id2 (fun T => f M T)) = true) : TablesRelated k1 id1 k2 id2 P := by
  obtain ⟨e1, M, h1, hM⟩ := tableCheckB_elim h
  obtain ⟨e2, T, h2, hT⟩ := tableCheckB_elim hM
  exact ⟨e1, M, e2, T, h1, h2, hf M T hT⟩

end PyElf.Props.C17
