/-
  C11 tie: the structures, tables and constants the container code uses are the Spec's, for every
  configuration the translator enumerates; the section-name table regenerated from the source of
  `get_dwarf_info` is the Spec's list of DWARF section names.
  The fields the container reader itself parses are TieC01's evaluations, restated.
  The theorems of Props/C11 are stated over the Spec's structures, names and constants and apply none of the ties:
  each stands so that the check fails, naming what changed, when the regenerated side stops being the Spec's.
-/
import PyElf.Gen.Structs
import PyElf.Gen.Extra_C11
import PyElf.Spec.ElfStructs
import PyElf.Spec.DwarfStructs
import PyElf.Spec.Container
import PyElf.Model.Env
import PyElf.Model.DwarfView
import PyElf.Props.TieC01
namespace PyElf.Props.TieC11
open PyElf

theorem elf_Elf_Chdr : Gen.elfBundles.map (fun b => (b.1, b.2.Elf_Chdr)) = Spec.allElfCfgs.map (fun c => (c, (Spec.elfStructs c).Elf_Chdr)) := TieC01.elf_Elf_Chdr
theorem elf_Gnu_debuglink : Gen.elfBundles.map (fun b => (b.1, b.2.Gnu_debuglink)) = Spec.allElfCfgs.map (fun c => (c, (Spec.elfStructs c).Gnu_debuglink)) := by rfl
theorem dwarf_Dwarf_debugsup : Gen.dwarfBundles.map (fun b => (b.1, b.2.Dwarf_debugsup)) = Spec.allDwarfCfgs.map (fun c => (c, (Spec.dwarfStructs c).Dwarf_debugsup)) := by rfl
theorem dwarf_Dwarf_debugaltlink : Gen.dwarfBundles.map (fun b => (b.1, b.2.Dwarf_debugaltlink)) = Spec.allDwarfCfgs.map (fun c => (c, (Spec.dwarfStructs c).Dwarf_debugaltlink)) := by rfl

/-- the translator recognised the shape of `get_dwarf_info` -/
theorem names_not_refused : Gen.c11Refused = false := by rfl

theorem section_names :
    Gen.c11SectionNames.map (fun e => (e.1, e.2.1)) = Spec.C11.sectionNames.map (fun e => (e.1, e.2.1)) := by rfl

/-- which names the reader renames in a `.zdebug` file: the Spec's, `.gnu_debugaltlink` aside (the
    library also looks for a `.zgnu_debugaltlink`, which no producer ever emitted) -/
theorem section_renaming :
    (Gen.c11SectionNames.filter (fun e => e.1 != "gnu_debugaltlink_sec")).map (fun e => (e.1, e.2.2))
      = (Spec.C11.sectionNames.filter (fun e => e.1 != "gnu_debugaltlink_sec")).map (fun e => (e.1, e.2.2)) := by rfl

/-- a name that is not renamed is never taken for a legacy-compressed one -/
theorem unrenamed_not_dotZ :
    ∀ kn ∈ Gen.c11SectionNames, kn.2.2 = false → Model.C11.startsWithDotZ kn.2.1 = false := by decide +kernel

theorem shf_compressed : Gen.c11ShfCompressed = Spec.C11.shfCompressed := by rfl
theorem elfcompress_zlib : Gen.c11Zlib = Spec.C11.compressZlib := by rfl
theorem em_dspic30f : Gen.c11DspicMachine = Spec.C11.emDspic30f := by rfl

/-- the names the model tests decoded codes against are the generated tables' names for the Spec's numbers -/
theorem zlib_name : Model.genEnumDecode "ENUM_ELFCOMPRESS_TYPE" (Spec.C11.compressZlib : Nat) = some "ELFCOMPRESS_ZLIB" := by rfl
theorem dspic_name : Model.genEnumDecode "ENUM_E_MACHINE" (Spec.C11.emDspic30f : Nat) = some "EM_DSPIC30F" := by rfl

theorem model_names :
    Model.C11.nDebugInfo = [0x2e, 0x64, 0x65, 0x62, 0x75, 0x67, 0x5f, 0x69, 0x6e, 0x66, 0x6f] ∧
    Model.C11.nZdebugInfo = Spec.C11.zdebugName Model.C11.nDebugInfo ∧
    Model.C11.magicZlib = Spec.C11.zlibMagic ∧
    (∀ x, Model.C11.zName x = Spec.C11.zdebugName x) := by
  refine ⟨rfl, rfl, rfl, fun _ => rfl⟩

end PyElf.Props.TieC11
