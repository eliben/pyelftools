/-
  C07 tie: the constructs and code tables the list code relies on are, for every
  configuration the library can build, the ones the C07 theorems are about.
  The theorems of Props/C07 are stated over `Spec.dwarfStructs c` itself and apply none of the field ties: each
  stands so that the check fails, naming the field, when the struct the library builds for some configuration stops
  being the Spec's.  The list is the attributes of `DWARFStructs` the C07 model reads (those locationlists.py and
  ranges.py mention, and the offset readers of the index tables).
  Applied in Props/C07: `lle_codes`, `rle_codes`, `formNames`, `block_prefix_forms`, `gen_structs`.
-/
import PyElf.Gen.Structs
import PyElf.Gen.Tables
import PyElf.Spec.DwarfStructs
import PyElf.Spec.Lists
import PyElf.Model.Env
import PyElf.Props.TieDwarf
namespace PyElf.Props.TieC07
open PyElf

theorem dwarf_Dwarf_loclists_entries : Gen.dwarfBundles.map (fun b => (b.1, b.2.Dwarf_loclists_entries)) = Spec.allDwarfCfgs.map (fun c => (c, (Spec.dwarfStructs c).Dwarf_loclists_entries)) := by rfl
theorem dwarf_Dwarf_rnglists_entries : Gen.dwarfBundles.map (fun b => (b.1, b.2.Dwarf_rnglists_entries)) = Spec.allDwarfCfgs.map (fun c => (c, (Spec.dwarfStructs c).Dwarf_rnglists_entries)) := by rfl
theorem dwarf_Dwarf_loclists_CU_header : Gen.dwarfBundles.map (fun b => (b.1, b.2.Dwarf_loclists_CU_header)) = Spec.allDwarfCfgs.map (fun c => (c, (Spec.dwarfStructs c).Dwarf_loclists_CU_header)) := by rfl
theorem dwarf_Dwarf_rnglists_CU_header : Gen.dwarfBundles.map (fun b => (b.1, b.2.Dwarf_rnglists_CU_header)) = Spec.allDwarfCfgs.map (fun c => (c, (Spec.dwarfStructs c).Dwarf_rnglists_CU_header)) := by rfl
theorem dwarf_Dwarf_locview_pair : Gen.dwarfBundles.map (fun b => (b.1, b.2.Dwarf_locview_pair)) = Spec.allDwarfCfgs.map (fun c => (c, (Spec.dwarfStructs c).Dwarf_locview_pair)) := by rfl
theorem dwarf_Dwarf_loclists_counted_location_description : Gen.dwarfBundles.map (fun b => (b.1, b.2.Dwarf_loclists_counted_location_description)) = Spec.allDwarfCfgs.map (fun c => (c, (Spec.dwarfStructs c).Dwarf_loclists_counted_location_description)) := by rfl
theorem dwarf_the_Dwarf_target_addr : Gen.dwarfBundles.map (fun b => (b.1, b.2.the_Dwarf_target_addr)) = Spec.allDwarfCfgs.map (fun c => (c, (Spec.dwarfStructs c).the_Dwarf_target_addr)) := by rfl
theorem dwarf_the_Dwarf_offset : Gen.dwarfBundles.map (fun b => (b.1, b.2.the_Dwarf_offset)) = Spec.allDwarfCfgs.map (fun c => (c, (Spec.dwarfStructs c).the_Dwarf_offset)) := by rfl
theorem dwarf_the_Dwarf_uint16 : Gen.dwarfBundles.map (fun b => (b.1, b.2.the_Dwarf_uint16)) = Spec.allDwarfCfgs.map (fun c => (c, (Spec.dwarfStructs c).the_Dwarf_uint16)) := by rfl
theorem dwarf_the_Dwarf_uint8 : Gen.dwarfBundles.map (fun b => (b.1, b.2.the_Dwarf_uint8)) = Spec.allDwarfCfgs.map (fun c => (c, (Spec.dwarfStructs c).the_Dwarf_uint8)) := by rfl
theorem dwarf_Dwarf_uint32 : Gen.dwarfBundles.map (fun b => (b.1, b.2.Dwarf_uint32)) = Spec.allDwarfCfgs.map (fun c => (c, (Spec.dwarfStructs c).Dwarf_uint32)) := by rfl
theorem dwarf_Dwarf_uint64 : Gen.dwarfBundles.map (fun b => (b.1, b.2.Dwarf_uint64)) = Spec.allDwarfCfgs.map (fun c => (c, (Spec.dwarfStructs c).Dwarf_uint64)) := by rfl

/-- `ENUM_DW_LLE` is DWARF 5 table 7.10, entry by entry -/
theorem lle_table : (Gen.tables.find? (·.1 == "ENUM_DW_LLE")).map (·.2.1)
    = some (Spec.Lists.lleKinds.map fun k => (k.name, (k.code : Int))) := by decide +kernel

/-- `ENUM_DW_RLE` is DWARF 5 table 7.30, entry by entry -/
theorem rle_table : (Gen.tables.find? (·.1 == "ENUM_DW_RLE")).map (·.2.1)
    = some (Spec.Lists.rleKinds.map fun k => (k.name, (k.code : Int))) := by decide +kernel

/-- the decoding direction the entry structs use (`Enum(..., **ENUM_DW_LLE)`) -/
theorem lle_codes : ∀ k ∈ Spec.Lists.lleKinds, Model.genEnumDecode "ENUM_DW_LLE" (k.code : Int) = some k.name := by decide +kernel

theorem rle_codes : ∀ k ∈ Spec.Lists.rleKinds, Model.genEnumDecode "ENUM_DW_RLE" (k.code : Int) = some k.name := by decide +kernel

def formNames : List String := ((Gen.tables.find? (·.1 == "ENUM_DW_FORM")).map (·.2.1.map (·.1))).getD []

/-- among the library's forms, the names starting with "DW_FORM_block" are exactly the four block forms -/
theorem block_prefix_forms :
    ∀ f ∈ formNames, "DW_FORM_block".toList.isPrefixOf f.toList = Spec.Lists.blockForms.contains f := by decide +kernel

/-- `cu.structs` / `DWARFInfo.structs` of the composed model (Model/ListsInfo) are whole bundles answered by the look-up
    `Model.dwarfStructsFor`: the Spec's, read off Props/TieDwarf -/
theorem gen_structs (c : DwarfCfg) (hc : c ∈ Spec.allDwarfCfgs) : Model.dwarfStructsFor c = some (Spec.dwarfStructs c) :=
  TieDwarf.gen_structs c hc

end PyElf.Props.TieC07
