/-
  C05 tie: the structs, tables and constants the line-program model reads from the
  regenerated side are the standard's (Spec), for every configuration.
  Applied in Props/C05: `lnct_names`, `form_names`, `gen_structs`, `stmt_list_name`.  `lnConsts_are_standard` (the Spec's
  opcode numbers are the library's), the field ties and the two `extra_forms_*` only alarm: the property is stated over
  `Spec.dwarfStructs c` and the Spec's numbers.
-/
import PyElf.Gen.Structs
import PyElf.Gen.Extra_C05
import PyElf.Spec.DwarfStructs
import PyElf.Spec.LineProgram
import PyElf.Model.Env
import PyElf.Model.LineProgram
import PyElf.Proofs.LineProgram
import PyElf.Props.TieDwarf
import PyElf.Props.TieC04
namespace PyElf.Props.TieC05
open PyElf

/-- the line-program header struct (all versions, incl. the v5 entry-format / FormattedEntry fields) -/
theorem dwarf_Dwarf_lineprog_header : Gen.dwarfBundles.map (fun b => (b.1, b.2.Dwarf_lineprog_header)) = Spec.allDwarfCfgs.map (fun c => (c, (Spec.dwarfStructs c).Dwarf_lineprog_header)) := by rfl
theorem dwarf_Dwarf_lineprog_file_entry : Gen.dwarfBundles.map (fun b => (b.1, b.2.Dwarf_lineprog_file_entry)) = Spec.allDwarfCfgs.map (fun c => (c, (Spec.dwarfStructs c).Dwarf_lineprog_file_entry)) := by rfl
theorem dwarf_the_Dwarf_uint8 : Gen.dwarfBundles.map (fun b => (b.1, b.2.the_Dwarf_uint8)) = Spec.allDwarfCfgs.map (fun c => (c, (Spec.dwarfStructs c).the_Dwarf_uint8)) := by rfl
theorem dwarf_the_Dwarf_uint16 : Gen.dwarfBundles.map (fun b => (b.1, b.2.the_Dwarf_uint16)) = Spec.allDwarfCfgs.map (fun c => (c, (Spec.dwarfStructs c).the_Dwarf_uint16)) := by rfl
theorem dwarf_the_Dwarf_uleb128 : Gen.dwarfBundles.map (fun b => (b.1, b.2.the_Dwarf_uleb128)) = Spec.allDwarfCfgs.map (fun c => (c, (Spec.dwarfStructs c).the_Dwarf_uleb128)) := by rfl
theorem dwarf_the_Dwarf_sleb128 : Gen.dwarfBundles.map (fun b => (b.1, b.2.the_Dwarf_sleb128)) = Spec.allDwarfCfgs.map (fun c => (c, (Spec.dwarfStructs c).the_Dwarf_sleb128)) := by rfl
theorem dwarf_the_Dwarf_target_addr : Gen.dwarfBundles.map (fun b => (b.1, b.2.the_Dwarf_target_addr)) = Spec.allDwarfCfgs.map (fun c => (c, (Spec.dwarfStructs c).the_Dwarf_target_addr)) := by rfl
/-- the form → parser table `FormattedEntry` indexes with the forms of a v5 entry format -/
theorem dwarf_forms : Gen.dwarfBundles.map (fun b => (b.1, b.2.forms)) = Spec.allDwarfCfgs.map (fun c => (c, (Spec.dwarfStructs c).forms)) := by rfl

/-- `DW_LNS_*` / `DW_LNE_*` as the decoder sees them are the standard's numbers (DWARF 5 §7.22) -/
theorem lnConsts_are_standard :
    Model.Line.LnConsts.ofTable Gen.lnConstTable = some Proofs.Line.specConsts := by rfl

/-- the driver runs the model with `forms` extended by `Gen.lineExtraForms` (entries of `Dwarf_dw_form` the
    bundles do not list; only malformed entry formats can name them): none of them shadows a listed form -/
theorem extra_forms_disjoint :
    Gen.lineExtraFormNames.all (fun n => !DwarfStructs.formNames.contains n) = true := by decide +kernel
theorem extra_forms_names :
    Gen.lineExtraForms.all (fun e => e.2.all fun f => Gen.lineExtraFormNames.contains f.1) = true := by decide +kernel

/-- content-type codes decode to the standard's names (DWARF 5 table 7.27) -/
theorem lnct_names : ∀ ct ∈ [1, 2, 3, 4, 5],
    Model.genEnumDecode "ENUM_DW_LNCT" (Int.ofNat ct) = Spec.Line.lnctName ct := by decide +kernel

/-- the form codes the Spec allows in entry formats decode to the standard's form names (table 7.6) -/
theorem form_names : ∀ fc ∈ [0x08, 0x1f, 0x0e, 0x1d, 0x0b, 0x05, 0x06, 0x07, 0x0f, 0x1e, 0x09],
    Model.genEnumDecode "ENUM_DW_FORM" (Int.ofNat fc) = (Spec.Line.formOf fc).map (·.1) := by decide +kernel

/-- `line_program_for_CU` parses with `CU.structs`, a whole bundle answered by the look-up `Model.dwarfStructsFor`:
    the Spec's, read off Props/TieDwarf -/
theorem gen_structs (c : DwarfCfg) (hc : c ∈ Spec.allDwarfCfgs) : Model.dwarfStructsFor c = some (Spec.dwarfStructs c) :=
  TieDwarf.gen_structs c hc

/-- "DW_AT_stmt_list", the name `line_program_for_CU` looks up in `top_DIE.attributes`, is borne by 0x10 and nothing
    else in the regenerated `ENUM_DW_AT` -/
theorem stmt_list_name (k : Nat) :
    ((Proofs.C04.namesOf Model.genEnumDecode).at_ k == Val.str "DW_AT_stmt_list") = (k == 0x10) :=
  TieC04.gen_at_iff (v := 0x10) (by decide +kernel) k

end PyElf.Props.TieC05
