/-
  C04 — debugging-information entries are decoded into exactly the encoded tree.

  In the order of the file, each layer composed into the next: forms (`form_roundtrip`; the table itself is Props/TieC04
  `form_table`), iteration abstract in the entry decoder (`iter_dies_flatten`), abbreviation tables
  (`abbrev_roundtrip`), one entry (`die_roundtrip`), value translation against `Spec.C04.resolve` under an explicit
  `Sections` layout (`translate_resolve`; with it `top_die_roundtrip` and `iter_dies_exact`, where no hypothesis about
  the cache or the decoder is left), unit headers and tiling up to the declared length, children and parents,
  references (`ref_section_relative` through C13's unit lookup; `ref_sig8_*`), and END TO END `debug_info_exact`,
  `debug_types_exact`, `refs_info_exact` on every well-formed forest description (Spec/DieSection `Forest`,
  `wfForestB`).  The glue between a parsed unit header and the `UnitCtx` of its entries is MODELLED (Model/DieSection
  `unitCtx`) and proved (Proofs/DieSection).  The section theorems are about the model AS THE DRIVER RUNS IT
  (`Model.C04.genDInfo`: regenerated registry, regenerated struct bundles through `Model.dwarfStructsFor`): `UnitOK` asks
  of a unit's bundle only agreement with the standard's on the fields the DIE code reads (`Proofs.C04.BundleEq`), which
  Props/TieC04 `gen_bundles` proves of every regenerated bundle.
  Proof-side definitions in the statements: `clsCon` (Proofs/DieForms), `BundleEq` (DieBundle), `namesOf`, `EnumOK`,
  `BaseNames`, `abbrevMap` (DieAbbrev), `UnitOK`, `TransOK` (DieEntry), `Covered`, `Tiles`, `flattenUnitP` (DieIter),
  `TreeAll`, `ForestAll`, `DistinctAt`, `NodeOK` (DieUnit), `SecsOK`, `BasesOK`, `intForms`, `preResolve` (DieValues),
  `ResolvesAll`, `rho`, `NodeWF` (DieTop), `parentsOf` (DieChildren), `RegistryOK`, `Bundles`, `BundlesOK`, `dinfoOf`,
  `ctxOf` (DieSection), `tuOf`, `specTU`, `specP`, `cuOf`, `cusOf` (DwarfUnits), `Chain`, `Inv` (DwarfLookup).  Behind the namespace stand three lemmas of `Proofs.Lookup` that speak of `infoCtx`:
  `forest_getTopDIE`, `infoCtx_S`, `infoCtx_env`.
  Ties (Props/TieC04): struct fields (`dwarf_fields`, `gen_bundles`), `enum_ok`, `enum_forms`,
  `raw2name_forms`, `enum_ut`, `base_names`, `form_ref_entry`, `form_extra_keys`.
  Correspondence-only (model ↔ code checked by the harness on every run, no theorem):
    * what a raising scan of `.debug_types` / `.debug_info` raises for a given malformed unit (the theorems say that
      `get_DIE_by_sig8` re-raises the scan's exception, whichever it is);
    * the driver answers DW_FORM_ref_addr queries with a linear search over the scanned units (`Driver.C04.sectionRef`);
      `refs_info_exact` is about C13's model of `get_CU_containing` (bisect over the unit cache, any reachable cache
      state).  That the two agree is Props/C13 `ref_addr_scan_agrees` / `ref_addr_resolution_exact`;
    * the cache refinement of `_get_cached_DIE` / `_dielist` (C10), incl. a DIE fetched below
      cu_die_offset taking the top DIE's slot (driver: `fetch` / `low_fetch`).
-/
import PyElf.Core.Construct
import PyElf.Spec.DieTree
import PyElf.Model.Die
import PyElf.Proofs.DieForms
import PyElf.Proofs.DieIter
import PyElf.Proofs.DieAbbrev
import PyElf.Proofs.DieEntry
import PyElf.Proofs.DieUnit
import PyElf.Proofs.DieHeaders
import PyElf.Proofs.DieValues
import PyElf.Proofs.DieTop
import PyElf.Proofs.DieChildren
import PyElf.Spec.DieSection
import PyElf.Model.DieSection
import PyElf.Proofs.DieSection
import PyElf.Proofs.DieSig8
import PyElf.Proofs.DieForestB
import PyElf.Proofs.SigCache
import PyElf.Props.TieC04
namespace PyElf.Props.C04
open PyElf PyElf.Spec PyElf.Spec.C04 PyElf.Model.C04 PyElf.Proofs PyElf.Proofs.C04

/-- every form of the table × every configuration × every in-range operand, anywhere in any byte string: the registered
    parser returns the operand's value and consumes exactly its bytes -/
theorem form_roundtrip (env : Env) (c : DwarfCfg) (k : Nat) (hk : k ∈ stdFormCodes) (cl : Cls)
    (hcl : formClass c k = some cl) (op : Operand) (hwf : wfOperand cl op = true) (pre rest : Bytes) (ctx : Fields) :
    ∃ P, (Spec.dwarfStructs c).form ((formName k).getD "") = some P ∧
      Con.parse env (pre ++ encOperand c.le cl op ++ rest) P ctx pre.length
        = .ok (rawVal op, pre.length + (encOperand c.le cl op).length, ctx) := by
  refine ⟨clsCon c.le cl, ?_, ?_⟩
  · rw [TieC04.form_table c k hk, hcl]; rfl
  · exact operand_roundtrip cl op hwf (drop_pre pre _ rest)

/--
  The legacy DW_FORM_ref (code 0x02; unassigned in DWARF 2–5, the 4-byte FORM_REF of DWARF 1.1,
  read by the library as a unit-relative reference): `Dwarf_dw_form['DW_FORM_ref']` reads exactly the four bytes of the
  operand, in the unit's byte order (tied to the regenerated dict entry by Props/TieC04 `form_ref_entry`,
  `form_extra_keys`).  With it code 0x02 has a `formClass`, so every theorem of this file covers entries that use it.
-/
theorem form_ref_roundtrip (env : Env) (c : DwarfCfg) (v : Nat) (hv : v < 256 ^ 4) (pre rest : Bytes) (ctx : Fields) :
    formClass c 0x02 = some (.fixed 4) ∧ formName 0x02 = some "DW_FORM_ref" ∧
    ∃ P, formParser (Spec.dwarfStructs c) (.str "DW_FORM_ref") = .ok P ∧
      Con.parse env (pre ++ encOperand c.le (.fixed 4) (.nat v) ++ rest) P ctx pre.length
        = .ok (.int v, pre.length + (encOperand c.le (.fixed 4) (.nat v)).length, ctx) := by
  refine ⟨rfl, rfl, clsCon c.le (.fixed 4), rfl, ?_⟩
  exact operand_roundtrip (.fixed 4) (.nat v) (by simpa [wfOperand] using hv) (drop_pre pre _ rest)

/-- the whole operand table of DWARF 5 §7.5.6 (and the legacy code 0x02) is covered -/
theorem form_classes_total (c : DwarfCfg) : formCodes.all (fun k => (formClass c k).isSome) = true :=
  formClass_total c

/--
  `G` is `_get_cached_DIE` of the unit.  If `G` finds the entries of `flattenUnit` at their offsets
  (`hG`) and DW_AT_sibling, where an entry that owns children has one, designates the entry after the owner's subtree
  (`hsib`; one of the six unit-relative reference forms or DW_FORM_ref_addr), then driving `cu.iter_DIEs()` to
  exhaustion yields exactly the encoded sequence, null entries closing exactly the sibling lists they terminate, each
  entry with the parent the encoded nesting gives it.
-/
theorem iter_dies_flatten {nm : Names} (hnm : ∀ x, nm.tag x ≠ Val.none) (c : DwarfCfg) (ρtop ρ : Val → Val → Val)
    (G : Nat → R DieObs) (cuOff dieOff fuel : Nat) (t : Tree) (hfuel : t.count ≤ fuel)
    (hG : Covered G (flattenUnit nm c ρtop ρ dieOff t))
    (hsib : sibsOk nm c ρ cuOff dieOff t = true) :
    iterDIEs G cuOff dieOff fuel = .ok (flattenUnitP nm c ρtop ρ dieOff t) :=
  Proofs.C04.iter_dies_flatten hnm c ρtop ρ G cuOff dieOff fuel t hfuel hG hsib

theorem flattenUnitP_fst (nm : Names) (c : DwarfCfg) (ρtop ρ : Val → Val → Val) (off : Nat) (t : Tree) :
    (flattenUnitP nm c ρtop ρ off t).map (·.1) = flattenUnit nm c ρtop ρ off t :=
  flatUnitP_fst nm c ρtop ρ off t

/-- tiling: the entries of a tree lie back to back, without gap or overlap, from the tree's first byte to its last -/
theorem tiling (nm : Names) (c : DwarfCfg) (ρ : Val → Val → Val) (t : Tree) (off : Nat) :
    Tiles off (flatten nm c ρ off t) (off + (encTree c t).length) :=
  flatten_tiles nm c ρ t off

/-- a unit-relative reference that designates an entry of the unit resolves to that entry -/
theorem ref_unit_relative (U : UnitCtx) (l : List DieObs) (hcov : Covered (getCachedDIE U) l) (d : DieObs)
    (hd : d ∈ l) (hr : U.cuDieOffset ≤ d.offset ∧ d.offset < U.cuOffset + U.size) :
    unitDIEFromRefaddr U d.offset = .ok d :=
  unitDIEFromRefaddr_covered U l hcov d hd hr

/--
  `_parse_abbrev_table` on an encoded table, anywhere in any section, for every registry with the
  `EnumOK` facts (Props/TieC04 `enum_ok`): arbitrary codes in any LEB128 padding, unknown tag / attribute / form numbers
  (presented as numbers), DW_FORM_implicit_const values.  A repeated code overwrites the earlier declaration, as in the
  Python dict (`abbrevMap`).
-/
theorem abbrev_roundtrip (env : Env) (hok : EnumOK env.enumDecode) (c : DwarfCfg) (ds : List AbbrevDecl) (endLen : Nat)
    (hwf : ds.all wfDecl = true) (hend : 1 ≤ endLen) (pre rest : Bytes) (hoff : pre.length < 2 ^ 63) :
    getAbbrevTable env (Spec.dwarfStructs c) (some (pre ++ encAbbrevs ds endLen ++ rest)) pre.length
      = .ok (abbrevMap (namesOf env.enumDecode) ds) :=
  getAbbrevTable_encoded hok c ds (fun d hd => List.all_eq_true.1 hwf d hd) hend hoff (drop_pre pre _ rest)

/-- … for a well-formed table (distinct codes) the dict is the table itself, in order, and
    `get_abbrev(code)` returns the declaration with that code -/
theorem abbrev_roundtrip_table (env : Env) (hok : EnumOK env.enumDecode) (c : DwarfCfg) (ds : List AbbrevDecl)
    (endLen : Nat) (hwf : wfAbbrevs ds endLen = true) (pre rest : Bytes) (hoff : pre.length < 2 ^ 63) :
    getAbbrevTable env (Spec.dwarfStructs c) (some (pre ++ encAbbrevs ds endLen ++ rest)) pre.length
        = .ok (ds.map fun d => (d.code, declVal (namesOf env.enumDecode) d))
      ∧ ∀ d ∈ ds, mapGet? (ds.map fun d => (d.code, declVal (namesOf env.enumDecode) d)) d.code
          = some (declVal (namesOf env.enumDecode) d) := by
  have hw := wfAbbrevs_parts hwf
  refine ⟨?_, fun d hd => mapGet_table _ ds d hd hw.nodup⟩
  rw [abbrev_roundtrip env hok c ds endLen (List.all_eq_true.2 hw.decls) hw.endLen pre rest hoff,
    abbrevMap_nodup _ ds hw.nodup]

/--
  `DIE(cu, stream, offset)` on an encoded entry at its offset, in any unit context with `UnitOK`: the
  observation is exactly `entryObs` — offset, size, abbreviation code, tag, child flag and, in order, each attribute's
  name, final form, raw value, value and offset.  Covers every form of the table, DW_FORM_indirect chains of any length,
  DW_FORM_implicit_const (value from the declaration, no bytes).  Left as hypotheses: the unit's abbreviation table has
  the declaration under the node's code (`hdecl`; `abbrev_roundtrip_table`) and each value translates to `ρ` (`htr`;
  `translate_resolve`).
-/
theorem die_roundtrip {U : UnitCtx} {c : DwarfCfg} {nm : Names} (hU : UnitOK U c nm) (ti : Option (List AttrObs))
    (ρ : Val → Val → Val) (n : Node) {off : Nat} {rest : Bytes} {m : List (Nat × Val)}
    (hwf : wfNode c n = true) (hoff : off < 2 ^ 63) (hab : U.abbrevs = .ok m)
    (hdecl : mapGet? m n.decl.code = some (declVal nm n.decl))
    (htr : TransOK U ti nm ρ n.decl.specs n.attrs) (hdist : DistinctAt nm n.decl.specs)
    (hd : U.data.drop off = encEntry c n ++ rest) :
    parseDIE U ti off = .ok (entryObs nm c ρ off n) :=
  parseDIE_encoded hU ti ρ n hwf hoff hab hdecl htr (namesDistinct_attrObs nm c ρ _ _ _ hdist) hd

/-- a null entry: abbreviation code 0 in any LEB128 padding; its size is the padding's length -/
theorem die_null_roundtrip {U : UnitCtx} {c : DwarfCfg} {nm : Names} (hU : UnitOK U c nm) (ti : Option (List AttrObs))
    {off l : Nat} {rest : Bytes} (hl : 1 ≤ l) (hoff : off < 2 ^ 63) (hd : U.data.drop off = encUlebN l 0 ++ rest) :
    parseDIE U ti off = .ok (nullObs off l) :=
  parseDIE_null hU ti hl hoff hd

theorem registry_gen : RegistryOK Model.genEnumDecode genRaw2name where
  enum := TieC04.enum_ok
  ut := TieC04.enum_ut
  forms := fun k hk => by simpa using List.all_eq_true.1 TieC04.enum_forms k hk
  raw2name := fun k hk => by simpa using List.all_eq_true.1 TieC04.raw2name_forms k hk
  bases := TieC04.base_names

theorem unit_ok_gen (U : UnitCtx) (c : DwarfCfg) (hS : U.S = Spec.dwarfStructs c) (hr : U.raw2name = genRaw2name) :
    UnitOK U c (namesOf Model.genEnumDecode) :=
  unitOK_of_registry registry_gen U c (hS ▸ BundleEq.refl _) hr

/--
  `iter_dies_exact` with the value functions `ρtop`, `ρ` left abstract: the `Covered`
  hypothesis of `iter_dies_flatten` is discharged by `die_roundtrip`, with `G := _get_cached_DIE` as parse-on-miss
  (`getCachedDIE`; the cache refinement is C10).  Left here: what `get_top_DIE` returns (`htop`) and that each value
  translates to `ρ` (`TransOK` in `NodeOK`).
-/
theorem iter_dies_of_translation {U : UnitCtx} {c : DwarfCfg} {nm : Names} (hU : UnitOK U c nm)
    (hnm : ∀ x, nm.tag x ≠ Val.none) (ρtop ρ : Val → Val → Val) {m : List (Nat × Val)} (hab : U.abbrevs = .ok m)
    (n : Node) (kids : List Tree) (nl : Nat) {rest : Bytes} (fuel : Nat) (hfuel : (Tree.mk n kids nl).count ≤ fuel)
    (hwf : wfTree c (.mk n kids nl) = true)
    (hd : U.data.drop U.cuDieOffset = encTree c (.mk n kids nl) ++ rest) (hlen : U.data.length ≤ 2 ^ 63)
    (htop : getTopDIE U = .ok (entryObs nm c ρtop U.cuDieOffset n))
    (hkids : ForestAll (NodeOK U (some (entryObs nm c ρtop U.cuDieOffset n).attrs) nm ρ m) kids)
    (hsib : sibsOk nm c ρ U.cuOffset U.cuDieOffset (.mk n kids nl) = true) :
    iterDIEs (getCachedDIE U) U.cuOffset U.cuDieOffset fuel
      = .ok (flattenUnitP nm c ρtop ρ U.cuDieOffset (.mk n kids nl)) :=
  iter_dies_flatten hnm c ρtop ρ (getCachedDIE U) U.cuOffset U.cuDieOffset fuel _ hfuel
    (covered_unit hU ρtop ρ hab n kids nl hwf hd hlen htop hkids) hsib

/--
  `DIE._translate_attr_value(form, raw_value)` with the cached top entry at hand against the
  standard's `resolve`: DW_FORM_strp / line_strp → the NUL-terminated string at that offset of .debug_str /
  .debug_line_str; strx* → the string at the offset stored in slot `str_offsets_base + i·offset_size` of
  .debug_str_offsets; addrx* → the address in slot `addr_base + i·address_size` of .debug_addr; loclistx / rnglistx →
  `base + ` the slot of the offset table; flag / flag_present → bool; everything else → the raw value.  Whenever
  `resolve` designates a value (the reference does not dangle) the translation returns exactly it.
-/
theorem translate_resolve {U : UnitCtx} {c : DwarfCfg} {nm : Names} {secs : Sections} (hU : UnitOK U c nm)
    (hS : SecsOK U c secs) {top : List AttrObs} {b : Bases} (hB : BasesOK top b) (name : String) (r v : Val)
    (hint : name ∈ intForms → ∃ n : Nat, r = .int n) (hres : resolve c secs b (.str name) r = some v) :
    translate U (some top) (.str name) r = .ok v :=
  Proofs.C04.translate_resolve hU hS hB name r v hint hres

/-- … while the top entry itself is being parsed (`translate_indirect = False`): the index forms stay
    raw (`preResolve`), the rest is translated as `translate_resolve` says -/
theorem translate_pre_resolve {U : UnitCtx} {c : DwarfCfg} {secs : Sections} (hS : SecsOK U c secs) (b : Bases)
    (name : String) (r v : Val) (hint : name ∈ intForms → ∃ n : Nat, r = .int n)
    (hres : preResolve c secs b (.str name) r = some v) :
    translate U none (.str name) r = .ok v :=
  translate_none hS b name r v hint hres

/-- `get_top_DIE()`: parse, then `_translate_indirect_attributes` against the entry's own base attributes
    (DW_AT_str_offsets_base, DW_AT_addr_base, DW_AT_loclists_base, DW_AT_rnglists_base, wherever they stand among the
    attributes) — the entry with every value resolved.  `hat`: an attribute name equals itself under `Val`'s `==`; of
    registry names it is Props/TieC04 `names_refl`. -/
theorem top_die_roundtrip {U : UnitCtx} {c : DwarfCfg} {nm : Names} {secs : Sections} (hU : UnitOK U c nm)
    (hS : SecsOK U c secs) (hat : ∀ k, (nm.at_ k == nm.at_ k) = true) (hbn : BaseNames nm) (n : Node)
    {rest : Bytes} {m : List (Nat × Val)} (hwf : wfNode c n = true) (hoff : U.cuDieOffset < 2 ^ 63)
    (hab : U.abbrevs = .ok m) (hdecl : mapGet? m n.decl.code = some (declVal nm n.decl))
    (hdist : DistinctAt nm n.decl.specs) (hres : ResolvesAll c secs (basesOf n) nm n.decl.specs n.attrs)
    (hd : U.data.drop U.cuDieOffset = encEntry c n ++ rest) :
    getTopDIE U = .ok (entryObs nm c (rho c secs (basesOf n)) U.cuDieOffset n) :=
  getTopDIE_encoded hU hS hat hbn n hwf hoff hab hdecl hdist hres hd

/--
  For the bytes of an encoded tree at the unit's first-entry offset: if the tree is well formed,
  every node's declaration is in the unit's abbreviation table under its code, attribute names are distinct, every value
  resolves (`NodeWF`; the bases are those of the top entry) and DW_AT_sibling designates the next sibling (`sibsOk`),
  then `list(cu.iter_DIEs())` — with `_get_cached_DIE` as parse-on-miss; the cache refinement is C10 — is exactly the
  encoded sequence `flattenUnit`, each entry with the parent the nesting gives it.  No hypothesis about the cache or
  about what the entry decoder returns is left.
-/
theorem iter_dies_exact {U : UnitCtx} {c : DwarfCfg} {nm : Names} {secs : Sections} (hU : UnitOK U c nm)
    (hS : SecsOK U c secs) (hnm : ∀ x, nm.tag x ≠ Val.none) (hat : ∀ k, (nm.at_ k == nm.at_ k) = true)
    (hbn : BaseNames nm) {m : List (Nat × Val)} (hab : U.abbrevs = .ok m) (n : Node) (kids : List Tree) (nl : Nat)
    {rest : Bytes} (fuel : Nat) (hfuel : (Tree.mk n kids nl).count ≤ fuel) (hwf : wfTree c (.mk n kids nl) = true)
    (hd : U.data.drop U.cuDieOffset = encTree c (.mk n kids nl) ++ rest) (hlen : U.data.length ≤ 2 ^ 63)
    (hnodes : TreeAll (NodeWF c secs (basesOf n) nm m) (.mk n kids nl))
    (hsib : sibsOk nm c (rho c secs (basesOf n)) U.cuOffset U.cuDieOffset (.mk n kids nl) = true) :
    iterDIEs (getCachedDIE U) U.cuOffset U.cuDieOffset fuel
      = .ok (flattenUnitP nm c (rho c secs (basesOf n)) (rho c secs (basesOf n)) U.cuDieOffset (.mk n kids nl)) :=
  iter_dies_flatten hnm c _ _ (getCachedDIE U) U.cuOffset U.cuDieOffset fuel _ hfuel
    (covered_unit_wf hU hS hat hbn hab n kids nl hwf hd hlen hnodes) hsib

/--
  `_parse_CU_at_offset` on an encoded unit anywhere in `.debug_info`: DWARF versions 2–5, both
  DWARF formats (detected from the initial length), and for version 5 all six unit types through the `ENUM_DW_UT` switch
  (compile, partial: no extra field; skeleton, split_compile: dwo_id; type, split_type: type_signature and type_offset).
-/
theorem unit_header_roundtrip (enumDecode : String → Int → Option String)
    (hUT : ∀ k : Nat, 1 ≤ k → k ≤ 6 → enumDecode "ENUM_DW_UT" k = Lookup.utName k) (le : Bool) (dasz : Nat)
    (u : Lookup.InfoUnit) (hwf : Lookup.wfUnit le u = true) (pre rest : Bytes) :
    Proofs.Lookup.specP enumDecode le dasz (pre ++ Lookup.encUnit le u ++ rest) pre.length
      = .ok (Proofs.Lookup.cuOf le pre.length u) :=
  parseCU_encoded_all hUT hwf (drop_pre pre _ rest)

/-- a whole `.debug_info` of mixed-version units is a chain for `_parse_CUs_iter` -/
theorem unit_chain (enumDecode : String → Int → Option String)
    (hUT : ∀ k : Nat, 1 ≤ k → k ≤ 6 → enumDecode "ENUM_DW_UT" k = Lookup.utName k) (le : Bool) (dasz : Nat)
    (us : List Lookup.InfoUnit) (hwf : ∀ u ∈ us, Lookup.wfUnit le u = true) :
    Proofs.Lookup.Chain (Proofs.Lookup.specP enumDecode le dasz (Lookup.encUnits le us)) (Lookup.encUnits le us).length 0
      (Proofs.Lookup.cusOf le 0 us) :=
  chain_encoded_all hUT us 0 hwf (by simp) (by simp)

/-- `_parse_TU_at_offset` on an encoded type unit of `.debug_types` (DWARF 4 §7.5.1.2), both formats; `TypeUnit.size` is
    the encoded extent -/
theorem type_unit_header_roundtrip (enumDecode : String → Int → Option String) (le : Bool) (dasz : Nat)
    (h : TUHeader) (body : Bytes) (hwf : wfTU le h body = true) (pre rest : Bytes) :
    specTU enumDecode le dasz (pre ++ encTU le h body ++ rest) pre.length = .ok (tuOf le pre.length h body)
      ∧ (tuOf le pre.length h body).size = .ok (encTU le h body).length :=
  ⟨parseTU_encoded hwf (drop_pre pre _ rest), tuOf_size le pre.length h body⟩

/--
  The entries `iter_DIEs` must yield lie back to back from the unit's first-entry offset to
  `cu_offset + size`, where `size = unit_length + initial-length field` is what `CompileUnit.size` computes from the
  DECLARED length of the parsed header.
-/
theorem tiling_unit (nm : Names) (c : DwarfCfg) (ρtop ρ : Val → Val → Val) (le : Bool) (off : Nat)
    (u : Lookup.InfoUnit) (t : Tree) (hbody : u.body = encTree c t) :
    ∃ sz, (Proofs.Lookup.cuOf le off u).size = .ok sz ∧
      Tiles (Proofs.Lookup.cuOf le off u).cuDieOffset
        (flattenUnit nm c ρtop ρ (Proofs.Lookup.cuOf le off u).cuDieOffset t) ((Proofs.Lookup.cuOf le off u).cuOffset + sz) := by
  refine ⟨Lookup.unitSize le u, Proofs.Lookup.cuOf_size_any, ?_⟩
  have h := flattenUnit_tiles nm c ρtop ρ t (off + u.ilSize + (Lookup.unitHdrRest le u).length)
  have e : off + u.ilSize + (Lookup.unitHdrRest le u).length + (encTree c t).length = off + Lookup.unitSize le u := by
    rw [← hbody]; simp only [Lookup.unitSize, Lookup.unitLength]; omega
  rw [e] at h
  exact h

/-- … and for a type unit of `.debug_types` -/
theorem tiling_type_unit (nm : Names) (c : DwarfCfg) (ρtop ρ : Val → Val → Val) (le : Bool) (off : Nat)
    (h : TUHeader) (t : Tree) :
    ∃ sz, (tuOf le off h (encTree c t)).size = .ok sz ∧
      Tiles (tuOf le off h (encTree c t)).cuDieOffset
        (flattenUnit nm c ρtop ρ (tuOf le off h (encTree c t)).cuDieOffset t) ((tuOf le off h (encTree c t)).cuOffset + sz) := by
  refine ⟨_, tuOf_size le off h _, ?_⟩
  have ht := flattenUnit_tiles nm c ρtop ρ t (off + h.ilSize + (tuHdrRest le h).length)
  have e : off + h.ilSize + (tuHdrRest le h).length + (encTree c t).length = off + (encTU le h (encTree c t)).length := by
    cases hf : h.fmt64 <;>
      simp [encTU, Lookup.encInitialLength, TUHeader.ilSize, hf, encNat_length] <;> omega
  rw [e] at ht
  exact ht

/-- the parents `flattenUnitP` records are the (parent, child) pairs of the encoded nesting -/
theorem flattenUnitP_parents (nm : Names) (c : DwarfCfg) (ρtop ρ : Val → Val → Val) (off : Nat) (t : Tree) :
    parentsOf (flattenUnitP nm c ρtop ρ off t) = parentPairs c off t := by
  obtain ⟨n, kids, nl⟩ := t
  have h := parentsOf_flattenP nm c ρ (.mk n kids nl) none off
  rw [flattenP, parentsOf_cons_none] at h
  simp only [flattenUnitP, Tree.root, flattenP, List.tail_cons]
  rw [parentsOf_cons_none, h]
  simp

/--
  Under the hypotheses of `iter_dies_exact`: (1) the recorded parents (`get_parent()`) are
  exactly the (parent, child) pairs of the encoded nesting (`parentPairs`: null entries included, the top entry has
  none); (2) for every entry, in order, `[c.offset for c in die.iter_children()]` — sibling shortcuts, terminators found
  by walking nested lists — is the list of its encoded children (`childLists`).
-/
theorem children_parent_exact {U : UnitCtx} {c : DwarfCfg} {nm : Names} {secs : Sections} (hU : UnitOK U c nm)
    (hS : SecsOK U c secs) (hnm : ∀ x, nm.tag x ≠ Val.none) (hat : ∀ k, (nm.at_ k == nm.at_ k) = true)
    (hbn : BaseNames nm) {m : List (Nat × Val)} (hab : U.abbrevs = .ok m) (n : Node) (kids : List Tree) (nl : Nat)
    {rest : Bytes} (fuel : Nat) (hfuel : (Tree.mk n kids nl).count ≤ fuel) (hwf : wfTree c (.mk n kids nl) = true)
    (hd : U.data.drop U.cuDieOffset = encTree c (.mk n kids nl) ++ rest) (hlen : U.data.length ≤ 2 ^ 63)
    (hnodes : TreeAll (NodeWF c secs (basesOf n) nm m) (.mk n kids nl))
    (hsib : sibsOk nm c (rho c secs (basesOf n)) U.cuOffset U.cuDieOffset (.mk n kids nl) = true) :
    (∃ l, iterDIEs (getCachedDIE U) U.cuOffset U.cuDieOffset fuel = .ok l ∧
        parentsOf l = parentPairs c U.cuDieOffset (.mk n kids nl)) ∧
      (flattenUnit nm c (rho c secs (basesOf n)) (rho c secs (basesOf n)) U.cuDieOffset (.mk n kids nl)).map
          (childrenOf (getCachedDIE U) U.cuOffset fuel)
        = (childLists c U.cuDieOffset (.mk n kids nl)).map .ok :=
  ⟨⟨_, iter_dies_exact hU hS hnm hat hbn hab n kids nl fuel hfuel hwf hd hlen hnodes hsib,
     flattenUnitP_parents nm c _ _ _ _⟩,
   children_unit hnm c _ _ (getCachedDIE U) U.cuOffset fuel _ _ hfuel
     (covered_unit_wf hU hS hat hbn hab n kids nl hwf hd hlen hnodes) hsib⟩

/--
  `DWARFInfo.get_DIE_from_refaddr(x)` for a DW_FORM_ref_addr value `x` that designates the entry
  `d` of the unit `u` starting at `o`: from every reachable state of the unit cache, `get_CU_containing(x)` returns the
  unit whose extent contains `x`, and that unit's `get_DIE_from_refaddr(x)` — range check against the first-entry offset
  and the declared size, then `_get_cached_DIE` — returns `d`.  `U` is the context of that unit (`hUo`, `hUd`, `hUs`);
  `hcov` is what `covered_unit_wf` establishes for it.
-/
theorem ref_section_relative (enumDecode : String → Int → Option String)
    (hUT : ∀ k : Nat, 1 ≤ k → k ≤ 6 → enumDecode "ENUM_DW_UT" k = Lookup.utName k) (le : Bool) (dasz : Nat)
    (us : List Lookup.InfoUnit) (hwf : ∀ u ∈ us, Lookup.wfUnit le u = true) (st : Model.Lookup.CUCache)
    (hinv : Proofs.Lookup.Inv (Proofs.Lookup.specP enumDecode le dasz (Lookup.encUnits le us)) (Proofs.Lookup.cusOf le 0 us) st)
    (x o : Nat) (u : Lookup.InfoUnit) (hu : Lookup.unitContaining le us x = some (o, u))
    (U : UnitCtx) (hUo : U.cuOffset = o) (hUd : U.cuDieOffset = (Proofs.Lookup.cuOf le o u).cuDieOffset)
    (hUs : U.size = Lookup.unitSize le u) (l : List DieObs) (hcov : Covered (getCachedDIE U) l) (d : DieObs)
    (hd : d ∈ l) (hdx : d.offset = x) (hlo : U.cuDieOffset ≤ x) :
    (∃ st', Model.Lookup.getCUContaining (Proofs.Lookup.specP enumDecode le dasz (Lookup.encUnits le us))
          (Lookup.encUnits le us).length st x = (.ok (Proofs.Lookup.cuOf le o u), st') ∧
        Proofs.Lookup.Inv (Proofs.Lookup.specP enumDecode le dasz (Lookup.encUnits le us)) (Proofs.Lookup.cusOf le 0 us) st')
      ∧ unitDIEFromRefaddr U x = .ok d := by
  refine ⟨Proofs.Lookup.cu_containing_of_chain Proofs.Lookup.parseCU_offset
    (unit_chain enumDecode hUT le dasz us hwf) st hinv x o u hu, ?_⟩
  rw [← hdx]
  exact ref_unit_relative U l hcov d hd
    ⟨by rw [hdx]; exact hlo, by rw [hdx, hUo, hUs]; exact (Proofs.Lookup.unitContaining_range hu).2⟩

/--
  The property's clause: a DW_FORM_ref_sig8 value resolves to the entry at the type_offset of the type
  unit carrying that signature — in `.debug_types` (DWARF 4) or, for DWARF 5, a DW_UT_type / DW_UT_split_type unit of
  `.debug_info`.  Here over the unit list `_parse_debug_types` built (`units`, scan completed), for either kind of unit
  (`unitSig`: `signature` in a `Dwarf_TU_header`, `type_signature` in a `Dwarf_CU_header`): the last unit carrying the
  signature answers.  That `units` IS the list of encoded type units of both sections is `ref_sig8_debug_types` and
  `ref_sig8_debug_info_v5` (`_parse_debug_types` enters the type units of `.debug_info` as well: fix 6a8fa76 in /repo).
-/
theorem ref_sig8_units (pre post : List (Model.Lookup.CU × R UnitCtx)) (cu : Model.Lookup.CU) (U : UnitCtx) (sig : Int)
    (to : Nat) (hsig : unitSig cu.header = .ok sig)
    (hlast : ∀ p ∈ post, unitSig p.1.header ≠ .ok sig) (hto : cu.header.getNat "type_offset" = .ok to)
    (l : List DieObs) (hcov : Covered (getCachedDIE U) l) (d : DieObs) (hd : d ∈ l) (hdx : d.offset = cu.cuOffset + to) :
    dieBySig8 getCachedDIE (pre ++ (cu, .ok U) :: post) none sig = .ok (cu.cuOffset, d) := by
  have hG := hcov d hd
  rw [hdx] at hG
  exact dieBySig8_last getCachedDIE pre post cu U sig to hsig hlast hto d hG

/-- a signature no scanned unit carries: `KeyError` (the scan having completed) -/
theorem ref_sig8_absent (G : UnitCtx → Nat → R DieObs) (units : List (Model.Lookup.CU × R UnitCtx)) (sig : Int)
    (hno : ∀ p ∈ units, unitSig p.1.header ≠ .ok sig) :
    dieBySig8 G units none sig = .error .keyError := by
  have h := dieBySig8_skip G [] units sig hno
  rwa [List.nil_append] at h

/-- a scan that raised: the signature map is published only when `_parse_debug_types` completes, so EVERY lookup —
    whatever the signature, whatever the units scanned before the failure — re-raises the scan's exception -/
theorem ref_sig8_scan_error (G : UnitCtx → Nat → R DieObs) (units : List (Model.Lookup.CU × R UnitCtx)) (e : Err)
    (sig : Int) : dieBySig8 G units (some e) sig = .error e := by
  unfold dieBySig8
  rfl

/-- a malformed `.debug_types` is met first: its exception is what `get_DIE_by_sig8` raises, whatever `.debug_info`
    holds (the DWARF 5 type units of `.debug_info` are only looked at after `.debug_types` has been walked) -/
theorem sig_scan_types_error_first (w : DInfo) (S0 : DwarfStructs) (e : Err)
    (h : (sectionUnits w S0 w.types true).2 = some e) : (sigUnits w S0).2 = some e := by
  unfold sigUnits
  simp only [h]

/-- … and with a clean `.debug_types` a malformed unit anywhere in `.debug_info` — type unit or not — fails every
    signature lookup (`_parse_CUs_iter` walks every unit header) -/
theorem sig_scan_info_error (w : DInfo) (S0 : DwarfStructs) (e : Err)
    (ht : (sectionUnits w S0 w.types true).2 = none) (hi : (sectionUnits w S0 w.info false).2 = some e) :
    (sigUnits w S0).2 = some e := by
  unfold sigUnits
  simp only [ht, hi]

theorem sig8_stateless_eq (G : UnitCtx → Nat → R DieObs) (w : DInfo) (S0 : DwarfStructs) (sig : Int) :
    Model.SigCache.stateless (sigUnits w S0) (fun us s => dieBySig8 G us none s) sig = sig8Lookup G w S0 sig := by
  unfold sig8Lookup Model.SigCache.stateless
  generalize sigUnits w S0 = p
  obtain ⟨us, e⟩ := p
  cases e with
  | none => rfl
  | some err => exact (ref_sig8_scan_error G us err sig).symm

/--
  C10's clause for this cache.  `get_DIE_by_sig8` answers through the lazily built
  `_type_units_by_sig` (Model/SigCache: `None` until a scan of both sections has COMPLETED; a scan that raises publishes
  nothing).  For ANY file, after ANY history of signature lookups — repeated, absent, failing — every answer is the one
  a freshly opened object gives (`sig8Lookup`).  The driver runs exactly this `run` beside the stateless lookups; the
  harness compares both with the library's answers on one `DWARFInfo` object.
-/
theorem sig8_history_independent (G : UnitCtx → Nat → R DieObs) (w : DInfo) (S0 : DwarfStructs) (sigs : List Int) :
    (Model.SigCache.run (sigUnits w S0) (fun us s => dieBySig8 G us none s) Model.SigCache.St.init sigs).1
      = sigs.map (sig8Lookup G w S0) :=
  Proofs.SigCache.history_independent _ _ _ (sig8_stateless_eq G w S0) sigs

/-- the map is published exactly when a lookup happened and the scan completes -/
theorem sig8_published_iff (G : UnitCtx → Nat → R DieObs) (w : DInfo) (S0 : DwarfStructs) (sigs : List Int) :
    (Model.SigCache.run (sigUnits w S0) (fun us s => dieBySig8 G us none s) Model.SigCache.St.init sigs).2.map.isSome
      = (!sigs.isEmpty && (sigUnits w S0).2.isNone) :=
  Proofs.SigCache.run_published _ _ sigs

/-- a unit whose bundle agrees with the standard's on the fields the DIE code reads (every regenerated bundle:
    Props/TieC04 `gen_bundles`) and that uses the regenerated `DW_FORM_raw2name` is `UnitOK` -/
theorem unit_ok_gen_bundle (U : UnitCtx) (c : DwarfCfg) (hS : BundleEq U.S (Spec.dwarfStructs c))
    (hr : U.raw2name = genRaw2name) : UnitOK U c (namesOf Model.genEnumDecode) :=
  unitOK_of_registry registry_gen U c hS hr

abbrev genNames : Names := namesOf Model.genEnumDecode

/-- `resolve` against the forest's sections with the bases of the unit's top entry -/
abbrev unitRho (F : Forest) (u : UnitDesc) : Val → Val → Val := rho (u.cfg F.le) F.secs (basesOf u.tree.root)

/-- the struct bundles of the model as the driver runs it: the regenerated constructor `Model.dwarfStructsFor`,
    and for `DWARFInfo.structs` its answer for (32-bit format, default address size, version 2) -/
def genBundles (le : Bool) (dasz : Nat) : Bundles :=
  { structsOf := Model.dwarfStructsFor,
    S0 := (Model.dwarfStructsFor ⟨le, 32, dasz, 2⟩).getD (Spec.dwarfStructs ⟨le, 32, dasz, 2⟩) }

/-- `dasz ∈ {4, 8}` is what `DWARFStructs.__new__` asserts of `config.default_address_size` -/
theorem genBundles_ok (le : Bool) (dasz : Nat) (hd : dasz = 4 ∨ dasz = 8) : BundlesOK (genBundles le dasz) le dasz := by
  have hmem : (⟨le, 32, dasz, 2⟩ : DwarfCfg) ∈ Spec.allDwarfCfgs :=
    cfg_mem_all le false hd (by omega) (by omega)
  refine ⟨?_, TieC04.gen_bundles⟩
  obtain ⟨S, h1, h2⟩ := TieC04.gen_bundles _ hmem
  simp only [genBundles, h1, Option.getD_some]
  exact h2

theorem genBundles_S0 (le : Bool) (dasz : Nat) (hd : dasz = 4 ∨ dasz = 8) :
    Model.dwarfStructsFor ⟨le, 32, dasz, 2⟩ = some (genBundles le dasz).S0 := by
  have hmem : (⟨le, 32, dasz, 2⟩ : DwarfCfg) ∈ Spec.allDwarfCfgs :=
    cfg_mem_all le false hd (by omega) (by omega)
  obtain ⟨S, h1, _⟩ := TieC04.gen_bundles _ hmem
  simp only [genBundles, h1, Option.getD_some]

/-- the `DWARFInfo` over the encoded sections of a forest, everything else regenerated — `Model.C04.genDInfo`, the
    model the driver runs -/
abbrev forestDInfo (F : Forest) (dasz : Nat) : DInfo :=
  genDInfo F.le dasz (some (infoSec F)) (some (encTables F.tables)) (some (typesSec F)) F.secs

theorem forestDInfo_eq (F : Forest) (dasz : Nat) :
    forestDInfo F dasz = dinfoOf F dasz Model.genEnumDecode genRaw2name (genBundles F.le dasz).structsOf := rfl

/-- the unit context the glue builds for a unit of `.debug_info` placed at `p.1` -/
abbrev infoCtx (F : Forest) (dasz : Nat) (p : Nat × UnitDesc) : UnitCtx :=
  ctxOf F Model.genEnumDecode genRaw2name (genBundles F.le dasz) (infoSec F) p.2 p.1 (infoDieOff F p.1 p.2)
    (Lookup.unitSize F.le (infoUnitOf F p.2))

/-- … for a type unit of `.debug_types` -/
abbrev typesCtx (F : Forest) (dasz : Nat) (p : Nat × UnitDesc) : UnitCtx :=
  ctxOf F Model.genEnumDecode genRaw2name (genBundles F.le dasz) (typesSec F) p.2 p.1 (typesDieOff F p.1 p.2)
    (encTUOf F p.2).length

/--
  For EVERY well-formed forest description `F` (`wfForestB`, decidable: abbreviation tables placed
  anywhere in `.debug_abbrev` and shared by units; units of DWARF version 2–5, both formats, address size 4 | 8, any of
  the six DWARF 5 unit types; every form of DWARF 5 table 7.6, the GNU alt forms, the legacy DW_FORM_ref,
  DW_FORM_indirect chains, implicit_const; values that resolve against the forest's string / address / list sections)
  and either byte order, the model of

      for cu in dwarfinfo.iter_CUs():  list(cu.iter_DIEs())

  on the Spec encoding of the sections, run EXACTLY AS THE DRIVER RUNS IT (`forestDInfo` = `Model.C04.genDInfo`:
  regenerated enum registry, struct bundles and `DW_FORM_raw2name`; the glue `Model.C04.unitCtx` between a parsed header
  and its entries) yields
   (1) exactly the described units, in order (`cuOf`), no exception ending the iteration, and per unit exactly the
       pre-order flattening of its tree, every entry with the parent the nesting gives it;
  and for every unit
   (2) the entries tile the unit from the first-entry offset to `cu_offset + cu.size` (`size` computed from the
       DECLARED length of the parsed header),
   (3) the recorded parents are the (parent, child) pairs of the encoded nesting,
   (4) `iter_children()` of every entry lists exactly its encoded children,
   (5) `_get_cached_DIE` finds every entry at its offset (what reference resolution starts from: `refs_info_exact`).
  `G` is `_get_cached_DIE`: any function that agrees with the pure parse-on-miss `getCachedDIE` from each unit's
  first-entry offset on (the driver's `fetch` is one); the cache refinement is C10.  No hypothesis besides the
  description's well-formedness (and `dasz ∈ {4, 8}`, without which `DWARFInfo.__init__` raises) is left.
-/
theorem debug_info_exact (F : Forest) (dasz : Nat) (hdasz : dasz = 4 ∨ dasz = 8) (hwf : wfForestB genNames F = true)
    (G : UnitCtx → Nat → R DieObs) (hG : ∀ U o, U.cuDieOffset ≤ o → G U o = getCachedDIE U o) :
    iterSection G (forestDInfo F dasz) (genBundles F.le dasz).S0 (some (infoSec F)) false
      = ((placeInfo F 0 F.units).map fun p =>
          (Proofs.Lookup.cuOf F.le p.1 (infoUnitOf F p.2),
           .ok (flattenUnitP genNames (p.2.cfg F.le) (unitRho F p.2) (unitRho F p.2) (infoDieOff F p.1 p.2) p.2.tree)),
         none)
    ∧ ∀ p ∈ placeInfo F 0 F.units,
        (∃ sz, (Proofs.Lookup.cuOf F.le p.1 (infoUnitOf F p.2)).size = .ok sz ∧
          Tiles (Proofs.Lookup.cuOf F.le p.1 (infoUnitOf F p.2)).cuDieOffset
            (flattenUnit genNames (p.2.cfg F.le) (unitRho F p.2) (unitRho F p.2) (infoDieOff F p.1 p.2) p.2.tree)
            ((Proofs.Lookup.cuOf F.le p.1 (infoUnitOf F p.2)).cuOffset + sz))
        ∧ parentsOf (flattenUnitP genNames (p.2.cfg F.le) (unitRho F p.2) (unitRho F p.2) (infoDieOff F p.1 p.2) p.2.tree)
            = parentPairs (p.2.cfg F.le) (infoDieOff F p.1 p.2) p.2.tree
        ∧ (flattenUnit genNames (p.2.cfg F.le) (unitRho F p.2) (unitRho F p.2) (infoDieOff F p.1 p.2) p.2.tree).map
              (childrenOf (G (infoCtx F dasz p)) p.1 (unitFuel (infoCtx F dasz p)))
            = (childLists (p.2.cfg F.le) (infoDieOff F p.1 p.2) p.2.tree).map .ok
        ∧ Covered (G (infoCtx F dasz p))
            (flattenUnit genNames (p.2.cfg F.le) (unitRho F p.2) (unitRho F p.2) (infoDieOff F p.1 p.2) p.2.tree) := by
  have hW := wfForest_of_B genNames F hwf
  have hB := genBundles_ok F.le dasz hdasz
  have hK := infoKind_ok F registry_gen.ut
  rw [placeInfo_eq]
  refine ⟨iterSection_kind hK hB registry_gen hW hW.info G hG, fun p hp => ?_⟩
  exact ⟨⟨_, hK.size p.1 p.2, kind_unit_tiles hK genNames _ _ p.1 p.2⟩, flattenUnitP_parents genNames _ _ _ _ _,
    kind_unit_children hK hB registry_gen hW hW.info p hp _ (fun o ho => hG _ o ho),
    (kind_unit_exact hK hB registry_gen hW hW.info p hp _ (fun o ho => hG _ o ho)).2⟩

/-- the units `iter_CUs()` yields come with exactly the contexts `infoCtx` -/
theorem debug_info_units (F : Forest) (dasz : Nat) (hdasz : dasz = 4 ∨ dasz = 8) (hwf : wfForestB genNames F = true) :
    sectionUnits (forestDInfo F dasz) (genBundles F.le dasz).S0 (some (infoSec F)) false
      = ((placeInfo F 0 F.units).map fun p => (Proofs.Lookup.cuOf F.le p.1 (infoUnitOf F p.2), .ok (infoCtx F dasz p)), none) :=
  placeInfo_eq F _ _ ▸ sectionUnits_kind (infoKind_ok F registry_gen.ut) (genBundles_ok F.le dasz hdasz)
    (wfForest_of_B genNames F hwf).info.bytes (wfForest_of_B genNames F hwf).infoHdr

/--
  The same for `.debug_types` (DWARF 4 §7.5.1.2 type units; `iter_TUs()`, `_parse_TU_at_offset`,
  `TypeUnit.iter_DIEs()`).
-/
theorem debug_types_exact (F : Forest) (dasz : Nat) (hdasz : dasz = 4 ∨ dasz = 8) (hwf : wfForestB genNames F = true)
    (G : UnitCtx → Nat → R DieObs) (hG : ∀ U o, U.cuDieOffset ≤ o → G U o = getCachedDIE U o) :
    iterSection G (forestDInfo F dasz) (genBundles F.le dasz).S0 (some (typesSec F)) true
      = ((placeTypes F 0 F.tus).map fun p =>
          (tuOf F.le p.1 (tuHeaderOf F p.2) (encTree (p.2.cfg F.le) p.2.tree),
           .ok (flattenUnitP genNames (p.2.cfg F.le) (unitRho F p.2) (unitRho F p.2) (typesDieOff F p.1 p.2) p.2.tree)),
         none)
    ∧ ∀ p ∈ placeTypes F 0 F.tus,
        (∃ sz, (tuOf F.le p.1 (tuHeaderOf F p.2) (encTree (p.2.cfg F.le) p.2.tree)).size = .ok sz ∧
          Tiles (tuOf F.le p.1 (tuHeaderOf F p.2) (encTree (p.2.cfg F.le) p.2.tree)).cuDieOffset
            (flattenUnit genNames (p.2.cfg F.le) (unitRho F p.2) (unitRho F p.2) (typesDieOff F p.1 p.2) p.2.tree)
            ((tuOf F.le p.1 (tuHeaderOf F p.2) (encTree (p.2.cfg F.le) p.2.tree)).cuOffset + sz))
        ∧ parentsOf (flattenUnitP genNames (p.2.cfg F.le) (unitRho F p.2) (unitRho F p.2) (typesDieOff F p.1 p.2) p.2.tree)
            = parentPairs (p.2.cfg F.le) (typesDieOff F p.1 p.2) p.2.tree
        ∧ (flattenUnit genNames (p.2.cfg F.le) (unitRho F p.2) (unitRho F p.2) (typesDieOff F p.1 p.2) p.2.tree).map
              (childrenOf (G (typesCtx F dasz p)) p.1 (unitFuel (typesCtx F dasz p)))
            = (childLists (p.2.cfg F.le) (typesDieOff F p.1 p.2) p.2.tree).map .ok
        ∧ Covered (G (typesCtx F dasz p))
            (flattenUnit genNames (p.2.cfg F.le) (unitRho F p.2) (unitRho F p.2) (typesDieOff F p.1 p.2) p.2.tree) := by
  have hW := wfForest_of_B genNames F hwf
  have hB := genBundles_ok F.le dasz hdasz
  have hK := typesKind_ok F Model.genEnumDecode
  rw [placeTypes_eq]
  refine ⟨iterSection_kind hK hB registry_gen hW hW.types G hG, fun p hp => ?_⟩
  exact ⟨⟨_, hK.size p.1 p.2, kind_unit_tiles hK genNames _ _ p.1 p.2⟩, flattenUnitP_parents genNames _ _ _ _ _,
    kind_unit_children hK hB registry_gen hW hW.types p hp _ (fun o ho => hG _ o ho),
    (kind_unit_exact hK hB registry_gen hW hW.types p hp _ (fun o ho => hG _ o ho)).2⟩

/-- … and the type units `iter_TUs()` / `_parse_debug_types` find come with exactly the contexts `typesCtx` -/
theorem debug_types_units (F : Forest) (dasz : Nat) (hdasz : dasz = 4 ∨ dasz = 8) (hwf : wfForestB genNames F = true) :
    sectionUnits (forestDInfo F dasz) (genBundles F.le dasz).S0 (some (typesSec F)) true
      = ((placeTypes F 0 F.tus).map fun p =>
          (tuOf F.le p.1 (tuHeaderOf F p.2) (encTree (p.2.cfg F.le) p.2.tree), .ok (typesCtx F dasz p)), none) :=
  placeTypes_eq F _ _ ▸ sectionUnits_kind (typesKind_ok F _) (genBundles_ok F.le dasz hdasz)
    (wfForest_of_B genNames F hwf).types.bytes (wfForest_of_B genNames F hwf).typesHdr

/-- the same of the model run with the standard's bundles themselves, for any default address size -/
theorem debug_info_exact_spec (F : Forest) (dasz : Nat) (hwf : wfForestB genNames F = true)
    (G : UnitCtx → Nat → R DieObs) (hG : ∀ U o, U.cuDieOffset ≤ o → G U o = getCachedDIE U o) :
    iterSection G (dinfoOf F dasz Model.genEnumDecode genRaw2name (fun c => some (Spec.dwarfStructs c)))
        (Spec.dwarfStructs ⟨F.le, 32, dasz, 2⟩) (some (infoSec F)) false
      = ((placeInfo F 0 F.units).map fun p =>
          (Proofs.Lookup.cuOf F.le p.1 (infoUnitOf F p.2),
           .ok (flattenUnitP genNames (p.2.cfg F.le) (unitRho F p.2) (unitRho F p.2) (infoDieOff F p.1 p.2) p.2.tree)),
         none) :=
  placeInfo_eq F _ _ ▸ iterSection_kind (infoKind_ok F registry_gen.ut) (specBundles_ok F.le dasz) registry_gen
    (wfForest_of_B genNames F hwf) (wfForest_of_B genNames F hwf).info G hG

/--
  The `.debug_types` half of the signature clause with NO hypothesis about the scan:
  `_parse_debug_types` scans the whole section, the map keyed by signature keeps the LAST unit carrying `sig` (`hsplit`,
  `hlast`: for the unique signatures DWARF prescribes, `post` has none), and `get_DIE_by_sig8(sig)` returns the entry
  `d` of that unit lying at `tu_offset + type_offset`, with the unit's offset.  `hinfo`: no DWARF 5 type unit of
  `.debug_info` carries the same signature — `_parse_debug_types` enters those after the units of `.debug_types`, so
  such a unit would be the one the map keeps (`ref_sig8_debug_info_v5`).
-/
theorem ref_sig8_debug_types (F : Forest) (dasz : Nat) (hdasz : dasz = 4 ∨ dasz = 8) (hwf : wfForestB genNames F = true)
    (G : UnitCtx → Nat → R DieObs) (hG : ∀ U o, U.cuDieOffset ≤ o → G U o = getCachedDIE U o)
    (pre post : List (Nat × UnitDesc)) (p : Nat × UnitDesc) (hsplit : placeTypes F 0 F.tus = pre ++ p :: post)
    (hlast : ∀ q ∈ post, q.2.id8 ≠ p.2.id8)
    (hinfo : ∀ q ∈ placeInfo F 0 F.units, q.2.isTypeV5 = true → q.2.id8 ≠ p.2.id8) (d : DieObs)
    (hd : d ∈ flattenUnit genNames (p.2.cfg F.le) (unitRho F p.2) (unitRho F p.2) (typesDieOff F p.1 p.2) p.2.tree)
    (hdx : d.offset = p.1 + p.2.typeOff) :
    sig8Lookup G (forestDInfo F dasz) (genBundles F.le dasz).S0 (p.2.id8 : Int) = .ok (p.1, d) :=
  sig8_filed registry_gen F (genBundles_ok F.le dasz hdasz) (wfForest_of_B genNames F hwf) G hG (pre.map (Prod.mk true))
    (post.map (Prod.mk true) ++ ((placeInfo F 0 F.units).filter fun p => p.2.isTypeV5).map (Prod.mk false)) true p
    (by simp [filed, hsplit])
    (fun q hq => by
      rcases List.mem_append.1 hq with h | h
      · obtain ⟨q0, hq0, rfl⟩ := List.mem_map.1 h
        exact hlast q0 hq0
      · obtain ⟨q0, hq0, rfl⟩ := List.mem_map.1 h
        exact hinfo q0 (List.mem_filter.1 hq0).1 (List.mem_filter.1 hq0).2) d hd hdx

/--
  The DWARF 5 half: for the signature of a type unit `p` (DW_UT_type / DW_UT_split_type,
  version 5) placed anywhere in `.debug_info` — `_parse_debug_types` walks `.debug_types` (whatever it holds, same
  signature included) and then every unit of `.debug_info`, entering the type units among them; the LAST one carrying
  `sig` is kept — `get_DIE_by_sig8` returns the entry `d` of that unit lying at `cu_offset + type_offset`.
-/
theorem ref_sig8_debug_info_v5 (F : Forest) (dasz : Nat) (hdasz : dasz = 4 ∨ dasz = 8) (hwf : wfForestB genNames F = true)
    (G : UnitCtx → Nat → R DieObs) (hG : ∀ U o, U.cuDieOffset ≤ o → G U o = getCachedDIE U o)
    (pre post : List (Nat × UnitDesc)) (p : Nat × UnitDesc) (hsplit : placeInfo F 0 F.units = pre ++ p :: post)
    (hty : p.2.isTypeV5 = true) (hlast : ∀ q ∈ post, q.2.isTypeV5 = true → q.2.id8 ≠ p.2.id8) (d : DieObs)
    (hd : d ∈ flattenUnit genNames (p.2.cfg F.le) (unitRho F p.2) (unitRho F p.2) (infoDieOff F p.1 p.2) p.2.tree)
    (hdx : d.offset = p.1 + p.2.typeOff) :
    sig8Lookup G (forestDInfo F dasz) (genBundles F.le dasz).S0 (p.2.id8 : Int) = .ok (p.1, d) :=
  sig8_filed registry_gen F (genBundles_ok F.le dasz hdasz) (wfForest_of_B genNames F hwf) G hG
    ((placeTypes F 0 F.tus).map (Prod.mk true) ++ (pre.filter fun p => p.2.isTypeV5).map (Prod.mk false))
    ((post.filter fun p => p.2.isTypeV5).map (Prod.mk false)) false p
    (by simp [filed, hsplit, List.filter_cons, hty])
    (fun q hq => by
      obtain ⟨q0, hq0, rfl⟩ := List.mem_map.1 hq
      exact hlast q0 (List.mem_filter.1 hq0).1 (List.mem_filter.1 hq0).2) d hd hdx

/--
  `ref_sig8_debug_info_v5` carried through the cache by `sig8_history_independent`:
  after ANY history `sigs` of signature lookups on the same `DWARFInfo` object the answer is the same.
-/
theorem ref_sig8_v5_after_any_history (F : Forest) (dasz : Nat) (hdasz : dasz = 4 ∨ dasz = 8)
    (hwf : wfForestB genNames F = true)
    (G : UnitCtx → Nat → R DieObs) (hG : ∀ U o, U.cuDieOffset ≤ o → G U o = getCachedDIE U o)
    (pre post : List (Nat × UnitDesc)) (p : Nat × UnitDesc) (hsplit : placeInfo F 0 F.units = pre ++ p :: post)
    (hty : p.2.isTypeV5 = true) (hlast : ∀ q ∈ post, q.2.isTypeV5 = true → q.2.id8 ≠ p.2.id8) (d : DieObs)
    (hd : d ∈ flattenUnit genNames (p.2.cfg F.le) (unitRho F p.2) (unitRho F p.2) (infoDieOff F p.1 p.2) p.2.tree)
    (hdx : d.offset = p.1 + p.2.typeOff) (sigs : List Int) :
    (Model.SigCache.run (sigUnits (forestDInfo F dasz) (genBundles F.le dasz).S0)
        (fun us s => dieBySig8 G us none s) Model.SigCache.St.init (sigs ++ [(p.2.id8 : Int)])).1.getLast?
      = some (.ok (p.1, d)) := by
  rw [sig8_history_independent, List.map_append, List.map_cons, List.map_nil, List.getLast?_concat,
    ref_sig8_debug_info_v5 F dasz hdasz hwf G hG pre post p hsplit hty hlast d hd hdx]

/--
  References at the level of whole sections: for EVERY entry `d` (null entries included) of every
  unit `p` of `.debug_info`,
   * `cu.get_DIE_from_refaddr(d.offset)` — what `get_DIE_from_attribute` calls for DW_FORM_ref1/2/4/8/ref/ref_udata
     after adding `cu_offset` — passes the range check against the first-entry offset and the declared size and
     returns exactly `d`;
   * `dwarfinfo.get_CU_containing(d.offset)` — DW_FORM_ref_addr — returns the unit `p` from every reachable state
     of the unit cache (`Inv`), leaving a reachable state.
-/
theorem refs_info_exact (F : Forest) (dasz : Nat) (hdasz : dasz = 4 ∨ dasz = 8) (hwf : wfForestB genNames F = true)
    (p : Nat × UnitDesc) (hp : p ∈ placeInfo F 0 F.units) (d : DieObs)
    (hd : d ∈ flattenUnit genNames (p.2.cfg F.le) (unitRho F p.2) (unitRho F p.2) (infoDieOff F p.1 p.2) p.2.tree) :
    unitDIEFromRefaddr (infoCtx F dasz p) d.offset = .ok d
      ∧ ∀ st, Proofs.Lookup.Inv (Proofs.Lookup.specP Model.genEnumDecode F.le dasz (infoSec F))
            (Proofs.Lookup.cusOf F.le 0 (F.units.map (infoUnitOf F))) st →
          ∃ st', Model.Lookup.getCUContaining (Proofs.Lookup.specP Model.genEnumDecode F.le dasz (infoSec F))
                (infoSec F).length st d.offset = (.ok (Proofs.Lookup.cuOf F.le p.1 (infoUnitOf F p.2)), st')
            ∧ Proofs.Lookup.Inv (Proofs.Lookup.specP Model.genEnumDecode F.le dasz (infoSec F))
                (Proofs.Lookup.cusOf F.le 0 (F.units.map (infoUnitOf F))) st' :=
  forest_refs_info registry_gen F dasz (genBundles_ok F.le dasz hdasz) (wfForest_of_B genNames F hwf) p hp d hd

/-- `_parse_CU_at_offset` as the model runs it (regenerated bundles) IS the parser `specP` the unit-lookup theorems are
    stated with -/
theorem parseCU_gen_eq_spec (le : Bool) (dasz : Nat) (hdasz : dasz = 4 ∨ dasz = 8) (data : Bytes) :
    Model.Lookup.parseCUAtOffset Model.genEnumDecode Model.dwarfStructsFor (genBundles le dasz).S0 le data
      = Proofs.Lookup.specP Model.genEnumDecode le dasz data :=
  parseCU_bundles (genBundles_ok le dasz hdasz) data

/-- the driver's marked fetch is `_get_cached_DIE` from the first-entry offset on -/
theorem fetch_agrees (U : UnitCtx) (o : Nat) (h : U.cuDieOffset ≤ o) : fetch U o = getCachedDIE U o := by
  unfold fetch; rw [if_neg (by omega)]

def exDecls : List AbbrevDecl :=
  [{ code := 1, tag := 0x11, children := true, specs := [] },
   { code := 2, tag := 0x2e, children := true, specs := [{ name := 0x01, form := 0x13 }] },
   { code := 3, tag := 0x34, children := false, specs := [{ name := 0x3e, form := 0x0b }] }]

/-- a two-level tree: a parent that owns children and carries DW_AT_sibling (DW_FORM_ref4), a
    childless child, the closing null entries -/
def exTree : Tree :=
  .mk { decl := exDecls[0]!, attrs := [] }
    [.mk { decl := exDecls[1]!, attrs := [{ form := 0x13, op := .nat 21 }] }
       [.mk { decl := exDecls[2]!, attrs := [{ form := 0x0b, op := .nat 7 }] } [] 1] 2,
     .mk { decl := exDecls[2]!, attrs := [{ form := 0x0b, op := .nat 9 }] } [] 1] 1

def exNames : Names := { tag := fun n => .int n, at_ := fun n => if n = 1 then .str "DW_AT_sibling" else .int n,
                         form := fun n => match formName n with | some s => .str s | none => .int n }

def exCfg : DwarfCfg := ⟨true, 32, 4, 4⟩

example : wfTree exCfg exTree = true := by decide +kernel
example : sibsOk exNames exCfg (fun _ r => r) 0 11 exTree = true := by decide +kernel
example : encTree exCfg exTree = [1, 2, 21, 0, 0, 0, 3, 7, 0x80, 0, 3, 9, 0] := by decide +kernel
example : exTree.count = 6 := by decide +kernel

/-- a registry for the examples: the names the theorems look at, numbers otherwise -/
def exNames2 : Names :=
  { tag := fun n => .int n,
    at_ := fun n => if n = 1 then .str "DW_AT_sibling" else if n = 0x72 then .str "DW_AT_str_offsets_base"
      else if n = 0x73 then .str "DW_AT_addr_base" else if n = 0x74 then .str "DW_AT_rnglists_base"
      else if n = 0x8c then .str "DW_AT_loclists_base" else .int n,
    form := fun n => match formName n with | some s => .str s | none => .int n }

def exD0 : AbbrevDecl :=
  { code := 1, tag := 0x11, children := true, specs := [{ name := 0x03, form := 0x25 }, { name := 0x72, form := 0x17 }] }
def exD1 : AbbrevDecl :=
  { code := 2, tag := 0x2e, children := true, specs := [{ name := 0x01, form := 0x13 }, { name := 0x3e, form := 0x16 }] }
def exD2 : AbbrevDecl :=
  { code := 300, tag := 0x34, children := false, codeLen := 3,
    specs := [{ name := 0x3a, form := 0x21, const := -5 }, { name := 0x03, form := 0x0e }] }
def exDecls2 : List AbbrevDecl := [exD0, exD1, exD2]

def exN0 : Node := { decl := exD0, attrs := [{ form := 0x25, op := .nat 1 }, { form := 0x17, op := .nat 8 }] }
def exN1 : Node := { decl := exD1, attrs := [{ form := 0x13, op := .nat 34 }, { ind := [2, 1], form := 0x0b, op := .nat 7 }] }
def exN2 : Node := { decl := exD2, codeLen := 2, attrs := [{ form := 0x21, op := .implicit }, { form := 0x0e, op := .nat 2 }] }

/-- a unit with a top entry carrying DW_AT_str_offsets_base and a DW_FORM_strx1 name, a child with
    DW_AT_sibling (ref4) and an indirect (→ data1, two-level chain) attribute, a grandchild with an
    implicit_const and a strp -/
def exTree2 : Tree := .mk exN0 [.mk exN1 [.mk exN2 [] 1] 2] 1

def exSecs : Sections :=
  { str := some [0x61, 0, 0x62, 0x63, 0], strOffsets := some [0, 0, 0, 0, 0, 0, 0, 0, 0, 0, 0, 0, 2, 0, 0, 0] }

def exU : UnitCtx :=
  { S := Spec.dwarfStructs exCfg, env := Env.empty, data := List.replicate 11 0xAA ++ encTree exCfg exTree2 ++ [0xBB],
    abbrevs := .ok (abbrevMap exNames2 exDecls2), cuOffset := 0, cuDieOffset := 11, size := 35, fmt := 32, addrSize := 4,
    secs := exSecs, raw2name := formName }

example : encTree exCfg exTree2 = [1, 1, 8, 0, 0, 0, 2, 34, 0, 0, 0, 0x96, 0, 0x0b, 7, 0xac, 2, 2, 0, 0, 0, 0x80, 0, 0] := by decide +kernel

theorem exU_ok : UnitOK exU exCfg exNames2 where
  structs := BundleEq.refl _
  raw2name := fun _ _ => rfl
  formNames := fun k hk => by
    have h : formCodes.all (fun k => (formName k).isSome) = true := by decide +kernel
    have := List.all_eq_true.1 h k hk
    show (match formName k with | some s => Val.str s | none => Val.int k) = _
    cases hf : formName k with
    | none => rw [hf] at this; cases this
    | some s => rfl

theorem exSecs_ok : SecsOK exU exCfg exSecs where
  secsEq := rfl
  fmt := rfl
  asz := rfl
  fmtOK := Or.inl rfl
  aszPos := by decide +kernel
  small := fun s h => by
    rcases h with h | h | h | h | h | h <;> simp [exSecs] at h <;> subst h <;> decide

theorem exNames2_at (k : Nat) :
    (k = 1 ∨ k = 0x72 ∨ k = 0x73 ∨ k = 0x74 ∨ k = 0x8c) ∨
      ((k ≠ 0x72 ∧ k ≠ 0x73 ∧ k ≠ 0x74 ∧ k ≠ 0x8c) ∧ exNames2.at_ k = .int k) := by
  by_cases h : k = 1 ∨ k = 0x72 ∨ k = 0x73 ∨ k = 0x74 ∨ k = 0x8c
  · exact Or.inl h
  · simp only [not_or] at h
    exact Or.inr ⟨h.2, by simp only [exNames2, h, if_false]⟩

theorem exNames2_refl (k : Nat) : (exNames2.at_ k == exNames2.at_ k) = true := by
  rcases exNames2_at k with (rfl | rfl | rfl | rfl | rfl) | ⟨_, h⟩
  all_goals first | rfl | (rw [h]; simp [BEq.beq, Val.beq])

theorem exNames2_base : BaseNames exNames2 := by
  constructor <;> intro k <;> rcases exNames2_at k with (rfl | rfl | rfl | rfl | rfl) | ⟨hne, h⟩
  all_goals first
    | rfl
    | (rw [h]; simp [BEq.beq, Val.beq, hne])

/-- `iter_dies_exact` is not vacuous: the unit of `exTree2` satisfies every hypothesis -/
example : iterDIEs (getCachedDIE exU) 0 11 6
    = .ok (flattenUnitP exNames2 exCfg (rho exCfg exSecs (basesOf exTree2.root)) (rho exCfg exSecs (basesOf exTree2.root))
        11 exTree2) :=
  iter_dies_exact (secs := exSecs) (rest := [0xBB]) exU_ok exSecs_ok (fun _ => by simp [exNames2]) exNames2_refl exNames2_base
    (m := abbrevMap exNames2 exDecls2) rfl _ _ _ 6 (by decide +kernel) (by decide +kernel) (by decide +kernel) (by decide +kernel)
    (by
      refine ⟨⟨rfl, ?_, ?_⟩, ⟨⟨rfl, ?_, ?_⟩, ⟨⟨rfl, ?_, ?_⟩, trivial⟩, trivial⟩, trivial⟩
      all_goals first
        | (simp only [DistinctAt, exTree2, Tree.root, exN0, exN1, exN2, exD0, exD1, exD2]; decide +kernel)
        | (simp only [ResolvesAll, exTree2, Tree.root, exN0, exN1, exN2, exD0, exD1, exD2]; decide +kernel))
    (by decide +kernel)

example : wfAbbrevs exDecls2 2 = true := by decide +kernel
example : wfTree exCfg exTree2 = true := by decide +kernel
/-- the abbreviation table of the example, as `abbrev_roundtrip_table` presents it -/
example : (abbrevMap exNames2 exDecls2).map (·.1) = [1, 2, 300] := by decide +kernel

/-- unit headers: a DWARF 5 split type unit in 64-bit format, a DWARF 4 type unit -/
def exUnit5 : Lookup.InfoUnit :=
  { fmt64 := true, version := 5, utype := 6, abbrevOff := 7, asz := 8, id8 := 0x1122334455667788, typeOff := 40,
    body := encTree exCfg exTree2 }
def exTU4 : TUHeader := { fmt64 := false, version := 4, abbrevOff := 0, asz := 4, signature := 5, typeOff := 23 }
example : Lookup.wfUnit true exUnit5 = true := by decide +kernel
example : wfTU false exTU4 (encTree exCfg exTree2) = true := by decide +kernel

def exD3 : AbbrevDecl := { code := 1, tag := 0x41, children := true, specs := [{ name := 0x03, form := 0x08 }] }
def exD4 : AbbrevDecl :=
  { code := 7, tag := 0x24, children := false, specs := [{ name := 0x0b, form := 0x0b }, { name := 0x49, form := 0x20 }] }
def exTree3 : Tree :=
  .mk { decl := exD3, attrs := [{ form := 0x08, op := .str [0x54] }] }
    [.mk { decl := exD4, attrs := [{ form := 0x0b, op := .nat 4 }, { form := 0x20, op := .nat 5 }] } [] 1] 2

/-- a forest: two abbreviation tables (the second behind three stray bytes, shared by three units); in
    `.debug_info` a DWARF 4 unit (32-bit format; the tree of `exTree2`: strx1 through DW_AT_str_offsets_base,
    DW_AT_sibling, a DW_FORM_indirect chain, implicit_const, strp, padded codes and null entries), a DWARF 5
    split type unit in 64-bit format with 8-byte addresses, a DWARF 2 unit; in `.debug_types` a DWARF 4 type unit
    whose type_offset designates its second entry -/
def exForest : Forest :=
  { le := true,
    tables := [{ decls := exDecls2, endLen := 2 }, { gap := [0xEE, 0xEE, 0xEE], decls := [exD3, exD4] }],
    units := [{ fmt64 := false, version := 4, asz := 4, table := 0, tree := exTree2 },
              { fmt64 := true, version := 5, utype := 6, asz := 8, id8 := 0x1122334455667788, typeOff := 43, table := 1,
                tree := exTree3 },
              { fmt64 := false, version := 2, asz := 8, table := 1, tree := exTree3 }],
    tus := [{ fmt64 := false, version := 4, asz := 4, id8 := 5, typeOff := 26, table := 1, tree := exTree3 }],
    secs := exSecs }

/-- the forest is well formed against the REGENERATED registry -/
theorem exForest_wf : wfForestB genNames exForest = true := by decide +kernel

example : (placeInfo exForest 0 exForest.units).map (fun p => (p.1, infoDieOff exForest p.1 p.2)) = [(0, 11), (35, 75), (90, 101)] := by
  decide +kernel
example : tableOff exForest.tables 1 = 35 := by decide +kernel

/-- `debug_info_exact` / `debug_types_exact` apply to it, with the driver's `fetch` as `_get_cached_DIE` -/
example := debug_info_exact exForest 4 (Or.inl rfl) exForest_wf fetch fetch_agrees
example := debug_types_exact exForest 8 (Or.inr rfl) exForest_wf getCachedDIE (fun _ _ _ => rfl)

/-- the third entry of the first unit of `exForest` (offset 26, abbreviation code 300) -/
def exEntry : DieObs :=
  (flattenUnit genNames ((exForest.units[0]).cfg true) (unitRho exForest exForest.units[0])
    (unitRho exForest exForest.units[0]) 11 exTree2)[2]'(by decide +kernel)

theorem exEntry_offset : exEntry.offset = 26 := by decide +kernel

/-- `refs_info_exact`: … is what a unit-relative reference to it yields -/
example : exEntry.offset = 26 ∧ exEntry.code = 300 ∧
    unitDIEFromRefaddr (infoCtx exForest 4 (0, exForest.units[0])) 26 = .ok exEntry := by
  have hmem : exEntry ∈ flattenUnit genNames ((exForest.units[0]).cfg true) (unitRho exForest exForest.units[0])
      (unitRho exForest exForest.units[0]) 11 exTree2 := List.getElem_mem _
  have h := (refs_info_exact exForest 4 (Or.inl rfl) exForest_wf (0, exForest.units[0]) (List.Mem.head _) _ hmem).1
  rw [exEntry_offset] at h
  exact ⟨exEntry_offset, by decide +kernel, h⟩

example : (form_ref_roundtrip Env.empty exCfg 0x01020304 (by decide) [0xAA] [0xBB] []).1 = rfl := rfl

/-- `ref_sig8_debug_types`: signature 5 resolves to the entry at offset 26 of the type unit at offset 0 -/
example : ∃ d : DieObs, d.offset = 26 ∧ d.code = 7 ∧
    sig8Lookup fetch (forestDInfo exForest 4) (genBundles true 4).S0 5 = .ok (0, d) := by
  have hmem : (flattenUnit genNames ((exForest.tus[0]).cfg true) (unitRho exForest exForest.tus[0])
      (unitRho exForest exForest.tus[0]) 23 exTree3)[1]'(by decide +kernel) ∈ _ := List.getElem_mem _
  exact ⟨_, by decide +kernel, by decide +kernel,
    ref_sig8_debug_types exForest 4 (Or.inl rfl) exForest_wf fetch fetch_agrees [] [] (0, exForest.tus[0]) rfl (by simp)
      (by decide +kernel) _ hmem (by decide +kernel)⟩

theorem exForest_place : placeInfo exForest 0 exForest.units
    = [(0, exForest.units[0])] ++ (35, exForest.units[1]) :: [(90, exForest.units[2])] := by
  have h1 : 0 + Spec.Lookup.unitSize exForest.le (infoUnitOf exForest exForest.units[0]) = 35 := by decide +kernel
  have h2 : 35 + Spec.Lookup.unitSize exForest.le (infoUnitOf exForest exForest.units[1]) = 90 := by decide +kernel
  show placeInfo exForest 0 [exForest.units[0], exForest.units[1], exForest.units[2]] = _
  simp only [placeInfo, h1, h2, List.singleton_append]

/-- `ref_sig8_debug_info_v5`: signature 0x1122334455667788 resolves to the entry at offset 78 = 35 + 43 of the
    DWARF 5 split type unit placed at offset 35 of `.debug_info` (between a DWARF 4 and a DWARF 2 unit) -/
example : ∃ d : DieObs, d.offset = 78 ∧ d.code = 7 ∧
    sig8Lookup fetch (forestDInfo exForest 4) (genBundles true 4).S0 0x1122334455667788 = .ok (35, d) := by
  have hmem : (flattenUnit genNames ((exForest.units[1]).cfg true) (unitRho exForest exForest.units[1])
      (unitRho exForest exForest.units[1]) 75 exTree3)[1]'(by decide +kernel) ∈ _ := List.getElem_mem _
  exact ⟨_, by decide +kernel, by decide +kernel,
    ref_sig8_debug_info_v5 exForest 4 (Or.inl rfl) exForest_wf fetch fetch_agrees [(0, exForest.units[0])]
      [(90, exForest.units[2])] (35, exForest.units[1]) exForest_place (by decide +kernel) (by decide +kernel) _ hmem
      (by decide +kernel)⟩

end PyElf.Props.C04

namespace PyElf.Proofs.Lookup
open PyElf PyElf.Spec PyElf.Proofs
open PyElf.Spec.C04 (Forest UnitDesc placeInfo infoDieOff wfForestB)
open PyElf.Model.C04 (getTopDIE)
open PyElf.Props.C04 (genBundles genNames unitRho infoCtx)

theorem forest_getTopDIE (F : Forest) (dasz : Nat) (hdasz : dasz = 4 ∨ dasz = 8) (hwf : wfForestB genNames F = true)
    (p : Nat × UnitDesc) (hp : p ∈ placeInfo F 0 F.units) :
    getTopDIE (infoCtx F dasz p)
      = .ok (Spec.C04.entryObs genNames (p.2.cfg F.le) (unitRho F p.2) (infoDieOff F p.1 p.2) p.2.tree.root) :=
  C04.kind_unit_top (C04.infoKind_ok F Props.C04.registry_gen.ut) (Props.C04.genBundles_ok F.le dasz hdasz)
    Props.C04.registry_gen (C04.wfForest_of_B genNames F hwf) (C04.wfForest_of_B genNames F hwf).info p
    (C04.placeInfo_eq F _ _ ▸ hp)

section
variable (hfull : ∀ c ∈ Spec.allDwarfCfgs, Model.dwarfStructsFor c = some (Spec.dwarfStructs c))
include hfull

theorem infoCtx_S (F : Forest) (dasz : Nat) (p : Nat × UnitDesc) (hc : p.2.cfg F.le ∈ Spec.allDwarfCfgs) :
    (infoCtx F dasz p).S = Spec.dwarfStructs (p.2.cfg F.le) := by
  show ((genBundles F.le dasz).structsOf (p.2.cfg F.le)).getD _ = _
  rw [show (genBundles F.le dasz).structsOf = Model.dwarfStructsFor from rfl, hfull _ hc]
  rfl

theorem infoCtx_env (F : Forest) (dasz : Nat) (p : Nat × UnitDesc) (hc : p.2.cfg F.le ∈ Spec.allDwarfCfgs) :
    (infoCtx F dasz p).env = Model.dwarfEnv (Spec.dwarfStructs (p.2.cfg F.le)) := by
  show ({ enumDecode := Model.genEnumDecode, forms := (infoCtx F dasz p).S.form } : Env) = _
  rw [infoCtx_S hfull F dasz p hc]
  rfl

end

end PyElf.Proofs.Lookup
