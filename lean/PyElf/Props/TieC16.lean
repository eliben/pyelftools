/-
  C16 tie: the primitive field constructs the library builds, for every
  configuration, are the primitives the C16 theorems are about.
  The theorems of Props/C16 are stated over `Con.uint n le`, `Con.uleb` … directly and apply none of the ties:
  each stands so that the check fails, naming the field, when a primitive the library builds (`Dwarf_X` the factory,
  `the_Dwarf_X` its anonymous instance, `Elf_X` the ELF side's) stops being the construct C16 speaks of.
-/
import PyElf.Gen.Structs
import PyElf.Spec.DwarfStructs
namespace PyElf.Props.TieC16
open PyElf

theorem dwarf_Dwarf_uint8 : Gen.dwarfBundles.map (fun b => (b.1, b.2.Dwarf_uint8)) = Spec.allDwarfCfgs.map (fun c => (c, (Spec.dwarfStructs c).Dwarf_uint8)) := by rfl
theorem dwarf_Dwarf_uint16 : Gen.dwarfBundles.map (fun b => (b.1, b.2.Dwarf_uint16)) = Spec.allDwarfCfgs.map (fun c => (c, (Spec.dwarfStructs c).Dwarf_uint16)) := by rfl
theorem dwarf_Dwarf_uint24 : Gen.dwarfBundles.map (fun b => (b.1, b.2.Dwarf_uint24)) = Spec.allDwarfCfgs.map (fun c => (c, (Spec.dwarfStructs c).Dwarf_uint24)) := by rfl
theorem dwarf_Dwarf_uint32 : Gen.dwarfBundles.map (fun b => (b.1, b.2.Dwarf_uint32)) = Spec.allDwarfCfgs.map (fun c => (c, (Spec.dwarfStructs c).Dwarf_uint32)) := by rfl
theorem dwarf_Dwarf_uint64 : Gen.dwarfBundles.map (fun b => (b.1, b.2.Dwarf_uint64)) = Spec.allDwarfCfgs.map (fun c => (c, (Spec.dwarfStructs c).Dwarf_uint64)) := by rfl
theorem dwarf_Dwarf_int8 : Gen.dwarfBundles.map (fun b => (b.1, b.2.Dwarf_int8)) = Spec.allDwarfCfgs.map (fun c => (c, (Spec.dwarfStructs c).Dwarf_int8)) := by rfl
theorem dwarf_Dwarf_int16 : Gen.dwarfBundles.map (fun b => (b.1, b.2.Dwarf_int16)) = Spec.allDwarfCfgs.map (fun c => (c, (Spec.dwarfStructs c).Dwarf_int16)) := by rfl
theorem dwarf_Dwarf_int32 : Gen.dwarfBundles.map (fun b => (b.1, b.2.Dwarf_int32)) = Spec.allDwarfCfgs.map (fun c => (c, (Spec.dwarfStructs c).Dwarf_int32)) := by rfl
theorem dwarf_Dwarf_int64 : Gen.dwarfBundles.map (fun b => (b.1, b.2.Dwarf_int64)) = Spec.allDwarfCfgs.map (fun c => (c, (Spec.dwarfStructs c).Dwarf_int64)) := by rfl
theorem dwarf_Dwarf_offset : Gen.dwarfBundles.map (fun b => (b.1, b.2.Dwarf_offset)) = Spec.allDwarfCfgs.map (fun c => (c, (Spec.dwarfStructs c).Dwarf_offset)) := by rfl
theorem dwarf_Dwarf_length : Gen.dwarfBundles.map (fun b => (b.1, b.2.Dwarf_length)) = Spec.allDwarfCfgs.map (fun c => (c, (Spec.dwarfStructs c).Dwarf_length)) := by rfl
theorem dwarf_Dwarf_target_addr : Gen.dwarfBundles.map (fun b => (b.1, b.2.Dwarf_target_addr)) = Spec.allDwarfCfgs.map (fun c => (c, (Spec.dwarfStructs c).Dwarf_target_addr)) := by rfl
theorem dwarf_Dwarf_uleb128 : Gen.dwarfBundles.map (fun b => (b.1, b.2.Dwarf_uleb128)) = Spec.allDwarfCfgs.map (fun c => (c, (Spec.dwarfStructs c).Dwarf_uleb128)) := by rfl
theorem dwarf_Dwarf_sleb128 : Gen.dwarfBundles.map (fun b => (b.1, b.2.Dwarf_sleb128)) = Spec.allDwarfCfgs.map (fun c => (c, (Spec.dwarfStructs c).Dwarf_sleb128)) := by rfl
theorem dwarf_Dwarf_initial_length : Gen.dwarfBundles.map (fun b => (b.1, b.2.Dwarf_initial_length)) = Spec.allDwarfCfgs.map (fun c => (c, (Spec.dwarfStructs c).Dwarf_initial_length)) := by rfl
theorem dwarf_the_Dwarf_offset : Gen.dwarfBundles.map (fun b => (b.1, b.2.the_Dwarf_offset)) = Spec.allDwarfCfgs.map (fun c => (c, (Spec.dwarfStructs c).the_Dwarf_offset)) := by rfl
theorem dwarf_the_Dwarf_target_addr : Gen.dwarfBundles.map (fun b => (b.1, b.2.the_Dwarf_target_addr)) = Spec.allDwarfCfgs.map (fun c => (c, (Spec.dwarfStructs c).the_Dwarf_target_addr)) := by rfl
theorem dwarf_the_Dwarf_uint32 : Gen.dwarfBundles.map (fun b => (b.1, b.2.the_Dwarf_uint32)) = Spec.allDwarfCfgs.map (fun c => (c, (Spec.dwarfStructs c).the_Dwarf_uint32)) := by rfl
theorem dwarf_the_Dwarf_uint16 : Gen.dwarfBundles.map (fun b => (b.1, b.2.the_Dwarf_uint16)) = Spec.allDwarfCfgs.map (fun c => (c, (Spec.dwarfStructs c).the_Dwarf_uint16)) := by rfl
theorem dwarf_the_Dwarf_uint8 : Gen.dwarfBundles.map (fun b => (b.1, b.2.the_Dwarf_uint8)) = Spec.allDwarfCfgs.map (fun c => (c, (Spec.dwarfStructs c).the_Dwarf_uint8)) := by rfl
theorem dwarf_the_Dwarf_uleb128 : Gen.dwarfBundles.map (fun b => (b.1, b.2.the_Dwarf_uleb128)) = Spec.allDwarfCfgs.map (fun c => (c, (Spec.dwarfStructs c).the_Dwarf_uleb128)) := by rfl
theorem dwarf_the_Dwarf_sleb128 : Gen.dwarfBundles.map (fun b => (b.1, b.2.the_Dwarf_sleb128)) = Spec.allDwarfCfgs.map (fun c => (c, (Spec.dwarfStructs c).the_Dwarf_sleb128)) := by rfl
/-- the whole form → parser table (block, exprloc, string, strx*, addrx*, ref*, ... forms) -/
theorem dwarf_forms : Gen.dwarfBundles.map (fun b => (b.1, b.2.forms)) = Spec.allDwarfCfgs.map (fun c => (c, (Spec.dwarfStructs c).forms)) := by rfl
theorem elf_Elf_byte : Gen.elfBundles.map (fun b => (b.1, b.2.Elf_byte)) = Spec.allElfCfgs.map (fun c => (c, (Spec.elfStructs c).Elf_byte)) := by rfl
theorem elf_Elf_half : Gen.elfBundles.map (fun b => (b.1, b.2.Elf_half)) = Spec.allElfCfgs.map (fun c => (c, (Spec.elfStructs c).Elf_half)) := by rfl
theorem elf_Elf_word : Gen.elfBundles.map (fun b => (b.1, b.2.Elf_word)) = Spec.allElfCfgs.map (fun c => (c, (Spec.elfStructs c).Elf_word)) := by rfl
theorem elf_Elf_word64 : Gen.elfBundles.map (fun b => (b.1, b.2.Elf_word64)) = Spec.allElfCfgs.map (fun c => (c, (Spec.elfStructs c).Elf_word64)) := by rfl
theorem elf_Elf_addr : Gen.elfBundles.map (fun b => (b.1, b.2.Elf_addr)) = Spec.allElfCfgs.map (fun c => (c, (Spec.elfStructs c).Elf_addr)) := by rfl
theorem elf_Elf_offset : Gen.elfBundles.map (fun b => (b.1, b.2.Elf_offset)) = Spec.allElfCfgs.map (fun c => (c, (Spec.elfStructs c).Elf_offset)) := by rfl
theorem elf_Elf_sword : Gen.elfBundles.map (fun b => (b.1, b.2.Elf_sword)) = Spec.allElfCfgs.map (fun c => (c, (Spec.elfStructs c).Elf_sword)) := by rfl
theorem elf_Elf_xword : Gen.elfBundles.map (fun b => (b.1, b.2.Elf_xword)) = Spec.allElfCfgs.map (fun c => (c, (Spec.elfStructs c).Elf_xword)) := by rfl
theorem elf_Elf_sxword : Gen.elfBundles.map (fun b => (b.1, b.2.Elf_sxword)) = Spec.allElfCfgs.map (fun c => (c, (Spec.elfStructs c).Elf_sxword)) := by rfl
theorem elf_Elf_uleb128 : Gen.elfBundles.map (fun b => (b.1, b.2.Elf_uleb128)) = Spec.allElfCfgs.map (fun c => (c, (Spec.elfStructs c).Elf_uleb128)) := by rfl
theorem elf_Elf_ntbs : Gen.elfBundles.map (fun b => (b.1, b.2.Elf_ntbs)) = Spec.allElfCfgs.map (fun c => (c, (Spec.elfStructs c).Elf_ntbs)) := by rfl

end PyElf.Props.TieC16
