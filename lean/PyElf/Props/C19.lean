/-
  C19 — opening arbitrary bytes fails only with the library's ELF error; header
  enumeration is bounded by the file size.

  The statements quantify over all byte strings: no well-formedness hypothesis anywhere.  The model raises
  `typeError`/`keyError`/`overflowError`/… exactly where Python would, which is what makes the closure
  statement meaningful.  No proof-side definition occurs in the statements (`openElf`, `getSection`,
  `getSegment`, `numSections` are Model/ElfFile.lean; `structsFor`, `machineClassOfVal` Spec/ElfFactory.lean).

  Two imports are not used by name: the check enumerates and audits the theorems in this module's import closure, so
  Props/C19Loops (the other loops of the property) and Props/TieC01 (the header structures these statements parse with
  are the ones /repo builds) are imported for it.
-/
import PyElf.Model.ElfFile
import PyElf.Spec.ElfFactory
import PyElf.Proofs.ElfErrors
import PyElf.Props.TieC01
import PyElf.Props.C19Loops
namespace PyElf.Props.C19
open PyElf PyElf.Spec PyElf.Model PyElf.Proofs

/-- `ELFFile(stream)` on any byte string: success, or ELFError / ELFParseError — never
    TypeError, KeyError, OverflowError, AttributeError, … -/
theorem construct_error_closed (env : Env) (data : Bytes) :
    (∃ f, openElf env structsFor machineClassOfVal data = .ok f) ∨
    openElf env structsFor machineClassOfVal data = .error .elfError ∨
    openElf env structsFor machineClassOfVal data = .error .elfParseError := by
  cases h : openElf env structsFor machineClassOfVal data with
  | ok f => exact Or.inl ⟨f, rfl⟩
  | error e =>
    rcases ElfErrors.openElf_only env data e h with rfl | rfl
    · exact Or.inr (Or.inl rfl)
    · exact Or.inr (Or.inr rfl)

/- The two bounds below are about a file `openElf` returned for `data` — still every byte string, no
   well-formedness hypothesis.  For an arbitrary `c : ElfCfg` and header value they are false: with
   `c = ⟨true, 0, "default", false, false⟩` (a configuration no file can select) the word size is 0,
   `Elf_Shdr.sizeof = 16` and `Elf_Phdr.sizeof = 8`; on `data = 32 zero bytes`,
   `hdr = {e_shentsize: 16, e_shoff: 16, e_shnum: 2, e_phentsize: 8, e_phoff: 0}`,
   `shstr = some {sh_offset: 0}`: `numSections = ok 2`, `getSection … 0` succeeds (40 > 32) and
   `getSegment … 3` succeeds (32*3+32 > 32).  The configuration-generic bounds
   (`sizeof Shdr * (i+1) ≤ len`, `sizeof Phdr * (i+1) ≤ len`) are
   `Proofs.ElfErrors.getSection_ok_bound` / `Proofs.ElfErrors.getSegment_ok_bound`.
   40 and 32 are the sizes of `Elf32_Shdr` and `Elf32_Phdr`, the smaller of the two classes. -/

/-- sections: an index at which `get_section` succeeds lies within the file — so enumerating
    `range(num_sections())` makes at most `len/40 + 1` successful steps before it raises,
    whatever count the (possibly corrupt) header or the extended-numbering escape claims -/
theorem section_steps_bounded (env : Env) (data : Bytes) (f : ElfFile)
    (hf : openElf env structsFor machineClassOfVal data = .ok f)
    (n i : Nat) (r : String × Bytes × Val)
    (hn : numSections env f.S data f.header = .ok n) (hi : i < n)
    (h : getSection env f.S data f.header f.shstr i = .ok r) :
    40 * i + 40 ≤ data.length := by
  obtain ⟨c, hc, hS, -⟩ := ElfErrors.openElf_ok hf
  rw [hS] at hn h
  have hb := ElfErrors.getSection_ok_bound hn hi h
  have h40 : 40 ≤ ElfErrors.shdrSize c := by unfold ElfErrors.shdrSize; rcases hc with hc | hc <;> rw [hc] <;> decide
  have := Nat.mul_le_mul_right (i + 1) h40
  omega

/-- segments: likewise (this is the statement the PN_XNUM defect violated: with e_phoff = 0 and
    e_phentsize = 0 every index succeeded) -/
theorem segment_steps_bounded (env : Env) (data : Bytes) (f : ElfFile)
    (hf : openElf env structsFor machineClassOfVal data = .ok f)
    (i : Nat) (r : String × Val)
    (h : getSegment env f.S data f.header f.shstr i = .ok r) :
    32 * i + 32 ≤ data.length := by
  obtain ⟨c, hc, hS, -⟩ := ElfErrors.openElf_ok hf
  rw [hS] at h
  have hb := ElfErrors.getSegment_ok_bound h
  have h32 : 32 ≤ ElfErrors.phdrSize c := by unfold ElfErrors.phdrSize; rcases hc with hc | hc <;> rw [hc] <;> decide
  have := Nat.mul_le_mul_right (i + 1) h32
  omega

/-- enumeration stops at the first failing index: `mapM` over `range n` evaluates `f` on
    `0 … k` where `k` is the first failure, so the bounds above bound the work -/
theorem mapM_range_stops {α : Type} (f : Nat → R α) (n k : Nat) (e : Err) (hk : k < n)
    (hfail : f k = .error e) (hok : ∀ j < k, ∃ v, f j = .ok v) :
    (List.range n).mapM f = .error e := by
  rw [List.range_eq_range']
  exact ElfErrors.mapM_range'_stops f e k hfail n 0 (Nat.zero_le _) (by omega) (fun j _ h => hok j h)

/-- the section-link recursion of `_make_section` (symtab → strtab, versym → symtab → strtab) never
    needs more than the fuel the model gives it: `outOfFuel` is unreachable from `get_section`
    (for every configuration and every header value, opened file or not) -/
theorem make_section_fuel_sufficient (env : Env) (c : ElfCfg) (data : Bytes) (hdr : Val) (shstr : Option Val) (i : Nat) :
    getSection env (elfStructs c) data hdr shstr i ≠ .error .outOfFuel :=
  fun h => ElfErrors.nf_getSection env c data hdr shstr i _ h rfl

/-- the same for the structures of a file `openElf` returned -/
theorem make_section_fuel_sufficient_opened (env : Env) (data : Bytes) (f : ElfFile)
    (hf : openElf env structsFor machineClassOfVal data = .ok f) (i : Nat) :
    getSection env f.S data f.header f.shstr i ≠ .error .outOfFuel := by
  obtain ⟨c, -, hS, -⟩ := ElfErrors.openElf_ok hf
  rw [hS]
  exact make_section_fuel_sufficient env c data f.header f.shstr i

end PyElf.Props.C19
