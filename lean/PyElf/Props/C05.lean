/-
  C05 — line-number programs execute to the rows the DWARF state machine prescribes.

  `S = Spec.dwarfStructs cfg` is the CU's struct bundle (equal to the regenerated one by Props/TieC05), `specConsts` the
  DW_LNS_*/DW_LNE_* numbers (equal to the library's by `TieC05.lnConsts_are_standard`), `pre`/`rest` arbitrary
  surrounding bytes (other programs of the section), `env` any enum environment.  `hsz` says the unit ends below
  `PY_SSIZE_T_MAX` (2^63 − 1): beyond it `io.BytesIO.seek` raises OverflowError.

  Proved, for all versions 2–5, both formats, byte orders and address sizes: the header round trip incl. version 5
  entry formats, resolved names and legacy views; rows = the standard's machine, with the exact extent; designation by
  DW_AT_stmt_list and `_linetable_cache`; `header_length` honoured; the exact behaviour with zero divisors.  Then the
  same from SECTION BYTES (composition with C04's `debug_info_exact`) and from the BYTES OF A FILE (through C11's
  `view_of_file_z`: sections stored plain / gABI-compressed / `.zdebug`, any mix).
  Correspondence only (model == library on every run, no theorem): malformed input and the errors it raises
    (truncation, `header_length` smaller than the known fields, forms §6.2.4.1 does not allow, version 5 tables without
    a first entry — the legacy views stay `None` —, DW_LNE_define_file in version 5, non-standard operand counts for
    the twelve standard opcodes, a line table whose DWARF format differs from the unit's), `get_entries()` memoisation
    and the mutation of a cached header by DW_LNE_define_file across queries, offsets beyond `PY_SSIZE_T_MAX`.
-/
import PyElf.Spec.LineProgram
import PyElf.Model.LineProgram
import PyElf.Proofs.LineUnit
import PyElf.Proofs.Utils
import PyElf.Model.Env
import PyElf.Props.TieC05
import PyElf.Proofs.LineInfo
import PyElf.Proofs.LineFile
import PyElf.Props.C11
namespace PyElf.Props.C05
open PyElf PyElf.Spec PyElf.Spec.Line PyElf.Model.Line PyElf.Proofs.Line

/-- **Rows.**  Decoding the program of a well-formed unit yields entries whose states are exactly the rows of the
    standard's state machine (standard opcodes incl. unknown ones skipped through `standard_opcode_lengths`, extended
    opcodes incl. unknown length-skipped ones, special opcodes; VLIW `op_index` arithmetic; padded LEB128 operands;
    several sequences). -/
theorem line_rows_eq_std (env : Env) (cfg : DwarfCfg) (h : Header) (secs : StrSecs) (is : List Instr)
    (pre rest : Bytes) (hwf : unitWF h secs is = true) (hle : h.p.le = cfg.le) (hasz : h.p.asz = cfg.asz)
    (hsz : pre.length + (encodeUnit h is).length ≤ ssizeMax) :
    ∃ entries files tell,
      decodeLineProgram env (Spec.dwarfStructs cfg) specConsts (pre ++ encodeUnit h is ++ rest)
          (lpOf h secs is pre.length) = .ok (entries, files, tell)
      ∧ rowsOf entries = stdRun h.p is := by
  obtain ⟨es, hrun, hrows⟩ := decode_lpOf (env := env) (cfg := cfg) h secs is pre rest hwf hle hasz hsz
  exact ⟨es, _, _, hrun, hrows⟩

/-- **Extent.**  Decoding stops exactly at the end of the unit (`program_end_offset`, the declared
    `unit_length`), wherever the unit sits in the section; DW_LNE_define_file entries are appended to
    the file table in program order. -/
theorem line_consumes_extent (env : Env) (cfg : DwarfCfg) (h : Header) (secs : StrSecs) (is : List Instr)
    (pre rest : Bytes) (hwf : unitWF h secs is = true) (hle : h.p.le = cfg.le) (hasz : h.p.asz = cfg.asz)
    (hsz : pre.length + (encodeUnit h is).length ≤ ssizeMax) :
    ∃ entries,
      decodeLineProgram env (Spec.dwarfStructs cfg) specConsts (pre ++ encodeUnit h is ++ rest)
          (lpOf h secs is pre.length)
        = .ok (entries,
               (lpOf h secs is pre.length).fileEntry.map (· ++ (definedFiles is).map FileEntry.obs),
               pre.length + (encodeUnit h is).length)
      ∧ (lpOf h secs is pre.length).program_end_offset = pre.length + (encodeUnit h is).length := by
  obtain ⟨es, hrun, _⟩ := decode_lpOf (env := env) (cfg := cfg) h secs is pre rest hwf hle hasz hsz
  exact ⟨es, hrun, by simp only [lpOf]⟩

/-- one loop iteration on one encoded instruction is one step of the standard's machine, for every instruction
    form (`line_rows_eq_std` iterates the version of this with encodable parameters, `stepOK_of_enc`) -/
theorem line_step_eq_std (env : Env) (cfg : DwarfCfg) (p : Params) (ver : Nat) (i : Instr)
    (hp : p.WF ver = true) (hle : p.le = cfg.le) (hasz : p.asz = cfg.asz) (hw : i.WF p ver = true) :
    StepOK env cfg p ver i :=
  stepOK_all hp hle hasz i hw

/-- **Designation.**  The program attached to a unit is the one at the offset its DW_AT_stmt_list
    holds; a unit without the attribute has none. -/
theorem stmt_list_designates (env : Env) (S : DwarfStructs) (fmt : Nat) (secs : Secs) (data : Bytes)
    (cache : Cache) (attrs : Fields) (off : Nat)
    (h : Fields.get? attrs "DW_AT_stmt_list" = some (.int (off : Int))) :
    lineProgramForCU env S fmt secs data cache attrs
      = (match parseLineProgramAtOffset env S fmt secs data cache off with
         | .error e => .error e
         | .ok (lp, c) => .ok (some lp, c)) := by
  simp only [lineProgramForCU, h, Proofs.Engine.asNat_nat, bind, Except.bind]
  cases parseLineProgramAtOffset env S fmt secs data cache off <;> rfl

theorem stmt_list_absent (env : Env) (S : DwarfStructs) (fmt : Nat) (secs : Secs) (data : Bytes)
    (cache : Cache) (attrs : Fields) (h : Fields.get? attrs "DW_AT_stmt_list" = none) :
    lineProgramForCU env S fmt secs data cache attrs = .ok (none, cache) := by
  simp [lineProgramForCU, h]

/-- `_linetable_cache` is transparent: whatever it returns for an offset is what parsing at that
    offset gives, and it stays that way (invariant `CacheOK`, true of the empty cache) -/
theorem linetable_cache_coherent (env : Env) (S : DwarfStructs) (fmt : Nat) (secs : Secs) (data : Bytes)
    (cache : Cache) (off : Nat) (hc : CacheOK env S fmt secs data cache) (lp : LineProg) (cache' : Cache)
    (h : parseLineProgramAtOffset env S fmt secs data cache off = .ok (lp, cache')) :
    parseLineProgramFresh env S fmt secs data off = .ok lp ∧ CacheOK env S fmt secs data cache' := by
  unfold parseLineProgramAtOffset at h
  cases hf : cache.find? (·.1 == off) with
  | some ol =>
    obtain ⟨o, l⟩ := ol
    rw [hf] at h
    simp only [Except.ok.injEq, Prod.mk.injEq] at h
    obtain ⟨rfl, rfl⟩ := h
    obtain ⟨rfl, hmem⟩ := cache_hit hf
    exact ⟨hc _ _ hmem, hc⟩
  | none =>
    rw [hf] at h
    cases hp : parseLineProgramFresh env S fmt secs data off with
    | error e => simp [hp, bind, Except.bind] at h
    | ok l =>
      simp only [hp, bind, Except.bind, pure, Except.pure, Except.ok.injEq, Prod.mk.injEq] at h
      obtain ⟨rfl, rfl⟩ := h
      exact ⟨rfl, cache_append hc hp⟩

theorem linetable_cache_init (env : Env) (S : DwarfStructs) (fmt : Nat) (secs : Secs) (data : Bytes) :
    CacheOK env S fmt secs data [] := by intro o lp h; cases h

theorem lineProgramForCU_fresh {env : Env} {S : DwarfStructs} {fmt : Nat} {secs : Secs} {data : Bytes} {attrs : Fields}
    {off : Nat} {lp : LineProg} (hattr : Fields.get? attrs "DW_AT_stmt_list" = some (.int (off : Int)))
    (hp : parseLineProgramFresh env S fmt secs data off = .ok lp) :
    lineProgramForCU env S fmt secs data [] attrs = .ok (some lp, [(off, lp)]) := by
  rw [stmt_list_designates env S fmt secs data [] attrs off hattr]
  simp only [parseLineProgramAtOffset, List.find?_nil, hp, bind, Except.bind, pure, Except.pure, List.nil_append]

/-- the regenerated enum tables decode the DW_LNCT_* / DW_FORM_* codes of a version 5 entry format to the
    standard's names (`TieC05.lnct_names`, `TieC05.form_names`): the environment the library runs with
    satisfies the hypothesis `EnvOK` of the two theorems below -/
theorem gen_env_ok (S : DwarfStructs) : EnvOK (Model.dwarfEnv S) where
  lnct := by
    intro ct nm h
    have hm : ct ∈ [1, 2, 3, 4, 5] := by
      unfold lnctName at h
      split at h <;> first | (cases h; done) | decide
    -- (rewriting, not `show`: the unifier would run the table lookup)
    rw [Proofs.Engine.dwarfEnv_enumDecode]
    exact (TieC05.lnct_names ct hm).trans h
  form := by
    intro fc nm k h
    have hm : fc ∈ [0x08, 0x1f, 0x0e, 0x1d, 0x0b, 0x05, 0x06, 0x07, 0x0f, 0x1e, 0x09] := by
      unfold formOf at h
      split at h <;> first | (cases h; done) | decide
    rw [Proofs.Engine.dwarfEnv_enumDecode]
    exact (TieC05.form_names fc hm).trans (by rw [h]; rfl)

/-- **Header (versions 2–5).**  `_parse_line_program_at_offset` on a well-formed unit, wherever it sits in the section,
    returns the `LineProgram` object whose header is the encoded one field by field — versions 2–4: include directories
    and file table; version 5: both entry formats, the entries decoded by the `FormattedEntry` struct built from the
    parsed format, DW_FORM_line_strp / strp / strp_sup offsets resolved to the strings they designate, and the
    legacy-compatible `include_directory` / `file_entry` tables derived from them —, whose program starts
    `header_length` bytes past the `header_length` field and ends at the declared `unit_length`.
    For version 5 only: `henv` (true of the regenerated tables: `gen_env_ok`) and `hsecs` (the running `DWARFInfo`
    holds the string sections the unit refers to, `SecsView`). -/
theorem line_header_roundtrip (env : Env) (cfg : DwarfCfg) (msecs : Secs) (h : Header) (secs : StrSecs)
    (is : List Instr) (pre rest : Bytes) (hwf : unitWF h secs is = true)
    (hle : h.p.le = cfg.le) (hfmt : cfg.fmt = if h.fmt64 then 64 else 32)
    (henv : h.version ≥ 5 → EnvOK env) (hsecs : h.version ≥ 5 → SecsView msecs secs) :
    parseLineProgramFresh env (Spec.dwarfStructs cfg) cfg.fmt msecs (pre ++ encodeUnit h is ++ rest) pre.length
      = .ok (lpOf h secs is pre.length) := by
  rw [← encodeUnitX_nil h is, ← lpOfX_nil h secs is pre.length]
  exact parseFreshX_all msecs h secs [] _ pre rest (unitWF_X hwf) hle hfmt henv hsecs

/-- **End to end (versions 2–5).**  Through `line_program_for_CU` with a fresh cache: the unit's
    DW_AT_stmt_list designates the program, its header decodes to the encoded one, its rows are the
    standard's, decoding ends at the unit's end. -/
theorem line_program_end_to_end (env : Env) (cfg : DwarfCfg) (msecs : Secs) (h : Header) (secs : StrSecs)
    (is : List Instr) (pre rest : Bytes) (attrs : Fields) (hwf : unitWF h secs is = true)
    (hle : h.p.le = cfg.le) (hasz : h.p.asz = cfg.asz) (hfmt : cfg.fmt = if h.fmt64 then 64 else 32)
    (henv : h.version ≥ 5 → EnvOK env) (hsecs : h.version ≥ 5 → SecsView msecs secs)
    (hattr : Fields.get? attrs "DW_AT_stmt_list" = some (.int (pre.length : Int)))
    (hsz : pre.length + (encodeUnit h is).length ≤ ssizeMax) :
    ∃ lp cache entries files,
      lineProgramForCU env (Spec.dwarfStructs cfg) cfg.fmt msecs (pre ++ encodeUnit h is ++ rest) [] attrs
        = .ok (some lp, cache)
      ∧ lp.header = h.observe secs is
      ∧ lp.program_start_offset = pre.length + headerSize h
      ∧ decodeLineProgram env (Spec.dwarfStructs cfg) specConsts (pre ++ encodeUnit h is ++ rest) lp
          = .ok (entries, files, lp.program_end_offset)
      ∧ rowsOf entries = stdRun h.p is := by
  obtain ⟨es, hrun, hrows⟩ := decode_lpOf (env := env) (cfg := cfg) h secs is pre rest hwf hle hasz hsz
  exact ⟨_, _, es, _, lineProgramForCU_fresh hattr
    (line_header_roundtrip env cfg msecs h secs is pre rest hwf hle hfmt henv hsecs), rfl, rfl, hrun, hrows⟩

/-- the three parts of the version 5 header, each on its own:
    (1) an entry format `PrefixedArray(Struct(content_type, form), ubyte)` round-trips -/
theorem line_v5_entry_format_roundtrip (env : Env) (henv : EnvOK env) (le : Bool) (fmt : List (Nat × Nat))
    (pre rest : Bytes) (c : Fields) (hw : fmtWF fmt = true) :
    Con.parse env (pre ++ fmtEnc fmt ++ rest) (.prefixed (.uint 1 le) entryFormatCon) c pre.length
      = .ok (fmtObs fmt, pre.length + (fmtEnc fmt).length, c) :=
  (Proofs.Engine.Reads.fmt henv (FmtOK.of hw)).parse (Proofs.drop_pre pre _ rest)

/-- (2) `FormattedEntry._parse`: the struct built at run time from the parsed format (found in the
    context under `ff`) decodes one encoded entry, form by form; string references are still offsets -/
theorem line_v5_formatted_entry_roundtrip (env : Env) (cfg : DwarfCfg) (fmt64 : Bool) (secs : StrSecs)
    (fmt : List (Nat × Nat)) (vs : List FieldVal) (ff : String) (c : Fields) (pre rest : Bytes)
    (hosz : cfg.fmt = if fmt64 then 64 else 32) (hfw : fmtWF fmt = true)
    (hc : Fields.getR c ff = .ok (fmtObs fmt)) (hw : entryWF fmt64 secs (kindsOf fmt) vs = true) :
    formattedParse env (Spec.dwarfStructs cfg) (pre ++ entryEnc cfg.le fmt64 (kindsOf fmt) vs ++ rest) ff pre.length c
      = .ok (.record (entryRaw fmt vs), pre.length + (entryEnc cfg.le fmt64 (kindsOf fmt) vs).length, c) :=
  formattedParse_ok (offSize_of_fmt hosz) (FmtOK.of hfw) hc hw (Proofs.drop_pre pre _ rest)

/-- (3) `resolve_strings`: in a parsed header holding the format under `ff` and the raw entries under
    `df`, every DW_FORM_line_strp / strp / strp_sup field becomes the string it designates -/
theorem line_v5_resolve_strings (msecs : Secs) (secs : StrSecs) (fmt64 : Bool) (hview : SecsView msecs secs)
    (hdr : Fields) (ff df : String) (fmt : List (Nat × Nat)) (es : List (List FieldVal))
    (hfw : fmtWF fmt = true) (hes : ∀ e ∈ es, entryWF fmt64 secs (kindsOf fmt) e = true)
    (hf : Fields.get? hdr ff = some (fmtObs fmt))
    (hd : Fields.get? hdr df = some (.list (es.map fun e => .record (entryRaw fmt e)))) :
    resolveStrings msecs hdr ff df
      = .ok (Fields.set hdr df (.list (es.map fun e => .record (entryObs secs fmt e)))) :=
  resolveStrings_ok hview (FmtOK.of hfw) hes hf hd

/-! ### VLIW `op_index` arithmetic, as facts about the standard's machine

  With `maximum_operations_per_instruction = 4`, `minimum_instruction_length = 8`:
  `advance_pc 5; copy` gives address 8, op_index 1 (a decoder that ignores `op_index` gives 40, 0);
  `const_add_pc` (opcode_base 13, line_range 14) gives 32, 1 (not 136, 0);
  `fixed_advance_pc` / `set_address` reset op_index; the end_sequence row keeps `is_stmt`. -/

def vliw : Params :=
  { le := true, asz := 8, minInst := 8, maxOps := 4, defaultIsStmt := 1, lineBase := -5, lineRange := 14,
    opcodeBase := 13, stdLens := knownStdLens }

theorem vliw_wf : vliw.WF 4 = true := by decide +kernel

theorem std_advance_pc_vliw :
    (stdRun vliw [.advancePc ⟨5, 1⟩, .copy, .endSequence 1]).map (fun r => (r.address, r.opIndex, r.isStmt, r.endSequence))
      = [(8, 1, true, false), (8, 1, true, true)] := by decide +kernel

theorem std_const_add_pc_vliw :
    (stdRun vliw [.constAddPc, .copy]).map (fun r => (r.address, r.opIndex)) = [(32, 1)] := by decide +kernel

theorem std_fixed_advance_resets_op_index :
    (stdRun vliw [.special 32, .fixedAdvancePc 16, .copy]).map (fun r => (r.address, r.opIndex))
      = [(0, 1), (16, 0)] := by decide +kernel

theorem std_set_address_resets_op_index :
    (stdRun vliw [.special 32, .setAddress 1 4096, .copy]).map (fun r => (r.address, r.opIndex))
      = [(0, 1), (4096, 0)] := by decide +kernel

/-! ### units that satisfy `unitWF`: version 4 with VLIW parameters and a defined file, version 5 with string references -/

def exHeader : Header :=
  { version := 4, fmt64 := false, segSel := 0, p := vliw, includeDirs := [[0x64]],
    files := [⟨[0x61, 0x2e, 0x63], ⟨1, 1⟩, ⟨0, 2⟩, ⟨0, 1⟩⟩], dirFmt := [], dirs := [], fileFmt := [], fileNames := [] }

def exProgram : List Instr :=
  [.setAddress 1 0x1000, .advanceLine ⟨-1, 2⟩, .special 0x4b, .advancePc ⟨5, 3⟩, .constAddPc, .unknownExt 1 0x80 [1, 2],
   .defineFile 1 [0x62] ⟨0, 1⟩ ⟨0, 1⟩ ⟨0, 1⟩, .setDiscriminator 1 ⟨7, 1⟩, .copy, .endSequence 1]

example : unitWF exHeader ⟨[], [], none⟩ exProgram = true := by decide +kernel

/-- a version 5 header: the directory name a reference into .debug_line_str, the file name one into .debug_str -/
def exHeader5 : Header :=
  { version := 5, fmt64 := true, segSel := 0, p := { vliw with opcodeBase := 15, stdLens := knownStdLens ++ [2, 0] },
    includeDirs := [], files := [],
    dirFmt := [(1, 0x1f)], dirs := [[.ref 0]],
    fileFmt := [(1, 0x0e), (2, 0x0b), (5, 0x1e)],
    fileNames := [[.ref 1, .fixed 0, .data16 (List.replicate 16 7)]] }

example : unitWF exHeader5 ⟨[0x2f, 0], [0, 0x61, 0], none⟩ [.unknownStd 13 [⟨300, 2⟩, ⟨1, 1⟩], .copy] = true := by decide +kernel

/-! ### a version 5 header, end to end, as a closed instance

  DWARF64, little-endian; directory format (path: line_strp), file format (path: strp,
  directory_index: data1, MD5: data16); strings resolved through .debug_line_str / .debug_str;
  enum names from the regenerated tables; an unknown standard opcode (13, two operands) skipped. -/

def exCfg5 : DwarfCfg := ⟨true, 64, 8, 5⟩
def exSecs5 : StrSecs := ⟨[0x2f, 0], [0, 0x61, 0], none⟩
def exProgram5 : List Instr := [.unknownStd 13 [⟨300, 2⟩, ⟨1, 1⟩], .advancePc ⟨5, 1⟩, .copy, .endSequence 1]

example : unitWF exHeader5 exSecs5 exProgram5 = true := by decide +kernel

def lpAgrees (a b : LineProg) : Bool :=
  a.header == b.header && a.program_start_offset == b.program_start_offset
    && a.program_end_offset == b.program_end_offset
    && (match a.fileEntry, b.fileEntry with
        | none, none => true
        | some x, some y => Val.list x == Val.list y
        | _, _ => false)

/-- the hypotheses of `line_header_roundtrip` for this unit: the regenerated environment, and the sections as
    the running `DWARFInfo` holds them -/
example : SecsView ⟨some exSecs5.lineStr, some exSecs5.str, none⟩ exSecs5 :=
  ⟨rfl, rfl, fun _ h => (by cases h), (by decide +kernel), (by decide +kernel), fun _ h => (by cases h)⟩

/-- `line_header_roundtrip` instantiated (version 5, non-vacuous) -/
example :
    parseLineProgramFresh (Model.dwarfEnv (Spec.dwarfStructs exCfg5)) (Spec.dwarfStructs exCfg5) 64
        ⟨some exSecs5.lineStr, some exSecs5.str, none⟩ ([0xAA] ++ encodeUnit exHeader5 exProgram5 ++ [0xBB]) 1
      = .ok (lpOf exHeader5 exSecs5 exProgram5 1) :=
  line_header_roundtrip _ exCfg5 _ exHeader5 exSecs5 exProgram5 [0xAA] [0xBB] (by decide +kernel) rfl rfl
    (fun _ => gen_env_ok _) (fun _ => ⟨rfl, rfl, fun _ h => (by cases h), (by decide +kernel), (by decide +kernel), fun _ h => (by cases h)⟩)

/-- a second version 5 header: inline strings, a supplementary .debug_str, udata / block / data8 fields -/
def exHeader5b : Header :=
  { exHeader5 with
    fmt64 := false
    dirFmt := [(1, 0x08)]
    dirs := [[.str [0x2f, 0x74]], [.str [0x73, 0x72, 0x63]]]
    fileFmt := [(1, 0x1d), (2, 0x0f), (3, 0x09), (4, 0x07)]
    fileNames := [[.ref 2, .udata ⟨1, 2⟩, .block 1 [1, 2, 3], .fixed 0x1122334455667788]] }
def exSecs5b : StrSecs := ⟨[], [], some [0x78, 0, 0x62, 0x2e, 0x63, 0]⟩

example : unitWF exHeader5b exSecs5b exProgram5 = true := by decide +kernel
example : SecsView ⟨some [], some [], some exSecs5b.sup⟩ exSecs5b :=
  ⟨rfl, rfl, fun _ h => (by cases h; rfl), (by decide +kernel), (by decide +kernel), fun _ h => (by cases h; decide)⟩

/-- the version 5 unit parsed and decoded by the kernel, once; the two instances below are its halves -/
theorem ex5_run :
    (match parseLineProgramFresh (Model.dwarfEnv (Spec.dwarfStructs exCfg5)) (Spec.dwarfStructs exCfg5) 64
        ⟨some exSecs5.lineStr, some exSecs5.str, none⟩ ([0xAA] ++ encodeUnit exHeader5 exProgram5 ++ [0xBB]) 1 with
     | .ok lp => lpAgrees lp (lpOf exHeader5 exSecs5 exProgram5 1) &&
       (match decodeLineProgram (Model.dwarfEnv (Spec.dwarfStructs exCfg5)) (Spec.dwarfStructs exCfg5) specConsts
           ([0xAA] ++ encodeUnit exHeader5 exProgram5 ++ [0xBB]) lp with
        | .ok (es, _, tell) => decide (rowsOf es = stdRun exHeader5.p exProgram5)
            && decide (tell = 1 + (encodeUnit exHeader5 exProgram5).length)
        | .error _ => false)
     | .error _ => false) = true := by decide +kernel

theorem line_header_v5_instance :
    (match parseLineProgramFresh (Model.dwarfEnv (Spec.dwarfStructs exCfg5)) (Spec.dwarfStructs exCfg5) 64
        ⟨some exSecs5.lineStr, some exSecs5.str, none⟩ ([0xAA] ++ encodeUnit exHeader5 exProgram5 ++ [0xBB]) 1 with
     | .ok lp => lpAgrees lp (lpOf exHeader5 exSecs5 exProgram5 1)
     | .error _ => false) = true := by
  have h := ex5_run
  split at h
  · exact (Bool.and_eq_true _ _ ▸ h).1
  · exact h

theorem line_rows_v5_instance :
    (match parseLineProgramFresh (Model.dwarfEnv (Spec.dwarfStructs exCfg5)) (Spec.dwarfStructs exCfg5) 64
        ⟨some exSecs5.lineStr, some exSecs5.str, none⟩ ([0xAA] ++ encodeUnit exHeader5 exProgram5 ++ [0xBB]) 1 with
     | .ok lp =>
       (match decodeLineProgram (Model.dwarfEnv (Spec.dwarfStructs exCfg5)) (Spec.dwarfStructs exCfg5) specConsts
           ([0xAA] ++ encodeUnit exHeader5 exProgram5 ++ [0xBB]) lp with
        | .ok (es, _, tell) => decide (rowsOf es = stdRun exHeader5.p exProgram5)
            && decide (tell = 1 + (encodeUnit exHeader5 exProgram5).length)
        | .error _ => false)
     | .error _ => false) = true := by
  have h := ex5_run
  split at h
  · exact (Bool.and_eq_true _ _ ▸ h).2
  · exact h

/-! ## `header_length`, encodable parameters, version 5 composed

  `header_length` is honoured (fixes/C05-header-length-program-start.patch in /repo): the program starts
  `header_length` bytes past the `header_length` field, wherever the parse of the tables stopped.  Units are
  `encodeUnitX h ext body` (Spec/LineProgramExt.lean): `ext` are bytes the standard does not define (vendor extension,
  padding) between the last table and the program; `ext = []` gives `encodeUnit` (`line_unit_without_extension`).
  The parameters need only be ENCODABLE (`unitWFX`: every field in range; the two divisors may be 0) as long as no
  executed instruction divides by a field that is 0 (`progOK`); one that does (`Instr.divZero`) makes `get_entries()`
  raise ZeroDivisionError. -/

/-- **Header, versions 2–5, `header_length` ≥ the known fields, encodable parameters.**  As `line_header_roundtrip`;
    the program starts behind the extension bytes. -/
theorem line_header_roundtrip_ext (env : Env) (cfg : DwarfCfg) (msecs : Secs) (h : Header) (secs : StrSecs)
    (ext body pre rest : Bytes) (hwf : unitWFX h secs ext body = true)
    (hle : h.p.le = cfg.le) (hfmt : cfg.fmt = if h.fmt64 then 64 else 32)
    (henv : h.version ≥ 5 → EnvOK env) (hsecs : h.version ≥ 5 → SecsView msecs secs) :
    parseLineProgramFresh env (Spec.dwarfStructs cfg) cfg.fmt msecs (pre ++ encodeUnitX h ext body ++ rest) pre.length
      = .ok (lpOfX h secs ext body pre.length) :=
  parseFreshX_all msecs h secs ext body pre rest hwf hle hfmt henv hsecs

/-- what `lpOfX` says about the extent: the program is exactly `body` — it starts behind `ext`, at the byte
    `header_length` designates, and ends where `unit_length` says -/
theorem line_header_length_honoured (h : Header) (secs : StrSecs) (ext body pre rest : Bytes) :
    (lpOfX h secs ext body pre.length).program_start_offset
        = pre.length + initLenSize h.fmt64 + (h.midX ext).length + (h.tail.length + ext.length)
    ∧ (lpOfX h secs ext body pre.length).program_end_offset
        = (lpOfX h secs ext body pre.length).program_start_offset + body.length
    ∧ (pre ++ encodeUnitX h ext body ++ rest).drop (lpOfX h secs ext body pre.length).program_start_offset
        = body ++ rest := by
  refine ⟨by simp [lpOfX, headerSizeX]; omega, ?_, drop_bodyX h ext body pre rest⟩
  simp only [lpOfX, encodeUnitX_length]; omega

/-- `encodeUnit` / `lpOf` are `encodeUnitX` / `lpOfX` without extension bytes -/
theorem line_unit_without_extension (h : Header) (secs : StrSecs) (is : List Instr) (off : Nat) :
    encodeUnitX h [] (encodeProgram h.p is) = encodeUnit h is
    ∧ lpOfX h secs [] (encodeProgram h.p is) off = lpOf h secs is off
    ∧ (unitWF h secs is = true → unitWFX h secs [] (encodeProgram h.p is) = true) :=
  ⟨encodeUnitX_nil h is, lpOfX_nil h secs is off, unitWF_X⟩

/-- **Rows and extent, any `header_length` ≥ the known fields, encodable parameters.**  If no instruction of the
    program divides by a zero field, the rows are the standard's and decoding ends at the unit's end: extension bytes
    produce no rows, and zero divisors do not matter to programs that never divide by them. -/
theorem line_rows_eq_std_ext (env : Env) (cfg : DwarfCfg) (h : Header) (secs : StrSecs) (ext : Bytes) (is : List Instr)
    (pre rest : Bytes) (hwf : unitWFX h secs ext (encodeProgram h.p is) = true) (hs : h.p.stdLensOK = true)
    (hprog : progOK h.p h.version is = true) (hle : h.p.le = cfg.le) (hasz : h.p.asz = cfg.asz)
    (hsz : pre.length + (encodeUnitX h ext (encodeProgram h.p is)).length ≤ ssizeMax) :
    ∃ entries,
      decodeLineProgram env (Spec.dwarfStructs cfg) specConsts (pre ++ encodeUnitX h ext (encodeProgram h.p is) ++ rest)
          (lpOfX h secs ext (encodeProgram h.p is) pre.length)
        = .ok (entries,
               (lpOfX h secs ext (encodeProgram h.p is) pre.length).fileEntry.map (· ++ (definedFiles is).map FileEntry.obs),
               pre.length + (encodeUnitX h ext (encodeProgram h.p is)).length)
      ∧ rowsOf entries = stdRun h.p is :=
  decode_lpOfX h secs ext is pre rest hwf hprog hle hasz hsz

/-- **Division by zero (exact behaviour).**  `is1` divides by no zero field, `i` does: `get_entries()` raises
    ZeroDivisionError — no rows at all are delivered, not even those of `is1`.  (The standard's formulas
    §6.2.5.1 give such an instruction no meaning: the unit is outside the property's quantifier.) -/
theorem line_zero_division (env : Env) (cfg : DwarfCfg) (h : Header) (secs : StrSecs) (ext : Bytes)
    (is1 : List Instr) (i : Instr) (is2 : List Instr) (pre rest : Bytes)
    (hwf : unitWFX h secs ext (encodeProgram h.p (is1 ++ i :: is2)) = true) (hs : h.p.stdLensOK = true)
    (hprog : progOK h.p h.version is1 = true) (hw : i.WF h.p h.version = true) (hz : i.divZero h.p = true)
    (hle : h.p.le = cfg.le) (hasz : h.p.asz = cfg.asz)
    (hsz : pre.length + (encodeUnitX h ext (encodeProgram h.p (is1 ++ i :: is2))).length ≤ ssizeMax) :
    decodeLineProgram env (Spec.dwarfStructs cfg) specConsts
        (pre ++ encodeUnitX h ext (encodeProgram h.p (is1 ++ i :: is2)) ++ rest)
        (lpOfX h secs ext (encodeProgram h.p (is1 ++ i :: is2)) pre.length)
      = .error .zeroDivision :=
  decode_lpOfX_divZero h secs ext is1 i is2 pre rest hwf hprog hw hz hle hasz hsz

/-- which instructions divide by which field: exactly the standard's (§6.2.5.1, §6.2.5.2) -/
theorem line_divZero_iff (p : Params) (i : Instr) :
    i.divZero p = true ↔
      ((∃ op, i = .special op) ∨ i = .constAddPc) ∧ (p.lineRange = 0 ∨ p.maxOps = 0)
      ∨ (∃ n, i = .advancePc n) ∧ p.maxOps = 0 := by
  cases i <;> simp [Instr.divZero, Instr.usesLineRange, Instr.advances]

/-- under the standard's parameter requirements nothing divides by zero: `progOK` is `Instr.WF` -/
theorem line_progOK_of_WF (p : Params) (ver : Nat) (is : List Instr) (hp : p.WF ver = true)
    (his : is.all (Instr.WF p ver) = true) : progOK p ver is = true :=
  progOK_of_WF hp his

/-- **End to end, versions 2–5, any `header_length` ≥ the known fields, encodable parameters.** -/
theorem line_program_end_to_end_ext (env : Env) (cfg : DwarfCfg) (msecs : Secs) (h : Header) (secs : StrSecs)
    (ext : Bytes) (is : List Instr) (pre rest : Bytes) (attrs : Fields)
    (hwf : unitWFX h secs ext (encodeProgram h.p is) = true) (hs : h.p.stdLensOK = true)
    (hprog : progOK h.p h.version is = true)
    (hle : h.p.le = cfg.le) (hasz : h.p.asz = cfg.asz) (hfmt : cfg.fmt = if h.fmt64 then 64 else 32)
    (henv : h.version ≥ 5 → EnvOK env) (hsecs : h.version ≥ 5 → SecsView msecs secs)
    (hattr : Fields.get? attrs "DW_AT_stmt_list" = some (.int (pre.length : Int)))
    (hsz : pre.length + (encodeUnitX h ext (encodeProgram h.p is)).length ≤ ssizeMax) :
    ∃ lp cache entries files,
      lineProgramForCU env (Spec.dwarfStructs cfg) cfg.fmt msecs
          (pre ++ encodeUnitX h ext (encodeProgram h.p is) ++ rest) [] attrs = .ok (some lp, cache)
      ∧ lp.header = h.observeX secs ext (encodeProgram h.p is)
      ∧ lp.program_start_offset = pre.length + headerSizeX h ext
      ∧ decodeLineProgram env (Spec.dwarfStructs cfg) specConsts
          (pre ++ encodeUnitX h ext (encodeProgram h.p is) ++ rest) lp = .ok (entries, files, lp.program_end_offset)
      ∧ rowsOf entries = stdRun h.p is := by
  obtain ⟨es, hrun, hrows⟩ := decode_lpOfX (env := env) (cfg := cfg) h secs ext is pre rest hwf hprog hle hasz hsz
  exact ⟨_, _, es, _, lineProgramForCU_fresh hattr
    (parseFreshX_all msecs h secs ext (encodeProgram h.p is) pre rest hwf hle hfmt henv hsecs), rfl, rfl, hrun, hrows⟩

/-! ### version 5, composed: regenerated enum tables, resolved names, legacy views -/

/-- the decoded version 5 header, field by field: `directories` / `file_names` are the encoded entries with
    every DW_FORM_line_strp / strp / strp_sup offset replaced by the string it designates (`entryObs`),
    `include_directory` the directories' paths, `file_entry` the file names reshaped to the version 2–4
    record (name, dir_index, mtime, length; absent content types are `None`) -/
theorem line_v5_observed_header (h : Header) (secs : StrSecs) (ext body : Bytes) (hv5 : h.version ≥ 5) :
    h.observeX secs ext body = .record [
      ("unit_length", .int (h.midX ext ++ h.tail ++ ext ++ body).length),
      ("version", .int h.version), ("address_size", .int h.p.asz), ("segment_selector_size", .int h.segSel),
      ("header_length", .int (h.tail.length + ext.length : Nat)),
      ("minimum_instruction_length", .int h.p.minInst),
      ("maximum_operations_per_instruction", .int h.p.maxOps),
      ("default_is_stmt", .int h.p.defaultIsStmt), ("line_base", .int h.p.lineBase),
      ("line_range", .int h.p.lineRange), ("opcode_base", .int h.p.opcodeBase),
      ("standard_opcode_lengths", .list (h.p.stdLens.map fun n => .int (Int.ofNat n))),
      ("directory_entry_format", fmtObs h.dirFmt),
      ("directories", .list (h.dirs.map fun e => .record (entryObs secs h.dirFmt e))),
      ("file_name_entry_format", fmtObs h.fileFmt),
      ("file_names", .list (h.fileNames.map fun e => .record (entryObs secs h.fileFmt e))),
      ("include_directory", .list (h.dirs.map fun e => Spec.Line.getOrNone (entryObs secs h.dirFmt e) "DW_LNCT_path")),
      ("file_entry", .list (h.fileNames.map fun e => legacyFile (entryObs secs h.fileFmt e)))] := by
  rw [Header.observeX, observeG_eq]
  simp only [hdrWith, if_pos hv5]
  rfl

/-- **Header, version 5 (composed).**  With the enum tables regenerated from the library (`gen_env_ok`): for every
    encodable version 5 unit — entry formats over every (content type, form) pair §6.2.4.1 allows, any positive number
    of directories and files, extension bytes covered by `header_length` — parsing the Spec encoding yields exactly
    the described header (`line_v5_observed_header`) and the program's extent. -/
theorem line_header_roundtrip_v5 (cfg : DwarfCfg) (msecs : Secs) (h : Header) (secs : StrSecs)
    (ext body pre rest : Bytes) (hv5 : h.version = 5) (hwf : unitWFX h secs ext body = true)
    (hle : h.p.le = cfg.le) (hfmt : cfg.fmt = if h.fmt64 then 64 else 32) (hsecs : SecsView msecs secs) :
    parseLineProgramFresh (Model.dwarfEnv (Spec.dwarfStructs cfg)) (Spec.dwarfStructs cfg) cfg.fmt msecs
        (pre ++ encodeUnitX h ext body ++ rest) pre.length
      = .ok (lpOfX h secs ext body pre.length)
    ∧ (lpOfX h secs ext body pre.length).header = h.observeX secs ext body
    ∧ (lpOfX h secs ext body pre.length).fileEntry = none :=
  ⟨parseFreshX_all msecs h secs ext body pre rest hwf hle hfmt (fun _ => gen_env_ok _) (fun _ => hsecs), rfl,
   by simp [lpOfX, hv5]⟩

/-- **Designation, version 5.**  Through `line_program_for_CU`: the unit's DW_AT_stmt_list designates the
    version 5 program at that offset, which is parsed (once: it is in `_linetable_cache` afterwards) into the
    `LineProgram` object of `line_header_roundtrip_v5`. -/
theorem stmt_list_designates_v5 (cfg : DwarfCfg) (msecs : Secs) (h : Header) (secs : StrSecs)
    (ext body pre rest : Bytes) (attrs : Fields) (hv5 : h.version = 5) (hwf : unitWFX h secs ext body = true)
    (hle : h.p.le = cfg.le) (hfmt : cfg.fmt = if h.fmt64 then 64 else 32) (hsecs : SecsView msecs secs)
    (hattr : Fields.get? attrs "DW_AT_stmt_list" = some (.int (pre.length : Int))) :
    lineProgramForCU (Model.dwarfEnv (Spec.dwarfStructs cfg)) (Spec.dwarfStructs cfg) cfg.fmt msecs
        (pre ++ encodeUnitX h ext body ++ rest) [] attrs
      = .ok (some (lpOfX h secs ext body pre.length), [(pre.length, lpOfX h secs ext body pre.length)]) := by
  exact lineProgramForCU_fresh hattr (line_header_roundtrip_v5 cfg msecs h secs ext body pre rest hv5 hwf hle hfmt hsecs).1

/-- **End to end, version 5 (header + rows + extent).** -/
theorem line_program_end_to_end_v5 (cfg : DwarfCfg) (msecs : Secs) (h : Header) (secs : StrSecs)
    (ext : Bytes) (is : List Instr) (pre rest : Bytes) (attrs : Fields) (hv5 : h.version = 5)
    (hwf : unitWFX h secs ext (encodeProgram h.p is) = true) (hs : h.p.stdLensOK = true)
    (hprog : progOK h.p h.version is = true)
    (hle : h.p.le = cfg.le) (hasz : h.p.asz = cfg.asz) (hfmt : cfg.fmt = if h.fmt64 then 64 else 32)
    (hsecs : SecsView msecs secs)
    (hattr : Fields.get? attrs "DW_AT_stmt_list" = some (.int (pre.length : Int)))
    (hsz : pre.length + (encodeUnitX h ext (encodeProgram h.p is)).length ≤ ssizeMax) :
    ∃ lp cache entries,
      lineProgramForCU (Model.dwarfEnv (Spec.dwarfStructs cfg)) (Spec.dwarfStructs cfg) cfg.fmt msecs
          (pre ++ encodeUnitX h ext (encodeProgram h.p is) ++ rest) [] attrs = .ok (some lp, cache)
      ∧ lp.header = h.observeX secs ext (encodeProgram h.p is)
      ∧ lp.program_start_offset = pre.length + headerSizeX h ext
      ∧ lp.program_end_offset = pre.length + (encodeUnitX h ext (encodeProgram h.p is)).length
      ∧ decodeLineProgram (Model.dwarfEnv (Spec.dwarfStructs cfg)) (Spec.dwarfStructs cfg) specConsts
          (pre ++ encodeUnitX h ext (encodeProgram h.p is) ++ rest) lp = .ok (entries, none, lp.program_end_offset)
      ∧ rowsOf entries = stdRun h.p is := by
  obtain ⟨es, hrun, hrows⟩ := decode_lpOfX (env := Model.dwarfEnv (Spec.dwarfStructs cfg)) (cfg := cfg) h secs ext is pre rest
    hwf hprog hle hasz hsz
  refine ⟨_, _, es, stmt_list_designates_v5 cfg msecs h secs ext _ pre rest attrs hv5 hwf hle hfmt hsecs hattr,
    rfl, rfl, rfl, ?_, hrows⟩
  rw [hrun]
  simp [lpOfX, hv5]

/-! ### boundary values of the parameters, as facts about the standard's machine and the decoder -/

/-- `minimum_instruction_length = 0`: no operation advance moves the address (`op_index` still advances) -/
theorem std_min_inst_zero (p : Params) (r : Row) (n : Nat) (h : p.minInst = 0) :
    (r.advance p n).address = r.address ∧ (r.advance p n).opIndex = (r.opIndex + n) % p.maxOps := by
  simp [Row.advance, h]

/-- `maximum_operations_per_instruction = 1` (non-VLIW): `op_index` stays 0, the address moves by
    `minimum_instruction_length * operation advance` -/
theorem std_max_ops_one (p : Params) (r : Row) (n : Nat) (h : p.maxOps = 1) (h0 : r.opIndex = 0) :
    (r.advance p n).address = r.address + p.minInst * n ∧ (r.advance p n).opIndex = 0 := by
  simp [Row.advance, h, h0, Nat.mod_one]

def edgeParams (minInst maxOps lineRange : Nat) : Params :=
  { le := true, asz := 8, minInst := minInst, maxOps := maxOps, defaultIsStmt := 1, lineBase := -5,
    lineRange := lineRange, opcodeBase := 13, stdLens := knownStdLens }

/-- 255 / 255: ordinary values, inside `Params.WF` -/
example : (edgeParams 255 255 14).WF 4 = true := by decide +kernel
example : (edgeParams 0 1 255).WF 2 = true := by decide +kernel

theorem std_min_inst_255_max_ops_255 :
    (stdRun (edgeParams 255 255 14) [.advancePc ⟨254, 2⟩, .copy, .special 32, .advancePc ⟨300, 2⟩, .copy]).map
        (fun r => (r.address, r.opIndex, r.line))
      = [(0, 254, 1), (255, 0, 1), (510, 45, 1)] := by decide +kernel

/-- 0 divisors are encodable but not in `Params.WF` -/
example : (edgeParams 1 0 14).WFenc 4 = true ∧ (edgeParams 1 0 14).WF 4 = false := by decide +kernel
example : (edgeParams 1 1 0).WFenc 4 = true ∧ (edgeParams 1 1 0).WF 4 = false := by decide +kernel

/-! ### non-vacuity of the theorems on extended units -/

/-- a version 4 unit with `maximum_operations_per_instruction = 0` AND `line_range = 0`, three extension
    bytes (which would decode as three DW_LNS_copy) and a program that never divides -/
def exHeaderZ : Header := { exHeader with p := edgeParams 4 0 0 }
def exExt : Bytes := [1, 1, 1]
def exProgramZ : List Instr :=
  [.setAddress 1 0x1000, .advanceLine ⟨-1, 2⟩, .fixedAdvancePc 16, .copy, .setDiscriminator 1 ⟨7, 1⟩,
   .unknownExt 1 0x80 [1, 2], .copy, .endSequence 1]

example : unitWFX exHeaderZ ⟨[], [], none⟩ exExt (encodeProgram exHeaderZ.p exProgramZ) = true := by decide +kernel
example : exHeaderZ.p.stdLensOK = true := by decide +kernel
example : progOK exHeaderZ.p exHeaderZ.version exProgramZ = true := by decide +kernel
/-- … and one that does, after a prefix that does not -/
example : progOK exHeaderZ.p exHeaderZ.version [.setAddress 1 0x1000, .copy] = true
    ∧ (Instr.special 0x4b).WF exHeaderZ.p exHeaderZ.version = true
    ∧ (Instr.special 0x4b).divZero exHeaderZ.p = true
    ∧ unitWFX exHeaderZ ⟨[], [], none⟩ exExt
        (encodeProgram exHeaderZ.p ([.setAddress 1 0x1000, .copy] ++ .special 0x4b :: [.copy])) = true := by decide +kernel

/-- the version 5 units of the instances above, with extension bytes -/
example : unitWFX exHeader5 exSecs5 exExt (encodeProgram exHeader5.p exProgram5) = true := by decide +kernel
example : unitWFX exHeader5b exSecs5b [0xde, 0xad] (encodeProgram exHeader5b.p exProgram5) = true := by decide +kernel
example : exHeader5.p.stdLensOK = true ∧ progOK exHeader5.p exHeader5.version exProgram5 = true := by decide +kernel

/-- `line_header_roundtrip_v5` instantiated -/
example :
    parseLineProgramFresh (Model.dwarfEnv (Spec.dwarfStructs exCfg5)) (Spec.dwarfStructs exCfg5) 64
        ⟨some exSecs5.lineStr, some exSecs5.str, none⟩
        ([0xAA] ++ encodeUnitX exHeader5 exExt (encodeProgram exHeader5.p exProgram5) ++ [0xBB]) 1
      = .ok (lpOfX exHeader5 exSecs5 exExt (encodeProgram exHeader5.p exProgram5) 1) :=
  (line_header_roundtrip_v5 exCfg5 _ exHeader5 exSecs5 exExt _ [0xAA] [0xBB] rfl (by decide +kernel) rfl rfl
    ⟨rfl, rfl, fun _ h => (by cases h), (by decide +kernel), (by decide +kernel), fun _ h => (by cases h)⟩).1

/-- a closed instance run by the kernel: three extension bytes `01 01 01` covered by `header_length` are NOT
    executed (a decoder that starts right behind the tables would deliver three extra rows) -/
theorem line_header_length_instance :
    (match parseLineProgramFresh (Model.dwarfEnv (Spec.dwarfStructs ⟨true, 32, 8, 4⟩)) (Spec.dwarfStructs ⟨true, 32, 8, 4⟩) 32
        ⟨none, none, none⟩ ([0xAA] ++ encodeUnitX exHeader exExt (encodeProgram exHeader.p exProgram) ++ [0xBB]) 1 with
     | .ok lp =>
       (match decodeLineProgram (Model.dwarfEnv (Spec.dwarfStructs ⟨true, 32, 8, 4⟩)) (Spec.dwarfStructs ⟨true, 32, 8, 4⟩)
           specConsts ([0xAA] ++ encodeUnitX exHeader exExt (encodeProgram exHeader.p exProgram) ++ [0xBB]) lp with
        | .ok (es, _, tell) => decide (rowsOf es = stdRun exHeader.p exProgram)
            && decide (tell = 1 + (encodeUnitX exHeader exExt (encodeProgram exHeader.p exProgram)).length)
            && decide (lp.program_start_offset = 1 + headerSize exHeader + 3)
        | .error _ => false)
     | .error _ => false) = true := by decide +kernel

/-- ZeroDivisionError, as a closed instance run by the kernel -/
theorem line_zero_division_instance :
    (match parseLineProgramFresh (Model.dwarfEnv (Spec.dwarfStructs ⟨true, 32, 8, 4⟩)) (Spec.dwarfStructs ⟨true, 32, 8, 4⟩) 32
        ⟨none, none, none⟩ (encodeUnitX exHeaderZ [] (encodeProgram exHeaderZ.p [.copy, .special 0x4b, .copy])) 0 with
     | .ok lp =>
       (match decodeLineProgram (Model.dwarfEnv (Spec.dwarfStructs ⟨true, 32, 8, 4⟩)) (Spec.dwarfStructs ⟨true, 32, 8, 4⟩)
           specConsts (encodeUnitX exHeaderZ [] (encodeProgram exHeaderZ.p [.copy, .special 0x4b, .copy])) lp with
        | .error e => e == .zeroDivision
        | .ok _ => false)
     | .error _ => false) = true := by decide +kernel

/-! ## line programs from section bytes

  The theorems above take the unit's DW_AT_stmt_list value and struct bundle as given.  Here they are produced from the
  bytes of `.debug_info` / `.debug_abbrev` by C04's model, under C04's end-to-end theorem (`debug_info_units`, and
  `forest_getTopDIE` for the top entry):

  * `F : Spec.C04.Forest` describes `.debug_abbrev`, `.debug_info` and the string sections; `C04.forestDInfo F dasz` is
    the `DWARFInfo` on ITS ENCODING with the regenerated registry and struct bundles.
  * `L : List LineUnitDesc` with `tail` describes `.debug_line` (Spec/LineSection): programs of versions 2–5 in any
    order, arbitrary bytes between them and behind the last; `lineWorld L tail sup` attaches its encoding (and, with
    `sup = some b`, a supplementary object whose `.debug_str` is `b`).
  * `stmtRef` of a unit's top entry: DW_AT_stmt_list absent, or of class lineptr (DW_FORM_sec_offset / data4 / data8,
    also behind DW_FORM_indirect) holding an offset.
  * `linesOKB F L tail sup` (decidable, on the descriptions only): every program is encodable, in the file's byte
    order, with instructions that divide by no zero field; version 5 programs find `.debug_line_str` / `.debug_str`;
    every unit names no program or one of `L` by its offset, of the unit's format and address size; sections shorter
    than 2^63.

  `LP` is a `LineProgram` object with the `structs` it was created with (units of one file differ in `structs`,
  `_linetable_cache` is keyed by offset alone). -/

open PyElf.Spec.LineSec PyElf.Model.LineInfo PyElf.Proofs.LineInfo
open PyElf.Spec.C04 (Forest UnitDesc placeInfo infoUnitOf wfForestB)

/-- what `line_program_for_CU` must give the unit `u` — `None` if its top entry has no DW_AT_stmt_list; otherwise the
    `LineProgram` object `x` of the program `d` lying at the offset the attribute holds: the described header, the
    extent `header_length` / `unit_length` prescribe, and decoding `x` yields the rows of the standard's state machine
    and stops exactly at the program's end, DW_LNE_define_file entries appended to the file table -/
def UnitGets (F : Forest) (L : List LineUnitDesc) (tail : Bytes) (sup : Option Bytes) (u : UnitDesc) (r : R (Option LP)) : Prop :=
  match stmtRef u.tree.root with
  | .absent => r = .ok none
  | .at v => ∃ i d, L[i]? = some d ∧ v = lineOff L i ∧ ∃ x entries, r = .ok (some x)
      ∧ x.lp.header = d.h.observeX (strSecsOf F sup) d.ext d.body
      ∧ x.lp.program_start_offset = v + headerSizeX d.h d.ext
      ∧ x.lp.program_end_offset = v + d.enc.length
      ∧ decodeLP Model.genEnumDecode specConsts (encLineSec L tail) x
          = .ok (entries, x.lp.fileEntry.map (· ++ (definedFiles d.is).map FileEntry.obs), x.lp.program_end_offset)
      ∧ rowsOf entries = stdRun d.h.p d.is
  | .other => False

/-- … for all units: the result list has one item per described unit, in order, carrying the described unit object -/
def UnitsGet (F : Forest) (L : List LineUnitDesc) (tail : Bytes) (sup : Option Bytes)
    (res : List (Model.Lookup.CU × R (Option LP))) : Prop :=
  res.length = F.units.length
    ∧ ∀ (k : Nat) (p : Nat × UnitDesc), (placeInfo F 0 F.units)[k]? = some p →
        ∃ r, res[k]? = some (Proofs.Lookup.cuOf F.le p.1 (infoUnitOf F p.2), r) ∧ UnitGets F L tail sup p.2 r

/-- **End to end from section bytes.**  `iter_CUs()` yields the described units, no exception ends it, and
    `line_program_for_CU(cu)` gives every unit what `UnitGets` says.  Programs shared by several units come from
    `_linetable_cache` (`linetable_cache_shared`). -/
theorem line_programs_from_sections (F : Forest) (dasz : Nat) (hdasz : dasz = 4 ∨ dasz = 8)
    (hwf : wfForestB C04.genNames F = true) (L : List LineUnitDesc) (tail : Bytes) (sup : Option Bytes)
    (hlines : linesOKB F L tail sup = true) :
    ∃ res, infoLinePrograms (C04.forestDInfo F dasz) (C04.genBundles F.le dasz).S0 (lineWorld L tail sup) = (res, none)
      ∧ UnitsGet F L tail sup res := by
  obtain ⟨res, hrun, hlen, hget⟩ := infoLinePrograms_forest TieC05.gen_structs (fun _ => gen_env_ok _) TieC05.stmt_list_name
    F dasz hdasz hwf L tail sup hlines
  refine ⟨res, hrun, by rw [hlen, Proofs.C04.placeInfo_length], fun k p hk => ?_⟩
  -- `UnitGets` is `UnitResult` with the decoding added: a unit without the attribute and a reference of another form
  -- carry over as they stand, the object of a program gets its entries from `decode_LPIs`
  show ∃ r, _ ∧ UnitGets F L tail sup p.2 r
  unfold UnitGets
  obtain ⟨r, hr, hcu, hres⟩ := hget k p hk
  refine ⟨r.2, by rw [hr, ← hcu], ?_⟩
  unfold UnitResult at hres
  cases hst : stmtRef p.2.tree.root with
  | absent => rw [hst] at hres; exact hres
  | «at» v =>
    rw [hst] at hres
    obtain ⟨i, d, hd, hv, x, hx, hlp⟩ := hres
    obtain ⟨es, hdec, hrows⟩ := decode_LPIs F L tail sup hlines Model.genEnumDecode i d hd x hlp
    have hE : x.lp.program_end_offset = v + d.enc.length := by rw [hlp.1, hv]; rfl
    refine ⟨i, d, hd, hv, x, es, hx, by rw [hlp.1]; rfl, by rw [hlp.1, hv]; rfl, hE, ?_, hrows⟩
    rw [hdec, hE, hv]
  | other => rw [hst] at hres; exact hres

/-- **No DW_AT_stmt_list, from section bytes.**  `line_program_for_CU` on such a unit of a well-formed forest
    returns `None`, whatever `.debug_line` holds (or if it is absent), and leaves `_linetable_cache` alone. -/
theorem stmt_list_absent_from_sections (F : Forest) (dasz : Nat) (hdasz : dasz = 4 ∨ dasz = 8)
    (hwf : wfForestB C04.genNames F = true) (W : LineWorld) (p : Nat × UnitDesc) (hp : p ∈ placeInfo F 0 F.units)
    (hst : stmtRef p.2.tree.root = .absent) (cache : LCache) :
    lineProgramForUnit W (C04.infoCtx F dasz p) cache = .ok (none, cache) :=
  unit_absent TieC05.stmt_list_name F dasz hdasz hwf W p hp hst cache

/-- **DW_AT_stmt_list beyond the section.**  The attribute holds an offset at which `.debug_line` — any bytes — has
    fewer than four bytes left (at or beyond its end in particular): ELFParseError, nothing is cached. -/
theorem stmt_list_beyond_section (F : Forest) (dasz : Nat) (hdasz : dasz = 4 ∨ dasz = 8)
    (hwf : wfForestB C04.genNames F = true) (W : LineWorld) (data : Bytes) (hW : W.line = some data)
    (p : Nat × UnitDesc) (hp : p ∈ placeInfo F 0 F.units) (v : Nat) (hst : stmtRef p.2.tree.root = .at v)
    (hlt : data.length < v + 4) (cache : LCache) (hf : cache.find? (·.1 == v) = none) :
    lineProgramForUnit W (C04.infoCtx F dasz p) cache = .error .elfParseError :=
  unit_beyond TieC05.gen_structs TieC05.stmt_list_name F dasz hdasz hwf W data hW p hp v hst hlt cache hf

/-- … and with no `.debug_line` at all: AttributeError (`self.debug_line_sec` is None) -/
theorem stmt_list_without_debug_line (F : Forest) (dasz : Nat) (hdasz : dasz = 4 ∨ dasz = 8)
    (hwf : wfForestB C04.genNames F = true) (W : LineWorld) (hW : W.line = none)
    (p : Nat × UnitDesc) (hp : p ∈ placeInfo F 0 F.units) (v : Nat) (hst : stmtRef p.2.tree.root = .at v)
    (cache : LCache) (hf : cache.find? (·.1 == v) = none) :
    lineProgramForUnit W (C04.infoCtx F dasz p) cache = .error .attributeError :=
  unit_no_section TieC05.stmt_list_name F dasz hdasz hwf W hW p hp v hst cache hf

/-- **Two units sharing one program** (`linetable_cache_coherent` at the level of sections).  From any coherent
    state of `_linetable_cache` (`LCacheOK`; the empty cache is: `lcacheOK_nil`): the first unit gets the object `x`
    of the program its DW_AT_stmt_list designates, and a second unit holding the same offset — of whatever
    version, through whatever lineptr form — gets THE SAME object from the cache, which is not changed again. -/
theorem linetable_cache_shared (F : Forest) (dasz : Nat) (hdasz : dasz = 4 ∨ dasz = 8)
    (hwf : wfForestB C04.genNames F = true) (L : List LineUnitDesc) (tail : Bytes) (sup : Option Bytes)
    (hlines : linesOKB F L tail sup = true) (p q : Nat × UnitDesc) (hp : p ∈ placeInfo F 0 F.units)
    (hq : q ∈ placeInfo F 0 F.units) (v : Nat) (hsp : stmtRef p.2.tree.root = .at v) (hsq : stmtRef q.2.tree.root = .at v)
    (cache : LCache) (hc : LCacheOK F L sup cache) :
    ∃ i d x cache', L[i]? = some d ∧ v = lineOff L i
      ∧ lineProgramForUnit (lineWorld L tail sup) (C04.infoCtx F dasz p) cache = .ok (some x, cache')
      ∧ x.lp = lpOfX d.h (strSecsOf F sup) d.ext d.body v
      ∧ lineProgramForUnit (lineWorld L tail sup) (C04.infoCtx F dasz q) cache' = .ok (some x, cache')
      ∧ LCacheOK F L sup cache' := by
  have hu : p.2 ∈ F.units := Proofs.C04.mem_placeInfo F _ _ p hp
  obtain ⟨i, d, hd, hv, -⟩ := linesOK_at_ex hlines p.2 hu v hsp
  obtain ⟨x, cache', hrun, hx, hc', hfind⟩ := unit_at TieC05.gen_structs (fun _ => gen_env_ok _) TieC05.stmt_list_name
    F dasz hdasz hwf L tail sup hlines p hp v hsp i d hd hv cache hc
  exact ⟨i, d, x, cache', hd, hv, hrun, by rw [hx.1, hv], unit_cached TieC05.stmt_list_name F dasz hdasz hwf _ q hq v hsq
    cache' v x hfind, hc'⟩

/-! ### whole files (composition with C11's view and, through it, C01)

  `Model.LineInfo.fileLinePrograms P fuel loader bytes relocate followLinks` is
  `[(cu, di.line_program_for_CU(cu)) for cu in di.iter_CUs()]` on
  `di = ELFFile(BytesIO(bytes)).get_dwarf_info(relocate_dwarf_sections = relocate, follow_links = followLinks)`.
  The hypotheses about the file are those of `Props.C11.view_of_file_z`; `ContentIs content F L tail` says the content
  is, keyword by keyword, the encoding of the forest `F` and of the `.debug_line` description (`.debug_types` is free). -/

/-- **Whole file, every encoding: the same line programs as from the sections.**  However the DWARF sections are
    stored in the file, `get_dwarf_info()` followed by `line_program_for_CU` on every unit computes exactly what
    `line_programs_from_sections` is about (default address size = the file's class / 8). -/
theorem line_programs_of_file_eq {P : Model.C11.Params} {deflate : Nat → Bytes → Bytes} (hP : C11.SpecParams P)
    (henv : P.env.enumDecode "ENUM_ELFCOMPRESS_TYPE" 1 = some "ELFCOMPRESS_ZLIB") (hz : Proofs.C11.ZlibOk P.X deflate)
    (hnames : ∀ k ∈ lineKeys, k ∈ P.names.map (·.1))
    (d : Spec.ElfDesc) (bytes : Bytes) (obs : Spec.ElfObs)
    (hwf : d.wfZ P.env = true) (hl : Spec.Layout d bytes) (ho : d.observe P.env = .ok obs)
    (hph : Model.C11.hasPhantomBytes obs.header = .ok false)
    (fuel : Nat) (loader : Option Model.C11.Loader) (relocate followLinks : Bool) (content : Proofs.C11.Content) (m : Val)
    (hm : obs.header.getField "e_machine" = .ok m) {allowed : Proofs.C11.Enc → Prop}
    (hh : Proofs.C11.HoldsD P.names deflate d obs relocate content allowed)
    (hlink : Model.C11.linkTarget obs.sections loader followLinks = none)
    (hsup : followLinks = false ∨
      ((∃ DS, P.dwarfStructsFor ⟨d.le, 32, d.cls / 8, 2⟩ = some DS) ∧
        content "debug_sup_sec" = none ∧ content "gnu_debugaltlink_sec" = none))
    (F : Forest) (hle : F.le = d.le) (L : List LineUnitDesc) (tail : Bytes) (hc : ContentIs content F L tail) :
    fileLinePrograms P (fuel + 1) loader bytes relocate followLinks
      = .ok (infoLinePrograms (C04.forestDInfo F (d.cls / 8)) (C04.genBundles F.le (d.cls / 8)).S0 (lineWorld L tail none)) := by
  have hcls : d.cls / 8 = 4 ∨ d.cls / 8 = 8 := by
    rcases (Proofs.wfZ_facts hwf).cls with h | h <;> simp [h]
  unfold fileLinePrograms
  rw [C11.view_of_file_z hP henv hz d bytes obs hwf hl ho hph fuel loader relocate followLinks content m hm hh hlink hsup]
  simp only [Except.map]
  rw [← hle, viewLinePrograms_content P.names hnames content F L tail hc (d.cls / 8) hcls]

/-- **End to end from the bytes of a file.**  `line_programs_from_sections` for a file carrying the sections in any
    encoding: every unit of `iter_CUs()` gets the program its DW_AT_stmt_list designates — header, extent, rows. -/
theorem line_programs_of_file {P : Model.C11.Params} {deflate : Nat → Bytes → Bytes} (hP : C11.SpecParams P)
    (henv : P.env.enumDecode "ENUM_ELFCOMPRESS_TYPE" 1 = some "ELFCOMPRESS_ZLIB") (hz : Proofs.C11.ZlibOk P.X deflate)
    (hnames : ∀ k ∈ lineKeys, k ∈ P.names.map (·.1))
    (d : Spec.ElfDesc) (bytes : Bytes) (obs : Spec.ElfObs)
    (hwf : d.wfZ P.env = true) (hl : Spec.Layout d bytes) (ho : d.observe P.env = .ok obs)
    (hph : Model.C11.hasPhantomBytes obs.header = .ok false)
    (fuel : Nat) (loader : Option Model.C11.Loader) (relocate followLinks : Bool) (content : Proofs.C11.Content) (m : Val)
    (hm : obs.header.getField "e_machine" = .ok m) {allowed : Proofs.C11.Enc → Prop}
    (hh : Proofs.C11.HoldsD P.names deflate d obs relocate content allowed)
    (hlink : Model.C11.linkTarget obs.sections loader followLinks = none)
    (hsup : followLinks = false ∨
      ((∃ DS, P.dwarfStructsFor ⟨d.le, 32, d.cls / 8, 2⟩ = some DS) ∧
        content "debug_sup_sec" = none ∧ content "gnu_debugaltlink_sec" = none))
    (F : Forest) (hle : F.le = d.le) (hwfF : wfForestB C04.genNames F = true) (L : List LineUnitDesc) (tail : Bytes)
    (hlines : linesOKB F L tail none = true) (hc : ContentIs content F L tail) :
    ∃ res, fileLinePrograms P (fuel + 1) loader bytes relocate followLinks = .ok (res, none)
      ∧ UnitsGet F L tail none res := by
  have hcls : d.cls / 8 = 4 ∨ d.cls / 8 = 8 := by
    rcases (Proofs.wfZ_facts hwf).cls with h | h <;> simp [h]
  obtain ⟨res, hrun, hres⟩ := line_programs_from_sections F (d.cls / 8) hcls hwfF L tail none hlines
  refine ⟨res, ?_, hres⟩
  rw [line_programs_of_file_eq hP henv hz hnames d bytes obs hwf hl ho hph fuel loader relocate followLinks content m hm hh
    hlink hsup F hle L tail hc, hrun]

/-- the reader's section-name table regenerated from `get_dwarf_info` (Props/TieC11 `section_names`) has every
    keyword the line-program path reads: `hnames` of the two theorems above holds of the parameters the driver runs -/
theorem gen_names_ok : ∀ k ∈ lineKeys, k ∈ Gen.c11SectionNames.map (·.1) := by decide +kernel

/-! ### non-vacuity: a forest of four units over a `.debug_line` of two programs

  `.debug_line`: one stray byte, the version 5 program of `exHeader5` (DWARF64; strings through .debug_line_str /
  .debug_str; three extension bytes), two stray bytes, the version 4 program of `exHeader` (VLIW parameters,
  DW_LNE_define_file, an unknown extended opcode), one stray byte.  `.debug_info`: a DWARF 4 unit naming the SECOND
  program through DW_FORM_sec_offset, a DWARF 3 unit naming the same program through DW_FORM_data4, a DWARF 2 unit
  without DW_AT_stmt_list, a DWARF 5 unit in 64-bit format naming the FIRST program. -/

def exLines : List LineUnitDesc :=
  [{ gap := [0xAA], h := exHeader5, ext := exExt, is := exProgram5 },
   { gap := [0xBB, 0xBB], h := exHeader, ext := [], is := exProgram }]

def exDeclSec : Spec.C04.AbbrevDecl :=
  { code := 1, tag := 0x11, children := false, specs := [{ name := 0x03, form := 0x08 }, { name := 0x10, form := 0x17 }] }
def exDeclData4 : Spec.C04.AbbrevDecl :=
  { code := 2, tag := 0x11, children := false, specs := [{ name := 0x10, form := 0x06 }] }
def exDeclNone : Spec.C04.AbbrevDecl :=
  { code := 3, tag := 0x11, children := false, specs := [{ name := 0x03, form := 0x08 }] }

def exLineForest : Forest :=
  { le := true,
    tables := [{ decls := [exDeclSec, exDeclData4, exDeclNone] }],
    units := [{ fmt64 := false, version := 4, asz := 8, table := 0,
                tree := .mk { decl := exDeclSec, attrs := [{ form := 0x08, op := .str [0x61] }, { form := 0x17, op := .nat 105 }] } [] 1 },
              { fmt64 := false, version := 3, asz := 8, table := 0,
                tree := .mk { decl := exDeclData4, attrs := [{ form := 0x06, op := .nat 105 }] } [] 1 },
              { fmt64 := false, version := 2, asz := 8, table := 0,
                tree := .mk { decl := exDeclNone, attrs := [{ form := 0x08, op := .str [0x62] }] } [] 1 },
              { fmt64 := true, version := 5, asz := 8, table := 0,
                tree := .mk { decl := exDeclSec, attrs := [{ form := 0x08, op := .str [] }, { form := 0x17, op := .nat 1 }] } [] 1 }],
    secs := { str := some exSecs5.str, lineStr := some exSecs5.lineStr } }

theorem exLineForest_wf : wfForestB C04.genNames exLineForest = true := by decide +kernel
theorem exLines_ok : linesOKB exLineForest exLines [0xCC] none = true := by decide +kernel

example : exLineForest.units.map (fun u => stmtRef u.tree.root) = [.at 105, .at 105, .absent, .at 1] := by decide +kernel
example : (lineOff exLines 0, lineOff exLines 1, (encLineSec exLines [0xCC]).length) = (1, 105, 187) := by decide +kernel

/-- `line_programs_from_sections` applies to it -/
example := line_programs_from_sections exLineForest 8 (Or.inr rfl) exLineForest_wf exLines [0xCC] none exLines_ok

/-- the hypotheses of `linetable_cache_shared` (units 0 and 1, at offsets 0 and 25 of `.debug_info`) -/
example : ∃ p q, p ∈ placeInfo exLineForest 0 exLineForest.units ∧ q ∈ placeInfo exLineForest 0 exLineForest.units ∧ p.1 < q.1
    ∧ stmtRef p.2.tree.root = .at 105 ∧ stmtRef q.2.tree.root = .at 105 :=
  ⟨(placeInfo exLineForest 0 exLineForest.units)[0], (placeInfo exLineForest 0 exLineForest.units)[1],
   List.getElem_mem _, List.getElem_mem _, by decide +kernel, by decide +kernel, by decide +kernel⟩

/-- … of `stmt_list_absent_from_sections` (unit 2) -/
example : ∃ p, p ∈ placeInfo exLineForest 0 exLineForest.units ∧ stmtRef p.2.tree.root = .absent :=
  ⟨(placeInfo exLineForest 0 exLineForest.units)[2], List.getElem_mem _, by decide +kernel⟩

/-- … of `stmt_list_beyond_section`: the same forest over a `.debug_line` of three bytes -/
example : ∃ p, p ∈ placeInfo exLineForest 0 exLineForest.units ∧ stmtRef p.2.tree.root = .at 105
    ∧ ([1, 2, 3] : Bytes).length < 105 + 4 :=
  ⟨(placeInfo exLineForest 0 exLineForest.units)[0], List.getElem_mem _, by decide +kernel, by decide +kernel⟩

/-- the composed model run by the kernel on the example: four units; units 0 and 1 get the version 4 program at 105,
    unit 2 none, unit 3 the version 5 program at 1; each program decodes to the standard's rows -/
theorem line_programs_instance :
    (let W := lineWorld exLines [0xCC] none
     let r := infoLinePrograms (C04.forestDInfo exLineForest 8) (C04.genBundles true 8).S0 W
     r.2.isNone && r.1.map (fun cr => match cr.2 with
        | .ok (some x) =>
          (match decodeLP Model.genEnumDecode specConsts (encLineSec exLines [0xCC]) x with
           | .ok (es, _, tell) => some (x.lp.program_start_offset, tell, (rowsOf es).length)
           | .error _ => none)
        | _ => none)
       == [some (105 + headerSizeX exHeader [], 186, (stdRun exHeader.p exProgram).length),
           some (105 + headerSizeX exHeader [], 186, (stdRun exHeader.p exProgram).length),
           none,
           some (1 + headerSizeX exHeader5 exExt, 103, (stdRun exHeader5.p exProgram5).length)]) = true := by
  decide +kernel

/-! ### non-vacuity of the whole-file theorems: the example above in an ELF file, `.debug_line` stored three ways

  The description is assembled by C01's Spec assembler; the file model is run on the bytes with the REGENERATED
  parameters (zlib replaced by the identity: the compressed forms carry the payload behind their framing) and must
  deliver the line programs `line_programs_instance` lists.  Evaluated at build time (`Con.encodeRaw` / `decodeRaw` do
  not reduce in the kernel). -/

private def fxShdr (ty flags off size : Nat) : Fields :=
  [("sh_type", .int ty), ("sh_flags", .int flags), ("sh_addr", .int 0), ("sh_offset", .int off), ("sh_size", .int size),
   ("sh_link", .int 0), ("sh_info", .int 0), ("sh_addralign", .int 1), ("sh_entsize", .int 0)]

/-- name offsets in the section-name string table `\0 name \0 name \0 …` -/
private def fxNameOff (names : List Bytes) (i : Nat) : Nat := 1 + ((names.take i).map (·.length + 1)).sum

private def fxStrtab (names : List Bytes) : Bytes := [0] ++ names.flatMap (· ++ [0])

/-- `pre`: ".debug_" or ".zdebug_"; `enc` / `flags`: how every DWARF section is stored; `encL` / `flagsL`: `.debug_line` -/
private def fxDesc (pre : String) (enc encL : Bytes → Bytes) (flags flagsL : Nat) : Spec.ElfDesc :=
  let names : List Bytes := ".shstrtab".toUTF8.toList ::
    ["info", "abbrev", "str", "line_str", "line"].map fun s => (pre ++ s).toUTF8.toList
  let sec (i : Nat) (off fl : Nat) (body : Bytes) : Spec.SecDesc := ⟨names[i]!, fxShdr 1 fl off body.length, some body, fxNameOff names i⟩
  { cls := 64, le := true, mclass := "EM_X86_64", solaris := false, core := false,
    ehdr := [("EI_VERSION", .int 1), ("e_type", .int 1), ("e_machine", .int 62), ("e_version", .int 1), ("e_ehsize", .int 64)],
    shoff := 0x1000, phoff := 0, shentsize := 64, phentsize := 0,
    sections := [⟨[], fxShdr 0 0 0 0, none, 0⟩,
                 ⟨names[0]!, fxShdr 3 0 0x100 (fxStrtab names).length, some (fxStrtab names), fxNameOff names 0⟩,
                 sec 1 0x200 flags (enc (Spec.C04.infoSec exLineForest)),
                 sec 2 0x400 flags (enc (Spec.C04.encTables exLineForest.tables)),
                 sec 3 0x500 flags (enc exSecs5.str),
                 sec 4 0x600 flags (enc exSecs5.lineStr),
                 sec 5 0x800 flagsL (encL (encLineSec exLines [0xCC]))],
    segments := [], shstrndx := 1 }

private def fxParams : Model.C11.Params :=
  { env := Model.elfEnv, structsFor := Model.elfStructsFor, machineClassOf := Model.machineClassOf,
    machineArchOf := Model.Reloc.machineArchOf, dwarfStructsFor := Model.dwarfStructsFor, names := Gen.c11SectionNames,
    X := ⟨fun d k => some (if k = 0 then d else d.take k), fun _ => 0⟩ }

private def fxOk (pre : String) (enc encL : Bytes → Bytes) (flags flagsL : Nat) : Bool :=
  let d := fxDesc pre enc encL flags flagsL
  d.wfZ Model.elfEnv &&
    (match d.assemble 0 with
     | none => false
     | some bytes =>
       match fileLinePrograms fxParams 2 none bytes false false with
       | .error _ => false
       | .ok r =>
         r.2.isNone && r.1.map (fun cr => match cr.2 with
            | .ok (some x) =>
              (match decodeLP Model.genEnumDecode specConsts (encLineSec exLines [0xCC]) x with
               | .ok (es, _, tell) => some (x.lp.program_start_offset, tell, (rowsOf es).length)
               | .error _ => none)
            | _ => none)
           == [some (145, 186, 3), some (145, 186, 3), none, some (93, 103, 2)])

-- every section plain
#guard fxOk ".debug_" id id 0 0
-- `.debug_line` gABI-compressed (SHF_COMPRESSED, `Elf64_Chdr`), the others plain
#guard fxOk ".debug_" id (fun b => Spec.C11.gabiBody 64 true b.length 1 b) 0 0x800
-- every section gABI-compressed
#guard fxOk ".debug_" (fun b => Spec.C11.gabiBody 64 true b.length 1 b) (fun b => Spec.C11.gabiBody 64 true b.length 1 b) 0x800 0x800
-- a `.zdebug` file: every section in the legacy framing ("ZLIB" + big-endian size)
#guard fxOk ".zdebug_" (fun b => Spec.C11.zdebugBody b.length b) (fun b => Spec.C11.zdebugBody b.length b) 0 0

end PyElf.Props.C05
