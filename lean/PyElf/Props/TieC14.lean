/-
  C14 tie: the note / stab structs the library builds for every configuration, and the
  four code tables that name note types, ABI-tag systems and property types, are the
  Spec's; hence the enum environment of the generated side satisfies `EnvOK`.
  The whole-file theorems of this property are stated over the struct factory, whose tie (TieElf
  `bundles_eq`) evaluates every bundle once; the fields listed here are read off it, so that the file lists what the
  property reads (Props/C14 itself reads the whole bundle, `TieElf.mem_bundles`).  Applied: `elfEnv_ok`.
-/
import PyElf.Gen.Structs
import PyElf.Gen.Tables
import PyElf.Spec.ElfStructs
import PyElf.Spec.Notes
import PyElf.Model.Env
import PyElf.Proofs.Notes
import PyElf.Props.TieElf
namespace PyElf.Props.TieC14
open PyElf

theorem elf_Elf_Nhdr : Gen.elfBundles.map (fun b => (b.1, b.2.Elf_Nhdr)) = Spec.allElfCfgs.map (fun c => (c, (Spec.elfStructs c).Elf_Nhdr)) := TieElf.bundles_field (·.Elf_Nhdr)
theorem elf_Elf_abi : Gen.elfBundles.map (fun b => (b.1, b.2.Elf_abi)) = Spec.allElfCfgs.map (fun c => (c, (Spec.elfStructs c).Elf_abi)) := TieElf.bundles_field (·.Elf_abi)
theorem elf_Elf_Prop : Gen.elfBundles.map (fun b => (b.1, b.2.Elf_Prop)) = Spec.allElfCfgs.map (fun c => (c, (Spec.elfStructs c).Elf_Prop)) := TieElf.bundles_field (·.Elf_Prop)
theorem elf_Elf_Prpsinfo : Gen.elfBundles.map (fun b => (b.1, b.2.Elf_Prpsinfo)) = Spec.allElfCfgs.map (fun c => (c, (Spec.elfStructs c).Elf_Prpsinfo)) := TieElf.bundles_field (·.Elf_Prpsinfo)
theorem elf_Elf_Nt_File : Gen.elfBundles.map (fun b => (b.1, b.2.Elf_Nt_File)) = Spec.allElfCfgs.map (fun c => (c, (Spec.elfStructs c).Elf_Nt_File)) := TieElf.bundles_field (·.Elf_Nt_File)
theorem elf_Elf_Stabs : Gen.elfBundles.map (fun b => (b.1, b.2.Elf_Stabs)) = Spec.allElfCfgs.map (fun c => (c, (Spec.elfStructs c).Elf_Stabs)) := TieElf.bundles_field (·.Elf_Stabs)
theorem elf_Elf_ugid : Gen.elfBundles.map (fun b => (b.1, b.2.Elf_ugid)) = Spec.allElfCfgs.map (fun c => (c, (Spec.elfStructs c).Elf_ugid)) := TieElf.bundles_field (·.Elf_ugid)

theorem table_note_types : Gen.tables.find? (·.1 == "ENUM_NOTE_N_TYPE") = some ("ENUM_NOTE_N_TYPE", Spec.noteTypes, true) := by decide +kernel
theorem table_core_note_types : Gen.tables.find? (·.1 == "ENUM_CORE_NOTE_N_TYPE") = some ("ENUM_CORE_NOTE_N_TYPE", Spec.coreNoteTypes, true) := by decide +kernel
theorem table_abi_os : Gen.tables.find? (·.1 == "ENUM_NOTE_ABI_TAG_OS") = some ("ENUM_NOTE_ABI_TAG_OS", Spec.abiOsNames, true) := by decide +kernel
theorem table_prop_types : Gen.tables.find? (·.1 == "ENUM_NOTE_GNU_PROPERTY_TYPE") = some ("ENUM_NOTE_GNU_PROPERTY_TYPE", Spec.propTypes, true) := by decide +kernel

theorem elfEnv_ok : Proofs.Notes.EnvOK Model.elfEnv where
  noteT v := by simp only [Model.elfEnv, Model.genEnumDecode, table_note_types]; rfl
  coreT v := by simp only [Model.elfEnv, Model.genEnumDecode, table_core_note_types]; rfl
  abiOs v := by simp only [Model.elfEnv, Model.genEnumDecode, table_abi_os]; rfl
  propT v := by simp only [Model.elfEnv, Model.genEnumDecode, table_prop_types]; rfl

end PyElf.Props.TieC14
