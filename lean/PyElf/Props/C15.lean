/-
  C15 — symbol-version sections resolve each symbol to its encoded version.

  `data` is the whole file; the records of a version
  section may sit anywhere in it, linked by arbitrary (padded, non-contiguous,
  interleaved, even zero) `next`/`aux` displacements: all that is assumed is the
  Spec layout predicate (`Spec.needLayout` / `defLayout` / `versymAt` / `symsAt`),
  i.e. "these records are in these bytes".  `data.length < 2^63` is the
  addressable range of a Python stream.

  The section objects are the ones `ELFFile` builds (`VerSec.mkNeed/mkDef`,
  `VersymSec.mk'` mirror the constructors) with the Spec's structs, which the
  tie theorems (`Props/TieC15.lean`) prove equal to the regenerated ones.

  The Spec assembler satisfies the layout predicates for every description the Spec's decidable
  well-formedness predicates accept (`Spec/GnuVersionsImage.lean`); the statements are lifted to whole files and closed
  over the image the assembler produces; chains that end early (`next = 0`) and chains that leave the file are theorems.

  The statements speak of (proof-side definitions, by file):
    * Proofs/GnuVersions.lean: `EnvVersym` — the environment names the reserved version indexes as the Spec does;
    * Proofs/GnuExamples.lean: `exImage`, `nVer`, `nDynstr` … — builder of the example images;
    * this file: `NeedObserved`, `DefObserved`, `VersymObserved` — all the property says of one section object.

  Correspondence-only (no theorem): the model mirrors (`Model/GnuVersions.lean`,
  `Model/GnuVersionsFile.lean`, `Model/ElfFile.lean`) against the Python source;
  bytes → str decoding of names; damaged images other than the two classes above
  (substituted bytes, wrong links, zero counts / entry sizes): model == library only.
-/
import PyElf.Spec.GnuVersions
import PyElf.Model.GnuVersions
import PyElf.Proofs.GnuVersions
import PyElf.Proofs.GnuAssembled
import PyElf.Proofs.GnuVersionsFile
import PyElf.Proofs.GnuTruncated
import PyElf.Proofs.GnuExamples
import PyElf.Props.C01
import PyElf.Props.TieC15
import PyElf.Model.VerCache
import PyElf.Proofs.SigCache
namespace PyElf.Props.C15
open PyElf PyElf.Spec PyElf.Model PyElf.Proofs

/-! ### versions_exact: the entries and their auxiliary chains, walked through the displacements -/

/-- version requirements: every Verneed with its file name, every Vernaux with its version name,
    exactly as laid out; `num_versions()` is their number -/
theorem need_versions_exact (env : Env) (c : ElfCfg) (data : Bytes) (off strOff : Nat) (es : List NeedEntry)
    (hlen : data.length < 2 ^ 63) (h : needLayout c.le data strOff off es = true) :
    (VerSec.mkNeed (Spec.elfStructs c) data off es.length strOff).versions env = .ok (es.map NeedEntry.obs)
    ∧ (VerSec.mkNeed (Spec.elfStructs c) data off es.length strOff).numVersions = es.length :=
  ⟨(need_iterVersions_prefix env c data off es.length strOff hlen es off 0 h).trans (congrArg Except.ok (List.append_nil _)), rfl⟩

/-- version definitions: every Verdef, every Verdaux with its name -/
theorem def_versions_exact (env : Env) (c : ElfCfg) (data : Bytes) (off strOff : Nat) (es : List DefEntry)
    (hlen : data.length < 2 ^ 63) (h : defLayout c.le data strOff off es = true) :
    (VerSec.mkDef (Spec.elfStructs c) data off es.length strOff).versions env = .ok (es.map DefEntry.obs)
    ∧ (VerSec.mkDef (Spec.elfStructs c) data off es.length strOff).numVersions = es.length :=
  ⟨(def_iterVersions_prefix env c data off es.length strOff hlen es off 0 h).trans (congrArg Except.ok (List.append_nil _)), rfl⟩

/-- a section that declares (`sh_info`) fewer records than are chained yields exactly the declared prefix -/
theorem need_versions_prefix (env : Env) (c : ElfCfg) (data : Bytes) (off strOff : Nat) (es more : List NeedEntry)
    (hlen : data.length < 2 ^ 63) (h : needLayout c.le data strOff off (es ++ more) = true) :
    (VerSec.mkNeed (Spec.elfStructs c) data off es.length strOff).versions env = .ok (es.map NeedEntry.obs) :=
  (need_versions_exact env c data off strOff es hlen (chainAt_prefix _ _ es more off h)).1

theorem def_versions_prefix (env : Env) (c : ElfCfg) (data : Bytes) (off strOff : Nat) (es more : List DefEntry)
    (hlen : data.length < 2 ^ 63) (h : defLayout c.le data strOff off (es ++ more) = true) :
    (VerSec.mkDef (Spec.elfStructs c) data off es.length strOff).versions env = .ok (es.map DefEntry.obs) :=
  (def_versions_exact env c data off strOff es hlen (chainAt_prefix _ _ es more off h)).1

/-! ### get_version_exact: the entry carrying the index, or nothing -/

/-- `GNUVerNeedSection.get_version(i)`: the first (file entry, auxiliary) in walk order whose `vna_other` is `i` -/
theorem need_get_version_exact (env : Env) (c : ElfCfg) (data : Bytes) (off strOff : Nat) (es : List NeedEntry)
    (hlen : data.length < 2 ^ 63) (h : needLayout c.le data strOff off es = true) (i : Nat) :
    (VerSec.mkNeed (Spec.elfStructs c) data off es.length strOff).needGetVersion env i
      = .ok ((needFind i es).map fun ea => (ea.1.r.obs, some ea.1.file, ea.2.r.obs, ea.2.name)) := by
  refine (needGetLoop_prefix env c data off es.length strOff hlen i es off 0 h).trans ?_
  cases needFind i es <;> rfl

/-- what `needFind` returns carries the index … -/
theorem needFind_carries (i : Nat) : ∀ (es : List NeedEntry) (e : NeedEntry) (a : NeedAux),
    needFind i es = some (e, a) → e ∈ es ∧ a ∈ e.auxs ∧ a.r.other = i
  | [], _, _, h => by simp [needFind] at h
  | e' :: rest, e, a, h => by
    simp only [needFind] at h
    cases hq : e'.auxs.find? (fun a => a.r.other == i) with
    | some a' =>
      rw [hq] at h
      simp only [Option.some.injEq, Prod.mk.injEq] at h
      obtain ⟨rfl, rfl⟩ := h
      have h1 := List.find?_some hq
      have h2 := List.mem_of_find?_eq_some hq
      exact ⟨List.mem_cons_self, h2, by simpa using h1⟩
    | none =>
      rw [hq] at h
      obtain ⟨h1, h2⟩ := needFind_carries i rest e a h
      exact ⟨List.mem_cons_of_mem _ h1, h2⟩

/-- … and it returns nothing exactly when no auxiliary of any entry carries it -/
theorem needFind_none (i : Nat) : ∀ (es : List NeedEntry),
    needFind i es = none ↔ ∀ e ∈ es, ∀ a ∈ e.auxs, a.r.other ≠ i
  | [] => by simp [needFind]
  | e' :: rest => by
    simp only [needFind]
    cases hq : e'.auxs.find? (fun a => a.r.other == i) with
    | some a' =>
      have h1 := List.find?_some hq
      have h2 := List.mem_of_find?_eq_some hq
      simp only [reduceCtorEq, false_iff]
      intro hall
      exact hall e' List.mem_cons_self a' h2 (by simpa using h1)
    | none =>
      rw [needFind_none i rest]
      have hn : ∀ a ∈ e'.auxs, a.r.other ≠ i := by
        intro a ha
        have := List.find?_eq_none.mp hq a ha
        simpa using this
      constructor
      · intro hr e he
        rcases List.mem_cons.mp he with rfl | he'
        · exact hn
        · exact hr e he'
      · intro hall e he
        exact hall e (List.mem_cons_of_mem _ he)

/-- `GNUVerDefSection.get_version(i)`: the first Verdef whose `vd_ndx` is `i`, with its auxiliaries -/
theorem def_get_version_exact (env : Env) (c : ElfCfg) (data : Bytes) (off strOff : Nat) (es : List DefEntry)
    (hlen : data.length < 2 ^ 63) (h : defLayout c.le data strOff off es = true) (i : Nat) :
    (VerSec.mkDef (Spec.elfStructs c) data off es.length strOff).defGetVersion env i
      = .ok ((defFind i es).map fun e => (e.r.obs, e.auxs.map DefAux.obs)) := by
  refine (defGetLoop_prefix env c data off es.length strOff hlen i es off 0 h).trans ?_
  cases defFind i es <;> rfl

theorem defFind_carries (i : Nat) (es : List DefEntry) (e : DefEntry) (h : defFind i es = some e) :
    e ∈ es ∧ e.r.ndx = i :=
  ⟨List.mem_of_find?_eq_some h, by simpa using List.find?_some h⟩

theorem defFind_none (i : Nat) (es : List DefEntry) : defFind i es = none ↔ ∀ e ∈ es, e.r.ndx ≠ i := by
  simp [defFind, List.find?_eq_none]

/-- `has_indexes()`: some auxiliary has a non-zero `vna_other` -/
theorem need_has_indexes_exact (env : Env) (c : ElfCfg) (data : Bytes) (off strOff : Nat) (es : List NeedEntry)
    (hlen : data.length < 2 ^ 63) (h : needLayout c.le data strOff off es = true) :
    (VerSec.mkNeed (Spec.elfStructs c) data off es.length strOff).hasIndexes env = .ok (needHasIndexes es) := by
  have := hasIndexesLoop_prefix env c data off es.length strOff hlen es off 0 false h
  rw [Bool.false_or] at this
  exact this

/-- For ANY section bytes (well formed or not): the k-th call of `has_indexes()` on
    one `GNUVerNeedSection` object answers what a fresh object answers (`VerSec.hasIndexes`, the function
    `need_has_indexes_exact` and the `*_truncated` theorems are about) — in particular a walk that raises, raises again
    on every later call.  It fails for code that assigns `_has_indexes = False` before the walk (first call
    ELFParseError, second call `False`: /repo fix has-indexes-cached-before-walk).  The driver answers a three-call history
    through this model and the harness compares it with three calls on one live object. -/
theorem has_indexes_history_independent (env : Env) (vs : VerSec) (k : Nat) :
    (vs.hasIndexesHist env k).1 = List.replicate k (vs.hasIndexes env) := by
  refine (Proofs.SigCache.history_independent _ _ (fun _ => vs.hasIndexes env) (fun q => ?_) _).trans
    (List.map_replicate ..)
  unfold Model.SigCache.stateless VerSec.hasIndexesScan
  cases vs.hasIndexes env <;> rfl

/-- composed with `need_has_indexes_exact` -/
theorem need_has_indexes_any_history (env : Env) (c : ElfCfg) (data : Bytes) (off strOff : Nat) (es : List NeedEntry)
    (hlen : data.length < 2 ^ 63) (h : needLayout c.le data strOff off es = true) (k : Nat) :
    ((VerSec.mkNeed (Spec.elfStructs c) data off es.length strOff).hasIndexesHist env k).1
      = List.replicate k (.ok (needHasIndexes es)) := by
  rw [has_indexes_history_independent, need_has_indexes_exact env c data off strOff es hlen h]

/-- a walk that raised leaves nothing behind -/
theorem has_indexes_failed_walk_publishes_nothing (env : Env) (vs : VerSec) (e : Err) (he : vs.hasIndexes env = .error e)
    (k : Nat) : (vs.hasIndexesHist env k).2.map.isSome = false := by
  unfold VerSec.hasIndexesHist
  rw [Proofs.SigCache.run_published]
  unfold VerSec.hasIndexesScan
  rw [he]
  simp

/-! ### versym_exact: one index per symbol, paired with that symbol's name -/

/-- the version-symbol table next to its dynamic symbol table: `num_symbols()` rows, row `i` is the
    Half at `off + i·entsize` shown as the Spec shows a version index (reserved indexes named, everything
    else — hidden bit included — as the number), paired with the name of symbol `i`.
    `Proofs.EnvVersym env` (the environment names the reserved indexes as the Spec does) is discharged for the
    regenerated tables by `TieC15.versym_env`. -/
theorem versym_exact (env : Env) (henv : EnvVersym env) (c : ElfCfg) (hcls : c.cls = 32 ∨ c.cls = 64)
    (data : Bytes) (hlen : data.length < 2 ^ 63)
    (off size es symOff symEs symStrOff : Nat) (rows : List (Sym × VersymRow))
    (hes : 0 < es) (hsize : size / es = rows.length)
    (hv : versymAt c.le data off es 0 (rows.map (·.2)) = true)
    (hs : symsAt c.cls c.le data symOff symEs symStrOff 0 rows = true) :
    (VersymSec.mk' (Spec.elfStructs c) data off size es symOff symEs symStrOff).numSymbols = .ok rows.length
    ∧ (VersymSec.mk' (Spec.elfStructs c) data off size es symOff symEs symStrOff).symbols env
        = .ok (rows.map fun r => r.2.obs)
    ∧ ∀ (i : Nat) (r : Sym × VersymRow), rows[i]? = some r →
        (VersymSec.mk' (Spec.elfStructs c) data off size es symOff symEs symStrOff).getSymbol env i = .ok r.2.obs := by
  have hget : ∀ (i : Nat) (x : VersymRow), (rows.map (·.2))[i]? = some x →
      (VersymSec.mk' (Spec.elfStructs c) data off size es symOff symEs symStrOff).getSymbol env i = .ok x.obs := by
    intro i x hx
    obtain ⟨hh, hb⟩ := Bool.and_eq_true_iff.mp ((versymAt_iff _ 0).mp hv i x hx)
    rw [Nat.zero_add] at hb
    obtain ⟨r, hr, rfl⟩ := Option.map_eq_some_iff.mp (List.getElem?_map .. ▸ hx)
    exact versym_getSymbol env henv c data hlen off size es symOff symEs symStrOff i r.2 hh hb
      (symName_of_symsAt env c hcls data hlen off size es symOff symEs symStrOff rows hs i r hr)
  have hnum : (VersymSec.mk' (Spec.elfStructs c) data off size es symOff symEs symStrOff).numSymbols = .ok rows.length := by
    have : ¬ es = 0 := by omega
    simp [VersymSec.numSymbols, VersymSec.mk', this, hsize]
  refine ⟨hnum, ?_, ?_⟩
  · have := versymLoop_rows env henv c data hlen off size es symOff symEs symStrOff (rows.map (·.2)) hget
      rows.length 0 (by simp)
    simp only [VersymSec.symbols, hnum, bind, Except.bind]
    simpa [List.map_map, Function.comp_def] using this
  · intro i r hr
    exact hget i r.2 (by rw [List.getElem?_map, hr]; rfl)

/-- one requirement with two auxiliaries, the second padded away from the first (it cannot sit before it:
    displacements are unsigned); the string table follows -/
def exNeed : List NeedEntry :=
  [{ r := { version := 1, cnt := 2, file := 1, aux := 20, next := 0 }, file := [0x6c, 0x63],
     auxs := [{ r := { hash := 7, flags := 0, other := 0x8002, name := 4, next := 24 }, name := [0x56, 0x31] },
              { r := { hash := 9, flags := 2, other := 3, name := 0, next := 0 }, name := [] }] }]

def exNeedData : Bytes := assembleNeed true 0xAA 64 exNeed ++ [0, 0x6c, 0x63, 0, 0x56, 0x31, 0]

set_option maxRecDepth 100000 in
example : exNeedData.length = 71 := by decide +kernel
set_option maxRecDepth 100000 in
example : needLayout true exNeedData 64 0 exNeed = true := by decide +kernel
example : needFind 3 exNeed = some (exNeed[0], exNeed[0].auxs[1]) := by decide +kernel
example : needFind 2 exNeed = none := by decide +kernel          -- 0x8002 is not 2: no masking of the hidden bit

/-- two definitions, the auxiliaries gathered behind both entries; the second entry twice (next = 0) -/
def exDef : List DefEntry :=
  [{ r := { version := 1, flags := 1, ndx := 1, cnt := 1, hash := 5, aux := 44, next := 22 },
     auxs := [{ r := { name := 1, next := 0 }, name := [0x61] }] },
   { r := { version := 1, flags := 0, ndx := 0x8002, cnt := 2, hash := 6, aux := 30, next := 0 },
     auxs := [{ r := { name := 3, next := 9 }, name := [0x62] }, { r := { name := 1, next := 77 }, name := [0x61] }] },
   { r := { version := 1, flags := 0, ndx := 0x8002, cnt := 2, hash := 6, aux := 30, next := 0 },
     auxs := [{ r := { name := 3, next := 9 }, name := [0x62] }, { r := { name := 1, next := 77 }, name := [0x61] }] }]

def exDefData : Bytes := [1, 2, 3] ++ assembleDef false 0 70 exDef ++ [0, 0x61, 0, 0x62, 0]

set_option maxRecDepth 100000 in
example : defLayout false exDefData 73 3 exDef = true := by decide +kernel

def exRows : List (Sym × VersymRow) :=
  [({ name := 0, value := 0, size := 0, bind := 0, type := 0, local_ := 0, visibility := 0, shndx := 0 },
    { ndx := 0, symName := [] }),
   ({ name := 1, value := 0x1000, size := 8, bind := 1, type := 2, local_ := 0, visibility := 0, shndx := 7 },
    { ndx := 0x8003, symName := [0x66] })]

def exVersymData : Bytes :=
  assembleVersym true 0 4 (exRows.map (·.2)) ++ assembleSyms 64 true 0 32 (exRows.map (·.1)) ++ [0, 0x66, 0]

set_option maxRecDepth 100000 in
example : versymAt true exVersymData 0 4 0 (exRows.map (·.2)) = true := by decide +kernel
set_option maxRecDepth 100000 in
example : symsAt 64 true exVersymData 8 32 72 0 exRows = true := by decide +kernel

/-! Assembled sections, whole files, damaged chains:
  * the assembler satisfies the layout predicates (`assemble_*_layout`), hence every theorem above in a
    form whose only hypothesis on the contents is the description's well-formedness
    (`Spec.C15.needWf` / `defWf` / `versymWf` / `symsWf`: structural conditions on the record list,
    not the layout predicate evaluated on the output) — `*_carried_exact`;
  * whole files: the section objects are the ones `ELFFile(BytesIO(bytes)).get_section(sec)` /
    `.get_section_by_name(name)` build (`Model.C15.getVerSection`, `getVerSectionByName`), for any byte
    string carrying (C01's `Layout`) a well-formed image one of whose sections is an assembled version
    section (`Spec.C15.needFileWf` / `defFileWf` / `versymFileWf`) — `*_file_exact`; and for the image
    the Spec assembler itself produces, with nothing but the description's well-formedness as
    hypothesis — `*_assembled_exact`;
  * chains that end early (`next = 0` before the declared count is reached: the record is read again)
    and chains that leave the file (`*_truncated`). -/

section files

open PyElf.Spec.C15 PyElf.Model.C15 PyElf.Proofs.C15

/-- any byte string that carries the assembled requirement section at `off` and the string table at
    `strOff` is a layout of the description -/
theorem assemble_need_layout (le : Bool) (fill : UInt8) (size : Nat) (es : List NeedEntry) (strtab : Bytes)
    (data rest rest' : Bytes) (off strOff : Nat) (hwf : needWf le strtab es = true)
    (hd : data.drop off = assembleNeed le fill size es ++ rest) (hs : data.drop strOff = strtab ++ rest') :
    needLayout le data strOff off es = true :=
  assembleNeed_layout hwf hd hs

theorem assemble_def_layout (le : Bool) (fill : UInt8) (size : Nat) (es : List DefEntry) (strtab : Bytes)
    (data rest rest' : Bytes) (off strOff : Nat) (hwf : defWf le strtab es = true)
    (hd : data.drop off = assembleDef le fill size es ++ rest) (hs : data.drop strOff = strtab ++ rest') :
    defLayout le data strOff off es = true :=
  assembleDef_layout hwf hd hs

theorem assemble_versym_layout (le : Bool) (fill : UInt8) (entsize : Nat) (rows : List VersymRow)
    (data rest : Bytes) (off : Nat) (hwf : versymWf entsize rows = true)
    (hd : data.drop off = assembleVersym le fill entsize rows ++ rest) :
    versymAt le data off entsize 0 rows = true :=
  assembleVersym_layout hwf hd

theorem assemble_syms_layout (cls : Nat) (le : Bool) (fill : UInt8) (entsize : Nat) (rows : List (Sym × VersymRow))
    (strtab data rest rest' : Bytes) (off strOff : Nat) (hwf : symsWf cls entsize strtab rows = true)
    (hd : data.drop off = assembleSyms cls le fill entsize (rows.map (·.1)) ++ rest)
    (hs : data.drop strOff = strtab ++ rest') :
    symsAt cls le data off entsize strOff 0 rows = true :=
  assembleSyms_layout hwf hd hs

/-- everything the property observes of a requirement section -/
def NeedObserved (env : Env) (vs : VerSec) (es : List NeedEntry) : Prop :=
  vs.numVersions = es.length ∧
  vs.versions env = .ok (es.map NeedEntry.obs) ∧
  (∀ i, vs.needGetVersion env i
    = .ok ((needFind i es).map fun ea => (ea.1.r.obs, some ea.1.file, ea.2.r.obs, ea.2.name))) ∧
  vs.hasIndexes env = .ok (needHasIndexes es)

/-- everything the property observes of a definition section -/
def DefObserved (env : Env) (vs : VerSec) (es : List DefEntry) : Prop :=
  vs.numVersions = es.length ∧
  vs.versions env = .ok (es.map DefEntry.obs) ∧
  (∀ i, vs.defGetVersion env i = .ok ((defFind i es).map fun e => (e.r.obs, e.auxs.map DefAux.obs)))

/-- everything the property observes of a version-symbol table -/
def VersymObserved (env : Env) (v : VersymSec) (rows : List (Sym × VersymRow)) : Prop :=
  v.numSymbols = .ok rows.length ∧
  v.symbols env = .ok (rows.map fun r => r.2.obs) ∧
  ∀ (i : Nat) (r : Sym × VersymRow), rows[i]? = some r → v.getSymbol env i = .ok r.2.obs

theorem need_observed (env : Env) (c : ElfCfg) (data : Bytes) (off strOff : Nat) (es : List NeedEntry)
    (hlen : data.length < 2 ^ 63) (h : needLayout c.le data strOff off es = true) :
    NeedObserved env (VerSec.mkNeed (Spec.elfStructs c) data off es.length strOff) es :=
  ⟨rfl, (need_versions_exact env c data off strOff es hlen h).1,
   need_get_version_exact env c data off strOff es hlen h,
   need_has_indexes_exact env c data off strOff es hlen h⟩

theorem def_observed (env : Env) (c : ElfCfg) (data : Bytes) (off strOff : Nat) (es : List DefEntry)
    (hlen : data.length < 2 ^ 63) (h : defLayout c.le data strOff off es = true) :
    DefObserved env (VerSec.mkDef (Spec.elfStructs c) data off es.length strOff) es :=
  ⟨rfl, (def_versions_exact env c data off strOff es hlen h).1, def_get_version_exact env c data off strOff es hlen h⟩

/-- `iter_versions` / `num_versions` / `get_version` / `has_indexes` on any byte string that carries the
    assembled section and its string table: only the description's well-formedness is assumed of the
    contents -/
theorem need_carried_exact (env : Env) (c : ElfCfg) (fill : UInt8) (size : Nat) (es : List NeedEntry)
    (strtab data rest rest' : Bytes) (off strOff : Nat) (hwf : needWf c.le strtab es = true)
    (hd : data.drop off = assembleNeed c.le fill size es ++ rest) (hs : data.drop strOff = strtab ++ rest')
    (hlen : data.length < 2 ^ 63) :
    NeedObserved env (VerSec.mkNeed (Spec.elfStructs c) data off es.length strOff) es :=
  need_observed env c data off strOff es hlen (assembleNeed_layout hwf hd hs)

theorem def_carried_exact (env : Env) (c : ElfCfg) (fill : UInt8) (size : Nat) (es : List DefEntry)
    (strtab data rest rest' : Bytes) (off strOff : Nat) (hwf : defWf c.le strtab es = true)
    (hd : data.drop off = assembleDef c.le fill size es ++ rest) (hs : data.drop strOff = strtab ++ rest')
    (hlen : data.length < 2 ^ 63) :
    DefObserved env (VerSec.mkDef (Spec.elfStructs c) data off es.length strOff) es :=
  def_observed env c data off strOff es hlen (assembleDef_layout hwf hd hs)

theorem versym_carried_exact (env : Env) (henv : EnvVersym env) (c : ElfCfg) (hcls : c.cls = 32 ∨ c.cls = 64)
    (fill : UInt8) (es symEs : Nat) (rows : List (Sym × VersymRow)) (strtab data rest rest' rest'' : Bytes)
    (off size symOff symStrOff : Nat)
    (hv : versymWf es (rows.map (·.2)) = true) (hy : symsWf c.cls symEs strtab rows = true)
    (hsize : size / es = rows.length)
    (hd : data.drop off = assembleVersym c.le fill es (rows.map (·.2)) ++ rest)
    (hsy : data.drop symOff = assembleSyms c.cls c.le fill symEs (rows.map (·.1)) ++ rest')
    (hs : data.drop symStrOff = strtab ++ rest'') (hlen : data.length < 2 ^ 63) :
    VersymObserved env (VersymSec.mk' (Spec.elfStructs c) data off size es symOff symEs symStrOff) rows := by
  exact versym_exact env henv c hcls data hlen off size es symOff symEs symStrOff rows (versymWf_pos hv) hsize
    (assembleVersym_layout hv hd) (assembleSyms_layout hy hsy hs)

/-- non-vacuity: the descriptions of the examples above are well-formed, without looking at any bytes -/
example : needWf true [0, 0x6c, 0x63, 0, 0x56, 0x31, 0] exNeed = true := by decide +kernel
example : defWf false [0, 0x61, 0, 0x62, 0] exDef = true := by decide +kernel      -- the repeated record is written twice
example : versymWf 4 (exRows.map (·.2)) = true ∧ symsWf 64 32 [0, 0x66, 0] exRows = true := by decide +kernel
/-- … and two records claiming the same bytes differently are rejected (the auxiliary would overwrite the
    second half of its own entry) -/
def exClash : List NeedEntry :=
  [{ r := { version := 1, cnt := 1, file := 0, aux := 8, next := 0 }, file := [],
     auxs := [{ r := { hash := 7, flags := 0, other := 2, name := 0, next := 0 }, name := [] }] }]
example : needWf true [0] exClash = false := by decide +kernel

/-- `ELFFile(BytesIO(bytes)).get_section(sec)` for any byte string carrying a well-formed image whose
    section `sec` is an assembled version-requirement section declaring `declared` records: a
    `GNUVerNeedSection` whose `num_versions()`, `iter_versions()`, `get_version(i)` and `has_indexes()`
    are exactly those of the declared records -/
theorem need_file_exact (env : Env) (d : ElfDesc) (bytes : Bytes) (sec : Nat) (fill : UInt8) (size : Nat)
    (es : List NeedEntry) (declared : Nat) (hwf : needFileWf env d sec fill size es declared = true)
    (hl : Layout d bytes) (hlen : bytes.length < 2 ^ 63) :
    ∃ f vs, openElf env C01.specStructs C01.specMachineClass bytes = .ok f ∧
      getVerSection env f sec = .ok (.need vs) ∧ NeedObserved env vs (es.take declared) := by
  have W := needFileWf_unpack hwf
  obtain ⟨hdr, st, X, -, hopen⟩ := C01.opened W.wfz hl
  obtain ⟨off, strOff, strtab, rest, rest', hlk, hd, hs, hneed, -⟩ := getVerSection_ver X W.sec
  have hlay := assembleNeed_layout hlk hd hs
  have hpre : needLayout d.le bytes strOff off (es.take declared) = true :=
    chainAt_prefix _ _ (es.take declared) (es.drop declared) off (by rw [List.take_append_drop]; exact hlay)
  have hobs := need_observed env d.cfg bytes off strOff (es.take declared) hlen hpre
  rw [List.length_take_of_le W.le] at hobs
  exact ⟨_, _, hopen, hneed rfl, hobs⟩

theorem def_file_exact (env : Env) (d : ElfDesc) (bytes : Bytes) (sec : Nat) (fill : UInt8) (size : Nat)
    (es : List DefEntry) (declared : Nat) (hwf : defFileWf env d sec fill size es declared = true)
    (hl : Layout d bytes) (hlen : bytes.length < 2 ^ 63) :
    ∃ f vs, openElf env C01.specStructs C01.specMachineClass bytes = .ok f ∧
      getVerSection env f sec = .ok (.def_ vs) ∧ DefObserved env vs (es.take declared) := by
  have W := defFileWf_unpack hwf
  obtain ⟨hdr, st, X, -, hopen⟩ := C01.opened W.wfz hl
  obtain ⟨off, strOff, strtab, rest, rest', hlk, hd, hs, -, hdef⟩ := getVerSection_ver X W.sec
  have hlay := assembleDef_layout hlk hd hs
  have hpre : defLayout d.le bytes strOff off (es.take declared) = true :=
    chainAt_prefix _ _ (es.take declared) (es.drop declared) off (by rw [List.take_append_drop]; exact hlay)
  have hobs := def_observed env d.cfg bytes off strOff (es.take declared) hlen hpre
  rw [List.length_take_of_le W.le] at hobs
  exact ⟨_, _, hopen, hdef rfl, hobs⟩

/-- the version-symbol table of a whole file: reached through `get_section(sec)`, its symbol table through
    `sh_link`, the symbol names through the symbol table's `sh_link` -/
theorem versym_file_exact (env : Env) (henv : EnvVersym env) (d : ElfDesc) (bytes : Bytes) (sec : Nat) (fill : UInt8)
    (rows : List (Sym × VersymRow)) (slack moreSyms : Bytes)
    (hwf : versymFileWf env d sec fill rows slack moreSyms = true)
    (hl : Layout d bytes) (hlen : bytes.length < 2 ^ 63) :
    ∃ f v, openElf env C01.specStructs C01.specMachineClass bytes = .ok f ∧
      getVerSection env f sec = .ok (.versym v) ∧ VersymObserved env v rows := by
  obtain ⟨hdr, st, X, -, hopen⟩ := C01.opened (versymFileWf_wfZ hwf) hl
  obtain ⟨off, size, es, symOff, symEs, symStrOff, hget, hes, hsize, hv, hs⟩ := getVerSection_versym X hwf
  exact ⟨_, _, hopen, hget,
    versym_exact env henv d.cfg X.hw.cls bytes hlen off size es symOff symEs symStrOff rows hes hsize hv hs⟩

/-- `get_section_by_name(name)` is `get_section` of the last section bearing the name, `None` when no
    section bears it (C01's `lookup_exact`, composed) -/
theorem by_name_exact (env : Env) (d : ElfDesc) (bytes : Bytes) (obs : ElfObs) (f : ElfFile)
    (hwf : d.wfZ env = true) (hl : Layout d bytes) (ho : d.observe env = .ok obs)
    (hf : openElf env C01.specStructs C01.specMachineClass bytes = .ok f) (name : Bytes) :
    getVerSectionByName env f name =
      match d.indexOfName name with
      | none => .ok none
      | some i => (getVerSection env f i).map some := by
  obtain ⟨hdr, st, X, rfl⟩ := C01.opened_eq hwf hl hf
  exact getVerSectionByName_eq X ho name

theorem observable_ok {env : Env} {d : ElfDesc} (h : observable env d = true) : ∃ obs, d.observe env = .ok obs := by
  unfold observable at h
  cases ho : d.observe env with
  | error e => simp [ho, Except.toOption] at h
  | ok obs => exact ⟨obs, rfl⟩

/-- by name = by index, for the section the name designates -/
theorem by_name_of_index (env : Env) (d : ElfDesc) (bytes : Bytes) (f : ElfFile)
    (hwf : d.wfZ env = true) (hl : Layout d bytes) (hobs : observable env d = true)
    (hf : openElf env C01.specStructs C01.specMachineClass bytes = .ok f) (name : Bytes) (sec : Nat)
    (hname : d.indexOfName name = some sec) (obj : VerObj) (hget : getVerSection env f sec = .ok obj) :
    getVerSectionByName env f name = .ok (some obj) := by
  obtain ⟨obs, ho⟩ := observable_ok hobs
  rw [by_name_exact env d bytes obs f hwf hl ho hf name, hname]
  simp only [hget]
  rfl

theorem by_name_absent (env : Env) (d : ElfDesc) (bytes : Bytes) (f : ElfFile)
    (hwf : d.wfZ env = true) (hl : Layout d bytes) (hobs : observable env d = true)
    (hf : openElf env C01.specStructs C01.specMachineClass bytes = .ok f) (name : Bytes)
    (hname : d.indexOfName name = none) :
    getVerSectionByName env f name = .ok none := by
  obtain ⟨obs, ho⟩ := observable_ok hobs
  rw [by_name_exact env d bytes obs f hwf hl ho hf name, hname]

/-- the image the Spec assembler produces: nothing but the description's well-formedness is assumed -/
theorem assembled_image (env : Env) (d : ElfDesc) (tail : Nat) (hz : d.wfZ env = true) (hfit : imageFits d tail = true) :
    ∃ bytes, d.assemble tail = some bytes ∧ Layout d bytes ∧ bytes.length < 2 ^ 63 := by
  obtain ⟨rs, hrs, -⟩ := (wfZ_facts hz).disj
  have hb : ∃ bytes, d.assemble tail = some bytes := by
    unfold ElfDesc.assemble
    simp [hrs]
  obtain ⟨bytes, hb⟩ := hb
  exact ⟨bytes, hb, C01.assemble_layout_z env d tail bytes hz hb, assemble_length_lt hz hfit hb⟩

theorem need_assembled_exact (env : Env) (d : ElfDesc) (tail sec : Nat) (fill : UInt8) (size : Nat)
    (es : List NeedEntry) (declared : Nat) (hwf : needFileWf env d sec fill size es declared = true)
    (hfit : imageFits d tail = true) :
    ∃ bytes f vs, d.assemble tail = some bytes ∧
      openElf env C01.specStructs C01.specMachineClass bytes = .ok f ∧
      getVerSection env f sec = .ok (.need vs) ∧ NeedObserved env vs (es.take declared) := by
  have hz := (needFileWf_unpack hwf).wfz
  obtain ⟨bytes, hb, hl, hlen⟩ := assembled_image env d tail hz hfit
  obtain ⟨f, vs, h⟩ := need_file_exact env d bytes sec fill size es declared hwf hl hlen
  exact ⟨bytes, f, vs, hb, h⟩

theorem def_assembled_exact (env : Env) (d : ElfDesc) (tail sec : Nat) (fill : UInt8) (size : Nat)
    (es : List DefEntry) (declared : Nat) (hwf : defFileWf env d sec fill size es declared = true)
    (hfit : imageFits d tail = true) :
    ∃ bytes f vs, d.assemble tail = some bytes ∧
      openElf env C01.specStructs C01.specMachineClass bytes = .ok f ∧
      getVerSection env f sec = .ok (.def_ vs) ∧ DefObserved env vs (es.take declared) := by
  have hz := (defFileWf_unpack hwf).wfz
  obtain ⟨bytes, hb, hl, hlen⟩ := assembled_image env d tail hz hfit
  obtain ⟨f, vs, h⟩ := def_file_exact env d bytes sec fill size es declared hwf hl hlen
  exact ⟨bytes, f, vs, hb, h⟩

theorem versym_assembled_exact (env : Env) (henv : EnvVersym env) (d : ElfDesc) (tail sec : Nat) (fill : UInt8)
    (rows : List (Sym × VersymRow)) (slack moreSyms : Bytes)
    (hwf : versymFileWf env d sec fill rows slack moreSyms = true) (hfit : imageFits d tail = true) :
    ∃ bytes f v, d.assemble tail = some bytes ∧
      openElf env C01.specStructs C01.specMachineClass bytes = .ok f ∧
      getVerSection env f sec = .ok (.versym v) ∧ VersymObserved env v rows := by
  have hz := versymFileWf_wfZ hwf
  obtain ⟨bytes, hb, hl, hlen⟩ := assembled_image env d tail hz hfit
  obtain ⟨f, v, h⟩ := versym_file_exact env henv d bytes sec fill rows slack moreSyms hwf hl hlen
  exact ⟨bytes, f, v, hb, h⟩

/-- `ELFFile(BytesIO(image)).get_section_by_name(name)` for the assembled image, `name` designating (being
    borne last by) the version section: closed over the description -/
theorem need_by_name_assembled_exact (env : Env) (d : ElfDesc) (tail sec : Nat) (fill : UInt8) (size : Nat)
    (es : List NeedEntry) (declared : Nat) (name : Bytes)
    (hwf : needFileWf env d sec fill size es declared = true) (hobs : observable env d = true)
    (hfit : imageFits d tail = true) (hname : d.indexOfName name = some sec) :
    ∃ bytes f vs, d.assemble tail = some bytes ∧
      openElf env C01.specStructs C01.specMachineClass bytes = .ok f ∧
      getVerSectionByName env f name = .ok (some (.need vs)) ∧ NeedObserved env vs (es.take declared) := by
  have hz := (needFileWf_unpack hwf).wfz
  obtain ⟨bytes, hb, hl, hlen⟩ := assembled_image env d tail hz hfit
  obtain ⟨f, vs, hf, hget, hobsv⟩ := need_file_exact env d bytes sec fill size es declared hwf hl hlen
  exact ⟨bytes, f, vs, hb, hf, by_name_of_index env d bytes f hz hl hobs hf name sec hname _ hget, hobsv⟩

theorem def_by_name_assembled_exact (env : Env) (d : ElfDesc) (tail sec : Nat) (fill : UInt8) (size : Nat)
    (es : List DefEntry) (declared : Nat) (name : Bytes)
    (hwf : defFileWf env d sec fill size es declared = true) (hobs : observable env d = true)
    (hfit : imageFits d tail = true) (hname : d.indexOfName name = some sec) :
    ∃ bytes f vs, d.assemble tail = some bytes ∧
      openElf env C01.specStructs C01.specMachineClass bytes = .ok f ∧
      getVerSectionByName env f name = .ok (some (.def_ vs)) ∧ DefObserved env vs (es.take declared) := by
  have hz := (defFileWf_unpack hwf).wfz
  obtain ⟨bytes, hb, hl, hlen⟩ := assembled_image env d tail hz hfit
  obtain ⟨f, vs, hf, hget, hobsv⟩ := def_file_exact env d bytes sec fill size es declared hwf hl hlen
  exact ⟨bytes, f, vs, hb, hf, by_name_of_index env d bytes f hz hl hobs hf name sec hname _ hget, hobsv⟩

theorem versym_by_name_assembled_exact (env : Env) (henv : EnvVersym env) (d : ElfDesc) (tail sec : Nat)
    (fill : UInt8) (rows : List (Sym × VersymRow)) (slack moreSyms : Bytes) (name : Bytes)
    (hwf : versymFileWf env d sec fill rows slack moreSyms = true) (hobs : observable env d = true)
    (hfit : imageFits d tail = true) (hname : d.indexOfName name = some sec) :
    ∃ bytes f v, d.assemble tail = some bytes ∧
      openElf env C01.specStructs C01.specMachineClass bytes = .ok f ∧
      getVerSectionByName env f name = .ok (some (.versym v)) ∧ VersymObserved env v rows := by
  have hz := versymFileWf_wfZ hwf
  obtain ⟨bytes, hb, hl, hlen⟩ := assembled_image env d tail hz hfit
  obtain ⟨f, v, hf, hget, hobsv⟩ := versym_file_exact env henv d bytes sec fill rows slack moreSyms hwf hl hlen
  exact ⟨bytes, f, v, hb, hf, by_name_of_index env d bytes f hz hl hobs hf name sec hname _ hget, hobsv⟩

/-! Non-vacuity of `needFileWf` / `defFileWf` / `versymFileWf` ∧ `imageFits` ∧ `observable` (the hypotheses of
   the `_file_exact`, `_assembled_exact` and `_by_name_assembled_exact` theorems), with the regenerated
   environment `Model.elfEnv`.  A kernel-checked `example` is not available, for the same reason as in
   C01/C09: `ElfDesc.wfZ` goes through `Con.encodeRaw` / `Con.decodeRaw`, which are compiled by well-founded
   recursion and do not reduce in the kernel.  Instead three concrete images (below) are evaluated at build time by
   `#guard` (the build fails if one of them does not satisfy the hypotheses), and the driver evaluates the same
   predicates on every description of the harness's `file` stream (Driver/C15.lean, kind `file`; the harness counts
   `file:<kind>:wf` and aborts the run if it finds none).  The contents-level parts (`needWf`, `defWf`, `versymWf`,
   `symsWf`) are kernel-checked above. -/

/-- null, `.dynstr`, the requirement section of `exNeed` (section 2, linked to 1, declaring 1), `.s` -/
def exNeedFile : ElfDesc :=
  exImage 64 true
    [{ name := [], nameOff := 0, ty := 0 },
     { name := nDynstr, nameOff := 1, ty := 3, body := some [0, 0x6c, 0x63, 0, 0x56, 0x31, 0] },
     { name := nVer, nameOff := 9, ty := 0x6ffffffe, link := 1, info := 1,
       body := some (assembleNeed true 0xAA 64 exNeed) },
     { name := nShstr, nameOff := 12, ty := 3, body := some exNames }] 3
#guard needFileWf Model.elfEnv exNeedFile 2 0xAA 64 exNeed 1 && imageFits exNeedFile 5 &&
  observable Model.elfEnv exNeedFile && exNeedFile.indexOfName nVer == some 2

/-- a 32-bit big-endian image: `.s`, the definition section of `exDef` (section 2, linked to 3) declaring two
    of its three records, `.dynstr`, and a later section that also bears the name `.v` -/
def exDefFile : ElfDesc :=
  exImage 32 false
    [{ name := [], nameOff := 0, ty := 0 },
     { name := nShstr, nameOff := 12, ty := 3, body := some exNames },
     { name := nVer, nameOff := 9, ty := 0x6ffffffd, link := 3, info := 2, body := some (assembleDef false 0 70 exDef) },
     { name := nDynstr, nameOff := 1, ty := 3, body := some [0, 0x61, 0, 0x62, 0] },
     { name := nVer, nameOff := 9, ty := 1, body := some [5, 6, 7] }] 1
#guard defFileWf Model.elfEnv exDefFile 2 0 70 exDef 2 && imageFits exDefFile 0 &&
  observable Model.elfEnv exDefFile && exDefFile.indexOfName nVer == some 4      -- by name: the later section

/-- `.dynstr`, `.dynsym` (32-byte entries, one more symbol than rows), the version-symbol table of `exRows`
    (4-byte entries and one byte of slack), `.s` -/
def exVersymFile : ElfDesc :=
  exImage 64 true
    [{ name := [], nameOff := 0, ty := 0 },
     { name := nDynstr, nameOff := 1, ty := 3, body := some [0, 0x66, 0] },
     { name := nDynsym, nameOff := 15, ty := 11, link := 1, info := 1, entsize := 32,
       body := some (assembleSyms 64 true 0 32 (exRows.map (·.1)) ++ List.replicate 32 7) },
     { name := nVer, nameOff := 9, ty := 0x6fffffff, link := 2, entsize := 4,
       body := some (assembleVersym true 0 4 (exRows.map (·.2)) ++ [9]) },
     { name := nShstr, nameOff := 12, ty := 3, body := some exNames }] 4
#guard versymFileWf Model.elfEnv exVersymFile 3 0 exRows [9] (List.replicate 32 7) && imageFits exVersymFile 0 &&
  observable Model.elfEnv exVersymFile && exVersymFile.indexOfName nVer == some 3

/-- a chain whose last record has displacement 0 is also the chain with that record repeated: the walk
    reads the same bytes again (generic: entry chains and auxiliary chains alike) -/
theorem chain_repeat_last {α : Type} (recAt : Nat → α → Bool) (next : α → Nat) (xs : List α) (x : α) (pos : Nat)
    (h : chainAt recAt next pos (xs ++ [x]) = true) (h0 : next x = 0) (k : Nat) :
    chainAt recAt next pos (xs ++ List.replicate (k + 1) x) = true :=
  chainAt_repeat_last recAt next xs x pos h h0 k

/-- `vn_next = 0` before the declared count (`sh_info`) is reached: every further turn yields that record
    again -/
theorem need_next_zero_early (env : Env) (c : ElfCfg) (data : Bytes) (off strOff : Nat) (es : List NeedEntry)
    (e : NeedEntry) (k : Nat) (hlen : data.length < 2 ^ 63)
    (h : needLayout c.le data strOff off (es ++ [e]) = true) (h0 : e.r.next = 0) :
    NeedObserved env (VerSec.mkNeed (Spec.elfStructs c) data off (es.length + (k + 1)) strOff)
      (es ++ List.replicate (k + 1) e) := by
  have := need_observed env c data off strOff (es ++ List.replicate (k + 1) e) hlen
    (chainAt_repeat_last _ _ es e off h h0 k)
  simpa using this

theorem def_next_zero_early (env : Env) (c : ElfCfg) (data : Bytes) (off strOff : Nat) (es : List DefEntry)
    (e : DefEntry) (k : Nat) (hlen : data.length < 2 ^ 63)
    (h : defLayout c.le data strOff off (es ++ [e]) = true) (h0 : e.r.next = 0) :
    DefObserved env (VerSec.mkDef (Spec.elfStructs c) data off (es.length + (k + 1)) strOff)
      (es ++ List.replicate (k + 1) e) := by
  have := def_observed env c data off strOff (es ++ List.replicate (k + 1) e) hlen
    (chainAt_repeat_last _ _ es e off h h0 k)
  simpa using this

/-- `vd_cnt` larger than the number of distinct auxiliaries, the last one with `vda_next = 0`: the entry is
    laid out with that auxiliary repeated up to the count (so every theorem above applies to it) -/
theorem def_cnt_exceeds_chain (le : Bool) (data : Bytes) (strOff pos : Nat) (e : DefEntry) (as : List DefAux)
    (a : DefAux) (k : Nat) (hf : e.r.fits = true) (hb : bytesAt data pos (e.r.enc le) = true)
    (hcnt : e.r.cnt = as.length + (k + 1)) (he : e.auxs = as ++ List.replicate (k + 1) a)
    (hch : chainAt (DefAux.at le data strOff) (·.r.next) (pos + e.r.aux) (as ++ [a]) = true) (h0 : a.r.next = 0) :
    DefEntry.at le data strOff pos e = true := by
  refine DefEntry.at_iff.mpr ⟨hf, hb, by rw [hcnt, he]; simp, by omega, ?_⟩
  rw [he]
  exact chainAt_repeat_last _ _ as a _ hch h0 k

theorem need_cnt_exceeds_chain (le : Bool) (data : Bytes) (strOff pos : Nat) (e : NeedEntry) (as : List NeedAux)
    (a : NeedAux) (k : Nat) (hf : e.r.fits = true) (hb : bytesAt data pos (e.r.enc le) = true)
    (hfile : gv_strAt data (strOff + e.r.file) e.file = true)
    (hcnt : e.r.cnt = as.length + (k + 1)) (he : e.auxs = as ++ List.replicate (k + 1) a)
    (hch : chainAt (NeedAux.at le data strOff) (·.r.next) (pos + e.r.aux) (as ++ [a]) = true) (h0 : a.r.next = 0) :
    NeedEntry.at le data strOff pos e = true := by
  refine NeedEntry.at_iff.mpr ⟨hf, hb, hfile, by rw [hcnt, he]; simp, by omega, ?_⟩
  rw [he]
  exact chainAt_repeat_last _ _ as a _ hch h0 k

/-- the section declares more records than are chained before the walk leaves the file (the next record
    does not fit before the end): the enumeration raises ELFParseError (after yielding the chained
    entries), `has_indexes()` raises it, and `get_version(i)` returns the carrier if one is chained — the
    walk never gets further — and raises otherwise -/
theorem need_truncated (env : Env) (c : ElfCfg) (data : Bytes) (off strOff : Nat) (es : List NeedEntry) (n : Nat)
    (hlen : data.length < 2 ^ 63) (h : needTruncated c.le data strOff off es n = true) :
    (VerSec.mkNeed (Spec.elfStructs c) data off n strOff).versions env = .error .elfParseError ∧
    (∀ i, (VerSec.mkNeed (Spec.elfStructs c) data off n strOff).needGetVersion env i
      = match needFind i es with
        | some ea => .ok (some (ea.1.r.obs, some ea.1.file, ea.2.r.obs, ea.2.name))
        | none => .error .elfParseError) ∧
    (VerSec.mkNeed (Spec.elfStructs c) data off n strOff).hasIndexes env = .error .elfParseError := by
  simp only [needTruncated, Bool.and_eq_true, decide_eq_true_eq] at h
  obtain ⟨⟨h, hn⟩, ht⟩ := h
  exact ⟨need_versions_truncated_chain env c data off n strOff hlen es off n h hn ht,
   fun i => needGetLoop_truncated env c data off n strOff hlen i es off n h hn ht,
   hasIndexesLoop_truncated env c data off n strOff hlen es off n false h hn ht⟩

theorem def_truncated (env : Env) (c : ElfCfg) (data : Bytes) (off strOff : Nat) (es : List DefEntry) (n : Nat)
    (hlen : data.length < 2 ^ 63) (h : defTruncated c.le data strOff off es n = true) :
    (VerSec.mkDef (Spec.elfStructs c) data off n strOff).versions env = .error .elfParseError ∧
    (∀ i, (VerSec.mkDef (Spec.elfStructs c) data off n strOff).defGetVersion env i
      = match defFind i es with
        | some e => .ok (some (e.r.obs, e.auxs.map DefAux.obs))
        | none => .error .elfParseError) := by
  simp only [defTruncated, Bool.and_eq_true, decide_eq_true_eq] at h
  obtain ⟨⟨h, hn⟩, ht⟩ := h
  exact ⟨def_versions_truncated_chain env c data off n strOff hlen es off n h hn ht,
   fun i => defGetLoop_truncated env c data off n strOff hlen i es off n h hn ht⟩

/-- an entry whose `vn_cnt` / `vd_cnt` exceeds its auxiliary chain, the chain leaving the file
    (`NeedEntry.atPartial`), reached after the complete entries `es`: the full enumeration raises
    ELFParseError -/
theorem need_aux_truncated (env : Env) (c : ElfCfg) (data : Bytes) (off strOff : Nat) (es : List NeedEntry)
    (e : NeedEntry) (n : Nat) (hlen : data.length < 2 ^ 63) (h : needLayout c.le data strOff off es = true)
    (hp : NeedEntry.atPartial c.le data strOff (chainEnd (fun e : NeedEntry => e.r.next) off es) e = true)
    (hn : es.length < n) :
    (VerSec.mkNeed (Spec.elfStructs c) data off n strOff).versions env = .error .elfParseError :=
  need_versions_aux_truncated env c data off n strOff hlen es e off n h (needPartial_of hp) hn

/-- `get_version(i)` on such a requirement section: the carrier if it is chained before the walk leaves the
    file (among the complete entries, or among the chained auxiliaries of the partial entry), ELFParseError
    otherwise -/
theorem need_aux_truncated_get (env : Env) (c : ElfCfg) (data : Bytes) (off strOff : Nat) (es : List NeedEntry)
    (e : NeedEntry) (n : Nat) (hlen : data.length < 2 ^ 63) (h : needLayout c.le data strOff off es = true)
    (hp : NeedEntry.atPartial c.le data strOff (chainEnd (fun e : NeedEntry => e.r.next) off es) e = true)
    (hn : es.length < n) (i : Nat) :
    (VerSec.mkNeed (Spec.elfStructs c) data off n strOff).needGetVersion env i
      = match needFind i es with
        | some ea => .ok (some (ea.1.r.obs, some ea.1.file, ea.2.r.obs, ea.2.name))
        | none =>
          match e.auxs.find? (fun a => a.r.other == i) with
          | some a => .ok (some (e.r.obs, some e.file, a.r.obs, a.name))
          | none => .error .elfParseError :=
  needGetLoop_aux_truncated env c data off n strOff hlen i es e off n h (needPartial_of hp) hn

theorem def_aux_truncated (env : Env) (c : ElfCfg) (data : Bytes) (off strOff : Nat) (es : List DefEntry)
    (e : DefEntry) (n : Nat) (hlen : data.length < 2 ^ 63) (h : defLayout c.le data strOff off es = true)
    (hp : DefEntry.atPartial c.le data strOff (chainEnd (fun e : DefEntry => e.r.next) off es) e = true)
    (hn : es.length < n) :
    (VerSec.mkDef (Spec.elfStructs c) data off n strOff).versions env = .error .elfParseError :=
  def_versions_aux_truncated env c data off n strOff hlen es e off n h (defPartial_of hp) hn

/-- non-vacuity: the requirement of `exNeed` with a displacement that leads out of the 71-byte file … -/
def exNeedT : List NeedEntry := exNeed.map fun e => { e with r := { e.r with next := 100 } }
def exNeedTData : Bytes := assembleNeed true 0xAA 64 exNeedT ++ [0, 0x6c, 0x63, 0, 0x56, 0x31, 0]
set_option maxRecDepth 100000 in
example : needTruncated true exNeedTData 64 0 exNeedT 2 = true := by decide +kernel
/-- … the same entry declaring three auxiliaries of which two are chained, the third position (the second
    auxiliary's `vna_next = 60` leads to 44 + 60 = 104) beyond the end … -/
def exNeedP : NeedEntry :=
  { r := { version := 1, cnt := 3, file := 1, aux := 20, next := 0 }, file := [0x6c, 0x63],
    auxs := [{ r := { hash := 7, flags := 0, other := 0x8002, name := 4, next := 24 }, name := [0x56, 0x31] },
             { r := { hash := 9, flags := 2, other := 3, name := 0, next := 60 }, name := [] }] }
def exNeedPData : Bytes :=
  assembleNeed true 0xAA 64 [exNeedP] ++ [0, 0x6c, 0x63, 0, 0x56, 0x31, 0]
set_option maxRecDepth 100000 in
example : NeedEntry.atPartial true exNeedPData 64 0 exNeedP = true := by decide +kernel
/-- … and `exDef` is its first entry followed by a record with `vd_next = 0` read twice -/
example : exDef = [exDef[0]] ++ List.replicate 2 exDef[1] ∧ exDef[1].r.next = 0 := by decide +kernel

end files

end PyElf.Props.C15
