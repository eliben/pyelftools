/-
  C01 — ELF file, section and program headers are decoded exactly as encoded.

  `d` is an abstract ELF description (Spec/ElfImage.lean);
  `Layout d bytes` says the byte string carries it (header at 0, tables and bodies
  wherever the description puts them — nothing else about `bytes` is constrained);
  `d.observe env` is what the property says must be reported.  The model functions
  are the mirror of elffile.py (Model/ElfFile.lean), instantiated with the Spec
  bundles; the tie theorems prove these equal to what /repo builds (the structures: Props/TieC01.lean; the factory
  and the machine classification the driver runs: Props/TieElfFile.lean).

  PROVED, for every description inside `wfZ` (⊇ `wf`) and every byte string that carries it (`x_z` is the theorem
  for `wfZ`, `x` its instance for `wf`):
  construction and the decoded file header (`open_exact[_z]`), both counts through the
  extended-numbering escapes (`counts_exact[_z]`), every section by index and in file order — kind,
  name, every header field — (`get_section_exact[_z]`, `sections_exact[_z]`), every segment
  (`segments_exact[_z]`), lookups by name through the reader's own functions
  (`get_section_index_exact[_z]`, `has_section_exact[_z]`, `get_section_by_name_exact[_z]`, with
  `lookup_last` / `lookup_absent` saying what the expected index is), codes (`codes_named`,
  `codes_unnamed`), the machine factorisation (`machine_factor`), the assembler (`assemble_layout[_z]`);
  the hypotheses are met by a concrete non-trivial description (the `example` over `Ex.exD`).  Files WITHOUT a name
  table (`e_shstrndx` = SHN_UNDEF) are inside `wf` / `wfZ`: every section is reported with the empty
  name (`no_name_table_names`); for the shape of a Linux core dump with ≥ 0xffff segments there is
  in addition `extnum_only`, which asks for nothing but that shape.

  WHAT `wf` / `wfZ` EXCLUDE, clause by clause, and whether the property's quantifier ("every
  well-formed ELF image …") covers it:
  * `cls ∈ {32,64}`, `cfgOk`, `machineClasses.contains`: no image is excluded (they tie the redundant
    parameters of the description to its header; every `e_machine` falls in a class: `machine_factor`).
  * `regions = some _`: every field fits its width — necessary for the image to exist.
  * `regionsDisjoint`: the ELF header, both tables and the DESCRIBED bodies do not overlap.  `body` is
    optional: only the name table, a compression header, an attributes / hash section's on-sight
    table need describing, so images whose data sections overlap each other (or lie beyond the end of
    the file, or inside a segment …) are covered by leaving those bodies undescribed — `Layout`
    constrains nothing else (the example's section 4 overlaps sections 1 and 2).  Overlap between the
    header, the tables and the bytes the reader must read is not a well-formed image (gABI:
    "Sections in a file may not overlap").  The exactness theorems themselves never use disjointness
    (only `assemble_layout` does).
  * `escapesOk`: the counts are where the header says (section 0 exists when an escape is used) —
    gABI's own rule; the escapes may be used although the values would fit (`xShnum` …).
  * `namesOk`, reachable name offsets: the names sit NUL-terminated in the body of section
    `e_shstrndx`.  NOT excluded: files with sections and `e_shstrndx` = SHN_UNDEF ("the file has no
    section name string table", gABI; the kernel's core dumps with ≥ 0xffff segments — which is how
    the "≥ 0xffff segments" of the quantifier occur in practice — are written so): there is nothing to
    resolve, every section is nameless whatever its `sh_name` says, so the description gives every
    section the empty name (`namesOk` asks for that; no image is excluded by it).  Index 0 is the
    reserved null section: a description whose section 0 "holds the names" does not describe a file
    with names.  (Taking section 0 for the name table reports bytes of the ELF header as every name:
    finding `no-name-table`, fixes/C01-no-name-table.patch; the check generates such files on every
    run.)  Names that are
    not valid UTF-8 are NOT excluded: the theorems hold for them (names are bytes here).  The library's
    `str` API reports them decoded with U+FFFD replacement; that decoding is modelled separately
    (Model/Utf8.lean, compared with CPython's decoder on every run) and applied by the driver, so the
    correspondence check covers such files; only the direct property comparison sets them aside.
  * entry sizes: `≥` the structure (equal or LARGER, as the property says), and only when the table is
    non-empty.
  * `shoff + n·shentsize < 2^63`, `n, m < 2^32`: no file is that large.  (No proof uses `n, m < 2^32`.)
  * `0 < shoff` / `0 < phoff` for non-empty tables: offset 0 means "no table" (gABI).  (`0 < phoff` is used by no
    proof: `num_segments()` does not look at `e_phoff`.)
  * `shstrndx < n`; `n = 0 → shstrndx = 0`: a file without section headers has no name table, so
    gABI wants SHN_UNDEF there; an image with `e_shoff` = 0 and `e_shstrndx` ≠ 0 is not well formed
    (the library reads a "section header" at `e_shstrndx · e_shentsize` from such a file).
  * `secOkZ`: the links the constructors follow designate tables of the type gABI's sh_link table /
    the GNU and Sun documents prescribe (string table for symbol tables, verneed, verdef, dynamic;
    symbol table for versym, syminfo, hash, GNU hash), `sh_entsize` is the entry size for REL / RELA /
    RELR and divides `sh_size` for symbol tables, attribute sections begin with 'A', hash tables fit
    their section, a SHF_COMPRESSED section holds a full compression header.  An out-of-range or
    ill-typed `sh_link` in one of these kinds is not a well-formed image; for every other kind
    `sh_link` and all other fields are arbitrary.

  The statements speak of (proof side): `specSF`, `specMC` (Proofs/ElfTables.lean) — the Spec's struct
  factory and machine classification as functions, equal to `specStructs` / `specMachineClass` here;
  `Ex.exEnv`, `Ex.exD`, `Ex.exC` (Proofs/ElfExample.lean) — the two example descriptions and their
  decoding environment; `opened` / `opened_obs` / `opened_eq` also speak of
  `Setup` (Proofs/ElfSections.lean) and `C15.fileOf` (Proofs/ElfView.lean).  Everything else in the statements is
  Spec/ElfImage.lean, Spec/ElfNoNames.lean and Model/ElfFile.lean, Model/ElfLookup.lean.
-/
import PyElf.Model.ElfFile
import PyElf.Spec.ElfImage
import PyElf.Proofs.ElfView
import PyElf.Model.ElfLookup
import PyElf.Proofs.ElfLookup
import PyElf.Proofs.ElfExample
import PyElf.Proofs.ElfExtnum
import PyElf.Proofs.ElfNoSections
import PyElf.Props.TieC01
namespace PyElf.Props.C01
open PyElf PyElf.Spec PyElf.Model PyElf.Proofs

def specStructs : ElfCfg → Option ElfStructs := fun c => some (elfStructs c)
def specMachineClass : Val → String
  | .str m => ((machineClass.find? (·.1 == m)).map (·.2)).getD "default"
  | _ => "default"

theorem specStructs_eq : specStructs = specSF := rfl
theorem specMachineClass_eq : specMachineClass = specMC := by
  funext v; cases v <;> rfl

/-! `Proofs.opened` / `opened_obs` / `opened_eq` (Proofs/ElfView.lean) with the factory under the names the statements use -/

theorem opened {env : Env} {d : ElfDesc} {bytes : Bytes} (hwf : d.wfZ env = true) (hl : Layout d bytes) :
    ∃ hdr st, Setup env d bytes hdr st ∧ d.S.Elf_Ehdr.decodeRaw env [] d.ehdrRaw = .ok hdr ∧
      openElf env specStructs specMachineClass bytes = .ok (C15.fileOf d bytes hdr st) :=
  specStructs_eq ▸ specMachineClass_eq ▸ Proofs.opened hwf hl

theorem opened_obs {env : Env} {d : ElfDesc} {bytes : Bytes} {obs : ElfObs} (hwf : d.wfZ env = true) (hl : Layout d bytes)
    (ho : d.observe env = .ok obs) :
    ∃ st, Setup env d bytes obs.header st ∧
      openElf env specStructs specMachineClass bytes = .ok (C15.fileOf d bytes obs.header st) :=
  specStructs_eq ▸ specMachineClass_eq ▸ Proofs.opened_obs hwf hl ho

theorem opened_eq {env : Env} {d : ElfDesc} {bytes : Bytes} {f : ElfFile} (hwf : d.wfZ env = true) (hl : Layout d bytes)
    (hf : openElf env specStructs specMachineClass bytes = .ok f) :
    ∃ hdr st, Setup env d bytes hdr st ∧ f = C15.fileOf d bytes hdr st :=
  Proofs.opened_eq hwf hl (specStructs_eq ▸ specMachineClass_eq ▸ hf)

/-! `ElfDesc.wfZ` (Spec/ElfImage.lean) is `wf` with the SHF_COMPRESSED exclusion relaxed: a section may carry the flag when
  its body begins with a complete compression header for the class (`Section.__init__` reads the
  `Elf_Chdr` when it constructs a flagged section, and nothing else of the body).  The theorems are
  proved for `wfZ`; those for `wf` are their instances (`wf_imp_wfZ`).  The contents of compressed
  sections are C02's / C11's subject. -/

theorem wf_imp_wfZ (env : Env) (d : ElfDesc) (h : d.wf env = true) : d.wfZ env = true :=
  Proofs.wf_imp_wfZ h

theorem assemble_layout_z (env : Env) (d : ElfDesc) (tail : Nat) (bytes : Bytes)
    (hwf : d.wfZ env = true) (h : d.assemble tail = some bytes) : Layout d bytes :=
  assemble_layout_gen (wfZ_facts hwf) h

theorem open_exact_z (env : Env) (d : ElfDesc) (bytes : Bytes) (obs : ElfObs)
    (hwf : d.wfZ env = true) (hl : Layout d bytes) (ho : d.observe env = .ok obs) :
    ∃ f, openElf env specStructs specMachineClass bytes = .ok f ∧
      f.data = bytes ∧ f.cls = d.cls ∧ f.le = d.le ∧ f.S = d.S ∧ f.header = obs.header := by
  obtain ⟨st, -, h⟩ := opened_obs hwf hl ho
  exact ⟨_, h, rfl, rfl, rfl, rfl, rfl⟩

theorem counts_exact_z (env : Env) (d : ElfDesc) (bytes : Bytes) (obs : ElfObs) (f : ElfFile)
    (hwf : d.wfZ env = true) (hl : Layout d bytes) (ho : d.observe env = .ok obs)
    (hf : openElf env specStructs specMachineClass bytes = .ok f) :
    numSections env f.S bytes f.header = .ok d.sections.length ∧
    numSegments env f.S bytes f.header f.shstr = .ok d.segments.length := by
  obtain ⟨hdr, st, X, rfl⟩ := opened_eq hwf hl hf
  exact ⟨X.numSections, X.numSegments⟩

theorem get_section_exact_z (env : Env) (d : ElfDesc) (bytes : Bytes) (obs : ElfObs) (f : ElfFile)
    (hwf : d.wfZ env = true) (hl : Layout d bytes) (ho : d.observe env = .ok obs)
    (hf : openElf env specStructs specMachineClass bytes = .ok f)
    (i : Nat) (hi : i < d.sections.length) :
    (getSection env f.S bytes f.header f.shstr i).toOption = obs.sections[i]? := by
  obtain ⟨hdr, st, X, rfl⟩ := opened_eq hwf hl hf
  have hi' : i < obs.sections.length := (observe_lengths ho).1 ▸ hi
  rw [List.getElem?_eq_getElem hi']
  exact congrArg Except.toOption (getSection_obs X ho hi hi')

theorem sections_exact_z (env : Env) (d : ElfDesc) (bytes : Bytes) (obs : ElfObs) (f : ElfFile)
    (hwf : d.wfZ env = true) (hl : Layout d bytes) (ho : d.observe env = .ok obs)
    (hf : openElf env specStructs specMachineClass bytes = .ok f) :
    iterSections env f.S bytes f.header f.shstr = .ok obs.sections := by
  obtain ⟨hdr, st, X, rfl⟩ := opened_eq hwf hl hf
  exact X.iterSections ho

theorem segments_exact_z (env : Env) (d : ElfDesc) (bytes : Bytes) (obs : ElfObs) (f : ElfFile)
    (hwf : d.wfZ env = true) (hl : Layout d bytes) (ho : d.observe env = .ok obs)
    (hf : openElf env specStructs specMachineClass bytes = .ok f) :
    iterSegments env f.S bytes f.header f.shstr = .ok obs.segments := by
  obtain ⟨hdr, st, X, rfl⟩ := opened_eq hwf hl hf
  exact X.iterSegments ho

/-- the assembler produces a layout of the description (non-vacuity of `Layout`, and the
    generator the correspondence check uses) -/
theorem assemble_layout (env : Env) (d : ElfDesc) (tail : Nat) (bytes : Bytes)
    (hwf : d.wf env = true) (h : d.assemble tail = some bytes) : Layout d bytes :=
  assemble_layout_z env d tail bytes (wf_imp_wfZ env d hwf) h

theorem open_exact (env : Env) (d : ElfDesc) (bytes : Bytes) (obs : ElfObs)
    (hwf : d.wf env = true) (hl : Layout d bytes) (ho : d.observe env = .ok obs) :
    ∃ f, openElf env specStructs specMachineClass bytes = .ok f ∧
      f.data = bytes ∧ f.cls = d.cls ∧ f.le = d.le ∧ f.S = d.S ∧ f.header = obs.header :=
  open_exact_z env d bytes obs (wf_imp_wfZ env d hwf) hl ho

theorem counts_exact (env : Env) (d : ElfDesc) (bytes : Bytes) (obs : ElfObs) (f : ElfFile)
    (hwf : d.wf env = true) (hl : Layout d bytes) (ho : d.observe env = .ok obs)
    (hf : openElf env specStructs specMachineClass bytes = .ok f) :
    numSections env f.S bytes f.header = .ok d.sections.length ∧
    numSegments env f.S bytes f.header f.shstr = .ok d.segments.length :=
  counts_exact_z env d bytes obs f (wf_imp_wfZ env d hwf) hl ho hf

theorem get_section_exact (env : Env) (d : ElfDesc) (bytes : Bytes) (obs : ElfObs) (f : ElfFile)
    (hwf : d.wf env = true) (hl : Layout d bytes) (ho : d.observe env = .ok obs)
    (hf : openElf env specStructs specMachineClass bytes = .ok f)
    (i : Nat) (hi : i < d.sections.length) :
    (getSection env f.S bytes f.header f.shstr i).toOption = obs.sections[i]? :=
  get_section_exact_z env d bytes obs f (wf_imp_wfZ env d hwf) hl ho hf i hi

theorem sections_exact (env : Env) (d : ElfDesc) (bytes : Bytes) (obs : ElfObs) (f : ElfFile)
    (hwf : d.wf env = true) (hl : Layout d bytes) (ho : d.observe env = .ok obs)
    (hf : openElf env specStructs specMachineClass bytes = .ok f) :
    iterSections env f.S bytes f.header f.shstr = .ok obs.sections :=
  sections_exact_z env d bytes obs f (wf_imp_wfZ env d hwf) hl ho hf

theorem segments_exact (env : Env) (d : ElfDesc) (bytes : Bytes) (obs : ElfObs) (f : ElfFile)
    (hwf : d.wf env = true) (hl : Layout d bytes) (ho : d.observe env = .ok obs)
    (hf : openElf env specStructs specMachineClass bytes = .ok f) :
    iterSegments env f.S bytes f.header f.shstr = .ok obs.segments :=
  segments_exact_z env d bytes obs f (wf_imp_wfZ env d hwf) hl ho hf

theorem lookup_exact (env : Env) (d : ElfDesc) (obs : ElfObs) (ho : d.observe env = .ok obs) (name : Bytes) :
    ((sectionNameMap obs.sections).find? (·.1 == name)).map (·.2) = d.indexOfName name :=
  lookup_exact_aux ho name

/-- codes with a standard name are reported by that name and all others as the raw integer -/
theorem codes_named (env : Env) (sub : Con) (table : String) (ctx : Fields) (n : Int) (s : String)
    (h : env.enumDecode table n = some s) :
    Con.decodeRaw env (.enum sub table true) ctx (.int n) = .ok (.str s) := by
  simp [Con.decodeRaw, h]

theorem codes_unnamed (env : Env) (sub : Con) (table : String) (ctx : Fields) (n : Int)
    (h : env.enumDecode table n = none) :
    Con.decodeRaw env (.enum sub table true) ctx (.int n) = .ok (.int n) := by
  simp [Con.decodeRaw, h]

/-- every `e_machine` name falls in one of the behaviour classes the Spec defines structures for (the class is
    all a struct bundle sees of the machine: `ElfCfg.mclass`); the configuration `c` plays no part -/
theorem machine_factor (c : ElfCfg) (hc : c ∈ allElfCfgs) (m : String) :
    specMachineClass (.str m) ∈ machineClasses := by
  have _ := hc
  exact machine_factor_aux m

/-! `lookup_exact` speaks about the name map of the OBSERVATION; `get_section_index_exact[_z]`, `has_section_exact[_z]`,
    `get_section_by_name_exact[_z]` speak about the reader's own functions (`get_section_index`, `has_section`,
    `get_section_by_name`, mirrored in Model/ElfLookup.lean) run on the bytes: "lookups by section name or index agree
    with the enumeration". -/

/-- `get_section_index(name)`: the index of the last section bearing the name, `None` when absent -/
theorem get_section_index_exact_z (env : Env) (d : ElfDesc) (bytes : Bytes) (obs : ElfObs) (f : ElfFile)
    (hwf : d.wfZ env = true) (hl : Layout d bytes) (ho : d.observe env = .ok obs)
    (hf : openElf env specStructs specMachineClass bytes = .ok f) (name : Bytes) :
    Model.C01.getSectionIndex env f.S bytes f.header f.shstr name = .ok (d.indexOfName name) := by
  obtain ⟨hdr, st, X, rfl⟩ := opened_eq hwf hl hf
  exact Proofs.C01.getSectionIndex_gen X ho name

theorem has_section_exact_z (env : Env) (d : ElfDesc) (bytes : Bytes) (obs : ElfObs) (f : ElfFile)
    (hwf : d.wfZ env = true) (hl : Layout d bytes) (ho : d.observe env = .ok obs)
    (hf : openElf env specStructs specMachineClass bytes = .ok f) (name : Bytes) :
    Model.C01.hasSection env f.S bytes f.header f.shstr name = .ok (d.indexOfName name).isSome := by
  obtain ⟨hdr, st, X, rfl⟩ := opened_eq hwf hl hf
  exact Proofs.C01.hasSection_gen X ho name

/-- `get_section_by_name(name)`: the section the enumeration reports at that index, `None` when absent -/
theorem get_section_by_name_exact_z (env : Env) (d : ElfDesc) (bytes : Bytes) (obs : ElfObs) (f : ElfFile)
    (hwf : d.wfZ env = true) (hl : Layout d bytes) (ho : d.observe env = .ok obs)
    (hf : openElf env specStructs specMachineClass bytes = .ok f) (name : Bytes) :
    Model.C01.getSectionByName env f.S bytes f.header f.shstr name
      = .ok (match d.indexOfName name with
             | none => none
             | some i => obs.sections[i]?) := by
  obtain ⟨hdr, st, X, rfl⟩ := opened_eq hwf hl hf
  exact Proofs.C01.getSectionByName_gen X ho name

theorem get_section_index_exact (env : Env) (d : ElfDesc) (bytes : Bytes) (obs : ElfObs) (f : ElfFile)
    (hwf : d.wf env = true) (hl : Layout d bytes) (ho : d.observe env = .ok obs)
    (hf : openElf env specStructs specMachineClass bytes = .ok f) (name : Bytes) :
    Model.C01.getSectionIndex env f.S bytes f.header f.shstr name = .ok (d.indexOfName name) :=
  get_section_index_exact_z env d bytes obs f (wf_imp_wfZ env d hwf) hl ho hf name

theorem has_section_exact (env : Env) (d : ElfDesc) (bytes : Bytes) (obs : ElfObs) (f : ElfFile)
    (hwf : d.wf env = true) (hl : Layout d bytes) (ho : d.observe env = .ok obs)
    (hf : openElf env specStructs specMachineClass bytes = .ok f) (name : Bytes) :
    Model.C01.hasSection env f.S bytes f.header f.shstr name = .ok (d.indexOfName name).isSome :=
  has_section_exact_z env d bytes obs f (wf_imp_wfZ env d hwf) hl ho hf name

theorem get_section_by_name_exact (env : Env) (d : ElfDesc) (bytes : Bytes) (obs : ElfObs) (f : ElfFile)
    (hwf : d.wf env = true) (hl : Layout d bytes) (ho : d.observe env = .ok obs)
    (hf : openElf env specStructs specMachineClass bytes = .ok f) (name : Bytes) :
    Model.C01.getSectionByName env f.S bytes f.header f.shstr name
      = .ok (match d.indexOfName name with
             | none => none
             | some i => obs.sections[i]?) :=
  get_section_by_name_exact_z env d bytes obs f (wf_imp_wfZ env d hwf) hl ho hf name

/-- what the description's `indexOfName` means: the LAST section bearing the name (Python dict overwrite) -/
theorem lookup_last (d : ElfDesc) (name : Bytes) (i : Nat) (h : d.indexOfName name = some i) :
    ∃ hi : i < d.sections.length, (d.sections[i]).name = name ∧
      ∀ j (hj : j < d.sections.length), i < j → (d.sections[j]).name ≠ name :=
  Proofs.C01.indexOfName_some h

theorem lookup_absent (d : ElfDesc) (name : Bytes) (h : d.indexOfName name = none) :
    ∀ s ∈ d.sections, s.name ≠ name :=
  Proofs.C01.indexOfName_none h

/-! Files without a section-name string table (`e_shstrndx` = SHN_UNDEF) are inside `wf` / `wfZ` (their sections are
    nameless), so every theorem of this file applies to them; `no_name_table_names` / `no_name_table_lookup` spell out
    what that means (the name map has the single key `''`, which designates the last section).

    `extnum_only`: for the shape of such files that occurs in practice — what the Linux kernel writes for a core dump
    with ≥ 0xffff segments: ONE section header, SHT_NULL, carrying the escapes (`Spec.C01.extnumOnly`) — nothing but that
    shape is needed (no hypothesis on the placement of the regions, on the machine class, on `sh_name`). -/

theorem no_name_table_names (env : Env) (d : ElfDesc) (bytes : Bytes) (obs : ElfObs) (f : ElfFile)
    (hwf : d.wfZ env = true) (hl : Layout d bytes) (ho : d.observe env = .ok obs)
    (hf : openElf env specStructs specMachineClass bytes = .ok f) (hz : d.shstrndx = 0) :
    ∃ secs, iterSections env f.S bytes f.header f.shstr = .ok secs ∧ secs.length = d.sections.length ∧
      ∀ s ∈ secs, s.2.1 = [] := by
  refine ⟨obs.sections, sections_exact_z env d bytes obs f hwf hl ho hf, (Proofs.observe_lengths ho).1, ?_⟩
  intro s hs
  have hnames := Proofs.observe_names ho
  have hmem : s.2.1 ∈ obs.sections.map (·.2.1) := List.mem_map.2 ⟨s, hs, rfl⟩
  rw [hnames] at hmem
  obtain ⟨sd, hsd, he⟩ := List.mem_map.1 hmem
  rw [← he]
  exact Proofs.names_empty (wfZ_facts hwf).names hz sd hsd

/-- … and its lookups: the empty name designates the last section, every other name nothing -/
theorem no_name_table_lookup (env : Env) (d : ElfDesc) (hwf : d.wfZ env = true) (hz : d.shstrndx = 0)
    (name : Bytes) :
    d.indexOfName name = if name = [] ∧ 0 < d.sections.length then some (d.sections.length - 1) else none := by
  have hall := Proofs.names_empty (wfZ_facts hwf).names hz
  cases h : d.indexOfName name with
  | none =>
    have habs := lookup_absent d name h
    split
    · rename_i hc
      obtain ⟨rfl, hpos⟩ := hc
      exact absurd (hall _ (List.getElem_mem hpos)) (habs _ (List.getElem_mem hpos))
    · rfl
  | some i =>
    obtain ⟨hi, hname, hlast⟩ := lookup_last d name i h
    have hn : name = [] := by rw [← hname]; exact hall _ (List.getElem_mem hi)
    have hil : i = d.sections.length - 1 := by
      by_cases hlt : i < d.sections.length - 1
      · exact absurd (by rw [hn]; exact hall _ (List.getElem_mem (by omega)))
          (hlast (d.sections.length - 1) (by omega) hlt)
      · omega
    rw [if_pos ⟨hn, by omega⟩, hil]

open PyElf.Proofs.C01 in
theorem extnum_only (env : Env) (d : ElfDesc) (bytes : Bytes) (obs : ElfObs)
    (hx : Spec.C01.extnumOnly env d = true) (hl : Layout d bytes) (ho : d.observe env = .ok obs) :
    ∃ f s0, openElf env specStructs specMachineClass bytes = .ok f ∧
      f.data = bytes ∧ f.cls = d.cls ∧ f.le = d.le ∧ f.S = d.S ∧ f.header = obs.header ∧
      d.sections = [s0] ∧
      numSections env f.S bytes f.header = .ok 1 ∧
      numSegments env f.S bytes f.header f.shstr = .ok d.segments.length ∧
      iterSegments env f.S bytes f.header f.shstr = .ok obs.segments ∧
      iterSections env f.S bytes f.header f.shstr = .ok (obs.sections.map fun s => (s.1, [], s.2.2)) ∧
      obs.sections.map (·.1) = ["NullSection"] := by
  rw [specStructs_eq, specMachineClass_eq]
  obtain ⟨s0, h0, X⟩ := xfacts_of hx
  have hL := layout_facts hl
  obtain ⟨hd, hsecs, hsegs⟩ := observe_inv ho
  obtain ⟨eh, he, -⟩ := hL.ehdr
  have hF := hdr_facts he hd
  have hobs : obs.sections = [("NullSection", s0.name, h0)] := by
    rw [X.one] at hsecs
    simp only [List.mapM_cons, List.mapM_nil, obsSec, X.dec0, X.null0, bind, Except.bind, pure, Except.pure,
      Except.ok.injEq] at hsecs
    rw [← hsecs]
    rfl
  refine ⟨_, s0, x_openElf X hL hd, rfl, rfl, rfl, rfl, rfl, X.one, x_numSections X hL hF,
    x_numSegments X hL hF, ?_, ?_, ?_⟩
  · exact iterSegments_of X.phent X.phbound hL hF (x_numSections X hL hF) (x_numSegments X hL hF) (x_find X hL hF) hsegs
  · unfold iterSections
    rw [x_numSections X hL hF]
    simp only [bind, Except.bind]
    have : List.range 1 = [0] := rfl
    rw [this, hobs]
    simp only [List.mapM_cons, List.mapM_nil, x_getSection0 X hL hF, bind, Except.bind, pure, Except.pure,
      List.map_cons, List.map_nil]
  · rw [hobs]; rfl

/-- non-vacuity: a core file of that shape (`Proofs/ElfExample.lean` `exC`: ET_CORE, `e_shnum` = 1,
    `e_shstrndx` = 0, PN_XNUM with the count 2 in `sh_info[0]`, a PT_NOTE and a PT_LOAD segment); it is
    also inside `wf`, so it meets the hypotheses of every other theorem of this file as well -/
example : ∃ bytes obs, Spec.C01.extnumOnly Proofs.C01.Ex.exEnv Proofs.C01.Ex.exC = true ∧
    Proofs.C01.Ex.exC.wf Proofs.C01.Ex.exEnv = true ∧ Proofs.C01.Ex.exC.shstrndx = 0 ∧
    Layout Proofs.C01.Ex.exC bytes ∧
    Proofs.C01.Ex.exC.observe Proofs.C01.Ex.exEnv = .ok obs ∧ obs.segments.length = 2 := by
  obtain ⟨bytes, hl⟩ := Proofs.C01.Ex.exC_layout
  obtain ⟨obs, ho⟩ := Proofs.C01.Ex.exC_observes
  refine ⟨bytes, obs, Proofs.C01.Ex.exC_extnumOnly, Proofs.C01.Ex.exC_wf, rfl, hl, ho, ?_⟩
  exact (Proofs.observe_lengths ho).2

/-! Non-vacuity of the hypotheses (`wfZ`, `Layout`, `observe`, a successful `openElf`).  `Proofs/ElfExample.lean` `exD`:
  an ELF32 LSB description with five sections and one segment — section 0
  carries the section count and the name-table index by the extended-numbering escapes although
  they would fit, section 1 is SHF_COMPRESSED with a bare `Elf32_Chdr` as body (so the description is
  inside `wfZ` and outside `wf`), sections 1 and 2 bear the same name, section 3 is a symbol table
  linked to the name table, section 4 overlaps sections 1 and 2 in the file (its bytes are not
  described), `e_shentsize` = 48 > 40, `e_phentsize` = 40 > 32, `e_machine` is an unnamed code.  The
  assembler lays it out, so every hypothesis of every `_z` theorem of this file is met by it. -/
example : ∃ bytes obs f,
    Proofs.C01.Ex.exD.wfZ Proofs.C01.Ex.exEnv = true ∧ Proofs.C01.Ex.exD.wf Proofs.C01.Ex.exEnv = false ∧
    Layout Proofs.C01.Ex.exD bytes ∧ Proofs.C01.Ex.exD.observe Proofs.C01.Ex.exEnv = .ok obs ∧
    openElf Proofs.C01.Ex.exEnv specStructs specMachineClass bytes = .ok f ∧
    iterSections Proofs.C01.Ex.exEnv f.S bytes f.header f.shstr = .ok obs.sections ∧
    Model.C01.getSectionIndex Proofs.C01.Ex.exEnv f.S bytes f.header f.shstr [0x2e, 0x61] = .ok (some 2) := by
  obtain ⟨bytes, hb⟩ := Proofs.C01.Ex.exD_assembles
  obtain ⟨obs, ho⟩ := Proofs.C01.Ex.exD_observes
  have hwf := Proofs.C01.Ex.exD_wfZ
  have hl := assemble_layout_z _ _ 0 bytes hwf hb
  obtain ⟨f, hf, -⟩ := open_exact_z _ _ bytes obs hwf hl ho
  refine ⟨bytes, obs, f, hwf, Proofs.C01.Ex.exD_not_wf, hl, ho, hf, sections_exact_z _ _ bytes obs f hwf hl ho hf, ?_⟩
  rw [get_section_index_exact_z _ _ bytes obs f hwf hl ho hf, Proofs.C01.Ex.exD_lookup]

end PyElf.Props.C01
