/-
  C12 tie: the operand-parser dispatch table and the name tables the library builds are the
  operation table of the standard (Spec.opRows), for every configuration.
  Applied in Props/C12: `sig_table_eq_spec`, `opcode2name_eq_spec`, `name2opcode_sub_spec`; `name2opcode_length` only alarms.
-/
import PyElf.Gen.Extra_C12
import PyElf.Spec.DwarfExpr
namespace PyElf.Props.TieC12
open PyElf PyElf.Spec

/-- for every (byte order, DWARF format, address size, version) the
    dispatch table `_init_dispatch_table(structs)` has exactly the opcodes of the standard's operation
    table and, for each, the operand encodings the standard gives (widths, signedness, byte order). -/
theorem sig_table_eq_spec :
    Gen.opDispatch = Spec.allDwarfCfgs.map (fun c => (c, Spec.opTable c)) := by rfl

/-- the reverse name table is the standard's opcode → name column plus the `DW_OP_hi_user` range marker -/
theorem opcode2name_eq_spec :
    Gen.opOpcode2Name = Spec.opNames ++ [(0xff, "DW_OP_hi_user")] := by rfl

/-- every entry of the forward name table is a row of the standard's table (same name for that opcode)
    or one of the two range markers; together with `names_bijective` (Props/C12) the forward table is
    exactly the standard's name column plus the markers -/
theorem name2opcode_sub_spec :
    ∀ e ∈ Gen.opName2Opcode, Spec.opNames.lookup e.2 = some e.1 ∨ e ∈ Spec.opRangeMarkers := by decide +kernel

theorem name2opcode_length : Gen.opName2Opcode.length = Spec.opNames.length + Spec.opRangeMarkers.length := by decide +kernel

end PyElf.Props.TieC12
