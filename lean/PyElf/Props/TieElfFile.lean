/-
  The tie for whole files (C03, C14 and C20 open files the same way; the bundle list itself is in Props/TieElf):
  the struct factory and the machine classification the DRIVER runs the file-level models with
  (`Model.elfStructsFor`, `Model.machineClassOf`: look-ups in the bundles and the table regenerated from the library
  on this run) open every byte string exactly as the standards-side factory the theorems are stated with
  (`specSF`, `specMC` of Proofs/ElfTables).
-/
import PyElf.Model.Env
import PyElf.Model.ElfFile
import PyElf.Spec.ElfStructs
import PyElf.Proofs.ElfTables
import PyElf.Proofs.ElfErrors
import PyElf.Props.TieElf
namespace PyElf.Props.TieElfFile
open PyElf PyElf.Spec PyElf.Model PyElf.Proofs

theorem factory_at {c : ElfCfg} (h : c ∈ allElfCfgs) : Model.elfStructsFor c = specSF c := TieElf.gen_structs c h

theorem machineClassOf_eq : Model.machineClassOf = specMC := by
  funext v
  cases v <;> try rfl
  rename_i m
  simp only [Model.machineClassOf, specMC, TieElf.machine_class_eq_spec]
  cases machineClass.find? (fun x => x.1 == m) <;> rfl

theorem cfg_mem (le : Bool) (cls : Nat) (m : String) (sol core : Bool) (hc : cls = 32 ∨ cls = 64)
    (hm : m ∈ machineClasses) : (⟨le, cls, m, sol, core⟩ : ElfCfg) ∈ allElfCfgs := by
  simp only [allElfCfgs, List.mem_flatMap, List.mem_map]
  refine ⟨m, hm, le, by cases le <;> simp, cls, by rcases hc with h | h <;> simp [h], sol, by cases sol <;> simp,
    core, by cases core <;> simp, rfl⟩

theorem specMC_mem (v : Val) : specMC v ∈ machineClasses := by
  cases v <;> first | exact machine_factor_aux _ | simp [specMC, machineClasses]

/-- `ELFFile(stream)` with the regenerated factory = with the Spec's, on every byte string -/
theorem openElf_generated (env : Env) (data : Bytes) :
    openElf env Model.elfStructsFor Model.machineClassOf data = openElf env specSF specMC data := by
  rw [machineClassOf_eq]
  unfold openElf
  cases hid : identify data with
  | error e => rfl
  | ok p =>
    obtain ⟨cls, le⟩ := p
    have hc := ElfErrors.identify_ok hid
    simp only [bind, Except.bind]
    rw [factory_at (cfg_mem le cls "default" false false hc (by simp [machineClasses]))]
    simp only [specSF]
    cases hp : structParseAt env (elfStructs ⟨le, cls, "default", false, false⟩).Elf_Ehdr data 0 with
    | error e => rfl
    | ok r =>
      obtain ⟨hdr, q⟩ := r
      simp only
      cases hcfg : cfgOfHeader specMC cls le hdr with
      | error e => rfl
      | ok cfg =>
        obtain ⟨em, sol, core, rfl⟩ := ElfErrors.cfgOfHeader_shape hcfg
        simp only
        rw [factory_at (cfg_mem le cls (specMC em) sol core hc (specMC_mem em))]
        rfl

end PyElf.Props.TieElfFile
