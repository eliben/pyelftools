/-
  C08 tie: the structs and tables the relocation code relies on, as regenerated
  from /repo, are the ones the C08 theorems are about.
  The fields the container reader itself parses are TieC01's evaluations, restated.
  Applied in Props/C08: `dtag_env`, `sh_rel_tables`.  The field ties and `elf_value_structs` only alarm (the property is
  stated over the Spec's structures); the recipe table is tied in Proofs/RelocApply (`recipes_walk`).
-/
import PyElf.Gen.Structs
import PyElf.Spec.ElfStructs
import PyElf.Spec.Reloc
import PyElf.Model.Relocation
import PyElf.Proofs.RelocDyn
import PyElf.Proofs.RelocEnv
import PyElf.Proofs.EnumTable
import PyElf.Props.TieC01
namespace PyElf.Props.TieC08
open PyElf PyElf.Proofs.EnumTable

theorem elf_Elf_Rel : Gen.elfBundles.map (fun b => (b.1, b.2.Elf_Rel)) = Spec.allElfCfgs.map (fun c => (c, (Spec.elfStructs c).Elf_Rel)) := TieC01.elf_Elf_Rel
theorem elf_Elf_Rela : Gen.elfBundles.map (fun b => (b.1, b.2.Elf_Rela)) = Spec.allElfCfgs.map (fun c => (c, (Spec.elfStructs c).Elf_Rela)) := TieC01.elf_Elf_Rela
theorem elf_Elf_Relr : Gen.elfBundles.map (fun b => (b.1, b.2.Elf_Relr)) = Spec.allElfCfgs.map (fun c => (c, (Spec.elfStructs c).Elf_Relr)) := TieC01.elf_Elf_Relr
theorem elf_Elf_Sym : Gen.elfBundles.map (fun b => (b.1, b.2.Elf_Sym)) = Spec.allElfCfgs.map (fun c => (c, (Spec.elfStructs c).Elf_Sym)) := TieC01.elf_Elf_Sym
theorem elf_Elf_Dyn : Gen.elfBundles.map (fun b => (b.1, b.2.Elf_Dyn)) = Spec.allElfCfgs.map (fun c => (c, (Spec.elfStructs c).Elf_Dyn)) := TieC01.elf_Elf_Dyn
theorem elf_Elf_addr : Gen.elfBundles.map (fun b => (b.1, b.2.Elf_addr)) = Spec.allElfCfgs.map (fun c => (c, (Spec.elfStructs c).Elf_addr)) := by rfl
/-- the field structs `_do_apply_relocation` reads and writes with are the unsigned 1/2/4/8-byte integers in the
    file's byte order (what `Model.Reloc.applyRecipe` uses directly) -/
theorem elf_value_structs :
    Gen.elfBundles.map (fun b => (b.2.Elf_byte, b.2.Elf_half, b.2.Elf_word, b.2.Elf_word64))
      = Gen.elfBundles.map (fun b => (Con.uint 1 b.1.le, Con.uint 2 b.1.le, Con.uint 4 b.1.le, Con.uint 8 b.1.le)) := by rfl

/-- the regenerated dynamic-tag tables (common set and the three machine/OS extensions `Elf_Dyn` can be built over)
    name the relocation-related tags DT_NULL, DT_REL*, DT_RELA*, DT_RELR*, DT_JMPREL, DT_PLTREL* with the gABI's
    numbers, and give those names to no other number.  The four tables in one evaluation (see `dynTagTables`):
    a failure names this theorem, not the table. -/
theorem dtag_names :
    dynTagTables.all (fun t => Spec.RelocDyn.relDynTags.all (namesOnly (genTable t.1))) = true := by decide +kernel

theorem dtag_env (mclass : String) (solaris : Bool) :
    Proofs.RelocDyn.DTagEnv Model.elfEnv (Spec.dTagTable mclass solaris) :=
  namesOnly_elfEnv (dynTagTables_all (P := fun tid _ => Spec.RelocDyn.relDynTags.all (namesOnly (genTable tid)))
    dtag_names mclass solaris)

/-- every machine's `sh_type` table names SHT_SYMTAB, SHT_DYNSYM, SHT_RELR, SHT_RELA and SHT_REL as the gABI does, the
    last two for no other number (`C08.elfEnv_rel`).  The six tables in one evaluation: a failure names this theorem,
    not the table. -/
theorem sh_rel_tables : shTypeTables.all (fun tid => Proofs.RelocFile.shTableOk (genTable tid)) = true := by
  decide +kernel

end PyElf.Props.TieC08
