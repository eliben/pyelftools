/-
  C09, non-vacuity of the whole-file hypotheses.  `Con.encodeRaw` / `Con.decodeRaw` are compiled by
  well-founded recursion and do not reduce in the kernel, so the conditions of the whole-file theorems
  of Props/C09.lean (`DynDesc.WF`, `wfBase`, `wfTags`, `wfSyms`, `wfHash`, `noHash`, `fallbackExact`,
  `strRoute`, `regionsOk`, the container's `ElfDesc.wf`, the end-of-image condition of
  `seg_tags_truncated`) are evaluated here at build time (`#guard`) on concrete descriptions, one per
  domain.  The descriptions come from the C09 generator (harness/props/c09.py, `gen_desc` /
  `gen_ext`), the smallest of each domain; the assembler's output for each is a
  layout (`assemble_dynLayout_of_regionsOk`).  The driver evaluates the same conditions on every
  generated case (`ext.dom` of its reply; the harness prints the distribution).
-/
import PyElf.Spec.DynamicExt
import PyElf.Model.Env
namespace PyElf.Props.C09.Examples
open PyElf PyElf.Spec PyElf.Spec.Dynamic PyElf.Model

/-- both containers well formed in the sense of C01, regions disjoint, both images assemble -/
def okBoth (d : DynDesc) : Bool :=
  d.wfBase elfEnv && (d.container true).wf elfEnv && (d.container false).wf elfEnv &&
  d.regionsOk true && d.regionsOk false && (d.assemble true).isSome && (d.assemble false).isSome

def endsWithTable (d : DynDesc) (full : Bool) : Bool :=
  match d.assemble full with
  | some b => decide (b.length < d.dynOff + d.tags.length * (2 * d.w) + 2 * d.w)
  | none => false

/-- a well-formed description with a hash table: `DynDesc.WF`, `hashOk` (`segment_view_eq_section_view`, `by_name_exact`) -/
def exHash : DynDesc :=
  { cls := 64, le := false, mclass := "EM_MIPS", solaris := false,
    ehdr := [("EI_VERSION", .int 1), ("EI_OSABI", .int 3), ("EI_ABIVERSION", .int 0), ("e_type", .int 2), ("e_machine", .int 8), ("e_version", .int 1), ("e_entry", .int 0x81), ("e_flags", .int 0xfffe), ("e_ehsize", .int 0x40)],
    tags := [((-2147483648), 0x200000001), (0x70000035, 0xaf), (6, 0x2e), (0x70000005, 0x80000000), (11, 0x18),
             (38, 0x80), (5, 0x25), (1, 1), (0x6ffffef5, 0), (38, 0x40000000001), (1, 6), (10, 9), (21, 3), (0, 0),
             (5, 0x7ff)],
    dynOff := 0x9e, secDynOff := none,
    strtab := [0, 0x6c, 0x69, 0x62, 0xff, 0x2e, 0x73, 0x6f, 0],
    strOff := 0x7d, symOff := 0x86,
    syms := [[("st_name", .int 0), ("st_value", .int 0), ("st_size", .int 0), ("st_info", .record [("bind", .int 0), ("type", .int 0)]), ("st_other", .record [("local", .int 0), ("visibility", .int 0)]), ("st_shndx", .int 0)]],
    gnu := some (⟨1, [0xca], 0x18, [[]]⟩, 0x58),
    segments := [[("p_type", .int 2), ("p_flags", .int 6), ("p_offset", .int 0x9e), ("p_vaddr", .int 0x46), ("p_paddr", .int 0), ("p_filesz", .int 0xf0), ("p_memsz", .int 0xf0), ("p_align", .int 8)],
                 [("p_type", .int 1), ("p_flags", .int 6), ("p_offset", .int 0x58), ("p_vaddr", .int 0), ("p_paddr", .int 0x54), ("p_filesz", .int 0x136), ("p_memsz", .int 0x236), ("p_align", .int 0x1000)]],
    phoff := 0x1c9, shoff := 0x469, phentsize := 0x38, shentsize := 0x40, decoys := 1, shstrOff := 0x191 }

/-- DT_STRTAB removed, `.dynamic` section not at the segment's offset: full layout → string table through the section called `.dynstr`; stripped layout → none -/
def exByName : DynDesc :=
  { cls := 32, le := true, mclass := "EM_AARCH64", solaris := false,
    ehdr := [("EI_VERSION", .int 1), ("EI_OSABI", .int 9), ("EI_ABIVERSION", .int 0), ("e_type", .int 3), ("e_machine", .int 0xb7), ("e_version", .int 1), ("e_entry", .int 0xff), ("e_flags", .int 0x8b), ("e_ehsize", .int 0x34)],
    tags := [(11, 0x11), (6, 0), (1, 1), (0x12345, 0x9c), (0x6ffffef5, 0x84), (0x6000000d, 0x81), (0x60000010, 0x41),
             (0x70000003, 0x2b3ad4ee), ((-2147483648), 0xffffffff), (10, 0x1a), (0x60000010, 0x9e), (14, 0x19),
             (0x70000005, 0xff00), (0, 0)],
    dynOff := 0x29c, secDynOff := some 0x21c,
    strtab := [0, 0x24, 0x4f, 0x52, 0x49, 0x47, 0x49, 0x4e, 0x2f, 0x2e, 0x2e, 0x2f, 0x6c, 0x69, 0x62, 0x3a, 0x2f,
               0x6f, 0x70, 0x74, 0x2f, 0x6c, 0x69, 0x62, 0, 0],
    strOff := 0x328, symOff := 0x28c,
    syms := [[("st_name", .int 0), ("st_value", .int 0), ("st_size", .int 0), ("st_info", .record [("bind", .int 0), ("type", .int 0)]), ("st_other", .record [("local", .int 0), ("visibility", .int 0)]), ("st_shndx", .int 0)]],
    gnu := some (⟨1, [], 0x12, [[], []]⟩, 0x310),
    segments := [[("p_type", .int 2), ("p_offset", .int 0x29c), ("p_vaddr", .int 0x10), ("p_paddr", .int 0), ("p_filesz", .int 0x70), ("p_memsz", .int 0x70), ("p_flags", .int 6), ("p_align", .int 4)],
                 [("p_type", .int 1), ("p_offset", .int 0x28c), ("p_vaddr", .int 0), ("p_paddr", .int 0xffffffff), ("p_filesz", .int 0xbb), ("p_memsz", .int 0xbb), ("p_flags", .int 6), ("p_align", .int 1)]],
    phoff := 0x3c, shoff := 0x347, phentsize := 0x28, shentsize := 0x30, decoys := 0, shstrOff := 0x438 }

/-- no hash table, the estimate is the true count (`seg_symbols_exact_fallback`) -/
def exFbExact : DynDesc :=
  { cls := 64, le := false, mclass := "EM_X86_64", solaris := false,
    ehdr := [("EI_VERSION", .int 1), ("EI_OSABI", .int 3), ("EI_ABIVERSION", .int 0), ("e_type", .int 3), ("e_machine", .int 0x3e), ("e_version", .int 1), ("e_entry", .int 0x100), ("e_flags", .int 0x5a), ("e_ehsize", .int 0x40)],
    tags := [(1, 1), (0x12345, 0x200240), (11, 0x18), (6, 0x200268), (10, 0xf), (5, 0x1000d5), (1, 1), (0, 0),
             (0, 0xf6)],
    dynOff := 0x44, secDynOff := none,
    strtab := [0, 0x6c, 0x69, 0x62, 0x6d, 0x2e, 0x73, 0x6f, 0x2e, 0x36, 0, 0x66, 0x6f, 0x6f, 0],
    strOff := 0xd5, symOff := 0x268,
    syms := [[("st_name", .int 0), ("st_value", .int 0), ("st_size", .int 0), ("st_info", .record [("bind", .int 0), ("type", .int 0)]), ("st_other", .record [("local", .int 0), ("visibility", .int 0)]), ("st_shndx", .int 0)],
             [("st_name", .int 0xb), ("st_value", .int 0xb9), ("st_size", .int 0x20000000000), ("st_info", .record [("bind", .int 7), ("type", .int 2)]), ("st_other", .record [("local", .int 7), ("visibility", .int 2)]), ("st_shndx", .int 0x419b)]],
    segments := [[("p_type", .int 1), ("p_flags", .int 5), ("p_offset", .int 0x40), ("p_vaddr", .int 0x100040), ("p_paddr", .int 0xa0), ("p_filesz", .int 0xa4), ("p_memsz", .int 0xa4), ("p_align", .int 1)],
                 [("p_type", .int 2), ("p_flags", .int 6), ("p_offset", .int 0x44), ("p_vaddr", .int 0x100044), ("p_paddr", .int 0), ("p_filesz", .int 0x90), ("p_memsz", .int 0x90), ("p_align", .int 8)],
                 [("p_type", .int 1), ("p_flags", .int 4), ("p_offset", .int 0x23c), ("p_vaddr", .int 0x20023c), ("p_paddr", .int 0x28), ("p_filesz", .int 0x61), ("p_memsz", .int 0x61), ("p_align", .int 0x1000)]],
    phoff := 0x2d1, shoff := 0xec, phentsize := 0x40, shentsize := 0x40, decoys := 0, shstrOff := 0x29e }

/-- no hash table, the estimate is NOT the true count (`seg_num_symbols_fallback_inexact`) -/
def exFbInexact : DynDesc :=
  { cls := 32, le := true, mclass := "default", solaris := false,
    ehdr := [("EI_VERSION", .int 1), ("EI_OSABI", .int 0), ("EI_ABIVERSION", .int 0), ("e_type", .int 2), ("e_machine", .int 0xab), ("e_version", .int 1), ("e_entry", .int 0x93822f8a), ("e_flags", .int 0x107), ("e_ehsize", .int 0x34)],
    tags := [(11, 0x10), (6, 0x41), (14, 0x50), (10, 0x5c), (1, 1), (29, 0x43), (5, 0x55), (0, 0)],
    dynOff := 0xbe, secDynOff := some 0x35,
    strtab := [0, 0x7a, 0x7a, 0x7a, 0x7a, 0x7a, 0x7a, 0x7a, 0x7a, 0x7a, 0x7a, 0x7a, 0x7a, 0x7a, 0x7a, 0x7a, 0x7a,
               0x7a, 0x7a, 0x7a, 0x7a, 0x7a, 0x7a, 0x7a, 0x7a, 0x7a, 0x7a, 0x7a, 0x7a, 0x7a, 0x7a, 0x7a, 0x7a, 0x7a,
               0x7a, 0x7a, 0x7a, 0x7a, 0x7a, 0x7a, 0x7a, 0x7a, 0x7a, 0x7a, 0x7a, 0x7a, 0x7a, 0x7a, 0x7a, 0x7a, 0x7a,
               0x7a, 0x7a, 0x7a, 0x7a, 0x7a, 0x7a, 0x7a, 0x7a, 0x7a, 0x7a, 0x7a, 0x7a, 0x7a, 0x7a, 0x7a, 0, 0x24,
               0x4f, 0x52, 0x49, 0x47, 0x49, 0x4e, 0x2f, 0x2e, 0x2e, 0x2f, 0x6c, 0x69, 0x62, 0x3a, 0x2f, 0x6f, 0x70,
               0x74, 0x2f, 0x6c, 0x69, 0x62, 0, 0x9c],
    strOff := 0x113, symOff := 0xff,
    syms := [[("st_name", .int 0), ("st_value", .int 0), ("st_size", .int 0), ("st_info", .record [("bind", .int 0), ("type", .int 0)]), ("st_other", .record [("local", .int 0), ("visibility", .int 0)]), ("st_shndx", .int 0)]],
    segments := [[("p_type", .int 2), ("p_offset", .int 0xbe), ("p_vaddr", .int 0), ("p_paddr", .int 0), ("p_filesz", .int 0x40), ("p_memsz", .int 0x40), ("p_flags", .int 6), ("p_align", .int 4)],
                 [("p_type", .int 1), ("p_offset", .int 0xbe), ("p_vaddr", .int 0), ("p_paddr", .int 0xb6e6f57d), ("p_filesz", .int 0xb6), ("p_memsz", .int 0xb6), ("p_flags", .int 4), ("p_align", .int 1)],
                 [("p_type", .int 4), ("p_offset", .int 0xc5), ("p_vaddr", .int 0), ("p_paddr", .int 0xb6e6f57d), ("p_filesz", .int 0xb6), ("p_memsz", .int 0xb6), ("p_flags", .int 4), ("p_align", .int 1)]],
    phoff := 0x2cc, shoff := 0x17c, phentsize := 0x20, shentsize := 0x30, decoys := 2, shstrOff := 0x75 }

/-- no DT_NULL, the table is the last thing in both images (`seg_tags_truncated`) -/
def exTrunc : DynDesc :=
  { cls := 64, le := false, mclass := "EM_AARCH64", solaris := false,
    ehdr := [("EI_VERSION", .int 1), ("EI_OSABI", .int 0), ("EI_ABIVERSION", .int 0), ("e_type", .int 3), ("e_machine", .int 0xb7), ("e_version", .int 1), ("e_entry", .int 0x8000000000000001), ("e_flags", .int 0x80000001), ("e_ehsize", .int 0x40)],
    tags := [(6, 0x1010e8), (5, 0x101109), (0x6ffffffe, 0x7f), (11, 0x18), (1, 3), (10, 0xc)],
    dynOff := 0x380, secDynOff := none,
    strtab := [0, 0x6c, 0x69, 0x62, 0x66, 0x6f, 0x6f, 0x2e, 0x73, 0x6f, 0, 0xbc],
    strOff := 0x109, symOff := 0xe8,
    syms := [[("st_name", .int 0), ("st_value", .int 0), ("st_size", .int 0), ("st_info", .record [("bind", .int 0), ("type", .int 0)]), ("st_other", .record [("local", .int 0), ("visibility", .int 0)]), ("st_shndx", .int 0)]],
    segments := [[("p_type", .int 1), ("p_flags", .int 6), ("p_offset", .int 0xe8), ("p_vaddr", .int 0x1010e8), ("p_paddr", .int 0x7ffffffffffff), ("p_filesz", .int 0xa6), ("p_memsz", .int 0xa6), ("p_align", .int 0x1000)],
                 [("p_type", .int 2), ("p_flags", .int 6), ("p_offset", .int 0x380), ("p_vaddr", .int 0x101119), ("p_paddr", .int 0), ("p_filesz", .int 0x70), ("p_memsz", .int 0x60), ("p_align", .int 8)]],
    phoff := 0x30f, shoff := 0x18f, phentsize := 0x38, shentsize := 0x40, decoys := 1, shstrOff := 0xb8 }

/-- DT_SYMTAB outside every PT_LOAD, no hash table (`seg_symbols_unmapped`) -/
def exUnmapped : DynDesc :=
  { cls := 64, le := false, mclass := "EM_ARM", solaris := false,
    ehdr := [("EI_VERSION", .int 1), ("EI_OSABI", .int 3), ("EI_ABIVERSION", .int 0), ("e_type", .int 3), ("e_machine", .int 0x28), ("e_version", .int 1), ("e_entry", .int 0xff), ("e_flags", .int 0x2000001), ("e_ehsize", .int 0x40)],
    tags := [(6, 0x7f0003f7), (14, 1), (10, 0xb), (0x60000010, 0xd581b6b8a252ddca), (0x12345, 0x10051c), (11, 0x18),
             (22, 0x80), (0x6fffffff, 0x328d70e8028233ef), (5, 0x100534), (0, 0)],
    dynOff := 0x543, secDynOff := none,
    strtab := [0, 0x6c, 0x69, 0x62, 0x6d, 0x2e, 0x73, 0x6f, 0x2e, 0x36, 0],
    strOff := 0x534, symOff := 0x503,
    syms := [[("st_name", .int 0), ("st_value", .int 0), ("st_size", .int 0), ("st_info", .record [("bind", .int 0), ("type", .int 0)]), ("st_other", .record [("local", .int 0), ("visibility", .int 0)]), ("st_shndx", .int 0)]],
    segments := [[("p_type", .int 1), ("p_flags", .int 6), ("p_offset", .int 0x503), ("p_vaddr", .int 0x100503), ("p_paddr", .int 0x7fffff), ("p_filesz", .int 0xe0), ("p_memsz", .int 0x1e0), ("p_align", .int 0x1000)],
                 [("p_type", .int 2), ("p_flags", .int 6), ("p_offset", .int 0x543), ("p_vaddr", .int 0x100543), ("p_paddr", .int 0), ("p_filesz", .int 0xa0), ("p_memsz", .int 0xa0), ("p_align", .int 8)],
                 [("p_type", .int 1), ("p_flags", .int 6), ("p_offset", .int 0x503), ("p_vaddr", .int 0x100503), ("p_paddr", .int 0x7fffff), ("p_filesz", .int 0xe0), ("p_memsz", .int 0x1e0), ("p_align", .int 0x1000)]],
    phoff := 0x201, shoff := 0x48, phentsize := 0x40, shentsize := 0x40, decoys := 1, shstrOff := 0x1d0 }

#guard exHash.WF elfEnv && hashOk exHash && okBoth exHash
#guard exHash.wfTags elfEnv true && exHash.wfTags elfEnv false && exHash.wfSyms elfEnv && exHash.wfHash elfEnv

-- `seg_tags_exact_routes` / `seg_by_name_exact` through the section called `.dynstr`; `seg_tags_no_strtab`
#guard okBoth exByName && exByName.strRoute elfEnv true == .byName && exByName.wfTags elfEnv true &&
  exByName.wfSyms elfEnv && exByName.wfHash elfEnv && hashOk exByName
#guard hasTerminator exByName.tags && exByName.strRoute elfEnv false == .none && !exByName.wf elfEnv true

-- `seg_num_symbols_fallback`, `seg_symbols_exact_fallback`
#guard okBoth exFbExact && exFbExact.wfTags elfEnv true && exFbExact.wfTags elfEnv false && exFbExact.wfSyms elfEnv &&
  exFbExact.noHash elfEnv && symentOk exFbExact.symsz exFbExact.live && exFbExact.fallbackExact elfEnv

-- `seg_num_symbols_fallback_inexact`
#guard okBoth exFbInexact && exFbInexact.wfTags elfEnv true && exFbInexact.wfTags elfEnv false && exFbInexact.wfSyms elfEnv &&
  exFbInexact.noHash elfEnv && symentOk exFbInexact.symsz exFbInexact.live && !exFbInexact.fallbackExact elfEnv

-- `seg_tags_truncated`, both layouts (section link / stored DT_STRTAB)
#guard okBoth exTrunc && !hasTerminator exTrunc.tags && stringsOk exTrunc && exTrunc.strOk elfEnv true &&
  exTrunc.strOk elfEnv false && exTrunc.strRoute elfEnv true == .link && exTrunc.strRoute elfEnv false == .pointer &&
  endsWithTable exTrunc true && endsWithTable exTrunc false

-- `seg_symbols_unmapped`
#guard okBoth exUnmapped && hasTerminator exUnmapped.tags && exUnmapped.noHash elfEnv &&
  ((firstVal exUnmapped.live DT_SYMTAB).bind (mapAddr (exUnmapped.phdrs elfEnv))).isNone

end PyElf.Props.C09.Examples
