/-
  C07 — location and range lists decode to exactly the encoded entries.

  `pre`/`rest` are arbitrary surrounding bytes.  The list
  objects are the model's `Lists` (stream, structs, address size, version) with the
  struct bundle of any configuration `cfg` (byte order × DWARF format × address size
  × version); `Props/TieC07.lean` ties those bundles and the DW_LLE/DW_RLE tables to
  what the library builds.  `env` is any construct environment whose two enum tables
  decode as the library's (`TieC07.lle_codes`, `rle_codes`: `Model.dwarfEnv` does).

  The `_info` theorems at the end of the file take the units and entries from section bytes (composition with C04).
  Correspondence-only (model ↔ code on every run, no theorem): malformed lists (no terminator before the section end,
  offsets beyond the section, offset-table index out of range: stream `raw`), DW_AT_GNU_locviews corner cases outside
  `refsAgree` (views without a list, a list referenced both with and without views), that `forestResolves` follows
  from `wfForestB` (both are decidable conditions on the description; the examples satisfy both), a section-level
  layout description for `iter_range_lists` (each fetch is `v4_rnglist_roundtrip` / `v5_rnglist_fetch`).

  The statements speak of:
  `modelClass` (Proofs/ListsCls.lean) — what `parse_from_attribute` decides, as a class;
  `locRefs`, `applyRef`, `toDie` (Proofs/ListsLocScan.lean) — the references the entries of the units make, in order;
    the effect of one reference on the scan's three containers; a decoded attribute as the Spec sees it;
  `obsL5`, `demoL`, `demoL5`, `demoCu*`, `demoUs`, `demoObjs`, `demoDec` (Proofs/ListsLocWalk.lean) — a DWARF 5 list
    translated with its unit's address array; the example sections and units;
  `rangeRefsSpec` (Proofs/ListsInfo.lean) — the (offset, unit) references of `iter_range_lists`, from decoded entries;
  `exprBytes` (Proofs/ListsExpr.lean) — `bytes(loc_expr)`;
  `demoF` (Proofs/ListsInfoDemo.lean) — the example forest of the end-to-end theorems;
  `forestDInfo`, `genBundles`, `genNames` (Props/C04.lean) — the encoded sections of a forest as C04's model
    reads them, with the regenerated bundles and names; `fetch` is `Model.C04.fetch`.
-/
import PyElf.Spec.DwarfStructs
import PyElf.Spec.Lists
import PyElf.Model.Lists
import PyElf.Model.Env
import PyElf.Model.ListsInfo
import PyElf.Proofs.Utils
import PyElf.Proofs.ListsV4
import PyElf.Proofs.ListsV5
import PyElf.Proofs.ListsUnits
import PyElf.Proofs.ListsUnitLists
import PyElf.Proofs.ListsCls
import PyElf.Proofs.ListsEnum
import PyElf.Proofs.ListsLocScan
import PyElf.Proofs.ListsLocWalk
import PyElf.Proofs.ListsSlots
import PyElf.Proofs.ListsInfo
import PyElf.Proofs.ListsInfoDemo
import PyElf.Proofs.ListsExpr
import PyElf.Props.TieC07
import PyElf.Props.C04
import PyElf.Props.C12
namespace PyElf.Props.C07
open PyElf PyElf.Spec PyElf.Spec.Lists PyElf.Proofs

/-- the environment of any struct bundle decodes DW_LLE / DW_RLE codes as the library's tables do -/
theorem dwarfEnv_lle (S : DwarfStructs) :
    ∀ k ∈ lleKinds, (Model.dwarfEnv S).enumDecode "ENUM_DW_LLE" (k.code : Int) = some k.name := by
  rw [Engine.dwarfEnv_enumDecode]
  exact TieC07.lle_codes

theorem dwarfEnv_rle (S : DwarfStructs) :
    ∀ k ∈ rleKinds, (Model.dwarfEnv S).enumDecode "ENUM_DW_RLE" (k.code : Int) = some k.name := by
  rw [Engine.dwarfEnv_enumDecode]
  exact TieC07.rle_codes

/-- fetching at the offset of an encoded list returns its entries up to the (0, 0) terminator — base-address selections
    and bounded entries with their expression bytes, each with offset and length — whatever precedes and follows -/
theorem v4_loclist_roundtrip (env : Env) (secs : Model.Lists.Secs) (cfg : DwarfCfg) (l : Model.Lists.Lists)
    (cu : Option Model.Lists.Cu) (pre rest : Bytes) (es : List V4Loc)
    (hS : l.S = Spec.dwarfStructs cfg) (ha : l.asz = cfg.asz) (hasz : 1 ≤ cfg.asz) (hv : l.version < 5)
    (hd : l.data = pre ++ encV4Loc cfg.le cfg.asz es ++ rest)
    (hwf : ∀ e ∈ es, e.wf cfg.asz = true) (hsmall : pre.length < 2 ^ 63) :
    Model.Lists.getLocationListAtOffset env secs l (pre.length : Int) cu = .ok (obsV4Loc cfg.asz pre.length es) := by
  rw [← ha] at hd hwf hasz ⊢
  rw [ListsV4.getLocationListAtOffset_v4 env secs l cu hv hsmall,
    ListsV4.parseLocV4_at env l cfg.le rest es pre.length (by rw [hS, ha]; rfl) (by rw [hS]; rfl) (by rw [hS]; rfl) hasz
      (by rw [hd]; exact drop_pre _ _ _) hwf]
  rfl

theorem v4_rnglist_roundtrip (env : Env) (secs : Model.Lists.Secs) (cfg : DwarfCfg) (l : Model.Lists.Lists)
    (cu : Option Model.Lists.Cu) (pre rest : Bytes) (es : List V4Rng)
    (hS : l.S = Spec.dwarfStructs cfg) (ha : l.asz = cfg.asz) (hasz : 1 ≤ cfg.asz) (hv : l.version < 5)
    (hd : l.data = pre ++ encV4Rng cfg.le cfg.asz es ++ rest)
    (hwf : ∀ e ∈ es, e.wf cfg.asz = true) (hsmall : pre.length < 2 ^ 63) :
    Model.Lists.getRangeListAtOffset env secs l (pre.length : Int) cu = .ok (obsV4Rng cfg.asz pre.length es) := by
  rw [← ha] at hd hwf hasz ⊢
  rw [ListsV4.getRangeListAtOffset_v4 env secs l cu hv hsmall,
    ListsV4.parseRngV4_at env l cfg.le rest es pre.length (by rw [hS, ha]; rfl) hasz (by rw [hd]; exact drop_pre _ _ _) hwf]
  rfl

/-- every entry kind: the bundle's entry parser, with the library's code table, decodes any sequence of entries up to
    DW_LLE_end_of_list: kind, operands by name, offsets and length; ULEB128 operands may be padded -/
theorem v5_entries_roundtrip_loc (S : DwarfStructs) (cfg : DwarfCfg) (pre rest : Bytes) (es : List Ent) (ctx : Fields)
    (hwf : ∀ e ∈ es, e.wf lleKinds cfg.asz = true) :
    Con.parse (Model.dwarfEnv S) (pre ++ encList cfg.le cfg.asz es ++ rest)
        (Spec.dwarfStructs cfg).Dwarf_loclists_entries ctx pre.length
      = .ok (.list (rawObsList cfg.asz pre.length es), pre.length + listSize cfg.asz es, ctx) :=
  ListsV5.parse_loclists_at _ cfg _ rest pre.length es ctx (dwarfEnv_lle S) hwf (drop_pre _ _ _)

theorem v5_entries_roundtrip_rng (S : DwarfStructs) (cfg : DwarfCfg) (pre rest : Bytes) (es : List Ent) (ctx : Fields)
    (hwf : ∀ e ∈ es, e.wf rleKinds cfg.asz = true) :
    Con.parse (Model.dwarfEnv S) (pre ++ encList cfg.le cfg.asz es ++ rest)
        (Spec.dwarfStructs cfg).Dwarf_rnglists_entries ctx pre.length
      = .ok (.list (rawObsList cfg.asz pre.length es), pre.length + listSize cfg.asz es, ctx) :=
  ListsV5.parse_rnglists_at _ cfg _ rest pre.length es ctx (dwarfEnv_rle S) hwf (drop_pre _ _ _)

/-- the translation tables give each kind its DWARF 5 meaning: indexed addresses
    come from the unit's address table, start/length denotes `[start, start + length)`, the default
    entry has no bounds, offset pairs stay relative -/
theorem translate_exact_loc (env : Env) (secs : Model.Lists.Secs) (cu : Option Model.Lists.Cu) (addrs : List Nat)
    (asz off : Nat) (e : Ent) (v : Val) (hwf : e.wf lleKinds asz = true)
    (haddr : ∀ i a, addrOf addrs i = some a → Model.Lists.cuAddr env secs cu (.int i) = .ok (.int a))
    (hsp : Spec.Lists.translateLoc (addrOf addrs) asz off e = some v) :
    Model.Lists.translateLoc env secs cu (e.rawObs asz off) = .ok v :=
  ListsV5.translateLoc_exact env secs cu addrs asz off e v hwf haddr hsp

/-- `RangeLists.translate_v5_entry` -/
theorem translate_exact_rng (env : Env) (secs : Model.Lists.Secs) (cu : Option Model.Lists.Cu) (addrs : List Nat)
    (asz off : Nat) (e : Ent) (v : Val) (hwf : e.wf rleKinds asz = true)
    (haddr : ∀ i a, addrOf addrs i = some a → Model.Lists.cuAddr env secs cu (.int i) = .ok (.int a))
    (hsp : Spec.Lists.translateRng (addrOf addrs) asz off e = some v) :
    Model.Lists.translateV5Entry env secs cu (e.rawObs asz off) = .ok v :=
  ListsV5.translateRng_exact env secs cu addrs asz off e v hwf haddr hsp

/-- index `i` is the `i`-th address of the array at `DW_AT_addr_base` in .debug_addr (the `haddr` of the theorems above) -/
theorem get_addr_exact (env : Env) (secs : Model.Lists.Secs) (cu : Model.Lists.Cu) (le : Bool) (pre rest : Bytes)
    (addrs : List Nat) (i : Nat)
    (hS : cu.S.the_Dwarf_target_addr = .uint cu.asz le)
    (hbase : Model.Lists.getBaseOffset cu "DW_AT_addr_base" = .ok (.int pre.length))
    (hsec : secs.addr = some (pre ++ encAddrs le cu.asz addrs ++ rest))
    (hi : i < addrs.length) (hwf : ∀ a ∈ addrs, a < 256 ^ cu.asz)
    (hsmall : pre.length + i * cu.asz < 2 ^ 63) :
    Model.Lists.cuAddr env secs (some cu) (.int i) = .ok (.int (addrs[i]'hi)) := by
  exact ListsSlots.getAddr_at env secs cu le _ pre.length i _ hS hsec hbase
    (ListsSlots.uintAt_table le cu.asz pre rest addrs i hi hwf) hsmall

/-- fetching a DWARF 5 location list by section offset: the entries up to the terminator, translated -/
theorem v5_loclist_fetch (S : DwarfStructs) (secs : Model.Lists.Secs) (cfg : DwarfCfg) (l : Model.Lists.Lists)
    (cu : Model.Lists.Cu) (addrs : List Nat) (pre rest : Bytes) (es : List Ent) (vs : List Val)
    (hS : l.S = Spec.dwarfStructs cfg) (hv : 5 ≤ l.version)
    (hd : l.data = pre ++ encList cfg.le cfg.asz es ++ rest)
    (hwf : ∀ e ∈ es, e.wf lleKinds cfg.asz = true) (hsmall : pre.length < 2 ^ 63)
    (haddr : ∀ i a, addrOf addrs i = some a →
      Model.Lists.cuAddr (Model.dwarfEnv S) secs (some cu) (.int i) = .ok (.int a))
    (hsp : translateList (fun o e => Spec.Lists.translateLoc (addrOf addrs) cfg.asz o e) cfg.asz pre.length es = some vs) :
    Model.Lists.getLocationListAtOffset (Model.dwarfEnv S) secs l (pre.length : Int) (some cu) = .ok vs := by
  rw [ListsV5.getLocationListAtOffset_v5 _ secs l cu hv hsmall,
    ListsV5.parseLocV5_at _ secs cfg l cu addrs rest es vs pre.length (dwarfEnv_lle S) (by rw [hS])
      (by rw [hd]; exact drop_pre _ _ _) hwf haddr hsp]
  rfl

theorem v5_rnglist_fetch (S : DwarfStructs) (secs : Model.Lists.Secs) (cfg : DwarfCfg) (l : Model.Lists.Lists)
    (cu : Option Model.Lists.Cu) (addrs : List Nat) (pre rest : Bytes) (es : List Ent) (vs : List Val)
    (hS : l.S = Spec.dwarfStructs cfg) (hv : 5 ≤ l.version)
    (hd : l.data = pre ++ encList cfg.le cfg.asz es ++ rest)
    (hwf : ∀ e ∈ es, e.wf rleKinds cfg.asz = true) (hsmall : pre.length < 2 ^ 63)
    (haddr : ∀ i a, addrOf addrs i = some a →
      Model.Lists.cuAddr (Model.dwarfEnv S) secs cu (.int i) = .ok (.int a))
    (hsp : translateList (fun o e => Spec.Lists.translateRng (addrOf addrs) cfg.asz o e) cfg.asz pre.length es = some vs) :
    Model.Lists.getRangeListAtOffset (Model.dwarfEnv S) secs l (pre.length : Int) cu = .ok vs := by
  rw [ListsV5.getRangeListAtOffset_v5 _ secs l cu hv hsmall,
    ListsV5.parseRngV5_at _ secs cfg l cu addrs rest es vs pre.length (dwarfEnv_rle S) (by rw [hS])
      (by rw [hd]; exact drop_pre _ _ _) hwf haddr hsp]
  rfl

/-- `get_range_list_at_offset_ex`: the entries as stored, addresses and offsets unresolved -/
theorem v5_rnglist_fetch_raw (S : DwarfStructs) (cfg : DwarfCfg) (l : Model.Lists.Lists) (pre rest : Bytes) (es : List Ent)
    (hS : l.S = Spec.dwarfStructs cfg)
    (hd : l.data = pre ++ encList cfg.le cfg.asz es ++ rest)
    (hwf : ∀ e ∈ es, e.wf rleKinds cfg.asz = true) (hsmall : pre.length < 2 ^ 63) :
    Model.Lists.getRangeListAtOffsetEx (Model.dwarfEnv S) l (pre.length : Int)
      = .ok (.list (rawObsList cfg.asz pre.length es)) := by
  have hp := ListsV5.parse_rnglists_at (Model.dwarfEnv S) cfg l.data rest pre.length es [] (dwarfEnv_rle S) hwf
    (by rw [hd]; exact drop_pre _ _ _)
  rw [← hS] at hp
  simp [Model.Lists.getRangeListAtOffsetEx, ListsSeek.seekParseInt_nat hsmall, Engine.structParse_of_parse hp,
    bind, Except.bind, pure, Except.pure]

/-- index `i` resolves to (table base) + (entry `i` of the offset table), with 4-byte
    entries in the 32-bit and 8-byte entries in the 64-bit DWARF format -/
theorem index_lookup_exact (env : Env) (cu : Model.Lists.Cu) (le : Bool) (pre rest : Bytes) (offs : List Nat) (i : Nat)
    (baseName : String) (osz : Nat) (hosz : osz = if cu.fmt = 32 then 4 else 8)
    (hS : cu.S.the_Dwarf_offset = .uint osz le)
    (hbase : Model.Lists.getBaseOffset cu baseName = .ok (.int pre.length))
    (hi : i < offs.length) (hwf : ∀ o ∈ offs, o < 256 ^ osz)
    (hsmall : pre.length + i * osz < 2 ^ 63) :
    Model.Lists.resolveViaOffsetTable env (some (pre ++ encOffsets le osz offs ++ rest)) cu (.int i) baseName
      = .ok (.int ((pre.length + offs[i]'hi : Nat) : Int)) := by
  subst hosz
  exact ListsSlots.resolveViaOffsetTable_at env cu le _ baseName pre.length i _ hS hbase
    (ListsSlots.uintAt_table le _ pre rest offs i hi hwf) hsmall

/-- the value of a `DW_FORM_loclistx` attribute is that offset (die.py:328) -/
theorem attr_value_loclistx (env : Env) (secs : Model.Lists.Secs) (cu : Model.Lists.Cu) (le : Bool)
    (pre rest : Bytes) (offs : List Nat) (i : Nat) (osz : Nat) (hosz : osz = if cu.fmt = 32 then 4 else 8)
    (hS : cu.S.the_Dwarf_offset = .uint osz le)
    (hbase : Model.Lists.getBaseOffset cu "DW_AT_loclists_base" = .ok (.int pre.length))
    (hsec : secs.loclists = some (pre ++ encOffsets le osz offs ++ rest))
    (hi : i < offs.length) (hwf : ∀ o ∈ offs, o < 256 ^ osz) (hsmall : pre.length + i * osz < 2 ^ 63) :
    Model.Lists.translateAttrValue env secs cu "DW_FORM_loclistx" (.int i)
      = .ok (.int ((pre.length + offs[i]'hi : Nat) : Int)) := by
  have := index_lookup_exact env cu le pre rest offs i "DW_AT_loclists_base" osz hosz hS hbase hi hwf hsmall
  unfold Model.Lists.translateAttrValue
  simp only [hsec]
  simpa using this

/-- … and of a `DW_FORM_rnglistx` attribute (die.py:330) -/
theorem attr_value_rnglistx (env : Env) (secs : Model.Lists.Secs) (cu : Model.Lists.Cu) (le : Bool)
    (pre rest : Bytes) (offs : List Nat) (i : Nat) (osz : Nat) (hosz : osz = if cu.fmt = 32 then 4 else 8)
    (hS : cu.S.the_Dwarf_offset = .uint osz le)
    (hbase : Model.Lists.getBaseOffset cu "DW_AT_rnglists_base" = .ok (.int pre.length))
    (hsec : secs.rnglists = some (pre ++ encOffsets le osz offs ++ rest))
    (hi : i < offs.length) (hwf : ∀ o ∈ offs, o < 256 ^ osz) (hsmall : pre.length + i * osz < 2 ^ 63) :
    Model.Lists.translateAttrValue env secs cu "DW_FORM_rnglistx" (.int i)
      = .ok (.int ((pre.length + offs[i]'hi : Nat) : Int)) := by
  have := index_lookup_exact env cu le pre rest offs i "DW_AT_rnglists_base" osz hosz hS hbase hi hwf hsmall
  unfold Model.Lists.translateAttrValue
  simp only [hsec]
  simpa using this

/-- the unit header of either section, in either DWARF format -/
theorem unit_header_roundtrip (env : Env) (cfg : DwarfCfg) (u : UnitHdr) (body pre rest : Bytes) (ctx : Fields)
    (hwf : u.wf body = true) :
    structParse env (Spec.dwarfStructs cfg).Dwarf_rnglists_CU_header (pre ++ encUnit cfg.le u body ++ rest) pre.length
      = .ok (.record (u.obsFields pre.length body), pre.length + u.lenSize + 8) :=
  ListsUnits.structParse_header_at env cfg u body rest _ pre.length hwf (drop_pre _ _ _)

theorem unit_header_roundtrip_loc (env : Env) (cfg : DwarfCfg) (u : UnitHdr) (body pre rest : Bytes) (ctx : Fields)
    (hwf : u.wf body = true) :
    structParse env (Spec.dwarfStructs cfg).Dwarf_loclists_CU_header (pre ++ encUnit cfg.le u body ++ rest) pre.length
      = .ok (.record (u.obsFields pre.length body), pre.length + u.lenSize + 8) := by
  rw [ListsUnits.loc_hdr_eq]
  exact unit_header_roundtrip env cfg u body pre rest ctx hwf

/-- unit blocks: `_iter_CUs_in_section` (the loop behind `iter_CUs()`) over a section made of unit blocks yields exactly those
    blocks, each with its header fields and its offset table (`offset_count ≥ 0` entries of 4 or 8 bytes) -/
theorem enumeration_exact_units (env : Env) (cfg : DwarfCfg) (S : DwarfStructs) (us : List (UnitHdr × Bytes))
    (h64 : S.Dwarf_uint64 = .uint 8 cfg.le) (h32 : S.Dwarf_uint32 = .uint 4 cfg.le)
    (hwf : ∀ ub ∈ us, ub.1.wf ub.2 = true)
    (hsmall : (encUnits cfg.le us).length < 2 ^ 63) :
    Model.Lists.iterCUsLoop env S (Spec.dwarfStructs cfg).Dwarf_rnglists_CU_header (encUnits cfg.le us)
        ((encUnits cfg.le us).length + 1) 0 []
      = .ok (obsUnits 0 us) := by
  have hge := ListsUnits.encUnits_length_ge cfg.le us
  have := ListsUnits.iterCUsLoop_units env cfg S h64 h32 (encUnits cfg.le us) hsmall us []
    ((encUnits cfg.le us).length + 1) [] hwf (by omega) (by simp)
  simpa using this

/-- range lists of a unit block: `iter_CU_range_lists_ex(cu)` on a unit whose body is
    its lists one after the other yields exactly those lists, whatever the size of the offset table.
    (The walk has to start behind the whole table, `offset_count` entries of 4 or 8 bytes:
    fixes/C07-rnglists-offset-table-skip.patch.) -/
theorem enumeration_exact_unit_lists (S : DwarfStructs) (cfg : DwarfCfg) (l : Model.Lists.Lists) (u : UnitHdr)
    (ls : List (List Ent)) (pre rest : Bytes)
    (hS : l.S = Spec.dwarfStructs cfg)
    (hd : l.data = pre ++ encUnit cfg.le u (encLists cfg.le cfg.asz ls) ++ rest)
    (hwf : ∀ es ∈ ls, ∀ e ∈ es, e.wf rleKinds cfg.asz = true)
    (hsmall : l.data.length < 2 ^ 63) :
    Model.Lists.iterCURangeListsEx (Model.dwarfEnv S) l (u.obs pre.length (encLists cfg.le cfg.asz ls))
      = .ok ((rawObsLists cfg.asz (pre.length + u.lenSize + 8 + u.osz * u.offsets.length) ls).map Val.list) :=
  ListsUnitLists.iterCURangeListsEx_exact (Model.dwarfEnv S) cfg l u ls pre rest (dwarfEnv_rle S) (by rw [hS]) hd hwf hsmall

/-- `iter_range_lists()` fetches, in increasing order, exactly the distinct offsets held by the `DW_AT_ranges` attributes of
    the units of the section's generation (`refs`, in DIE order, indexed forms resolved by `attr_value_rnglistx`), each
    with the unit that referred to it last.  Each fetch is `v4_rnglist_roundtrip` / `v5_rnglist_fetch`. -/
theorem enumeration_exact_ranges (env : Env) (secs : Model.Lists.Secs) (l : Model.Lists.Lists)
    (cus : List Model.Lists.Cu) (refs : List (Int × Model.Lists.Cu))
    (hrefs : Model.Lists.rangeRefs env secs (decide (l.version ≥ 5)) cus = .ok refs) :
    Model.Lists.iterRangeLists env secs l cus =
      (sortedDistinct (refs.map (·.1))).mapM fun offset =>
        match Model.Lists.dictGet? (Model.Lists.cuMapOf refs) offset with
        | none => .error .keyError
        | some cu => Model.Lists.getRangeListAtOffset env secs l offset (some cu) := by
  simp only [Model.Lists.iterRangeLists, hrefs, bind, Except.bind, ListsEnum.sortedSet_keys]
  rfl

/-- the visited offsets are the referenced ones: same members, strictly increasing (no list twice) … -/
theorem visited_offsets_mem (xs : List Int) (x : Int) : x ∈ sortedDistinct xs ↔ x ∈ xs :=
  ListsEnum.mem_sortedDistinct xs x

theorem visited_offsets_sorted (xs : List Int) : (sortedDistinct xs).Pairwise (· < ·) :=
  ListsEnum.sortedDistinct_sorted xs

/-- … every visited offset has a unit (the `KeyError` branch is unreachable), and it is one that referred to it -/
theorem visited_offset_has_unit (refs : List (Int × Model.Lists.Cu)) (offset : Int)
    (h : offset ∈ sortedDistinct (refs.map (·.1))) :
    (Model.Lists.dictGet? (Model.Lists.cuMapOf refs) offset).isSome = true := by
  rw [Option.isSome_iff_ne_none, Ne, ListsEnum.dictGet_eq_none, Classical.not_not, ListsEnum.mem_keys_cuMapOf]
  exact (ListsEnum.mem_sortedDistinct _ _).mp h

theorem visited_offset_unit_referred (refs : List (Int × Model.Lists.Cu)) (k : Int) (cu : Model.Lists.Cu)
    (h : Model.Lists.dictGet? (Model.Lists.cuMapOf refs) k = some cu) : (k, cu) ∈ refs :=
  (ListsEnum.mem_of_dictGet_foldl_dictSet h).resolve_right (by simp [Model.Lists.dictGet?])

/-! ### location lists referenced by debugging entries: `iter_location_lists()`

  The section is described by its referenced objects (`Spec.Lists.LocObj`: unreferenced bytes, view pairs, list) —
  for .debug_loclists grouped in unit blocks (`LocUnit`: header with offset table, objects, unreferenced bytes at the
  end).  `dec cu die` is the decoded form of a debugging entry (`hdec`; `die_decoding_plain` and `attr_value_loclistx`
  give it); `refs` are the references `Spec.Lists.dieLocRefs` finds in the entries of the units of the section's
  generation, in `iter_CUs()` × `iter_DIEs()` order.  `refsAgree`: every reference designates an object of the layout —
  with `DW_AT_GNU_locviews` pointing at its first view pair exactly when the object has view pairs — and every object
  is referred to.  The enumeration then yields exactly the objects, in offset order, each as its view pairs followed by
  its entries (`obsObjs`); gaps, offset tables and the bytes at a unit's end are skipped. -/

/-- what `iter_location_lists()` does with one debugging entry: exactly the references the decision table finds -/
theorem die_refs_exact (env : Env) (secs : Model.Lists.Secs) (cu : Model.Lists.Cu) (st : Model.Lists.Scan)
    (die : List Model.Lists.RawAttr) (d : List Model.Lists.Attr) (rs : List LocRef)
    (hd : Model.Lists.dieAttrs env secs cu die = .ok d)
    (hr : dieLocRefs cu.version (d.map ListsLocScan.toDie) = some rs) :
    Model.Lists.scanDie env secs cu st die = .ok (rs.foldl (ListsLocScan.applyRef cu) st) :=
  (ListsLocScan.scanDie_follows env secs cu st die d hd).ok hr

/-- a debugging entry without indexed forms decodes to its raw values (discharges `hdec` below; indexed forms:
    `attr_value_loclistx`) -/
theorem die_decoding_plain (env : Env) (secs : Model.Lists.Secs) (cu : Model.Lists.Cu) (die : List Model.Lists.RawAttr)
    (h : ∀ a ∈ die, a.form ≠ "DW_FORM_loclistx" ∧ a.form ≠ "DW_FORM_rnglistx") :
    Model.Lists.dieAttrs env secs cu die
      = .ok (Model.Lists.attrDict (die.map fun a => ⟨a.name, a.form, a.raw⟩)) := by
  unfold Model.Lists.dieAttrs
  rw [Engine.mapM_ok_of_forall die _ (fun a => (⟨a.name, a.form, a.raw⟩ : Model.Lists.Attr))]
  · rfl
  · intro a ha
    simp [Model.Lists.translateAttrValue, (h a ha).1, (h a ha).2, bind, Except.bind, pure, Except.pure]

/-- `iter_location_lists()` on .debug_loc (DWARF 2–4): the lists are fetched at the referenced offsets whatever
    lies between them (`gap`, `tail` are arbitrary bytes) -/
theorem enumeration_exact_locations_v4 (env : Env) (secs : Model.Lists.Secs) (cfg : DwarfCfg) (l : Model.Lists.Lists)
    (cus : List Model.Lists.Cu) (dec : Model.Lists.Cu → List Model.Lists.RawAttr → List Model.Lists.Attr)
    (refs : List (LocRef × Model.Lists.Cu)) (objs : List (LocObj (List V4Loc))) (tail : Bytes) (outs : List (List Val))
    (hS : l.S = Spec.dwarfStructs cfg) (ha : l.asz = cfg.asz) (hasz : 1 ≤ cfg.asz) (hv : l.version < 5)
    (hd : l.data = encObjs (encV4Loc cfg.le cfg.asz) cfg.le objs ++ tail)
    (hsmall : l.data.length < 2 ^ 63)
    (hdec : ∀ cu ∈ cus, (decide (cu.version ≥ 5) == false) = true →
      ∀ die ∈ cu.dies, Model.Lists.dieAttrs env secs cu die = .ok (dec cu die))
    (hrefs : ListsLocScan.locRefs dec false cus = some refs)
    (hobj : ∀ o ∈ objs, o.viewsOk = true ∧ ∀ x ∈ o.list, x.wf cfg.asz = true)
    (hagree : refsAgree (refs.map (·.1)) ((layout (v4LocSize cfg.asz) 0 objs).map layoutRef) = true)
    (hobs : obsObjs (fun off es => some (obsV4Loc cfg.asz off es)) (layout (v4LocSize cfg.asz) 0 objs) = some outs) :
    Model.Lists.iterLocationLists env secs l cus = .ok outs := by
  rw [← ha] at hd hobj hagree hobs hasz
  obtain ⟨sc, hscan, hall, hat⟩ := ListsLocWalk.scan_facts env secs false dec cus refs _ hdec hrefs
    (fun e he => (ListsLocWalk.layout_facts (encV4Loc cfg.le l.asz) (v4LocSize l.asz) cfg.le
      (ListsV4.encV4Loc_length cfg.le l.asz) objs 0 e he).lo)
    (ListsLocWalk.layout_pairwise (encV4Loc cfg.le l.asz) (v4LocSize l.asz) (ListsV4.encV4Loc_length cfg.le l.asz)
      (fun x => by simp only [v4LocSize]; omega) objs 0) hagree
  have hok := ListsLocWalk.objOk4_of_layout l cfg.le sc dec cus refs objs tail hasz hd hsmall hrefs hobj hat
  rw [ListsLocWalk.obsObjs_v4, Option.some.injEq] at hobs
  subst hobs
  have hv' : ¬ (l.version ≥ 5) := by omega
  unfold Model.Lists.iterLocationLists
  simp only [hv', decide_false, hscan, bind, Except.bind, Bool.false_eq_true, if_false]
  rw [hall, ListsLocWalk.locV4Loop_ok env cfg l cfg.le sc (by rw [hS]) (by rw [hS, ha]; rfl) (by rw [hS]; rfl) (by rw [hS]; rfl)
    hasz _ [] hok]
  simp

/-- `iter_location_lists()` on .debug_loclists (DWARF 5): unit block after unit block; in each block the offset
    table, the bytes between objects and the bytes at the block's end are skipped; each list is translated with the
    address array of the unit that refers to it (`haddr`: what `get_addr_exact` gives).
    (A last block that ends in a gap is such a section: fixes/C07-loclists-trailing-gap.patch.) -/
theorem enumeration_exact_locations_v5 (S : DwarfStructs) (secs : Model.Lists.Secs) (cfg : DwarfCfg)
    (l : Model.Lists.Lists) (cus : List Model.Lists.Cu)
    (dec : Model.Lists.Cu → List Model.Lists.RawAttr → List Model.Lists.Attr)
    (refs : List (LocRef × Model.Lists.Cu)) (us : List LocUnit) (outs : List (List Val))
    (hS : l.S = Spec.dwarfStructs cfg) (hv : 5 ≤ l.version)
    (hd : l.data = encLocUnits cfg.le cfg.asz us)
    (hsmall : l.data.length < 2 ^ 63)
    (hdec : ∀ cu ∈ cus, (decide (cu.version ≥ 5) == true) = true →
      ∀ die ∈ cu.dies, Model.Lists.dieAttrs (Model.dwarfEnv S) secs cu die = .ok (dec cu die))
    (hrefs : ListsLocScan.locRefs dec true cus = some refs)
    (hhdr : ∀ u ∈ us, u.hdr.wf (u.body cfg.le cfg.asz) = true)
    (hobj : ∀ u ∈ us, ∀ o ∈ u.objs, o.viewsOk = true ∧ ∀ x ∈ o.list.2, x.wf lleKinds cfg.asz = true)
    (hagree : refsAgree (refs.map (·.1)) ((layoutUnits cfg.le cfg.asz 0 us).map layoutRef) = true)
    (haddr : ∀ rc ∈ refs, ∀ e ∈ layoutUnits cfg.le cfg.asz 0 us, rc.1 = layoutRef e →
      ∀ i a, addrOf e.2.2.list.1 i = some a →
        Model.Lists.cuAddr (Model.dwarfEnv S) secs (some rc.2) (.int i) = .ok (.int a))
    (hobs : obsObjs (ListsLocWalk.obsL5 cfg.asz) (layoutUnits cfg.le cfg.asz 0 us) = some outs) :
    Model.Lists.iterLocationLists (Model.dwarfEnv S) secs l cus = .ok outs := by
  obtain ⟨p1, p2⟩ := ListsLocWalk.layoutUnits_props cfg.le cfg.asz us 0
  obtain ⟨sc, hscan, hall, hat⟩ := ListsLocWalk.scan_facts (Model.dwarfEnv S) secs true dec cus refs _ hdec hrefs
    (fun e he => (p1 e he).lo) p2 hagree
  have hok := ListsLocWalk.objOk5_of_layout (Model.dwarfEnv S) secs cfg sc refs us hobj haddr hat
  have hv' : l.version ≥ 5 := hv
  have hcnt := ListsLocWalk.encLocUnits_length_ge cfg.le cfg.asz us
  have hdl : (encLocUnits cfg.le cfg.asz us).length = l.data.length := by rw [hd]
  have hlen : sc.allOffsets.length = (layoutUnits cfg.le cfg.asz 0 us).length := by rw [hall]; simp
  unfold Model.Lists.iterLocationLists
  simp only [hv', decide_true, hscan, bind, Except.bind, if_true]
  -- the model's fuel `2 * (…) + 8`: an object costs the inner loop two rounds (skip the gap, read the object), a
  -- unit block the outer loop one; `locSectionLoop_ok` asks for no more
  have := ListsLocWalk.locSectionLoop_ok (Model.dwarfEnv S) secs cfg l sc (dwarfEnv_lle S) (by rw [hS]) (by rw [hS]) (by rw [hS])
    (2 * (l.data.length + sc.allOffsets.length) + 8) hsmall us
    (2 * (l.data.length + sc.allOffsets.length) + 8) 0 0 [] outs (by omega)
    (fun u hu => by
      have := ListsLocWalk.layoutUnits_length_ge cfg.le cfg.asz us 0 u hu
      omega)
    hhdr (by rw [hd]; rfl) (by rw [hall]; rfl) hok hobs
  simpa using this

/-- the references all come from units of the section's generation (a pre-v5 unit is ignored by the enumeration of
    .debug_loclists and vice versa) -/
theorem location_refs_generation (dec : Model.Lists.Cu → List Model.Lists.RawAttr → List Model.Lists.Attr)
    (ver5 : Bool) (cus : List Model.Lists.Cu) (refs : List (LocRef × Model.Lists.Cu))
    (h : ListsLocScan.locRefs dec ver5 cus = some refs) :
    ∀ rc ∈ refs, rc.2 ∈ cus ∧ (decide (rc.2.version ≥ 5) == ver5) = true :=
  ListsLocScan.locRefs_generation dec ver5 cus refs h

/-! ### both generations present: `LocationListsPair` / `RangeListsPair` (what `DWARFInfo.location_lists()` /
    `range_lists()` return when the old and the DWARF 5 section both exist) -/

/-- with both sections present the factory returns a pair holding a version-4 object over the old section and a
    version-5 object over the new one, both with the `DWARFInfo`'s structs -/
theorem factory_pair (S : DwarfStructs) (asz : Nat) (d4 d5 : Bytes) :
    Model.Lists.listsFactory S asz (some d4) (some d5)
      = .pair ⟨⟨d4, S, asz, 4⟩, ⟨d5, S, asz, 5⟩⟩ := rfl

/-- a request made for a unit is forwarded to the DWARF 5 section exactly when the unit's version
    is ≥ 5, otherwise to the old section; without a unit it is refused -/
theorem pair_dispatch_loc (env : Env) (secs : Model.Lists.Secs) (p : Model.Lists.ListsPair) (offset : Int)
    (cu : Model.Lists.Cu) :
    Model.Lists.pairGetLocationListAtOffset env secs p offset (some cu)
      = Model.Lists.getLocationListAtOffset env secs (if cu.version ≥ 5 then p.new else p.old) offset (some cu) := rfl

theorem pair_dispatch_rng (env : Env) (secs : Model.Lists.Secs) (p : Model.Lists.ListsPair) (offset : Int)
    (cu : Model.Lists.Cu) :
    Model.Lists.pairGetRangeListAtOffset env secs p offset (some cu)
      = Model.Lists.getRangeListAtOffset env secs (if cu.version ≥ 5 then p.new else p.old) offset (some cu) := rfl

theorem pair_no_unit (env : Env) (secs : Model.Lists.Secs) (p : Model.Lists.ListsPair) (offset : Int) :
    Model.Lists.pairGetLocationListAtOffset env secs p offset none = .error .dwarfError
      ∧ Model.Lists.pairGetRangeListAtOffset env secs p offset none = .error .dwarfError := ⟨rfl, rfl⟩

/-- a DWARF 5 unit's location list comes from .debug_loclists — whatever .debug_loc holds (`d4`) -/
theorem pair_loc_v5_unit (S : DwarfStructs) (secs : Model.Lists.Secs) (cfg : DwarfCfg) (d4 : Bytes)
    (cu : Model.Lists.Cu) (addrs : List Nat) (pre rest : Bytes) (es : List Ent) (vs : List Val)
    (hcu : 5 ≤ cu.version)
    (hwf : ∀ e ∈ es, e.wf lleKinds cfg.asz = true) (hsmall : pre.length < 2 ^ 63)
    (haddr : ∀ i a, addrOf addrs i = some a →
      Model.Lists.cuAddr (Model.dwarfEnv S) secs (some cu) (.int i) = .ok (.int a))
    (hsp : translateList (fun o e => Spec.Lists.translateLoc (addrOf addrs) cfg.asz o e) cfg.asz pre.length es = some vs) :
    Model.Lists.pairGetLocationListAtOffset (Model.dwarfEnv S) secs
        (Model.Lists.mkPair (Spec.dwarfStructs cfg) cfg.asz d4 (pre ++ encList cfg.le cfg.asz es ++ rest))
        (pre.length : Int) (some cu) = .ok vs := by
  have hc : cu.version ≥ 5 := hcu
  rw [pair_dispatch_loc, if_pos hc]
  exact v5_loclist_fetch S secs cfg _ cu addrs pre rest es vs rfl (Nat.le_refl 5) rfl hwf hsmall haddr hsp

/-- a pre-DWARF-5 unit's location list comes from .debug_loc — whatever .debug_loclists holds (`d5`) -/
theorem pair_loc_old_unit (env : Env) (secs : Model.Lists.Secs) (cfg : DwarfCfg) (d5 : Bytes)
    (cu : Model.Lists.Cu) (pre rest : Bytes) (es : List V4Loc)
    (hcu : cu.version < 5) (hasz : 1 ≤ cfg.asz)
    (hwf : ∀ e ∈ es, e.wf cfg.asz = true) (hsmall : pre.length < 2 ^ 63) :
    Model.Lists.pairGetLocationListAtOffset env secs
        (Model.Lists.mkPair (Spec.dwarfStructs cfg) cfg.asz (pre ++ encV4Loc cfg.le cfg.asz es ++ rest) d5)
        (pre.length : Int) (some cu) = .ok (obsV4Loc cfg.asz pre.length es) := by
  have hc : ¬ (cu.version ≥ 5) := by omega
  rw [pair_dispatch_loc, if_neg hc]
  exact v4_loclist_roundtrip env secs cfg _ (some cu) pre rest es rfl rfl hasz (Nat.lt_succ_self 4) rfl hwf hsmall

/-- … and the same for range lists -/
theorem pair_rng_v5_unit (S : DwarfStructs) (secs : Model.Lists.Secs) (cfg : DwarfCfg) (d4 : Bytes)
    (cu : Model.Lists.Cu) (addrs : List Nat) (pre rest : Bytes) (es : List Ent) (vs : List Val)
    (hcu : 5 ≤ cu.version)
    (hwf : ∀ e ∈ es, e.wf rleKinds cfg.asz = true) (hsmall : pre.length < 2 ^ 63)
    (haddr : ∀ i a, addrOf addrs i = some a →
      Model.Lists.cuAddr (Model.dwarfEnv S) secs (some cu) (.int i) = .ok (.int a))
    (hsp : translateList (fun o e => Spec.Lists.translateRng (addrOf addrs) cfg.asz o e) cfg.asz pre.length es = some vs) :
    Model.Lists.pairGetRangeListAtOffset (Model.dwarfEnv S) secs
        (Model.Lists.mkPair (Spec.dwarfStructs cfg) cfg.asz d4 (pre ++ encList cfg.le cfg.asz es ++ rest))
        (pre.length : Int) (some cu) = .ok vs := by
  have hc : cu.version ≥ 5 := hcu
  rw [pair_dispatch_rng, if_pos hc]
  exact v5_rnglist_fetch S secs cfg _ (some cu) addrs pre rest es vs rfl (Nat.le_refl 5) rfl hwf hsmall haddr hsp

theorem pair_rng_old_unit (env : Env) (secs : Model.Lists.Secs) (cfg : DwarfCfg) (d5 : Bytes)
    (cu : Model.Lists.Cu) (pre rest : Bytes) (es : List V4Rng)
    (hcu : cu.version < 5) (hasz : 1 ≤ cfg.asz)
    (hwf : ∀ e ∈ es, e.wf cfg.asz = true) (hsmall : pre.length < 2 ^ 63) :
    Model.Lists.pairGetRangeListAtOffset env secs
        (Model.Lists.mkPair (Spec.dwarfStructs cfg) cfg.asz (pre ++ encV4Rng cfg.le cfg.asz es ++ rest) d5)
        (pre.length : Int) (some cu) = .ok (obsV4Rng cfg.asz pre.length es) := by
  have hc : ¬ (cu.version ≥ 5) := by omega
  rw [pair_dispatch_rng, if_neg hc]
  exact v4_rnglist_roundtrip env secs cfg _ (some cu) pre rest es rfl rfl hasz (Nat.lt_succ_self 4) rfl hwf hsmall

/-- the remaining forwarding methods: the DWARF 5 object answers the unit-block API, enumeration over two
    sections is refused -/
theorem pair_forwarding (env : Env) (secs : Model.Lists.Secs) (p : Model.Lists.ListsPair) (offset : Int)
    (cus : List Model.Lists.Cu) (h : Val) (cu : Option Model.Lists.Cu) (e : Val) :
    Model.Lists.pairGetRangeListAtOffsetEx env p offset = Model.Lists.getRangeListAtOffsetEx env p.new offset
      ∧ Model.Lists.pairRngIterCUs env p cus = Model.Lists.iterCUs env p.new false cus
      ∧ Model.Lists.pairIterCURangeListsEx env p h = Model.Lists.iterCURangeListsEx env p.new h
      ∧ Model.Lists.pairTranslateV5Entry env secs cu e = Model.Lists.translateV5Entry env secs cu e
      ∧ Model.Lists.pairIterRangeLists = .error .dwarfError
      ∧ Model.Lists.pairIterLocationLists = .error .dwarfError
      ∧ Model.Lists.pairLocIterCUs = .error .dwarfError := ⟨rfl, rfl, rfl, rfl, rfl, rfl, rfl⟩

/-- for every form the library knows, every attribute name and every version, what
    `LocationParser` decides is the decision table `Spec.Lists.classify` -/
theorem classification_table (name form : String) (ver : Nat) (hf : form ∈ TieC07.formNames) :
    ListsCls.modelClass name form ver = classify name form ver :=
  ListsCls.modelClass_eq_classify name form ver (TieC07.block_prefix_forms form hf)

/-- `attribute_has_location` is "the table says expression or list" -/
theorem has_location_table (name form : String) (ver : Nat) (hf : form ∈ TieC07.formNames) :
    Model.Lists.attributeHasLocation name form ver = (classify name form ver != .neither) :=
  ListsCls.hasLocation_eq_classify name form ver (TieC07.block_prefix_forms form hf)

/-- `parse_from_attribute`: an expression attribute yields its expression, a list attribute the list at the
    offset it holds (`v4_loclist_roundtrip` / `v5_loclist_fetch`), anything else is refused -/
theorem parse_from_attribute_by_class (env : Env) (secs : Model.Lists.Secs) (l : Model.Lists.Lists)
    (a : Model.Lists.Attr) (ver : Nat) (cu : Option Model.Lists.Cu) (hf : a.form ∈ TieC07.formNames) :
    Model.Lists.parseFromAttribute env secs l a ver cu =
      match classify a.name a.form ver with
      | .expr => .ok (Model.Lists.nt "LocationExpr" [("loc_expr", a.value)])
      | .list => do
          let off ← a.value.asInt
          let r ← Model.Lists.getLocationListAtOffset env secs l off cu
          pure (.list r)
      | .neither => .error .valueError := by
  rw [← classification_table a.name a.form ver hf]
  unfold Model.Lists.parseFromAttribute
  rcases ListsCls.modelClass_cases a.name a.form ver with ⟨h1, hm⟩ | ⟨h1, h2, hm⟩ | ⟨h1, h2, h3, hm⟩
  · simp [h1, hm]
  · simp [h1, h2, hm, pure, Except.pure]
  · simp [h1, h2, h3, hm, bind, Except.bind, pure, Except.pure]

example : (V4Loc.loc 0 1 [0x50, 0x93, 0x04]).wf 4 = true := by decide +kernel
example : (V4Loc.base 0x1000).wf 8 = true := by decide +kernel
example : (V4Rng.range 0x10 0x20).wf 4 = true := by decide +kernel
example : (Ent.mk ⟨8, "DW_LLE_start_length", [("start_address", .addr), ("length", .uleb), ("loc_expr", .cld)]⟩
            [.addr 0x1000, .uleb 2 0x10, .cld 1 [0x50]]).wf lleKinds 8 = true := by decide +kernel
example : (Ent.mk ⟨2, "DW_RLE_startx_endx", [("start_index", .uleb), ("end_index", .uleb)]⟩
            [.uleb 1 0, .uleb 1 1]).wf rleKinds 4 = true := by decide +kernel
example : (UnitHdr.mk false 8 0 [4]).wf [7, 0, 0, 0, 0, 0, 0, 0, 0, 0, 0] = true := by decide +kernel
example : "DW_FORM_exprloc" ∈ TieC07.formNames := by decide +kernel
example : sortedDistinct [5, 3, 5, 1, 3] = [1, 3, 5] := by decide +kernel
example : classify "DW_AT_location" "DW_FORM_sec_offset" 5 = .list := by decide +kernel
example : classify "DW_AT_location" "DW_FORM_data4" 4 = .neither := by decide +kernel
example : classify "DW_AT_data_member_location" "DW_FORM_data4" 2 = .list := by decide +kernel

/-! non-vacuity of `enumeration_exact_locations_v4` / `_v5`: complete instances (view pairs, gaps, an offset table,
    a trailing gap, a second (64-bit) unit block, a unit of the other generation that is ignored) -/

example (env : Env) : Model.Lists.iterLocationLists env ⟨none, none, none⟩ ListsLocWalk.demoL [ListsLocWalk.demoCu, ListsLocWalk.demoCu5]
    = .ok [[viewPair 2 1 2, locationEntry 5 11 1 2 [0x50] false, locBaseEntry 16 8 7], []] :=
  enumeration_exact_locations_v4 env _ ListsLocWalk.demoCfg ListsLocWalk.demoL [ListsLocWalk.demoCu, ListsLocWalk.demoCu5] ListsLocWalk.demoDec
    [((some 2, 5), ListsLocWalk.demoCu), ((none, 33), ListsLocWalk.demoCu)] ListsLocWalk.demoObjs [1, 2, 3] _
    (hS := rfl) (ha := rfl) (hasz := by decide +kernel) (hv := by decide +kernel) (hd := rfl) (hsmall := by decide +kernel)
    (hdec := fun cu hcu hg die hdie => by
      simp only [List.mem_cons, List.not_mem_nil, or_false] at hcu
      rcases hcu with rfl | rfl
      · exact die_decoding_plain env _ _ die (ListsLocWalk.demo_plain die hdie)
      · exact absurd hg (by decide +kernel))
    (hrefs := rfl) (hobj := by decide +kernel) (hagree := by decide +kernel) (hobs := rfl)

example : (layoutUnits true 4 0 ListsLocWalk.demoUs).map layoutRef = [(none, 16), (some 28, 30)] := by decide +kernel

example : ListsLocWalk.demoL5.data.length = 58 := by decide +kernel

example (S : DwarfStructs) : Model.Lists.iterLocationLists (Model.dwarfEnv S) ⟨none, none, none⟩ ListsLocWalk.demoL5 [ListsLocWalk.demoCu, ListsLocWalk.demoCuV5]
    = .ok [[locBaseEntry 16 5 0x1000, locationEntry 21 5 1 2 [0x50] false],
           [viewPair 28 3 4, locationEntry 30 5 1 2 [0x50] false]] :=
  enumeration_exact_locations_v5 S _ ListsLocWalk.demoCfg ListsLocWalk.demoL5 [ListsLocWalk.demoCu, ListsLocWalk.demoCuV5] ListsLocWalk.demoDec
    [((none, 16), ListsLocWalk.demoCuV5), ((some 28, 30), ListsLocWalk.demoCuV5)] ListsLocWalk.demoUs _
    (hS := rfl) (hv := by decide +kernel) (hd := rfl) (hsmall := by decide +kernel)
    (hdec := fun cu hcu hg die hdie => by
      simp only [List.mem_cons, List.not_mem_nil, or_false] at hcu
      rcases hcu with rfl | rfl
      · exact absurd hg (by decide +kernel)
      · exact die_decoding_plain _ _ _ die (ListsLocWalk.demo_plain5 die hdie))
    (hrefs := rfl) (hhdr := by decide +kernel) (hobj := by decide +kernel) (hagree := by decide +kernel)
    (haddr := fun rc _ e he _ i a h => by
      have hall : ∀ e ∈ layoutUnits true 4 0 ListsLocWalk.demoUs, e.2.2.list.1 = [] := by decide +kernel
      rw [hall e he] at h
      simp [addrOf] at h)
    (hobs := rfl)

/-! ### END TO END FROM SECTION BYTES: `.debug_info` + `.debug_abbrev` (+ `.debug_str`, … for the other attributes) +
    the list sections + `.debug_addr`

  Above, the list code receives the units and their debugging entries as an argument (`cus`, `die`) and the
  decoding of an entry is a hypothesis (`hd`, `hdec`).  Below they come out of the composed model (Model/ListsInfo
  `infoCus`: C04's model of `iter_CUs()` × `iter_DIEs()`, then `die.attributes`), run on the Spec encoding of any
  well-formed forest description as the driver runs it.  What remains are decidable conditions on the description:
  `forestResolves` (every DW_FORM_loclistx / rnglistx index designates a slot of the table section), `refsAgree`, the
  well-formedness of the lists. -/

open PyElf.Spec.C04 (Forest wfForestB)

abbrev forestSecs (F : Forest) : Model.Lists.Secs := Model.Lists.secsOfSections F.secs

/-- what the list code must see of the units of a forest; attributes as encoded (final form of an indirection chain,
    DW_FORM_implicit_const from the declaration) -/
abbrev forestCus (F : Forest) : List Model.Lists.Cu := Model.Lists.forestCus C04.genNames F

/-- the regenerated `DWARFStructs(...)` answers with the standard's whole bundle (Props/TieC07) -/
theorem genBundles_full (le : Bool) (dasz : Nat) :
    ∀ c ∈ Spec.allDwarfCfgs, (C04.genBundles le dasz).structsOf c = some (Spec.dwarfStructs c) :=
  fun c hc => TieC07.gen_structs c hc

/-- `DWARFInfo.structs` — what the list objects are built with — is the standard's bundle of
    (byte order, 32-bit format, default address size, version 2) -/
theorem genBundles_S0_spec (le : Bool) (dasz : Nat) (hd : dasz = 4 ∨ dasz = 8) :
    (C04.genBundles le dasz).S0 = Spec.dwarfStructs ⟨le, 32, dasz, 2⟩ := by
  have h1 := C04.genBundles_S0 le dasz hd
  have hmem : (⟨le, 32, dasz, 2⟩ : DwarfCfg) ∈ Spec.allDwarfCfgs :=
    Proofs.C04.cfg_mem_all le false hd (by omega) (by omega)
  rw [TieC07.gen_structs _ hmem] at h1
  injection h1 with h1
  exact h1.symm

/-- For every well-formed forest description, the units and entries the list code walks
    (`for cu in dwarfinfo.iter_CUs(): for die in cu.iter_DIEs(): die.attributes`), obtained from the encoded
    `.debug_info` / `.debug_abbrev` by the model the driver runs, are exactly the described ones: the `cus`, `cu.dies`
    of the theorems above. -/
theorem debug_info_cus_exact (F : Forest) (dasz : Nat) (hdasz : dasz = 4 ∨ dasz = 8)
    (hwf : wfForestB C04.genNames F = true)
    (G : Model.C04.UnitCtx → Nat → R Spec.C04.DieObs)
    (hG : ∀ U o, U.cuDieOffset ≤ o → G U o = Model.C04.getCachedDIE U o) :
    Model.Lists.infoCus G (C04.forestDInfo F dasz) (C04.genBundles F.le dasz).S0 = .ok (forestCus F) := by
  rw [C04.forestDInfo_eq]
  exact ListsInfo.infoCus_forest C04.registry_gen F dasz (C04.genBundles_ok F.le dasz hdasz) (genBundles_full F.le dasz)
    (Proofs.C04.wfForest_of_B _ F hwf) G hG

/-- Every form, indexed ones included.  `die.attributes` as the list code reads it is `specDec`: name, form and — for
    DW_FORM_loclistx / DW_FORM_rnglistx — `base +` the offset-table slot the index designates (`Spec.C04.uintAt` on the
    section bytes), the raw value otherwise.  `dieResolves` (decidable): every index designates a slot inside its section. -/
theorem die_decoding_exact (env : Env) (secs : Model.Lists.Secs) (cu : Model.Lists.Cu) (le : Bool)
    (die : List Model.Lists.RawAttr)
    (hS : cu.S.the_Dwarf_offset = .uint (Model.Lists.oszOf cu) le)
    (hl : ∀ d, secs.loclists = some d → d.length < 2 ^ 63) (hr : ∀ d, secs.rnglists = some d → d.length < 2 ^ 63)
    (h : Model.Lists.dieResolves le secs cu die = true) :
    Model.Lists.dieAttrs env secs cu die = .ok (Model.Lists.specDec le secs cu die) :=
  ListsSlots.dieAttrs_spec env secs cu le die hS hl hr h

/-- … for every entry of every unit of a forest: no hypothesis about the unit is left -/
theorem forest_die_decoding (F : Forest) (hwf : wfForestB C04.genNames F = true)
    (hres : Model.Lists.forestResolves C04.genNames F = true) (env : Env)
    (cu : Model.Lists.Cu) (hcu : cu ∈ forestCus F) (die : List Model.Lists.RawAttr) (hdie : die ∈ cu.dies) :
    Model.Lists.dieAttrs env (forestSecs F) cu die = .ok (Model.Lists.specDec F.le (forestSecs F) cu die) :=
  ListsInfo.forest_dieAttrs env (Proofs.C04.wfForest_of_B _ F hwf) hres cu hcu die hdie

/-- `get_addr` against the bytes of .debug_addr: index `i` is the address in slot `DW_AT_addr_base + i · address_size` -/
theorem get_addr_slot (env : Env) (secs : Model.Lists.Secs) (cu : Model.Lists.Cu) (le : Bool) (i a : Nat)
    (hS : cu.S.the_Dwarf_target_addr = .uint cu.asz le) (hasz : 1 ≤ cu.asz)
    (hsmall : ∀ d, secs.addr = some d → d.length < 2 ^ 63)
    (h : Model.Lists.addrSlot le secs cu i = some a) :
    Model.Lists.cuAddr env secs (some cu) (.int i) = .ok (.int a) :=
  (ListsSlots.getAddr_follows env secs cu le i hS hasz hsmall).ok h

/-- `dwarfinfo.location_lists().iter_location_lists()` from section bytes, .debug_loc (DWARF 2–4): for every well-formed
    forest whose entries refer to the objects of the described .debug_loc (`refsAgree`: every reference — the value of an
    attribute the decision table classifies as a list, in any list-capable form, together with DW_AT_GNU_locviews —
    designates an object, every object is referred to), the enumeration yields exactly the objects in offset order.
    `refs` are computed from the description. -/
theorem enumeration_exact_locations_v4_info (F : Forest) (dasz : Nat) (hdasz : dasz = 4 ∨ dasz = 8)
    (hwf : wfForestB C04.genNames F = true)
    (G : Model.C04.UnitCtx → Nat → R Spec.C04.DieObs)
    (hG : ∀ U o, U.cuDieOffset ≤ o → G U o = Model.C04.getCachedDIE U o)
    (refs : List (LocRef × Model.Lists.Cu)) (objs : List (LocObj (List V4Loc))) (tail : Bytes) (outs : List (List Val))
    (hsmall : (encObjs (encV4Loc F.le dasz) F.le objs ++ tail).length < 2 ^ 63)
    (hres : Model.Lists.forestResolves C04.genNames F = true)
    (hrefs : ListsLocScan.locRefs (Model.Lists.specDec F.le (forestSecs F)) false (forestCus F) = some refs)
    (hobj : ∀ o ∈ objs, o.viewsOk = true ∧ ∀ x ∈ o.list, x.wf dasz = true)
    (hagree : refsAgree (refs.map (·.1)) ((layout (v4LocSize dasz) 0 objs).map layoutRef) = true)
    (hobs : obsObjs (fun off es => some (obsV4Loc dasz off es)) (layout (v4LocSize dasz) 0 objs) = some outs) :
    Model.Lists.infoIterLocationLists G (C04.forestDInfo F dasz) (C04.genBundles F.le dasz).S0
        (encObjs (encV4Loc F.le dasz) F.le objs ++ tail) 4 = .ok outs := by
  unfold Model.Lists.infoIterLocationLists
  rw [debug_info_cus_exact F dasz hdasz hwf G hG]
  simp only [bind, Except.bind]
  exact enumeration_exact_locations_v4 _ _ ⟨F.le, 32, dasz, 2⟩ _ _ (Model.Lists.specDec F.le (forestSecs F)) refs objs tail outs
    (genBundles_S0_spec F.le dasz hdasz) rfl (by rcases hdasz with h | h <;> simp [h]) (Nat.lt_succ_self 4) rfl hsmall
    (fun cu hcu _ die hdie => forest_die_decoding F hwf hres _ cu hcu die hdie) hrefs hobj hagree hobs

/--
  The same for .debug_loclists (DWARF 5): unit blocks with offset tables, gaps,
  view pairs; entries refer to the lists by offset (DW_FORM_sec_offset) or by index (DW_FORM_loclistx through
  DW_AT_loclists_base and the offset table — decoded by the composed model, `forestResolves`); indexed addresses
  come from the slots of .debug_addr at the referring unit's DW_AT_addr_base (`haddr`, a decidable condition on the
  description: `addrSlot`).  In a file, `F.secs.loclists` is the section enumerated here.
-/
theorem enumeration_exact_locations_v5_info (F : Forest) (dasz : Nat) (hdasz : dasz = 4 ∨ dasz = 8)
    (hwf : wfForestB C04.genNames F = true)
    (G : Model.C04.UnitCtx → Nat → R Spec.C04.DieObs)
    (hG : ∀ U o, U.cuDieOffset ≤ o → G U o = Model.C04.getCachedDIE U o)
    (refs : List (LocRef × Model.Lists.Cu)) (us : List LocUnit) (outs : List (List Val))
    (hsmall : (encLocUnits F.le dasz us).length < 2 ^ 63)
    (hres : Model.Lists.forestResolves C04.genNames F = true)
    (hrefs : ListsLocScan.locRefs (Model.Lists.specDec F.le (forestSecs F)) true (forestCus F) = some refs)
    (hhdr : ∀ u ∈ us, u.hdr.wf (u.body F.le dasz) = true)
    (hobj : ∀ u ∈ us, ∀ o ∈ u.objs, o.viewsOk = true ∧ ∀ x ∈ o.list.2, x.wf lleKinds dasz = true)
    (hagree : refsAgree (refs.map (·.1)) ((layoutUnits F.le dasz 0 us).map layoutRef) = true)
    (haddr : ∀ rc ∈ refs, ∀ e ∈ layoutUnits F.le dasz 0 us, rc.1 = layoutRef e →
      ∀ i a, addrOf e.2.2.list.1 i = some a → Model.Lists.addrSlot F.le (forestSecs F) rc.2 i = some a)
    (hobs : obsObjs (ListsLocWalk.obsL5 dasz) (layoutUnits F.le dasz 0 us) = some outs) :
    Model.Lists.infoIterLocationLists G (C04.forestDInfo F dasz) (C04.genBundles F.le dasz).S0
        (encLocUnits F.le dasz us) 5 = .ok outs := by
  unfold Model.Lists.infoIterLocationLists
  rw [debug_info_cus_exact F dasz hdasz hwf G hG]
  simp only [bind, Except.bind]
  have hW := Proofs.C04.wfForest_of_B _ F hwf
  refine enumeration_exact_locations_v5 _ _ ⟨F.le, 32, dasz, 2⟩ _ _ (Model.Lists.specDec F.le (forestSecs F)) refs us outs
    (genBundles_S0_spec F.le dasz hdasz) (Nat.le_refl 5) rfl hsmall
    (fun cu hcu _ die hdie => forest_die_decoding F hwf hres _ cu hcu die hdie) hrefs hhdr hobj hagree ?_ hobs
  intro rc hrc e he hre i a hia
  have hmem := (location_refs_generation _ true _ refs hrefs rc hrc).1
  obtain ⟨p, hp, hcu⟩ := ListsInfo.mem_forestCus hmem
  have hasz : 1 ≤ rc.2.asz := by
    have := Proofs.C04.wfUnit_asz (hW.infoHdr p.2 (Proofs.C04.mem_placeInfo F _ _ p hp))
    rw [hcu]
    show 1 ≤ p.2.asz
    rcases this with h | h <;> (simp only [Spec.C04.infoUnitOf] at h; omega)
  refine get_addr_slot _ _ rc.2 F.le i a ?_ hasz
    (fun _ hd => ListsInfo.secsSmall_addr hW hd) (haddr rc hrc e he hre i a hia)
  rw [hcu]
  exact ListsInfo.forestCu_addr _ F p

/--
  `dwarfinfo.range_lists().iter_range_lists()` from section bytes (`ver` = 4:
  .debug_ranges, 5: .debug_rnglists): exactly the distinct offsets the DW_AT_ranges attributes of the described units of
  the section's generation hold (by offset or, DW_FORM_rnglistx, by index through DW_AT_rnglists_base and the offset
  table), in increasing order, each fetched with the unit that referred to it last.  `refs` are computed from the
  DESCRIPTION (`rangeRefsSpec`); each fetch is `v4_rnglist_roundtrip` / `v5_rnglist_fetch`.
-/
theorem enumeration_exact_ranges_info (F : Forest) (dasz : Nat) (hdasz : dasz = 4 ∨ dasz = 8)
    (hwf : wfForestB C04.genNames F = true)
    (G : Model.C04.UnitCtx → Nat → R Spec.C04.DieObs)
    (hG : ∀ U o, U.cuDieOffset ≤ o → G U o = Model.C04.getCachedDIE U o)
    (data : Bytes) (ver : Nat) (refs : List (Int × Model.Lists.Cu))
    (hres : Model.Lists.forestResolves C04.genNames F = true)
    (hrefs : ListsInfo.rangeRefsSpec (Model.Lists.specDec F.le (forestSecs F)) (decide (ver ≥ 5)) (forestCus F) = some refs) :
    Model.Lists.infoIterRangeLists G (C04.forestDInfo F dasz) (C04.genBundles F.le dasz).S0 data ver =
      (sortedDistinct (refs.map (·.1))).mapM fun offset =>
        match Model.Lists.dictGet? (Model.Lists.cuMapOf refs) offset with
        | none => .error .keyError
        | some cu => Model.Lists.getRangeListAtOffset (Model.dwarfEnv (C04.genBundles F.le dasz).S0) (forestSecs F)
            (Model.Lists.infoLists (C04.forestDInfo F dasz) (C04.genBundles F.le dasz).S0 data ver) offset (some cu) := by
  unfold Model.Lists.infoIterRangeLists
  rw [debug_info_cus_exact F dasz hdasz hwf G hG]
  simp only [bind, Except.bind]
  exact enumeration_exact_ranges _ _ _ _ refs
    ((ListsInfo.rangeRefs_follows _ _ _ _ _ fun cu hcu die hdie => forest_die_decoding F hwf hres _ cu hcu die hdie).ok hrefs)

/--
  `LocationParser.parse_from_attribute(die.attributes[name], cu['version'], die)` from
  section bytes, for entry `di` of unit `ci` of a well-formed forest: the attribute the description gives that entry
  under `name` (`a`: its form is the encoded final form, its value the raw value or, DW_FORM_loclistx, the offset the
  index designates) is classified by the decision table of its form, its name and the unit's version; an expression
  yields the encoded bytes, a list the list at that offset of the section (`v4_loclist_roundtrip` /
  `v5_loclist_fetch`), anything else is refused.
-/
theorem parse_from_attribute_info (F : Forest) (dasz : Nat) (hdasz : dasz = 4 ∨ dasz = 8)
    (hwf : wfForestB C04.genNames F = true)
    (G : Model.C04.UnitCtx → Nat → R Spec.C04.DieObs)
    (hG : ∀ U o, U.cuDieOffset ≤ o → G U o = Model.C04.getCachedDIE U o)
    (data : Bytes) (ver ci di : Nat) (name : String)
    (hres : Model.Lists.forestResolves C04.genNames F = true)
    (cu : Model.Lists.Cu) (die : List Model.Lists.RawAttr) (a : Model.Lists.Attr)
    (hcu : (forestCus F)[ci]? = some cu) (hdie : cu.dies[di]? = some die)
    (ha : Model.Lists.findAttr (Model.Lists.specDec F.le (forestSecs F) cu die) name = some a)
    (hf : a.form ∈ TieC07.formNames) :
    Model.Lists.infoParseFromAttribute G (C04.forestDInfo F dasz) (C04.genBundles F.le dasz).S0 data ver ci di name =
      match classify a.name a.form cu.version with
      | .expr => .ok (Model.Lists.nt "LocationExpr" [("loc_expr", a.value)])
      | .list => do
          let off ← a.value.asInt
          let r ← Model.Lists.getLocationListAtOffset (Model.dwarfEnv (C04.genBundles F.le dasz).S0) (forestSecs F)
            (Model.Lists.infoLists (C04.forestDInfo F dasz) (C04.genBundles F.le dasz).S0 data ver) off (some cu)
          pure (.list r)
      | .neither => .error .valueError := by
  unfold Model.Lists.infoParseFromAttribute Model.Lists.infoAttr
  rw [debug_info_cus_exact F dasz hdasz hwf G hG]
  have hd := forest_die_decoding F hwf hres (Model.dwarfEnv (C04.genBundles F.le dasz).S0) cu (List.mem_of_getElem? hcu) die
    (List.mem_of_getElem? hdie)
  have hs : (C04.forestDInfo F dasz).secs = F.secs := rfl
  simp only [bind, Except.bind, hcu, hdie, hs, hd, ha, pure, Except.pure]
  exact parse_from_attribute_by_class _ _ _ a cu.version (some cu) hf

/-- … and `range_lists.get_range_list_at_offset(die.attributes[name].value, cu)` -/
theorem range_list_of_attribute_info (F : Forest) (dasz : Nat) (hdasz : dasz = 4 ∨ dasz = 8)
    (hwf : wfForestB C04.genNames F = true)
    (G : Model.C04.UnitCtx → Nat → R Spec.C04.DieObs)
    (hG : ∀ U o, U.cuDieOffset ≤ o → G U o = Model.C04.getCachedDIE U o)
    (data : Bytes) (ver ci di : Nat) (name : String)
    (hres : Model.Lists.forestResolves C04.genNames F = true)
    (cu : Model.Lists.Cu) (die : List Model.Lists.RawAttr) (a : Model.Lists.Attr) (off : Int)
    (hcu : (forestCus F)[ci]? = some cu) (hdie : cu.dies[di]? = some die)
    (ha : Model.Lists.findAttr (Model.Lists.specDec F.le (forestSecs F) cu die) name = some a)
    (hoff : a.value = .int off) :
    Model.Lists.infoRangeListOfAttribute G (C04.forestDInfo F dasz) (C04.genBundles F.le dasz).S0 data ver ci di name =
      Model.Lists.getRangeListAtOffset (Model.dwarfEnv (C04.genBundles F.le dasz).S0) (forestSecs F)
        (Model.Lists.infoLists (C04.forestDInfo F dasz) (C04.genBundles F.le dasz).S0 data ver) off (some cu) := by
  unfold Model.Lists.infoRangeListOfAttribute Model.Lists.infoAttr
  rw [debug_info_cus_exact F dasz hdasz hwf G hG]
  have hd := forest_die_decoding F hwf hres (Model.dwarfEnv (C04.genBundles F.le dasz).S0) cu (List.mem_of_getElem? hcu) die
    (List.mem_of_getElem? hdie)
  have hs : (C04.forestDInfo F dasz).secs = F.secs := rfl
  simp only [bind, Except.bind, hcu, hdie, hs, hd, ha, hoff, Val.asInt, pure, Except.pure]

/-! non-vacuity of the end-to-end theorems: `ListsInfoDemo.demoF` (a DWARF 4 unit referring to .debug_loc with and
    without DW_AT_GNU_locviews, a DWARF 5 unit referring to .debug_loclists BY INDEX and by offset) satisfies every
    hypothesis; the two enumerations ignore the unit of the other generation -/

theorem demoF_wf : wfForestB C04.genNames ListsInfoDemo.demoF = true := by decide +kernel
theorem demoF_resolves : Model.Lists.forestResolves C04.genNames ListsInfoDemo.demoF = true := by decide +kernel

/-- two units; per unit the attribute counts of its entries in `iter_DIEs()` order (the closing null entry has none) -/
example : (forestCus ListsInfoDemo.demoF).map (fun cu => (cu.version, cu.dies.map (·.length)))
    = [(4, [1, 2, 2, 0]), (5, [1, 1, 2, 0])] := by decide +kernel

theorem demoF_refs4 : (ListsLocScan.locRefs (Model.Lists.specDec true (forestSecs ListsInfoDemo.demoF)) false
    (forestCus ListsInfoDemo.demoF)).isSome = true := by decide +kernel
theorem demoF_refs5 : (ListsLocScan.locRefs (Model.Lists.specDec true (forestSecs ListsInfoDemo.demoF)) true
    (forestCus ListsInfoDemo.demoF)).isSome = true := by decide +kernel

/-- the DW_FORM_loclistx index 0 of the DWARF 5 unit is decoded to offset 16 -/
example : ((ListsLocScan.locRefs (Model.Lists.specDec true (forestSecs ListsInfoDemo.demoF)) true
    (forestCus ListsInfoDemo.demoF)).get demoF_refs5).map (·.1) = [(none, 16), (some 28, 30)] := by decide +kernel

example : Model.Lists.infoIterLocationLists Model.C04.fetch (C04.forestDInfo ListsInfoDemo.demoF 4) (C04.genBundles true 4).S0
      (encObjs (encV4Loc true 4) true ListsLocWalk.demoObjs ++ [1, 2, 3]) 4
    = .ok [[viewPair 2 1 2, locationEntry 5 11 1 2 [0x50] false, locBaseEntry 16 8 7], []] :=
  enumeration_exact_locations_v4_info ListsInfoDemo.demoF 4 (Or.inl rfl) demoF_wf Model.C04.fetch C04.fetch_agrees
    (Option.get _ demoF_refs4) ListsLocWalk.demoObjs [1, 2, 3] _
    (hsmall := by decide +kernel) (hres := demoF_resolves) (hrefs := (Option.some_get _).symm)
    (hobj := by decide +kernel) (hagree := by decide +kernel) (hobs := rfl)

example : Model.Lists.infoIterLocationLists Model.C04.fetch (C04.forestDInfo ListsInfoDemo.demoF 4) (C04.genBundles true 4).S0
      (encLocUnits true 4 ListsLocWalk.demoUs) 5
    = .ok [[locBaseEntry 16 5 0x1000, locationEntry 21 5 1 2 [0x50] false],
           [viewPair 28 3 4, locationEntry 30 5 1 2 [0x50] false]] :=
  enumeration_exact_locations_v5_info ListsInfoDemo.demoF 4 (Or.inl rfl) demoF_wf Model.C04.fetch C04.fetch_agrees
    (Option.get _ demoF_refs5) ListsLocWalk.demoUs _
    (hsmall := by decide +kernel) (hres := demoF_resolves) (hrefs := (Option.some_get _).symm)
    (hhdr := by decide +kernel) (hobj := by decide +kernel) (hagree := by decide +kernel)
    (haddr := fun rc _ e he _ i a h => by
      have hall : ∀ e ∈ layoutUnits true 4 0 ListsLocWalk.demoUs, e.2.2.list.1 = [] := by decide +kernel
      rw [hall e he] at h
      simp [addrOf] at h)
    (hobs := rfl)

/-- C07 × C12.  A location entry of either generation (`locationEntry` is what every fetch / enumeration theorem above
    reports for a bounded entry) whose `loc_expr` encodes a well-formed operation sequence `ops`: handing
    `entry.loc_expr` to `DWARFExprParser(structs).parse_expr` — `bytes(loc_expr)`, then C12's model with the regenerated
    tables of any configuration — yields exactly the encoded operations. -/
theorem location_expr_ops_exact (c : DwarfCfg) (D : List (Nat × List ArgKind)) (hD : (c, D) ∈ Gen.opDispatch)
    (ops : List Op) (hwf : WFops c ops = true) (off len : Nat) (b e : Int) (abs : Bool) :
    ∃ v, Model.Lists.attr (locationEntry off len b e (encodeOps c ops) abs) "loc_expr" = .ok v ∧
      (ListsExpr.exprBytes v).map (Model.parseExpr D Gen.opOpcode2Name) = some (.ok (annotate c 0 ops)) :=
  ⟨_, ListsExpr.locationEntry_expr off len b e _ abs, by
    rw [ListsExpr.exprBytes_exprVal, Option.map_some, C12.expr_roundtrip c D hD ops hwf]⟩

/-- … from section bytes, DWARF 2–4: the first entry of the list fetched at the offset of an encoded list whose first
    entry carries `encodeOps c ops` is that location entry (so `location_expr_ops_exact` applies to what
    `get_location_list_at_offset` returns) -/
theorem v4_loclist_first_expr (env : Env) (secs : Model.Lists.Secs) (cfg : DwarfCfg) (l : Model.Lists.Lists)
    (cu : Option Model.Lists.Cu) (pre rest : Bytes) (b e : Nat) (x : Bytes) (es : List V4Loc)
    (hS : l.S = Spec.dwarfStructs cfg) (ha : l.asz = cfg.asz) (hasz : 1 ≤ cfg.asz) (hv : l.version < 5)
    (hd : l.data = pre ++ encV4Loc cfg.le cfg.asz (.loc b e x :: es) ++ rest)
    (hwf : ∀ y ∈ V4Loc.loc b e x :: es, y.wf cfg.asz = true) (hsmall : pre.length < 2 ^ 63) :
    ∃ vs, Model.Lists.getLocationListAtOffset env secs l (pre.length : Int) cu
      = .ok (locationEntry pre.length (cfg.asz + cfg.asz + (2 + x.length)) b e x false :: vs) :=
  ⟨_, v4_loclist_roundtrip env secs cfg l cu pre rest _ hS ha hasz hv hd hwf hsmall⟩

/-- … and an expression-class attribute (`parse_from_attribute_by_class`, `.expr`): the `LocationExpr` carries the
    attribute's block bytes (C04's raw value of DW_FORM_exprloc / DW_FORM_block*: `Spec.C04.byteList`), which parse to
    the encoded operations -/
theorem location_expr_attr_ops_exact (c : DwarfCfg) (D : List (Nat × List ArgKind)) (hD : (c, D) ∈ Gen.opDispatch)
    (ops : List Op) (hwf : WFops c ops = true) :
    ∃ v, Model.Lists.attr (Model.Lists.nt "LocationExpr" [("loc_expr", Spec.C04.byteList (encodeOps c ops))]) "loc_expr" = .ok v ∧
      (ListsExpr.exprBytes v).map (Model.parseExpr D Gen.opOpcode2Name) = some (.ok (annotate c 0 ops)) :=
  ⟨Spec.C04.byteList (encodeOps c ops), by simp [Model.Lists.attr, Model.Lists.nt, Fields.get?], by
    show (ListsExpr.exprBytes (exprVal (encodeOps c ops))).map _ = _
    rw [ListsExpr.exprBytes_exprVal, Option.map_some, C12.expr_roundtrip c D hD ops hwf]⟩

example : WFops ⟨false, 64, 8, 5⟩ C12.sample = true := by decide +kernel
example : (V4Loc.loc 1 2 (encodeOps ⟨true, 32, 4, 4⟩ [.plain 0x50 [], .plain 0x91 [.sleb 2 (-5)]])).wf 4 = true := by decide +kernel

end PyElf.Props.C07
