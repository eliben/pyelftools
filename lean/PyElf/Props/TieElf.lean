/-
  Tie theorems (T2 ↔ Spec), ELF side: the struct bundles regenerated from /repo
  on this run are, for every configuration (byte order × class × machine class ×
  Solaris × core), exactly the structures the standards prescribe: column by column, hence as a list of pairs
  (`bundles_eq`), hence through the look-up `Model.elfStructsFor` (`gen_structs`).
-/
import PyElf.Gen.Structs
import PyElf.Spec.ElfStructs
import PyElf.Model.Env
import PyElf.Proofs.ListFacts
import PyElf.Proofs.Cfg
import PyElf.Props.TieC01
namespace PyElf.Props.TieElf
open PyElf

/-- every e_machine name the library distinguishes falls in the class the Spec assigns -/
theorem machine_class_eq_spec : Gen.machineClass = Spec.machineClass := TieC01.machine_class_eq_spec

theorem elf_cfgs_eq_spec : Gen.elfBundles.map (·.1) = Spec.allElfCfgs := TieC01.elf_cfgs_eq_spec

theorem elf_bundles_eq_spec : Gen.elfBundles.map (·.2) = Spec.allElfCfgs.map Spec.elfStructs := by rfl

theorem bundles_eq : Gen.elfBundles = Spec.allElfCfgs.map (fun c => (c, Spec.elfStructs c)) :=
  Proofs.Engine.eq_map_of_columns elf_cfgs_eq_spec elf_bundles_eq_spec

theorem bundles_field {α : Type} (g : ElfStructs → α) :
    Gen.elfBundles.map (fun b => (b.1, g b.2)) = Spec.allElfCfgs.map (fun c => (c, g (Spec.elfStructs c))) := by
  rw [bundles_eq, List.map_map]
  rfl

theorem mem_bundles {c : ElfCfg} {S : ElfStructs} (hS : (c, S) ∈ Gen.elfBundles) : S = Spec.elfStructs c := by
  rw [bundles_eq] at hS
  obtain ⟨c', -, hc'⟩ := List.mem_map.mp hS
  obtain ⟨rfl, rfl⟩ := Prod.mk.inj hc'
  rfl

theorem gen_structs (c : ElfCfg) (hc : c ∈ Spec.allElfCfgs) : Model.elfStructsFor c = some (Spec.elfStructs c) := by
  unfold Model.elfStructsFor
  rw [bundles_eq]
  exact Proofs.Engine.find?_map_key_mem Spec.elfStructs c Spec.allElfCfgs hc

end PyElf.Props.TieElf
