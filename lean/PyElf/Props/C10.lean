/-
  C10 — answers do not depend on query history or stream position.

  `F : File` is the pure (stateless) side of one opened file: the parse functions
  `_parse_CU_at_offset` and `DIE(cu, stream, offset)` enter as PARAMETERS that are pure in (file, offset) — for the
  code this is the content of the absolute `seek` before every parse, which the correspondence run checks
  (harness/props/c10.py runs the same op list through the model and through the live object and compares every answer,
  the abstract cache state AND the position of the `.debug_info` stream after every operation).
  `FileWF F cs`: parse results carry the offset they were parsed at, the section is the units `cs` back to back
  (`Chain`, C13), nothing parses as a DIE below a unit's first DIE.  `OpValid`: unit offsets passed to lookups are
  unit starts (an invalid `get_CU_at` offset poisons the unit cache by design; out of scope as the design states).
  DIE offsets are NOT restricted.

  The stateless meaning of an operation is its answer on a freshly opened object: `answer F op := (step F State.init op).1`
  (Model/History.lean).  Three layers, each an invariant that every valid operation keeps and under which the answer of
  a query does not depend on the state:
    * `Inv` (hypothesis `FileWF` alone): the lookups `Lookup op` (`answer_refines_partial` …), and reference following
      (`ref`, unit-relative and DW_FORM_ref_addr) and the pubnames lookup (`ref_pubname_state_independent`);
    * `InvT` (with the tree-shaped layout `TreeWF`): every operation in `Query`, i.e. everything except creating /
      resuming a handle (those are `new_generator_handle` / `suspended_generator_kth`) — all of the above, navigation
      and the generators (`iter_siblings` included, partially consumed and interleaved) (`answer_refines`,
      `random_access_eq_sequential`);
    * `XInvT` (the cache layer `Model/HistoryCaches.lean`, `xstep`): the abbreviation-table caches (the DIE
      constructor of the base model is fed with the table the caches hold:
      `die_parse_independent_of_abbrev_caches`), the `LineProgram` objects of `_linetable_cache` and `CallFrameInfo`
      objects (`entries`, `_entry_cache` with forward CIE pointers, FDE → CIE sharing, retries after a parse that
      raised), with refinement `xanswer_refines`.
  Hypotheses that remain (each with a concrete witness below): `TreeWF` for navigation; a sibling GENERATOR is
  covered for entries that have an owner (for the top entry the generator raises at its first `next()`); `LPWF`
  (units sharing a line program share its structs; no DW_LNE_define_file — the known finding); `CfiWF` (a fresh parse
  of a CFI entry ends where its length field says) and the model's fuel suffices for the reference enumeration.
  Correspondence / exploration only: section, segment and symbol access by index and iteration, section data,
  aranges (no cache state of their own beyond the two name maps, which are proved); the stream positions of the
  sections other than `.debug_info` (every parse there starts with an absolute seek; in `_parse_entry_at` the
  cache-hit path seeks as well, to the end of the entry).

  No struct bundle or generated table is used by this property, so there is no `TieC10`.
-/
import PyElf.Model.History
import PyElf.Proofs.History
import PyElf.Proofs.HistoryState
import PyElf.Proofs.DwarfLookup
import PyElf.Model.HistoryCaches
import PyElf.Proofs.HistoryCfi
import PyElf.Proofs.HistoryCaches
import PyElf.Proofs.SigCache
namespace PyElf.Props.C10
open PyElf PyElf.Model.Lookup PyElf.Model.C10 PyElf.Proofs.Lookup PyElf.Proofs.C10

theorem inv_initial (F : File) (cs : List CU) : Inv F cs State.init := inv_init F cs

/-- EVERY public operation keeps it: unit lookups, DIE lookups, `iter_children` / `get_parent` (ancestor search),
    line-program retrieval, the name maps, creating a generator, resuming any suspended generator (`next`, partial
    consumption interleaved with anything else), abandoning generators, and adversarial `seek`s -/
theorem inv_step {F : File} {cs : List CU} (wf : FileWF F cs) {st : State} (hinv : Inv F cs st) {op : Op}
    (hv : OpValid F cs op) : Inv F cs (step F st op).2 := step_inv wf hinv hv

theorem inv_run {F : File} {cs : List CU} (wf : FileWF F cs) (ops : List Op) (hv : ∀ op ∈ ops, OpValid F cs op) :
    Inv F cs (run F State.init ops) := run_inv wf ops _ (inv_init F cs) hv

/-- `Inv s → (step s op).1 = answer file op` for the lookups `Lookup op`: these need `FileWF` only.  For the
    navigation answers `Inv` is KEPT (`inv_step`), but they are functions of the file only when the DIE layout is a
    tree (`_parent` is whichever ancestor walk reached the DIE last): that is `answer_refines`, under `TreeWF`. -/
theorem answer_refines_partial {F : File} {cs : List CU} (wf : FileWF F cs) {st : State} (hinv : Inv F cs st) {op : Op}
    (hv : OpValid F cs op) (hl : Lookup op) : (step F st op).1 = answer F op :=
  step_lookup_eq wf hinv (inv_init F cs) hv hl.looksUp

/-- after ANY finite sequence of valid operations — child and subtree iteration, parent search, partially consumed
    generators, seeks — a lookup answers what it answers on a freshly opened object -/
theorem answers_independent_of_history_partial {F : File} {cs : List CU} (wf : FileWF F cs) (ops : List Op)
    (hops : ∀ o ∈ ops, OpValid F cs o) {op : Op} (hv : OpValid F cs op) (hl : Lookup op) :
    (step F (run F State.init ops) op).1 = answer F op :=
  answer_refines_partial wf (inv_run wf ops hops) hv hl

/-- … and of where the shared stream was left: repositioning the stream does not change the next answer -/
theorem answers_independent_of_stream_position_partial {F : File} {cs : List CU} (wf : FileWF F cs) {st : State}
    (hinv : Inv F cs st) (n : Nat) {op : Op} (hv : OpValid F cs op) (hl : Lookup op) :
    (step F (step F st (.seek n)).2 op).1 = (step F st op).1 :=
  step_lookup_eq wf (step_inv wf hinv (op := .seek n) trivial) hinv hv hl.looksUp

/-- repeated identical queries return equal results -/
theorem repeated_query_equal_partial {F : File} {cs : List CU} (wf : FileWF F cs) {st : State} (hinv : Inv F cs st)
    {op : Op} (hv : OpValid F cs op) (hl : Lookup op) : (step F (step F st op).2 op).1 = (step F st op).1 :=
  step_lookup_eq wf (step_inv wf hinv hv) hinv hv hl.looksUp

/-- `get_CU_at(o)` at a unit start: the unit starting there -/
theorem cu_at_exact {F : File} {cs : List CU} (wf : FileWF F cs) {st : State} (hinv : Inv F cs st) {c : CU} (hc : c ∈ cs) :
    (step F st (.cuAt c.cuOffset)).1 = .ok (.pair c.cuOffset c.cuDieOffset) := (step_cuAt wf hinv hc).1

/-- `get_CU_containing(x)`: the unit whose extent contains `x` -/
theorem cu_containing_exact {F : File} {cs : List CU} (wf : FileWF F cs) {st : State} (hinv : Inv F cs st) {x : Nat}
    (hx : x < F.size) :
    ∃ c sz, (step F st (.cuCont x)).1 = .ok (.pair c.cuOffset c.cuDieOffset) ∧ c ∈ cs ∧ c.size = .ok sz ∧
      c.cuOffset ≤ x ∧ x < c.cuOffset + sz := by
  obtain ⟨c, hc, sz, hsz, h1, h2⟩ := containing_exists wf hx
  exact ⟨c, sz, (step_cuCont wf hinv hc hsz h1 h2).1, hc, hsz, h1, h2⟩

/-- `cu.get_DIE_from_refaddr(off)`: the pure parse at `off` (random access), in every cache state -/
theorem die_at_exact {F : File} {cs : List CU} (wf : FileWF F cs) {st : State} (hinv : Inv F cs st) {c : CU} (hc : c ∈ cs)
    {sz : Nat} (hsz : c.size = .ok sz) (off : Nat) :
    (step F st (.die c.cuOffset off)).1 = (pureRefaddr F c sz off).map (fun d => Ans.nat d.offset) :=
  (step_die wf hinv hc hsz off).1

theorem top_die_exact {F : File} {cs : List CU} (wf : FileWF F cs) {st : State} (hinv : Inv F cs st) {c : CU} (hc : c ∈ cs) :
    (step F st (.top c.cuOffset)).1 = (F.parseDIE c.cuOffset c.cuDieOffset).map (fun d => Ans.nat d.offset) :=
  (step_top wf hinv hc).1

/-- the section-name map, built lazily, never changes an answer: `buildSecMap` is the `dict` the code fills in
    section order (a later section of the same name overwrites the index); no property of it is needed or stated -/
theorem section_index_exact {F : File} {cs : List CU} {st : State} (hinv : Inv F cs st) (name : String) :
    (step F st (.secIdx name)).1 = .ok (.opt (((buildSecMap F.secNames).find? (·.1 == name)).map (·.2))) :=
  (step_secIdx hinv name).1

/-- `_get_cached_DIE(o)` in every cache state satisfying the unit invariant, for every offset not below the first
    DIE: the pure parse at `o` (after that of the top DIE, which is forced first).  `bisect_right` is CPython's loop
    (`Model.Lookup.bisectLoop`, specification `Props.C13.bisect_right_sorted`). -/
theorem die_cache_exact {PD : Nat → R DIE} {dieOff : Nat} (hPo : ∀ o d, PD o = .ok d → d.offset = o) {u : UnitCache}
    (h : UCore PD dieOff u) {o : Nat} (hlow : dieOff ≤ o) :
    (getCachedDIE PD dieOff u o).1 = (PD dieOff >>= fun _ => PD o) ∧ UCore PD dieOff (getCachedDIE PD dieOff u o).2 :=
  getCachedDIE_spec hPo h hlow

theorem die_cache_initial (PD : Nat → R DIE) (dieOff pos : Nat) : UCore PD dieOff (UnitCache.empty pos) :=
  ucore_empty PD dieOff pos

/-- child iteration (every `next()` of a suspended `iter_DIE_children` generator, with the DW_AT_sibling shortcut,
    the `_terminator` reuse and the nested full iteration), subtree iteration and the ancestor search keep the unit
    invariant, for every fuel, iterator state and DIE -/
theorem navigation_keeps_die_cache {PD : Nat → R DIE} {dieOff : Nat} (hPo : ∀ o d, PD o = .ok d → d.offset = o)
    (hlowP : ∀ o d, PD o = .ok d → dieOff ≤ o) {u : UnitCache} (h : UCore PD dieOff u) (fuel : Nat) :
    (∀ it, UCore PD dieOff (childNext PD dieOff fuel it u).2.2) ∧
    (∀ it acc, UCore PD dieOff (drain PD dieOff fuel it u acc).2) ∧
    (∀ stack, UCore PD dieOff (subNext PD dieOff fuel stack u).2.2) ∧
    (∀ self, UCore PD dieOff (getParent PD dieOff fuel self u).2) :=
  ⟨fun it => childNext_core hPo hlowP fuel it h, fun it acc => drain_core hPo hlowP fuel it acc h,
   fun stack => subNext_core hPo hlowP fuel stack u h, fun self => getParent_core hPo hlowP fuel self h⟩

/-! Navigation answers, with the tree-shaped layout as a file hypothesis.
  `TreeWF F cs T`: `T` assigns to every unit the tree of its entries, laid out from the unit's first DIE offset (`Lay`:
  positive sizes tile the extent, every sibling list ends in a null leaf, DW_AT_sibling on an owner designates the end
  of its subtree — the shape of C04's `flatten` / `sibOk`); the parse at every entry's offset returns that entry.
  `OpValidT`: as `OpValid`, and the DIE offsets passed to navigation are offsets of entries (a navigation call on a
  garbage offset hangs `_parent` links of real entries on a garbage object).
  `InvT F cs T g st`: `Inv`, the `_parent` / `_terminator` links are the tree's, and the generator behind every handle
  `i` still has to produce the stateless enumeration of its kind from item `n` on, `(kind, n) = g[i]` being
  bookkeeping computed from the operation list alone (`ghost`). -/

theorem invT_initial (F : File) (cs : List CU) (T : Nat → DTree) : InvT F cs T [] State.init := invT_init F cs T

theorem invT_step {F : File} {cs : List CU} {T : Nat → DTree} (wf : FileWF F cs) (tw : TreeWF F cs T) {st : State}
    {g : Ghost} (hinv : InvT F cs T g st) {op : Op} (hv : OpValidT F cs T op) :
    InvT F cs T (ghostStep g op) (step F st op).2 := step_invT wf tw hinv hv

theorem invT_run {F : File} {cs : List CU} {T : Nat → DTree} (wf : FileWF F cs) (tw : TreeWF F cs T) (ops : List Op)
    (hv : ∀ op ∈ ops, OpValidT F cs T op) : InvT F cs T (ghost ops) (run F State.init ops) :=
  run_invT wf tw ops _ [] (invT_init F cs T) hv

/-- `InvT s → (step s op).1 = answer file op` for every query (`Query`: everything except creating / resuming a
    handle, whose answers are by nature relative to the handle — see `suspended_generator_kth`): the lookups AND
    navigation, reference following, the pubnames lookup, the first `n` items and the full list of every generator -/
theorem answer_refines {F : File} {cs : List CU} {T : Nat → DTree} (wf : FileWF F cs) (tw : TreeWF F cs T) {st : State}
    {g : Ghost} (hinv : InvT F cs T g st) {op : Op} (hv : OpValidT F cs T op) (hq : Query op) :
    (step F st op).1 = answer F op :=
  step_answer_eqT wf tw hinv (invT_init F cs T) hv hq

/-- after ANY finite history of valid operations (navigation, generators created, partially consumed, abandoned,
    seeks), every query answers what it answers on a freshly opened object -/
theorem answers_independent_of_history {F : File} {cs : List CU} {T : Nat → DTree} (wf : FileWF F cs)
    (tw : TreeWF F cs T) (ops : List Op) (hops : ∀ o ∈ ops, OpValidT F cs T o) {op : Op} (hv : OpValidT F cs T op)
    (hq : Query op) : (step F (run F State.init ops) op).1 = answer F op :=
  answer_refines wf tw (invT_run wf tw ops hops) hv hq

theorem answers_independent_of_stream_position {F : File} {cs : List CU} {T : Nat → DTree} (wf : FileWF F cs)
    (tw : TreeWF F cs T) {st : State} {g : Ghost} (hinv : InvT F cs T g st) (n : Nat) {op : Op}
    (hv : OpValidT F cs T op) (hq : Query op) : (step F (step F st (.seek n)).2 op).1 = (step F st op).1 :=
  step_answer_eqT wf tw (step_invT wf tw hinv (op := .seek n) trivial) hinv hv hq

theorem repeated_query_equal {F : File} {cs : List CU} {T : Nat → DTree} (wf : FileWF F cs) (tw : TreeWF F cs T)
    {st : State} {g : Ghost} (hinv : InvT F cs T g st) {op : Op} (hv : OpValidT F cs T op) (hq : Query op) :
    (step F (step F st op).2 op).1 = (step F st op).1 :=
  step_answer_eqT wf tw (step_invT wf tw hinv hv) hinv hv hq

/-- `list(die.iter_children())`: the entry's children in the tree (the closing null entry is not reported) -/
theorem children_exact {F : File} {cs : List CU} {T : Nat → DTree} (wf : FileWF F cs) (tw : TreeWF F cs T) {st : State}
    {g : Ghost} (hinv : InvT F cs T g st) {c : CU} (hc : c ∈ cs) {x : DTree × Option DIE}
    (hx : x ∈ ents none (T c.cuOffset)) :
    (step F st (.children c.cuOffset x.1.d.offset)).1 = .ok (.list ((kidsOut x.1.kids).map (·.offset))) :=
  (step_children_T wf tw hinv hc hx).1

/-- `die.get_parent()`: the owner in the tree, `None` for the top entry — whichever walk set `_parent` last -/
theorem parent_exact {F : File} {cs : List CU} {T : Nat → DTree} (wf : FileWF F cs) (tw : TreeWF F cs T) {st : State}
    {g : Ghost} (hinv : InvT F cs T g st) {c : CU} (hc : c ∈ cs) {x : DTree × Option DIE}
    (hx : x ∈ ents none (T c.cuOffset)) :
    (step F st (.parent c.cuOffset x.1.d.offset)).1 = .ok (.opt (x.2.map (·.offset))) :=
  (step_parent_T wf tw hinv hc hx).1

/-- `list(cu.iter_DIEs())`: the pre-order flattening of the tree, null entries included -/
theorem iter_dies_exact {F : File} {cs : List CU} {T : Nat → DTree} (wf : FileWF F cs) (tw : TreeWF F cs T) {st : State}
    {g : Ghost} (hinv : InvT F cs T g st) {c : CU} (hc : c ∈ cs) :
    (step F st (.all (.dies c.cuOffset))).1 = .ok (.list ((flatT (T c.cuOffset)).map (·.offset))) :=
  (step_all_T wf tw hinv (k := .dies c.cuOffset) ⟨⟨c, hc, rfl⟩, rfl⟩).1

/-- `list(dwarfinfo.iter_CUs())`: the units of the section -/
theorem iter_cus_exact {F : File} {cs : List CU} {T : Nat → DTree} (wf : FileWF F cs) (tw : TreeWF F cs T) {st : State}
    {g : Ghost} (hinv : InvT F cs T g st) : (step F st (.all .cus)).1 = .ok (.list (cs.map (·.cuOffset))) :=
  (step_all_T wf tw hinv (k := .cus) rfl).1

/-- the first `n` items of a fresh generator are the first `n` of its full list -/
theorem take_exact {F : File} {cs : List CU} {T : Nat → DTree} (wf : FileWF F cs) (tw : TreeWF F cs T) {st : State}
    {g : Ghost} (hinv : InvT F cs T g st) {k : IterKind} {l : List Nat} (hk : KindEnum cs T k l) (n : Nat) :
    (step F st (.take k n)).1 = .ok (.list (l.take n)) ∧ (step F st (.all k)).1 = .ok (.list l) :=
  ⟨(step_take_T wf tw hinv hk n).1, (step_all_T wf tw hinv hk).1⟩

/-- PARTIALLY CONSUMED GENERATORS.  After any history `ops` of valid operations — creating further generators,
    resuming this or other generators, navigation, lookups, seeks, in any interleaving — `next()` on the handle
    that `ghost ops` records as created with kind `k` and asked `n` times so far reports the `n`-th item of the
    STATELESS enumeration of `k` (the answer `list(...)` gives on a freshly opened object), or exhaustion. -/
theorem suspended_generator_kth {F : File} {cs : List CU} {T : Nat → DTree} (wf : FileWF F cs) (tw : TreeWF F cs T)
    (ops : List Op) (hops : ∀ o ∈ ops, OpValidT F cs T o) (h : Nat) {k : IterKind} {n : Nat}
    (hg : (ghost ops)[h % (ghost ops).length]? = some (k, n)) :
    ∃ l, answer F (.all k) = .ok (.list l) ∧ (step F (run F State.init ops) (.itNext h)).1 = .ok (nthAns l n) := by
  obtain ⟨l, hk, h1⟩ := step_itNext_T wf tw (invT_run wf tw ops hops) h hg
  exact ⟨l, (step_all_T wf tw (invT_init F cs T) hk).1, h1⟩

/-- … and creating a generator answers the next free handle -/
theorem new_generator_handle {F : File} {cs : List CU} {T : Nat → DTree} (wf : FileWF F cs) (tw : TreeWF F cs T)
    (ops : List Op) (hops : ∀ o ∈ ops, OpValidT F cs T o) {k : IterKind} (hk : OpValidT F cs T (.itNew k)) :
    (step F (run F State.init ops) (.itNew k)).1 = .ok (.nat (ghost ops).length) := by
  obtain ⟨l, hl⟩ := hk
  exact step_itNew_T wf tw (invT_run wf tw ops hops) hl

/-- RANDOM ACCESS = SEQUENTIAL ACCESS.  The sequential enumeration of a unit (on a fresh object) is the pre-order
    flattening of its tree, and after ANY history `get_DIE_from_refaddr` at the offset of an element `d` of that
    enumeration returns exactly the record `d` (the model's `die` query reports its offset). -/
theorem random_access_eq_sequential {F : File} {cs : List CU} {T : Nat → DTree} (wf : FileWF F cs) (tw : TreeWF F cs T)
    (ops : List Op) (hops : ∀ o ∈ ops, OpValidT F cs T o) {c : CU} (hc : c ∈ cs) :
    answer F (.all (.dies c.cuOffset)) = .ok (.list ((flatT (T c.cuOffset)).map (·.offset))) ∧
    ∀ d ∈ flatT (T c.cuOffset),
      (dieAt F (run F State.init ops) c.cuOffset d.offset).1 = .ok (c, d) ∧
      (step F (run F State.init ops) (.die c.cuOffset d.offset)).1 = .ok (.nat d.offset) := by
  refine ⟨iter_dies_exact wf tw (invT_init F cs T) hc, ?_⟩
  intro d hd
  obtain ⟨x, hx, rfl⟩ := (mem_flatT none).mp hd
  obtain ⟨st', h1, _⟩ := dieAt_ok wf tw (invT_run wf tw ops hops) hc hx
  refine ⟨by rw [h1], ?_⟩
  simp only [step, h1]

/-- `list(die.iter_siblings())` / the sibling generator of an entry that has an owner: the other non-null entries
    of the owner's sibling list, in order (also a generator kind for `take` / `it_new` / `next`,
    so `suspended_generator_kth` covers partially consumed sibling iteration interleaved with anything) -/
theorem iter_siblings_exact {F : File} {cs : List CU} {T : Nat → DTree} (wf : FileWF F cs) (tw : TreeWF F cs T) {st : State}
    {g : Ghost} (hinv : InvT F cs T g st) {c : CU} (hc : c ∈ cs) {x : DTree × Option DIE}
    (hx : x ∈ ents none (T c.cuOffset)) {n : DTree} {q : Option DIE} (hn : (n, q) ∈ ents none (T c.cuOffset))
    (hp : x.2 = some n.d) (k : Nat) :
    (step F st (.all (.siblings c.cuOffset x.1.d.offset))).1
        = .ok (.list ((sibFilter x.1.d.offset (kidsOut n.kids)).map (·.offset))) ∧
    (step F st (.take (.siblings c.cuOffset x.1.d.offset) k)).1
        = .ok (.list (((sibFilter x.1.d.offset (kidsOut n.kids)).map (·.offset)).take k)) ∧
    (step F st (.siblings c.cuOffset x.1.d.offset)).1 = (step F st (.all (.siblings c.cuOffset x.1.d.offset))).1 := by
  have hk : KindEnum cs T (.siblings c.cuOffset x.1.d.offset) ((sibFilter x.1.d.offset (kidsOut n.kids)).map (·.offset)) :=
    ⟨⟨c, hc, rfl⟩, x, hx, rfl, n, q, hn, hp, rfl⟩
  refine ⟨(step_all_T wf tw hinv hk).1, (step_take_T wf tw hinv hk k).1, ?_⟩
  rw [(step_all_T wf tw hinv hk).1]
  rcases (step_siblings_T wf tw hinv hc hx).1 with ⟨hp', _⟩ | ⟨n', q', hn', hp', _, h1⟩
  · rw [hp] at hp'; cases hp'
  · have := owner_unique (treeWF_tw wf tw hc) hn hn' hp hp'
    subst this
    exact h1

/-- reference following, closed form of the `.debug_pubnames` path: the row of the table and the pure parse at
    the offsets it names (`get_DIE_from_lut_entry` = `get_CU_at(cu_ofs).get_DIE_from_refaddr(die_ofs)`) -/
theorem pubname_exact {F : File} {cs : List CU} (wf : FileWF F cs) {st : State} (hinv : Inv F cs st) {name : String}
    {tbl : List (String × Nat × Nat)} (hp : F.pubnames = some tbl) {c : CU} (hc : c ∈ cs) {sz : Nat}
    (hsz : c.size = .ok sz) {nm : String} {dieo : Nat} (hf : tbl.find? (·.1 == name) = some (nm, c.cuOffset, dieo)) :
    (step F st (.pubname name)).1 = (pureRefaddr F c sz dieo).map (fun d => Ans.list [c.cuOffset, dieo, d.offset]) :=
  (step_pubname wf hinv hp hc hsz hf).1

/-- `get_DIE_from_attribute` and the pubnames lookup only need the cache invariant (no tree hypothesis): two
    states satisfying `Inv` answer alike -/
theorem ref_pubname_state_independent {F : File} {cs : List CU} (wf : FileWF F cs) {st st' : State} (hinv : Inv F cs st)
    (hinv' : Inv F cs st') :
    (∀ cu off name, OpValid F cs (.ref cu off name) → (step F st (.ref cu off name)).1 = (step F st' (.ref cu off name)).1) ∧
    (∀ name, OpValid F cs (.pubname name) → (step F st (.pubname name)).1 = (step F st' (.pubname name)).1) :=
  ⟨fun _ _ _ hv => step_lookup_eq wf hinv hinv' hv trivial, fun _ hv => step_lookup_eq wf hinv hinv' hv trivial⟩

def exCU0 : CU := ⟨.record [("unit_length", .int 6)], 32, 0, 4⟩
def exCU1 : CU := ⟨.record [("unit_length", .int 8)], 32, 10, 14⟩

/-- non-vacuity: two units ([0,10) with DIEs from 4, [10,22) with DIEs from 14); one-byte DIEs, the first of each unit
    has children -/
def exFile : File :=
  { size := 22
    parseCU := fun o => if o = 0 then .ok exCU0 else if o = 10 then .ok exCU1 else .error .elfParseError
    parseDIE := fun cu o =>
      if cu = 0 then (if 4 ≤ o ∧ o < 10 then .ok ⟨o, 1, o == 4, o == 9, none, if o = 4 then some 0 else none, o⟩ else .error .elfParseError)
      else if cu = 10 then (if 14 ≤ o ∧ o < 22 then .ok ⟨o, 1, o == 14, o == 21, none, none, o⟩ else .error .elfParseError)
      else .error .elfParseError
    secNames := ["", ".text", ".debug_info", ".text"]
    symNames := ["", "main", "foo", "main"] }

theorem exFile_wf : FileWF exFile [exCU0, exCU1] where
  cuOff := by
    intro o c h
    simp only [exFile] at h
    split at h
    · injection h with h; subst h; simp [exCU0, *]
    · split at h
      · injection h with h; subst h; simp [exCU1, *]
      · cases h
  chain := by
    refine ⟨by decide, rfl, 10, rfl, by decide, ?_⟩
    refine ⟨by decide, rfl, 12, rfl, by decide, ?_⟩
    rfl
  dieOff := by
    intro cu o d h
    simp only [exFile] at h
    split at h
    · split at h
      · injection h with h; subst h; rfl
      · cases h
    · split at h
      · split at h
        · injection h with h; subst h; rfl
        · cases h
      · cases h
  dieLow := by
    intro c hc o d h
    simp at hc
    rcases hc with rfl | rfl
    · show 4 ≤ o
      by_cases hb : 4 ≤ o
      · exact hb
      · simp [exFile, exCU0, hb] at h
    · show 14 ≤ o
      by_cases hb : 14 ≤ o
      · exact hb
      · simp [exFile, exCU1, hb] at h

/-- after a history with a partially consumed subtree generator, a children walk, a parent search and a seek, the
    lookup of a DIE by offset answers as on a fresh object -/
example :
    (step exFile (run exFile State.init [.itNew (.dies 0), .itNext 0, .children 10 14, .seek 3, .itNext 0, .parent 0 7,
        .cuCont 21, .lp 0 true]) (.die 0 6)).1 = answer exFile (.die 0 6) :=
  answers_independent_of_history_partial exFile_wf _
    (by intro o ho; simp at ho; rcases ho with rfl | rfl | rfl | rfl | rfl | rfl | rfl | rfl <;>
          first | trivial | exact ⟨exCU0, by simp, rfl⟩ | exact ⟨exCU1, by simp, rfl⟩ | (show 21 < 22; decide))
    ⟨exCU0, by simp, rfl⟩ trivial

/-- the trees of `exFile`: in each unit the first entry owns all the others, the last one is the null entry -/
def exLeaf (o : Nat) (null : Bool) : DTree := .mk ⟨o, 1, false, null, none, none, o⟩ []
def exT0 : DTree := .mk ⟨4, 1, true, false, none, some 0, 4⟩ [exLeaf 5 false, exLeaf 6 false, exLeaf 7 false, exLeaf 8 false, exLeaf 9 true]
def exT1 : DTree := .mk ⟨14, 1, true, false, none, none, 14⟩
  [exLeaf 15 false, exLeaf 16 false, exLeaf 17 false, exLeaf 18 false, exLeaf 19 false, exLeaf 20 false, exLeaf 21 true]
def exT (cu : Nat) : DTree := if cu = 0 then exT0 else exT1

theorem exFile_tree : TreeWF exFile [exCU0, exCU1] exT where
  tree := by
    intro c hc
    simp at hc
    rcases hc with rfl | rfl
    · refine ⟨10, 10, rfl, ?_, by decide, ?_⟩
      · simp [exT, exT0, exCU0, exLeaf, Lay, LayK, DTree.d]
      · intro x hx
        simp [exT, exT0, exCU0, exLeaf, ents, entsF] at hx
        rcases hx with rfl | rfl | rfl | rfl | rfl | rfl <;> rfl
    · refine ⟨22, 12, rfl, ?_, by decide, ?_⟩
      · simp [exT, exT1, exCU1, exLeaf, Lay, LayK, DTree.d]
      · intro x hx
        simp [exT, exT1, exCU1, exLeaf, ents, entsF] at hx
        rcases hx with rfl | rfl | rfl | rfl | rfl | rfl | rfl | rfl <;> rfl

def exOps : List Op := [.itNew (.dies 0), .itNext 0, .children 10 14, .seek 3, .itNext 0, .parent 0 7, .cuCont 21,
      .lp 0 true, .itNew (.children 0 4), .itNext 1]

theorem exOps_valid : ∀ o ∈ exOps, OpValidT exFile [exCU0, exCU1] exT o := by
    intro o ho
    simp [exOps] at ho
    rcases ho with rfl | rfl | rfl | rfl | rfl | rfl | rfl | rfl | rfl | rfl
    · exact ⟨_, ⟨exCU0, by simp, rfl⟩, rfl⟩
    · trivial
    · exact ⟨exCU1, by simp, rfl, (exT1, none), by simp [exT, exT1, ents], rfl⟩
    · trivial
    · trivial
    · exact ⟨exCU0, by simp, rfl, (exLeaf 7 false, some exT0.d), by simp [exT, exT0, exLeaf, ents, entsF, DTree.d], rfl⟩
    · show 21 < 22; decide
    · exact ⟨exCU0, by simp, rfl⟩
    · exact ⟨_, ⟨exCU0, by simp, rfl⟩, (exT0, none), by simp [exT, exT0, ents], rfl, rfl⟩
    · trivial

theorem exGhost : (ghost exOps)[1 % (ghost exOps).length]? = some (.children 0 4, 1) := by rfl

theorem exEnum : KindEnum [exCU0, exCU1] exT (.children 0 4) [5, 6, 7, 8] :=
  ⟨⟨exCU0, by simp, rfl⟩, (exT0, none), by simp [exT, exT0, ents], rfl, rfl⟩

/-- after a history with a partially consumed subtree generator, a children walk, a parent search that reaches the
    same entries from another side, a seek and a second (children) generator: parent and full iteration answer as on
    a fresh object, and the second generator, asked once before, now reports the second child -/
example :
    (step exFile (run exFile State.init exOps) (.parent 0 8)).1 = answer exFile (.parent 0 8) ∧
    (step exFile (run exFile State.init exOps) (.all (.dies 0))).1 = answer exFile (.all (.dies 0)) ∧
    (step exFile (run exFile State.init exOps) (.itNext 1)).1 = .ok (.nat 6) := by
  refine ⟨answers_independent_of_history exFile_wf exFile_tree exOps exOps_valid
      ⟨exCU0, by simp, rfl, (exLeaf 8 false, some exT0.d), by simp [exT, exT0, exLeaf, ents, entsF, DTree.d], rfl⟩ trivial,
    answers_independent_of_history exFile_wf exFile_tree exOps exOps_valid ⟨_, ⟨exCU0, by simp, rfl⟩, rfl⟩ trivial, ?_⟩
  obtain ⟨l, h1, h2⟩ := step_itNext_T exFile_wf exFile_tree (invT_run exFile_wf exFile_tree exOps exOps_valid) 1 exGhost
  rw [h2, kindEnum_unique exFile_wf exFile_tree h1 exEnum]
  rfl

/-- `exFile` with reference attributes (a unit-relative one, a `DW_FORM_ref_addr` into the other unit) and a
    `.debug_pubnames` table -/
def exFile2 : File :=
  { exFile with
    refAttr := fun cu o name =>
      if cu = 0 ∧ o = 5 ∧ name = "DW_AT_type" then some (false, 7)
      else if cu = 10 ∧ o = 15 ∧ name = "DW_AT_type" then some (true, 6) else none
    pubnames := some [("pn5", 0, 5), ("pn16", 10, 16)] }

theorem exFile2_wf : FileWF exFile2 [exCU0, exCU1] :=
  { cuOff := exFile_wf.cuOff, chain := exFile_wf.chain, dieOff := exFile_wf.dieOff, dieLow := exFile_wf.dieLow }

theorem exFile2_tree : TreeWF exFile2 [exCU0, exCU1] exT := { tree := exFile_tree.tree }

def exOps2 : List Op := [.itNew (.siblings 0 6), .itNext 0, .ref 10 15 "DW_AT_type", .seek 3, .children 0 4,
      .pubname "pn16", .itNext 0, .ref 0 5 "DW_AT_type", .itNew (.dies 10), .itNext 1]

theorem exOps2_valid : ∀ o ∈ exOps2, OpValidT exFile2 [exCU0, exCU1] exT o := by
    intro o ho
    simp [exOps2] at ho
    rcases ho with rfl | rfl | rfl | rfl | rfl | rfl | rfl | rfl | rfl | rfl
    · exact ⟨_, ⟨exCU0, by simp, rfl⟩, (exLeaf 6 false, some exT0.d), by simp [exT, exT0, exLeaf, ents, entsF, DTree.d], rfl,
        exT0, none, by simp [exT, exT0, ents], rfl, rfl⟩
    · trivial
    · refine ⟨⟨exCU1, by simp, rfl⟩, ?_⟩
      intro o raw h
      simp only [exFile2] at h
      split at h
      · cases h
      · split at h
        · injection h with h; injection h with _ h; subst h; show 6 < 22; decide
        · cases h
    · trivial
    · exact ⟨exCU0, by simp, rfl, (exT0, none), by simp [exT, exT0, ents], rfl⟩
    · intro tbl e hp hf
      simp only [exFile2] at hp
      injection hp with hp; subst hp
      simp [List.find?] at hf
      subst hf
      exact ⟨exCU1, by simp, rfl⟩
    · trivial
    · refine ⟨⟨exCU0, by simp, rfl⟩, ?_⟩
      intro o raw h
      simp only [exFile2] at h
      split at h
      · cases h
      · split at h
        · rename_i h1 h2; exact absurd h2.1 (by decide)
        · cases h
    · exact ⟨_, ⟨exCU1, by simp, rfl⟩, rfl⟩
    · trivial

theorem exGhost2 : (ghost exOps2)[0 % (ghost exOps2).length]? = some (.siblings 0 6, 2) := by rfl

theorem exEnum2 : KindEnum [exCU0, exCU1] exT (.siblings 0 6) [5, 7, 8] :=
  ⟨⟨exCU0, by simp, rfl⟩, (exLeaf 6 false, some exT0.d), by simp [exT, exT0, exLeaf, ents, entsF, DTree.d], rfl,
    exT0, none, by simp [exT, exT0, ents], rfl, rfl⟩

/-- after a history with a partially consumed SIBLING generator, reference following inside a unit and across units
    (`DW_FORM_ref_addr`), a pubnames lookup, a children walk, a seek and a second generator: reference following and
    the pubnames lookup answer as on a fresh object, and the sibling generator of the entry at 6, asked twice before
    (5, 7), now reports the third sibling -/
example :
    (step exFile2 (run exFile2 State.init exOps2) (.ref 10 15 "DW_AT_type")).1 = answer exFile2 (.ref 10 15 "DW_AT_type") ∧
    (step exFile2 (run exFile2 State.init exOps2) (.pubname "pn5")).1 = answer exFile2 (.pubname "pn5") ∧
    (step exFile2 (run exFile2 State.init exOps2) (.itNext 0)).1 = .ok (.nat 8) := by
  refine ⟨answers_independent_of_history exFile2_wf exFile2_tree exOps2 exOps2_valid (exOps2_valid _ (by simp [exOps2])) trivial,
    answers_independent_of_history exFile2_wf exFile2_tree exOps2 exOps2_valid ?_ trivial, ?_⟩
  · intro tbl e hp hf
    simp only [exFile2] at hp
    injection hp with hp; subst hp
    simp [List.find?] at hf
    subst hf
    exact ⟨exCU0, by simp, rfl⟩
  · obtain ⟨l, h1, h2⟩ := step_itNext_T exFile2_wf exFile2_tree (invT_run exFile2_wf exFile2_tree exOps2 exOps2_valid) 0 exGhost2
    rw [h2, kindEnum_unique exFile2_wf exFile2_tree h1 exEnum2]
    rfl

/-! The cache layer (`Model/HistoryCaches.lean`): `xstep X xs op` runs the base step on the `File` whose DIE
  constructor uses what `cu.get_abbrev_table()` returns IN STATE `xs` (`fileOf X xs`), and adds the abbreviation-table
  caches, `_linetable_cache` with its `LineProgram` objects and `CallFrameInfo` objects as state.  `XWF X cs T`: `FileWF`
  and `TreeWF` of the stateless file `pureFile X`; `LPWF` (this excludes exactly the known finding
  lineprogram-define-file-header); `CfiWF`; the reference enumeration of each CFI section does not run out of the
  model's fuel.  `XInvT`: `InvT` of the base, every cached table / line program / CFI entry is the pure parse at its key. -/

theorem xinv_initial (X : XFile) (cs : List CU) (T : Nat → DTree) : XInvT X cs T [] XState.init := xinvT_init X cs T

theorem xinv_step {X : XFile} {cs : List CU} {T : Nat → DTree} (w : XWF X cs T) {xs : XState} {g : Ghost}
    (hinv : XInvT X cs T g xs) {op : XOp} (hv : XOpValid X cs T op) :
    XInvT X cs T (xghostStep g op) (xstep X xs op).2 := xstep_invT w hinv hv

theorem xinv_run {X : XFile} {cs : List CU} {T : Nat → DTree} (w : XWF X cs T) (ops : List XOp)
    (hv : ∀ op ∈ ops, XOpValid X cs T op) : XInvT X cs T (xghost ops) (xrun X XState.init ops) :=
  xrun_invT w ops _ [] (xinvT_init X cs T) hv

/-- in every state satisfying the invariant the `File` the base machine runs on (DIE constructor fed with what
    `cu.get_abbrev_table()` returns now — memo, shared cache entry or a new parse) is the stateless file: this
    discharges, for the abbreviation tables, the base model's assumption that `DIE(cu, stream, offset)` is pure -/
theorem die_parse_independent_of_abbrev_caches {X : XFile} {cs : List CU} {T : Nat → DTree} {xs : XState} {g : Ghost}
    (hinv : XInvT X cs T g xs) : fileOf X xs = pureFile X := fileOf_eq hinv.ab

/-- `XInvT s → (xstep s op).1 = xanswer file op` for every query of the layer: the base queries (`Query`),
    `get_abbrev_table` on a unit and on the DWARFInfo, `line_program_for_CU` with header and decoded entries,
    `CFI_entries()` / `EH_CFI_entries()` and `get_entries()` on a `CallFrameInfo` that is kept -/
theorem xanswer_refines {X : XFile} {cs : List CU} {T : Nat → DTree} (w : XWF X cs T) {xs : XState} {g : Ghost}
    (hinv : XInvT X cs T g xs) {op : XOp} (hv : XOpValid X cs T op) (hq : XQuery op) :
    (xstep X xs op).1 = xanswer X op :=
  xstep_answer_eq w hinv (xinvT_init X cs T) hv hq

theorem xanswers_independent_of_history {X : XFile} {cs : List CU} {T : Nat → DTree} (w : XWF X cs T) (ops : List XOp)
    (hops : ∀ o ∈ ops, XOpValid X cs T o) {op : XOp} (hv : XOpValid X cs T op) (hq : XQuery op) :
    (xstep X (xrun X XState.init ops) op).1 = xanswer X op :=
  xanswer_refines w (xinv_run w ops hops) hv hq

theorem xrepeated_query_equal {X : XFile} {cs : List CU} {T : Nat → DTree} (w : XWF X cs T) {xs : XState} {g : Ghost}
    (hinv : XInvT X cs T g xs) {op : XOp} (hv : XOpValid X cs T op) (hq : XQuery op) :
    (xstep X (xstep X xs op).2 op).1 = (xstep X xs op).1 :=
  xstep_answer_eq w (xstep_invT w hinv hv) hinv hv hq

/-- `cu.get_abbrev_table()` / `dwarfinfo.get_abbrev_table(off)`: the pure parse at the offset, in every state; hence
    two units with the same `debug_abbrev_offset` get the same table whichever asked first and whatever was cached -/
theorem abbrev_table_exact {X : XFile} {cs : List CU} {T : Nat → DTree} (w : XWF X cs T) {xs : XState} {g : Ghost}
    (hinv : XInvT X cs T g xs) :
    (∀ c ∈ cs, (xstep X xs (.abbrevCU c.cuOffset)).1 = (pureTable X c.cuOffset).map XAns.tbl) ∧
    (∀ off, (xstep X xs (.abbrevAt off)).1
        = (if off < X.abbrevSize then X.parseAbbrev off else .error .dwarfError).map XAns.tbl) :=
  ⟨fun _ hc => (xstep_abbrevCU w hinv hc).1, fun off => (xstep_abbrevAt hinv off).1⟩

theorem abbrev_table_shared {X : XFile} {cs : List CU} {T : Nat → DTree} (w : XWF X cs T) {xs xs' : XState} {g g' : Ghost}
    (hinv : XInvT X cs T g xs) (hinv' : XInvT X cs T g' xs') {c c' : CU} (hc : c ∈ cs) (hc' : c' ∈ cs)
    (h : X.abbrevOff c.cuOffset = X.abbrevOff c'.cuOffset) :
    (xstep X xs (.abbrevCU c.cuOffset)).1 = (xstep X xs' (.abbrevCU c'.cuOffset)).1 := by
  rw [(xstep_abbrevCU w hinv hc).1, (xstep_abbrevCU w hinv' hc').1]
  unfold pureTable
  rw [h]

/-- `line_program_for_CU`: offset, header and (on request) decoded entries are the fresh parse / decoding at the
    unit's `DW_AT_stmt_list`, whether the `LineProgram` object is new, cached by this or another unit, decoded or not -/
theorem line_program_exact {X : XFile} {cs : List CU} {T : Nat → DTree} (w : XWF X cs T) {xs : XState} {g : Ghost}
    (hinv : XInvT X cs T g xs) {c : CU} (hc : c ∈ cs) (decode : Bool) :
    (xstep X xs (.lp c.cuOffset decode)).1
        = (match topStmt X c with
            | .error e => .error e
            | .ok none => .ok .none
            | .ok (some o) => pureLP X (X.lpKey c.cuOffset) o decode) :=
  (xstep_lp w hinv hc decode).1

/-- THE CFI ENTRY CACHE.  `_parse_entry_at(off)` in ANY state of `_entry_cache` that holds reference entries —
    empty, partly filled by forward CIE pointers, or left behind by a `get_entries()` that raised — returns the
    cache-free reference entry (an FDE carries the reference entry at the offset its CIE pointer designates, so all
    FDEs designating one CIE share it), leaves the stream right behind the entry, and keeps the cache property. -/
theorem cfi_entry_cache_exact {X : XFile} {eh : Bool} (wf : CfiWF X eh) (f : Nat) (off : Int) (cache : CCache)
    (hc : CInv X eh cache) (hr : pureEnt X eh f off ≠ .error .outOfFuel) :
    (centAt X eh f off cache).1 = (pureEnt X eh f off).map (fun e => (e, off.toNat + e.len)) ∧
      CInv X eh (centAt X eh f off cache).2 :=
  centAt_spec wf f off cache _ hc rfl hr

/-- … and the ENTRY part needs no well-formedness at all: for arbitrary section contents, a cache hit returns what a
    miss would build (`CfiWF` only enters where the next entry is looked for) -/
theorem cfi_cache_hit_eq_miss {X : XFile} {eh : Bool} (f : Nat) (off : Int) (cache : CCache) (hc : CInv X eh cache)
    (hr : pureEnt X eh f off ≠ .error .outOfFuel) :
    (centAt X eh f off cache).1.map (·.1) = pureEnt X eh f off ∧ CInv X eh (centAt X eh f off cache).2 :=
  centAt_ent f off cache _ hc rfl hr

/-- `get_entries()` on a `CallFrameInfo` in every state (fresh, answered before, after attempts that raised), and
    `CFI_entries()` / `EH_CFI_entries()` (a new object per call): the reference list of the section -/
theorem cfi_entries_exact {X : XFile} {cs : List CU} {T : Nat → DTree} (w : XWF X cs T) {xs : XState} {g : Ghost}
    (hinv : XInvT X cs T g xs) (eh : Bool) :
    (xstep X xs (.cfi eh)).1 = (pureAll X eh).map XAns.cfi ∧ (xstep X xs (.cfiObj eh)).1 = (pureAll X eh).map XAns.cfi :=
  xstep_cfi w hinv eh

theorem cfi_object_exact {X : XFile} {eh : Bool} (wf : CfiWF X eh) (hfuel : pureAll X eh ≠ .error .outOfFuel) {o : CfiObj}
    (ho : CObjInv X eh o) : (cfiGetEntries X eh o).1 = pureAll X eh ∧ CObjInv X eh (cfiGetEntries X eh o).2 :=
  cfiGetEntries_spec wf hfuel ho

/-- FDE → CIE sharing: the CIE object of an FDE is the reference entry at the designated offset -/
theorem cfi_fde_cie_shared {X : XFile} {eh : Bool} {f : Nat} {off : Int} {s p : Nat} {c : CEnt}
    (h : pureEnt X eh f off = .ok (.fde off s p c)) :
    ∃ ptr f', X.cfiHead eh off = .ok (.fde ptr) ∧ pureEnt X eh f' ptr = .ok c := by
  cases f with
  | zero => rw [pureEnt] at h; cases h
  | succ f =>
    rw [pureEnt] at h
    cases hh : X.cfiHead eh off with
    | error e => simp only [hh] at h; cases h
    | ok hd =>
      cases hd with
      | zero p' => simp only [hh] at h; cases h
      | cie raw => simp only [hh] at h; cases h
      | fde ptr =>
        simp only [hh] at h
        cases h1 : pureEnt X eh f ptr with
        | error e1 => rw [h1] at h; cases h
        | ok c' =>
          rw [h1] at h
          simp only at h
          cases hb : X.cfiFde eh off (if eh then c'.tag else 0) c'.tag with
          | error e2 => rw [hb] at h; cases h
          | ok raw =>
            rw [hb] at h
            simp only at h
            injection h with h
            injection h with _ _ _ h4
            subst h4
            exact ⟨ptr, f, rfl, h1⟩

/-- non-vacuity of the cache layer: `exFile2` with one abbreviation table shared by both units, a line program behind
    the first unit's top DIE, and a CFI section whose FDE (at 0) points FORWARD to its CIE (at 8), so that
    `_parse_entries` meets the CIE in the cache -/
def exX : XFile :=
  { skel := exFile2
    ctor := fun cu off tbl => match tbl with | .ok 7 => exFile2.parseDIE cu off | .ok _ => .error .assertion | .error e => .error e
    abbrevOff := fun _ => 0
    abbrevSize := 10
    parseAbbrev := fun o => if o = 0 then .ok 7 else .error .elfParseError
    lpKey := fun _ => 0
    lpParse := fun _ o => if o = 0 then .ok 100 else .error .elfParseError
    lpDecode := fun _ o => if o = 0 then .ok (200, 100) else .error .elfParseError
    cfiSize := fun _ => 20
    cfiHead := fun _ off => if off = 0 then .ok (.fde 8) else if off = 8 then .ok (.cie ⟨12, 20, 1⟩) else .error .elfParseError
    cfiFde := fun _ off _ _ => if off = 0 then .ok ⟨8, 8, 2⟩ else .error .elfParseError }

theorem exX_pure : pureFile exX = exFile2 := rfl

theorem exX_cfi (eh : Bool) : pureAll exX eh = .ok [.fde 0 8 2 (.cie 8 12 1), .cie 8 12 1] := by
  cases eh <;> rfl

theorem exX_wf : XWF exX [exCU0, exCU1] exT where
  file := exFile2_wf
  tree := exFile2_tree
  lp := {
    share := fun _ _ _ _ _ _ _ => rfl
    stable := by
      intro k o h e h' h1 h2
      simp only [exX] at h1 h2
      split at h1
      · simp only [*, if_true] at h2
        injection h1 with h1; injection h2 with h2; injection h2 with _ h2
        rw [← h1, ← h2]
      · cases h1 }
  cfi := fun eh => {
    zero := by
      intro off p h
      simp only [exX] at h
      split at h
      · cases h
      · split at h <;> cases h
    cie := by
      intro off raw h
      simp only [exX] at h
      split at h
      · cases h
      · split at h
        · rename_i h8
          injection h with h; injection h with h
          subst h h8; rfl
        · cases h
    fde := by
      intro off t1 t2 raw h
      simp only [exX] at h
      split at h
      · rename_i h0
        injection h with h
        subst h h0; rfl
      · cases h }
  cfiFuel := fun eh => by rw [exX_cfi]; simp

def exXOps : List XOp := [.cfiObj false, .base (.itNew (.siblings 0 6)), .abbrevAt 0, .lp 0 false, .base (.itNext 0),
  .base (.ref 10 15 "DW_AT_type"), .lp 0 true, .cfi true, .abbrevCU 10, .base (.seek 3), .base (.children 0 4)]

theorem exXOps_valid : ∀ o ∈ exXOps, XOpValid exX [exCU0, exCU1] exT o := by
  intro o ho
  simp [exXOps] at ho
  rcases ho with rfl | rfl | rfl | rfl | rfl | rfl | rfl | rfl | rfl | rfl | rfl
  · trivial
  · exact exOps2_valid (.itNew (.siblings 0 6)) (by simp [exOps2])
  · trivial
  · exact ⟨exCU0, by simp, rfl⟩
  · exact exOps2_valid (.itNext 0) (by simp [exOps2])
  · exact exOps2_valid (.ref 10 15 "DW_AT_type") (by simp [exOps2])
  · exact ⟨exCU0, by simp, rfl⟩
  · trivial
  · exact ⟨exCU1, by simp, rfl⟩
  · exact exOps2_valid (.seek 3) (by simp [exOps2])
  · exact exOps2_valid (.children 0 4) (by simp [exOps2])

/-- after a history that fills every cache (a kept `CallFrameInfo`, the shared abbreviation table through a DIE parse
    and through direct lookups, the line program first by its header and then decoded) interleaved with a partially
    consumed sibling generator, reference following, a seek and a children walk: the line program (header and entries),
    the other unit's abbreviation table, the kept CFI object and a DIE lookup answer as on a fresh object — with the
    values the pure side prescribes -/
example :
    (xstep exX (xrun exX XState.init exXOps) (.lp 0 true)).1 = xanswer exX (.lp 0 true) ∧
    (xstep exX (xrun exX XState.init exXOps) (.lp 0 true)).1 = .ok (.lp 0 100 (some 200)) ∧
    (xstep exX (xrun exX XState.init exXOps) (.abbrevCU 0)).1 = .ok (.tbl 7) ∧
    (xstep exX (xrun exX XState.init exXOps) (.cfiObj false)).1
      = .ok (.cfi [.fde 0 8 2 (.cie 8 12 1), .cie 8 12 1]) ∧
    (xstep exX (xrun exX XState.init exXOps) (.base (.die 10 16))).1 = xanswer exX (.base (.die 10 16)) := by
  have hinv := xinv_run exX_wf exXOps exXOps_valid
  refine ⟨xanswers_independent_of_history exX_wf exXOps exXOps_valid ⟨exCU0, by simp, rfl⟩ trivial, ?_, ?_, ?_,
    xanswers_independent_of_history exX_wf exXOps exXOps_valid (show OpValidT exFile2 [exCU0, exCU1] exT (.die 10 16) from ⟨exCU1, by simp, rfl⟩) trivial⟩
  · exact (line_program_exact exX_wf hinv (c := exCU0) (by simp) true).trans rfl
  · exact ((abbrev_table_exact exX_wf hinv).1 exCU0 (by simp)).trans rfl
  · rw [(cfi_entries_exact exX_wf hinv false).2, exX_cfi]; rfl

/-! Caches built by ONE complete scan on first use: `None` until a scan has COMPLETED, then the finished map; a scan
  that raises publishes nothing.  `Model/SigCache` is that machine, generic in the scan, the query type and the lookup.
  The instances are in the Props files of the properties that own the cached object: C04 (`_type_units_by_sig`), C08
  (`Model/RelrCache`), C09 (`Model/DynCache`), C15 (`Model/VerCache`), C03 (`Model/SymCache`). -/

/-- every reachable state of such a cache is `None` or the completed scan's map -/
theorem lazy_cache_inv {M Q A : Type} (scan : M × Option Err) (look : M → Q → R A) (qs : List Q) :
    Model.SigCache.Inv scan (Model.SigCache.run scan look Model.SigCache.St.init qs).2 :=
  (Proofs.SigCache.run_answers scan look qs _ (Proofs.SigCache.inv_init scan)).2

/-- after ANY history of queries — repeated, failing, absent keys — every answer is the freshly opened object's -/
theorem lazy_cache_answers_independent_of_history {M Q A : Type} (scan : M × Option Err) (look : M → Q → R A)
    (qs : List Q) :
    (Model.SigCache.run scan look Model.SigCache.St.init qs).1 = qs.map (Model.SigCache.stateless scan look) :=
  Proofs.SigCache.history_independent scan look _ (fun _ => rfl) qs

/-- a failed scan leaves no trace: after a history in which every scan raised the state is still the initial one, so
    nothing half-built can ever be observed (half-built type-unit / name maps were the defect of pyelftools that fix
    ccfe17f in /repo repairs) -/
theorem lazy_cache_failed_scan_publishes_nothing {M Q A : Type} (scan : M × Option Err) (look : M → Q → R A) (e : Err)
    (he : scan.2 = some e) (qs : List Q) :
    (Model.SigCache.run scan look Model.SigCache.St.init qs).2.map.isSome = false := by
  rw [Proofs.SigCache.run_published, he]
  simp

/-- non-vacuity: a two-entry map, a history with a repeated key and an absent key -/
example : (Model.SigCache.run (([(1, 10), (2, 20)] : List (Int × Nat)), (none : Option Err))
      (fun m (q : Int) => match m.lookup q with | some v => (.ok v : R Nat) | none => .error .keyError)
      Model.SigCache.St.init [2, 7, 2]).1 = [.ok 20, .error .keyError, .ok 20] := by rfl

end PyElf.Props.C10
