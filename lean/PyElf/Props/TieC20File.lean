/-
  C20 tie for the whole-file theorems: the factories the DRIVER runs the file-level model with
  (`Model.elfStructsFor`, `Model.machineClassOf`, `Model.ehabiStructsFor`: look-ups in the bundles and
  the table regenerated from the library on this run) behave on every byte string exactly as the
  standards-side ones the theorems are stated with, and the regenerated enum tables name the three
  processor-specific section types as the psABIs do.
-/
import PyElf.Model.Env
import PyElf.Model.AttrFile
import PyElf.Proofs.EhabiFile
import PyElf.Props.TieC20
import PyElf.Props.TieElfFile
namespace PyElf.Props.TieC20File
open PyElf PyElf.Spec PyElf.Model PyElf.Model.C20 PyElf.Proofs PyElf.Proofs.C20

/-- SHT_ARM_ATTRIBUTES / SHT_RISCV_ATTRIBUTES = 0x70000003, SHT_ARM_EXIDX = 0x70000001 in the
    regenerated tables of the respective machine -/
theorem elfEnv_c20 : EnvC20 Model.elfEnv where
  armAttr := by rfl
  riscvAttr := by rfl
  armExidx := by rfl

theorem ehabiStructsFor_eq : Model.ehabiStructsFor = specEH := by
  funext le
  unfold Model.ehabiStructsFor specEH
  rw [TieC20.ehabi_bundles]
  cases le <;> rfl

theorem fileAttrSection_generated (env : Env) (data : Bytes) (i : Nat) :
    fileAttrSection env Model.elfStructsFor Model.machineClassOf data i = fileAttrSection env specSF specMC data i := by
  unfold fileAttrSection
  rw [TieElfFile.openElf_generated]

theorem fileAttrSectionByName_generated (env : Env) (data name : Bytes) :
    fileAttrSectionByName env Model.elfStructsFor Model.machineClassOf data name
      = fileAttrSectionByName env specSF specMC data name := by
  unfold fileAttrSectionByName
  rw [TieElfFile.openElf_generated]

theorem fileEhabiInfo_generated (env : Env) (data : Bytes) (i : Nat) :
    fileEhabiInfo env Model.elfStructsFor Model.machineClassOf Model.ehabiStructsFor data i
      = fileEhabiInfo env specSF specMC specEH data i := by
  unfold fileEhabiInfo
  rw [TieElfFile.openElf_generated, ehabiStructsFor_eq]

theorem fileEhabiEntry_generated (env : Env) (data : Bytes) (i n : Nat) :
    fileEhabiEntry env Model.elfStructsFor Model.machineClassOf Model.ehabiStructsFor data i n
      = fileEhabiEntry env specSF specMC specEH data i n := by
  unfold fileEhabiEntry
  rw [fileEhabiInfo_generated]

theorem fileEhabiNumEntry_generated (env : Env) (data : Bytes) (i : Nat) :
    fileEhabiNumEntry env Model.elfStructsFor Model.machineClassOf Model.ehabiStructsFor data i
      = fileEhabiNumEntry env specSF specMC specEH data i := by
  unfold fileEhabiNumEntry
  rw [fileEhabiInfo_generated]

theorem fileEhabiInfosEntry_generated (env : Env) (data : Bytes) (k n : Nat) :
    fileEhabiInfosEntry env Model.elfStructsFor Model.machineClassOf Model.ehabiStructsFor data k n
      = fileEhabiInfosEntry env specSF specMC specEH data k n := by
  unfold fileEhabiInfosEntry fileEhabiInfos
  rw [TieElfFile.openElf_generated, ehabiStructsFor_eq]

end PyElf.Props.TieC20File
